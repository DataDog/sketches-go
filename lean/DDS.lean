import DDS.Props.All
import DDS.Props.Lift
import DDS.Props.Lift2
import DDS.Props.C12x
import DDS.Props.Lift3
import DDS.Props.NonVacuity
import DDS.Driver
import DDS.Proofs.GenEncoding
import DDS.Proofs.GenStat
import DDS.Proofs.GenBits
import DDS.Proofs.GenMapping
import DDS.Props.C03Gen
import DDS.Props.C10Gen
import DDS.Proofs.GenSketch2
import DDS.Props.GenSketchProps
import DDS.Proofs.GenDataset
import DDS.Props.C20Gen
import DDS.Proofs.GenDenseBase
import DDS.Proofs.GenDense
import DDS.Props.C04Gen
import DDS.Proofs.GenCollapsingLow
import DDS.Props.C05GenLow
import DDS.Proofs.GenMapId
import DDS.Props.C19Gen
import DDS.Proofs.GenSketch3
import DDS.Proofs.GenCollapsingHigh
import DDS.Props.C05GenHigh
import DDS.Proofs.GenDenseEncode
import DDS.Props.C06Gen
import DDS.Proofs.GenSketch4
import DDS.Props.C06GenSketch
import DDS.Proofs.GenStoreDecode
import DDS.Props.C07Gen
import DDS.Proofs.GenSparse
import DDS.Props.C04GenSparse
import DDS.Proofs.ChangeMapping
import DDS.Proofs.GenSketch6
import DDS.Props.C17Gen
import DDS.Proofs.GenSketch5
import DDS.Props.C08GenSketch
import DDS.Proofs.GenPaginated
import DDS.Props.C04GenPag
import DDS.Props.C06GenPag
import DDS.Proofs.GenSketchRun
import DDS.Proofs.GenPagSketch
import DDS.Proofs.GenPagSim
import DDS.Props.C01GenSim
import DDS.Props.C01GenPag
import DDS.Proofs.GenPagSketch2
import DDS.Props.C02GenPag
import DDS.Proofs.GenStoreSim
import DDS.Proofs.GenDenseSketch
import DDS.Props.C05GenSketch
import DDS.Proofs.GenForEach
import DDS.Proofs.GenSketch7
import DDS.Props.C12GenIter
import DDS.Proofs.GenDecodeWrap
import DDS.Proofs.GenF64LE
import DDS.Proofs.GenProtoStore
import DDS.Props.C09GenStore
import DDS.Proofs.GenProtoSketch
import DDS.Props.C19GenProto
import DDS.Proofs.GenSparseSketch
import DDS.Props.C01GenSparse
import DDS.Proofs.GenPagSketch3
import DDS.Props.C06GenSketchPag
import DDS.Props.NonVacuityGen
import DDS.Proofs.GenStoreSimX
import DDS.Props.C10GenStores
import DDS.Proofs.GenPagSketch4
import DDS.Props.C06GenRoundTrip
import DDS.Proofs.GenPagSketch5
import DDS.Proofs.GenPagSketch6
