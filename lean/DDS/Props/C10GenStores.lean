/-
  DDS.Props.C10GenStores — property C10 ("the summary statistics of `DDSketchWithExactSummaryStatistics` are exact
  whenever the float operations are; quantile answers are the plain sketch's, clamped into `[min, max]`") for the
  exact variant ENTIRELY ON REGENERATED CODE: the regenerated sketch (`DDS/Generated/CodeSketch.lean`), the
  regenerated `SummaryStatistics` (`CodeStat.lean`) and a REGENERATED STORE — buffered-paginated (every growth
  policy), dense, lowest/highest-collapsing, sparse (every lawful iteration order).  The mapping stays the model's
  oracle `MapEnv`, as in `C01GenPag`.

  The argument is written once, for any `T : StoreSim S Store` (`c10_transport`), by the chain
    regenerated store  --`GenStoreSim.xrunAdds_paramG` / `x…_paramG`-->  regenerated sketch over MODEL stores
      --`model_xrunAdds` (from `GenSketch.XAddWithCount_rel_nonzero`)-->  model `XSketch` (`xaddAll`)
      --`C10.xsketch_add_accepted`, `C10.fold_exact_eq`, `C10.fold_exact`-->  exact statistics,
  and the observers come back through `GenSketch.XGetCount_eq`, `XGetSum_eq`, `XGetValueAtQuantile_rel`.

  What is TRANSPORTED (model theorem  ↦  conjunct of `C10Holds`):
    * `C10.fold_exact` (count, `Sum()`, min, max fields)      ↦  `GetCount = Σ w`, `GetSum = Σ v·w`,
        `GetMinValue` / `GetMaxValue` = `minOf` / `maxOf` (guarded by the emptiness test of the embedded sketch,
        which is the model sketch's `isEmpty`);  `C10.min_is_least` / `max_is_greatest` then apply verbatim to
        `minOf lr` / `maxOf lr` (`c10_min_is_least`, `c10_max_is_greatest`);
    * `GenSketch.XGetValueAtQuantile_rel`                      ↦  `QRel (x.quantile env q) (GetValueAtQuantile … q)`;
    * `C10.xsketch_quantile_clamped` + `C10.exact_stats_ordered` ↦  every answered quantile lies in `[minOf, maxOf]`;
    * `C10.xsketch_quantile_error`                              ↦  a refusal of the plain model sketch is the Go
        refusal `(NaN, err)`;
    * `C10.xsketch_quantile_eq_plain` / "the plain sketch's answer clamped": stated on regenerated code alone,
        against the PLAIN regenerated sketch over the same regenerated stores and the same history
        (`GenSketch.XGetValueAtQuantile_eq`, `GenStoreSim.xrunAdds_sk`).
  Admissible history: `(value, weight)` pairs of rationals, weights `≠ 0`, `RepOK` (C10's exactness hypothesis),
  routed indexes admissible for the simulation (int32 for the paginated store, nothing for dense, int64 for
  sparse), and accepted by the model (`xaddAll … = some x`: no call refused, none outside the model).

  Independent of any simulation (ANY mapping, ANY store): `xhistory_stats_exact` — if every call of the history
  returned nil, the statistics ARE `genExactOf lr` (from `GenStoreSim.xrunAdds_stats` and
  `C10Gen.gen_fold_exact_eq`): the statistics never read the stores.

  Zero weights are excluded (the exact variant skips them, and `GenSketch.exact_addWithCount_zero_discrepancy`
  shows model and Go differ on the zero count of the embedded sketch for a non-float64 zero count).
-/
import DDS.Proofs.GenStoreSimX
import DDS.Proofs.GenPagSim
import DDS.Proofs.GenDenseSketch
import DDS.Proofs.GenSparseSketch
import DDS.Props.C10Gen

namespace DDS.Props.C10GenStores

open DDS DDS.GoSem DDS.Gen.Sketch DDS.Gen.Stat DDS.GenSketch DDS.GenStoreSim DDS.Summary
open DDS.GenPagSketch (runAdds Routed32 GPS)

/-! ### a rational history as `float64` calls -/

def fins (lr : List (Rat × Rat)) : List (F64 × F64) := lr.map (fun p => (F64.fin p.1, F64.fin p.2))

theorem addAllF_fins (s : Summary) (lr : List (Rat × Rat)) : addAllF s (fins lr) = addAll s lr := by
  unfold addAllF addAll fins
  rw [List.foldl_map]

theorem genAddAllF_fins (s : SummaryStatistics) (lr : List (Rat × Rat)) :
    GenStat.genAddAllF s (fins lr) = GenStat.genAddAll s lr := by
  unfold GenStat.genAddAllF GenStat.genAddAll fins
  rw [List.foldl_map]

theorem fins_nonzero (lr : List (Rat × Rat)) (hnz : ∀ p ∈ lr, p.2 ≠ 0) :
    ∀ q ∈ fins lr, F64.eq q.2 (.fin 0) = false := by
  intro q hq
  obtain ⟨p, hp, rfl⟩ := List.mem_map.1 hq
  exact beq_eq_false_iff_ne.2 (hnz p hp)

/-! ### independent of the stores: the statistics of an accepted history -/

/-- ANY mapping, ANY store implementation: if every `AddWithCount` of the history returned nil, the statistics of
    the exact variant are THE exact summary of the history -/
theorem xhistory_stats_exact {M S : Type} [MapI M] [StoreI S] [Inhabited M] [Inhabited S]
    (g : DDSketchWithExactSummaryStatistics M S) (hg : g.summaryStatistics = NewSummaryStatistics)
    (lr : List (Rat × Rat)) (hrep : RepOK lr) (hnz : ∀ p ∈ lr, p.2 ≠ 0)
    (herr : (xrunAdds g (fins lr)).2 = List.replicate (fins lr).length GoErr.nil) :
    (xrunAdds g (fins lr)).1.summaryStatistics = C10Gen.genExactOf lr := by
  rw [xrunAdds_stats, herr, xabsorbed_all _ (fins_nonzero lr hnz), hg, genAddAllF_fins]
  exact C10Gen.gen_fold_exact_eq lr hrep

/-! ### the model's history, and the regenerated code over MODEL stores -/

/-- the model's history of `AddWithCount` calls on the exact variant (index as the Go code computes it): `none`
    as soon as a call is refused or leaves the model -/
def xaddAll (env : MapEnv) : XSketch → List (F64 × F64) → Option XSketch
  | x, [] => some x
  | x, (v, c) :: rest =>
    match x.addWithCount env v c (goIdx env v) with
    | some (.ok x') => xaddAll env x' rest
    | _ => none

/-- on the model-store instance the regenerated exact variant runs the model's history; the model's statistics
    are the fold of `Summary.add` -/
theorem model_xrunAdds (env : MapEnv) (l : List (F64 × F64)) (hnz : ∀ p ∈ l, F64.eq p.2 (.fin 0) = false) :
    ∀ (x0 x : XSketch), xaddAll env x0 l = some x →
      xrunAdds (toGenX env x0) l = (toGenX env x, List.replicate l.length GoErr.nil) ∧
        x.st = addAllF x0.st l := by
  induction l with
  | nil => exact fun x0 x h => Option.some.inj h ▸ ⟨rfl, rfl⟩
  | cons p rest ih =>
    intro x0 x h
    obtain ⟨v, c⟩ := p
    rw [List.forall_mem_cons] at hnz
    have hrel := XAddWithCount_rel_nonzero env x0 v c hnz.1
    unfold xaddAll at h
    split at h
    · rename_i x1 hstep
      obtain ⟨h2, h3⟩ := ih hnz.2 x1 x h
      have h1 : DDSketchWithExactSummaryStatistics.AddWithCount (toGenX env x0) v c =
          (toGenX env x1, GoErr.nil) := hrel.ok hstep
      refine ⟨?_, h3.trans (congrArg (addAllF · rest) (C10.xsketch_add_accepted env x0 x1 v c _ hnz.1 hstep))⟩
      show ((xrunAdds (DDSketchWithExactSummaryStatistics.AddWithCount (toGenX env x0) v c).1 rest).1,
        (DDSketchWithExactSummaryStatistics.AddWithCount (toGenX env x0) v c).2 ::
          (xrunAdds (DDSketchWithExactSummaryStatistics.AddWithCount (toGenX env x0) v c).1 rest).2) = _
      rw [h1, h2]
      rfl
    · cases h

theorem newX_model (env : MapEnv) (k : StoreKind) :
    newX env (Store.new k) (Store.new k) = toGenX env (XSketch.new (some env.id) k) := by
  unfold newX toGenX XSketch.new
  congr 1

/-! ### the conclusion -/

/-- C10 for the history `lr` on the exact variant built over the stores `p`, `n` (model witness `x`) -/
def C10Holds {S : Type} [StoreI S] [Inhabited S] (env : MapEnv) (p n : S) (lr : List (Rat × Rat))
    (x : XSketch) : Prop :=
  let a := xrunAdds (newX env p n) (fins lr)
  -- no call is refused
  a.2 = List.replicate lr.length GoErr.nil ∧
  -- the statistics are the exact ones
  a.1.summaryStatistics = C10Gen.genExactOf lr ∧
  DDSketchWithExactSummaryStatistics.GetCount a.1 = .fin (cnt lr) ∧
  DDSketchWithExactSummaryStatistics.GetSum a.1 = .fin (tot lr) ∧
  DDSketchWithExactSummaryStatistics.GetMinValue a.1 =
    (if DDSketch.IsEmpty a.1.DDSketch then (F64.nan, errEmptySketch) else (minOf lr, GoErr.nil)) ∧
  DDSketchWithExactSummaryStatistics.GetMaxValue a.1 =
    (if DDSketch.IsEmpty a.1.DDSketch then (F64.nan, errEmptySketch) else (maxOf lr, GoErr.nil)) ∧
  DDSketch.IsEmpty a.1.DDSketch = x.sk.isEmpty ∧
  -- quantiles: the model's answer …
  (∀ q, QRel (x.quantile env q) (DDSketchWithExactSummaryStatistics.GetValueAtQuantile a.1 q)) ∧
  -- … every answered quantile lies within [min, max] …
  (lr ≠ [] → ∀ q v, DDSketchWithExactSummaryStatistics.GetValueAtQuantile a.1 q = (v, GoErr.nil) →
    F64.lt v (minOf lr) = false ∧ F64.lt (maxOf lr) v = false) ∧
  -- … a refusal of the plain model sketch is the Go refusal …
  (∀ q e, x.sk.quantile env q = .error e → ∃ g, goErr? e = some g ∧
    DDSketchWithExactSummaryStatistics.GetValueAtQuantile a.1 q = (F64.nan, g)) ∧
  -- … and the answer is the PLAIN regenerated sketch's (same stores, same history), clamped into [min, max]
  (∀ q, DDSketchWithExactSummaryStatistics.GetValueAtQuantile a.1 q =
    (goClamp (minOf lr) (maxOf lr)
        (DDSketch.GetValueAtQuantile (runAdds (NewDDSketch env p n) (fins lr)).1 q).1,
      (DDSketch.GetValueAtQuantile (runAdds (NewDDSketch env p n) (fins lr)).1 q).2)) ∧
  (∀ q u, DDSketch.GetValueAtQuantile (runAdds (NewDDSketch env p n) (fins lr)).1 q = (u, GoErr.nil) →
    F64.lt u (minOf lr) = false → F64.lt (maxOf lr) u = false →
    DDSketchWithExactSummaryStatistics.GetValueAtQuantile a.1 q = (u, GoErr.nil))

theorem c10_min_is_least (lr : List (Rat × Rat)) (hl : lr ≠ []) :
    ∃ m, minOf lr = .fin m ∧ (∃ p ∈ lr, p.1 = m) ∧ ∀ p ∈ lr, m ≤ p.1 := C10.min_is_least lr hl

theorem c10_max_is_greatest (lr : List (Rat × Rat)) (hl : lr ≠ []) :
    ∃ m, maxOf lr = .fin m ∧ (∃ p ∈ lr, p.1 = m) ∧ ∀ p ∈ lr, p.1 ≤ m := C10.max_is_greatest lr hl

/-! ### the generic transport -/

section transport

variable {S : Type} [StoreI S] [Inhabited S] (T : StoreSim S Store)

/-- the regenerated exact variant over stores simulating the model's ends, after a history the model accepts,
    related to the model's final state; no call refused -/
theorem xhistory_eq_model (env : MapEnv) (k : StoreKind) {p n : S} (hp : T.R p (Store.new k))
    (hn : T.R n (Store.new k)) (l : List (F64 × F64)) (hr : ∀ q ∈ l, RoutedG T env q.1)
    (hnz : ∀ q ∈ l, F64.eq q.2 (.fin 0) = false) (x : XSketch)
    (hx : xaddAll env (XSketch.new (some env.id) k) l = some x) :
    (xrunAdds (newX env p n) l).2 = List.replicate l.length GoErr.nil ∧
      XSkSimG T (xrunAdds (newX env p n) l).1 (toGenX env x) ∧ x.st = addAllF Summary.new l := by
  obtain ⟨he, hs⟩ := xrunAdds_paramG T l (xSkSimG_new T env hp hn) hr
  obtain ⟨hm, hst⟩ := model_xrunAdds env l hnz _ x hx
  rw [newX_model, hm] at he hs
  exact ⟨he, hs, hst⟩

/-- **C10 on regenerated code over any store implementation that simulates the model stores** -/
theorem c10_transport (env : MapEnv) (k : StoreKind) {p n : S} (hp : T.R p (Store.new k))
    (hn : T.R n (Store.new k)) (lr : List (Rat × Rat)) (hrep : RepOK lr) (hnz : ∀ p ∈ lr, p.2 ≠ 0)
    (hr : ∀ p ∈ lr, RoutedG T env (F64.fin p.1)) (x : XSketch)
    (hx : xaddAll env (XSketch.new (some env.id) k) (fins lr) = some x) :
    C10Holds env p n lr x := by
  have hr' : ∀ q ∈ fins lr, RoutedG T env q.1 := fun q hq =>
    (List.mem_map.1 hq).elim fun p hp => hp.2 ▸ hr p hp.1
  obtain ⟨he, hs, hst⟩ := xhistory_eq_model T env k hp hn (fins lr) hr' (fins_nonzero lr hnz) x hx
  rw [addAllF_fins, C10.fold_exact_eq lr hrep] at hst
  rw [show (fins lr).length = lr.length from List.length_map ..] at he
  obtain ⟨hcnt, hsum, _, _, _, _, hqv, _⟩ := xobservers_paramG T hs
  -- the statistics of the regenerated-store sketch
  have hstat : (xrunAdds (newX env p n) (fins lr)).1.summaryStatistics = C10Gen.genExactOf lr := by
    rw [hs.st, toGenX_st, hst]; rfl
  have hmin : SummaryStatistics.Min (C10Gen.genExactOf lr) = minOf lr := rfl
  have hmax : SummaryStatistics.Max (C10Gen.genExactOf lr) = maxOf lr := rfl
  have hq : ∀ q, DDSketchWithExactSummaryStatistics.GetValueAtQuantile (xrunAdds (newX env p n) (fins lr)).1 q =
      (goClamp (minOf lr) (maxOf lr)
          (DDSketch.GetValueAtQuantile (runAdds (NewDDSketch env p n) (fins lr)).1 q).1,
        (DDSketch.GetValueAtQuantile (runAdds (NewDDSketch env p n) (fins lr)).1 q).2) := by
    intro q
    rw [XGetValueAtQuantile_eq, hstat, hmin, hmax, xrunAdds_sk]
    rfl
  have hqrel : ∀ q, QRel (x.quantile env q)
      (DDSketchWithExactSummaryStatistics.GetValueAtQuantile (xrunAdds (newX env p n) (fins lr)).1 q) := by
    intro q
    rw [hqv q]
    exact XGetValueAtQuantile_rel env x q
  refine ⟨he, hstat, ?_, ?_, ?_, ?_, ?_, hqrel, ?_, ?_, hq, ?_⟩
  · rw [hcnt, XGetCount_eq]
    show x.st.count = _
    rw [hst]; rfl
  · rw [hsum, XGetSum_eq]
    show x.st.getSum = _
    rw [hst, ← C10.fold_exact_eq lr hrep]
    exact (C10.fold_exact lr hrep).2.1
  · unfold DDSketchWithExactSummaryStatistics.GetMinValue
    rw [hstat, hmin]
  · unfold DDSketchWithExactSummaryStatistics.GetMaxValue
    rw [hstat, hmax]
  · rw [IsEmpty_paramG T hs.sk, toGenX_sk, IsEmpty_eq]
  · intro hne q v hv
    have hqr := hqrel q
    rw [hv] at hqr
    cases hm : x.quantile env q with
    | error e =>
      rw [hm] at hqr
      exact absurd rfl (goErr?_ne_nil hqr.2)
    | ok v' =>
      rw [hm] at hqr
      have hvv : v = v' := (Prod.mk.inj hqr).1
      subst hvv
      have hmm : F64.lt x.st.max x.st.min = false := by
        rw [hst]; exact C10.exact_stats_ordered lr hne
      have := C10.xsketch_quantile_clamped env x q v hmm hm
      rw [hst] at this
      exact this
  · intro q e hqe
    have hm := C10.xsketch_quantile_error env x q e hqe
    exact (hqrel q).error hm
  · intro q u hu h1 h2
    rw [hq q, hu]
    simp [goClamp, h1, h2]

end transport

/-! ### the instances: regenerated stores -/

/-- **C10 on regenerated code, sketch + statistics + buffered-paginated store**, for every growth policy of the
    runtime; routed indexes int32 -/
theorem c10_paginated (grow : Int → Int → Int) (env : MapEnv) (lr : List (Rat × Rat)) (hrep : RepOK lr)
    (hnz : ∀ p ∈ lr, p.2 ≠ 0) (hr : ∀ p ∈ lr, Routed32 env (F64.fin p.1)) (x : XSketch)
    (hx : xaddAll env (XSketch.new (some env.id) .pag) (fins lr) = some x) :
    C10Holds env (⟨Gen.Paginated.NewBufferedPaginatedStore⟩ : GPS grow)
      ⟨Gen.Paginated.NewBufferedPaginatedStore⟩ lr x :=
  c10_transport (pagStoreSim grow) env .pag GenPagSketch.sim_new GenPagSketch.sim_new lr hrep hnz hr x hx

/-- … dense store (no condition on the indexes) -/
theorem c10_dense (env : MapEnv) (lr : List (Rat × Rat)) (hrep : RepOK lr) (hnz : ∀ p ∈ lr, p.2 ≠ 0)
    (x : XSketch) (hx : xaddAll env (XSketch.new (some env.id) .dense) (fins lr) = some x) :
    C10Holds env (⟨Gen.Dense.NewDenseStore⟩ : GenDenseSketch.GDS) ⟨Gen.Dense.NewDenseStore⟩ lr x :=
  c10_transport GenDenseSketch.denseStoreSim env .dense GenDenseSketch.dsim_new GenDenseSketch.dsim_new lr hrep hnz
    (fun _ _ => GenDenseSketch.dense_routed env _) x hx

/-- … sparse store, for every lawful iteration order of Go's `range` over the map; routed indexes int32 -/
theorem c10_sparse (ord : MapOrder) (hl : ord.Lawful) (env : MapEnv) (lr : List (Rat × Rat)) (hrep : RepOK lr)
    (hnz : ∀ p ∈ lr, p.2 ≠ 0) (hr : ∀ p ∈ lr, Routed32 env (F64.fin p.1)) (x : XSketch)
    (hx : xaddAll env (XSketch.new (some env.id) .sparse) (fins lr) = some x) :
    C10Holds env (⟨Gen.Sparse.NewSparseStore⟩ : GenSparseSketch.GSS ord) ⟨Gen.Sparse.NewSparseStore⟩ lr x :=
  c10_transport (GenSparseSketch.sparseStoreSim ord hl) env .sparse GenSparseSketch.ssim_new
    GenSparseSketch.ssim_new lr hrep hnz
    (fun p hp => GenSparseSketch.sparse_routed_of_32 hl env _ (hr p hp)) x hx

/-- … lowest-collapsing dense store with `n` bins (no condition on the indexes) -/
theorem c10_collapsing_lowest (n : Nat) (env : MapEnv) (lr : List (Rat × Rat)) (hrep : RepOK lr)
    (hnz : ∀ p ∈ lr, p.2 ≠ 0) (x : XSketch)
    (hx : xaddAll env (XSketch.new (some env.id) (.low n)) (fins lr) = some x) :
    C10Holds env (⟨Gen.Dense.NewCollapsingLowestDenseStore (n : Int)⟩ : GenLowSketch.GLS n)
      ⟨Gen.Dense.NewCollapsingLowestDenseStore (n : Int)⟩ lr x :=
  c10_transport (GenLowSketch.lowStoreSim n) env (.low n) GenLowSketch.lsim_new GenLowSketch.lsim_new lr hrep hnz
    (fun _ _ => GenLowSketch.low_routed env _) x hx

/-- … highest-collapsing dense store with `n` bins -/
theorem c10_collapsing_highest (n : Nat) (env : MapEnv) (lr : List (Rat × Rat)) (hrep : RepOK lr)
    (hnz : ∀ p ∈ lr, p.2 ≠ 0) (x : XSketch)
    (hx : xaddAll env (XSketch.new (some env.id) (.high n)) (fins lr) = some x) :
    C10Holds env (⟨Gen.Dense.NewCollapsingHighestDenseStore (n : Int)⟩ : GenHighSketch.GHS n)
      ⟨Gen.Dense.NewCollapsingHighestDenseStore (n : Int)⟩ lr x :=
  c10_transport (GenHighSketch.highStoreSim n) env (.high n) GenHighSketch.hsim_new GenHighSketch.hsim_new lr hrep
    hnz (fun _ _ => GenHighSketch.high_routed env _) x hx

/-! ### the hypotheses are satisfiable

  C10's running example (values 3, −1, 5/2 with weights 2, 1, 4; `C10.exL_ok : RepOK C10.exL`) on the mapping
  oracle `GenSketch.discEnv` (every value routed to index 0, indexable range `[1/1000, 1000]`): the model accepts
  the history on every store kind. -/

theorem exL_accepted_pag : (xaddAll discEnv (XSketch.new (some discEnv.id) .pag) (fins C10.exL)).isSome = true := by
  decide +kernel

theorem exL_accepted_sparse :
    (xaddAll discEnv (XSketch.new (some discEnv.id) .sparse) (fins C10.exL)).isSome = true := by
  decide +kernel

theorem exL_accepted_dense :
    (xaddAll discEnv (XSketch.new (some discEnv.id) .dense) (fins C10.exL)).isSome = true := by
  decide +kernel

theorem exL_nonzero : ∀ p ∈ C10.exL, p.2 ≠ 0 := by decide +kernel

theorem exL_routed32 : ∀ p ∈ C10.exL, Routed32 discEnv (F64.fin p.1) := by
  intro p _
  exact ⟨fun _ => (by decide : PStore.Idx32 (0 : Int)), fun _ => (by decide : PStore.Idx32 (0 : Int))⟩

/-- the paginated instance, met on the example: count 7, sum 15 -/
theorem c10_paginated_example (grow : Int → Int → Int) :
    let a := xrunAdds (newX discEnv (⟨Gen.Paginated.NewBufferedPaginatedStore⟩ : GPS grow)
      ⟨Gen.Paginated.NewBufferedPaginatedStore⟩) (fins C10.exL)
    a.2 = [GoErr.nil, GoErr.nil, GoErr.nil] ∧
    DDSketchWithExactSummaryStatistics.GetCount a.1 = .fin 7 ∧
    DDSketchWithExactSummaryStatistics.GetSum a.1 = .fin 15 := by
  intro a
  obtain ⟨x, hx⟩ := Option.isSome_iff_exists.mp exL_accepted_pag
  obtain ⟨h1, _, h3, h4, _⟩ := c10_paginated grow discEnv C10.exL C10.exL_ok exL_nonzero exL_routed32 x hx
  refine ⟨h1, ?_, ?_⟩
  · show DDSketchWithExactSummaryStatistics.GetCount a.1 = _
    rw [h3]; decide +kernel
  · show DDSketchWithExactSummaryStatistics.GetSum a.1 = _
    rw [h4]; decide +kernel

end DDS.Props.C10GenStores
