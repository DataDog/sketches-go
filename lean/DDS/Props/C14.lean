/-
  DDS.Props.C14 — reads are pure.

  In the model every read (`getCount`, `isEmpty`, `quantile`, `getMin`, `getMax`, `getSum`,
  `forEachList`, …) is a function returning a value only: there is no state to modify.  The two
  exceptions are `encode`, which returns the sketch because the PAGINATED store sorts and compacts
  its buffer when it is enumerated, and the paginated observers, which sort the buffer.  This file
  shows that none of this is observable:
  * `encode` returns the same mapping, the same zero weight and — for sparse and dense stores —
    the very same stores; a paginated store is replaced by its `compact`;
  * sorting the buffer is a permutation, and EVERY observer of the paginated store
    (`abs`, `totalCount`, `isEmpty`, `binsList`, `keyAtRank`, `minIndex?`, `maxIndex?`) is invariant
    under permutations of the buffer.
-/
import DDS.Proofs.SpecSketch
import DDS.Proofs.PagCompact

namespace DDS.Props.C14
open DDS

/-! ## `encode` -/

/-- what `encodeStore` does to the store: nothing, or `compact` for a paginated store -/
theorem encodeStore_store (st st' : Store) (side : Side) (b : List Block)
    (h : Sketch.encodeStore st side = some (st', b)) :
    st' = st ∨ ∃ p t, st = .pg p ∧ p.compact = some t ∧ st' = .pg t := by
  cases st with
  | d s =>
    left
    simp only [Sketch.encodeStore, Option.map_eq_some_iff] at h
    obtain ⟨_, _, h⟩ := h
    exact (Prod.mk.inj h).1.symm
  | sp c =>
    left
    simp only [Sketch.encodeStore] at h
    split at h <;> simp only [Option.some.injEq] at h <;> exact (Prod.mk.inj h).1.symm
  | pg p =>
    right
    simp only [Sketch.encodeStore, Option.bind_eq_bind, Option.bind_eq_some_iff] at h
    obtain ⟨t, ht, h⟩ := h
    simp only [Option.pure_def, Option.some.injEq] at h
    exact ⟨p, t, rfl, ht, (Prod.mk.inj h).1.symm⟩

theorem encodeStore_sp (c : Content) (side : Side) (st' : Store) (b : List Block)
    (h : Sketch.encodeStore (.sp c) side = some (st', b)) : st' = .sp c := by
  rcases encodeStore_store _ _ _ _ h with h | ⟨p, t, h, _⟩
  · exact h
  · cases h

theorem encodeStore_d (s : DStore) (side : Side) (st' : Store) (b : List Block)
    (h : Sketch.encodeStore (.d s) side = some (st', b)) : st' = .d s := by
  rcases encodeStore_store _ _ _ _ h with h | ⟨p, t, h, _⟩
  · exact h
  · cases h

/-- **`Encode` is a read**: same mapping, same zero weight; each store is unchanged unless it is
    paginated, in which case it is replaced by its compacted form -/
theorem encode_pure (s s' : Sketch) (om : Bool) (bl : List Block)
    (h : s.encode om = some (s', bl)) :
    s'.mapping = s.mapping ∧ s'.zero = s.zero ∧
      (s'.pos = s.pos ∨ ∃ p t, s.pos = .pg p ∧ p.compact = some t ∧ s'.pos = .pg t) ∧
      (s'.neg = s.neg ∨ ∃ p t, s.neg = .pg p ∧ p.compact = some t ∧ s'.neg = .pg t) := by
  simp only [Sketch.encode, Option.bind_eq_bind, Option.bind_eq_some_iff] at h
  obtain ⟨⟨p, pb⟩, hp, ⟨n, nb⟩, hn, h⟩ := h
  simp only [Option.pure_def, Option.some.injEq] at h
  have := (Prod.mk.inj h).1
  subst this
  exact ⟨rfl, rfl, encodeStore_store _ _ _ _ hp, encodeStore_store _ _ _ _ hn⟩

/-- sparse and dense stores: `encode` returns the receiver itself -/
theorem encode_pure_sp_d (s s' : Sketch) (om : Bool) (bl : List Block)
    (hpos : (∃ c, s.pos = .sp c) ∨ (∃ d, s.pos = .d d))
    (hneg : (∃ c, s.neg = .sp c) ∨ (∃ d, s.neg = .d d))
    (h : s.encode om = some (s', bl)) : s' = s := by
  obtain ⟨hm, hz, hp, hn⟩ := encode_pure s s' om bl h
  have hp' : s'.pos = s.pos := by
    rcases hp with hp | ⟨p, t, hp, _⟩
    · exact hp
    · rcases hpos with ⟨c, hc⟩ | ⟨d, hd⟩
      · rw [hc] at hp; cases hp
      · rw [hd] at hp; cases hp
  have hn' : s'.neg = s.neg := by
    rcases hn with hn | ⟨p, t, hn, _⟩
    · exact hn
    · rcases hneg with ⟨c, hc⟩ | ⟨d, hd⟩
      · rw [hc] at hn; cases hn
      · rw [hd] at hn; cases hn
  cases s; cases s'; simp_all

/-- a spec sketch always encodes, and is returned unchanged -/
theorem encode_spec (m : Option MapId) (a b : Content) (z : F64) (om : Bool) :
    ∃ bl, (Sketch.spec m a b z).encode om = some (Sketch.spec m a b z, bl) := by
  have hs : ∀ (c : Content) (side : Side), ∃ bl, Sketch.encodeStore (.sp c) side = some (.sp c, bl) := by
    intro c side
    simp only [Sketch.encodeStore]
    split
    · exact ⟨_, rfl⟩
    · exact ⟨_, rfl⟩
  obtain ⟨pb, hp⟩ := hs a .pos
  obtain ⟨nb, hn⟩ := hs b .neg
  refine ⟨(if F64.ne z (.fin 0) then [Block.zeroCount (Sketch.vfBitsF z)] else []) ++
    (if om then [] else match m with | some id => [id.toBlock] | none => []) ++ pb ++ nb, ?_⟩
  simp only [Sketch.encode, Sketch.spec, hp, hn, Option.bind_eq_bind, Option.bind_some, Option.pure_def]
  rfl

/-- the exact-summary sketch: `encode` keeps the statistics -/
theorem xencode_pure (x x' : XSketch) (om : Bool) (bl : List Block)
    (h : x.encode om = some (x', bl)) :
    x'.st = x.st ∧ ∃ bl', x.sk.encode om = some (x'.sk, bl') := by
  simp only [XSketch.encode, Option.bind_eq_bind, Option.bind_eq_some_iff] at h
  obtain ⟨⟨sk, b⟩, hsk, h⟩ := h
  simp only [Option.pure_def, Option.some.injEq] at h
  have := (Prod.mk.inj h).1
  subst this
  exact ⟨rfl, b, hsk⟩

/-! ## adding in any order

  `Content.ext` needs positive weights; the abstraction of a paginated store is built by `add`
  from arbitrary page contents, so `DDS.Proofs.PagCompact` works with what `add` guarantees —
  `Content.NZ`: strictly increasing keys and non-zero weights — which is extensional too
  (`Content.ext_nz`). -/

/-- adding the same multiset of `(index, weight)` pairs — of ANY sign — in a different order yields
    the same content, from any start in weak canonical form -/
theorem foldl_add_perm (a : Content) (ha : Content.NZ a) {l₁ l₂ : List (Int × Rat)}
    (h : l₁.Perm l₂) :
    l₁.foldl (fun acc p => acc.add p.1 p.2) a = l₂.foldl (fun acc p => acc.add p.1 p.2) a :=
  Content.merge_perm a ha h

/-! ## the paginated store: permuting the buffer is unobservable -/

def withBuffer (s : PStore) (b : List Int) : PStore := { s with buffer := b }

theorem sortInts_eq_of_perm {l₁ l₂ : List Int} (h : l₁.Perm l₂) :
    PStore.sortInts l₁ = PStore.sortInts l₂ :=
  List.Perm.eq_of_pairwise (le := fun (a b : Int) => a ≤ b) (fun _ _ _ _ h1 h2 => Int.le_antisymm h1 h2)
    (PStore.sortInts_sorted l₁) (PStore.sortInts_sorted l₂)
    ((PStore.sortInts_perm l₁).trans (h.trans (PStore.sortInts_perm l₂).symm))

theorem abs_perm_buffer (s : PStore) (b : List Int) (h : s.buffer.Perm b) :
    (withBuffer s b).abs = s.abs := by
  rw [PStore.abs_eq_merge, PStore.abs_eq_merge]
  exact (foldl_add_perm _ (Content.nz_merge _ _ Content.nz_nil) (h.map _)).symm

theorem totalCount_perm_buffer (s : PStore) (b : List Int) (h : s.buffer.Perm b) :
    (withBuffer s b).totalCount = s.totalCount := by
  unfold PStore.totalCount withBuffer
  rw [h.length_eq]

theorem isEmpty_perm_buffer (s : PStore) (b : List Int) (h : s.buffer.Perm b) :
    (withBuffer s b).isEmpty = s.isEmpty := by
  unfold PStore.isEmpty withBuffer
  rw [h.isEmpty_eq]

theorem binsList_perm_buffer (s : PStore) (b : List Int) (h : s.buffer.Perm b) :
    (withBuffer s b).binsList = s.binsList := by
  unfold PStore.binsList withBuffer
  simp only [sortInts_eq_of_perm h]
  rfl

theorem keyAtRank_perm_buffer (s : PStore) (b : List Int) (h : s.buffer.Perm b) (r : Rat) :
    (withBuffer s b).keyAtRank r = s.keyAtRank r := by
  unfold PStore.keyAtRank
  rw [show (withBuffer s b).maxIndex? = s.maxIndex? from PStore.maxIndex?_perm_buffer s b h]
  show (match PStore.firstExceeding s.pageLines (PStore.sortInts b) 0 _ with
        | some k => k | none => _) = _
  rw [← sortInts_eq_of_perm h]
  rfl

/-- **no observer of the paginated store can tell in which order the buffer is kept** — in
    particular whether a previous read has sorted it -/
theorem pstore_observers_perm_buffer (s : PStore) (b : List Int) (h : s.buffer.Perm b) :
    (Store.pg (withBuffer s b)).abs = (Store.pg s).abs ∧
      (Store.pg (withBuffer s b)).totalCount = (Store.pg s).totalCount ∧
      (Store.pg (withBuffer s b)).isEmpty = (Store.pg s).isEmpty ∧
      (Store.pg (withBuffer s b)).minIndex? = (Store.pg s).minIndex? ∧
      (Store.pg (withBuffer s b)).maxIndex? = (Store.pg s).maxIndex? ∧
      (Store.pg (withBuffer s b)).binsList = (Store.pg s).binsList ∧
      ∀ r, (Store.pg (withBuffer s b)).keyAtRank r = (Store.pg s).keyAtRank r :=
  ⟨abs_perm_buffer s b h, totalCount_perm_buffer s b h, isEmpty_perm_buffer s b h,
    PStore.minIndex?_perm_buffer s b h, PStore.maxIndex?_perm_buffer s b h,
    congrArg some (binsList_perm_buffer s b h), keyAtRank_perm_buffer s b h⟩

/-- sorting the buffer, as the enumerating reads do, is unobservable -/
theorem pstore_sort_buffer_unobservable (s : PStore) :
    (Store.pg (withBuffer s (PStore.sortInts s.buffer))).abs = (Store.pg s).abs ∧
      (Store.pg (withBuffer s (PStore.sortInts s.buffer))).binsList = (Store.pg s).binsList :=
  let h := pstore_observers_perm_buffer s _ (PStore.sortInts_perm s.buffer).symm
  ⟨h.1, h.2.2.2.2.2.1⟩

/-! ## `compact` preserves the abstraction -/

/-- **the one read that changes the state changes nothing observable**: when `compact` succeeds,
    the abstraction is the same.  `PInv` is the sentinel convention of the store
    (`minPageIndex = maxInt` ⇒ no page in use; it holds of `new`, of `clear`, and of any store whose
    `minPageIndex` is below the sentinel); the bound says the buffered entries lie on pages below
    the sentinel (true of every Go `int` when a page has at least two lines). -/
theorem compact_preserves_abs (s s' : PStore) (hinv : PagCompact.PInv s)
    (hb : ∀ i ∈ s.buffer, s.pageIndex i < maxInt) (h : s.compact = some s') : s'.abs = s.abs :=
  PagCompact.compact_abs s s' hinv hb h

/-- the bound holds for every Go `int` as soon as pages have at least two lines -/
theorem pageIndex_lt_maxInt (s : PStore) (hlen : 1 ≤ s.pageLenLog2) (i : Int) (hi : i ≤ maxInt) :
    s.pageIndex i < maxInt := by
  unfold PStore.pageIndex
  have h2 : 2 ≤ s.pageLen := by
    unfold PStore.pageLen
    calc 2 = 2 ^ 1 := rfl
      _ ≤ 2 ^ s.pageLenLog2 := Nat.pow_le_pow_right (by decide) hlen
  apply Int.ediv_lt_of_lt_mul (by omega)
  have : maxInt * 2 ≤ maxInt * (s.pageLen : Int) :=
    Int.mul_le_mul_of_nonneg_left (by omega) (by unfold maxInt; omega)
  unfold maxInt at *
  omega

/-- `Encode` on a sketch with paginated stores: the stores are compacted, their abstraction is
    unchanged; with `encode_pure`, nothing observable changes -/
theorem encode_abs (s s' : Sketch) (om : Bool) (bl : List Block)
    (hpos : ∀ p, s.pos = .pg p → PagCompact.PInv p ∧ ∀ i ∈ p.buffer, p.pageIndex i < maxInt)
    (hneg : ∀ p, s.neg = .pg p → PagCompact.PInv p ∧ ∀ i ∈ p.buffer, p.pageIndex i < maxInt)
    (h : s.encode om = some (s', bl)) :
    s'.mapping = s.mapping ∧ s'.zero = s.zero ∧ s'.pos.abs = s.pos.abs ∧ s'.neg.abs = s.neg.abs := by
  obtain ⟨hm, hz, hp, hn⟩ := encode_pure s s' om bl h
  refine ⟨hm, hz, ?_, ?_⟩
  · rcases hp with hp | ⟨p, t, h1, h2, h3⟩
    · rw [hp]
    · rw [h1, h3]
      exact compact_preserves_abs p t (hpos p h1).1 (hpos p h1).2 h2
  · rcases hn with hn | ⟨p, t, h1, h2, h3⟩
    · rw [hn]
    · rw [h1, h3]
      exact compact_preserves_abs p t (hneg p h1).1 (hneg p h1).2 h2

/-! ## instances -/

def demoP : PStore := { PStore.new with buffer := [3, 1, 2, 1] }

example : (Store.pg (withBuffer demoP [1, 1, 2, 3])).abs = (Store.pg demoP).abs ∧
    (Store.pg (withBuffer demoP [1, 1, 2, 3])).binsList = (Store.pg demoP).binsList :=
  let h := pstore_observers_perm_buffer demoP [1, 1, 2, 3] (by decide)
  ⟨h.1, h.2.2.2.2.2.1⟩

example : ∃ bl, (Sketch.spec none [(1, 2)] [(3, 1)] (.fin 5)).encode true
    = some (Sketch.spec none [(1, 2)] [(3, 1)] (.fin 5), bl) := encode_spec _ _ _ _ _

example (s' : Sketch) (bl : List Block)
    (h : (Sketch.new none .dense).encode true = some (s', bl)) : s' = Sketch.new none .dense :=
  encode_pure_sp_d _ _ _ _ (Or.inr ⟨_, rfl⟩) (Or.inr ⟨_, rfl⟩) h

example : (Sketch.new none .dense).encode true = some (Sketch.new none .dense, []) := rfl

example : Content.NZ [(1, -2), (4, 3)] := by
  refine ⟨⟨by decide, trivial⟩, ?_⟩
  intro p hp
  simp at hp
  rcases hp with rfl | rfl <;> simp <;> decide

/-- a compaction that really moves entries: three of the four buffered indexes go to a page -/
def demoQ : PStore := { PStore.new with buffer := [4, 9, 5, 4], pageLenLog2 := 1 }

theorem demoQ_sorted : PStore.sortInts demoQ.buffer = [4, 4, 5, 9] := by
  have h1 := sortInts_eq_of_perm (l₁ := [4, 9, 5, 4]) (l₂ := [4, 4, 5, 9]) (by decide)
  have h2 : PStore.sortInts [4, 4, 5, 9] = [4, 4, 5, 9] := by
    unfold PStore.sortInts
    apply List.mergeSort_of_pairwise
    decide
  exact h1.trans h2

theorem demoQ_compact : ∃ t, demoQ.compact = some t ∧ t.buffer = [9] ∧ t.minPageIndex = -2 := by
  unfold PStore.compact
  rw [demoQ_sorted]
  refine ⟨_, rfl, ?_, ?_⟩ <;> rfl

theorem demoQ_inv : PagCompact.PInv demoQ :=
  ⟨Int.le_refl _, fun _ pg h => by simp [demoQ, PStore.new] at h⟩

theorem demoQ_bound : ∀ i ∈ demoQ.buffer, demoQ.pageIndex i < maxInt := by
  intro i hi
  apply pageIndex_lt_maxInt demoQ (by decide)
  simp only [demoQ, List.mem_cons, List.not_mem_nil, or_false] at hi
  rcases hi with rfl | rfl | rfl | rfl <;> decide

example : ∃ t, demoQ.compact = some t ∧ t.buffer = [9] ∧ t.abs = demoQ.abs := by
  obtain ⟨t, ht, hb, _⟩ := demoQ_compact
  exact ⟨t, ht, hb, compact_preserves_abs demoQ t demoQ_inv demoQ_bound ht⟩

/-- the sentinel convention is needed: `minPageIndex = maxInt` with a non-empty page -/
def badQ : PStore := { PStore.new with buffer := [0], pages := #[#[1]], pageLenLog2 := 0 }

/-- counterexample without `PInv`: `compact` re-bases the pages and the weight at index `maxInt`
    lands on index 0 -/
theorem compact_needs_inv : ∃ t, badQ.compact = some t ∧ t.abs ≠ badQ.abs := by
  have hs : PStore.sortInts badQ.buffer = [0] := by
    unfold PStore.sortInts
    apply List.mergeSort_of_pairwise
    decide
  unfold PStore.compact
  rw [hs]
  refine ⟨_, rfl, ?_⟩
  intro h
  have := congrArg List.length h
  revert this
  decide +kernel

def demoPS : Sketch := { mapping := none, pos := .pg demoQ, neg := .pg PStore.new, zero := .fin 0 }

theorem demoPS_encodes : (demoPS.encode true).isSome = true := by
  have hs : PStore.sortInts ([] : List Int) = [] := by simp [PStore.sortInts]
  have e1 : ∃ t b, Sketch.encodeStore (.pg demoQ) .pos = some (.pg t, b) := by
    obtain ⟨t, ht, _⟩ := demoQ_compact
    simp only [Sketch.encodeStore, ht, Option.bind_eq_bind, Option.bind_some, Option.pure_def]
    exact ⟨_, _, rfl⟩
  have e2 : ∃ t b, Sketch.encodeStore (.pg PStore.new) .neg = some (.pg t, b) := by
    have : PStore.new.compact = some { PStore.new with buffer := [], trigger := PStore.new.pageLen } := by
      unfold PStore.compact
      rw [show PStore.new.buffer = [] from rfl, hs]
      rfl
    simp only [Sketch.encodeStore, this, Option.bind_eq_bind, Option.bind_some, Option.pure_def]
    exact ⟨_, _, rfl⟩
  obtain ⟨t1, b1, h1⟩ := e1
  obtain ⟨t2, b2, h2⟩ := e2
  simp [Sketch.encode, demoPS, h1, h2]

/-- `encode_abs` on a sketch whose positive store is paginated and gets compacted -/
example : ∃ s' bl, demoPS.encode true = some (s', bl) ∧ s'.pos.abs = demoPS.pos.abs ∧
    s'.neg.abs = demoPS.neg.abs := by
  cases h : demoPS.encode true with
  | none => have := demoPS_encodes; rw [h] at this; simp at this
  | some r =>
    obtain ⟨s', bl⟩ := r
    have hq : ∀ p, demoPS.pos = .pg p → PagCompact.PInv p ∧ ∀ i ∈ p.buffer, p.pageIndex i < maxInt := by
      intro p hp
      have : p = demoQ := by simpa [demoPS] using hp.symm
      subst this
      exact ⟨demoQ_inv, demoQ_bound⟩
    have hn : ∀ p, demoPS.neg = .pg p → PagCompact.PInv p ∧ ∀ i ∈ p.buffer, p.pageIndex i < maxInt := by
      intro p hp
      have : p = PStore.new := by simpa [demoPS] using hp.symm
      subst this
      exact ⟨PagCompact.pinv_new, fun i hi => by simp [PStore.new] at hi⟩
    obtain ⟨_, _, h3, h4⟩ := encode_abs demoPS s' true bl hq hn h
    exact ⟨s', bl, rfl, h3, h4⟩

end DDS.Props.C14
