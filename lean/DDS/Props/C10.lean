/-
  DDS.Props.C10 — "Summary statistics are exact whenever the float operations are".

  Statements about the Lean transcription `DDS.Summary` (`DDS/Model/Summary.lean`) of
  `ddsketch/stat/summary.go` (Kahan-compensated count / sum / min / max) over the exact binary64
  model `F64`, and about the clamping of `DDSketchWithExactSummaryStatistics` (`DDS.XSketch`);
  proved with the lemmas of `DDS.Proofs.Summary`.

  "Exact field" reading.  `exactOf l` is THE summary of a list `l` of `(value, weight)` pairs:
  count `Σ w`, sum and simpleSum `Σ v·w`, compensation `0`, min / max the least / greatest value
  (`+∞ / −∞` for the empty list).  The theorems say: as long as the float operations the code
  performs are exact (hypotheses `F64.isRep …` on exactly the numbers it computes: the partial
  counts, the products `v·w`, the partial sums — `RepFrom` / `RepOK`), the state IS `exactOf l`,
  and merging / reweighting / rescaling exact summaries gives the exact summary of the union /
  reweighted / rescaled list.  `repOK_nat` shows the hypotheses hold for natural values and weights
  whose totals stay `≤ 2^53`.

  min and max involve no arithmetic at all (`minmax_no_rounding`), so for ARBITRARY floats the
  reported extremes are values that were actually absorbed (`extremes_are_absorbed_values`).

  Remarks / corrections with respect to the informal claims:
  * `fold_exact` does not need `w > 0`; `Add` updates min and max even for weight 0 (the sketch
    wrapper `XSketch.addWithCount` never calls it with weight 0: `xsketch_add_zero_weight`).
  * `empty_iff` needs `w ≥ 0`: with weights of both signs the count can cancel to 0.
  * `reweight` by 0 resets min/max (result `Summary.new`), so `reweight_exact` is for `w ≠ 0`.
  * `xsketch_quantile_clamped` needs `¬ max < min`; it fails for the statistics of the empty summary
    (`xsketch_clamp_needs_min_le_max`), which `exact_stats_ordered` excludes for non-empty lists.
-/
import DDS.Proofs.Summary
import DDS.Model.Dataset

namespace DDS.Props.C10

open DDS DDS.Summary DDS.F64

/-! ### the vocabulary, restated -/

example (v m : F64) : minStep v m = if F64.lt v m then v else m := rfl
example (v m : F64) : maxStep v m = if F64.lt m v then v else m := rfl
example (l : List (Rat × Rat)) : cnt l = (l.map (fun p => p.2)).sum := rfl
example (l : List (Rat × Rat)) : tot l = (l.map (fun p => p.1 * p.2)).sum := rfl
example (l : List (Rat × Rat)) :
    minOf l = l.foldl (fun m p => minStep (.fin p.1) m) .pinf := rfl
example (l : List (Rat × Rat)) :
    maxOf l = l.foldl (fun m p => maxStep (.fin p.1) m) .ninf := rfl
example (s : Summary) (l : List (Rat × Rat)) :
    addAll s l = l.foldl (fun s p => s.add (.fin p.1) (.fin p.2)) s := rfl
example (l : List (Rat × Rat)) : exactOf l =
    { count := .fin (cnt l), sum := .fin (tot l), sumCompensation := .fin 0,
      simpleSum := .fin (tot l), min := minOf l, max := maxOf l } := rfl
example (c sm : Rat) (p : Rat × Rat) (rest : List (Rat × Rat)) :
    RepFrom c sm (p :: rest) ↔
      (isRep (c + p.2) = true ∧ isRep (p.1 * p.2) = true ∧ isRep (sm + p.1 * p.2) = true ∧
        RepFrom (c + p.2) (sm + p.1 * p.2) rest) := Iff.rfl
example (l : List (Rat × Rat)) : RepOK l ↔ RepFrom 0 0 l := Iff.rfl
example : exactOf [] = Summary.new := rfl

/-- the running example: values 3, −1, 5/2 with weights 2, 1, 4 -/
def exL : List (Rat × Rat) := [(3, 2), (-1, 1), (5/2, 4)]

theorem exL_ok : RepOK exL :=
  ⟨by decide +kernel, by decide +kernel, by decide +kernel,
   by decide +kernel, by decide +kernel, by decide +kernel,
   by decide +kernel, by decide +kernel, by decide +kernel, trivial⟩

/-! ### one addition -/

/-- with exact additions the compensation stays 0 and the state is the exact one.
    Hypotheses: exactly the three numbers the code rounds (`count + w`, `v·w`, `sum + v·w`). -/
theorem add_exact_state (c sm v w : Rat) (mn mx : F64) (h1 : isRep (c + w) = true)
    (h2 : isRep (v * w) = true) (h3 : isRep (sm + v * w) = true) :
    (Summary.mk (.fin c) (.fin sm) (.fin 0) (.fin sm) mn mx).add (.fin v) (.fin w) =
      Summary.mk (.fin (c + w)) (.fin (sm + v * w)) (.fin 0) (.fin (sm + v * w))
        (if F64.lt (.fin v) mn then .fin v else mn) (if F64.lt mx (.fin v) then .fin v else mx) := by
  unfold Summary.add addToCount addToSum
  simp only [mul_exact v w h2, add_exact c w h1]
  rw [sumWithCompensation_exact _ sm (v * w) rfl rfl h2 h3]
  simp only [add_exact sm (v * w) h3]
  split <;> split <;> rfl

example : (Summary.mk (.fin 2) (.fin 6) (.fin 0) (.fin 6) (.fin 3) (.fin 3)).add (.fin (-1)) (.fin 1) =
    Summary.mk (.fin 3) (.fin 5) (.fin 0) (.fin 5) (.fin (-1)) (.fin 3) := by
  have := add_exact_state 2 6 (-1) 1 (.fin 3) (.fin 3) (by decide +kernel) (by decide +kernel)
    (by decide +kernel)
  rw [this]; decide +kernel

/-! ### a history of additions -/

/-- after absorbing `l` from any exact state (count `c`, sum `sm`) the state is the exact one -/
theorem fold_exact_from (l : List (Rat × Rat)) (c sm : Rat) (mn mx : F64) (h : RepFrom c sm l) :
    addAll (Summary.mk (.fin c) (.fin sm) (.fin 0) (.fin sm) mn mx) l =
      Summary.mk (.fin (c + cnt l)) (.fin (sm + tot l)) (.fin 0) (.fin (sm + tot l))
        (l.foldl (fun m p => minStep (.fin p.1) m) mn) (l.foldl (fun m p => maxStep (.fin p.1) m) mx) := by
  induction l generalizing c sm mn mx with
  | nil => simp [addAll]
  | cons p rest ih =>
    obtain ⟨h1, h2, h3, h4⟩ := h
    show addAll ((Summary.mk (.fin c) (.fin sm) (.fin 0) (.fin sm) mn mx).add (.fin p.1) (.fin p.2)) rest = _
    rw [add_exact_state c sm p.1 p.2 mn mx h1 h2 h3, ih _ _ _ _ h4]
    simp only [cnt_cons, tot_cons, add_assoc]
    rfl

/-- … in particular from the empty summary -/
theorem fold_exact_eq (l : List (Rat × Rat)) (h : RepOK l) : addAll Summary.new l = exactOf l := by
  have := fold_exact_from l 0 0 .pinf .ninf h
  simp only [zero_add] at this
  exact this

/-- … field by field: count `Σ w`, `Sum()` `Σ v·w`, compensation 0, min / max of the values -/
theorem fold_exact (l : List (Rat × Rat)) (h : RepOK l) :
    (addAll Summary.new l).count = .fin (cnt l) ∧
    (addAll Summary.new l).getSum = .fin (tot l) ∧
    (addAll Summary.new l).sumCompensation = .fin 0 ∧
    (addAll Summary.new l).sum = .fin (tot l) ∧
    (addAll Summary.new l).simpleSum = .fin (tot l) ∧
    (addAll Summary.new l).min = minOf l ∧
    (addAll Summary.new l).max = maxOf l := by
  rw [fold_exact_eq l h]
  refine ⟨rfl, ?_, rfl, rfl, rfl, rfl, rfl⟩
  have hrep : isRep (tot l) = true := by
    have := repFrom_isRep_sum l 0 0 h isRep_zero
    rwa [zero_add] at this
  exact getSum_exact _ _ _ _ hrep

/-- `minOf` / `maxOf` of a non-empty list are its least / greatest value -/
theorem min_is_least (l : List (Rat × Rat)) (hl : l ≠ []) :
    ∃ m, minOf l = .fin m ∧ (∃ p ∈ l, p.1 = m) ∧ ∀ p ∈ l, m ≤ p.1 := minOf_spec l hl

theorem max_is_greatest (l : List (Rat × Rat)) (hl : l ≠ []) :
    ∃ m, maxOf l = .fin m ∧ (∃ p ∈ l, p.1 = m) ∧ ∀ p ∈ l, p.1 ≤ m := maxOf_spec l hl

/-- the hypotheses are satisfiable: natural values and weights with totals `≤ 2^53` -/
theorem repOK_nat (l : List (Nat × Nat))
    (h1 : (l.map (fun p => p.2)).sum ≤ 2 ^ 53)
    (h2 : (l.map (fun p => p.1 * p.2)).sum ≤ 2 ^ 53) :
    RepOK (l.map (fun p => ((p.1 : Rat), (p.2 : Rat)))) := by
  have := repFrom_nat l 0 0 (by omega) (by omega)
  simpa [RepOK] using this

example : RepOK ([(3, 2), (1, 1), (2, 4)].map (fun p : Nat × Nat => ((p.1 : Rat), (p.2 : Rat)))) :=
  repOK_nat _ (by decide) (by decide)

example : (addAll Summary.new exL).count = .fin 7 ∧ (addAll Summary.new exL).getSum = .fin 15 ∧
    (addAll Summary.new exL).sumCompensation = .fin 0 := by
  obtain ⟨h1, h2, h3, _⟩ := fold_exact exL exL_ok
  refine ⟨by rw [h1]; decide +kernel, by rw [h2]; decide +kernel, h3⟩

example : (addAll Summary.new exL).min = .fin (-1) ∧ (addAll Summary.new exL).max = .fin 3 := by
  obtain ⟨_, _, _, _, _, h6, h7⟩ := fold_exact exL exL_ok
  rw [h6, h7]
  exact ⟨minOf_eq_of _ _ ⟨(-1, 1), by decide +kernel, rfl⟩ (by decide +kernel),
         maxOf_eq_of _ _ ⟨(3, 2), by decide +kernel, rfl⟩ (by decide +kernel)⟩

/-! ### emptiness -/

/-- with non-negative weights the count is 0 exactly when nothing of positive weight was absorbed
    (both for `=` and for the float comparison `==` used by `IsEmpty`) -/
theorem empty_iff (l : List (Rat × Rat)) (h : RepOK l) (hw : ∀ p ∈ l, 0 ≤ p.2) :
    ((addAll Summary.new l).count = .fin 0 ↔ ∀ p ∈ l, p.2 = 0) ∧
    (F64.eq (addAll Summary.new l).count (.fin 0) = true ↔ ∀ p ∈ l, p.2 = 0) := by
  rw [(fold_exact l h).1]
  constructor
  · rw [← cnt_eq_zero_iff l hw]
    constructor
    · intro e; injection e
    · intro e; rw [e]
  · rw [← cnt_eq_zero_iff l hw]
    simp only [F64.eq, beq_iff_eq]

/-- with positive weights: empty iff nothing was absorbed -/
theorem empty_iff_pos (l : List (Rat × Rat)) (h : RepOK l) (hw : ∀ p ∈ l, 0 < p.2) :
    F64.eq (addAll Summary.new l).count (.fin 0) = true ↔ l = [] := by
  rw [(empty_iff l h (fun p hp => (hw p hp).le)).2]
  constructor
  · intro hall
    cases l with
    | nil => rfl
    | cons p r =>
      have := hw p (List.mem_cons_self ..)
      have := hall p (List.mem_cons_self ..)
      linarith
  · rintro rfl; simp

/-- weights of both signs can cancel: the hypothesis `0 ≤ w` of `empty_iff` is needed -/
theorem empty_iff_needs_nonneg :
    (addAll Summary.new [(1, 1), (2, -1)]).count = .fin 0 := by decide +kernel

example : F64.eq (addAll Summary.new exL).count (.fin 0) = false := by
  have h := empty_iff_pos exL exL_ok (by decide)
  cases hc : F64.eq (addAll Summary.new exL).count (.fin 0) with
  | false => rfl
  | true => exact absurd (h.mp hc) (by decide)

/-! ### merging, reweighting, rescaling, clearing -/

/-- merging two exact states (any min / max).  Hypotheses: the numbers the code rounds
    (`count₁ + count₂`, `sum₁ + sum₂`) and that the incoming sum is a float. -/
theorem mergeWith_exact_state (c1 s1 c2 s2 : Rat) (mn1 mx1 mn2 mx2 : F64)
    (hc : isRep (c1 + c2) = true) (hs2 : isRep s2 = true) (hs : isRep (s1 + s2) = true) :
    (Summary.mk (.fin c1) (.fin s1) (.fin 0) (.fin s1) mn1 mx1).mergeWith
        (Summary.mk (.fin c2) (.fin s2) (.fin 0) (.fin s2) mn2 mx2) =
      Summary.mk (.fin (c1 + c2)) (.fin (s1 + s2)) (.fin 0) (.fin (s1 + s2))
        (if F64.lt mn2 mn1 then mn2 else mn1) (if F64.lt mx1 mx2 then mx2 else mx1) := by
  unfold Summary.mergeWith
  simp only [add_exact c1 c2 hc]
  rw [sumWithCompensation_exact _ s1 s2 rfl rfl hs2 hs]
  simp only
  rw [sumWithCompensation_exact _ (s1 + s2) 0 rfl rfl isRep_zero (by rwa [add_zero])]
  simp only [add_zero, add_exact s1 s2 hs]
  split <;> split <;> rfl

/-- merging two exact summaries is the exact summary of the union -/
theorem mergeWith_exact (l₁ l₂ : List (Rat × Rat)) (hc : isRep (cnt l₁ + cnt l₂) = true)
    (hs2 : isRep (tot l₂) = true) (hs : isRep (tot l₁ + tot l₂) = true) :
    (exactOf l₁).mergeWith (exactOf l₂) = exactOf (l₁ ++ l₂) := by
  unfold exactOf
  rw [mergeWith_exact_state _ _ _ _ _ _ _ _ hc hs2 hs, cnt_append, tot_append, minOf_append,
    maxOf_append]
  rfl

example : (exactOf exL).mergeWith (exactOf [(7, 1)]) = exactOf (exL ++ [(7, 1)]) :=
  mergeWith_exact _ _ (by decide +kernel) (by decide +kernel) (by decide +kernel)

/-- reweighting by `w ≠ 0` (the sketch only passes `w > 0`): every weight multiplied by `w` -/
theorem reweight_exact (l : List (Rat × Rat)) (w : Rat) (hw : w ≠ 0)
    (hc : isRep (cnt l * w) = true) (hs : isRep (tot l * w) = true) :
    (exactOf l).reweight (.fin w) = exactOf (scaleWts w l) := by
  unfold exactOf
  rw [reweight_exact_state _ _ _ _ _ hc hs, if_neg hw, cnt_scaleWts, tot_scaleWts]
  unfold minOf maxOf
  rw [minFrom_scaleWts, maxFrom_scaleWts]

theorem reweight_zero (l : List (Rat × Rat)) : (exactOf l).reweight (.fin 0) = Summary.new := by
  unfold exactOf
  rw [reweight_exact_state _ _ _ _ _ (by rw [mul_zero]; exact isRep_zero)
    (by rw [mul_zero]; exact isRep_zero), if_pos rfl]

example : (exactOf exL).reweight (.fin 3) = exactOf [(3, 6), (-1, 3), (5/2, 12)] := by
  have := reweight_exact exL 3 (by norm_num) (by decide +kernel) (by decide +kernel)
  rw [this]; decide +kernel

/-- state form of `Rescale(f)`, the three cases of the code; `count` is any float -/
theorem rescale_exact_state (c : F64) (sm f : Rat) (mn mx : F64) (hs : isRep (sm * f) = true) :
    (Summary.mk c (.fin sm) (.fin 0) (.fin sm) mn mx).rescale (.fin f) =
      if 0 < f then
        Summary.mk c (.fin (sm * f)) (.fin 0) (.fin (sm * f)) (F64.mul mn (.fin f)) (F64.mul mx (.fin f))
      else if f < 0 then
        Summary.mk c (.fin (sm * f)) (.fin 0) (.fin (sm * f)) (F64.mul mx (.fin f)) (F64.mul mn (.fin f))
      else if F64.ne c (.fin 0) = true then
        Summary.mk c (.fin 0) (.fin 0) (.fin 0) (.fin 0) (.fin 0)
      else Summary.mk c (.fin 0) (.fin 0) (.fin 0) mn mx := by
  unfold Summary.rescale
  simp only [mul_exact sm f hs, zero_mul_fin, F64.lt, decide_eq_true_eq]
  split
  · rfl
  · split
    · rfl
    · have : f = 0 := by rename_i h1 h2; linarith [not_lt.mp h1, not_lt.mp h2]
      subst this
      simp only [mul_zero]

/-- rescaling an exact summary: every value multiplied by `f` (`f > 0`, `f < 0` and `f = 0` alike).
    Hypotheses: the products the code rounds (`sum·f`, `min·f`, `max·f`); positive weights are
    only used for `f = 0` (the code looks at `count ≠ 0`). -/
theorem rescale_exact (l : List (Rat × Rat)) (f : Rat) (hs : isRep (tot l * f) = true)
    (hmn : ∀ a, minOf l = .fin a → isRep (a * f) = true)
    (hmx : ∀ b, maxOf l = .fin b → isRep (b * f) = true)
    (hw : ∀ p ∈ l, 0 < p.2) :
    (exactOf l).rescale (.fin f) = exactOf (scaleVals f l) := by
  unfold exactOf
  rw [rescale_exact_state _ _ _ _ _ hs, cnt_scaleVals, tot_scaleVals]
  by_cases hl : l = []
  · subst hl
    simp only [scaleVals, List.map_nil, minOf_nil, maxOf_nil, tot_nil, zero_mul, cnt_nil]
    split
    · rename_i h; simp [F64.mul, h]
    · split
      · rename_i h1 h2; simp [F64.mul, h2, h1]
      · simp [F64.ne, F64.eq]
  · obtain ⟨a, ha, _⟩ := minOf_spec l hl
    obtain ⟨b, hb, _⟩ := maxOf_spec l hl
    have hcnt : cnt l ≠ 0 := (cnt_pos l hl hw).ne'
    rw [ha, hb, mul_exact a f (hmn a ha), mul_exact b f (hmx b hb)]
    split
    · rename_i h
      rw [minOf_scaleVals_nonneg f h.le l a ha, maxOf_scaleVals_nonneg f h.le l b hb]
    · split
      · rename_i h1 h2
        rw [minOf_scaleVals_neg f h2.le l b hb, maxOf_scaleVals_neg f h2.le l a ha]
      · rename_i h1 h2
        have hf : f = 0 := le_antisymm (not_lt.mp h1) (not_lt.mp h2)
        subst hf
        rw [minOf_scaleVals_nonneg 0 (le_refl _) l a ha, maxOf_scaleVals_nonneg 0 (le_refl _) l b hb]
        simp [F64.ne, F64.eq, hcnt]

example : (exactOf exL).rescale (.fin (-2)) = exactOf [(-6, 2), (2, 1), (-5, 4)] := by
  have hmin : minOf exL = .fin (-1) := minOf_eq_of _ _ ⟨(-1, 1), by decide +kernel, rfl⟩ (by decide +kernel)
  have hmax : maxOf exL = .fin 3 := maxOf_eq_of _ _ ⟨(3, 2), by decide +kernel, rfl⟩ (by decide +kernel)
  have := rescale_exact exL (-2) (by decide +kernel)
    (by intro a ha; rw [hmin] at ha; injection ha with ha; subst ha; decide +kernel)
    (by intro b hb; rw [hmax] at hb; injection hb with hb; subst hb; decide +kernel)
    (by decide)
  rw [this]; decide +kernel

theorem clear_is_new (s : Summary) : s.clear = Summary.new ∧ Summary.new = exactOf [] := ⟨rfl, rfl⟩

/-! ### min and max never round -/

/-- for ANY floats (NaN, infinities, inexact sums …) the new extremes are one comparison away from
    the old ones: no arithmetic is involved -/
theorem minmax_no_rounding (s : Summary) (v w : F64) :
    (s.add v w).min = (if F64.lt v s.min then v else s.min) ∧
    (s.add v w).max = (if F64.lt s.max v then v else s.max) :=
  add_min_max s v w

/-- hence the reported extremes of any history are the initial ones or values actually absorbed -/
theorem extremes_are_absorbed_values (l : List (F64 × F64)) :
    let s := l.foldl (fun s p => s.add p.1 p.2) Summary.new
    (s.min = .pinf ∨ ∃ p ∈ l, s.min = p.1) ∧ (s.max = .ninf ∨ ∃ p ∈ l, s.max = p.1) :=
  addAllF_min_max Summary.new l

/-- the same for `MergeWith` -/
theorem merge_minmax_no_rounding (s o : Summary) :
    (s.mergeWith o).min = (if F64.lt o.min s.min then o.min else s.min) ∧
    (s.mergeWith o).max = (if F64.lt s.max o.max then o.max else s.max) := by
  unfold Summary.mergeWith Summary.sumWithCompensation
  simp only
  split <;> split <;> exact ⟨rfl, rfl⟩

example : ((Summary.mk (.fin 1) (.fin 1) (.fin 0) (.fin 1) (.fin 1) (.fin 1)).add .nan (.fin 1)).min
    = .fin 1 := by
  rw [(minmax_no_rounding _ _ _).1]; rfl

/-! ### the sketch with exact summary statistics -/

/-- quantile answers of the exact variant lie within `[min, max]` as soon as `¬ max < min`
    (which holds for the statistics of a non-empty exact summary: `exact_stats_ordered`) -/
theorem xsketch_quantile_clamped (env : MapEnv) (x : XSketch) (q v : F64)
    (hmm : F64.lt x.st.max x.st.min = false) (h : x.quantile env q = .ok v) :
    F64.lt v x.st.min = false ∧ F64.gt v x.st.max = false := by
  rw [XSketch.quantile_eq] at h
  cases hq : x.sk.quantile env q with
  | error e => rw [hq] at h; cases h
  | ok u =>
    rw [hq] at h
    injection h with h
    subst h
    exact XSketch.clampTo_bounds x u hmm

theorem exact_stats_ordered (l : List (Rat × Rat)) (hl : l ≠ []) :
    F64.lt (exactOf l).max (exactOf l).min = false := by
  obtain ⟨a, ha, ⟨p, hp, hpa⟩, h2⟩ := minOf_spec l hl
  obtain ⟨b, hb, _, h4⟩ := maxOf_spec l hl
  show F64.lt (maxOf l) (minOf l) = false
  rw [ha, hb]
  simpa [F64.lt] using le_trans (h2 p hp) (h4 p hp)

/-- for the statistics of the EMPTY summary the clamp returns `+∞ > max = −∞`: the hypothesis of
    `xsketch_quantile_clamped` is needed (the plain sketch refuses quantiles of an empty sketch, so
    this only matters when sketch and statistics disagree) -/
theorem xsketch_clamp_needs_min_le_max (sk : Sketch) :
    let x : XSketch := { sk := sk, st := Summary.new }
    x.clampTo (.fin 0) = .pinf ∧ F64.gt (x.clampTo (.fin 0)) x.st.max = true := by
  intro x; exact ⟨rfl, rfl⟩

/-- if the plain answer lies within `[min, max]` the exact variant returns the plain answer -/
theorem xsketch_quantile_eq_plain (env : MapEnv) (x : XSketch) (q u : F64)
    (h : x.sk.quantile env q = .ok u) (h1 : F64.lt u x.st.min = false)
    (h2 : F64.gt u x.st.max = false) : x.quantile env q = .ok u := by
  rw [XSketch.quantile_eq, h]
  show Except.ok (x.clampTo u) = _
  rw [XSketch.clampTo_id x u h1 h2]

theorem xsketch_quantile_error (env : MapEnv) (x : XSketch) (q : F64) (e : SkErr)
    (h : x.sk.quantile env q = .error e) : x.quantile env q = .error e := by
  rw [XSketch.quantile_eq, h]

/-- what an accepted `AddWithCount` of the exact variant returns -/
theorem xsketch_add_ok_iff (env : MapEnv) (x x' : XSketch) (v c : F64) (idx : Int) :
    x.addWithCount env v c idx = some (.ok x') ↔
      ∃ sk, x.sk.addWithCount env v c idx = some (.ok sk) ∧
        x' = if F64.eq c (.fin 0) then x else { sk := sk, st := x.st.add v c } := by
  unfold XSketch.addWithCount
  rcases x.sk.addWithCount env v c idx with _ | e | sk
  · simp
  · simp
  · by_cases hc : F64.eq c (.fin 0) <;> simp [hc, eq_comm]

/-- a refused (or panicking) add produces no new state: the result carries no sketch, so the
    caller's `x` — statistics included — is what remains -/
theorem xsketch_add_refused_keeps_stats (env : MapEnv) (x : XSketch) (v c : F64) (idx : Int) :
    (∀ e, x.sk.addWithCount env v c idx = some (.error e) →
        x.addWithCount env v c idx = some (.error e)) ∧
    (x.sk.addWithCount env v c idx = none → x.addWithCount env v c idx = none) ∧
    (∀ x', x.addWithCount env v c idx = some (.ok x') →
        x' = x ∨ ∃ sk, x.sk.addWithCount env v c idx = some (.ok sk) ∧ x'.sk = sk ∧
          x'.st = x.st.add v c) := by
  refine ⟨?_, ?_, ?_⟩
  · intro e h; unfold XSketch.addWithCount; rw [h]
  · intro h; unfold XSketch.addWithCount; rw [h]
  · intro x' h
    obtain ⟨sk, hs, rfl⟩ := (xsketch_add_ok_iff ..).mp h
    split
    · exact .inl rfl
    · exact .inr ⟨sk, hs, rfl, rfl⟩

/-- an accepted value of weight 0 changes nothing (neither statistics nor stores) -/
theorem xsketch_add_zero_weight (env : MapEnv) (x x' : XSketch) (v c : F64) (idx : Int)
    (hc : F64.eq c (.fin 0) = true) (h : x.addWithCount env v c idx = some (.ok x')) : x' = x := by
  obtain ⟨sk, -, rfl⟩ := (xsketch_add_ok_iff ..).mp h
  rw [if_pos hc]

/-- an accepted value of non-zero weight is absorbed by `Summary.add` -/
theorem xsketch_add_accepted (env : MapEnv) (x x' : XSketch) (v c : F64) (idx : Int)
    (hc : F64.eq c (.fin 0) = false) (h : x.addWithCount env v c idx = some (.ok x')) :
    x'.st = x.st.add v c := by
  obtain ⟨sk, -, rfl⟩ := (xsketch_add_ok_iff ..).mp h
  simp [hc]

/-- the other operations act on the statistics through the `Summary` functions above -/
theorem xsketch_stats_ops (x o x' : XSketch) (w : F64) :
    (x.mergeWith o = some (.ok x') → x'.st = x.st.mergeWith o.st) ∧
    (x.reweight w = some (.ok x') → x'.st = x.st.reweight w) ∧
    x.clear.st = Summary.new := by
  refine ⟨?_, ?_, rfl⟩
  · unfold XSketch.mergeWith
    rcases x.sk.mergeWith o.sk with _ | e | sk <;> simp
    rintro rfl; rfl
  · unfold XSketch.reweight
    rcases x.sk.reweight w with _ | e | sk <;> simp
    rintro rfl; rfl

/-! ### `Dataset.Sum()` -/

/-- the ground-truth helper's `Sum()` (a Kahan fold with weight 1) is the exact sum of the values
    whenever the partial counts and partial sums are representable -/
theorem dataset_sum_exact (d : Dataset) (h : RepOK (d.values.map (fun v => (v, (1 : Rat))))) :
    d.sum = .fin d.values.sum := by
  have e : d.sum = (addAll Summary.new (d.values.map (fun v => (v, (1 : Rat))))).getSum := by
    unfold Dataset.sum addAll
    rw [List.foldl_map]; rfl
  rw [e, (fold_exact _ h).2.1]
  congr 1
  unfold tot
  rw [List.map_map]
  congr 1
  have : ((fun p : Rat × Rat => p.1 * p.2) ∘ fun v : Rat => (v, (1 : Rat))) = id := by
    funext v; simp
  rw [this, List.map_id]

example : (Dataset.mk [3, -1, 2, 2, 7] (.fin 5) false).sum = .fin 13 := by
  have := dataset_sum_exact (Dataset.mk [3, -1, 2, 2, 7] (.fin 5) false)
    ⟨by decide +kernel, by decide +kernel, by decide +kernel,
     by decide +kernel, by decide +kernel, by decide +kernel,
     by decide +kernel, by decide +kernel, by decide +kernel,
     by decide +kernel, by decide +kernel, by decide +kernel,
     by decide +kernel, by decide +kernel, by decide +kernel, trivial⟩
  rw [this]; decide +kernel

end DDS.Props.C10
