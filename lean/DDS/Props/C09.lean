/-
  DDS.Props.C09 — the protobuf forms of a sketch.

  * wire primitives round-trip (`varint`, `fixed64`, length-delimited fields, `sint32`);
  * the bytes of the allocation-free streaming writer (`EncodeProto`,
    `ddsketch.proto_builder.go`) parse — with a parser written from the protobuf encoding rules —
    to the very message `ToProto` builds in memory, for the mapping, for one `binCounts` entry,
    for every store kind (sparse, paginated, dense) and for the whole sketch.  The theorems with
    `_exact` in their name state equality of the parsed message with the in-memory one field for
    field; the `norm`-ed statements (what `proto.Equal` compares) are corollaries;
  * `FromProto` of the message of a spec sketch rebuilds it bit for bit;
  * sparse and contiguous bins of one `Store` message add up in `MergeWithProto`.

  Proofs are in `DDS.Proofs.Proto`.
-/
import DDS.Proofs.Proto
import DDS.Proofs.SketchDefs
import DDS.Props.C04Pag

namespace DDS.Props.C09
open DDS DDS.Proto

/-! ### wire primitives -/

theorem varint_roundtrip (v : Nat) (hv : v < 2 ^ 64) (rest : Bytes) :
    rdVarint (varint v ++ rest) = .ok (v, rest) :=
  rdVarint_varint v hv rest

example : rdVarint (varint 300 ++ [7, 9]) = .ok (300, [7, 9]) :=
  varint_roundtrip 300 (by decide) [7, 9]
example : varint 300 = [172, 2] := by decide
example : rdVarint (varint (2 ^ 64 - 1) ++ [1]) = .ok (2 ^ 64 - 1, [1]) :=
  varint_roundtrip _ (by decide) [1]
example : (varint (2 ^ 64 - 1)).length = 10 := by decide

theorem fixed64_roundtrip (b : Nat) (hb : b < 2 ^ 64) (rest : Bytes) :
    rdFixed64 (fixed64 b ++ rest) = .ok (b, rest) :=
  rdFixed64_fixed64 b hb rest

example : rdFixed64 (fixed64 0x3ff8000000000000 ++ [1]) = .ok (0x3ff8000000000000, [1]) :=
  fixed64_roundtrip _ (by decide) _

/-- a length-delimited field (wire type 2) is read back with its payload, the tail untouched -/
theorem lenDelim_roundtrip (tag : Nat) (payload rest : Bytes) (ht : tag < 2 ^ 64)
    (ht2 : tag % 8 = 2) (hl : payload.length < 2 ^ 64) :
    rdField (lenDelim tag payload ++ rest) = .ok (.bytes (tag / 8) payload, rest) :=
  (fieldEnc_lenDelim tag payload ht ht2 hl).rd rest

example : rdField (lenDelim 0x1a [1, 2, 3] ++ [9]) = .ok (.bytes 3 [1, 2, 3], [9]) :=
  lenDelim_roundtrip 0x1a [1, 2, 3] [9] (by decide) (by decide) (by decide)

theorem sint32_roundtrip (k : Int) (hk : -(2:Int)^31 ≤ k ∧ k < (2:Int)^31) :
    unzz32 (pbZigzag k) = k :=
  unzz32_pbZigzag k hk

example : pbZigzag (-3) = 5 ∧ unzz32 5 = -3 := by decide
example : unzz32 (pbZigzag (-2147483648)) = -2147483648 := sint32_roundtrip _ (by decide)

/-- Outside the int32 range the `sint32` field does NOT round-trip (the model's writer, like
    `protowire.EncodeZigZag(int64(v))`, emits all 64 bits; a `sint32` reader truncates): this is
    why the index hypotheses below are needed. -/
example : unzz32 (pbZigzag (2 ^ 31)) = -2147483648 := by decide

/-! ### the mapping and one entry -/

/-- no hypothesis: the parameters travel as bit patterns -/
theorem parseMapping_stream (m : MapId) :
    parseMapping {} (streamMapping m) = .ok (mappingToProto m) :=
  parseMapping_streamMapping m

/-- payload of `streamEntry k v` (`streamEntry k v = lenDelim 0xa (entryPayload k v)`) -/
theorem parseEntry_stream (k : Int) (v : Nat) (hk : I32 k) (hv : v < 2 ^ 64) :
    streamEntry k v = lenDelim 0xa (entryPayload k v) ∧
    parseEntry (entryPayload k v) = .ok (k, v) :=
  ⟨rfl, parseEntry_entryPayload k v hk hv⟩

example : parseEntry (entryPayload (-7) 0x3ff0000000000000) = .ok (-7, 0x3ff0000000000000) :=
  (parseEntry_stream (-7) _ (by decide) (by decide)).2

/-! ### stores -/

/-- The heart of C09, exact form: for every store kind the bytes of `EncodeProto` parse to the
    message of `ToProto`, field for field.  `StoreKeys32 st`: the indexes written fit `sint32`
    (sparse / paginated: every bin index; dense: `minIndex`, the only index that travels). -/
theorem parseStore_stream_exact (st : Store) (hst : StoreKeys32 st) :
    ∀ pb bs, storeToProto st = some pb → streamStore st = some bs →
      parseStore {} bs = .ok pb :=
  fun pb bs => parseStore_streamStore st hst pb bs

/-- as compared by `proto.Equal` (map semantics of `binCounts`) -/
theorem parseStore_stream (st : Store) (hst : StoreKeys32 st) :
    ∀ pb bs, storeToProto st = some pb → streamStore st = some bs →
      (parseStore {} bs).map (fun p => normStore (some p)) = .ok (normStore (some pb)) := by
  intro pb bs h1 h2
  rw [parseStore_stream_exact st hst pb bs h1 h2]; rfl

/-- a sparse store with three bins -/
def sp3 : Store := .sp [(-2, 1), (0, 5 / 2), (7, 3)]

theorem sp3_keys : StoreKeys32 sp3 := by
  show ∀ p ∈ ([(-2, 1), (0, 5 / 2), (7, 3)] : Content), I32 p.1
  decide

/-- a dense store with three bins at indexes 10, 11, 12 -/
def d3 : Store :=
  .d { kind := .plain, bins := #[1, 2, 3], count := 6, offset := 10, minIndex := 10, maxIndex := 12,
       isCollapsed := false }

theorem d3_keys : StoreKeys32 d3 := fun _ => by decide

theorem d3_toProto : storeToProto d3 =
    some { contiguous := [ratBits 1, ratBits 2, ratBits 3], contiguousOffset := 10 } := by
  decide +kernel

theorem d3_stream_some : (streamStore d3).isSome = true := by decide +kernel

example : ∃ bs, streamStore d3 = some bs ∧ parseStore {} bs =
    .ok { contiguous := [ratBits 1, ratBits 2, ratBits 3], contiguousOffset := 10 } := by
  obtain ⟨bs, hbs⟩ := Option.isSome_iff_exists.mp d3_stream_some
  exact ⟨bs, hbs, parseStore_stream_exact d3 d3_keys _ _ d3_toProto hbs⟩

/-- a paginated store: the one reached from `PStore.new` by adding index 3, index 40 (with a
    compaction), index 3 again (C04Pag gives its bins: `{3 ↦ 2, 40 ↦ 1}`) -/
def pgOps : List PStore.Op := [.add 3 1 false, .add 40 1 true, .add 3 1 false]

example : ∃ s, PStore.run PStore.new pgOps = some s ∧ StoreKeys32 (.pg s) ∧
    storeToProto (.pg s) = some { binCounts := [(3, ratBits 2), (40, ratBits 1)] } ∧
    ∀ bs, streamStore (.pg s) = some bs →
      parseStore {} bs = .ok { binCounts := [(3, ratBits 2), (40, ratBits 1)] } := by
  obtain ⟨s, h1, _, h3, _, h5, _⟩ := C04Pag.history_observers pgOps (by
    intro op hop
    simp [pgOps] at hop
    rcases hop with rfl | rfl | rfl <;> exact ⟨⟨by decide, by decide⟩, by decide⟩)
  have hc : PStore.specRun [] pgOps = [(3, 2), (40, 1)] := by decide +kernel
  rw [hc] at h3 h5
  have hk : StoreKeys32 (.pg s) := by
    intro _ p hp
    rw [h3] at hp
    simp at hp
    rcases hp with rfl | rfl <;> decide
  have hp : storeToProto (.pg s) = some { binCounts := [(3, ratBits 2), (40, ratBits 1)] } := by
    simp only [storeToProto, h5, h3]
    rfl
  exact ⟨s, h1, hk, hp, fun bs hbs => parseStore_stream_exact _ hk _ bs hp hbs⟩

/-! ### the whole sketch -/

/-- size of the written stores: the length prefix of an embedded message is a 64-bit varint.
    `wireBins` is the number of bins the writer emits (sparse / paginated: bins; dense: the window
    `minIndex..maxIndex`); a written store takes at most `58·wireBins + 20` bytes
    (`streamStore_length_le`). -/
def FitsLen (st : Store) : Prop := 58 * wireBins st + 20 < 2 ^ 64

theorem pbParse_stream_exact (s : Sketch) (m : MapId) (hm : s.mapping = some m)
    (hpos : StoreKeys32 s.pos) (hneg : StoreKeys32 s.neg)
    (hlp : FitsLen s.pos) (hln : FitsLen s.neg) :
    ∀ msg bs, toProto s = some msg → streamBytes s = some bs → pbParse bs = .ok msg := by
  intro msg bs h1 h2
  refine pbParse_streamBytes s m hm hpos hneg msg bs h1 h2 (fun n p hn hp => ⟨?_, ?_⟩)
  · exact Nat.lt_of_le_of_lt (streamStore_length_le _ _ hn) hln
  · exact Nat.lt_of_le_of_lt (streamStore_length_le _ _ hp) hlp

theorem pbParse_stream (s : Sketch) (m : MapId) (hm : s.mapping = some m)
    (hpos : StoreKeys32 s.pos) (hneg : StoreKeys32 s.neg)
    (hlp : FitsLen s.pos) (hln : FitsLen s.neg) :
    ∀ msg bs, toProto s = some msg → streamBytes s = some bs →
      (pbParse bs).map norm = .ok (norm msg) := by
  intro msg bs h1 h2
  rw [pbParse_stream_exact s m hm hpos hneg hlp hln msg bs h1 h2]; rfl

/-- a sketch without mapping cannot be written by the streaming writer (Go dereferences the
    mapping), while `ToProto` happily builds a message without one -/
theorem streamBytes_none_of_no_mapping (s : Sketch) (h : s.mapping = none) :
    streamBytes s = none := by
  unfold streamBytes; rw [h]; rfl

/-- the logarithmic mapping with `gamma = 1.02` -/
def m102 : MapId := { kind := .log, gamma := F64.ofBits 0x3FF051EB851EB852, indexOffset := .fin 0 }

/-- a small sketch: sparse positive store, dense negative store, zero count 2 -/
def sk : Sketch := { mapping := some m102, pos := sp3, neg := d3, zero := .fin 2 }

example : ∀ msg bs, toProto sk = some msg → streamBytes sk = some bs → pbParse bs = .ok msg :=
  pbParse_stream_exact sk m102 rfl
    sp3_keys d3_keys (by unfold FitsLen; decide) (by unfold FitsLen; decide)

example : (toProto sk).isSome = true ∧ (streamBytes sk).isSome = true := by decide +kernel

/-! ### rebuilding -/

/-- `FromProto(ToProto(s))` for a spec sketch: same contents, same mapping identity, same zero
    weight, bit for bit.  Hypotheses: the weights are binary64 numbers (a `Content` is a list of
    rationals; in Go they are floats by construction), the mapping parameters and the zero weight
    are bit patterns that survive `toBits/ofBits` (idem), and `gamma > 1` as the constructors
    require (`¬ gamma <= 1`). -/
theorem fromProto_toProto_spec (m : MapId) (cp cn : Content) (z : F64) (hcp : cp.WF) (hcn : cn.WF)
    (hw : ∀ p ∈ cp ++ cn, F64.isRep p.2 = true)
    (hg : F64.ofBits (F64.toBits m.gamma) = m.gamma)
    (ho : F64.ofBits (F64.toBits m.indexOffset) = m.indexOffset)
    (h1 : F64.le m.gamma (.fin 1) = false)
    (hz : F64.ofBits (F64.toBits z) = z) :
    ∀ msg, toProto (Sketch.spec (some m) cp cn z) = some msg →
      fromProto .sparse msg = some (.ok (Sketch.spec (some m) cp cn z)) := by
  intro msg hmsg
  simp only [toProto, Sketch.spec, storeToProto, Option.bind_eq_bind, Option.bind_some,
    Option.pure_def, Option.some.injEq, Option.map_some] at hmsg
  subst hmsg
  exact fromProto_spec m cp cn z hcp hcn (fun p hp => hw p (by simp [hp]))
    (fun p hp => hw p (by simp [hp])) hg ho h1 hz

example : ∀ msg, toProto (Sketch.spec (some m102) [(-2, 1), (0, 5 / 2), (7, 3)] [(4, 1)] (.fin 2)) = some msg →
    fromProto .sparse msg =
      some (.ok (Sketch.spec (some m102) [(-2, 1), (0, 5 / 2), (7, 3)] [(4, 1)] (.fin 2))) := by
  have hγ : F64.ofBits 0x3FF051EB851EB852 = .fin (4593671619917906 / 4503599627370496) := by
    simp [F64.ofBits, pow2_eq_zpow]; norm_num
  refine fromProto_toProto_spec m102 _ _ _ ?_ ?_ ?_ ?_ ?_ ?_ ?_
  · refine ⟨⟨by decide, by decide, trivial⟩, ?_⟩
    intro p hp; simp at hp; rcases hp with rfl | rfl | rfl <;> norm_num
  · exact ⟨trivial, by intro p hp; simp at hp; subst hp; norm_num⟩
  · intro p hp
    simp at hp
    rcases hp with rfl | rfl | rfl | rfl <;> decide +kernel
  · show F64.ofBits (F64.toBits (F64.ofBits 0x3FF051EB851EB852)) = F64.ofBits 0x3FF051EB851EB852
    rw [F64.ofBits_toBits_fin _ (by rw [hγ]; simp) (by decide)]
  · exact F64.toBits_ofBits_rep 0 (by decide +kernel)
  · show F64.le (F64.ofBits 0x3FF051EB851EB852) (.fin 1) = false
    rw [hγ, F64.le_fin]; norm_num
  · exact F64.toBits_ofBits_rep 2 (by decide +kernel)

/-- without representability of the weights the statement is false: the rational `1/3` is not a
    binary64 number, its bit pattern is that of the float below it, and that is what comes back -/
example : weightOf (ratBits (1 / 3)) ≠ some (1 / 3) := by decide +kernel

/-! ### sparse and contiguous bins of one message add up -/

/-- `MergeWithProto` into an empty sparse store: the weight at `j` is what the (canonical,
    last-entry-per-key) `binCounts` give to `j` plus what the contiguous counts give to `j`
    (entry number `i` sits at index `i + contiguousBinIndexOffset`). -/
theorem mergeWithProto_adds (pb : PbStore) (st : Store)
    (h : mergeWithProto (.sp []) pb = some st) :
    ∃ c, st = .sp c ∧ ∀ j, c.lookup j =
      binWeight (normBinCounts pb.binCounts) j +
        contigWeight pb.contiguous pb.contiguousOffset j := by
  obtain ⟨c, hc, hl⟩ := mergeWithProto_sp pb [] st h
  refine ⟨c, hc, fun j => ?_⟩
  rw [hl j]; simp

/-- the contiguous part, by position: entry number `j − offset`, when there is one -/
theorem contigWeight_at (l : List Nat) (off j : Int) :
    contigWeight l off j =
      if off ≤ j ∧ j - off < l.length then (weightOf (l.getD (j - off).toNat 0)).getD 0 else 0 :=
  contigWeight_eq l off j

/-- the merge succeeds (no panic) as soon as every weight of the message is a finite float -/
theorem mergeWithProto_defined (pb : PbStore)
    (hb : ∀ e ∈ pb.binCounts, (weightOf e.2).isSome = true)
    (hc : ∀ v ∈ pb.contiguous, (weightOf v).isSome = true) :
    ∃ c, mergeWithProto (.sp []) pb = some (.sp c) :=
  mergeWithProto_sp_some pb [] hb hc

/-- one message with both kinds of bins: sparse `{3 ↦ 1.0, 5 ↦ 2.0}`, contiguous `[1.0, 1.0, 4.0]`
    from index 4: index 5 receives `2.0 + 1.0` -/
def pbBoth : PbStore :=
  { binCounts := [(3, 0x3ff0000000000000), (5, 0x4000000000000000)],
    contiguous := [0x3ff0000000000000, 0x3ff0000000000000, 0x4010000000000000],
    contiguousOffset := 4 }

example : ∃ c, mergeWithProto (.sp []) pbBoth = some (.sp c) ∧ c.lookup 5 = 3 ∧ c.lookup 3 = 1 ∧
    c.lookup 6 = 4 ∧ c.lookup 7 = 0 := by
  obtain ⟨c, hc⟩ := mergeWithProto_defined pbBoth
    (by intro e he; simp [pbBoth] at he; rcases he with rfl | rfl <;> decide +kernel)
    (by intro v hv; simp [pbBoth] at hv; rcases hv with rfl | rfl <;> decide +kernel)
  obtain ⟨c', hc', hl⟩ := mergeWithProto_adds pbBoth _ hc
  cases hc'
  have hn : normBinCounts pbBoth.binCounts = pbBoth.binCounts :=
    normBinCounts_of_increasing _ (by simp [pbBoth])
  refine ⟨c, hc, ?_, ?_, ?_, ?_⟩ <;> rw [hl, hn, contigWeight_at] <;> decide +kernel

end DDS.Props.C09
