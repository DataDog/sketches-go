/-
  DDS.Props.C13Stat — the constructor checks of `stat.NewSummaryStatisticsFromData`
  (property C13: "constructors refuse …"; anchor `stat/summary.go:37-55`), stated outright as a
  decision table over IEEE classes, and what an accepted construction holds.

  * `fromData_refuses_iff`      : refused exactly when `!(count ≥ 0)` (negative or NaN count), or
                                  `count > 0 ∧ min > max`, or `count = 0` without the `+Inf/−Inf` sentinels;
  * `fromData_negative_count`, `fromData_nan_count`, `fromData_min_gt_max`,
    `fromData_empty_needs_sentinels` : the rows of the table;
  * `fromData_accepts`          : an accepted construction holds exactly the data it was given
                                  (`sum` and `simpleSum` the given sum, compensation 0);
  * `fromData_new`              : the data of a new summary (`0, 0, +Inf, −Inf`) is accepted and gives `new`.
  Then the argument checks of the mapping constructors (accuracy, gamma) and of a bin's count (`DDS.Ctor`).
-/
import DDS.Model.Summary
import DDS.Model.Ctor
import Mathlib.Tactic.Linarith

namespace DDS.Props.C13Stat
open DDS DDS.Summary

/-! ### the constructor of the summary statistics -/

/-- the three reasons for refusing -/
def Refused (count min max : F64) : Prop :=
  F64.ge count (.fin 0) = false ∨
  (F64.gt count (.fin 0) = true ∧ F64.gt min max = true) ∨
  (F64.eq count (.fin 0) = true ∧ (min ≠ .pinf ∨ max ≠ .ninf))

theorem fromData_refuses_iff (count sum min max : F64) :
    fromData count sum min max = none ↔ Refused count min max := by
  unfold fromData Refused
  split_ifs with h1 h2 h3 <;> simp_all

theorem fromData_negative_count (c : Rat) (hc : c < 0) (sum min max : F64) :
    fromData (.fin c) sum min max = none := by
  rw [fromData_refuses_iff]
  left
  simp [F64.ge, F64.le, F64.lt, F64.eq, hc.not_gt, hc.ne']

theorem fromData_nan_count (sum min max : F64) : fromData .nan sum min max = none := by
  rw [fromData_refuses_iff]; left; rfl

theorem fromData_neg_inf_count (sum min max : F64) : fromData .ninf sum min max = none := by
  rw [fromData_refuses_iff]; left; rfl

theorem fromData_min_gt_max (count sum min max : F64)
    (hc : F64.gt count (.fin 0) = true) (hm : F64.gt min max = true) :
    fromData count sum min max = none := by
  rw [fromData_refuses_iff]; exact Or.inr (Or.inl ⟨hc, hm⟩)

theorem fromData_empty_needs_sentinels (count sum min max : F64)
    (hc : F64.eq count (.fin 0) = true) (hm : min ≠ .pinf ∨ max ≠ .ninf) :
    fromData count sum min max = none := by
  rw [fromData_refuses_iff]; exact Or.inr (Or.inr ⟨hc, hm⟩)

theorem fromData_accepts (count sum min max : F64) (s : Summary)
    (h : fromData count sum min max = some s) :
    s.count = count ∧ s.sum = sum ∧ s.sumCompensation = .fin 0 ∧ s.simpleSum = sum ∧
      s.min = min ∧ s.max = max := by
  unfold fromData at h
  split at h
  · exact absurd h (by simp)
  · split at h
    · exact absurd h (by simp)
    · split at h
      · exact absurd h (by simp)
      · cases h; exact ⟨rfl, rfl, rfl, rfl, rfl, rfl⟩

theorem fromData_accepts_iff (count sum min max : F64) :
    (∃ s, fromData count sum min max = some s) ↔ ¬ Refused count min max := by
  rw [← fromData_refuses_iff count sum min max]
  cases h : fromData count sum min max <;> simp

theorem fromData_new : fromData (.fin 0) (.fin 0) .pinf .ninf = some Summary.new := by
  decide

/-- non-vacuity: a non-trivial accepted instance and one refused instance per row -/
example : ∃ s, fromData (.fin 3) (.fin 6) (.fin 1) (.fin 3) = some s ∧ s.min = .fin 1 :=
  ⟨{ count := .fin 3, sum := .fin 6, sumCompensation := .fin 0, simpleSum := .fin 6, min := .fin 1,
     max := .fin 3 }, by decide, rfl⟩
example : fromData (.fin 3) (.fin 6) (.fin 3) (.fin 1) = none := by decide
example : fromData (.fin 0) (.fin 0) (.fin 1) (.fin 3) = none := by decide
example : fromData (.fin (-1)) (.fin 0) .pinf .ninf = none :=
  fromData_negative_count (-1) (by decide) _ _ _

/-! ### the constructors of mappings and bins -/

open DDS.Ctor

/-- accuracies outside (0,1) are refused, those inside accepted -/
theorem alphaRefused_iff (a : Rat) : alphaRefused (.fin a) = true ↔ a ≤ 0 ∨ 1 ≤ a := by
  simp only [alphaRefused, F64.le, F64.ge, F64.lt, F64.eq, Bool.or_eq_true, decide_eq_true_eq,
    beq_iff_eq, ← le_iff_lt_or_eq]

theorem alphaRefused_inf : alphaRefused .pinf = true ∧ alphaRefused .ninf = true := by decide

/-- bases not above one are refused -/
theorem gammaRefused_iff (g : Rat) : gammaRefused (.fin g) = true ↔ g ≤ 1 := by
  simp only [gammaRefused, F64.le, F64.lt, F64.eq, Bool.or_eq_true, decide_eq_true_eq, beq_iff_eq,
    ← le_iff_lt_or_eq]

theorem gammaRefused_ninf : gammaRefused .ninf = true := by decide

/-- a bin with a negative count is refused, every other finite count accepted -/
theorem binRefused_iff (c : Rat) : binRefused (.fin c) = true ↔ c < 0 := by
  simp [binRefused, F64.lt]

example : alphaRefused (.fin (1 / 100)) = false := by decide +kernel
example : alphaRefused (.fin 1) = true := by decide +kernel
example : gammaRefused (.fin (102 / 100)) = false := by decide +kernel

end DDS.Props.C13Stat
