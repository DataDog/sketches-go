/-
  DDS.Props.C02GenPag — property C02 (full mergeability) and the weighted histories of C11 for the DEFAULT sketch
  ENTIRELY ON REGENERATED CODE: the regenerated `DDSketch` (`DDS/Generated/CodeSketch.lean`) over the regenerated
  buffered-paginated store (`DDS/Generated/CodePaginated.lean`) through `instance : StoreI (GPS grow)`
  (`DDS/Proofs/GenPagSketch.lean`), for every growth policy `grow` of the Go runtime.  The mapping stays the
  model's oracle `MapEnv`, as in `GenSketch2` / `C01GenPag`.

  * `model_runAdds_w`: on the model-store instance a history of `AddWithCount(v, c)` calls with rational arguments
    run by the regenerated sketch code is the model's `Sketch.addAll` (`C01GenPag.model_runAdds_pairs`).
  * `model_eval`: on the model-store instance the regenerated sketch code evaluates a merge tree to the model's
    `Lift.KTree.eval` with paginated leaves, no call returning an error (`GenSketch2.MergeWith_rel` at the nodes).
  * `merge_tree_regenerated` (**C02 on regenerated code**): for every merge tree `t`, the tree evaluated by the
    regenerated code over the regenerated stores and the SINGLE regenerated sketch fed the concatenated input
    `t.flat` return no error anywhere and answer EVERY observer alike: `GetCount`, `IsEmpty`, `GetZeroCount`,
    `GetValueAtQuantile q` for all `q` (no guard), `GetMinValue`, `GetMaxValue`.  Hypotheses: those of
    `Lift.merge_tree_any_stores` (magnitudes at most the maximum indexable value, weights `≥ 0`, exact zero-bucket
    sums, int32 indexes, reflexive `Equals` of the mapping identity).
  * `merge_tree_regenerated_spec`: … and both answer like the spec sketch `s₀` built from `t.flat`
    (`Lift.merge_tree_any_stores` transported through `GenSketch2`'s `QRel` / `ExtRel`; the quantile with that
    theorem's guard).
  * `weighted_history_regenerated` (**C11 on regenerated code**): after a weighted history (`|v| ≤ max`, `c ≥ 0`, int32
    indexes) no add is refused and the three-way description of `Lift.quantile_weighted_history_any_store` holds
    for the answer of the regenerated `GetValueAtQuantile` (value and nil error).
-/
import DDS.Proofs.GenPagSketch2
import DDS.Proofs.GenSketch2
import DDS.Props.Lift2
import DDS.Props.C01GenPag

namespace DDS.Props.C02GenPag

open DDS DDS.GoSem DDS.Gen.Sketch DDS.Gen.Paginated DDS.GenSketch DDS.GenPagSketch

/-- a history of `AddWithCount(v, c)` calls with rational (finite float) arguments -/
def ratAdds (l : List (Rat × Rat)) : List (F64 × F64) := l.map (fun p => (F64.fin p.1, F64.fin p.2))

/-- the routing condition of `GenPagSketch.AddWithCount_param` for a rational history -/
theorem routed32_ratAdds (env : MapEnv) (mn : Rat) (hmin : env.minIndexable = .fin mn) (hmn : 0 ≤ mn)
    (l : List (Rat × Rat)) (h32 : ∀ p ∈ l, mn < rabs p.1 → Lift.I32 (env.index (.fin (rabs p.1)))) :
    ∀ p ∈ ratAdds l, Routed32 env p.1 := by
  intro p hp
  simp only [ratAdds, List.mem_map] at hp
  obtain ⟨x, hx, rfl⟩ := hp
  exact C01GenPag.routed32_of env mn hmin hmn x.1 (h32 x hx)

/-! ### the model keeps the mapping -/

/-- a success of the model has the mapping of `s` -/
def KeepsMapping (s : Sketch) (r : Option (Except SkErr Sketch)) : Prop :=
  ∀ s', r = some (.ok s') → s'.mapping = s.mapping

/-- every exit of `Sketch.addWithCount` is a refusal, a panic of a store, or `{ s with pos := _ }`, `{ s with neg := _ }`,
    `{ s with zero := _ }` -/
theorem addV_mapping (env : MapEnv) (s : Sketch) (v c : Rat) : KeepsMapping s (s.addV env v c) :=
  have ok : ∀ t : Sketch, t.mapping = s.mapping → KeepsMapping s (pure (.ok t)) := fun _ ht _ h => by cases h; exact ht
  ite_pred _ _ (fun _ => nofun) (ite_pred _ _
    (ite_pred _ _ (fun _ => nofun) (bind_pred _ (fun _ => nofun) _ fun _ => bind_pred _ (fun _ => nofun) _ fun _ => ok _ rfl))
    (ite_pred _ _
      (ite_pred _ _ (fun _ => nofun) (bind_pred _ (fun _ => nofun) _ fun _ => bind_pred _ (fun _ => nofun) _ fun _ => ok _ rfl))
      (ite_pred _ _ (fun _ => nofun) (bind_pred _ (fun _ => nofun) _ fun _ => ok _ rfl))))

theorem addAll_mapping (env : MapEnv) (l : List (Rat × Rat)) :
    ∀ s s' : Sketch, Sketch.addAll env s l = some s' → s'.mapping = s.mapping := by
  induction l with
  | nil => intro s s' h; cases h; rfl
  | cons p rest ih =>
    intro s s' h
    obtain ⟨s1, h1, h2⟩ := C01GenPag.addAll_cons_some h
    rw [ih s1 s' h2, addV_mapping env s p.1 p.2 s1 h1]

theorem mergeWith_mapping (s o : Sketch) : KeepsMapping s (s.mergeWith o) :=
  ite_pred _ _ (fun _ => nofun) (bind_pred _ (fun _ => nofun) _ fun _ => bind_pred _ (fun _ => nofun) _ fun _ _ h => by
    cases h; rfl)

/-! ### the regenerated sketch code over the model stores runs the model -/

theorem model_runAdds_w (env : MapEnv) (mn : Rat) (hmin : env.minIndexable = .fin mn) (hmn : 0 ≤ mn)
    (l : List (Rat × Rat)) : ∀ (s0 s : Sketch), Sketch.addAll env s0 l = some s →
      runAdds (toGen env s0) (ratAdds l) = (toGen env s, List.replicate l.length GoErr.nil) :=
  C01GenPag.model_runAdds_pairs env mn hmin hmn l

/-- the model's merge tree as a tree of regenerated calls -/
def toG : C02.MergeTree → GTree
  | .leaf l => .leaf (ratAdds l)
  | .node l r => .node (toG l) (toG r)

theorem toG_flat (t : C02.MergeTree) : (toG t).flat = ratAdds t.flat := by
  induction t with
  | leaf l => rfl
  | node l r ihl ihr =>
    show (toG l).flat ++ (toG r).flat = _
    rw [ihl, ihr]
    exact (List.map_append ..).symm

/-- the model's merge tree with paginated stores at every leaf -/
def toK : C02.MergeTree → DDS.Lift.KTree
  | .leaf l => .leaf .pag l
  | .node l r => .node (toK l) (toK r)

theorem toK_erase (t : C02.MergeTree) : (toK t).erase = t := by
  induction t with
  | leaf l => rfl
  | node l r ihl ihr => exact congr (congrArg _ ihl) ihr

theorem toK_flat (t : C02.MergeTree) : (toK t).flat = t.flat := by
  unfold DDS.Lift.KTree.flat; rw [toK_erase]

theorem toK_plain (t : C02.MergeTree) : (toK t).AllPlain := by
  induction t with
  | leaf l => trivial
  | node l r ihl ihr => exact ⟨ihl, ihr⟩

theorem eval_node_some {env : MapEnv} {l r : DDS.Lift.KTree} {s : Sketch}
    (h : (DDS.Lift.KTree.node l r).eval env = some s) :
    ∃ a b, l.eval env = some a ∧ r.eval env = some b ∧ a.mergeWith b = some (.ok s) := by
  unfold DDS.Lift.KTree.eval at h
  split at h
  · split at h
    · cases h; exact ⟨_, _, ‹_›, ‹_›, ‹_›⟩
    · cases h
  · cases h

/-- on the model-store instance the regenerated sketch code evaluates a merge tree to the model's result; no call
    returns an error -/
theorem model_eval (env : MapEnv) (mn : Rat) (hmin : env.minIndexable = .fin mn) (hmn : 0 ≤ mn)
    (t : C02.MergeTree) : ∀ s, (toK t).eval env = some s →
      s.mapping = some env.id ∧
      (GTree.eval (toGen env (Sketch.new (some env.id) .pag)) (toG t)).1 = toGen env s ∧
      ∀ e ∈ (GTree.eval (toGen env (Sketch.new (some env.id) .pag)) (toG t)).2, e = GoErr.nil := by
  induction t with
  | leaf l =>
    intro s h
    have hr : GTree.eval _ (toG (.leaf l)) = _ := model_runAdds_w env mn hmin hmn l _ s h
    rw [hr]
    exact ⟨addAll_mapping env l _ s h, rfl, fun e he => (List.mem_replicate.1 he).2⟩
  | node l r ihl ihr =>
    intro s h
    obtain ⟨a, b, hl, hr, hm⟩ := eval_node_some h
    obtain ⟨ma, ga, ea⟩ := ihl a hl
    obtain ⟨mb, gb, eb⟩ := ihr b hr
    have hrel : DDSketch.MergeWith (toGen env a) (toGen env b) = (toGen env s, GoErr.nil) := by
      have := MergeWith_rel env env a b ma mb
      rwa [hm] at this
    rw [show toG (.node l r) = .node (toG l) (toG r) from rfl, GTree.eval_node, ga, gb, hrel]
    refine ⟨(mergeWith_mapping a b s hm).trans ma, rfl, fun e he => ?_⟩
    simp only [List.mem_append, List.mem_singleton] at he
    rcases he with (he | he) | he
    · exact ea e he
    · exact eb e he
    · exact he

/-! ### C02 on regenerated code -/

/-- the facts shared by the two statements below: the tree result and the single sketch are both related to the
    model's single paginated sketch `s1`, which observes like the spec sketch `s₀` -/
theorem merge_tree_core (grow : Int → Int → Int) (env : MapEnv) (mn mx : Rat)
    (hmn : env.minIndexable = .fin mn) (hmx : env.maxIndexable = .fin mx)
    (hmn0 : 0 ≤ mn) (hrefl : env.id.equals env.id = true) (t : C02.MergeTree)
    (hacc : ∀ p ∈ t.flat, rabs p.1 ≤ mx ∧ 0 ≤ p.2)
    (hexact : C02.ExactSums (Sketch.zeroPart mn t.flat))
    (h32 : ∀ p ∈ t.flat, mn < rabs p.1 → Lift.I32 (env.index (.fin (rabs p.1)))) :
    let mk := NewDDSketch env (⟨NewBufferedPaginatedStore⟩ : GPS grow) ⟨NewBufferedPaginatedStore⟩
    let g := GTree.eval mk (toG t)
    let g1 := runAdds mk (ratAdds t.flat)
    (∀ e ∈ g.2, e = GoErr.nil) ∧ (∀ e ∈ g1.2, e = GoErr.nil) ∧
    ∃ s1, Sketch.addAll env (Sketch.new (some env.id) .pag) t.flat = some s1 ∧
      SkSim g.1 (toGen env s1) ∧ SkSim g1.1 (toGen env s1) := by
  intro mk g g1
  obtain ⟨s, s₀, cp, cn, he, h0, hsp, _, R, _⟩ :=
    Lift.merge_tree_any_stores env mn mx hmn hmx hmn0 hrefl (toK t) (toK_plain t)
      (by rw [toK_flat]; exact hacc) (by rw [toK_flat]; exact hexact) (by rw [toK_flat]; exact h32)
  obtain ⟨s1, s₀', cp', cn', he1, h0', hsp', _, R1, _⟩ :=
    Lift.merge_tree_any_stores env mn mx hmn hmx hmn0 hrefl (.leaf .pag t.flat) trivial hacc hexact h32
  -- both are described by the spec sketch `s₀` of `t.flat`: the same contents and zero count
  rw [toK_flat] at h0
  cases Option.some.inj (h0.symm.trans h0')
  have hinj := hsp.symm.trans hsp'
  simp only [Sketch.spec, Sketch.mk.injEq, Store.sp.injEq, true_and] at hinj
  obtain ⟨rfl, rfl, ez⟩ := hinj
  -- the model side
  obtain ⟨_, hg, herr⟩ := model_eval env mn hmn hmn0 t s he
  have hr1 := model_runAdds_w env mn hmn hmn0 t.flat _ s1 he1
  -- parametricity
  have hlG : ∀ p ∈ (toG t).flat, Routed32 env p.1 := by
    rw [toG_flat]; exact routed32_ratAdds env mn hmn hmn0 t.flat h32
  obtain ⟨eG, sG⟩ := evalTree_param (grow := grow) (skSim_new env) (toG t) hlG
  obtain ⟨e1, sS⟩ := runAdds_param (grow := grow) (ratAdds t.flat) (skSim_new env)
    (routed32_ratAdds env mn hmn hmn0 t.flat h32)
  rw [NewDDSketch_eq env (some env.id) .pag] at eG sG e1 sS
  rw [hg] at sG
  rw [hr1] at sS e1
  have hS : SkSim g1.1 (toGen env s1) := sS
  -- retarget the tree result to the single model sketch: both refine `cp`, `cn`
  have hG : SkSim g.1 (toGen env s1) :=
    skSim_retarget (b' := toGen env s1) sG rfl ez
      (congrArg (·.getD []) (R.pos.bins.trans R1.pos.bins.symm))
      (congrArg (·.getD []) (R.neg.bins.trans R1.neg.bins.symm))
      (sim_model_pg hS.pos) (sim_model_pg hS.neg)
  exact ⟨fun e hin => herr e (eG ▸ hin), fun e hin => (List.mem_replicate.1 (e1 ▸ hin)).2, s1, he1, hG, hS⟩

/-- **C02 on regenerated code, sketch and store**: a tree of merges over default sketches
    (`NewDDSketch(mapping, NewBufferedPaginatedStore(), NewBufferedPaginatedStore())`) built from the pieces of the
    input and the single default sketch that received the whole input `t.flat` return no error on any call and
    answer every observer alike, for every growth policy of the runtime.  Hypotheses: those of
    `Lift.merge_tree_any_stores`. -/
theorem merge_tree_regenerated (grow : Int → Int → Int) (env : MapEnv) (mn mx : Rat)
    (hmn : env.minIndexable = .fin mn) (hmx : env.maxIndexable = .fin mx)
    (hmn0 : 0 ≤ mn) (hrefl : env.id.equals env.id = true) (t : C02.MergeTree)
    (hacc : ∀ p ∈ t.flat, rabs p.1 ≤ mx ∧ 0 ≤ p.2)
    (hexact : C02.ExactSums (Sketch.zeroPart mn t.flat))
    (h32 : ∀ p ∈ t.flat, mn < rabs p.1 → Lift.I32 (env.index (.fin (rabs p.1)))) :
    let mk := NewDDSketch env (⟨NewBufferedPaginatedStore⟩ : GPS grow) ⟨NewBufferedPaginatedStore⟩
    let g := GTree.eval mk (toG t)
    let g1 := runAdds mk (ratAdds t.flat)
    (∀ e ∈ g.2, e = GoErr.nil) ∧ (∀ e ∈ g1.2, e = GoErr.nil) ∧
    DDSketch.GetCount g.1 = DDSketch.GetCount g1.1 ∧ DDSketch.IsEmpty g.1 = DDSketch.IsEmpty g1.1 ∧
    DDSketch.GetZeroCount g.1 = DDSketch.GetZeroCount g1.1 ∧
    (∀ q, DDSketch.GetValueAtQuantile g.1 q = DDSketch.GetValueAtQuantile g1.1 q) ∧
    DDSketch.GetMinValue g.1 = DDSketch.GetMinValue g1.1 ∧
    DDSketch.GetMaxValue g.1 = DDSketch.GetMaxValue g1.1 := by
  intro mk g g1
  obtain ⟨a, b, _, _, hG, hS⟩ := merge_tree_core grow env mn mx hmn hmx hmn0 hrefl t hacc hexact h32
  exact ⟨a, b, observers_of_common_target hG hS⟩

/-- … and both answer like the spec sketch `s₀` that received `t.flat`: `GetCount`, `IsEmpty` equal; the extreme
    getters and `GetValueAtQuantile` in the value/error correspondence of `GenSketch2` (`ExtRel`, `QRel`), the
    quantile under the guard of `Lift.merge_tree_any_stores` (the positive store is consulted only if it is
    non-empty) -/
theorem merge_tree_regenerated_spec (grow : Int → Int → Int) (env : MapEnv) (mn mx : Rat)
    (hmn : env.minIndexable = .fin mn) (hmx : env.maxIndexable = .fin mx)
    (hmn0 : 0 ≤ mn) (hrefl : env.id.equals env.id = true) (t : C02.MergeTree)
    (hacc : ∀ p ∈ t.flat, rabs p.1 ≤ mx ∧ 0 ≤ p.2)
    (hexact : C02.ExactSums (Sketch.zeroPart mn t.flat))
    (h32 : ∀ p ∈ t.flat, mn < rabs p.1 → Lift.I32 (env.index (.fin (rabs p.1)))) :
    let mk := NewDDSketch env (⟨NewBufferedPaginatedStore⟩ : GPS grow) ⟨NewBufferedPaginatedStore⟩
    let g := GTree.eval mk (toG t)
    ∃ s₀ cp cn, Sketch.addAll env (Sketch.new (some env.id) .sparse) t.flat = some s₀ ∧
      s₀ = Sketch.spec (some env.id) cp cn (DDSketch.GetZeroCount g.1) ∧
      DDSketch.GetCount g.1 = s₀.getCount ∧ DDSketch.IsEmpty g.1 = s₀.isEmpty ∧
      ExtRel (s₀.getMin env) (DDSketch.GetMinValue g.1) ∧ ExtRel (s₀.getMax env) (DDSketch.GetMaxValue g.1) ∧
      ∀ q : F64, (cp = [] → s₀.usesPos q = false) →
        QRel (s₀.quantile env q) (DDSketch.GetValueAtQuantile g.1 q) := by
  intro mk g
  obtain ⟨_, _, s1, he1, hG, _⟩ := merge_tree_core grow env mn mx hmn hmx hmn0 hrefl t hacc hexact h32
  obtain ⟨s1', s₀, cp, cn, he1', h0, hsp, _, _, c1, c2, _, _, c5, c6, c7⟩ :=
    Lift.merge_tree_any_stores env mn mx hmn hmx hmn0 hrefl (.leaf .pag t.flat) trivial hacc hexact h32
  cases Option.some.inj (he1.symm.trans he1')
  refine ⟨s₀, cp, cn, h0, ?_, ?_, ?_, ?_, ?_, ?_⟩
  · rw [GetZeroCount_param hG]; exact hsp
  · rw [GetCount_param hG, GetCount_eq, c1]
  · rw [IsEmpty_param hG, IsEmpty_eq, c2]
  · rw [GetMinValue_param hG, ← c5]; exact GetMinValue_rel env s1
  · rw [GetMaxValue_param hG, ← c6]; exact GetMaxValue_rel env s1
  · intro q hq
    rw [GetValueAtQuantile_param hG q, ← c7 q hq]
    exact GetValueAtQuantile_rel env s1 q

/-! ### weighted histories (C11) on regenerated code -/

section weighted
open Content

theorem quantile_transport {grow : Int → Int → Int} {env : MapEnv} {a : DDSketch MapEnv (GPS grow)} {s : Sketch}
    (h : SkSim a (toGen env s)) (q v : F64) (hq : Sketch.quantile env s q = .ok v) :
    DDSketch.GetValueAtQuantile a q = (v, GoErr.nil) := by
  rw [GetValueAtQuantile_param h q]
  exact (GetValueAtQuantile_rel env s q).ok hq

/-- **C11 on regenerated code, sketch and store**: after any weighted insertion history (`|v| ≤ maxIndexable`,
    `c ≥ 0`, int32 indexes) into the default sketch, for every growth policy of the runtime: no `AddWithCount` is
    refused, and there are canonical contents `cp`, `cn` holding at every index the total weight the mapping
    sends there such that `GetCount`, `IsEmpty` are those of `cp`, `cn` and the zero count, and
    `GetValueAtQuantile(q)` returns (with a nil error) the bin described by the three-way statement of
    `Lift.quantile_weighted_history_any_store` (`C11.quantile_weighted`), under its exactness hypothesis `QExact`. -/
theorem weighted_history_regenerated (grow : Int → Int → Int)
    (env : MapEnv) (α mn mx : Rat) (C : Contract env α mn mx)
    (xs : List (Rat × Rat)) (hx : ∀ p ∈ xs, rabs p.1 ≤ mx ∧ 0 ≤ p.2)
    (hx32 : ∀ p ∈ xs, mn < rabs p.1 → Lift.I32 (env.index (.fin (rabs p.1)))) :
    let g := runAdds (NewDDSketch env (⟨NewBufferedPaginatedStore⟩ : GPS grow) ⟨NewBufferedPaginatedStore⟩)
      (ratAdds xs)
    g.2 = List.replicate xs.length GoErr.nil ∧
    ∃ cp cn : Content, cp.WF ∧ cn.WF ∧
      (∀ j, cp.lookup j =
        Content.lookup ((xs.filter (fun p => decide (mn < p.1))).map
          (fun p => (env.index (.fin (rabs p.1)), p.2))) j) ∧
      (∀ j, cn.lookup j =
        Content.lookup ((xs.filter (fun p => decide (p.1 < -mn))).map
          (fun p => (env.index (.fin (rabs p.1)), p.2))) j) ∧
      DDSketch.GetCount g.1 =
        F64.add (F64.add (DDSketch.GetZeroCount g.1) (.fin cp.total)) (.fin cn.total) ∧
      ∀ z q r0 : Rat, DDSketch.GetZeroCount g.1 = .fin z → 0 ≤ z → 0 ≤ q → q ≤ 1 →
        0 < z + cp.total + cn.total → QExact cp cn z q r0 →
        (clampRank r0 < cn.total ∧ ∃ j w, (j, w) ∈ cn ∧
            DDSketch.GetValueAtQuantile g.1 (.fin q) = (F64.neg (env.value j), GoErr.nil) ∧
            cn.total - cumul cn j < min (clampRank r0 + 1) cn.total ∧
            min (clampRank r0 + 1) cn.total ≤ cn.total - cumul cn (j - 1)) ∨
        (cn.total ≤ clampRank r0 ∧ clampRank r0 < z + cn.total ∧
            DDSketch.GetValueAtQuantile g.1 (.fin q) = (.fin 0, GoErr.nil)) ∨
        (z + cn.total ≤ clampRank r0 ∧ ∃ j w, (j, w) ∈ cp ∧
            DDSketch.GetValueAtQuantile g.1 (.fin q) = (env.value j, GoErr.nil) ∧
            z + cn.total + cumul cp (j - 1) ≤ clampRank r0 ∧
            clampRank r0 < z + cn.total + cumul cp j) := by
  intro g
  obtain ⟨s, cp, cn, h1, R, lp, ln, hq⟩ :=
    DDS.Lift.quantile_weighted_history_any_store .pag trivial env α mn mx C xs hx hx32
  have hmn0 : 0 ≤ mn := Rat.le_of_lt C.minPos
  have hm := model_runAdds_w env mn C.minEq hmn0 xs _ s h1
  obtain ⟨e1, sS⟩ := runAdds_param (grow := grow) (ratAdds xs) (skSim_new env)
    (routed32_ratAdds env mn C.minEq hmn0 xs hx32)
  rw [NewDDSketch_eq env (some env.id) .pag, hm] at e1 sS
  have hS : SkSim g.1 (toGen env s) := sS
  refine ⟨e1, cp, cn, R.pos.wf, R.neg.wf, lp, ln, ?_, ?_⟩
  · rw [GetCount_param hS, GetZeroCount_param hS, GetCount_eq, GetZeroCount_eq]
    show F64.add (F64.add s.zero (.fin s.pos.totalCount)) (.fin s.neg.totalCount) = _
    rw [R.pos.total, R.neg.total]
  · intro z q r0 hz0 hz hq0 hq1 hW hE
    have hz0' : s.zero = .fin z := by
      rw [GetZeroCount_param hS, GetZeroCount_eq] at hz0; exact hz0
    rcases hq z q r0 hz0' hz hq0 hq1 hW hE with ⟨a, j, w, hj, hv, b, c⟩ | ⟨a, b, hv⟩ | ⟨a, j, w, hj, hv, b, c⟩
    · exact Or.inl ⟨a, j, w, hj, quantile_transport hS _ _ hv, b, c⟩
    · exact Or.inr (Or.inl ⟨a, b, quantile_transport hS _ _ hv⟩)
    · exact Or.inr (Or.inr ⟨a, j, w, hj, quantile_transport hS _ _ hv, b, c⟩)

end weighted

end DDS.Props.C02GenPag
