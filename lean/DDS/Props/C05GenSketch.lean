/-
  DDS.Props.C05GenSketch — the sketch-level C05 statements (`DDS/Props/Lift.lean`: `collapsing_sketch_contents`,
  `collapsing_quantile_retained`) for the sketch ENTIRELY ON REGENERATED CODE: the regenerated `DDSketch`
  (`DDS/Generated/CodeSketch.lean`) whose two stores are the regenerated `CollapsingLowestDenseStore`
  (`DDS/Generated/CodeDense.lean`), through `instance : StoreI (GLS N)` of `DDS/Proofs/GenDenseSketch.lean`
  (every method runs the regenerated function with a fuel the instance computes), and C01 for the regenerated
  plain `DenseStore`.

  * the chain to the model is `adds_eq_model` (`DDS/Props/C01GenSim.lean`: for ANY `T : StoreSim S Store`, the
    regenerated sketch fed unit adds ends related to the model sketch `Sketch.addAll` builds).  For the dense family
    the simulation is exact and every index is admissible, so NO int32 condition comes from here; the int32
    hypotheses below are those of the model theorems in `Props/Lift`.
  * `contents_regenerated`: for a store of the dense family (`GenDenseSketch.DenseImage`), the two regenerated
    stores are the images of model stores holding the clamped contents of the EXACT contents `cp`, `cn` of the spec
    sketch built from the same values; mapping and zero count are the spec sketch's.
    `collapsing_sketch_contents_regenerated(_high)`: this for `toLow N` / `toHigh N` (`specLow N` / `specHigh N`).
  * `collapsing_quantile_retained_regenerated`: `GetValueAtQuantile(q)` of the regenerated sketch over the
    lowest-collapsing stores answers what the un-collapsed spec sketch answers (`QRel`: the value with a nil error,
    or NaN with the documented error), for every `q` whose selected bin is at or above the edge `max − N + 1` of
    its side.
  * `dense_quantile_accuracy_regenerated`: C01 for the regenerated sketch over the regenerated plain `DenseStore`
    (`C01GenSim.quantile_accuracy_paramG` at `denseStoreSim`).
  Hypotheses: exactly those of the `Props/Lift` theorems.  The mapping stays the model's oracle `MapEnv`.
-/
import DDS.Proofs.GenDenseSketch
import DDS.Props.C01GenSim

namespace DDS.Props.C05GenSketch

open DDS DDS.GoSem DDS.Gen.Sketch DDS.Gen.Dense DDS.GenSketch DDS.GenStoreSim DDS.GenLowSketch
open DDS.GenPagSketch (runAdds)
open DDS.Props.C01GenPag (unitAdds model_runAdds)
open DDS.Lift (I32 contentOf)

/-! ### any store of the dense family -/

section generic

variable {S : Type} [StoreI S] [Inhabited S]

/-- `Lift.collapsing_sketch_contents` for a regenerated store of the dense family: the two stores are the images
    of model stores holding the clamped contents (read through any `proj`: the field `g` below) -/
theorem contents_regenerated {d : DKind} (I : GenDenseSketch.DenseImage S d) {G : Type} (proj : S → G)
    (k : StoreKind) (hk : Lift.KindOK k) {p : S}
    (hp : I.R p (Store.new k)) (env : MapEnv) (α mn mx : Rat) (C : Contract env α mn mx)
    (xs : List Rat) (hx : ∀ x ∈ xs, rabs x ≤ mx)
    (hx32 : ∀ x ∈ xs, mn < rabs x → I32 (env.index (.fin (rabs x)))) :
    let g := runAdds (NewDDSketch env p p) (unitAdds xs)
    g.2 = List.replicate xs.length GoErr.nil ∧
    ∃ (s₀ : Sketch) (cp cn : Content) (dp dn : DStore),
      Sketch.addAll env (Sketch.new (some env.id) .sparse) (xs.map (fun x => (x, 1))) = some s₀ ∧
      s₀ = Sketch.spec (some env.id) cp cn g.1.zeroCount ∧ g.1.IndexMapping = env ∧ cp.WF ∧ cn.WF ∧
      proj g.1.positiveValueStore = proj (I.emb dp) ∧ dp.kind = d ∧
      proj g.1.negativeValueStore = proj (I.emb dn) ∧ dn.kind = d ∧
      contentOf (.d dp) = (Lift.clampOfKind k).apply cp ∧ contentOf (.d dn) = (Lift.clampOfKind k).apply cn := by
  intro g
  obtain ⟨s, s₀, cp, cn, h1, h2, h3, _, wp, wn, _, _, ep, en, _⟩ :=
    Lift.collapsing_sketch_contents k hk env α mn mx C xs hx hx32
  obtain ⟨he, hsim⟩ := adds_eq_model I.sim k hp env mn C.minEq (Rat.le_of_lt C.minPos) xs
    (fun _ _ => I.routed env _) s h1
  obtain ⟨dp, hgp, hsp, hkp⟩ := hsim.pos
  obtain ⟨dn, hgn, hsn, hkn⟩ := hsim.neg
  rw [toGen_pos] at hsp
  rw [toGen_neg] at hsn
  exact ⟨he, s₀, cp, cn, dp, dn, h2, h3.trans (congrArg _ hsim.zero.symm), hsim.map, wp, wn, congrArg proj hgp, hkp,
    congrArg proj hgn, hkn, hsp ▸ ep, hsn ▸ en⟩

end generic

/-! ### the lowest-collapsing stores -/

abbrev newLow (env : MapEnv) (N : Nat) : DDSketch MapEnv (GLS N) :=
  NewDDSketch env (⟨NewCollapsingLowestDenseStore (N : Int)⟩ : GLS N) ⟨NewCollapsingLowestDenseStore (N : Int)⟩

/-- **`Lift.collapsing_sketch_contents` on regenerated code** (lowest-collapsing stores) -/
theorem collapsing_sketch_contents_regenerated (N : Nat) (hN : 1 ≤ N)
    (env : MapEnv) (α mn mx : Rat) (C : Contract env α mn mx)
    (xs : List Rat) (hx : ∀ x ∈ xs, rabs x ≤ mx)
    (hx32 : ∀ x ∈ xs, mn < rabs x → I32 (env.index (.fin (rabs x)))) :
    let g := runAdds (newLow env N) (unitAdds xs)
    g.2 = List.replicate xs.length GoErr.nil ∧
    ∃ (s₀ : Sketch) (cp cn : Content) (dp dn : DStore),
      Sketch.addAll env (Sketch.new (some env.id) .sparse) (xs.map (fun x => (x, 1))) = some s₀ ∧
      s₀ = Sketch.spec (some env.id) cp cn g.1.zeroCount ∧ g.1.IndexMapping = env ∧ cp.WF ∧ cn.WF ∧
      g.1.positiveValueStore.g = GenDense.toLow (N : Int) dp ∧ dp.kind = .low N ∧
      g.1.negativeValueStore.g = GenDense.toLow (N : Int) dn ∧ dn.kind = .low N ∧
      contentOf (.d dp) = Content.specLow N cp ∧ contentOf (.d dn) = Content.specLow N cn :=
  contents_regenerated (lowImage N) GLS.g (.low N) hN lsim_new env α mn mx C xs hx hx32

/-- **`Lift.collapsing_quantile_retained` on regenerated code**: quantiles at or above the edge survive the
    collapsing, on the regenerated sketch over the regenerated lowest-collapsing stores -/
theorem collapsing_quantile_retained_regenerated (N : Nat) (hN : 1 ≤ N)
    (env : MapEnv) (α mn mx : Rat) (C : Contract env α mn mx)
    (xs : List Rat) (hx : ∀ x ∈ xs, rabs x ≤ mx)
    (hx32 : ∀ x ∈ xs, mn < rabs x → I32 (env.index (.fin (rabs x))))
    (hne : xs ≠ []) (hn : xs.length ≤ 2 ^ 53) :
    let g := runAdds (newLow env N) (unitAdds xs)
    g.2 = List.replicate xs.length GoErr.nil ∧
    ∃ (s₀ : Sketch) (cp cn : Content),
      Sketch.addAll env (Sketch.new (some env.id) .sparse) (xs.map (fun x => (x, 1))) = some s₀ ∧
      s₀ = Sketch.spec (some env.id) cp cn g.1.zeroCount ∧
      ∀ q : F64,
        (∀ side k, Lift.selKey s₀ q = some (side, k) → Lift.edgeLow N (if side then cp else cn) ≤ k) →
        QRel (s₀.quantile env q) (DDSketch.GetValueAtQuantile g.1 q) := by
  intro g
  obtain ⟨s, s₀, cp, cn, h1, h2, h3, _, _, hq⟩ :=
    Lift.collapsing_quantile_retained N hN env α mn mx C xs hx hx32 hne hn
  obtain ⟨he, hsim⟩ := adds_eq_model (lowStoreSim N) (.low N) lsim_new env mn C.minEq (Rat.le_of_lt C.minPos) xs
    (fun _ _ => low_routed env _) s h1
  refine ⟨he, s₀, cp, cn, h2, h3.trans (congrArg _ hsim.zero.symm), fun q hsel => ?_⟩
  show QRel _ (DDSketch.GetValueAtQuantile (runAdds _ (unitAdds xs)).1 q)
  rw [GetValueAtQuantile_paramG (lowStoreSim N) hsim q, ← hq q hsel]
  exact GetValueAtQuantile_rel env s q

/-! ### the highest-collapsing stores -/

open DDS.GenHighSketch in
abbrev newHigh (env : MapEnv) (N : Nat) : DDSketch MapEnv (GHS N) :=
  NewDDSketch env (⟨NewCollapsingHighestDenseStore (N : Int)⟩ : GHS N) ⟨NewCollapsingHighestDenseStore (N : Int)⟩

open DDS.GenHighSketch in
/-- **`Lift.collapsing_sketch_contents` on regenerated code** (highest-collapsing stores) -/
theorem collapsing_sketch_contents_regenerated_high (N : Nat) (hN : 1 ≤ N)
    (env : MapEnv) (α mn mx : Rat) (C : Contract env α mn mx)
    (xs : List Rat) (hx : ∀ x ∈ xs, rabs x ≤ mx)
    (hx32 : ∀ x ∈ xs, mn < rabs x → I32 (env.index (.fin (rabs x)))) :
    let g := runAdds (newHigh env N) (unitAdds xs)
    g.2 = List.replicate xs.length GoErr.nil ∧
    ∃ (s₀ : Sketch) (cp cn : Content) (dp dn : DStore),
      Sketch.addAll env (Sketch.new (some env.id) .sparse) (xs.map (fun x => (x, 1))) = some s₀ ∧
      s₀ = Sketch.spec (some env.id) cp cn g.1.zeroCount ∧ g.1.IndexMapping = env ∧ cp.WF ∧ cn.WF ∧
      g.1.positiveValueStore.g = GenDense.toHigh (N : Int) dp ∧ dp.kind = .high N ∧
      g.1.negativeValueStore.g = GenDense.toHigh (N : Int) dn ∧ dn.kind = .high N ∧
      contentOf (.d dp) = Content.specHigh N cp ∧ contentOf (.d dn) = Content.specHigh N cn :=
  contents_regenerated (highImage N) GHS.g (.high N) hN hsim_new env α mn mx C xs hx hx32

/-! ### C01 for the regenerated sketch over the regenerated plain `DenseStore` -/

open DDS.GenDenseSketch in
/-- **C01 on regenerated code, sketch and dense store** -/
theorem dense_quantile_accuracy_regenerated
    (env : MapEnv) (α mn mx : Rat) (C : Contract env α mn mx)
    (xs : List Rat) (hx : ∀ x ∈ xs, rabs x ≤ mx)
    (hx32 : ∀ x ∈ xs, mn < rabs x → I32 (env.index (.fin (rabs x))))
    (hne : xs ≠ []) (hn : xs.length ≤ 2 ^ 53)
    (q : Rat) (hq0 : 0 ≤ q) (hq1 : q ≤ 1) :
    let g := runAdds (NewDDSketch env (⟨NewDenseStore⟩ : GDS) ⟨NewDenseStore⟩) (unitAdds xs)
    g.2 = List.replicate xs.length GoErr.nil ∧
    ∃ a : Rat, DDSketch.GetValueAtQuantile g.1 (.fin q) = (.fin a, GoErr.nil) ∧
      ∃ k : Nat, k < xs.length ∧
        ((k : Int) = ⌊q * ((xs.length : Rat) - 1)⌋ ∨ (k : Int) = ⌈q * ((xs.length : Rat) - 1)⌉) ∧
        rabs (a - (sortedInputs mn xs)[k]!) ≤ α * rabs ((sortedInputs mn xs)[k]!) :=
  C01GenSim.quantile_accuracy_paramG denseStoreSim (fun _ _ => trivial) .dense trivial dsim_new env α mn mx C xs hx
    hx32 hne hn q hq0 hq1

end DDS.Props.C05GenSketch
