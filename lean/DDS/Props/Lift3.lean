/-
  DDS.Props.Lift3 — the DECODING results (binary format C06, protobuf C09, reuse after `Clear`
  C15) for consumers on stores of EVERY kind: dense, sparse, buffered-paginated,
  lowest-collapsing `.low N`, highest-collapsing `.high N`.

  `DDS.Props.C06` / `C09` have a spec (sparse) sketch as the consumer.  `DDS.Proofs.Lift` gives one
  invariant `Good st` for the five store kinds, with the canonical content `contentOf st` (what
  `Bins()` / `ForEach` enumerate) and `good_refines`: every observer of a good store answers
  like its canonical content.  Here the decoders are transported.  In plain words:

  T1 — bins into a store of any kind
  * `addBins_any_store`: adding a list of `(index, weight)` bins, in stream order, to a good store
    never panics, keeps the store good and of the same kind, and the store then holds
    "the old content with every bin added, then clamped by the store's rule" (the rule is the
    identity for the three unbounded kinds; `specLow N` / `specHigh N` as in C05 for the
    collapsing kinds).  Weights are finite and non-negative; indexes are int32 — except that a
    ZERO-weight bin may carry any index (`AddWithCount(i, 0)` returns before looking at `i` in
    every store kind; the dense encoder does write zero counts).
  * `addBins_any_store_rel`: the same relative to an un-clamped "exact" content `E` whose clamped
    form the store holds: afterwards it holds the clamped form of `E` plus the bins — clamping
    at every step is clamping once.  `addBins_any_store_f64`: stated on a list of float bins.
    `addBins_never_panics`.

  T2 — C06 for consumers of every kind
  * `decode_encode_any_consumer`: encode any sketch (any producer kinds, mapping embedded or
    omitted), decode the bytes into a new sketch on stores of kind `k`: same mapping, same zero
    weight, stores good, contents = the producer's contents clamped by the rule of `k`, and the
    decoded sketch observes like those contents.  No int32 hypothesis is added: the encoder's
    precondition `EncOK` already bounds the indexes (`encOK_keys32`).
  * `decode_encode_plain_consumer`: for the unbounded kinds the decoded sketch refines the
    producer's very contents, hence (`same_answers`) `GetCount`, `IsEmpty`, `ForEach`, `GetSum`,
    `GetMinValue`, `GetMaxValue` and `GetValueAtQuantile` answer exactly as on the producer.
  * `decode_into_nonempty_is_merge_any` (+ `_rel`): decoding into a NON-EMPTY receiver with good
    stores of any kinds (the two stores may even be of different kinds) is a merge: contents add
    up, then are clamped by the receiver's rules; zero weights add.
  * `decode_concat_any_consumer`: the concatenation of two encodings decodes, into a new sketch of
    kind `k`, to the (clamped) merge of the two encoded sketches.

  T3 — C09 for consumers of every kind
  * `mergeWithProto_any_store`: `MergeWithProto` of a message into a good store of any kind: the
    sparse and the contiguous bins add up, index by index, exactly as `C09.mergeWithProto_adds`
    says, on top of what the store held — then the store's clamping rule applies.
  * `fromProto_any_consumer`: rebuilding ANY message whose weights are finite, non-negative floats
    with int32 indexes, with stores of kind `k`.
  * `fromProto_toProto_any_consumer`: the message `ToProto` builds for a (spec) sketch, rebuilt
    with stores of kind `k`: same mapping, zero weight bit for bit, contents clamped by the rule
    of `k`.
  * `fromProto_toProto_any_kinds`: the same with a PRODUCER on good stores of any kinds (the dense
    kinds travel as contiguous counts, the others as sparse entries): 5 × 5 producer / consumer
    pairs.  `fromProto_toProto_plain_same_answers`: an unbounded consumer answers every query as
    the original sketch.

  T4 — C15: a cleared sketch as the target of decoding
  * `decode_into_cleared`: for any sketch `r` with good stores, decoding into `r.Clear()` gives
    the producer's contents clamped by the rules of `r`'s stores, zero weight and mapping of the
    producer — nothing of what `r` held before survives.
  * `decode_into_cleared_eq_new`: … which is exactly what decoding into a NEW sketch of the same
    kind and mapping gives: same mapping, zero weight, canonical contents, hence same answers.

  Proofs of the helper lemmas are in `DDS.Proofs.Lift3`.
-/
import DDS.Proofs.Lift3
import DDS.Props.Lift
import DDS.Props.C06
import DDS.Props.C09

namespace DDS.Lift

open DDS DDS.Wire DDS.RoundTrip

/-! ## T1. bins into a store of any kind -/

/-- `Content.merge` IS the left fold of `Content.add` over the bins -/
theorem merge_eq_foldl (c : Content) (L : List (Int × Rat)) :
    c.merge L = L.foldl (fun c b => c.add b.1 b.2) c := rfl

/-- **T1.**  Adding the bins `L` (as the float bins a decoder reads) to a good store of any kind.
    `BinsOK L`: non-negative weights, int32 indexes (any index for a zero weight). -/
theorem addBins_any_store (st : Store) (h : Good st) (L : List (Int × Rat)) (hL : BinsOK L) :
    ∃ st', Sketch.addBins st (finBins L) = some st' ∧ Good st' ∧ st'.kind = st.kind ∧
      st'.clamp = st.clamp ∧
      contentOf st' = st.clamp.apply (L.foldl (fun c b => c.add b.1 b.2) (contentOf st)) := by
  obtain ⟨st', a1, a2, a3, a4⟩ := addList_good L hL st h (contentOf st) (good_wf st h)
    (good_fixed st h).symm
  exact ⟨st', by rw [addBins_finBins]; exact a1, a2, a3, clamp_of_kind a3, a4⟩

/-- relative to an exact content: a store holding the clamped form of `E` ends up holding the
    clamped form of `E` merged with the bins ("clamp at every step" = "clamp once") -/
theorem addBins_any_store_rel (st : Store) (h : Good st) (L : List (Int × Rat)) (hL : BinsOK L)
    (E : Content) (hE : E.WF) (hc : contentOf st = st.clamp.apply E) :
    ∃ st', Sketch.addBins st (finBins L) = some st' ∧ Good st' ∧ st'.kind = st.kind ∧
      contentOf st' = st.clamp.apply (E.merge L) := by
  obtain ⟨st', a1, a2, a3, a4⟩ := addList_good L hL st h E hE hc
  exact ⟨st', by rw [addBins_finBins]; exact a1, a2, a3, a4⟩

theorem addBins_never_panics (st : Store) (h : Good st) (L : List (Int × Rat)) (hL : BinsOK L) :
    Sketch.addBins st (finBins L) ≠ none := by
  obtain ⟨st', a1, _⟩ := addBins_any_store st h L hL
  rw [a1]; exact Option.some_ne_none _

/-- the rational bins of a list of float bins (a non-finite weight reads 0) -/
def ratBins (l : List (Int × F64)) : List (Int × Rat) :=
  l.map (fun p => (p.1, (Sketch.ratOf? p.2).getD 0))

/-- the same on a list of float bins: every weight finite and non-negative, every index an int32
    unless its weight is zero -/
theorem addBins_any_store_f64 (st : Store) (h : Good st) (l : List (Int × F64))
    (hl : ∀ p ∈ l, ∃ w, p.2 = .fin w ∧ 0 ≤ w ∧ (w ≠ 0 → I32 p.1)) :
    ∃ st', Sketch.addBins st l = some st' ∧ Good st' ∧ st'.kind = st.kind ∧
      contentOf st' = st.clamp.apply ((contentOf st).merge (ratBins l)) := by
  have e : l = finBins (ratBins l) := by
    unfold finBins ratBins
    rw [List.map_map]
    conv => lhs; rw [← List.map_id l]
    apply List.map_congr_left
    intro p hp
    obtain ⟨w, hw, _⟩ := hl p hp
    obtain ⟨i, c⟩ := p
    simp only at hw
    subst hw
    rfl
  have hL : BinsOK (ratBins l) := by
    intro q hq
    obtain ⟨p, hp, rfl⟩ := List.mem_map.1 hq
    obtain ⟨w, hw, h1, h2⟩ := hl p hp
    simp only [hw, Sketch.ratOf?, Option.getD_some]
    exact ⟨h1, h2⟩
  obtain ⟨st', a1, a2, a3, _, a5⟩ := addBins_any_store st h (ratBins l) hL
  exact ⟨st', by rw [e]; exact a1, a2, a3, a5⟩

/-! ## T2. C06 for consumers of every kind -/

/-- **T2 (C06, any consumer).**  Producer: any sketch the encoder accepts (stores of any kinds).
    Consumer: a new sketch on stores of kind `k`, given the mapping iff the encoding omits it.
    The hypotheses are those of `C06.decode_encode` plus `KindOK k` (a collapsing store has at
    least one bin). -/
theorem decode_encode_any_consumer (k : StoreKind) (hk : KindOK k) (s : Sketch)
    (cp cn : Content) (hs : s.Refines cp cn) (hp : EncOK s.pos) (hn : EncOK s.neg)
    (m : MapId) (hm : s.mapping = some m) (hmk : MapOK m)
    (z : Rat) (hz : s.zero = .fin z) (hzw : WOK z) (omitMapping : Bool) :
    ∃ s' bl t, s.encode omitMapping = some (s', bl) ∧ (∀ b ∈ bl, b.WF ∧ b.FiniteWeights) ∧
      Sketch.decodeAndMergeWith (Sketch.new (if omitMapping then some m else none) k)
        (Wire.encBlocks bl) = some (.ok t) ∧
      t.mapping = some m ∧ t.zero = .fin z ∧ Good t.pos ∧ Good t.neg ∧
      t.pos.kind = k ∧ t.neg.kind = k ∧
      contentOf t.pos = (clampOfKind k).apply cp ∧ contentOf t.neg = (clampOfKind k).apply cn ∧
      t.Refines ((clampOfKind k).apply cp) ((clampOfKind k).apply cn) := by
  obtain ⟨s', bl, he, henc, kp, kn⟩ := encode_ok32 s cp cn hs hp hn m hm z hz omitMapping
  obtain ⟨t, t1, t2, t3, t4, t5, t6, t7, t8, t9⟩ := encodesTo_decode_new k hk he kp kn hmk hzw
    _ (accepts_new m omitMapping)
  exact ⟨s', bl, t, henc, fun b hb => ⟨he.wf b hb, he.finite b hb⟩, t1, t2, t3, t4, t5, t6, t7,
    t8, t9, refines_of_good t4 t5 t8 t9⟩

/-- **T2, unbounded consumers.**  For `k` dense, sparse or paginated the decoded sketch refines
    the producer's very contents, hence answers every query exactly as the producer. -/
theorem decode_encode_plain_consumer (k : StoreKind) (hk : Plain k) (s : Sketch)
    (cp cn : Content) (hs : s.Refines cp cn) (hp : EncOK s.pos) (hn : EncOK s.neg)
    (m : MapId) (hm : s.mapping = some m) (hmk : MapOK m)
    (z : Rat) (hz : s.zero = .fin z) (hzw : WOK z) (omitMapping : Bool) (env : MapEnv) :
    ∃ s' bl t, s.encode omitMapping = some (s', bl) ∧
      Sketch.decodeAndMergeWith (Sketch.new (if omitMapping then some m else none) k)
        (Wire.encBlocks bl) = some (.ok t) ∧
      t.mapping = s.mapping ∧ t.zero = s.zero ∧ t.Refines cp cn ∧
      t.getCount = s.getCount ∧ t.isEmpty = s.isEmpty ∧
      t.forEachList env = s.forEachList env ∧ t.getSum env = s.getSum env ∧
      t.getMin env = s.getMin env ∧ t.getMax env = s.getMax env ∧
      ∀ q : F64, (cp = [] → s.usesPos q = false) → t.quantile env q = s.quantile env q := by
  have hok : KindOK k := by cases k <;> trivial
  obtain ⟨s', bl, t, h1, _, h3, h4, h5, _, _, _, _, _, _, R⟩ :=
    decode_encode_any_consumer k hok s cp cn hs hp hn m hm hmk z hz hzw omitMapping
  rw [clampOfKind_plain k hk] at R
  change t.Refines cp cn at R
  have hm' : t.mapping = s.mapping := by rw [h4, hm]
  have hz' : t.zero = s.zero := by rw [h5, hz]
  exact ⟨s', bl, t, h1, h3, hm', hz', R, same_answers env s t cp cn hs R hm' hz'⟩

/-- **T2, decoding into a non-empty receiver is a merge** — relative form.  The receiver `r` has
    the same (finite) mapping, a finite zero bucket and good stores of ANY kinds (the two may
    differ) holding the clamped forms of exact contents `Ep`, `En`: afterwards they hold the
    clamped forms of `Ep ⊎ cp`, `En ⊎ cn`; the zero weights add (exactness of that float addition
    is the hypothesis `hadd`, as in `C06.decode_into_nonempty_is_merge`). -/
theorem decode_into_nonempty_is_merge_any_rel (s : Sketch) (cp cn : Content)
    (hs : s.Refines cp cn) (hp : EncOK s.pos) (hn : EncOK s.neg)
    (m : MapId) (hm : s.mapping = some m) (hmk : MapOK m) (hmf : MapFinite m)
    (z : Rat) (hz : s.zero = .fin z) (hzw : WOK z) (omitMapping : Bool)
    (r : Sketch) (hrm : r.mapping = some m) (Gp : Good r.pos) (Gn : Good r.neg)
    (z₀ : Rat) (hrz : r.zero = .fin z₀) (hadd : F64.add (.fin z₀) (.fin z) = .fin (z₀ + z))
    (Ep En : Content) (hEp : Ep.WF) (hEn : En.WF)
    (hcEp : contentOf r.pos = r.pos.clamp.apply Ep)
    (hcEn : contentOf r.neg = r.neg.clamp.apply En) :
    ∃ s' bl t, s.encode omitMapping = some (s', bl) ∧
      Sketch.decodeAndMergeWith r (Wire.encBlocks bl) = some (.ok t) ∧
      t.mapping = some m ∧ t.zero = .fin (z₀ + z) ∧ Good t.pos ∧ Good t.neg ∧
      t.pos.kind = r.pos.kind ∧ t.neg.kind = r.neg.kind ∧
      contentOf t.pos = r.pos.clamp.apply (Ep.merge cp) ∧
      contentOf t.neg = r.neg.clamp.apply (En.merge cn) := by
  obtain ⟨s', bl, he, henc, kp, kn⟩ := encode_ok32 s cp cn hs hp hn m hm z hz omitMapping
  obtain ⟨t, t1, t2, t3, rest⟩ := encodesTo_decode_good he kp kn hmk hzw r
    (accepts_same hrm hmf omitMapping) Gp Gn Ep En hEp hEn hcEp hcEn
  exact ⟨s', bl, t, henc, t1, t2, by rw [t3, hrz]; exact zeroAfter_exact z₀ z hadd, rest⟩

/-- **T2, decoding into a non-empty receiver is a merge.**  The receiver's stores hold `a`, `b`:
    afterwards they hold `a ⊎ cp`, `b ⊎ cn`, clamped by the receiver's rules, and the decoded
    sketch observes like those contents. -/
theorem decode_into_nonempty_is_merge_any (s : Sketch) (cp cn : Content)
    (hs : s.Refines cp cn) (hp : EncOK s.pos) (hn : EncOK s.neg)
    (m : MapId) (hm : s.mapping = some m) (hmk : MapOK m) (hmf : MapFinite m)
    (z : Rat) (hz : s.zero = .fin z) (hzw : WOK z) (omitMapping : Bool)
    (r : Sketch) (hrm : r.mapping = some m) (Gp : Good r.pos) (Gn : Good r.neg)
    (a b : Content) (ha : contentOf r.pos = a) (hb : contentOf r.neg = b)
    (z₀ : Rat) (hrz : r.zero = .fin z₀) (hadd : F64.add (.fin z₀) (.fin z) = .fin (z₀ + z)) :
    ∃ s' bl t, s.encode omitMapping = some (s', bl) ∧
      Sketch.decodeAndMergeWith r (Wire.encBlocks bl) = some (.ok t) ∧
      t.mapping = some m ∧ t.zero = .fin (z₀ + z) ∧ Good t.pos ∧ Good t.neg ∧
      t.pos.kind = r.pos.kind ∧ t.neg.kind = r.neg.kind ∧
      contentOf t.pos = r.pos.clamp.apply (a.merge cp) ∧
      contentOf t.neg = r.neg.clamp.apply (b.merge cn) ∧
      t.Refines (r.pos.clamp.apply (a.merge cp)) (r.neg.clamp.apply (b.merge cn)) := by
  subst ha hb
  obtain ⟨s', bl, t, h1, h2, h3, h4, h5, h6, h7, h8, h9, h10⟩ :=
    decode_into_nonempty_is_merge_any_rel s cp cn hs hp hn m hm hmk hmf z hz hzw omitMapping r hrm
      Gp Gn z₀ hrz hadd _ _ (good_wf _ Gp) (good_wf _ Gn) (good_fixed _ Gp).symm (good_fixed _ Gn).symm
  exact ⟨s', bl, t, h1, h2, h3, h4, h5, h6, h7, h8, h9, h10, refines_of_good h5 h6 h9 h10⟩

/-- **T2, concatenation.**  Two sketches with the same mapping are encoded (each with or without
    its mapping; the consumer is given the mapping iff the FIRST encoding omits it); the
    concatenated bytes decode, into a new sketch on stores of kind `k`, to the merge of the two:
    contents `cp₁ ⊎ cp₂`, `cn₁ ⊎ cn₂` clamped by the rule of `k`, zero weights added. -/
theorem decode_concat_any_consumer (k : StoreKind) (hk : KindOK k)
    (m : MapId) (hmk : MapOK m) (hmf : MapFinite m)
    (s₁ : Sketch) (cp₁ cn₁ : Content) (hs₁ : s₁.Refines cp₁ cn₁)
    (hp₁ : EncOK s₁.pos) (hn₁ : EncOK s₁.neg) (hm₁ : s₁.mapping = some m)
    (z₁ : Rat) (hz₁ : s₁.zero = .fin z₁) (hzw₁ : WOK z₁) (om₁ : Bool)
    (s₂ : Sketch) (cp₂ cn₂ : Content) (hs₂ : s₂.Refines cp₂ cn₂)
    (hp₂ : EncOK s₂.pos) (hn₂ : EncOK s₂.neg) (hm₂ : s₂.mapping = some m)
    (z₂ : Rat) (hz₂ : s₂.zero = .fin z₂) (hzw₂ : WOK z₂) (om₂ : Bool)
    (hadd : F64.add (.fin z₁) (.fin z₂) = .fin (z₁ + z₂)) :
    ∃ s₁' bl₁ s₂' bl₂ t, s₁.encode om₁ = some (s₁', bl₁) ∧ s₂.encode om₂ = some (s₂', bl₂) ∧
      Sketch.decodeAndMergeWith (Sketch.new (if om₁ then some m else none) k)
        (Wire.encBlocks bl₁ ++ Wire.encBlocks bl₂) = some (.ok t) ∧
      t.mapping = some m ∧ t.zero = .fin (z₁ + z₂) ∧ Good t.pos ∧ Good t.neg ∧
      t.pos.kind = k ∧ t.neg.kind = k ∧
      contentOf t.pos = (clampOfKind k).apply (cp₁.merge cp₂) ∧
      contentOf t.neg = (clampOfKind k).apply (cn₁.merge cn₂) ∧
      t.Refines ((clampOfKind k).apply (cp₁.merge cp₂)) ((clampOfKind k).apply (cn₁.merge cn₂)) := by
  obtain ⟨s₁', bl₁, he₁, henc₁, kp₁, kn₁⟩ := encode_ok32 s₁ cp₁ cn₁ hs₁ hp₁ hn₁ m hm₁ z₁ hz₁ om₁
  obtain ⟨s₂', bl₂, he₂, henc₂, kp₂, kn₂⟩ := encode_ok32 s₂ cp₂ cn₂ hs₂ hp₂ hn₂ m hm₂ z₂ hz₂ om₂
  obtain ⟨t₁, a1, a2, a3, a4, a5, a6, a7, a8, a9⟩ := encodesTo_decode_new k hk he₁ kp₁ kn₁ hmk hzw₁
    _ (accepts_new m om₁)
  have c6 := clamp_eq_of_kind _ k a6
  have c7 := clamp_eq_of_kind _ k a7
  obtain ⟨t, b1, b2, b3, b4, b5, b6, b7, b8, b9⟩ := encodesTo_decode_good he₂ kp₂ kn₂ hmk hzw₂ t₁
    (accepts_same a2 hmf om₂) a4 a5 cp₁ cn₁ hs₁.pos.wf hs₁.neg.wf (c6 ▸ a8) (c7 ▸ a9)
  rw [c6] at b8
  rw [c7] at b9
  refine ⟨s₁', bl₁, s₂', bl₂, t, henc₁, henc₂, ?_, b2,
    by rw [b3, a3]; exact zeroAfter_exact z₁ z₂ hadd, b4, b5, b6.trans a6, b7.trans a7,
    b8, b9, refines_of_good b4 b5 b8 b9⟩
  rw [RoundTrip.decode_concat bl₁ bl₂ he₁.wf he₂.wf _ _ a1]
  exact b1

/-! ## T3. C09 for consumers of every kind -/

section proto
open DDS.Proto DDS.Lift.PB

/-- **T3, `MergeWithProto` into a store of any kind**, relative to an exact content `E` whose
    clamped form the store holds: never panics, keeps `Good` and the kind; the store then holds
    the clamped form of `E` merged with the bins of the message -/
theorem mergeWithProto_any_store_rel (pb : PbStore) (h : MsgOK pb) (st : Store) (hg : Good st)
    (E : Content) (hE : E.WF) (hcE : contentOf st = st.clamp.apply E) :
    ∃ st', mergeWithProto st pb = some st' ∧ Good st' ∧ st'.kind = st.kind ∧
      contentOf st' = st.clamp.apply (E.merge (protoBins pb)) := by
  rw [mergeWithProto_eq_addList pb h]
  exact addList_good _ (binsOK_protoBins pb h) st hg E hE hcE

/-- **T3, `MergeWithProto` into a store of any kind.**  `MsgOK pb`: every weight of the message
    is a finite non-negative float and every bin with a non-zero weight has an int32 index.
    The merge never panics, keeps the store good and of its kind; the store then holds
    `clamp C` where, index by index, `C` is what the store held plus what the (canonical) sparse
    entries give plus what the contiguous counts give — `C09.mergeWithProto_adds`, then the
    clamping rule of the store. -/
theorem mergeWithProto_any_store (pb : PbStore) (h : MsgOK pb) (st : Store) (hg : Good st) :
    ∃ st' C, mergeWithProto st pb = some st' ∧ Good st' ∧ st'.kind = st.kind ∧
      contentOf st' = st.clamp.apply C ∧ C.WF ∧ C = (contentOf st).merge (protoBins pb) ∧
      ∀ j, C.lookup j = (contentOf st).lookup j +
        binWeight (normBinCounts pb.binCounts) j +
        contigWeight pb.contiguous pb.contiguousOffset j := by
  obtain ⟨st', a1, a2, a3, a4⟩ := mergeWithProto_any_store_rel pb h st hg (contentOf st) (good_wf st hg)
    (good_fixed st hg).symm
  refine ⟨st', _, a1, a2, a3, a4,
    Content.wf_merge_of_nonneg _ _ (good_wf st hg) (binsOK_protoBins pb h).nonneg, rfl, fun j => ?_⟩
  rw [Content.lookup_merge, lookup_protoBins, add_assoc]

/-- **T3, rebuilding ANY message with stores of kind `k`**: both stores are good, of kind `k`,
    and hold the bins of their `Store` message (sparse and contiguous added up), clamped by the
    rule of `k`; the zero weight is the message's bit pattern. -/
theorem fromProto_any_consumer (k : StoreKind) (hk : KindOK k) (msg : PbSketch)
    (pbp pbn : PbStore) (hpos : msg.pos = some pbp) (hneg : msg.neg = some pbn)
    (hp : MsgOK pbp) (hn : MsgOK pbn) (m : MapId) (hm : mappingFromProto msg.mapping = .ok m) :
    ∃ t, fromProto k msg = some (.ok t) ∧ t.mapping = some m ∧
      t.zero = F64.ofBits (UInt64.ofNat msg.zero) ∧ Good t.pos ∧ Good t.neg ∧
      t.pos.kind = k ∧ t.neg.kind = k ∧
      contentOf t.pos = (clampOfKind k).apply (Content.ofList (protoBins pbp)) ∧
      contentOf t.neg = (clampOfKind k).apply (Content.ofList (protoBins pbn)) := by
  obtain ⟨g, c0, k0⟩ := good_new k hk
  have hc0 : contentOf (Store.new k) = (Store.new k).clamp.apply [] := by
    rw [c0, Clamp.apply_nil]
  obtain ⟨p, p1, p2, p3, p4⟩ := mergeWithProto_any_store_rel pbp hp (Store.new k) g [] Content.wf_nil hc0
  obtain ⟨n, n1, n2, n3, n4⟩ := mergeWithProto_any_store_rel pbn hn (Store.new k) g [] Content.wf_nil hc0
  refine ⟨{ mapping := some m, pos := p, neg := n, zero := F64.ofBits (UInt64.ofNat msg.zero) },
    ?_, rfl, rfl, p2, n2, p3.trans k0, n3.trans k0, ?_, ?_⟩
  · unfold fromProto
    rw [hpos, hneg]
    simp only [p1, n1, hm, Option.bind_eq_bind, Option.bind_some, Option.pure_def]
  · rw [p4, clamp_new]; rfl
  · rw [n4, clamp_new]; rfl

def msgOf (m : MapId) (pbp pbn : PbStore) (z : F64) : PbSketch :=
  { mapping := some (mappingToProto m)
    pos := some pbp
    neg := some pbn
    zero := f64bits z }

/-- **T3 (C09), ANY producer and ANY consumer.**  A sketch whose two stores are good (of any
    kinds: dense — contiguous counts —, sparse / paginated — sparse entries —, collapsing) and hold
    float weights is converted with `ToProto` and rebuilt with stores of kind `k`: no panic, same
    mapping, zero weight bit for bit, and each store holds the producer's canonical content
    clamped by the rule of `k` (unchanged for the unbounded kinds). -/
theorem fromProto_toProto_any_kinds (k : StoreKind) (hk : KindOK k) (s : Sketch)
    (Gp : Good s.pos) (Gn : Good s.neg)
    (hw : ∀ p ∈ contentOf s.pos ++ contentOf s.neg, F64.isRep p.2 = true)
    (m : MapId) (hm : s.mapping = some m)
    (hg : F64.ofBits (F64.toBits m.gamma) = m.gamma)
    (ho : F64.ofBits (F64.toBits m.indexOffset) = m.indexOffset)
    (h1 : F64.le m.gamma (.fin 1) = false)
    (hz : F64.ofBits (F64.toBits s.zero) = s.zero) :
    ∃ msg t, toProto s = some msg ∧ fromProto k msg = some (.ok t) ∧
      t.mapping = some m ∧ t.zero = s.zero ∧ Good t.pos ∧ Good t.neg ∧
      t.pos.kind = k ∧ t.neg.kind = k ∧
      contentOf t.pos = (clampOfKind k).apply (contentOf s.pos) ∧
      contentOf t.neg = (clampOfKind k).apply (contentOf s.neg) ∧
      t.Refines ((clampOfKind k).apply (contentOf s.pos))
        ((clampOfKind k).apply (contentOf s.neg)) := by
  obtain ⟨pbp, p1, p2, p3⟩ := storeToProto_good s.pos Gp (fun p hp => hw p (List.mem_append_left _ hp))
  obtain ⟨pbn, n1, n2, n3⟩ := storeToProto_good s.neg Gn (fun p hp => hw p (List.mem_append_right _ hp))
  have hmsg : toProto s = some (msgOf m pbp pbn s.zero) := by
    simp only [toProto, p1, n1, hm, Option.bind_eq_bind, Option.bind_some, Option.pure_def,
      Option.map_some, msgOf]
  obtain ⟨t, t1, t2, t3, t4, t5, t6, t7, t8, t9⟩ := fromProto_any_consumer k hk
    (msgOf m pbp pbn s.zero) pbp pbn rfl rfl p2 n2 m
    (MapId.mappingFromProto_mappingToProto m hg ho h1)
  rw [p3] at t8
  rw [n3] at t9
  refine ⟨_, t, hmsg, t1, t2, ?_, t4, t5, t6, t7, t8, t9, refines_of_good t4 t5 t8 t9⟩
  rw [t3]
  show F64.ofBits (UInt64.ofNat (f64bits s.zero)) = s.zero
  unfold f64bits
  rw [UInt64.ofNat_toNat, hz]

/-- **T3 (C09, any consumer).**  The message `ToProto` builds for a sketch with contents `cp`,
    `cn`, rebuilt with stores of kind `k`: same mapping, zero weight bit for bit, stores good and
    holding the contents clamped by the rule of `k`.  Hypotheses of `C09.fromProto_toProto_spec`
    plus int32 indexes and `KindOK k`. -/
theorem fromProto_toProto_any_consumer (k : StoreKind) (hk : KindOK k) (m : MapId)
    (cp cn : Content) (z : F64) (hcp : cp.WF) (hcn : cn.WF)
    (hw : ∀ p ∈ cp ++ cn, F64.isRep p.2 = true) (h32 : ∀ p ∈ cp ++ cn, I32 p.1)
    (hg : F64.ofBits (F64.toBits m.gamma) = m.gamma)
    (ho : F64.ofBits (F64.toBits m.indexOffset) = m.indexOffset)
    (h1 : F64.le m.gamma (.fin 1) = false)
    (hz : F64.ofBits (F64.toBits z) = z) :
    ∀ msg, toProto (Sketch.spec (some m) cp cn z) = some msg →
      ∃ t, fromProto k msg = some (.ok t) ∧ t.mapping = some m ∧ t.zero = z ∧
        Good t.pos ∧ Good t.neg ∧ t.pos.kind = k ∧ t.neg.kind = k ∧
        contentOf t.pos = (clampOfKind k).apply cp ∧ contentOf t.neg = (clampOfKind k).apply cn ∧
        t.Refines ((clampOfKind k).apply cp) ((clampOfKind k).apply cn) := by
  intro msg hmsg
  obtain ⟨msg', t, h, rest⟩ := fromProto_toProto_any_kinds k hk (Sketch.spec (some m) cp cn z)
    ⟨hcp, fun p hp => h32 p (List.mem_append_left _ hp)⟩
    ⟨hcn, fun p hp => h32 p (List.mem_append_right _ hp)⟩ hw m rfl hg ho h1 hz
  obtain rfl := Option.some.inj (h.symm.trans hmsg)
  exact ⟨t, rest⟩

/-- … for the unbounded consumer kinds the rebuilt sketch answers every query as the original -/
theorem fromProto_toProto_plain_same_answers (k : StoreKind) (hk : Plain k) (s : Sketch)
    (Gp : Good s.pos) (Gn : Good s.neg)
    (hw : ∀ p ∈ contentOf s.pos ++ contentOf s.neg, F64.isRep p.2 = true)
    (m : MapId) (hm : s.mapping = some m)
    (hg : F64.ofBits (F64.toBits m.gamma) = m.gamma)
    (ho : F64.ofBits (F64.toBits m.indexOffset) = m.indexOffset)
    (h1 : F64.le m.gamma (.fin 1) = false)
    (hz : F64.ofBits (F64.toBits s.zero) = s.zero) (env : MapEnv) :
    ∃ msg t, toProto s = some msg ∧ fromProto k msg = some (.ok t) ∧
      t.Refines (contentOf s.pos) (contentOf s.neg) ∧
      t.getCount = s.getCount ∧ t.isEmpty = s.isEmpty ∧
      t.forEachList env = s.forEachList env ∧ t.getSum env = s.getSum env ∧
      t.getMin env = s.getMin env ∧ t.getMax env = s.getMax env ∧
      ∀ q : F64, (contentOf s.pos = [] → s.usesPos q = false) →
        t.quantile env q = s.quantile env q := by
  have hok : KindOK k := by cases k <;> trivial
  obtain ⟨msg, t, h1', h2, h3, h4, _, _, _, _, _, _, R⟩ :=
    fromProto_toProto_any_kinds k hok s Gp Gn hw m hm hg ho h1 hz
  rw [clampOfKind_plain k hk] at R
  change t.Refines (contentOf s.pos) (contentOf s.neg) at R
  exact ⟨msg, t, h1', h2, R, same_answers env s t _ _
    ⟨good_refines _ Gp, good_refines _ Gn⟩ R (by rw [h3, hm]) h4⟩

end proto

/-! ## T4. C15: a cleared sketch as the target of decoding -/

/-- **T4.**  Any sketch `r` with good stores (of any kinds), cleared, then used as the target of
    decoding: the result holds the producer's contents clamped by the rules of `r`'s stores, the
    producer's zero weight and mapping.  `hm0`: `r`'s mapping is compatible with the encoding
    (`Clear` keeps the mapping). -/
theorem decode_into_cleared (s : Sketch) (cp cn : Content) (hs : s.Refines cp cn)
    (hp : EncOK s.pos) (hn : EncOK s.neg) (m : MapId) (hm : s.mapping = some m) (hmk : MapOK m)
    (z : Rat) (hz : s.zero = .fin z) (hzw : WOK z) (omitMapping : Bool)
    (r : Sketch) (Gp : Good r.pos) (Gn : Good r.neg)
    (hm0 : if omitMapping then r.mapping = some m else Accepts r.mapping m) :
    ∃ s' bl t, s.encode omitMapping = some (s', bl) ∧
      Sketch.decodeAndMergeWith r.clear (Wire.encBlocks bl) = some (.ok t) ∧
      t.mapping = some m ∧ t.zero = .fin z ∧ Good t.pos ∧ Good t.neg ∧
      t.pos.kind = r.pos.kind ∧ t.neg.kind = r.neg.kind ∧
      contentOf t.pos = r.pos.clamp.apply cp ∧ contentOf t.neg = r.neg.clamp.apply cn ∧
      t.Refines (r.pos.clamp.apply cp) (r.neg.clamp.apply cn) := by
  obtain ⟨s', bl, he, henc, kp, kn⟩ := encode_ok32 s cp cn hs hp hn m hm z hz omitMapping
  obtain ⟨cp1, cp2, cp3⟩ := good_clear r.pos Gp
  obtain ⟨cn1, cn2, cn3⟩ := good_clear r.neg Gn
  obtain ⟨t, t1, t2, t3, t4, t5, t6, t7, t8, t9⟩ := encodesTo_decode_good he kp kn hmk hzw r.clear
    hm0 cp1 cn1 [] [] Content.wf_nil Content.wf_nil
    (by show contentOf r.pos.clear = _; rw [cp2, Clamp.apply_nil])
    (by show contentOf r.neg.clear = _; rw [cn2, Clamp.apply_nil])
  rw [Content.merge_nil_left cp hs.pos.wf, show r.clear.pos.clamp = _ from clamp_of_kind cp3] at t8
  rw [Content.merge_nil_left cn hs.neg.wf, show r.clear.neg.clamp = _ from clamp_of_kind cn3] at t9
  exact ⟨s', bl, t, henc, t1, t2, t3.trans (zeroAfter_zero z hzw), t4, t5, t6.trans cp3,
    t7.trans cn3, t8, t9, refines_of_good t4 t5 t8 t9⟩

/-- **T4, cleared = new.**  When both stores of `r` are of kind `k`, decoding into `r.Clear()` and
    decoding into a NEW sketch of kind `k` with `r`'s mapping give sketches with the same
    mapping, zero weight and canonical contents — both refine the producer's contents clamped by
    the rule of `k`, hence (`same_answers`) answer every query alike. -/
theorem decode_into_cleared_eq_new (k : StoreKind) (s : Sketch) (cp cn : Content)
    (hs : s.Refines cp cn) (hp : EncOK s.pos) (hn : EncOK s.neg) (m : MapId)
    (hm : s.mapping = some m) (hmk : MapOK m)
    (z : Rat) (hz : s.zero = .fin z) (hzw : WOK z) (omitMapping : Bool)
    (r : Sketch) (Gp : Good r.pos) (Gn : Good r.neg) (hkp : r.pos.kind = k) (hkn : r.neg.kind = k)
    (hm0 : if omitMapping then r.mapping = some m else Accepts r.mapping m) :
    ∃ s' bl t t₀, s.encode omitMapping = some (s', bl) ∧
      Sketch.decodeAndMergeWith r.clear (Wire.encBlocks bl) = some (.ok t) ∧
      Sketch.decodeAndMergeWith (Sketch.new r.mapping k) (Wire.encBlocks bl) = some (.ok t₀) ∧
      t.mapping = t₀.mapping ∧ t.zero = t₀.zero ∧
      contentOf t.pos = contentOf t₀.pos ∧ contentOf t.neg = contentOf t₀.neg ∧
      t.pos.kind = t₀.pos.kind ∧ t.neg.kind = t₀.neg.kind ∧
      t.Refines ((clampOfKind k).apply cp) ((clampOfKind k).apply cn) ∧
      t₀.Refines ((clampOfKind k).apply cp) ((clampOfKind k).apply cn) := by
  obtain ⟨s', bl, t, h1, h2, h3, h4, h5, h6, h7, h8, h9, h10, _⟩ :=
    decode_into_cleared s cp cn hs hp hn m hm hmk z hz hzw omitMapping r Gp Gn hm0
  obtain ⟨s'', bl', he, henc, kp, kn⟩ := encode_ok32 s cp cn hs hp hn m hm z hz omitMapping
  obtain ⟨rfl, rfl⟩ := Prod.mk.inj (Option.some.inj (h1.symm.trans henc))
  obtain ⟨t₀, a1, a2, a3, a4, a5, a6, a7, a8, a9⟩ := encodesTo_decode_new k (hkp ▸ good_kindOK _ Gp)
    he kp kn hmk hzw r.mapping hm0
  rw [clamp_eq_of_kind _ k hkp] at h9
  rw [clamp_eq_of_kind _ k hkn] at h10
  exact ⟨s', bl, t, t₀, h1, h2, a1, h3.trans a2.symm, h4.trans a3.symm, h9.trans a8.symm,
    h10.trans a9.symm, by rw [h7, hkp, a6], by rw [h8, hkn, a7], refines_of_good h5 h6 h9 h10,
    refines_of_good a4 a5 a8 a9⟩

/-! ## the hypotheses are satisfiable: concrete instances

No decoder is evaluated on encoder output here: the theorems are instantiated, their side
conditions discharged on small data, and only closed facts about contents (`specLow`, `merge`
of literals) are computed. -/

section examples
open DDS.Props.C06 DDS.Proto DDS.Lift.PB

/-- `addBins_any_store`: four bins — one of them a ZERO-weight bin whose index is far outside
    int32 — into a new lowest-collapsing store with 2 bins: 1 and 3 end up on the edge 4 -/
example : ∃ st, Sketch.addBins (Store.new (.low 2))
      (finBins [(1, 1), (5, 1), (100000000000, 0), (3, 1)]) = some st ∧
    Good st ∧ st.kind = .low 2 ∧ contentOf st = [(4, 2), (5, 1)] := by
  obtain ⟨g, c0, k0⟩ := good_new (.low 2) (by decide)
  obtain ⟨st, a1, a2, a3, _, a5⟩ := addBins_any_store _ g [(1, 1), (5, 1), (100000000000, 0), (3, 1)]
    (binsOK_of_b _ (by decide +kernel))
  exact ⟨st, a1, a2, a3.trans k0, by rw [a5, c0]; decide +kernel⟩

/-- `addBins_any_store_f64`, `addBins_never_panics`: float bins into a new paginated store -/
example : ∃ st, Sketch.addBins (Store.new .pag) [(7, .fin 1), (-2, .fin (1 / 2)), (7, .fin 2)] = some st ∧
    contentOf st = [(-2, 1 / 2), (7, 3)] := by
  obtain ⟨g, c0, _⟩ := good_new .pag trivial
  obtain ⟨st, a1, _, _, a4⟩ := addBins_any_store_f64 _ g [(7, .fin 1), (-2, .fin (1 / 2)), (7, .fin 2)]
    (by
      intro p hp
      simp only [List.mem_cons, List.not_mem_nil, or_false] at hp
      rcases hp with rfl | rfl | rfl
      · exact ⟨1, rfl, by decide, fun _ => by decide⟩
      · exact ⟨1 / 2, rfl, by decide +kernel, fun _ => by decide⟩
      · exact ⟨2, rfl, by decide, fun _ => by decide⟩)
  exact ⟨st, a1, by rw [a4, c0]; decide +kernel⟩

example : Sketch.addBins (Store.new (.high 3)) (finBins [(1, 1), (2, 1 / 4)]) ≠ none :=
  addBins_never_panics _ (good_new (.high 3) (by decide)).1 _ (binsOK_of_b _ (by decide +kernel))

/-- `addBins_any_store_rel`: a lowest-collapsing store (2 bins) that absorbed the exact content
    `{1 ↦ 1, 5 ↦ 1}` holds `{4 ↦ 1, 5 ↦ 1}`; adding a bin at 9 moves the edge to 8: the result is
    the clamped form of the EXACT content plus the bin, `{8 ↦ 2, 9 ↦ 1}` -/
example : ∃ st₀ st, addList (Store.new (.low 2)) [(1, 1), (5, 1)] = some st₀ ∧
    contentOf st₀ = [(4, 1), (5, 1)] ∧
    Sketch.addBins st₀ (finBins [(9, 1)]) = some st ∧ contentOf st = [(8, 2), (9, 1)] := by
  obtain ⟨g, c0, _⟩ := good_new (.low 2) (by decide)
  obtain ⟨st₀, a1, a2, a3, a4⟩ := addList_good [(1, 1), (5, 1)] (binsOK_of_b _ (by decide +kernel))
    _ g [] Content.wf_nil (by rw [c0, Clamp.apply_nil])
  obtain ⟨st, b1, _, _, b4⟩ := addBins_any_store_rel st₀ a2 [(9, 1)] (binsOK_of_b _ (by decide +kernel))
    (Content.merge [] [(1, 1), (5, 1)]) (wf_of_wfb _ (by decide +kernel)) (by rw [a4, clamp_of_kind a3])
  rw [clamp_of_kind a3] at b4
  exact ⟨st₀, st, a1, by rw [a4]; decide +kernel, b1, by rw [b4]; decide +kernel⟩

/-- the zero weight of `exS` -/
theorem exZ_ok : WOK (3 / 4) := by decide +kernel

/-- `decode_encode_any_consumer`: the sketch `exS` of C06 (dense positive store, paginated
    negative store, zero bucket 3/4) decoded into LOWEST-COLLAPSING stores with 2 bins: the
    positive bins 5, 7, 8 arrive as 7 (weight 2 + 1) and 8; the negative bins 1, 2, 3 as 2, 3 -/
example (om : Bool) : ∃ s' bl t, exS.encode om = some (s', bl) ∧
    Sketch.decodeAndMergeWith (Sketch.new (if om then some exM else none) (.low 2))
      (Wire.encBlocks bl) = some (.ok t) ∧
    t.mapping = some exM ∧ t.zero = .fin (3 / 4) ∧ Good t.pos ∧ Good t.neg ∧
    contentOf t.pos = [(7, 3), (8, 3)] ∧ contentOf t.neg = [(2, 3), (3, 1)] ∧
    t.Refines [(7, 3), (8, 3)] [(2, 3), (3, 1)] := by
  obtain ⟨s', bl, t, h1, _, h3, h4, h5, h6, h7, _, _, h10, h11, _⟩ :=
    decode_encode_any_consumer (.low 2) (by decide) exS exCp exCn exS_refines exS_pos exS_neg exM
      rfl exM_ok (3 / 4) rfl exZ_ok om
  refine ⟨s', bl, t, h1, h3, h4, h5, h6, h7, ?p, ?n, refines_of_good h6 h7 ?p ?n⟩
  · exact h10.trans (by decide +kernel)
  · exact h11.trans (by decide +kernel)

/-- … and into highest-collapsing stores with 1 bin: everything on the lowest index -/
example : ∃ s' bl t, exS.encode true = some (s', bl) ∧
    Sketch.decodeAndMergeWith (Sketch.new (some exM) (.high 1)) (Wire.encBlocks bl) = some (.ok t) ∧
    contentOf t.pos = [(5, 6)] ∧ contentOf t.neg = [(1, 4)] := by
  obtain ⟨s', bl, t, h1, _, h3, _, _, _, _, _, _, h10, h11, _⟩ :=
    decode_encode_any_consumer (.high 1) (by decide) exS exCp exCn exS_refines exS_pos exS_neg exM
      rfl exM_ok (3 / 4) rfl exZ_ok true
  exact ⟨s', bl, t, h1, h3, by rw [h10]; decide +kernel, by rw [h11]; decide +kernel⟩

/-- `decode_encode_plain_consumer`: `exS` decoded into dense (or paginated) stores answers every
    query as `exS` itself; its positive content is non-empty, so no guard is left on quantiles -/
example (k : StoreKind) (hk : k = .dense ∨ k = .pag) (env : MapEnv) (om : Bool) :
    ∃ s' bl t, exS.encode om = some (s', bl) ∧
    Sketch.decodeAndMergeWith (Sketch.new (if om then some exM else none) k)
      (Wire.encBlocks bl) = some (.ok t) ∧
    t.Refines exCp exCn ∧ t.getCount = exS.getCount ∧ t.getSum env = exS.getSum env ∧
    t.getMin env = exS.getMin env ∧ t.getMax env = exS.getMax env ∧
    ∀ q : F64, t.quantile env q = exS.quantile env q := by
  have hp : Plain k := by rcases hk with rfl | rfl <;> trivial
  obtain ⟨s', bl, t, h1, h2, _, _, R, a1, _, _, a4, a5, a6, a7⟩ :=
    decode_encode_plain_consumer k hp exS exCp exCn exS_refines exS_pos exS_neg exM rfl exM_ok
      (3 / 4) rfl exZ_ok om env
  exact ⟨s', bl, t, h1, h2, R, a1, a4, a5, a6, fun q => a7 q (fun hc => by cases hc)⟩

/-- a receiver that already holds data, on a highest-collapsing positive store (2 bins) and a
    sparse negative store, built by a history (`store_history`) -/
theorem exR : ∃ p₀, runS (Store.new (.high 2)) [.add 5 1, .add 6 2] = some p₀ ∧ Good p₀ ∧
    p₀.kind = .high 2 ∧ contentOf p₀ = [(5, 1), (6, 2)] := by
  refine (store_history (.high 2) (by decide) _ ?_).imp fun st ⟨h1, h2, h3, h4⟩ =>
    ⟨h1, h2, h3, by rw [h4]; decide +kernel⟩
  simp only [OKs, SOp.OK]; decide +kernel

/-- `decode_into_nonempty_is_merge_any`: `exS` decoded into that receiver: the positive bins
    5, 7, 8 meet 5, 6 and everything above the edge 6 is folded onto it; the negative side (sparse
    store) is the plain merge; zero buckets add -/
example : ∃ p₀, runS (Store.new (.high 2)) [.add 5 1, .add 6 2] = some p₀ ∧
    ∃ s' bl t, exS.encode false = some (s', bl) ∧
    Sketch.decodeAndMergeWith
      { mapping := some exM, pos := p₀, neg := .sp [(0, 4)], zero := .fin (1 / 4) }
      (Wire.encBlocks bl) = some (.ok t) ∧
    t.zero = .fin 1 ∧ contentOf t.pos = [(5, 3), (6, 6)] ∧
    contentOf t.neg = [(0, 4), (1, 2), (2, 1), (3, 1)] := by
  obtain ⟨p₀, r1, r2, r3, r4⟩ := exR
  have gn : Good (.sp [(0, 4)]) := ⟨wf_of_wfb _ (by decide +kernel), by decide +kernel⟩
  obtain ⟨s', bl, t, h1, h2, _, h4, _, _, _, _, h9, h10, _⟩ :=
    decode_into_nonempty_is_merge_any exS exCp exCn exS_refines exS_pos exS_neg exM rfl exM_ok
      exM_fin (3 / 4) rfl exZ_ok false
      { mapping := some exM, pos := p₀, neg := .sp [(0, 4)], zero := .fin (1 / 4) } rfl r2 gn
      [(5, 1), (6, 2)] [(0, 4)] r4 rfl (1 / 4) rfl (by decide +kernel)
  refine ⟨p₀, r1, s', bl, t, h1, h2, ?_, ?_, ?_⟩
  · rw [h4]; norm_num
  · rw [h9]
    show p₀.clamp.apply _ = _
    rw [clamp_eq_of_kind _ _ r3]; decide +kernel
  · rw [h10]
    show Content.merge [(0, 4)] exCn = _
    decide +kernel

/-- `decode_concat_any_consumer`: `exS` encoded twice (with, then without its mapping) into one
    stream, decoded into lowest-collapsing stores with 2 bins: the sketch merged with itself,
    collapsed -/
example : ∃ s₁' bl₁ s₂' bl₂ t, exS.encode false = some (s₁', bl₁) ∧ exS.encode true = some (s₂', bl₂) ∧
    Sketch.decodeAndMergeWith (Sketch.new none (.low 2))
      (Wire.encBlocks bl₁ ++ Wire.encBlocks bl₂) = some (.ok t) ∧
    t.mapping = some exM ∧ t.zero = .fin (3 / 2) ∧
    contentOf t.pos = [(7, 6), (8, 6)] ∧ contentOf t.neg = [(2, 6), (3, 2)] := by
  obtain ⟨s₁', bl₁, s₂', bl₂, t, h1, h2, h3, h4, h5, _, _, _, _, h10, h11, _⟩ :=
    decode_concat_any_consumer (.low 2) (by decide) exM exM_ok exM_fin
      exS exCp exCn exS_refines exS_pos exS_neg rfl (3 / 4) rfl exZ_ok false
      exS exCp exCn exS_refines exS_pos exS_neg rfl (3 / 4) rfl exZ_ok true
      (by decide +kernel)
  refine ⟨s₁', bl₁, s₂', bl₂, t, h1, h2, h3, h4, ?_, ?_, ?_⟩
  · rw [h5]; norm_num
  · rw [h10]; decide +kernel
  · rw [h11]; decide +kernel

theorem pbBoth_ok : MsgOK Props.C09.pbBoth := msgOK_of_b _ (by decide +kernel)

/-- the bins of `C09.pbBoth`, in the order `MergeWithProto` adds them -/
theorem protoBins_pbBoth :
    protoBins Props.C09.pbBoth = [(3, 1), (5, 2), (4, 1), (5, 1), (6, 4)] := by
  unfold protoBins
  rw [normBinCounts_of_increasing _ (by decide +kernel)]
  decide +kernel

/-- `mergeWithProto_any_store`: the message of `C09.pbBoth` (sparse `{3 ↦ 1.0, 5 ↦ 2.0}` and
    contiguous `[1.0, 1.0, 4.0]` from index 4) merged into a new highest-collapsing store with
    2 bins: index 5 receives `2.0 + 1.0`, then everything above the edge 4 is folded onto it -/
example : ∃ st, mergeWithProto (Store.new (.high 2)) Props.C09.pbBoth = some st ∧ Good st ∧
    contentOf st = [(3, 1), (4, 8)] := by
  obtain ⟨g, c0, _⟩ := good_new (.high 2) (by decide)
  obtain ⟨st, C, a1, a2, _, a4, _, a6, _⟩ :=
    mergeWithProto_any_store Props.C09.pbBoth pbBoth_ok _ g
  refine ⟨st, a1, a2, ?_⟩
  rw [a4, a6, c0, protoBins_pbBoth]; decide +kernel

/-- … and into a new paginated store: the bins simply add up -/
example : ∃ st, mergeWithProto (Store.new .pag) Props.C09.pbBoth = some st ∧
    contentOf st = [(3, 1), (4, 1), (5, 3), (6, 4)] ∧
    ∀ j, (contentOf st).lookup j = binWeight (normBinCounts Props.C09.pbBoth.binCounts) j +
      contigWeight Props.C09.pbBoth.contiguous Props.C09.pbBoth.contiguousOffset j := by
  obtain ⟨g, c0, _⟩ := good_new .pag trivial
  obtain ⟨st, C, a1, _, _, a4, _, a6, a7⟩ :=
    mergeWithProto_any_store Props.C09.pbBoth pbBoth_ok _ g
  have hC : contentOf st = C := a4
  refine ⟨st, a1, ?_, fun j => ?_⟩
  · rw [hC, a6, c0, protoBins_pbBoth]; decide +kernel
  · rw [hC, a7 j, c0]; simp

/-- `fromProto_any_consumer`: a message whose positive store carries both sparse and contiguous
    bins (`C09.pbBoth`) and whose negative store is empty, rebuilt with lowest-collapsing stores
    (3 bins): `{3 ↦ 1, 4 ↦ 1, 5 ↦ 3, 6 ↦ 4}` arrives as `{4 ↦ 2, 5 ↦ 3, 6 ↦ 4}` -/
example : ∃ t, fromProto (.low 3) (msgOf exM Props.C09.pbBoth {} (.fin (3 / 4))) = some (.ok t) ∧
    t.mapping = some exM ∧ Good t.pos ∧ Good t.neg ∧
    contentOf t.pos = [(4, 2), (5, 3), (6, 4)] ∧ contentOf t.neg = [] := by
  obtain ⟨t, t1, t2, _, t4, t5, _, _, t8, t9⟩ := fromProto_any_consumer (.low 3) (by decide)
    (msgOf exM Props.C09.pbBoth {} (.fin (3 / 4))) Props.C09.pbBoth {} rfl rfl
    pbBoth_ok msgOK_empty exM
    (MapId.mappingFromProto_mappingToProto exM exM_ok.gamma exM_ok.offset exM_ok.gt)
  refine ⟨t, t1, t2, t4, t5, ?_, ?_⟩
  · rw [t8, protoBins_pbBoth]; decide +kernel
  · rw [t9, protoBins_empty]; decide +kernel

/-- `fromProto_toProto_any_consumer`: the message of a spec sketch rebuilt with
    lowest-collapsing stores (2 bins) -/
example : ∀ msg, toProto (Sketch.spec (some exM) [(-2, 1), (0, 5 / 2), (7, 3)] [(4, 1)] (.fin 2)) = some msg →
    ∃ t, fromProto (.low 2) msg = some (.ok t) ∧ t.mapping = some exM ∧ t.zero = .fin 2 ∧
      contentOf t.pos = [(6, 7 / 2), (7, 3)] ∧ contentOf t.neg = [(4, 1)] := by
  intro msg hmsg
  obtain ⟨t, t1, t2, t3, _, _, _, _, t8, t9, _⟩ :=
    fromProto_toProto_any_consumer (.low 2) (by decide) exM [(-2, 1), (0, 5 / 2), (7, 3)] [(4, 1)]
      (.fin 2) (wf_of_wfb _ (by decide +kernel)) (wf_of_wfb _ (by decide +kernel))
      (by decide +kernel) (by decide +kernel) exM_ok.gamma exM_ok.offset exM_ok.gt
      (F64.toBits_ofBits_rep 2 (by decide +kernel)) msg hmsg
  exact ⟨t, t1, t2, t3, by rw [t8]; decide +kernel, by rw [t9]; decide +kernel⟩

theorem exS_good : Good exS.pos ∧ Good exS.neg ∧ contentOf exS.pos = exCp ∧ contentOf exS.neg = exCn := by
  have hp : contentOf exS.pos = exCp := by
    unfold contentOf; rw [exS_refines.pos.bins]; rfl
  have hn : contentOf exS.neg = exCn := by
    unfold contentOf; rw [exS_refines.neg.bins]; rfl
  exact ⟨good_of_inv (exD_arr.inv rfl) exD_arr.bounded32, exP_ok.inv, hp, hn⟩

theorem exS_rep : ∀ p ∈ contentOf exS.pos ++ contentOf exS.neg, F64.isRep p.2 = true := by
  rw [exS_good.2.2.1, exS_good.2.2.2]; decide +kernel

/-- `fromProto_toProto_any_kinds`: `exS` (DENSE positive store: contiguous counts; PAGINATED
    negative store: sparse entries) through `ToProto`, rebuilt with highest-collapsing stores
    (2 bins) -/
example : ∃ msg t, toProto exS = some msg ∧ fromProto (.high 2) msg = some (.ok t) ∧
    t.mapping = some exM ∧ t.zero = .fin (3 / 4) ∧ Good t.pos ∧ Good t.neg ∧
    contentOf t.pos = [(5, 2), (6, 4)] ∧ contentOf t.neg = [(1, 2), (2, 2)] := by
  obtain ⟨gp, gn, cp, cn⟩ := exS_good
  obtain ⟨msg, t, h1, h2, h3, h4, h5, h6, _, _, h9, h10, _⟩ :=
    fromProto_toProto_any_kinds (.high 2) (by decide) exS gp gn exS_rep exM rfl exM_ok.gamma exM_ok.offset exM_ok.gt
      (F64.toBits_ofBits_rep (3 / 4) (by decide +kernel))
  rw [cp] at h9
  rw [cn] at h10
  exact ⟨msg, t, h1, h2, h3, h4, h5, h6, by rw [h9]; decide +kernel, by rw [h10]; decide +kernel⟩

/-- `fromProto_toProto_plain_same_answers`: … rebuilt with sparse (or paginated) stores, it
    answers every query as `exS` -/
example (k : StoreKind) (hk : k = .sparse ∨ k = .pag) (env : MapEnv) :
    ∃ msg t, toProto exS = some msg ∧ fromProto k msg = some (.ok t) ∧
    t.Refines exCp exCn ∧ t.getCount = exS.getCount ∧ t.getSum env = exS.getSum env ∧
    ∀ q : F64, t.quantile env q = exS.quantile env q := by
  have hp : Plain k := by rcases hk with rfl | rfl <;> trivial
  obtain ⟨gp, gn, cp, cn⟩ := exS_good
  obtain ⟨msg, t, h1, h2, R, a1, _, _, a4, _, _, a7⟩ :=
    fromProto_toProto_plain_same_answers k hp exS gp gn exS_rep exM rfl exM_ok.gamma exM_ok.offset exM_ok.gt
      (F64.toBits_ofBits_rep (3 / 4) (by decide +kernel)) env
  rw [cp, cn] at R
  exact ⟨msg, t, h1, h2, R, a1, a4, fun q => a7 q (fun hc => by rw [cp] at hc; cases hc)⟩

/-- `decode_into_cleared`, `decode_into_cleared_eq_new`: a receiver with both stores as in `exR`,
    highest-collapsing (2 bins) and holding data, is cleared and reused: nothing
    of `{5 ↦ 1, 6 ↦ 2}` survives, and the result is what a new sketch would hold -/
example : ∃ p₀, runS (Store.new (.high 2)) [.add 5 1, .add 6 2] = some p₀ ∧
    ∃ s' bl t t₀, exS.encode false = some (s', bl) ∧
    Sketch.decodeAndMergeWith
      (Sketch.clear { mapping := some exM, pos := p₀, neg := p₀, zero := .fin (1 / 4) })
      (Wire.encBlocks bl) = some (.ok t) ∧
    Sketch.decodeAndMergeWith (Sketch.new (some exM) (.high 2)) (Wire.encBlocks bl) = some (.ok t₀) ∧
    t.mapping = t₀.mapping ∧ t.zero = t₀.zero ∧
    contentOf t.pos = contentOf t₀.pos ∧ contentOf t.neg = contentOf t₀.neg ∧
    t.Refines [(5, 2), (6, 4)] [(1, 2), (2, 2)] ∧ t₀.Refines [(5, 2), (6, 4)] [(1, 2), (2, 2)] := by
  obtain ⟨p₀, r1, r2, r3, _⟩ := exR
  obtain ⟨s', bl, t, t₀, h1, h2, h3, h4, h5, h6, h7, _, _, h10, h11⟩ :=
    decode_into_cleared_eq_new (.high 2) exS exCp exCn exS_refines exS_pos exS_neg exM rfl exM_ok
      (3 / 4) rfl exZ_ok false
      { mapping := some exM, pos := p₀, neg := p₀, zero := .fin (1 / 4) } r2 r2 r3 r3
      (by simpa using accepts_self exM exM_fin)
  have e1 : (clampOfKind (.high 2)).apply exCp = [(5, 2), (6, 4)] := by decide +kernel
  have e2 : (clampOfKind (.high 2)).apply exCn = [(1, 2), (2, 2)] := by decide +kernel
  rw [e1, e2] at h10 h11
  exact ⟨p₀, r1, s', bl, t, t₀, h1, h2, h3, h4, h5, h6, h7, h10, h11⟩

end examples

end DDS.Lift
