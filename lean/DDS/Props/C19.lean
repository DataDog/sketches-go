/-
  DDS.Props.C19 — the identity of an index mapping `(kind, gamma, indexOffset)`:
  * it survives both serialized forms (mapping block of the binary format, `IndexMapping`
    protobuf message) bit for bit (`binary_roundtrip`, `proto_roundtrip`);
  * the decoders reject unknown kinds and `gamma ≤ 1`;
  * `Equals` is reflexive and symmetric on finite parameters, false across kinds, and false
    when the gammas differ by more than the tolerance (`not_equals_of_gamma_apart`);
  * the mapping functions of `DDS.Model.Mapping` depend on the identity only.
  Helpers are in `DDS.Proofs.MapId`.
-/
import DDS.Proofs.MapId

namespace DDS.Props.C19
open DDS

/-! ### the identities that serialize, and the one the examples use -/

/-- the bit patterns of the two parameters survive `toBits`/`ofBits` (every float does, in Go;
    in the model `F64.fin q` with `q` not a binary64 number does not) and `gamma > 1` in the sense
    of the constructors (`¬ gamma <= 1`) -/
structure Valid (m : MapId) : Prop where
  gammaBits : F64.ofBits (F64.toBits m.gamma) = m.gamma
  offsetBits : F64.ofBits (F64.toBits m.indexOffset) = m.indexOffset
  gammaGtOne : F64.le m.gamma (.fin 1) = false

/-- the logarithmic mapping of relative accuracy 1 %: `gamma = 1.02` (nearest float), offset 0 -/
def m102 : MapId := { kind := .log, gamma := F64.ofBits 0x3FF051EB851EB852, indexOffset := .fin 0 }

theorem gamma102_eq : F64.ofBits 0x3FF051EB851EB852 = .fin (4593671619917906 / 4503599627370496) := by
  simp [F64.ofBits, pow2_eq_zpow]
  norm_num

theorem m102_valid : Valid m102 := by
  refine ⟨?_, ?_, ?_⟩
  · show F64.ofBits (F64.toBits (F64.ofBits 0x3FF051EB851EB852)) = F64.ofBits 0x3FF051EB851EB852
    rw [F64.ofBits_toBits_fin _ (by rw [gamma102_eq]; simp) (by decide)]
  · exact F64.toBits_ofBits_rep 0 (by decide +kernel)
  · show F64.le (F64.ofBits 0x3FF051EB851EB852) (.fin 1) = false
    rw [gamma102_eq, F64.le_fin]
    norm_num

/-! ### the two serialized forms -/

theorem binary_roundtrip (m : MapId)
    (hg : F64.ofBits (F64.toBits m.gamma) = m.gamma)
    (ho : F64.ofBits (F64.toBits m.indexOffset) = m.indexOffset)
    (h1 : F64.le m.gamma (.fin 1) = false) (rest : Bytes) :
    Wire.parseBlock (Wire.encBlock m.toBlock ++ rest) = .ok (m.toBlock, rest) ∧
    (match m.toBlock with
      | .mapping sub g o => MapId.ofBlock sub g o = .ok m
      | _ => False) := by
  exact ⟨MapId.parseBlock_encBlock_mapping _ _ _ (MapId.subFlag_le _) (MapId.toBits_lt _)
    (MapId.toBits_lt _) rest, MapId.ofBlock_toBlock m hg ho h1⟩

example (rest : Bytes) :
    Wire.parseBlock (Wire.encBlock m102.toBlock ++ rest) = .ok (m102.toBlock, rest) :=
  (binary_roundtrip m102 m102_valid.1 m102_valid.2 m102_valid.3 rest).1

theorem proto_roundtrip (m : MapId)
    (hg : F64.ofBits (F64.toBits m.gamma) = m.gamma)
    (ho : F64.ofBits (F64.toBits m.indexOffset) = m.indexOffset)
    (h1 : F64.le m.gamma (.fin 1) = false) :
    Proto.mappingFromProto (some (Proto.mappingToProto m)) = .ok m :=
  MapId.mappingFromProto_mappingToProto m hg ho h1

example : Proto.mappingFromProto (some (Proto.mappingToProto m102)) = .ok m102 :=
  proto_roundtrip m102 m102_valid.1 m102_valid.2 m102_valid.3

/-! ### rejections -/

/-- `gamma ≤ 1` (as floats) is rejected for the three known kinds -/
theorem ofBlock_rejects_gamma_le_one (sub g o : Nat) (hs : sub = 0 ∨ sub = 1 ∨ sub = 3)
    (hg : F64.le (F64.ofBits (UInt64.ofNat g)) (.fin 1) = true) :
    MapId.ofBlock sub g o = .error .gammaTooSmall :=
  MapId.ofBlock_gamma_le_one sub g o hs hg

-- gamma = 1.0
example : MapId.ofBlock 0 0x3FF0000000000000 0 = .error .gammaTooSmall :=
  ofBlock_rejects_gamma_le_one 0 _ 0 (Or.inl rfl) (by decide +kernel)

/-- sub-flags 2 (quadratic), 4 (quartic) and anything `≥ 5` are rejected, whatever the payload -/
theorem ofBlock_rejects_unknown_kind (sub g o : Nat) (hs : sub = 2 ∨ sub = 4 ∨ 5 ≤ sub) :
    MapId.ofBlock sub g o = .error .unknownMapping :=
  MapId.ofBlock_unknown sub g o (by omega) (by omega) (by omega)

example : MapId.ofBlock Consts.subFlagIndexMappingBaseQuadratic 0x3FF051EB851EB852 0 = .error .unknownMapping :=
  ofBlock_rejects_unknown_kind _ _ _ (Or.inl rfl)
example : MapId.ofBlock Consts.subFlagIndexMappingBaseQuartic 0x3FF051EB851EB852 0 = .error .unknownMapping :=
  ofBlock_rejects_unknown_kind _ _ _ (Or.inr (Or.inl rfl))

/-- the protobuf side: an interpolation outside {NONE, LINEAR, CUBIC} is rejected -/
theorem mappingFromProto_rejects_unknown_interpolation (pm : Proto.PbMapping)
    (h : pm.interpolation = 2 ∨ 4 ≤ pm.interpolation) :
    Proto.mappingFromProto (some pm) = .error .badInterpolation := by
  unfold Proto.mappingFromProto
  have h0 : pm.interpolation ≠ 0 := by omega
  have h1 : pm.interpolation ≠ 1 := by omega
  have h3 : pm.interpolation ≠ 3 := by omega
  simp only [if_neg h0, if_neg h1, if_neg h3]

/-! ### `Equals` -/

theorem equals_refl (m : MapId) (g o : Rat) (hg : m.gamma = .fin g) (ho : m.indexOffset = .fin o) :
    m.equals m = true := by
  simp [MapId.equals, hg, ho, MapId.withinTolerance_refl]

example : m102.equals m102 = true := equals_refl m102 _ 0 gamma102_eq rfl

/-- Finiteness is needed: `gamma = +Inf` passes the constructors' check (`¬ +Inf <= 1`), is accepted
    by the decoder, and the resulting mapping is not `Equals` to itself (`Inf - Inf` is NaN). Same
    in Go: `withinTolerance(+Inf, +Inf, 1e-12)` is false. -/
example : MapId.ofBlock 0 0x7FF0000000000000 0 = .ok ⟨.log, .pinf, .fin 0⟩ := by decide +kernel
example : (⟨.log, .pinf, .fin 0⟩ : MapId).equals ⟨.log, .pinf, .fin 0⟩ = false := by decide +kernel

theorem equals_symm (a b : MapId) (ga gb oa ob : Rat)
    (hga : a.gamma = .fin ga) (hgb : b.gamma = .fin gb)
    (hoa : a.indexOffset = .fin oa) (hob : b.indexOffset = .fin ob) :
    a.equals b = b.equals a := by
  unfold MapId.equals
  rw [hga, hgb, hoa, hob, MapId.withinTolerance_symm ga gb, MapId.withinTolerance_symm oa ob]
  cases a.kind <;> cases b.kind <;> rfl

theorem equals_kind (a b : MapId) (h : a.kind ≠ b.kind) : a.equals b = false := by
  unfold MapId.equals
  have : (a.kind == b.kind) = false := by simpa using h
  rw [this]; rfl

example : m102.equals { m102 with kind := .cubic } = false := equals_kind _ _ (by decide)

/-- the same identity (kind, gamma, offset) is `Equals` -/
theorem equals_of_identity (a b : MapId) (g o : Rat) (hk : a.kind = b.kind)
    (hg : a.gamma = b.gamma) (ho : a.indexOffset = b.indexOffset)
    (hgf : a.gamma = .fin g) (hof : a.indexOffset = .fin o) : a.equals b = true := by
  have : a = b := by
    cases a; cases b; simp_all
  subst this
  exact equals_refl a g o hgf hof

/-- gammas (of valid mappings: `≥ 1`, finite) further apart than the relative tolerance are told
    apart.  Sufficient gap, in exact rationals: `ga·(1 + 2·10⁻¹²) < gb` (either way round). The
    model's float arithmetic is used as is: `sub`, `mul`, `le` with their roundings. -/
theorem not_equals_of_gamma_apart (a b : MapId) (ga gb : Rat)
    (hga : a.gamma = .fin ga) (hgb : b.gamma = .fin gb)
    (h1a : 1 ≤ ga) (h1b : 1 ≤ gb) (hfa : ga ≤ pow2 1023) (hfb : gb ≤ pow2 1023)
    (h : ga * (1 + 2 / 10^12) < gb ∨ gb * (1 + 2 / 10^12) < ga) :
    a.equals b = false := by
  unfold MapId.equals
  rw [hga, hgb]
  have : MapId.withinTolerance (.fin ga) (.fin gb) = false := by
    rcases h with h | h
    · exact MapId.withinTolerance_apart ga gb h1a h hfb
    · rw [MapId.withinTolerance_symm]; exact MapId.withinTolerance_apart gb ga h1b h hfa
  rw [this]; simp

/-- gamma = 1.02 against gamma = 1.03 -/
example : m102.equals { m102 with gamma := .fin (103 / 100) } = false := by
  refine not_equals_of_gamma_apart _ _ _ _ gamma102_eq rfl (by norm_num) (by norm_num) ?_ ?_
    (Or.inl (by norm_num))
  · exact le_trans (by norm_num : (4593671619917906 / 4503599627370496 : Rat) ≤ 2) (by
      have := pow2_mono (show (1:Int) ≤ 1023 by norm_num); rwa [pow2_one] at this)
  · exact le_trans (by norm_num : (103 / 100 : Rat) ≤ 2) (by
      have := pow2_mono (show (1:Int) ≤ 1023 by norm_num); rwa [pow2_one] at this)

/-! ### the mapping functions depend on the identity only -/

/-- In the sketch model the mapping functions are an oracle keyed by `MapId` (`MapEnv.id`), so
    "equal identity ⇒ equal functions" is built in there.  The statement with content is about the
    formulas of `DDS.Model.Mapping` (the definitions the driver runs with floats and C03 reads over
    the reals): they are functions of `(kind, gamma, indexOffset)` and nothing else. -/
theorem identity_determines_functions {F : Type} [MOps F] (p q : Mapping.Params F)
    (hk : p.kind = q.kind) (hg : p.gamma = q.gamma) (ho : p.indexOffset = q.indexOffset) :
    Mapping.index p = Mapping.index q ∧ Mapping.value p = Mapping.value q ∧
    Mapping.lowerBound p = Mapping.lowerBound q ∧
    Mapping.relativeAccuracy p = Mapping.relativeAccuracy q ∧
    Mapping.minIndexable p = Mapping.minIndexable q ∧
    Mapping.maxIndexable p = Mapping.maxIndexable q := by
  have : p = q := by
    cases p; cases q; simp_all
  subst this
  exact ⟨rfl, rfl, rfl, rfl, rfl, rfl⟩

end DDS.Props.C19
