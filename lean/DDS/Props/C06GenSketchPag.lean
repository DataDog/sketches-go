/-
  DDS.Props.C06GenSketchPag — C06 (decode ∘ encode) for the DEFAULT sketch on fully regenerated code: the regenerated
  sketch (`DDS/Generated/CodeSketch.lean`, `CodeSketchIter.lean`) over the regenerated buffered-paginated store
  (`GPS grow`, `DDS/Proofs/GenPagSketch.lean`).

  The DECODE HALF of the chain is here; the round trip built on it, conditional on `GoodRun`, is
  `Props/C06GenRoundTrip.decode_encode_regenerated_of_goodRun` (what is missing for the unconditional statement is
  listed there).

  `decode_regenerated_observers` — for EVERY input `b`, mapping object `m`, fuel and growth oracle: if every store block
  the regenerated decoder meets on the regenerated side satisfies the side conditions `DecodeOK` (`GoodRun`; int32
  indexes, finite counts `≥ 0`, announced counts `< 2^63` / backed by bytes, `CapOK` at a deltas block), then
  `DecodeDDSketch(b, NewBufferedPaginatedStore, m)` over the regenerated stores and over the model's stores
  (`Store.new .pag`) return the same error and, when it is nil, sketches answering `GetCount`, `IsEmpty`, `GetZeroCount`,
  `GetValueAtQuantile q` (all `q`), `GetMinValue`, `GetMaxValue` alike.
  `decodeAndMergeWith_regenerated_observers` — the same for `DecodeAndMergeWith` into any `SkSim`-related receivers.

  How the round trip uses it (`GenPagSketch.decode_of_encodesTo`): regenerated decode over `GPS`  ≈ (this file)
  regenerated decode over `Store`  = (`GenSketch7.DecodeDDSketch_relE`, `Lift.encodesTo_decode_new` on the SAME bytes)
  a sketch with the contents, the mapping and the zero count of the original  ≈ (`GetCount_param` … on `SkSim`)  the
  original.
-/
import DDS.Proofs.GenPagSketch3

namespace DDS.Props.C06GenSketchPag

open DDS DDS.GoSem DDS.GenPagSketch DDS.Gen.Sketch DDS.Gen.Paginated DDS.Gen.Encoding

variable {grow : Int → Int → Int} {M : Type} [MapI M] [Inhabited M]

/-- **`DecodeAndMergeWith` into related receivers**: same outcome, same error; when nil, the same answers -/
theorem decodeAndMergeWith_regenerated_observers (fuel : Nat) (b : List (BitVec 8))
    {a : DDSketch M (GPS grow)} {a' : DDSketch M Store} (h : SkSim a a')
    (hg : GoodRun DecodeOK (DDSketch.DecodeAndMergeWith.lit1 (M := M) (S := Store) fuel) fuel b a) :
    (∃ r r' e, DDSketch.DecodeAndMergeWith fuel a b = .ok (r, e) ∧ DDSketch.DecodeAndMergeWith fuel a' b = .ok (r', e) ∧
      (e = GoErr.nil → SkSim r r' ∧
        DDSketch.GetCount r = DDSketch.GetCount r' ∧ DDSketch.IsEmpty r = DDSketch.IsEmpty r' ∧
        DDSketch.GetZeroCount r = DDSketch.GetZeroCount r' ∧
        (∀ q, DDSketch.GetValueAtQuantile r q = DDSketch.GetValueAtQuantile r' q) ∧
        DDSketch.GetMinValue r = DDSketch.GetMinValue r' ∧ DDSketch.GetMaxValue r = DDSketch.GetMaxValue r')) ∨
    (DDSketch.DecodeAndMergeWith fuel a b = .panic ∧ DDSketch.DecodeAndMergeWith fuel a' b = .panic) ∨
    (DDSketch.DecodeAndMergeWith fuel a b = .nofuel ∧ DDSketch.DecodeAndMergeWith fuel a' b = .nofuel) := by
  have hR := DecodeAndMergeWith_param DecodeOK (fun _ _ b sub hs hok => sim_decode hs b sub hok) fuel b h hg
  generalize DDSketch.DecodeAndMergeWith fuel a b = r at hR ⊢
  generalize DDSketch.DecodeAndMergeWith fuel a' b = r' at hR ⊢
  -- off the diagonal `SkResRel` is `False`
  cases r <;> cases r' <;> try exact hR.elim
  case ok.ok p p' =>
    obtain ⟨r, e⟩ := p
    obtain ⟨r', e'⟩ := p'
    obtain ⟨rfl, h2⟩ := hR
    exact Or.inl ⟨r, r', e, rfl, rfl, fun he => ⟨h2 he, observers_of_skSim (h2 he)⟩⟩
  · exact Or.inr (Or.inl ⟨rfl, rfl⟩)
  · exact Or.inr (Or.inr ⟨rfl, rfl⟩)

/-- **`DecodeDDSketch(b, NewBufferedPaginatedStore, m)`** over the regenerated stores and over the model stores -/
theorem decode_regenerated_observers (fuel : Nat) (b : List (BitVec 8)) (m : M)
    (hg : GoodRun DecodeOK (DDSketch.DecodeAndMergeWith.lit1 (M := M) (S := Store) fuel) fuel b
      (NewDDSketch m (⟨NewBufferedPaginatedStore⟩ : GPS grow) ⟨NewBufferedPaginatedStore⟩)) :
    SkResRel
      (Gen.SketchIter.DecodeDDSketch fuel b (fun _ => .ok (⟨NewBufferedPaginatedStore⟩ : GPS grow)) m)
      (Gen.SketchIter.DecodeDDSketch fuel b (fun _ => .ok (Store.new .pag)) m) :=
  DecodeDDSketch_param DecodeOK (fun _ _ b sub hs hok => sim_decode hs b sub hok) fuel b m hg

end DDS.Props.C06GenSketchPag
