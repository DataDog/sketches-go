/-
  DDS.Props.C05GenLow — the main C05 theorems about the lowest-collapsing store, transported to the
  REGENERATED code (`DDS/Generated/CodeDense.lean`, `CollapsingLowestDenseStore.*`, translated from
  `ddsketch/store/collapsing_lowest_dense_store.go` on every run) through the method-by-method
  equalities of `DDS.Proofs.GenCollapsingLow`.

  A history is a list of `LOp` (`add i w` = generated `AddWithCount`, `clear` = generated `Clear`;
  `Reweight` is not re-declared by the collapsing stores and is left out here), run from
  `NewCollapsingLowestDenseStore N` by `genRunLow fuel N`.

  FUEL.  Every reachable state satisfies `InvLow N` (array never longer than `N`), so ONE explicit
  bound works for a whole history, whatever its length:  `2 * N + 2 ≤ fuel`
  (`DDS.GenLow.lowFuel N s = s.bins.size + N + 2`).  For the merge of a store of limit `M` into a store
  of limit `N`:  `2 * N + M + 2 ≤ fuel`.

  With that fuel the generated run returns `.ok (toLow N s)` where `s` is the model's result
  (`genRunLow_eq`), hence never panics, never runs out of fuel, and inherits the model's theorems.
-/
import DDS.Props.C05
import DDS.Proofs.GenCollapsingLow

namespace DDS.Props.C05GenLow

open DDS DDS.GoSem DDS.DStore DDS.GenDense DDS.Props.C05

/-- the operations the lowest-collapsing store declares itself -/
inductive LOp where
  | add (i : Int) (w : Rat)
  | clear

def LOp.toOp : LOp → Op
  | .add i w => .add i w
  | .clear => .clear

def genApply (fuel : Nat) (g : GLow) : LOp → Res GLow
  | .add i w => Gen.Dense.CollapsingLowestDenseStore.AddWithCount fuel g i w
  | .clear => Gen.Dense.CollapsingLowestDenseStore.Clear fuel g

def genRun (fuel : Nat) : List LOp → GLow → Res GLow
  | [], g => .ok g
  | op :: ops, g => (genApply fuel g op).bind (genRun fuel ops)

def genRunLow (fuel : Nat) (N : Nat) (ops : List LOp) : Res GLow :=
  genRun fuel ops (Gen.Dense.NewCollapsingLowestDenseStore (N : Int))

theorem genApply_eq (fuel N : Nat) (s : DStore) (h : InvLow N s) (op : LOp) (hf : 2 * N + 2 ≤ fuel) :
    genApply fuel (toLow (N : Int) s) op = GenDense.toRes (toLow (N : Int)) (applyOp s op.toOp) := by
  cases op with
  | add i w =>
    exact GenLow.addWithCount_rel fuel N s i w h.kind (by have := h.lenLe; unfold GenLow.lowFuel; omega)
  | clear => exact GenLow.clear_rel fuel _ s

theorem genRun_from (fuel N : Nat) (hf : 2 * N + 2 ≤ fuel) (ops : List LOp) :
    ∀ (s : DStore), InvLow N s → Tight32 s → (∀ op ∈ ops, op.toOp.ok32) →
      genRun fuel ops (toLow (N : Int) s)
        = GenDense.toRes (toLow (N : Int)) ((ops.map LOp.toOp).foldlM applyOp s) := by
  induction ops with
  | nil => intro s _ _ _; rfl
  | cons op ops ih =>
    intro s h ht hops
    obtain ⟨s1, h1, ⟨hi1, ht1⟩, _⟩ :=
      (KInv.rel (k := .low N) ⟨h, ht⟩).step growthOK op.toOp (hops op (by simp))
    simp only [genRun, genApply_eq fuel N s h op hf, List.map_cons, List.foldlM_cons, h1,
      GenDense.toRes_some, Res.bind_ok, Option.bind_eq_bind, Option.bind_some]
    exact ih s1 hi1 ht1 (fun q hq => hops q (by simp [hq]))

theorem genRunLow_eq (fuel N : Nat) (hN : 1 ≤ N) (hf : 2 * N + 2 ≤ fuel) (ops : List LOp)
    (hops : ∀ op ∈ ops, op.toOp.ok32) :
    genRunLow fuel N ops = GenDense.toRes (toLow (N : Int)) (runLow N (ops.map LOp.toOp)) := by
  unfold genRunLow runLow
  rw [GenLow.new_eq]
  exact genRun_from fuel N hf ops _ (invLow_new N hN) (tight32_new _) hops

theorem ok32_map (ops : List LOp) (hops : ∀ op ∈ ops, op.toOp.ok32) :
    ∀ op ∈ ops.map LOp.toOp, op.ok32 := by
  intro op hop
  obtain ⟨q, hq, rfl⟩ := List.mem_map.1 hop
  exact hops q hq

/-- what the model's run returns, the generated run returns: every statement below is the C05 theorem
    about `runLow` carried over by this -/
theorem genRunLow_ok (fuel N : Nat) (hN : 1 ≤ N) (hf : 2 * N + 2 ≤ fuel) (ops : List LOp)
    (hops : ∀ op ∈ ops, op.toOp.ok32) {s : DStore} (hs : runLow N (ops.map LOp.toOp) = some s) :
    genRunLow fuel N ops = .ok (toLow (N : Int) s) := by
  rw [genRunLow_eq fuel N hN hf ops hops, hs]
  rfl

/-! ### the C05 statements on the generated code -/

/-- the generated code never panics and never runs out of fuel (int32 indexes, non-negative
    weights), and the result is the image of a model store satisfying the invariant -/
theorem gen_low_never_panics (fuel N : Nat) (hN : 1 ≤ N) (hf : 2 * N + 2 ≤ fuel) (ops : List LOp)
    (hops : ∀ op ∈ ops, op.toOp.ok32) :
    ∃ s, genRunLow fuel N ops = .ok (toLow (N : Int) s) ∧ InvLow N s := by
  obtain ⟨s, hs, hinv⟩ := low_never_panics N hN _ (ok32_map ops hops)
  exact ⟨s, genRunLow_ok fuel N hN hf ops hops hs, hinv⟩

/-- the generated store never holds more than `N` array slots, and its window never spans more
    than `N` indexes -/
theorem gen_low_bounded_after_history (fuel N : Nat) (hN : 1 ≤ N) (hf : 2 * N + 2 ≤ fuel)
    (ops : List LOp) (hops : ∀ op ∈ ops, op.toOp.ok32) :
    ∃ g, genRunLow fuel N ops = .ok g ∧ g.DenseStore.bins.length ≤ N ∧ g.maxNumBins = N ∧
      (Gen.Dense.DenseStore.IsEmpty g.DenseStore = false →
        g.DenseStore.maxIndex - g.DenseStore.minIndex + 1 ≤ N) := by
  obtain ⟨s, hs, hinv⟩ := gen_low_never_panics fuel N hN hf ops hops
  refine ⟨_, hs, hinv.lenLe, rfl, fun he => hinv.core.span_le hinv.lenLe fun h0 => ?_⟩
  rw [toLow_DenseStore, isEmpty_eq, (isEmpty_iff_count s).2 h0] at he
  cases he

/-- after ANY history the content of the generated store is the exact content with every index
    below `max − N + 1` folded into that edge bin -/
theorem gen_low_content_after_history (fuel N : Nat) (hN : 1 ≤ N) (hf : 2 * N + 2 ≤ fuel)
    (ops : List LOp) (hops : ∀ op ∈ ops, op.toOp.ok32) :
    ∃ g, genRunLow fuel N ops = .ok g ∧
      content (ofLow g) = Content.specLow N (exactContent (ops.map LOp.toOp)) := by
  obtain ⟨s, hs, hinv, _, hc⟩ := low_history growthOK N hN _ (ok32_map ops hops)
  exact ⟨_, genRunLow_ok fuel N hN hf ops hops hs, by rw [ofLow_toLow N s hinv.kind, hc]⟩

/-- no weight is lost: `TotalCount` of the generated store is the total weight of the history -/
theorem gen_low_weight_conserved (fuel N : Nat) (hN : 1 ≤ N) (hf : 2 * N + 2 ≤ fuel)
    (ops : List LOp) (hops : ∀ op ∈ ops, op.toOp.ok32) :
    ∃ g, genRunLow fuel N ops = .ok g ∧
      Gen.Dense.DenseStore.TotalCount g.DenseStore = (exactContent (ops.map LOp.toOp)).total := by
  obtain ⟨s, hs, hc⟩ := low_weight_conserved N hN _ (ok32_map ops hops)
  exact ⟨_, genRunLow_ok fuel N hN hf ops hops hs, hc⟩

/-- the window of a store that satisfies the invariant is at most `M` wide, also when it is empty
    (`minIndex = MaxInt32`, `maxIndex = MinInt32`) -/
theorem window_le {M : Nat} {o : DStore} (h : InvLow M o) : (o.maxIndex - o.minIndex + 1).toNat ≤ M := by
  by_cases h0 : o.count = 0
  · obtain ⟨_, e1, e2, _⟩ := h.empty h0
    rw [e1, e2]
    exact Nat.zero_le M
  · exact Int.toNat_le.2 (h.core.span_le h.lenLe h0)

/-- EVERY merge of two generated lowest-collapsing stores (any limits `N`, `M`, any histories) is
    safe: the generated `MergeWith` returns the image of the model's merge, which satisfies the
    invariant, keeps at most `N` slots, loses no weight, and holds the clamped merged content -/
theorem gen_low_merge_safe (fuel N M : Nat) (hN : 1 ≤ N) (hM : 1 ≤ M) (hf : 2 * N + M + 2 ≤ fuel)
    (hfM : 2 * M + 2 ≤ fuel)
    (ops₁ ops₂ : List LOp) (h₁ : ∀ op ∈ ops₁, op.toOp.ok32) (h₂ : ∀ op ∈ ops₂, op.toOp.ok32) :
    ∃ g o s', genRunLow fuel N ops₁ = .ok g ∧ genRunLow fuel M ops₂ = .ok o ∧
      Gen.Dense.CollapsingLowestDenseStore.MergeWith fuel g o = .ok (toLow (N : Int) s') ∧
      InvLow N s' ∧ s'.bins.size ≤ N ∧
      s'.totalCount = Gen.Dense.DenseStore.TotalCount g.DenseStore
                        + Gen.Dense.DenseStore.TotalCount o.DenseStore ∧
      content s' = Content.specLow N ((exactContent (ops₁.map LOp.toOp)).merge
        (Content.specLow M (exactContent (ops₂.map LOp.toOp)))) := by
  obtain ⟨s, o, s', hs, ho, hm, a4, a5, a6, a7⟩ :=
    low_merge_safe N M hN hM _ _ (ok32_map ops₁ h₁) (ok32_map ops₂ h₂)
  -- the invariants of the two arguments bound the fuel that `MergeWith` needs
  obtain ⟨_, hs', hinv⟩ := low_never_panics N hN _ (ok32_map ops₁ h₁)
  obtain ⟨_, ho', hinvo⟩ := low_never_panics M hM _ (ok32_map ops₂ h₂)
  cases hs.symm.trans hs'
  cases ho.symm.trans ho'
  have hl := hinv.lenLe
  have hw := window_le hinvo
  refine ⟨_, _, s', genRunLow_ok fuel N hN (by omega) ops₁ h₁ hs, genRunLow_ok fuel M hM hfM ops₂ h₂ ho, ?_,
    a4, a5, a6, a7⟩
  rw [GenLow.mergeWith_rel fuel N (M : Int) s o hinv.kind (Nat.max_le.2 ⟨by unfold GenLow.lowFuel; omega, by omega⟩),
    hm]
  rfl

end DDS.Props.C05GenLow
