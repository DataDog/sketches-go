/-
  DDS.Props.C20Gen — the C20 property theorems ("the in-memory dataset helper computes exact order
  statistics", `DDS/Props/C20.lean`) restated on the REGENERATED code
  `DDS/Generated/CodeDataset.lean` (translated from `/repo/dataset/dataset.go` on every run).

  Every theorem is the model theorem of the same name transported along the equivalence of
  `DDS/Proofs/GenDataset.lean` (`toGen`, `lowerQuantile_eq`, …), with the SAME hypotheses, stated
  about the model dataset `d` that the generated dataset `toGen d` stores (values `F64.fin v`);
  `GenDataset.forall_gen` turns any of them into a statement about every generated dataset with
  finite values (see `gen_quantile_never_panics_allFin` for the pattern).  `fuel` is arbitrary in
  every statement.

  A query of the generated code returns `Res (Dataset × F64)`: `.ok (g, x)` is "returned `x`, the
  receiver is now `g`", `.panic` is the Go run-time panic.  `Dataset.sort (toGen d)` is the receiver
  after the in-place sort.
-/
import DDS.Proofs.GenDataset
import DDS.Props.C20

namespace DDS.Props.C20Gen

open DDS DDS.GoSem DDS.Dataset DDS.GenDataset

/-- `Add(x)` for every `x` of `xs`, in order, on a fresh generated dataset -/
def genOfList (xs : List Rat) : GD :=
  xs.foldl (fun g v => Gen.Dataset.Dataset.Add g (.fin v)) Gen.Dataset.NewDataset

theorem genOfList_eq (xs : List Rat) : genOfList xs = toGen (ofList xs) := by
  unfold genOfList ofList
  rw [new_eq, foldl_add_eq]

/-- an accepted query sorts the receiver -/
theorem toGen_quantileBy_fst (idx : Rat → Int) (d : Dataset) (h : Inv d)
    (hn : 0 < d.values.length) (q : Rat) (hq0 : 0 ≤ q) (hq1 : q ≤ 1) :
    toGen (quantileBy idx d (.fin q)).1 = Gen.Dataset.Dataset.sort (toGen d) := by
  rw [quantileBy_fst idx d _ (C20.quantile_accepts d h hn q hq0 hq1), sort_eq]

/-! ### quantiles -/

/-- generated `LowerQuantile(q)` returns the element of rank `k` of the ascending values, `k` the
    floor or (when the float product rounds up to an integer) the ceiling of `q·(n−1)`, and leaves
    the receiver sorted -/
theorem gen_lowerQuantile_spec (fuel : Nat) (d : Dataset) (h : Inv d) (hn : 0 < d.values.length)
    (hlen : d.values.length ≤ 2 ^ 53) (q : Rat) (hq0 : 0 ≤ q) (hq1 : q ≤ 1) :
    ∃ k : Nat, k < d.values.length ∧
      Gen.Dataset.Dataset.LowerQuantile fuel (toGen d) (.fin q) =
        .ok (Gen.Dataset.Dataset.sort (toGen d),
             .fin ((d.values.mergeSort (fun a b => decide (a ≤ b)))[k]!)) ∧
      ((k : Int) = ⌊q * ((d.values.length : Rat) - 1)⌋ ∨
       (k : Int) = ⌈q * ((d.values.length : Rat) - 1)⌉) := by
  obtain ⟨k, hk, hv, hr⟩ := C20.lowerQuantile_spec d h hn hlen q hq0 hq1
  refine ⟨k, hk, ?_, hr⟩
  rw [lowerQuantile_eq, qres_val hv, lowerQuantile_by, toGen_quantileBy_fst _ d h hn q hq0 hq1]

theorem gen_upperQuantile_spec (fuel : Nat) (d : Dataset) (h : Inv d) (hn : 0 < d.values.length)
    (hlen : d.values.length ≤ 2 ^ 53) (q : Rat) (hq0 : 0 ≤ q) (hq1 : q ≤ 1) :
    ∃ k : Nat, k < d.values.length ∧
      Gen.Dataset.Dataset.UpperQuantile fuel (toGen d) (.fin q) =
        .ok (Gen.Dataset.Dataset.sort (toGen d),
             .fin ((d.values.mergeSort (fun a b => decide (a ≤ b)))[k]!)) ∧
      ((k : Int) = ⌊q * ((d.values.length : Rat) - 1)⌋ ∨
       (k : Int) = ⌈q * ((d.values.length : Rat) - 1)⌉) := by
  obtain ⟨k, hk, hv, hr⟩ := C20.upperQuantile_spec d h hn hlen q hq0 hq1
  refine ⟨k, hk, ?_, hr⟩
  rw [upperQuantile_eq, qres_val hv, upperQuantile_by, toGen_quantileBy_fst _ d h hn q hq0 hq1]

/-- `Quantile` is `LowerQuantile` in the generated code too -/
theorem gen_quantile_spec (fuel : Nat) (d : Dataset) (h : Inv d) (hn : 0 < d.values.length)
    (hlen : d.values.length ≤ 2 ^ 53) (q : Rat) (hq0 : 0 ≤ q) (hq1 : q ≤ 1) :
    ∃ k : Nat, k < d.values.length ∧
      Gen.Dataset.Dataset.Quantile fuel (toGen d) (.fin q) =
        .ok (Gen.Dataset.Dataset.sort (toGen d),
             .fin ((d.values.mergeSort (fun a b => decide (a ≤ b)))[k]!)) ∧
      ((k : Int) = ⌊q * ((d.values.length : Rat) - 1)⌋ ∨
       (k : Int) = ⌈q * ((d.values.length : Rat) - 1)⌉) := by
  rw [quantile_eq_lower]; exact gen_lowerQuantile_spec fuel d h hn hlen q hq0 hq1

/-- the exact version: `k = ⌊fl⌋`, `fl` the float product `q ⊗ (n − 1)` -/
theorem gen_lowerQuantile_spec_exact (fuel : Nat) (d : Dataset) (h : Inv d) (hn : 0 < d.values.length)
    (hlen : d.values.length ≤ 2 ^ 53) (q : Rat) (hq0 : 0 ≤ q) (hq1 : q ≤ 1) :
    ∃ fl : Rat, F64.mul (.fin q) (.fin ((d.values.length : Rat) - 1)) = .fin fl ∧
      ((⌊q * ((d.values.length : Rat) - 1)⌋ : Int) : Rat) ≤ fl ∧
      fl ≤ ((⌈q * ((d.values.length : Rat) - 1)⌉ : Int) : Rat) ∧
      0 ≤ ⌊fl⌋ ∧ ⌊fl⌋.toNat < d.values.length ∧
      Gen.Dataset.Dataset.LowerQuantile fuel (toGen d) (.fin q) =
        .ok (Gen.Dataset.Dataset.sort (toGen d),
             .fin ((d.values.mergeSort (fun a b => decide (a ≤ b)))[⌊fl⌋.toNat]!)) := by
  obtain ⟨fl, h1, h2, h3, h4, h5, h6⟩ := C20.lowerQuantile_spec_exact d h hn hlen q hq0 hq1
  refine ⟨fl, h1, h2, h3, h4, h5, ?_⟩
  rw [lowerQuantile_eq, h6, sort_eq]; rfl

theorem gen_upperQuantile_spec_exact (fuel : Nat) (d : Dataset) (h : Inv d) (hn : 0 < d.values.length)
    (hlen : d.values.length ≤ 2 ^ 53) (q : Rat) (hq0 : 0 ≤ q) (hq1 : q ≤ 1) :
    ∃ fl : Rat, F64.mul (.fin q) (.fin ((d.values.length : Rat) - 1)) = .fin fl ∧
      ((⌊q * ((d.values.length : Rat) - 1)⌋ : Int) : Rat) ≤ fl ∧
      fl ≤ ((⌈q * ((d.values.length : Rat) - 1)⌉ : Int) : Rat) ∧
      0 ≤ ⌈fl⌉ ∧ ⌈fl⌉.toNat < d.values.length ∧
      Gen.Dataset.Dataset.UpperQuantile fuel (toGen d) (.fin q) =
        .ok (Gen.Dataset.Dataset.sort (toGen d),
             .fin ((d.values.mergeSort (fun a b => decide (a ≤ b)))[⌈fl⌉.toNat]!)) := by
  obtain ⟨fl, h1, h2, h3, h4, h5, h6⟩ := C20.upperQuantile_spec_exact d h hn hlen q hq0 hq1
  refine ⟨fl, h1, h2, h3, h4, h5, ?_⟩
  rw [upperQuantile_eq, h6, sort_eq]; rfl

theorem gen_lower_le_upper (fuel : Nat) (d : Dataset) (h : Inv d) (hn : 0 < d.values.length)
    (hlen : d.values.length ≤ 2 ^ 53) (q : Rat) (hq0 : 0 ≤ q) (hq1 : q ≤ 1) :
    ∃ a b : Rat,
      Gen.Dataset.Dataset.LowerQuantile fuel (toGen d) (.fin q) =
        .ok (Gen.Dataset.Dataset.sort (toGen d), .fin a) ∧
      Gen.Dataset.Dataset.UpperQuantile fuel (toGen d) (.fin q) =
        .ok (Gen.Dataset.Dataset.sort (toGen d), .fin b) ∧
      a ≤ b := by
  obtain ⟨a, b, ha, hb, hab⟩ := C20.lower_le_upper d h hn hlen q hq0 hq1
  refine ⟨a, b, ?_, ?_, hab⟩
  · rw [lowerQuantile_eq, qres_val ha, lowerQuantile_by, toGen_quantileBy_fst _ d h hn q hq0 hq1]
  · rw [upperQuantile_eq, qres_val hb, upperQuantile_by, toGen_quantileBy_fst _ d h hn q hq0 hq1]

/-- no quantile query of the generated code panics (or runs out of fuel), whatever `q` is -/
theorem gen_quantile_never_panics (fuel : Nat) (d : Dataset) (h : Inv d)
    (hlen : d.values.length ≤ 2 ^ 53) (q : F64) :
    Gen.Dataset.Dataset.LowerQuantile fuel (toGen d) q ≠ .panic ∧
    Gen.Dataset.Dataset.UpperQuantile fuel (toGen d) q ≠ .panic ∧
    Gen.Dataset.Dataset.Quantile fuel (toGen d) q ≠ .panic ∧
    Gen.Dataset.Dataset.LowerQuantile fuel (toGen d) q ≠ .nofuel ∧
    Gen.Dataset.Dataset.UpperQuantile fuel (toGen d) q ≠ .nofuel ∧
    Gen.Dataset.Dataset.Quantile fuel (toGen d) q ≠ .nofuel := by
  obtain ⟨h1, h2⟩ := C20.quantile_never_panics d h hlen q
  rw [quantile_eq_lower, lowerQuantile_eq, upperQuantile_eq]
  exact ⟨fun e => h1 ((qres_eq_panic_iff _).mp e), fun e => h2 ((qres_eq_panic_iff _).mp e),
    fun e => h1 ((qres_eq_panic_iff _).mp e), qres_ne_nofuel _, qres_ne_nofuel _, qres_ne_nofuel _⟩

/-- the same about an arbitrary generated dataset with finite values: the pattern that turns every
    theorem of this file into one that does not mention `toGen` -/
theorem gen_quantile_never_panics_allFin (fuel : Nat) (g : GD) (hg : AllFin g) (h : Inv (ofGen g))
    (hlen : g.Values.length ≤ 2 ^ 53) (q : F64) :
    Gen.Dataset.Dataset.LowerQuantile fuel g q ≠ .panic ∧
    Gen.Dataset.Dataset.UpperQuantile fuel g q ≠ .panic := by
  have := gen_quantile_never_panics fuel (ofGen g) h (by simpa [ofGen] using hlen) q
  rw [toGen_ofGen g hg] at this
  exact ⟨this.1, this.2.1⟩

/-- the length bound is needed on the generated code as well: `Inv` alone does not exclude the
    panic -/
theorem gen_inv_alone_does_not_prevent_panic (fuel : Nat) :
    ∃ d : Dataset, Inv d ∧ Gen.Dataset.Dataset.LowerQuantile fuel (toGen d) (.fin 1) = .panic := by
  obtain ⟨d, hd, hp⟩ := C20.inv_alone_does_not_prevent_panic
  exact ⟨d, hd, by rw [lowerQuantile_eq, qres_panic hp]⟩

/-- the guard: NaN, negative, above one, or `Count == 0`: the answer is NaN and the receiver is not
    touched — for EVERY generated dataset (no finiteness hypothesis) -/
theorem gen_quantile_rejects (fuel : Nat) (g : GD) (q : F64)
    (h : q.isNaN = true ∨ F64.lt q (.fin 0) = true ∨ F64.gt q (.fin 1) = true ∨
      F64.eq g.Count (.fin 0) = true) :
    Gen.Dataset.Dataset.LowerQuantile fuel g q = .ok (g, .nan) ∧
    Gen.Dataset.Dataset.UpperQuantile fuel g q = .ok (g, .nan) ∧
    Gen.Dataset.Dataset.Quantile fuel g q = .ok (g, .nan) := by
  have hc : ((((F64.lt q (F64.fin (0 : Rat))) || (F64.lt (F64.fin (1 : Rat)) q)) || (F64.isNaN q)) ||
      (F64.eq g.Count (F64.fin (0 : Rat)))) = true := by
    unfold F64.gt at h
    rcases h with h | h | h | h <;> simp [h]
  have hl : Gen.Dataset.Dataset.LowerQuantile fuel g q = .ok (g, .nan) := by
    unfold Gen.Dataset.Dataset.LowerQuantile; rw [if_pos hc]
  refine ⟨hl, ?_, by rw [quantile_eq_lower, hl]⟩
  unfold Gen.Dataset.Dataset.UpperQuantile; rw [if_pos hc]

/-- the same as a corollary of the model theorem, on the domain -/
theorem gen_quantile_rejects_model (fuel : Nat) (d : Dataset) (q : F64)
    (h : q.isNaN = true ∨ F64.lt q (.fin 0) = true ∨ F64.gt q (.fin 1) = true ∨
      F64.eq d.count (.fin 0) = true) :
    Gen.Dataset.Dataset.LowerQuantile fuel (toGen d) q = .ok (toGen d, .nan) ∧
    Gen.Dataset.Dataset.UpperQuantile fuel (toGen d) q = .ok (toGen d, .nan) := by
  obtain ⟨h1, h2⟩ := C20.quantile_rejects d q h
  rw [lowerQuantile_eq, upperQuantile_eq, h1, h2]
  exact ⟨rfl, rfl⟩

theorem gen_quantile_rejects_empty (fuel : Nat) (d : Dataset) (h : Inv d) (he : d.values = []) (q : F64) :
    Gen.Dataset.Dataset.LowerQuantile fuel (toGen d) q = .ok (toGen d, .nan) ∧
    Gen.Dataset.Dataset.UpperQuantile fuel (toGen d) q = .ok (toGen d, .nan) := by
  obtain ⟨h1, h2⟩ := C20.quantile_rejects_empty d h he q
  rw [lowerQuantile_eq, upperQuantile_eq, h1, h2]
  exact ⟨rfl, rfl⟩

/-- the `or the ceiling` disjunct is needed on the generated code too: q = fl(1/3), four values -/
theorem gen_lower_rank_can_round_up (fuel : Nat) :
    let q : Rat := 6004799503160661 / 18014398509481984
    let d := ofList [3, -1, 2, 7]
    ⌊q * ((d.values.length : Rat) - 1)⌋ = 0 ∧
      ans (Gen.Dataset.Dataset.LowerQuantile fuel (genOfList [3, -1, 2, 7]) (.fin q)) = .ok (.fin 2) := by
  intro q d
  obtain ⟨_, h2, _, h4⟩ := C20.lower_rank_can_round_up
  refine ⟨h2, ?_⟩
  rw [genOfList_eq, lowerQuantile_eq, ans_qres, h4]; rfl

/-! ### minimum, maximum, count -/

theorem gen_min_spec (fuel : Nat) (d : Dataset) (h : Inv d) (hn : 0 < d.values.length) :
    ∃ m, Gen.Dataset.Dataset.Min fuel (toGen d) = .ok (Gen.Dataset.Dataset.sort (toGen d), .fin m) ∧
      m ∈ d.values ∧ ∀ x ∈ d.values, m ≤ x := by
  obtain ⟨m, h1, h2, h3⟩ := C20.min_spec d h hn
  refine ⟨m, ?_, h2, h3⟩
  rw [GenDataset.min_eq, qres_val h1, sort_eq]; rfl

theorem gen_max_spec (fuel : Nat) (d : Dataset) (h : Inv d) (hn : 0 < d.values.length) :
    ∃ m, Gen.Dataset.Dataset.Max fuel (toGen d) = .ok (Gen.Dataset.Dataset.sort (toGen d), .fin m) ∧
      m ∈ d.values ∧ ∀ x ∈ d.values, x ≤ m := by
  obtain ⟨m, h1, h2, h3⟩ := C20.max_spec d h hn
  refine ⟨m, ?_, h2, h3⟩
  rw [GenDataset.max_eq, qres_val h1, sort_eq]; rfl

/-- `Min()` / `Max()` of an empty dataset panic in the generated code (index out of range) -/
theorem gen_min_max_empty_panic (fuel : Nat) (d : Dataset) (he : d.values = []) :
    Gen.Dataset.Dataset.Min fuel (toGen d) = .panic ∧ Gen.Dataset.Dataset.Max fuel (toGen d) = .panic := by
  obtain ⟨h1, h2⟩ := C20.min_max_empty_panic d he
  rw [GenDataset.min_eq, GenDataset.max_eq, qres_panic h1, qres_panic h2]
  exact ⟨rfl, rfl⟩

theorem gen_count_spec (xs : List Rat) (h : xs.length ≤ 2 ^ 53) :
    (genOfList xs).Count = .fin (xs.length : Rat) ∧ (genOfList xs).Values = xs.map F64.fin := by
  obtain ⟨h1, h2⟩ := C20.count_spec xs h
  rw [genOfList_eq, toGen_Count, toGen_Values, h1, h2]
  exact ⟨rfl, rfl⟩

/-- the generated `sort()` permutes the values, leaves them ascending, keeps `Count` -/
theorem gen_sort_perm (d : Dataset) (h : d.sorted = true → d.values.Pairwise (· ≤ ·)) :
    ∃ s : List Rat, (Gen.Dataset.Dataset.sort (toGen d)).Values = s.map F64.fin ∧
      s.Perm d.values ∧ s.Pairwise (· ≤ ·) ∧
      (Gen.Dataset.Dataset.sort (toGen d)).Count = d.count ∧
      (Gen.Dataset.Dataset.sort (toGen d)).sorted = true := by
  obtain ⟨h1, h2, h3, h4⟩ := C20.sort_perm d h
  exact ⟨d.sort.values, by rw [sort_eq]; rfl, h1, h2, by rw [sort_eq]; exact h3,
    by rw [sort_eq]; exact h4⟩

/-! ### merging -/

theorem gen_merge_eq_adds (fuel : Nat) (d o : Dataset) :
    Gen.Dataset.Dataset.Merge fuel (toGen d) (toGen o) =
      .ok (o.values.foldl (fun g v => Gen.Dataset.Dataset.Add g (.fin v)) (toGen d)) ∧
    (∃ g, Gen.Dataset.Dataset.Merge fuel (toGen d) (toGen o) = .ok g ∧
      g.Values = (toGen d).Values ++ (toGen o).Values) ∧
    (∃ g, Gen.Dataset.Dataset.Merge fuel (toGen d) (toGen d) = .ok g ∧
      g.Values = (toGen d).Values ++ (toGen d).Values ∧
      (Inv d → 2 * d.values.length ≤ 2 ^ 53 →
        g.Count = .fin ((2 * d.values.length : Nat) : Rat))) := by
  obtain ⟨-, h2, h3, h4⟩ := C20.merge_eq_adds d o
  refine ⟨?_, ⟨_, merge_eq fuel d o, ?_⟩, ⟨_, merge_eq fuel d d, ?_, ?_⟩⟩
  · rw [merge_eq, foldl_add_eq]; rfl
  · simp only [toGen_Values, h2, List.map_append]
  · simp only [toGen_Values, h3, List.map_append]
  · exact h4

/-- for every pair of generated datasets (finite or not): `Merge` is the fold of `Add` -/
theorem gen_merge_foldl (fuel : Nat) (g o : GD) :
    Gen.Dataset.Dataset.Merge fuel g o = .ok (o.Values.foldl Gen.Dataset.Dataset.Add g) :=
  merge_foldl fuel g o

/-! ### order independence -/

/-- the answers of the generated code depend on the multiset of added values only -/
theorem gen_order_independent (fuel : Nat) (xs ys : List Rat) (h : xs.Perm ys) (q : F64) :
    ans (Gen.Dataset.Dataset.LowerQuantile fuel (genOfList xs) q) =
      ans (Gen.Dataset.Dataset.LowerQuantile fuel (genOfList ys) q) ∧
    ans (Gen.Dataset.Dataset.UpperQuantile fuel (genOfList xs) q) =
      ans (Gen.Dataset.Dataset.UpperQuantile fuel (genOfList ys) q) ∧
    ans (Gen.Dataset.Dataset.Min fuel (genOfList xs)) = ans (Gen.Dataset.Dataset.Min fuel (genOfList ys)) ∧
    ans (Gen.Dataset.Dataset.Max fuel (genOfList xs)) = ans (Gen.Dataset.Dataset.Max fuel (genOfList ys)) ∧
    (genOfList xs).Count = (genOfList ys).Count := by
  obtain ⟨h1, h2, h3, h4, h5⟩ := C20.order_independent xs ys h q
  simp only [genOfList_eq, lowerQuantile_eq, upperQuantile_eq, GenDataset.min_eq, GenDataset.max_eq, ans_qres, toGen_Count,
    h1, h2, h3, h4, h5, and_self]

/-- the sorted receiver left behind is the same too -/
theorem gen_order_independent_sort (xs ys : List Rat) (h : xs.Perm ys) :
    Gen.Dataset.Dataset.sort (genOfList xs) = Gen.Dataset.Dataset.sort (genOfList ys) := by
  rw [genOfList_eq, genOfList_eq, sort_eq, sort_eq, (obsEq_ofList h).sort_eq]

/-- `Sum()` of the generated code is NOT order independent (Kahan fold in insertion order) -/
theorem gen_sum_is_order_dependent (fuel : Nat) :
    Gen.Dataset.Dataset.Sum fuel (genOfList [2 ^ 54, 1, -2 ^ 54]) = .ok (.fin 0) ∧
    Gen.Dataset.Dataset.Sum fuel (genOfList [2 ^ 54, -2 ^ 54, 1]) = .ok (.fin 1) ∧
      List.Perm [(2 : Rat) ^ 54, 1, -2 ^ 54] [2 ^ 54, -2 ^ 54, 1] := by
  obtain ⟨h1, h2, h3⟩ := C20.sum_is_order_dependent
  rw [genOfList_eq, genOfList_eq, sum_eq, sum_eq, h1, h2]
  exact ⟨rfl, rfl, h3⟩

/-! ### on the running example of `C20` -/

example (fuel : Nat) (q : F64) :
    Gen.Dataset.Dataset.LowerQuantile fuel (genOfList [3, -1, 2, 2, 7]) q ≠ .panic := by
  rw [genOfList_eq]
  exact (gen_quantile_never_panics fuel _ C20.ex_inv (by rw [C20.ex_len]; decide) q).1

example (fuel : Nat) :
    ans (Gen.Dataset.Dataset.LowerQuantile fuel (genOfList [3, -1, 2, 2, 7]) (.fin (1/2))) = .ok (.fin 2) := by
  rw [genOfList_eq, lowerQuantile_eq, ans_qres, lowerQuantile_by,
    quantileBy_eval Rat.floor (ofList [3, -1, 2, 2, 7]) C20.ex_inv.2 _ C20.ex_sorted _ 2 2
      (by decide +kernel) (by decide +kernel) (by decide +kernel)]
  rfl

end DDS.Props.C20Gen
