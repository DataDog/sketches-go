/-
  DDS.Props.C06GenPag — the binary encoding of the buffered-paginated store (properties C06, C07, C08) on the
  REGENERATED code (`DDS/Generated/CodePaginated.lean`, DESIGN §4.2c), with the interface hypotheses of
  `Proofs/GenPagCodec.lean` instantiated by their proofs.

  * `gen_pag_Encode`: for every store with the invariant the regenerated `Encode` appends exactly the bytes of the
    blocks the model's encoder writes (`Sketch.encodeStore`: compaction, one index-delta block for the buffer, one
    contiguous block per page — the layout of the format documentation, `Wire.encBlocks`), leaves a store with the
    same content, and never panics.
  * `gen_pag_Decode_deltas`, `GenPag.DecodeAndMergeWith_contiguous` (not restated here: it takes `PageSpec`, proved as
    `GenPag.page_spec`): the two layouts the paginated store decodes itself (batches
    of appends with compactions in between, for every capacity and growth policy; page-wise adds for any start and
    stride) agree with the model's decoder `Sketch.decodeStore`: same error (end of input), same remaining bytes,
    and a store with the invariant holding the same content. `gen_pag_Decode_other` hands the third layout to the
    generic decoder (`GenStoreDecode`).
  * `gen_pag_huge_count`: a finding outside the properties, kernel-checked on the regenerated code and reproduced on
    the library: an index-delta block announcing 2^63 bins or more makes `remaining := int(numBins)` negative; the
    paginated decoder then reads nothing and reports success, where the generic decoder (and the model) report
    end of input.  Hence the hypothesis `v < 2^63` of `gen_pag_Decode_deltas`.
-/
import DDS.Proofs.GenPaginated

namespace DDS.Props.C06GenPag

open DDS DDS.GoSem DDS.PStore DDS.GenPag DDS.Gen.Paginated DDS.Gen.Encoding

/-- C06/C07: the regenerated encoder writes the model's (= the documentation's) blocks and keeps the content -/
theorem gen_pag_Encode (fuel : Nat) (s : PStore) (cap : Int) (side : Side) (t : FlagType)
    (ht : t.byte.toNat = Wire.sideType side) (b : List (BitVec 8))
    (hI : PStore.Inv s) (hlen : s.buffer.length < 2 ^ 64) (hf : encodeFuel compactFuel s ≤ fuel) :
    ∃ s' blocks, Sketch.encodeStore (.pg s) side = some (.pg s', blocks) ∧
      BufferedPaginatedStore.Encode fuel (toGen s cap) b t
        = .ok (toGen s' cap, b ++ DDS.GenEncoding.bn (Wire.encBlocks blocks)) ∧
      PStore.Inv s' ∧ content s' = content s :=
  Encode_inv compactFuel compactSpec fuel s cap side t ht b hI hlen hf

/-- C06/C08: index-delta blocks, any capacity, any growth policy -/
theorem gen_pag_Decode_deltas (grow : Int → Int → Int)
    (fb : GP → List (BitVec 8) → SubFlag → Res (GP × List (BitVec 8) × GoErr))
    (fuel : Nat) (s : PStore) (cap : Int) (b : List (BitVec 8)) (hI : PStore.Inv s)
    (hcap : (s.buffer.length : Int) ≤ max cap (s.trigger : Int))
    (hn : ∀ v rest, Codec.decUvarint64 (DDS.GenEncoding.nb b) = .ok (v, rest) → v < 2 ^ 63)
    (hidx : ∀ u ∈ DDS.GenStoreDecode.storeIndexes Consts.binEncodingIndexDeltas (DDS.GenEncoding.nb b), Idx32 u)
    (hf : deltasFuel compactFuel grow s cap b ≤ fuel) :
    DecAgrees (BufferedPaginatedStore.DecodeAndMergeWith fuel grow fb (toGen s cap) b BinEncodingIndexDeltas)
      (Sketch.decodeStore (.pg s) Consts.binEncodingIndexDeltas (DDS.GenEncoding.nb b)) :=
  DecodeAndMergeWith_deltas compactFuel compactSpec grow fb fuel s s cap b hI hI rfl hcap hn hidx hf

/-- C08: the third layout goes to the generic decoder -/
theorem gen_pag_Decode_other (grow : Int → Int → Int)
    (fb : GP → List (BitVec 8) → SubFlag → Res (GP × List (BitVec 8) × GoErr))
    (fuel : Nat) (g : GP) (b : List (BitVec 8)) (m : SubFlag)
    (h1 : (m == BinEncodingIndexDeltas) = false) (h2 : (m == BinEncodingContiguousCounts) = false) :
    BufferedPaginatedStore.DecodeAndMergeWith fuel grow fb g b m = fb g b m :=
  DecodeAndMergeWith_fallback grow fb fuel g b m h1 h2

/-- finding outside the properties (malformed input): 2^63 announced bins are "decoded" successfully to nothing by
    the regenerated paginated decoder, while the model (like the generic decoder of the other stores) reports EOF -/
theorem gen_pag_huge_count :
    isOkNilEmpty (BufferedPaginatedStore.DecodeAndMergeWith 20 (fun _ n => n)
      (fun s b _ => .ok (s, b, GoErr.nil)) NewBufferedPaginatedStore hugeCount BinEncodingIndexDeltas) = true ∧
    isErrEof (Sketch.decodeStore (.pg PStore.new) Consts.binEncodingIndexDeltas (DDS.GenEncoding.nb hugeCount)) = true :=
  ⟨deltas_negative_count_gen, deltas_negative_count_model⟩

end DDS.Props.C06GenPag
