/-
  DDS.Props.Lift — the headline guarantees for EVERY store kind.

  `DDS.Proofs.Lift` gives one invariant (`Lift.Good`) for the five store kinds and shows that
  every operation of the store interface — all 5 × 5 kind pairs of `MergeWith` included — is the
  SPEC step on the canonical content.  Here the sketch-level theorems, proved on spec (sparse)
  stores in C01 / C02 / C12, are transported:

  * `quantile_accuracy_any_store`, `addAll_ok_any_store`, `quantile_eq_spec` — the statement of
    `C01.quantile_accuracy` on dense, sparse and buffered-paginated stores;
  * `merge_tree_any_stores` — `C02.merge_tree` with a store kind per leaf (any mix of
    non-collapsing kinds): the result observes like the flat spec sketch;
  * `collapsing_sketch_contents` — sketches on lowest- or highest-collapsing stores hold
    `specLow N` / `specHigh N` of the exact contents;
  * `collapsing_quantile_retained` — on lowest-collapsing stores every quantile whose selected
    bin is at or above the edge `max − N + 1` of its side is answered exactly as by the
    un-collapsed spec sketch (below the edge the edge bin answers);
  * `quantile_retained_any_kind` — the statement both rest on, for every store kind: a clamping
    rule relabels the keys by a monotone map (`Clamp.key`), every rank lookup commutes with it
    (`storeKeyAtRank_relabel`), and an answer whose key the map fixes survives
    (`quantile_clamp_retained`).

  The transport is one simulation, `SimC cl s t`: the model sketch `s` holds the contents of the
  exact spec sketch `t` clamped by `cl` (kept by every add: `addV_liftC`); without clamping it is
  `GoodSk s ∧ specOf s = t` (`simC_none`), which merges keep as well (`mergeWith_lift`).

  The only hypothesis added to C01/C02: the indexes of the values routed to a store are int32
  (outside int32 the dense stores mis-report `MinIndex`/`MaxIndex` or panic; see
  `DStore.minIndex_counterexample`, `DStore.addWithCount_far_panics`).
-/
import DDS.Proofs.Lift
import DDS.Props.C01
import DDS.Props.C02
import DDS.Props.C12Exact

namespace DDS.Lift
open DDS

/-! ## a sketch on good, non-collapsing stores and its spec sketch -/

/-- both stores are `Good` and do not clamp (dense, sparse or paginated) -/
structure GoodSk (s : Sketch) : Prop where
  pos : Good s.pos
  neg : Good s.neg
  cpos : s.pos.clamp = .none
  cneg : s.neg.clamp = .none

def specOf (s : Sketch) : Sketch :=
  Sketch.spec s.mapping (contentOf s.pos) (contentOf s.neg) s.zero

theorem GoodSk.refines {s : Sketch} (G : GoodSk s) :
    s.Refines (contentOf s.pos) (contentOf s.neg) :=
  ⟨good_refines _ G.pos, good_refines _ G.neg⟩

/-- non-collapsing kinds -/
def Plain : StoreKind → Prop
  | .dense => True
  | .sparse => True
  | .pag => True
  | _ => False

theorem clampOfKind_plain (k : StoreKind) (hk : Plain k) : clampOfKind k = .none := by
  cases k <;> first | rfl | exact False.elim hk

/-! ## sketches on stores of any kind: contents = clamped exact contents -/

/-- the sketch `s` (stores with clamping rule `cl`) holds the clamped contents of the exact
    (un-collapsed) spec sketch `t` -/
structure SimC (cl : Clamp) (s t : Sketch) : Prop where
  pos : Good s.pos
  neg : Good s.neg
  cpos : s.pos.clamp = cl
  cneg : s.neg.clamp = cl
  spec : ∃ cp cn, cp.WF ∧ cn.WF ∧ t = Sketch.spec s.mapping cp cn s.zero ∧
    contentOf s.pos = cl.apply cp ∧ contentOf s.neg = cl.apply cn

/-- without clamping: `s` is `GoodSk` and `t` is its spec sketch -/
theorem simC_none {s t : Sketch} : SimC .none s t ↔ GoodSk s ∧ specOf s = t := by
  constructor
  · rintro ⟨Gp, Gn, kp, kn, cp, cn, _, _, rfl, ep, en⟩
    exact ⟨⟨Gp, Gn, kp, kn⟩, by rw [specOf, ep, en]; rfl⟩
  · rintro ⟨G, rfl⟩
    exact ⟨G.pos, G.neg, G.cpos, G.cneg, _, _, good_wf _ G.pos, good_wf _ G.neg, rfl, rfl, rfl⟩

theorem simC_new (m : Option MapId) (k : StoreKind) (hk : KindOK k) :
    SimC (clampOfKind k) (Sketch.new m k) (Sketch.new m .sparse) := by
  obtain ⟨g, c, _⟩ := good_new k hk
  have hc : contentOf (Store.new k) = (clampOfKind k).apply [] := by rw [c, Clamp.apply_nil]
  exact ⟨g, g, clamp_new k, clamp_new k, [], [], Content.wf_nil, Content.wf_nil, rfl, hc, hc⟩

theorem addV_eq (env : MapEnv) (s : Sketch) (v c : Rat) :
    s.addV env v c =
      if F64.lt (.fin c) (.fin 0) then some (.error .negativeCount)
      else if F64.gt (.fin v) env.minIndexable then
        if F64.gt (.fin v) env.maxIndexable then some (.error .tooHigh)
        else (s.pos.addWithCount (env.index (.fin (rabs v))) c).bind fun p =>
          some (.ok { s with pos := p })
      else if F64.lt (.fin v) (F64.neg env.minIndexable) then
        if F64.lt (.fin v) (F64.neg env.maxIndexable) then some (.error .tooLow)
        else (s.neg.addWithCount (env.index (.fin (rabs v))) c).bind fun n =>
          some (.ok { s with neg := n })
      else some (.ok { s with zero := F64.add s.zero (.fin c) }) := rfl

/-- one `AddWithCount` on the model follows the exact spec sketch (the index of a value routed to
    a store must be an int32): the condition chain only looks at the value and the weight, and the
    store that receives the bin clamps once -/
theorem addV_liftC (env : MapEnv) (cl : Clamp) (s t : Sketch)
    (S : SimC cl s t) (v c : Rat)
    (hidx : (F64.gt (.fin v) env.minIndexable = true ∨
        F64.lt (.fin v) (F64.neg env.minIndexable) = true) → I32 (env.index (.fin (rabs v))))
    (t' : Sketch) (h : t.addV env v c = some (.ok t')) :
    ∃ s', s.addV env v c = some (.ok s') ∧ SimC cl s' t' := by
  obtain ⟨Gp, Gn, kp, kn, cp, cn, wp, wn, rfl, ep, en⟩ := S
  rw [addV_eq] at h ⊢
  simp only [Sketch.spec, Store.addWithCount, Option.bind_some] at h
  by_cases hc : F64.lt (.fin c) (.fin 0) = true
  · rw [if_pos hc] at h; cases h
  rw [if_neg hc] at h ⊢
  have hc0 : 0 ≤ c := not_lt.1 (fun h' => hc (decide_eq_true h'))
  by_cases h1 : F64.gt (.fin v) env.minIndexable = true
  · rw [if_pos h1] at h ⊢
    by_cases h2 : F64.gt (.fin v) env.maxIndexable = true
    · rw [if_pos h2] at h; cases h
    rw [if_neg h2] at h ⊢
    cases h
    obtain ⟨p', hp1, hp2, hp3, hp4⟩ :=
      good_add_rel s.pos Gp cl kp cp wp ep _ c hc0 (fun _ => hidx (Or.inl h1))
    rw [hp1]
    exact ⟨_, rfl, hp2, Gn, (clamp_of_kind hp3).trans kp, kn, _, cn, Content.wf_add _ _ _ wp hc0, wn,
      rfl, hp4, en⟩
  rw [if_neg h1] at h ⊢
  by_cases h3 : F64.lt (.fin v) (F64.neg env.minIndexable) = true
  · rw [if_pos h3] at h ⊢
    by_cases h4 : F64.lt (.fin v) (F64.neg env.maxIndexable) = true
    · rw [if_pos h4] at h; cases h
    rw [if_neg h4] at h ⊢
    cases h
    obtain ⟨n', hn1, hn2, hn3, hn4⟩ :=
      good_add_rel s.neg Gn cl kn cn wn en _ c hc0 (fun _ => hidx (Or.inr h3))
    rw [hn1]
    exact ⟨_, rfl, Gp, hn2, kp, (clamp_of_kind hn3).trans kn, cp, _, wp, Content.wf_add _ _ _ wn hc0,
      rfl, ep, hn4⟩
  rw [if_neg h3] at h ⊢
  cases h
  exact ⟨_, rfl, Gp, Gn, kp, kn, cp, cn, wp, wn, rfl, ep, en⟩

theorem addAll_liftC (env : MapEnv) (cl : Clamp) (l : List (Rat × Rat))
    (hidx : ∀ p ∈ l, (F64.gt (.fin p.1) env.minIndexable = true ∨
        F64.lt (.fin p.1) (F64.neg env.minIndexable) = true) → I32 (env.index (.fin (rabs p.1))))
    (s t : Sketch) (S : SimC cl s t) (t' : Sketch) (h : t.addAll env l = some t') :
    ∃ s', s.addAll env l = some s' ∧ SimC cl s' t' := by
  induction l generalizing s t with
  | nil => cases h; exact ⟨s, rfl, S⟩
  | cons p l ih =>
    rw [Sketch.addAll] at h ⊢
    split at h
    next t1 h1 =>
      obtain ⟨s1, k1, S1⟩ := addV_liftC env cl s t S p.1 p.2 (hidx p (List.mem_cons_self ..)) t1 h1
      rw [k1]
      exact ih (fun q hq => hidx q (List.mem_cons_of_mem _ hq)) s1 t1 S1 h
    next => cases h

theorem addAll_lift_new (env : MapEnv) (k : StoreKind) (hk : Plain k) (l : List (Rat × Rat))
    (hidx : ∀ p ∈ l, (F64.gt (.fin p.1) env.minIndexable = true ∨
        F64.lt (.fin p.1) (F64.neg env.minIndexable) = true) → I32 (env.index (.fin (rabs p.1))))
    (t : Sketch) (h : Sketch.addAll env (Sketch.new (some env.id) .sparse) l = some t) :
    ∃ s, Sketch.addAll env (Sketch.new (some env.id) k) l = some s ∧ GoodSk s ∧ specOf s = t := by
  have S := simC_new (some env.id) k (by cases k <;> trivial)
  rw [clampOfKind_plain k hk] at S
  obtain ⟨s, h1, S'⟩ := addAll_liftC env .none l hidx _ _ S t h
  exact ⟨s, h1, simC_none.1 S'⟩

/-! ## merges; merge trees with a store kind per leaf -/

/-- `MergeWith` on the model follows the spec sketch, for any two non-collapsing store kinds on
    either side (fast paths and `ForEach` fallback alike) -/
theorem mergeWith_lift (s o : Sketch) (Gs : GoodSk s) (Go : GoodSk o) (t' : Sketch)
    (h : (specOf s).mergeWith (specOf o) = some (.ok t')) :
    ∃ s', s.mergeWith o = some (.ok s') ∧ GoodSk s' ∧ specOf s' = t' := by
  obtain ⟨p', hp1, hp2, hp3, hp4⟩ := good_merge s.pos o.pos Gs.pos Go.pos
  obtain ⟨n', hn1, hn2, hn3, hn4⟩ := good_merge s.neg o.neg Gs.neg Go.neg
  rw [Gs.cpos] at hp4
  rw [Gs.cneg] at hn4
  unfold Sketch.mergeWith at h ⊢
  change (if (!Sketch.mappingEquals s.mapping o.mapping) = true then _ else _) = _ at h
  split_ifs at h ⊢
  · cases h
  simp only [specOf, Sketch.spec, Store.mergeWith, Store.binsList, Option.bind_eq_bind,
    Option.bind_some, Option.pure_def, Option.some.injEq, Except.ok.injEq] at h
  simp only [hp1, hn1, Option.bind_eq_bind, Option.bind_some, Option.pure_def]
  refine ⟨_, rfl, ⟨hp2, hn2, (clamp_of_kind hp3).trans Gs.cpos, (clamp_of_kind hn3).trans Gs.cneg⟩,
    ?_⟩
  rw [← h]
  simp only [specOf, Sketch.spec, hp4, hn4]
  rfl

inductive KTree where
  | leaf (k : StoreKind) (inputs : List (Rat × Rat))
  | node (l r : KTree)

/-- the same tree on spec (sparse) sketches -/
def KTree.erase : KTree → Props.C02.MergeTree
  | .leaf _ l => .leaf l
  | .node l r => .node l.erase r.erase

def KTree.flat (t : KTree) : List (Rat × Rat) := t.erase.flat

def KTree.AllPlain : KTree → Prop
  | .leaf k _ => Plain k
  | .node l r => l.AllPlain ∧ r.AllPlain

/-- leaf: the inputs added to a new sketch on stores of the leaf's kind; node: the right result
    merged into the left one (`none` if any step is refused or panics) -/
def KTree.eval (env : MapEnv) : KTree → Option Sketch
  | .leaf k l => Sketch.addAll env (Sketch.new (some env.id) k) l
  | .node l r =>
    match l.eval env, r.eval env with
    | some a, some b =>
      match a.mergeWith b with
      | some (.ok s) => some s
      | _ => none
    | _, _ => none

theorem ktree_lift (env : MapEnv) (t : KTree) (hk : t.AllPlain)
    (hidx : ∀ p ∈ t.flat, (F64.gt (.fin p.1) env.minIndexable = true ∨
        F64.lt (.fin p.1) (F64.neg env.minIndexable) = true) → I32 (env.index (.fin (rabs p.1))))
    (t₀ : Sketch) (h : t.erase.eval env = some t₀) :
    ∃ s, t.eval env = some s ∧ GoodSk s ∧ specOf s = t₀ := by
  induction t generalizing t₀ with
  | leaf k l => exact addAll_lift_new env k hk l hidx t₀ h
  | node l r ihl ihr =>
    have hflat : (KTree.node l r).flat = l.flat ++ r.flat := rfl
    simp only [hflat, List.mem_append] at hidx
    simp only [KTree.erase, Props.C02.MergeTree.eval] at h
    split at h
    next a b hl hr =>
      obtain ⟨sa, ea, Ga, rfl⟩ := ihl hk.1 (fun p hp => hidx p (Or.inl hp)) a hl
      obtain ⟨sb, eb, Gb, rfl⟩ := ihr hk.2 (fun p hp => hidx p (Or.inr hp)) b hr
      split at h
      next t1 hm =>
        cases h
        obtain ⟨s', k1, G', e'⟩ := mergeWith_lift sa sb Ga Gb t₀ hm
        exact ⟨s', by simp only [KTree.eval, ea, eb, k1], G', e'⟩
      next => cases h
    next => cases h

/-! ## observers: two sketches refining the same contents answer alike -/

/-- two sketches (on stores of any kinds) that refine the same contents and have the same mapping
    and zero weight give the same answer to every query; for `GetValueAtQuantile` under the guard
    of `Sketch.quantile_congr'` (the positive store is consulted only if it is non-empty;
    `Sketch.quantile_empty_pos_counterexample` shows the guard is needed) -/
theorem same_answers (env : MapEnv) (s t : Sketch) (cp cn : Content) (hs : s.Refines cp cn)
    (ht : t.Refines cp cn) (hm : t.mapping = s.mapping) (hz : t.zero = s.zero) :
    t.getCount = s.getCount ∧ t.isEmpty = s.isEmpty ∧
      t.forEachList env = s.forEachList env ∧ t.getSum env = s.getSum env ∧
      t.getMin env = s.getMin env ∧ t.getMax env = s.getMax env ∧
      ∀ q : F64, (cp = [] → s.usesPos q = false) → t.quantile env q = s.quantile env q := by
  refine ⟨?_, ?_, ?_, ?_, ?_, ?_, ?_⟩
  · rw [Sketch.getCount_congr ht, Sketch.getCount_congr hs, hm, hz]
  · rw [Sketch.isEmpty_congr ht, Sketch.isEmpty_congr hs, hm, hz]
  · rw [Sketch.forEachList_congr env ht, Sketch.forEachList_congr env hs, hm, hz]
  · rw [Sketch.getSum_congr env ht, Sketch.getSum_congr env hs, hm, hz]
  · rw [Sketch.getMin_congr env ht, Sketch.getMin_congr env hs, hm, hz]
  · rw [Sketch.getMax_congr env ht, Sketch.getMax_congr env hs, hm, hz]
  · intro q hq
    rw [Sketch.quantile_congr' env hs q hq,
      Sketch.quantile_congr' env ht q (fun hc => by
        rw [Sketch.usesPos_congr ht q, hm, hz, ← Sketch.usesPos_congr hs q]; exact hq hc),
      hm, hz]

/-! ## which bin answers -/

/-- which bin `GetValueAtQuantile(q)` selects: `none` (refused, or the zero bucket) or the side
    (`true` = positive store) and the bin index -/
def selKey (s : Sketch) (q : F64) : Option (Bool × Int) :=
  if !(F64.le (.fin 0) q && F64.le q (.fin 1)) then none
  else if F64.eq s.getCount (.fin 0) then none
  else if F64.lt (s.qrank q) s.negTotal then
    some (false, Sketch.storeKeyAtRank s.neg (F64.sub (F64.sub s.negTotal F64.one) (s.qrank q)))
  else if F64.lt (s.qrank q) (F64.add s.zero s.negTotal) then none
  else some (true, Sketch.storeKeyAtRank s.pos (F64.sub (F64.sub (s.qrank q) s.zero) s.negTotal))

theorem selKey_eq_qcases (s : Sketch) (q : F64) :
    selKey s q = s.qcases q none none (fun k => some (false, k)) none (fun k => some (true, k)) :=
  rfl

/-- two spec sketches with the same totals and zero bucket answer `GetValueAtQuantile(q)` alike if
    the rank lookup on the side `selKey` names answers alike -/
theorem quantile_eq_of_selKey (env : MapEnv) (m : Option MapId) (cp cn cp' cn' : Content) (z q : F64)
    (hp : cp'.total = cp.total) (hn : cn'.total = cn.total)
    (hkey : ∀ (side : Bool) rk, selKey (Sketch.spec m cp cn z) q =
        some (side, Sketch.storeKeyAtRank (.sp (if side then cp else cn)) rk) →
      Sketch.storeKeyAtRank (.sp (if side then cp' else cn')) rk =
        Sketch.storeKeyAtRank (.sp (if side then cp else cn)) rk) :
    (Sketch.spec m cp' cn' z).quantile env q = (Sketch.spec m cp cn z).quantile env q := by
  unfold selKey at hkey
  refine Sketch.quantile_eq_of_keys env q ?_ ?_ rfl (fun h1 h2 h3 => ?_) (fun h1 h2 h4 => ?_)
  · simp only [Sketch.getCount, Sketch.posTotal, Sketch.negTotal, Sketch.spec, Store.totalCount, hp,
      hn]
  · simp only [Sketch.negTotal, Sketch.spec, Store.totalCount, hn]
  · exact hkey false _ (by
      rw [if_neg (by simpa using h1), if_neg (by simpa using h2), if_pos h3]; rfl)
  · simp only [Sketch.usesPos, Bool.and_eq_true, Bool.not_eq_true'] at h4
    exact hkey true _ (by
      rw [if_neg (by simpa using h1), if_neg (by simpa using h2),
        if_neg (Bool.eq_false_iff.1 h4.1), if_neg (Bool.eq_false_iff.1 h4.2)]; rfl)

/-! ## rank lookups on relabelled contents

A clamping rule relabels the keys by a monotone map that keeps the total (`Clamp.apply_eq_relabel`,
`Clamp.key_mono`): every rank lookup commutes with it, and an answer whose key is a fixed point of
the map survives. -/

theorem storeKeyAtRank_relabel (f : Int → Int) (hf : ∀ i j, i ≤ j → f i ≤ f j) (c : Content)
    (h : c.WF) (hne : c ≠ []) (rk : F64) :
    Sketch.storeKeyAtRank (.sp (Content.relabel f c)) rk = f (Sketch.storeKeyAtRank (.sp c) rk) := by
  have hfin : ∀ r, (Store.sp (Content.relabel f c)).keyAtRank r = f ((Store.sp c).keyAtRank r) :=
    fun r => by
      rw [Store.sp_keyAtRank _ (Content.wf_relabel f c h), Store.sp_keyAtRank _ h,
        Content.keyAtRank_relabel f hf c h hne]
  have hinf : ((Content.relabel f c).maxIndex?).getD 0 = f ((c.maxIndex?).getD 0) := by
    obtain ⟨mx, hmx⟩ := Content.maxIndex?_isSome c hne
    rw [Content.maxIndex_relabel f hf c h mx hmx, hmx]; rfl
  cases rk
  exacts [hfin _, hinf, hfin 0, hinf]

/-- relabelling the two contents by monotone maps does not change the answer of
    `GetValueAtQuantile(q)` when the key the exact sketch selects is a fixed point of the map of
    its side (and never changes refusals or zero-bucket answers) -/
theorem quantile_relabel_retained (env : MapEnv) (m : Option MapId) (cp cn : Content)
    (hcp : cp.WF) (hcn : cn.WF) (z q : F64) (f g : Int → Int)
    (hf : ∀ i j, i ≤ j → f i ≤ f j) (hg : ∀ i j, i ≤ j → g i ≤ g j)
    (hsel : ∀ side k, selKey (Sketch.spec m cp cn z) q = some (side, k) →
      (if side then f else g) k = k) :
    (Sketch.spec m (Content.relabel f cp) (Content.relabel g cn) z).quantile env q =
      (Sketch.spec m cp cn z).quantile env q := by
  refine quantile_eq_of_selKey env m cp cn _ _ z q (Content.total_relabel f cp)
    (Content.total_relabel g cn) fun side rk hs => ?_
  have key := hsel side _ hs
  cases side
  · rcases eq_or_ne cn [] with rfl | hne
    · rfl
    · exact (storeKeyAtRank_relabel g hg cn hcn hne rk).trans key
  · rcases eq_or_ne cp [] with rfl | hne
    · rfl
    · exact (storeKeyAtRank_relabel f hf cp hcp hne rk).trans key

/-- spec level: clamping both contents by the rule `cl` does not change the answer of
    `GetValueAtQuantile(q)` when the key the exact sketch selects is a fixed point of the key map
    of `cl` on the content of its side -/
theorem quantile_clamp_retained (env : MapEnv) (cl : Clamp) (m : Option MapId) (cp cn : Content)
    (hcp : cp.WF) (hcn : cn.WF) (z q : F64)
    (hsel : ∀ side k, selKey (Sketch.spec m cp cn z) q = some (side, k) →
      cl.key (if side then cp else cn) k = k) :
    (Sketch.spec m (cl.apply cp) (cl.apply cn) z).quantile env q =
      (Sketch.spec m cp cn z).quantile env q := by
  rw [cl.apply_eq_relabel cp hcp, cl.apply_eq_relabel cn hcn]
  exact quantile_relabel_retained env m cp cn hcp hcn z q _ _ (cl.key_mono cp) (cl.key_mono cn)
    fun side k h => by cases side <;> exact hsel _ k h

/-! ## the edges of collapsing stores -/

/-- the lower edge of a lowest-collapsing store with `N` bins holding the exact content `c`:
    `max − N + 1` (anything for the empty content) -/
def edgeLow (N : Nat) (c : Content) : Int :=
  match c.maxIndex? with
  | some mx => mx - (N : Int) + 1
  | none => 0

/-- the upper edge of a highest-collapsing store with `N` bins holding the exact content `c`:
    `min + N − 1` (anything for the empty content) -/
def edgeHigh (N : Nat) (c : Content) : Int :=
  match c.minIndex? with
  | some mn => mn + (N : Int) - 1
  | none => 0

theorem key_low_of_edge (N : Nat) (c : Content) (k : Int) (h : edgeLow N c ≤ k) :
    (Clamp.low N).key c k = k := by
  cases hmx : c.maxIndex? with
  | none => simp only [Clamp.key, hmx, id]
  | some mx =>
    simp only [edgeLow, hmx] at h
    simp only [Clamp.key, hmx, Content.lowMap_eq_max]
    exact max_eq_left h

theorem key_high_of_edge (N : Nat) (c : Content) (k : Int) (h : k ≤ edgeHigh N c) :
    (Clamp.high N).key c k = k := by
  cases hmn : c.minIndex? with
  | none => simp only [Clamp.key, hmn, id]
  | some mn =>
    simp only [edgeHigh, hmn] at h
    simp only [Clamp.key, hmn, Content.highMap_eq_min]
    exact min_eq_left h

end DDS.Lift

namespace DDS.Props.Lift

open DDS DDS.Lift

/-! ## unit adds into stores of any kind -/

/-- a value routed to a store has a magnitude above `minIndexable` (hypotheses of
    `C02.merge_tree`: no contract needed) -/
theorem lt_rabs_of_routed (env : MapEnv) (mn : Rat) (hmn : env.minIndexable = .fin mn)
    (hmn0 : 0 ≤ mn) (v : Rat) (h : F64.gt (.fin v) env.minIndexable = true ∨
      F64.lt (.fin v) (F64.neg env.minIndexable) = true) : mn < rabs v := by
  rw [hmn] at h
  rcases h with h | h
  · have : mn < v := of_decide_eq_true h
    rw [rabs_of_pos (lt_of_le_of_lt hmn0 this)]; exact this
  · have : v < -mn := of_decide_eq_true h
    rw [rabs_of_neg (lt_of_lt_of_le this (neg_nonpos.2 hmn0))]; exact lt_neg_of_lt_neg this

/-- the mapping of the spec sketch built by unit adds (no bound on the number of values) -/
theorem addAll_state_mapping (env : MapEnv) (α mn mx : Rat) (C : Contract env α mn mx)
    (xs : List Rat) (hx : ∀ x ∈ xs, rabs x ≤ mx) (s₀ : Sketch)
    (hs : Sketch.addAll env (Sketch.new (some env.id) .sparse) (xs.map (fun x => (x, 1))) = some s₀) :
    s₀.mapping = some env.id := by
  rw [Sketch.new_sparse, addAll_units env α mn mx C xs hx] at hs
  rw [← Option.some.inj hs, Sketch.spec_mapping]

theorem units_idx32 (env : MapEnv) (α mn mx : Rat) (C : Contract env α mn mx) (xs : List Rat)
    (hx32 : ∀ x ∈ xs, mn < rabs x → I32 (env.index (.fin (rabs x)))) :
    ∀ p ∈ xs.map (fun x => (x, (1 : Rat))), (F64.gt (.fin p.1) env.minIndexable = true ∨
      F64.lt (.fin p.1) (F64.neg env.minIndexable) = true) → I32 (env.index (.fin (rabs p.1))) := by
  intro p hp hr
  obtain ⟨x, hxm, rfl⟩ := List.mem_map.1 hp
  exact hx32 x hxm (lt_rabs_of_routed env mn C.minEq C.minPos.le x hr)

theorem addAll_any_store (k : StoreKind) (hk : Plain k)
    (env : MapEnv) (α mn mx : Rat) (C : Contract env α mn mx)
    (xs : List Rat) (hx : ∀ x ∈ xs, rabs x ≤ mx)
    (hx32 : ∀ x ∈ xs, mn < rabs x → I32 (env.index (.fin (rabs x)))) :
    ∃ s s₀, Sketch.addAll env (Sketch.new (some env.id) k) (xs.map (fun x => (x, 1))) = some s ∧
      Sketch.addAll env (Sketch.new (some env.id) .sparse) (xs.map (fun x => (x, 1))) = some s₀ ∧
      GoodSk s ∧ specOf s = s₀ := by
  obtain ⟨s₀, hs₀⟩ := C01.addAll_ok env α mn mx C xs hx
  obtain ⟨s, h1, h2, h3⟩ :=
    addAll_lift_new env k hk _ (units_idx32 env α mn mx C xs hx32) s₀ hs₀
  exact ⟨s, s₀, h1, hs₀, h2, h3⟩

/-- adding never fails, for every non-collapsing store kind -/
theorem addAll_ok_any_store (k : StoreKind) (hk : Plain k)
    (env : MapEnv) (α mn mx : Rat) (C : Contract env α mn mx)
    (xs : List Rat) (hx : ∀ x ∈ xs, rabs x ≤ mx)
    (hx32 : ∀ x ∈ xs, mn < rabs x → I32 (env.index (.fin (rabs x)))) :
    ∃ s, Sketch.addAll env (Sketch.new (some env.id) k) (xs.map (fun x => (x, 1))) = some s := by
  obtain ⟨s, _, h1, _⟩ := addAll_any_store k hk env α mn mx C xs hx hx32
  exact ⟨s, h1⟩

/-! ## the counts after unit adds are exact -/

theorem unit_counts_exact (zc np nm : Nat) (h1 : 1 ≤ zc + np + nm) (h2 : zc + np + nm ≤ 2 ^ 53) :
    F64.add (F64.add (.fin (zc : Rat)) (.fin (np : Rat))) (.fin (nm : Rat)) =
      .fin ((zc : Rat) + (np : Rat) + (nm : Rat)) ∧
    F64.sub (.fin ((zc : Rat) + (np : Rat) + (nm : Rat))) F64.one ≠
      .fin ((zc : Rat) + (np : Rat) + (nm : Rat)) := by
  have e : ((zc : Rat) + np + nm) = ((zc + np + nm : Nat) : Rat) := by
    rw [Nat.cast_add, Nat.cast_add]
  constructor
  · rw [F64.add_nat _ _ (by omega), F64.add_nat _ _ (by omega), e]
  · rw [e, F64.sub_one_nat _ h2]
    intro hc
    have := F64.fin.inj hc
    linarith

/-- `cp`, `cn`, `z` are the contents and the zero bucket of the spec sketch built by at most
    `2^53` unit adds: its counts add up exactly.  Hence a sketch on any stores that refine
    contents with the same totals (`cp`, `cn` themselves, or their collapsed forms) answers
    `GetValueAtQuantile` like the spec sketch on those contents. -/
theorem quantile_congr_units (env : MapEnv) (α mn mx : Rat) (C : Contract env α mn mx)
    (xs : List Rat) (hx : ∀ x ∈ xs, rabs x ≤ mx) (hne : xs ≠ []) (hn : xs.length ≤ 2 ^ 53)
    (cp cn : Content) (s : Sketch)
    (h₀ : Sketch.addAll env (Sketch.new (some env.id) .sparse) (xs.map (fun x => (x, 1))) =
      some (Sketch.spec (some env.id) cp cn s.zero))
    (cp' cn' : Content) (R : s.Refines cp' cn') (tp : cp'.total = cp.total)
    (tn : cn'.total = cn.total) (q : F64) :
    s.quantile env q = (Sketch.spec s.mapping cp' cn' s.zero).quantile env q := by
  have hst := addAll_state env α mn mx C xs hx hn _ h₀
  simp only [Sketch.spec, Sketch.mk.injEq, Store.sp.injEq, true_and] at hst
  obtain ⟨rfl, rfl, hz⟩ := hst
  rw [total_unitsOf, List.length_map, Psorted_length] at tp
  rw [total_unitsOf, List.length_map, Msorted_length] at tn
  have hlen := length_split mn C.minPos xs
  have hpos : 0 < xs.length := List.length_pos_iff.2 hne
  obtain ⟨u1, u2⟩ := unit_counts_exact (zeroCnt mn xs) (posVals mn xs).length
    (negVals mn xs).length (by omega) (by omega)
  exact Props.C12.quantile_congr_exact env s cp' cn' (zeroCnt mn xs : Rat) R hz (Nat.cast_nonneg _)
    (by rw [tp, tn]; exact u1) (by rw [tp, tn]; exact u2) q

/-! ## every store kind at once: the contents, the quantiles -/

/-- **Contents of a sketch on collapsing (or any) stores.**  After unit adds, a sketch on stores
    of kind `k` — lowest-collapsing `.low N`, highest-collapsing `.high N`, or a non-collapsing
    kind — never panicked, and its two stores hold (and observe like) the clamped contents
    `specLow N` / `specHigh N` of the EXACT contents `cp`, `cn` of the spec sketch built from the
    same values; zero bucket and mapping are those of the spec sketch. -/
theorem collapsing_sketch_contents (k : StoreKind) (hk : KindOK k)
    (env : MapEnv) (α mn mx : Rat) (C : Contract env α mn mx)
    (xs : List Rat) (hx : ∀ x ∈ xs, rabs x ≤ mx)
    (hx32 : ∀ x ∈ xs, mn < rabs x → I32 (env.index (.fin (rabs x)))) :
    ∃ s s₀ cp cn,
      Sketch.addAll env (Sketch.new (some env.id) k) (xs.map (fun x => (x, 1))) = some s ∧
      Sketch.addAll env (Sketch.new (some env.id) .sparse) (xs.map (fun x => (x, 1))) = some s₀ ∧
      s₀ = Sketch.spec (some env.id) cp cn s.zero ∧ s.mapping = some env.id ∧ cp.WF ∧ cn.WF ∧
      Good s.pos ∧ Good s.neg ∧
      contentOf s.pos = (clampOfKind k).apply cp ∧ contentOf s.neg = (clampOfKind k).apply cn ∧
      s.Refines ((clampOfKind k).apply cp) ((clampOfKind k).apply cn) := by
  obtain ⟨s₀, hs₀⟩ := C01.addAll_ok env α mn mx C xs hx
  obtain ⟨s, h1, Gp, Gn, _, _, cp, cn, wp, wn, e, ep, en⟩ := addAll_liftC env (clampOfKind k) _
    (units_idx32 env α mn mx C xs hx32) _ _ (simC_new (some env.id) k hk) s₀ hs₀
  have hmap : s.mapping = some env.id := by
    have hst := addAll_state_mapping env α mn mx C xs hx s₀ hs₀
    rw [e] at hst; exact hst
  exact ⟨s, s₀, cp, cn, h1, hs₀, by rw [e, hmap], hmap, wp, wn, Gp, Gn, ep, en,
    ep ▸ good_refines _ Gp, en ▸ good_refines _ Gn⟩

/-- **Every store kind at once.**  A sketch on stores of kind `k`, built by at most `2^53` unit
    adds, answers `GetValueAtQuantile(q)` EXACTLY as the spec sketch built from the same values
    for every `q` whose selected key (`selKey`) is a fixed point of the key map of the clamping
    rule of `k` on the exact content of its side — always, for the kinds that do not clamp — and
    for every `q` that is refused or falls in the zero bucket.  (Elsewhere the image of the key
    under that map answers: `Lift.storeKeyAtRank_relabel`.) -/
theorem quantile_retained_any_kind (k : StoreKind) (hk : KindOK k)
    (env : MapEnv) (α mn mx : Rat) (C : Contract env α mn mx)
    (xs : List Rat) (hx : ∀ x ∈ xs, rabs x ≤ mx)
    (hx32 : ∀ x ∈ xs, mn < rabs x → I32 (env.index (.fin (rabs x))))
    (hne : xs ≠ []) (hn : xs.length ≤ 2 ^ 53) :
    ∃ s s₀ cp cn,
      Sketch.addAll env (Sketch.new (some env.id) k) (xs.map (fun x => (x, 1))) = some s ∧
      Sketch.addAll env (Sketch.new (some env.id) .sparse) (xs.map (fun x => (x, 1))) = some s₀ ∧
      s₀ = Sketch.spec (some env.id) cp cn s.zero ∧
      contentOf s.pos = (clampOfKind k).apply cp ∧ contentOf s.neg = (clampOfKind k).apply cn ∧
      ∀ q : F64,
        (∀ side key, selKey s₀ q = some (side, key) →
          (clampOfKind k).key (if side then cp else cn) key = key) →
        s.quantile env q = s₀.quantile env q := by
  obtain ⟨s, s₀, cp, cn, h1, h2, h3, hmap, wp, wn, _, _, ep, en, R⟩ :=
    collapsing_sketch_contents k hk env α mn mx C xs hx hx32
  refine ⟨s, s₀, cp, cn, h1, h2, h3, ep, en, fun q hsel => ?_⟩
  rw [quantile_congr_units env α mn mx C xs hx hne hn cp cn s (h3 ▸ h2) _ _ R
    (Clamp.total_apply _ cp) (Clamp.total_apply _ cn) q, hmap, h3]
  exact quantile_clamp_retained env _ (some env.id) cp cn wp wn s.zero q (by rw [← h3]; exact hsel)

theorem quantile_eq_spec (k : StoreKind) (hk : Plain k)
    (env : MapEnv) (α mn mx : Rat) (C : Contract env α mn mx)
    (xs : List Rat) (hx : ∀ x ∈ xs, rabs x ≤ mx)
    (hx32 : ∀ x ∈ xs, mn < rabs x → I32 (env.index (.fin (rabs x))))
    (hne : xs ≠ []) (hn : xs.length ≤ 2 ^ 53) (s : Sketch)
    (hs : Sketch.addAll env (Sketch.new (some env.id) k) (xs.map (fun x => (x, 1))) = some s) :
    ∃ s₀, Sketch.addAll env (Sketch.new (some env.id) .sparse) (xs.map (fun x => (x, 1))) = some s₀ ∧
      ∀ q : F64, s.quantile env q = s₀.quantile env q := by
  obtain ⟨s', s₀, cp, cn, h1, h2, _, _, _, hq⟩ :=
    quantile_retained_any_kind k (by cases k <;> trivial) env α mn mx C xs hx hx32 hne hn
  obtain rfl := Option.some.inj (hs.symm.trans h1)
  exact ⟨s₀, h2, fun q => hq q fun _ _ _ => by rw [clampOfKind_plain k hk]; rfl⟩

/-- **DDSketch accuracy, for every non-collapsing store kind** (dense, sparse,
    buffered-paginated): the statement of `C01.quantile_accuracy` with the stores of kind `k`.
    The only extra hypothesis: the indexes the mapping assigns to the values routed to a store are
    int32 (the stores panic or mis-report `MinIndex`/`MaxIndex` outside that range). -/
theorem quantile_accuracy_any_store (k : StoreKind) (hk : Plain k)
    (env : MapEnv) (α mn mx : Rat) (C : Contract env α mn mx)
    (xs : List Rat) (hx : ∀ x ∈ xs, rabs x ≤ mx)
    (hx32 : ∀ x ∈ xs, mn < rabs x → I32 (env.index (.fin (rabs x))))
    (hne : xs ≠ []) (hn : xs.length ≤ 2 ^ 53) (s : Sketch)
    (hs : Sketch.addAll env (Sketch.new (some env.id) k) (xs.map (fun x => (x, 1))) = some s)
    (q : Rat) (hq0 : 0 ≤ q) (hq1 : q ≤ 1) :
    ∃ a : Rat, Sketch.quantile env s (.fin q) = .ok (.fin a) ∧
      ∃ k : Nat, k < xs.length ∧
        ((k : Int) = ⌊q * ((xs.length : Rat) - 1)⌋ ∨ (k : Int) = ⌈q * ((xs.length : Rat) - 1)⌉) ∧
        rabs (a - (sortedInputs mn xs)[k]!) ≤ α * rabs ((sortedInputs mn xs)[k]!) := by
  obtain ⟨s₀, h0, hq⟩ := quantile_eq_spec k hk env α mn mx C xs hx hx32 hne hn s hs
  rw [hq]
  exact C01.quantile_accuracy env α mn mx C xs hx hne hn s₀ h0 q hq0 hq1

/-! ## merge trees -/

/-- **Full mergeability, for every mix of non-collapsing store kinds.**  A tree of merges whose
    leaves are sketches on dense, sparse or paginated stores (a kind per leaf; the merges go
    through the same-kind fast paths or the `ForEach` fallback as the kinds dictate) never panics
    and ends in a sketch that OBSERVES exactly like the single spec sketch that received all the
    inputs: it refines that sketch's contents, hence `GetCount`, `IsEmpty`, `ForEach`, `GetSum`,
    `GetMinValue`, `GetMaxValue` agree, and so does `GetValueAtQuantile(q)` for every `q` for
    which the positive store is consulted only if it is non-empty (the guard of
    `Sketch.quantile_congr`; `Sketch.quantile_empty_pos_counterexample` shows it is needed). -/
theorem merge_tree_any_stores (env : MapEnv) (mn mx : Rat)
    (hmn : env.minIndexable = .fin mn) (hmx : env.maxIndexable = .fin mx)
    (hmn0 : 0 ≤ mn) (hrefl : env.id.equals env.id = true) (t : KTree) (hk : t.AllPlain)
    (hacc : ∀ p ∈ t.flat, rabs p.1 ≤ mx ∧ 0 ≤ p.2)
    (hexact : C02.ExactSums (Sketch.zeroPart mn t.flat))
    (h32 : ∀ p ∈ t.flat, mn < rabs p.1 → I32 (env.index (.fin (rabs p.1)))) :
    ∃ s s₀ cp cn, t.eval env = some s ∧
      Sketch.addAll env (Sketch.new (some env.id) .sparse) t.flat = some s₀ ∧
      s₀ = Sketch.spec (some env.id) cp cn s.zero ∧ s.mapping = some env.id ∧
      s.Refines cp cn ∧
      s.getCount = s₀.getCount ∧ s.isEmpty = s₀.isEmpty ∧
      s.forEachList env = s₀.forEachList env ∧ s.getSum env = s₀.getSum env ∧
      s.getMin env = s₀.getMin env ∧ s.getMax env = s₀.getMax env ∧
      ∀ q : F64, (cp = [] → s₀.usesPos q = false) → s.quantile env q = s₀.quantile env q := by
  obtain ⟨t₀, s₀, e1, e2, p1, p2, p3, p4⟩ :=
    C02.merge_tree env mn mx hmn hmx hmn0 hrefl t.erase hacc hexact
  have e12 : t₀ = s₀ := by
    cases t₀; cases s₀; simp only at p1 p2 p3 p4; subst p1 p2 p3 p4; rfl
  subst e12
  obtain ⟨s, h1, G, h3⟩ := ktree_lift env t hk (fun p hp hr =>
    h32 p hp (lt_rabs_of_routed env mn hmn hmn0 p.1 hr)) t₀ e1
  have hmap : s.mapping = some env.id := by
    have hm0 : t₀.mapping = some env.id := by
      have := C02.eval_eq_target env mn mx hmn hmx hmn0 hrefl t.erase hacc hexact
      rw [e1] at this
      rw [Option.some.inj this]; rfl
    rw [← hm0, ← h3]; rfl
  have R := G.refines
  have R₀ : t₀.Refines (contentOf s.pos) (contentOf s.neg) :=
    h3 ▸ ⟨Store.refines_sparse _ R.pos.wf, Store.refines_sparse _ R.neg.wf⟩
  exact ⟨s, t₀, _, _, h1, e2, by rw [← h3, specOf, hmap], hmap, R,
    same_answers env t₀ s _ _ R₀ R (by rw [← h3]; rfl) (by rw [← h3]; rfl)⟩

/-! ## sketches on collapsing stores -/

/-- **Quantiles above the edge survive the collapsing.**  A sketch on lowest-collapsing stores
    with `N ≥ 1` bins, built by at most `2^53` unit adds, holds `specLow N` of the exact contents
    (`collapsing_sketch_contents`); consequently `GetValueAtQuantile(q)` answers EXACTLY what the
    un-collapsed spec sketch built from the same values answers, for every `q` whose selected bin
    (`selKey`) is at or above the edge `max − N + 1` of its side — in particular strictly above
    it — and for every `q` that is refused or falls in the zero bucket.  (Below the edge the
    collapsed sketch answers the edge bin instead: `Lift.storeKeyAtRank_relabel`.) -/
theorem collapsing_quantile_retained (N : Nat) (hN : 1 ≤ N)
    (env : MapEnv) (α mn mx : Rat) (C : Contract env α mn mx)
    (xs : List Rat) (hx : ∀ x ∈ xs, rabs x ≤ mx)
    (hx32 : ∀ x ∈ xs, mn < rabs x → I32 (env.index (.fin (rabs x))))
    (hne : xs ≠ []) (hn : xs.length ≤ 2 ^ 53) :
    ∃ s s₀ cp cn,
      Sketch.addAll env (Sketch.new (some env.id) (.low N)) (xs.map (fun x => (x, 1))) = some s ∧
      Sketch.addAll env (Sketch.new (some env.id) .sparse) (xs.map (fun x => (x, 1))) = some s₀ ∧
      s₀ = Sketch.spec (some env.id) cp cn s.zero ∧
      contentOf s.pos = Content.specLow N cp ∧ contentOf s.neg = Content.specLow N cn ∧
      ∀ q : F64,
        (∀ side k, selKey s₀ q = some (side, k) → edgeLow N (if side then cp else cn) ≤ k) →
        s.quantile env q = s₀.quantile env q := by
  obtain ⟨s, s₀, cp, cn, h1, h2, h3, ep, en, hq⟩ :=
    quantile_retained_any_kind (.low N) hN env α mn mx C xs hx hx32 hne hn
  exact ⟨s, s₀, cp, cn, h1, h2, h3, ep, en, fun q hsel =>
    hq q fun side key h => key_low_of_edge N _ key (hsel side key h)⟩

/-! ## the hypotheses are satisfiable: concrete instances -/

section examples
open DDS.QuantileEx

theorem exEnv_index32 (v : F64) : I32 (exEnv.index v) := by
  cases v <;> simp only [exEnv] <;> first | (split <;> decide) | decide

theorem exXs_32 : ∀ x ∈ exXs, (4 / 3 : Rat) < rabs x → I32 (exEnv.index (.fin (rabs x))) :=
  fun _ _ _ => exEnv_index32 _

theorem wf135 : Content.WF [((1 : Int), (1 : Rat)), (3, 1), (5, 1)] :=
  ⟨⟨by decide, by decide, trivial⟩, by decide +kernel⟩

/-- `quantile_accuracy_any_store` / `addAll_ok_any_store` on dense and on paginated stores:
    `exXs = [5, -2, 1, 3, -7, 0, 12]` (both sides and the zero bucket), every `q ∈ [0, 1]` -/
example (k : StoreKind) (hk : k = .dense ∨ k = .pag) :
    ∃ s, Sketch.addAll exEnv (Sketch.new (some exEnv.id) k) (exXs.map (fun x => (x, 1))) = some s ∧
    ∀ q : Rat, 0 ≤ q → q ≤ 1 →
      ∃ a : Rat, Sketch.quantile exEnv s (.fin q) = .ok (.fin a) ∧
        ∃ k : Nat, k < exXs.length ∧
          ((k : Int) = ⌊q * ((exXs.length : Rat) - 1)⌋ ∨ (k : Int) = ⌈q * ((exXs.length : Rat) - 1)⌉) ∧
          rabs (a - (sortedInputs (4 / 3) exXs)[k]!) ≤ 1 / 2 * rabs ((sortedInputs (4 / 3) exXs)[k]!) := by
  have hp : Plain k := by rcases hk with rfl | rfl <;> trivial
  obtain ⟨s, hs⟩ := addAll_ok_any_store k hp exEnv _ _ _ exContract exXs exXs_ok
    exXs_32
  exact ⟨s, hs, fun q h0 h1 =>
    quantile_accuracy_any_store k hp exEnv _ _ _ exContract exXs exXs_ok
      exXs_32 exXs_ne exXs_len s hs q h0 h1⟩

/-- the tree of `C02` with a dense, a paginated and a sparse leaf -/
def demoKTree : KTree :=
  .node (.leaf .dense [(5, 2), (0, 1)])
    (.node (.leaf .pag [(-3, 1)]) (.leaf .sparse [(7, 3), (1 / 2000, 2), (5, 1)]))

theorem demoKTree_flat : demoKTree.flat = C02.demoTree.flat := rfl

theorem demo_index32 : ∀ p ∈ demoKTree.flat, (1 / 1000 : Rat) < rabs p.1 →
    I32 (C02.demoEnv.index (.fin (rabs p.1))) := by
  intro p hp _
  simp only [demoKTree_flat, C02.demoTree, C02.MergeTree.flat, List.cons_append, List.nil_append,
    List.mem_cons, List.not_mem_nil, or_false] at hp
  rcases hp with rfl | rfl | rfl | rfl | rfl | rfl <;> decide +kernel

/-- `merge_tree_any_stores`: dense ⊕ (paginated ⊕ sparse) observes like the flat spec sketch -/
example : ∃ s s₀ cp cn, demoKTree.eval C02.demoEnv = some s ∧
    Sketch.addAll C02.demoEnv (Sketch.new (some C02.demoEnv.id) .sparse) demoKTree.flat = some s₀ ∧
    s₀ = Sketch.spec (some C02.demoEnv.id) cp cn s.zero ∧ s.Refines cp cn ∧
    s.getCount = s₀.getCount ∧ s.forEachList C02.demoEnv = s₀.forEachList C02.demoEnv ∧
    s.getMin C02.demoEnv = s₀.getMin C02.demoEnv ∧ s.getMax C02.demoEnv = s₀.getMax C02.demoEnv := by
  obtain ⟨s, s₀, cp, cn, a1, a2, a3, _, a5, a6, _, a8, _, a10, a11, _⟩ :=
    merge_tree_any_stores C02.demoEnv (1 / 1000) 1000 rfl rfl (by norm_num) C02.demo_refl demoKTree
      ⟨trivial, trivial, trivial⟩ C02.demo_acc C02.demo_exact demo_index32
  exact ⟨s, s₀, cp, cn, a1, a2, a3, a5, a6, a8, a10, a11⟩

/-- `collapsing_sketch_contents` / `collapsing_quantile_retained`: `exXs` into lowest-collapsing
    stores with ONE bin (on the positive side the bin 0 of the value 3 is folded into bin 1) -/
example : ∃ s s₀ cp cn,
    Sketch.addAll exEnv (Sketch.new (some exEnv.id) (.low 1)) (exXs.map (fun x => (x, 1))) = some s ∧
    Sketch.addAll exEnv (Sketch.new (some exEnv.id) .sparse) (exXs.map (fun x => (x, 1))) = some s₀ ∧
    s₀ = Sketch.spec (some exEnv.id) cp cn s.zero ∧
    contentOf s.pos = Content.specLow 1 cp ∧ contentOf s.neg = Content.specLow 1 cn ∧
    ∀ q : F64,
      (∀ side k, selKey s₀ q = some (side, k) → edgeLow 1 (if side then cp else cn) ≤ k) →
      s.quantile exEnv q = s₀.quantile exEnv q :=
  collapsing_quantile_retained 1 (by omega) exEnv _ _ _ exContract exXs exXs_ok
    exXs_32 exXs_ne exXs_len

example : ∃ s s₀ cp cn,
    Sketch.addAll exEnv (Sketch.new (some exEnv.id) (.high 1)) (exXs.map (fun x => (x, 1))) = some s ∧
    Sketch.addAll exEnv (Sketch.new (some exEnv.id) .sparse) (exXs.map (fun x => (x, 1))) = some s₀ ∧
    s₀ = Sketch.spec (some exEnv.id) cp cn s.zero ∧
    contentOf s.pos = Content.specHigh 1 cp ∧ contentOf s.neg = Content.specHigh 1 cn := by
  obtain ⟨s, s₀, cp, cn, a1, a2, a3, _, _, _, _, _, a9, a10, _⟩ :=
    collapsing_sketch_contents (.high 1) (by decide) exEnv _ _ _ exContract exXs exXs_ok
      exXs_32
  exact ⟨s, s₀, cp, cn, a1, a2, a3, a9, a10⟩

/-- `Content.keyAtRank_relabel` on `specLow`: three unit bins 1, 3, 5 collapsed to two bins
    (edge 4): rank 0 (exact answer 1, below the edge) now answers the edge 4; rank 2 keeps its
    answer 5 -/
example : (Content.specLow 2 [(1, 1), (3, 1), (5, 1)]).keyAtRank 0 = 4 ∧
    (Content.specLow 2 [(1, 1), (3, 1), (5, 1)]).keyAtRank 2 = 5 := by
  rw [Content.specLow_of_max 2 _ 5 rfl, Content.foldLow_eq_relabel,
    Content.keyAtRank_relabel _ (Content.lowMap_mono _) _ wf135 (List.cons_ne_nil _ _),
    Content.keyAtRank_relabel _ (Content.lowMap_mono _) _ wf135 (List.cons_ne_nil _ _)]
  decide +kernel

end examples

end DDS.Props.Lift
