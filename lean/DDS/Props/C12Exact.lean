/-
  DDS.Props.C12Exact — what exact counting gives `GetValueAtQuantile` on a spec sketch
  `Sketch.spec m cp cn (.fin zq)`: under the hypothesis
  `F64.add (F64.add z (.fin cp.total)) (.fin cn.total) = .fin (zq + cp.total + cn.total)`
  the count is the total weight, the rank of a valid quantile is
  `max 0 (round (q · round (N − 1)))` (`qrank_spec`), and the guard of `Sketch.quantile_congr`
  (the positive store is not consulted while empty) holds as soon as `count − 1 ≠ count`
  (`usesPos_false_of_exact`, `quantile_congr_exact`).  `DDS.Props.C12` and the transport to every
  store kind (`DDS.Props.Lift`) rest on it.
-/
import DDS.Proofs.SketchObs
import DDS.Proofs.Num
import DDS.Props.C13

namespace DDS.Props.C12

open DDS

theorem count_eq_total (m : Option MapId) (cp cn : Content) (zq : Rat)
    (hx : F64.add (F64.add (.fin zq) (.fin cp.total)) (.fin cn.total) =
      .fin (zq + cp.total + cn.total)) :
    (Sketch.spec m cp cn (.fin zq)).getCount = .fin (zq + cp.total + cn.total) := hx

/-! ### the rank of a valid quantile -/

theorem round_of_add_eq_fin (a : F64) (g n : Rat) (h : F64.add a (.fin g) = .fin n) :
    F64.roundF64 n = .fin n := by
  cases a with
  | fin t => exact F64.roundF64_idem (t + g) n h
  | pinf => cases h
  | ninf => cases h
  | nan => cases h

/-- `count - 1` on a non-negative float count -/
theorem pred_fin (N : Rat) (hN : F64.roundF64 N = .fin N) (hN0 : 0 ≤ N) :
    F64.sub (.fin N) F64.one = .fin (F64.rv (N - 1)) ∧ F64.rv (N - 1) ≤ N := by
  have h1 : F64.roundF64 (-1 : Rat) = .fin (-1) := by
    have := F64.roundF64_int (-1) (by norm_num)
    simpa using this
  obtain ⟨e, _, u⟩ := F64.roundF64_between h1 hN (show (-1 : Rat) ≤ N - 1 by linarith)
    (show N - 1 ≤ N by linarith)
  exact ⟨(F64.sub_fin N 1).trans e, u⟩

/-- the product of a float `c` with a factor in `[0, 1]` is finite, not above `max 0 c` -/
theorem mul_unit_fin (r c : Rat) (hr0 : 0 ≤ r) (hr1 : r ≤ 1) (hc : F64.roundF64 c = .fin c) :
    F64.mul (.fin r) (.fin c) = .fin (F64.rv (r * c)) ∧ F64.rv (r * c) ≤ max 0 c := by
  rcases le_total 0 c with h | h
  · obtain ⟨e, _, u⟩ := F64.roundF64_between F64.roundF64_zero hc (mul_nonneg hr0 h)
      (mul_le_of_le_one_left h hr1)
    exact ⟨e, u.trans (le_max_right 0 c)⟩
  · obtain ⟨e, _, u⟩ := F64.roundF64_between hc F64.roundF64_zero
      (show c ≤ r * c by nlinarith) (mul_nonpos_of_nonneg_of_nonpos hr0 h)
    exact ⟨e, u.trans (le_max_left 0 c)⟩

theorem clamp_max (x : Rat) :
    (if F64.lt (.fin x) (.fin 0) = true then F64.fin 0 else .fin x) = .fin (max 0 x) := by
  simp only [F64.lt_fin, decide_eq_true_eq]
  rcases lt_or_ge x 0 with h | h
  · rw [if_pos h, max_eq_left h.le]
  · rw [if_neg (not_lt.2 h), max_eq_right h]

/-- the rank of a valid quantile, under exact counting: `max 0 (round (q · round (N − 1)))` -/
theorem qrank_spec (m : Option MapId) (cp cn : Content) (zq : Rat)
    (hcp : cp.WF) (hcn : cn.WF) (hz : 0 ≤ zq)
    (hx : F64.add (F64.add (.fin zq) (.fin cp.total)) (.fin cn.total) =
      .fin (zq + cp.total + cn.total)) (r : Rat) (hr0 : 0 ≤ r) (hr1 : r ≤ 1) :
    (Sketch.spec m cp cn (.fin zq)).qrank (.fin r) =
      .fin (max 0 (F64.rv (r * F64.rv (zq + cp.total + cn.total - 1)))) := by
  have hP := Content.total_nonneg cp hcp.nonneg
  have hG := Content.total_nonneg cn hcn.nonneg
  obtain ⟨hsub, _⟩ := pred_fin _ (round_of_add_eq_fin _ _ _ hx) (by linarith)
  obtain ⟨hprod, _⟩ := mul_unit_fin r _ hr0 hr1 (F64.roundF64_idem _ _ hsub)
  unfold Sketch.qrank
  rw [count_eq_total m cp cn zq hx, hsub, hprod]
  exact clamp_max _

/-! ### discharging the guard of `Sketch.quantile_congr` under exact counting -/

/-- with exact counting and `count - 1 ≠ count` (true below `2^53`), a valid quantile of a sketch
    without positive values never consults the positive store -/
theorem usesPos_false_of_exact (m : Option MapId) (cp cn : Content) (zq : Rat)
    (hcp : cp.WF) (hcn : cn.WF) (hz : 0 ≤ zq)
    (hx : F64.add (F64.add (.fin zq) (.fin cp.total)) (.fin cn.total) =
      .fin (zq + cp.total + cn.total))
    (hcp0 : cp = []) (hN0 : zq + cp.total + cn.total ≠ 0)
    (hpred : F64.sub (.fin (zq + cp.total + cn.total)) F64.one ≠ .fin (zq + cp.total + cn.total))
    (r : Rat) (hr0 : 0 ≤ r) (hr1 : r ≤ 1) :
    (Sketch.spec m cp cn (.fin zq)).usesPos (.fin r) = false := by
  have hN := round_of_add_eq_fin _ _ _ hx
  have hG := Content.total_nonneg cn hcn.nonneg
  have hP : cp.total = 0 := by rw [hcp0]; rfl
  have hNpos : 0 < zq + cp.total + cn.total := lt_of_le_of_ne (by linarith) (Ne.symm hN0)
  obtain ⟨hsub, hle⟩ := pred_fin _ hN hNpos.le
  have hlt := lt_of_le_of_ne hle (fun he => hpred (by rw [hsub, he]))
  obtain ⟨_, hρ⟩ := mul_unit_fin r _ hr0 hr1 (F64.roundF64_idem _ _ hsub)
  have hZ : F64.add (.fin zq) (.fin cn.total) = .fin (zq + cp.total + cn.total) := by
    rw [← hN, hP, add_zero]; rfl
  have : F64.lt ((Sketch.spec m cp cn (.fin zq)).qrank (.fin r))
      (.fin (zq + cp.total + cn.total)) = true := by
    rw [qrank_spec m cp cn zq hcp hcn hz hx r hr0 hr1]
    exact decide_eq_true (max_lt hNpos (hρ.trans_lt (max_lt hNpos hlt)))
  unfold Sketch.usesPos
  show (!_ && !F64.lt _ (F64.add (.fin zq) (.fin cn.total))) = false
  rw [hZ, this, Bool.not_true, Bool.and_false]

/-- observational congruence of `GetValueAtQuantile` for ANY store kinds under exact counting:
    the guard of `Sketch.quantile_congr` is discharged either by a non-empty positive content or by
    `count - 1 ≠ count` -/
theorem quantile_congr_exact (env : MapEnv) (s : Sketch) (cp cn : Content) (zq : Rat)
    (hs : s.Refines cp cn) (hzero : s.zero = .fin zq) (hz : 0 ≤ zq)
    (hx : F64.add (F64.add (.fin zq) (.fin cp.total)) (.fin cn.total) =
      .fin (zq + cp.total + cn.total))
    (hpred : F64.sub (.fin (zq + cp.total + cn.total)) F64.one ≠ .fin (zq + cp.total + cn.total))
    (q : F64) :
    s.quantile env q = (Sketch.spec s.mapping cp cn s.zero).quantile env q := by
  apply Sketch.quantile_congr env hs q
  intro hcp0 hv hne
  rw [Sketch.usesPos_congr hs q, hzero]
  obtain ⟨r, rfl, hr0, hr1⟩ := (C13.quantile_valid_iff q).1 hv
  apply usesPos_false_of_exact s.mapping cp cn zq hs.pos.wf hs.neg.wf hz hx hcp0 _ hpred r hr0 hr1
  intro hN
  rw [Sketch.getCount_congr hs, hzero, count_eq_total s.mapping cp cn zq hx, hN] at hne
  simp [F64.eq] at hne

end DDS.Props.C12
