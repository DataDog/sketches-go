/-
  DDS.Props.C04GenSparse — C04 ("a store is the map  index ↦ accumulated weight") on the REGENERATED
  sparse store (`DDS/Generated/CodeSparse.lean`, translated from `/repo/ddsketch/store/sparse.go` on
  every run), for EVERY lawful iteration order of Go's `range` over the map and any fuel.

  A history is a list `l` of `(index, weight)` additions with weights `≥ 0`, run by the generated
  `AddWithCount` from `NewSparseStore()` (`genAdds l`).  The mathematical map of the history is
    `W l j   = Content.lookup l j`   the sum of the weights added at index `j`,
    `cum l k = Content.cumul l k`    the sum of the weights added at indexes `≤ k`,
    `Content.total l`                the sum of all the weights added.
  (`Content.lookup / cumul / total` make no assumption on the list, so on the raw history they ARE
  these sums: `Content.lookup_eq_wsum`, `Content.cumul_eq_wsum`, `Content.total_eq_wsum`.)

  The corollaries transport the spec theorems about `Content` (`DDS/Proofs/Bins.lean`) along the
  equivalences of `DDS/Proofs/GenSparse.lean`:
  * `gen_adds_rep`        the generated store holds exactly the canonical content `Content.ofList l`
  * `gen_totalCount`      `TotalCount = Σ weights`
  * `gen_minIndex_spec`, `gen_maxIndex_spec`   the least / greatest index of positive accumulated
                          weight; the error values exactly when nothing of positive weight was added
  * `gen_keyAtRank_spec`  the first index whose cumulative weight exceeds `max r 0`, else the greatest
                          index of positive weight
  * `gen_orderedBins_spec` `Bins()` enumerates, by strictly increasing index, exactly the indexes of
                          positive accumulated weight, each with its accumulated weight
  Key-range hypotheses (`-2^63 ≤ index` for `MaxIndex/KeyAtRank`, `index < 2^63` for `MinIndex`) are
  those of `GenSparse` (an artefact of `GoSem`'s unbounded `int`).
-/
import DDS.Proofs.GenSparse

namespace DDS.Props.C04GenSparse

open DDS DDS.GoSem DDS.Gen.Sparse DDS.GenSparse

/-! ### the history and the content it leaves in the store -/

def genAdds (l : List (Int × Rat)) : SparseStore :=
  l.foldl (fun g p => g.AddWithCount p.1 p.2) NewSparseStore

/-- after any history of additions with non-negative weights the generated store holds exactly the
    canonical content of the history -/
theorem gen_adds_rep (l : List (Int × Rat)) (hl : ∀ p ∈ l, 0 ≤ p.2) :
    Rep (genAdds l) (Content.ofList l) :=
  foldl_addWithCount_rep l hl _ _ rep_new

/-- the keys of the history's content are indexes of the history -/
theorem keys_bound (l : List (Int × Rat)) (P : Int → Prop) (hk : ∀ p ∈ l, P p.1) :
    ∀ p ∈ Content.ofList l, P p.1 := fun p hp => by
  obtain ⟨q, hq, e⟩ := Content.mem_ofList hp
  exact e ▸ hk q hq

/-! ### `TotalCount` -/

/-- `TotalCount` is the sum of the weights added, whatever the iteration order -/
theorem gen_totalCount (l : List (Int × Rat)) (hl : ∀ p ∈ l, 0 ≤ p.2) (fuel : Nat) (ord : MapOrder)
    (ho : ord.Lawful) : (genAdds l).TotalCount fuel ord = .ok (Content.total l) := by
  rw [totalCount_eq (gen_adds_rep l hl).repS fuel ord ho]
  show Res.ok (Content.ofList l).total = _
  rw [Content.total_ofList]

/-! ### `MinIndex` / `MaxIndex` -/

/-- the greatest (`min_spec`: least) key of the history's content, in terms of the history -/
theorem max_spec (l : List (Int × Rat)) (hwf : (Content.ofList l).WF) (k : Int)
    (hm : (Content.ofList l).maxIndex? = some k) :
    0 < Content.lookup l k ∧ ∀ j, k < j → Content.lookup l j = 0 := by
  refine ⟨?_, fun j hj => ?_⟩
  · rw [← Content.lookup_ofList, Content.lookup_pos_iff _ hwf]
    exact Content.maxIndex_mem _ k hm
  · rw [← Content.lookup_ofList]
    exact Content.lookup_eq_zero_of_not_mem _ _ fun p hp e =>
      Int.not_le.2 hj (e ▸ Content.le_maxIndex _ hwf.1 k hm p hp)

theorem min_spec (l : List (Int × Rat)) (hwf : (Content.ofList l).WF) (k : Int)
    (hm : (Content.ofList l).minIndex? = some k) :
    0 < Content.lookup l k ∧ ∀ j, j < k → Content.lookup l j = 0 := by
  refine ⟨?_, fun j hj => ?_⟩
  · rw [← Content.lookup_ofList, Content.lookup_pos_iff _ hwf]
    exact Content.minIndex_mem _ k hm
  · rw [← Content.lookup_ofList]
    exact Content.lookup_eq_zero_of_lt _ _ fun p hp =>
      Int.lt_of_lt_of_le hj (Content.minIndex_le _ hwf.1 k hm p hp)

theorem empty_spec (l : List (Int × Rat)) (h : Content.ofList l = []) (j : Int) : Content.lookup l j = 0 := by
  rw [← Content.lookup_ofList, h]; rfl

/-- `MinIndex`: either `(k, nil)` with `k` the least index of positive accumulated weight, or
    `(0, errUndefinedMinIndex)` and every accumulated weight is 0 -/
theorem gen_minIndex_spec (l : List (Int × Rat)) (hl : ∀ p ∈ l, 0 ≤ p.2)
    (hk : ∀ p ∈ l, p.1 < (2:Int)^63) (fuel : Nat) (ord : MapOrder) (ho : ord.Lawful) :
    (∃ k, (genAdds l).MinIndex fuel ord = .ok (k, GoErr.nil) ∧
        0 < Content.lookup l k ∧ ∀ j, j < k → Content.lookup l j = 0) ∨
    ((genAdds l).MinIndex fuel ord = .ok (0, errUndefinedMinIndex) ∧ ∀ j, Content.lookup l j = 0) := by
  have hrep := gen_adds_rep l hl
  rw [minIndex_eq hrep.repS fuel ord ho (keys_bound l (· < (2:Int)^63) hk)]
  cases hm : Content.minIndex? (Content.ofList l) with
  | none => exact .inr ⟨congrArg _ (congrArg _ hm), empty_spec l (Content.minIndex?_eq_none.1 hm)⟩
  | some k => exact .inl ⟨k, congrArg _ (congrArg _ hm), min_spec l hrep.2 k hm⟩

/-- `MaxIndex`, symmetric -/
theorem gen_maxIndex_spec (l : List (Int × Rat)) (hl : ∀ p ∈ l, 0 ≤ p.2)
    (hk : ∀ p ∈ l, -(2:Int)^63 ≤ p.1) (fuel : Nat) (ord : MapOrder) (ho : ord.Lawful) :
    (∃ k, (genAdds l).MaxIndex fuel ord = .ok (k, GoErr.nil) ∧
        0 < Content.lookup l k ∧ ∀ j, k < j → Content.lookup l j = 0) ∨
    ((genAdds l).MaxIndex fuel ord = .ok (0, errUndefinedMaxIndex) ∧ ∀ j, Content.lookup l j = 0) := by
  have hrep := gen_adds_rep l hl
  rw [maxIndex_eq hrep.repS fuel ord ho (keys_bound l _ hk)]
  cases hm : Content.maxIndex? (Content.ofList l) with
  | none => exact .inr ⟨congrArg _ (congrArg _ hm), empty_spec l (Content.maxIndex?_eq_none.1 hm)⟩
  | some k => exact .inl ⟨k, congrArg _ (congrArg _ hm), max_spec l hrep.2 k hm⟩

/-! ### `KeyAtRank` -/

/-- `KeyAtRank(r)` after a history that added some positive weight: the first index whose cumulative
    accumulated weight exceeds `max r 0`; when none does, the greatest index of positive weight.
    Every lawful order, any fuel, every rational rank. -/
theorem gen_keyAtRank_spec (l : List (Int × Rat)) (hl : ∀ p ∈ l, 0 ≤ p.2)
    (hk : ∀ p ∈ l, -(2:Int)^63 ≤ p.1) (hpos : ∃ j, Content.lookup l j ≠ 0)
    (fuel : Nat) (ord : MapOrder) (ho : ord.Lawful) (r : Rat) :
    ∃ k, (genAdds l).KeyAtRank fuel ord r = .ok k ∧
      let r' := if r < 0 then 0 else r
      (r' < Content.cumul l k ∧ ∀ j, j < k → Content.cumul l j ≤ r') ∨
      (Content.total l ≤ r' ∧ 0 < Content.lookup l k ∧ ∀ j, k < j → Content.lookup l j = 0) := by
  have hrep := gen_adds_rep l hl
  have hwf := hrep.2
  refine ⟨(Content.ofList l).keyAtRank r, ?_, ?_⟩
  · rw [keyAtRank_eq hrep.repS fuel ord ho (keys_bound l _ hk) r, Store.sp_keyAtRank _ hwf r]
  · have hne : Content.ofList l ≠ [] := fun h => hpos.elim fun j hj => hj (by rw [← Content.lookup_ofList, h]; rfl)
    have A := Content.keyAtRank_least _ hwf hne r
    simp only [Content.cumul_ofList, Content.total_ofList] at A
    exact A.imp_right fun ⟨h1, h2⟩ => ⟨h1, max_spec l hwf _ h2⟩

/-! ### `orderedBins` (what `Bins()` sends) -/

/-- `orderedBins`: by strictly increasing index, exactly the indexes of positive accumulated weight,
    each with its accumulated weight — whatever order `range` picked -/
theorem gen_orderedBins_spec (l : List (Int × Rat)) (hl : ∀ p ∈ l, 0 ≤ p.2) (fuel : Nat)
    (ord : MapOrder) (ho : ord.Lawful) :
    ∃ bins, (genAdds l).orderedBins fuel ord = .ok bins ∧
      bins.Pairwise (fun a b => a.index < b.index) ∧
      (∀ b ∈ bins, 0 < b.count ∧ b.count = Content.lookup l b.index) ∧
      (∀ j, 0 < Content.lookup l j → ∃ b ∈ bins, b.index = j) := by
  have hrep := gen_adds_rep l hl
  have hwf := hrep.2
  refine ⟨_, orderedBins_eq hrep.repS fuel ord ho, ?_, ?_, ?_⟩
  · rw [List.pairwise_map]
    exact (Content.sorted_iff_pairwise _).1 hwf.1
  · intro b hb
    obtain ⟨p, hp, rfl⟩ := List.mem_map.1 hb
    exact ⟨hwf.2 p hp, by rw [← Content.lookup_ofList]; exact (Content.lookup_of_mem_sorted _ hwf.1 p hp).symm⟩
  · intro j hj
    rw [← Content.lookup_ofList, Content.lookup_pos_iff _ hwf] at hj
    obtain ⟨w, hw⟩ := hj
    exact ⟨toBin (j, w), List.mem_map.2 ⟨_, hw, rfl⟩, rfl⟩

/-! ### non-vacuity: a concrete history, two different orders, same answers -/

example : (genAdds [(7, 2), (3, 1), (7, 1)]).counts = [(3, 1), (7, 3)] := by decide +kernel
-- (`orderedBins` sorts with `List.mergeSort`, defined by well-founded recursion, which the kernel does
-- not evaluate: the `KeyAtRank` instance goes through the theorem, its hypotheses checked by the kernel)
example : (genAdds [(7, 2), (3, 1), (7, 1)]).KeyAtRank 0 descending 1 = .ok 7 := by
  rw [keyAtRank_eq (gen_adds_rep _ (by decide +kernel)).repS 0 descending descending_lawful
    (by decide +kernel) 1]
  exact congrArg Res.ok (by decide +kernel)
example : ((genAdds [(7, 2), (3, 1), (7, 1)]).MaxIndex 0 descending).bind (fun r => .ok r.1) = .ok 7 := by
  rfl
def okRat : Res Rat → Option Rat
  | .ok k => some k
  | _ => none
example : okRat ((genAdds [(7, 2), (3, 1), (7, 1)]).TotalCount 0 descending) = some 4 := by
  decide +kernel

end DDS.Props.C04GenSparse
