/-
  DDS.Props.C09GenStore — C09 on the REGENERATED protobuf conversions of the stores: what `ToProto` writes,
  `MergeWithProto` (or `FromProto`) reads back, and the bins of a message add up on top of what the receiver held.
  Proofs in `DDS.Proofs.GenProtoStore`.
-/
import DDS.Proofs.GenProtoStore
import DDS.Props.C09

namespace DDS.Props.C09GenStore

open DDS DDS.GoSem DDS.Proto DDS.GenProtoStore DDS.GenPag DDS.PStore
open DDS.Gen.PaginatedProto

/-! ### paginated → paginated -/

/-- the producer side of the two paginated round trips: under the invariant the regenerated `ToProto` answers, its
    message abstracts to the model's, and for every lawful order its calls are a permutation of the content -/
theorem pag_toProto_inv (s : PStore) (hI : Inv s) (cap : Int) (fuel : Nat) (hf : forEachFuel s ≤ fuel) :
    ∃ g1 m, BufferedPaginatedStore.ToProto fuel (toGen s cap) = .ok (g1, m) ∧
      some (pbOfGo m) = storeToProto (.pg s) ∧
      ∀ ord : MapOrder, ord.Lawful → (msgCalls ord m).Perm (content s) := by
  obtain ⟨hs, h32⟩ := pag_side_of_inv s hI
  obtain ⟨m, h1, rfl, h3⟩ := pag_toProto_model s cap fuel hf hs h32
  refine ⟨_, _, h1, h3, fun ord hl => ?_⟩
  cases he : s.isEmpty with
  | true =>
    have hc : (content s).isEmpty = true := (isEmpty_eq s hI).symm.trans he
    rw [if_pos rfl, msgCalls_emptyMsg, List.isEmpty_iff.1 hc]
  | false => exact msgCalls_sparseMsg ord hl s.binsList hs h32

/-- **paginated → paginated, on regenerated code at both ends.**  A paginated store `s` with the invariant is
    turned into a message by the regenerated `ToProto`; the regenerated `MergeWithProto` of that message into a NEW
    paginated store, for EVERY lawful iteration order of the map, every capacity and `grow` oracle, yields a store
    with the invariant and the content of `s`.  Fuels: `len(buffer) + 1` for `ToProto`, `pagFuel` of the new store on
    the calls for the merge. -/
theorem pag_roundtrip (s : PStore) (hI : Inv s) (cap cap0 : Int) (grow : Int → Int → Int) (ord : MapOrder)
    (hl : ord.Lawful) (fuel : Nat) (hf : forEachFuel s ≤ fuel) :
    ∃ g1 m, BufferedPaginatedStore.ToProto fuel (toGen s cap) = .ok (g1, m) ∧
      some (pbOfGo m) = storeToProto (.pg s) ∧
      ∀ fuel2, pagFuel PStore.new (msgCalls ord m) ≤ fuel2 →
        ∃ s' cap', BufferedPaginatedStore.MergeWithProto fuel2 ord grow (toGen PStore.new cap0) m
            = .ok (toGen s' cap') ∧ Inv s' ∧ content s' = content s := by
  obtain ⟨g1, m, h1, h3, hperm⟩ := pag_toProto_inv s hI cap fuel hf
  refine ⟨g1, m, h1, h3, fun fuel2 hf2 => ?_⟩
  have hwf : (content s).WF := PStore.content_wf s hI
  have hc : ∀ p ∈ msgCalls ord m, Idx32 p.1 ∧ 0 ≤ p.2 := fun p hp =>
    have hp' : p ∈ content s := (hperm ord hl).mem_iff.1 hp
    ⟨Lift.pag_keys32 s hI p hp', Rat.le_of_lt (hwf.2 p hp')⟩
  obtain ⟨s', cap', e1, e2, e3⟩ := pag_mergeWithProto PStore.new inv_new cap0 grow ord m hc fuel2 hf2
  have hn : content PStore.new = [] := by decide +kernel
  exact ⟨s', cap', e1, e2, by
    rw [e3, hn, Content.merge_perm [] Content.nz_nil (hperm ord hl), Content.merge_nil_left _ hwf]⟩

/-! ### sparse or paginated → a store of any kind -/

/-- a message whose calls are a permutation of a canonical `int32` content satisfies the hypotheses of
    `consumer_roundtrip` -/
theorem perm_side (c : Content) (hc : c.WF) (h32 : ∀ p ∈ c, Lift.I32 p.1) (L : List (Int × Rat)) (hp : L.Perm c) :
    Lift.BinsOK L ∧ ∀ j, Content.lookup L j = c.lookup j :=
  ⟨fun p hp' => ⟨Rat.le_of_lt (hc.2 p (hp.mem_iff.1 hp')), fun _ => h32 p (hp.mem_iff.1 hp')⟩,
   fun j => Content.lookup_perm hp j⟩

/-- **sparse → any kind.**  The regenerated sparse `ToProto` (any lawful order `o1`) of a store holding the canonical
    `int32` content `c`, as floats, merged by the regenerated generic `MergeWithProto` (any lawful order `o2`) into a
    new model store of kind `k`: a good store of kind `k` holding `c` clamped by the rule of `k` (`c` itself for the
    sparse, dense and paginated kinds) -/
theorem sparse_roundtrip {g : Gen.Sparse.SparseStore} {c : Content} (h : GenSparse.Rep g c)
    (h32 : ∀ p ∈ c, Lift.I32 p.1) (o1 o2 : MapOrder) (h1 : o1.Lawful) (h2 : o2.Lawful) (k : StoreKind)
    (hk : Lift.KindOK k) (fuel fuel2 : Nat) :
    ∃ m, Gen.SparseProto.SparseStore.ToProto fuel o1 g = .ok m ∧ some (pbOfGo m) = storeToProto (.sp c) ∧
      ∃ st', Gen.StoreProto.MergeWithProto fuel2 o2 (Store.new k) (toF64 m) = .ok st' ∧ Lift.Good st' ∧
        st'.kind = k ∧ Lift.contentOf st' = (Lift.clampOfKind k).apply c := by
  have h32' : ∀ p ∈ c, I32 p.1 := fun p hp => I32_of_Idx32 (h32 p hp)
  obtain ⟨e1, e2⟩ := sparse_toProto_model h.repS fuel o1 h1 h32'
  refine ⟨_, e1, e2, ?_⟩
  obtain ⟨b1, b2⟩ := perm_side c h.2 h32 _ (msgCalls_sparseMsg o2 h2 c h.2.1 h32')
  exact consumer_roundtrip k hk c h.2 o2 (sparseMsg c) b1 b2 fuel2

/-- **paginated → any kind**: the same with the regenerated paginated `ToProto` as the producer -/
theorem pag_roundtrip_any (s : PStore) (hI : Inv s) (cap : Int) (ord : MapOrder) (hl : ord.Lawful) (k : StoreKind)
    (hk : Lift.KindOK k) (fuel fuel2 : Nat) (hf : forEachFuel s ≤ fuel) :
    ∃ g1 m, BufferedPaginatedStore.ToProto fuel (toGen s cap) = .ok (g1, m) ∧
      some (pbOfGo m) = storeToProto (.pg s) ∧
      ∃ st', Gen.StoreProto.MergeWithProto fuel2 ord (Store.new k) (toF64 m) = .ok st' ∧ Lift.Good st' ∧
        st'.kind = k ∧ Lift.contentOf st' = (Lift.clampOfKind k).apply (content s) := by
  obtain ⟨g1, m, h1, h3, hperm⟩ := pag_toProto_inv s hI cap fuel hf
  have hwf : (content s).WF := PStore.content_wf s hI
  obtain ⟨b1, b2⟩ := perm_side (content s) hwf (Lift.pag_keys32 s hI) _ (hperm ord hl)
  exact ⟨g1, m, h1, h3, consumer_roundtrip k hk (content s) hwf ord m b1 b2 fuel2⟩

/-- **sparse → regenerated dense, through `FromProto`**: the message of the regenerated sparse `ToProto`, as floats,
    rebuilt by the regenerated `FromProto` (instance running the regenerated dense `AddWithCount`, e.g.
    `GenDecodeWrap.denseI`): the image of a good plain dense model store holding `c` -/
theorem sparse_to_dense_fromProto {g : Gen.Sparse.SparseStore} {c : Content} (h : GenSparse.Rep g c)
    (h32 : ∀ p ∈ c, Lift.I32 p.1) (o1 o2 : MapOrder) (h1 : o1.Lawful) (h2 : o2.Lawful)
    (I : StoreI GenDense.GS) (hI : GenDecodeWrap.DenseAdds I) (fuel fuel2 : Nat) :
    ∃ m d, Gen.SparseProto.SparseStore.ToProto fuel o1 g = .ok m ∧
      @Gen.DenseFromProto.FromProto I fuel2 o2 (toF64 m) = .ok (GenDense.toGen d) ∧
      Lift.Good (.d d) ∧ Lift.contentOf (.d d) = c := by
  obtain ⟨m, e1, _, st', e3, e4, _, e6⟩ := sparse_roundtrip h h32 o1 o2 h1 h2 .dense trivial fuel fuel2
  obtain ⟨d, d1, _, d3⟩ := dense_fromProto_sim I hI fuel2 o2 (toF64 m)
  rw [d3] at e3
  cases e3
  exact ⟨m, d, e1, d1, e4, e6⟩

/-! ### the bins of one message add up -/

/-- the bins of one message add up, whatever the order (`C09.mergeWithProto_adds` on the regenerated code): into a
    good model store of any kind holding the clamped form of `E` -/
theorem mergeWithProto_adds_gen (fuel : Nat) (ord : MapOrder) (hl : ord.Lawful) (st : Store) (hg : Lift.Good st)
    (E : Content) (hE : E.WF) (hcE : Lift.contentOf st = st.clamp.apply E) (pb : GoPb.Store F64) (hwf : pb.WF)
    (hfin : Finite pb) (hok : Lift.BinsOK (msgBins ord pb)) :
    ∃ st' C, Gen.StoreProto.MergeWithProto fuel ord st pb = .ok st' ∧ Lift.Good st' ∧ st'.kind = st.kind ∧
      Lift.contentOf st' = st.clamp.apply C ∧
      ∀ j, C.lookup j = E.lookup j + Content.lookup (mapBins pb) j + Content.lookup (contigBins pb) j := by
  obtain ⟨st', a1, a2, a3, a4⟩ := mergeWithProto_good_store fuel ord st hg E hE hcE pb hfin hok
  exact ⟨st', _, a1, a2, a3, a4, fun j => lookup_merge_msgBins E ord hl pb hwf j⟩

end DDS.Props.C09GenStore

