/-
  DDS.Props.C08 — truncated and malformed input.

  * A cut strictly inside a block is an `eof` error of the documentation decoder; a cut between
    blocks yields exactly the complete blocks.  Undefined flag bytes are `unknownFlag` errors.
  * The transcribed decoder (`Sketch.decodeLoop` / `Sketch.decodeAndMergeWith`) on SPEC stores
    refuses every stream cut inside a block, and never panics (`none`) — on any input whatsoever
    in which every readable varfloat is a finite float.

  Proofs are in `DDS.Proofs.WireFormat` (the format) and `DDS.Proofs.Wire` (the transcribed decoder).
  Vocabulary defined there:
  * `Block.WF` (see `DDS.Props.C07`), `Block.FiniteWeights` — every bin weight the block carries
    (`Wire.payloadBins`) is a finite float (`F64.isFinite`).
  * `Sketch.IsSparse s` — both stores of `s` are plain finite maps (`.sp`); `Sketch.spec m cp cn z` is.
  * `Sketch.FiniteVarfloats bytes` — at every position of `bytes` where `decVarfloat64` succeeds,
    its value is finite.  (The decoder hands weights to `AddWithCount` unchecked; a non-finite
    weight is outside the model, `none`, for every store kind.)
  * `Wire.OkOrEof r` — `r` is `.ok _` or `.error .eof`.
-/
import DDS.Proofs.Wire
import DDS.Proofs.SketchDefs

namespace DDS.Props.C08

open DDS DDS.Codec DDS.Wire

/-! ### the documentation decoder on truncated input -/

theorem parseBlock_prefix_eof (b : Block) (hb : b.WF) (k : Nat)
    (hk : k < (Wire.encBlock b).length) :
    Wire.parseBlock ((Wire.encBlock b).take k) = .error .eof :=
  (Wire.parseBlock_reads b hb).cut k hk

example : Wire.parseBlock ((Wire.encBlock (.bins .neg (.deltasCounts [(-7, 0x4000000000000000)]))).take 3)
    = .error .eof :=
  parseBlock_prefix_eof _ (by decide) 3 (by decide)

/-- a cut of an encoded stream either falls between blocks — then exactly the complete blocks are
    parsed — or is an `eof` error -/
theorem parseBlocks_cut (bs : List Block) (h : ∀ b ∈ bs, b.WF) (k : Nat)
    (hk : k ≤ (Wire.encBlocks bs).length) :
    (∃ j, k = (Wire.encBlocks (bs.take j)).length ∧
        Wire.parseBlocks ((Wire.encBlocks bs).take k) = .ok (bs.take j))
    ∨ Wire.parseBlocks ((Wire.encBlocks bs).take k) = .error .eof :=
  Wire.parseBlocks_cut bs h k hk

/-- where a cut can fall: after `j` complete blocks, or `k'` bytes into block number `j` -/
theorem encBlocks_take (bs : List Block) (k : Nat) (hk : k ≤ (Wire.encBlocks bs).length) :
    ∃ j, j ≤ bs.length ∧
      ((k = (Wire.encBlocks (bs.take j)).length ∧
          (Wire.encBlocks bs).take k = Wire.encBlocks (bs.take j)) ∨
       (∃ b k', b ∈ bs ∧ 0 < k' ∧ k' < (Wire.encBlock b).length ∧
          (Wire.encBlocks bs).take k = Wire.encBlocks (bs.take j) ++ (Wire.encBlock b).take k')) :=
  Wire.encBlocks_take bs k hk

/-- a cut strictly inside a block, after any number of complete blocks, is an `eof` error -/
theorem parseBlocks_cut_inside (pre : List Block) (h : ∀ b ∈ pre, b.WF) (b : Block) (hb : b.WF)
    (k : Nat) (h0 : 0 < k) (hk : k < (Wire.encBlock b).length) :
    Wire.parseBlocks (Wire.encBlocks pre ++ (Wire.encBlock b).take k) = .error .eof :=
  Wire.parseBlocks_cut_inside pre h b hb k h0 hk

/-- `parseBlocks` is a total function (it is a Lean function: every input has a result) -/
theorem parseBlocks_total (bytes : Bytes) :
    (∃ bs, Wire.parseBlocks bytes = .ok bs) ∨ (∃ e, Wire.parseBlocks bytes = .error e) := by
  cases h : Wire.parseBlocks bytes with
  | ok bs => exact .inl ⟨bs, rfl⟩
  | error e => exact .inr ⟨e, rfl⟩

theorem parseBlocks_never_ok_on_cut_block (pre : List Block) (h : ∀ b ∈ pre, b.WF) (b : Block)
    (hb : b.WF) (k : Nat) (h0 : 0 < k) (hk : k < (Wire.encBlock b).length) (out : List Block) :
    Wire.parseBlocks (Wire.encBlocks pre ++ (Wire.encBlock b).take k) ≠ .ok out := by
  rw [Wire.parseBlocks_cut_inside pre h b hb k h0 hk]
  intro h'; cases h'

example : Wire.parseBlocks ((Wire.encBlocks [.zeroCount 0x4008000000000000,
      .bins .pos (.deltas [3, 2])]).take 4) = .error .eof := by rfl
example : Wire.parseBlocks ((Wire.encBlocks [.zeroCount 0x4008000000000000,
      .bins .pos (.deltas [3, 2])]).take 2) = .ok [.zeroCount 0x4008000000000000] := by rfl

/-! ### flag bytes outside the format -/

/-- every flag byte that is not one of the 16 defined ones is reported as unknown — for a store
    type with an undefined bin layout the reported value is the sub-flag, otherwise the byte.
    (No bound on `f` is needed.) -/
theorem parseBlock_unknown_flag (f : Nat) (rest : Bytes) (hf : f ∉ definedFlagBytes) :
    ∃ g, Wire.parseBlock (f :: rest) = .error (.unknownFlag g) :=
  Wire.parseBlock_unknown_flag f rest hf

/-- a defined flag byte is never reported as unknown: the block parses or the input ends early -/
theorem parseBlock_defined_flag (f : Nat) (rest : Bytes) (hf : f ∈ definedFlagBytes) :
    OkOrEof (Wire.parseBlock (f :: rest)) :=
  Wire.parseBlock_defined_flag f rest hf

/-- classification of all 256 byte values -/
theorem flag_byte_classification (f : Nat) (_ : f < 256) (rest : Bytes) :
    (f ∈ definedFlagBytes ∧ OkOrEof (Wire.parseBlock (f :: rest))) ∨
    (f ∉ definedFlagBytes ∧ ∃ g, Wire.parseBlock (f :: rest) = .error (.unknownFlag g)) := by
  by_cases hf : f ∈ definedFlagBytes
  · exact .inl ⟨hf, Wire.parseBlock_defined_flag f rest hf⟩
  · exact .inr ⟨hf, Wire.parseBlock_unknown_flag f rest hf⟩

set_option maxRecDepth 8192 in
example : ((List.range 256).filter (fun f => decide (f ∈ definedFlagBytes))) =
    [2, 4, 5, 6, 7, 9, 10, 11, 13, 14, 15, 18, 132, 136, 140, 160] := by decide +kernel
set_option maxRecDepth 8192 in
example : ((List.range 256).filter (fun f => decide (f ∉ definedFlagBytes))).length = 240 := by
  decide +kernel
example (rest : Bytes) : ∃ g, Wire.parseBlock (17 :: rest) = .error (.unknownFlag g) :=
  parseBlock_unknown_flag 17 rest (by decide)
example (rest : Bytes) : ∃ g, Wire.parseBlock (22 :: rest) = .error (.unknownFlag g) :=
  parseBlock_unknown_flag 22 rest (by decide)

/-! ### the transcribed decoder on truncated input (spec stores) -/

/-- a stream cut strictly inside a block (after any number of complete blocks) is refused by
    `DecodeAndMergeWith` on a spec sketch: never accepted, never a panic.
    The weights of the stream must be finite floats (non-negativity is not needed in the model:
    the spec store accumulates any rational). -/
theorem decode_cut_inside_block_errors (pre : List Block) (hpre : ∀ b ∈ pre, b.WF)
    (hfin : ∀ b ∈ pre, b.FiniteWeights) (b : Block) (hb : b.WF) (hbf : b.FiniteWeights)
    (k : Nat) (h0 : 0 < k) (hk : k < (Wire.encBlock b).length)
    (m : Option MapId) (cp cn : Content) (z : F64) :
    ∃ e, Sketch.decodeAndMergeWith (Sketch.spec m cp cn z)
      (Wire.encBlocks pre ++ (Wire.encBlock b).take k) = some (.error e) :=
  Sketch.decodeAndMergeWith_cut_inside pre hpre hfin b hb hbf k h0 hk _
    (Sketch.isSparse_spec m cp cn z)

/-- the loop-level form, for any store kind: if the complete block would not panic
    (`applyBlock ≠ none`), any strict non-empty prefix of it is refused -/
theorem decodeLoop_cut_block (b : Block) (hb : b.WF) (n : Nat) (s : Sketch) (aux : Sketch.DecAux)
    (k : Nat) (h0 : 0 < k) (hk : k < (Wire.encBlock b).length)
    (hsafe : Sketch.applyBlock s aux b ≠ none) :
    ∃ e, Sketch.decodeLoop (n + 1) s aux ((Wire.encBlock b).take k) = some (.error e) :=
  Sketch.decodeLoop_take_encBlock b hb n s aux k h0 hk hsafe

/-- every cut of an encoded stream of finite weights, on a spec sketch: either the cut is between
    blocks and the decoder does exactly the fold over the complete blocks (not a panic), or it
    refuses -/
theorem decode_cut (bs : List Block) (h : ∀ b ∈ bs, b.WF) (hfin : ∀ b ∈ bs, b.FiniteWeights)
    (k : Nat) (hk : k ≤ (Wire.encBlocks bs).length) (fuel : Nat) (hfuel : k < fuel)
    (m : Option MapId) (cp cn : Content) (z : F64) (aux : Sketch.DecAux) :
    (∃ j, k = (Wire.encBlocks (bs.take j)).length ∧
        Sketch.decodeLoop fuel (Sketch.spec m cp cn z) aux ((Wire.encBlocks bs).take k)
          = Sketch.applyBlocks (Sketch.spec m cp cn z) aux (bs.take j) ∧
        Sketch.applyBlocks (Sketch.spec m cp cn z) aux (bs.take j) ≠ none)
    ∨ ∃ e, Sketch.decodeLoop fuel (Sketch.spec m cp cn z) aux ((Wire.encBlocks bs).take k)
        = some (.error e) :=
  Sketch.decodeLoop_encoded_take_ne_none bs h hfin k hk fuel hfuel _ aux
    (Sketch.isSparse_spec m cp cn z)

/-! ### the transcribed decoder never panics on spec stores -/

/-- ANY byte string: on spec stores the loop never returns `none` (no panic, and `fuel ≥ length`
    is enough fuel), provided every varfloat that can be read anywhere in the input is finite. -/
theorem decode_total_spec (fuel : Nat) (bytes : Bytes) (hl : bytes.length ≤ fuel)
    (m : Option MapId) (cp cn : Content) (z : F64) (aux : Sketch.DecAux)
    (hf : Sketch.FiniteVarfloats bytes) :
    Sketch.decodeLoop fuel (Sketch.spec m cp cn z) aux bytes ≠ none :=
  Sketch.decodeLoop_total_spec fuel bytes _ aux hl (Sketch.isSparse_spec m cp cn z) hf

theorem decodeAndMergeWith_total_spec (bytes : Bytes) (m : Option MapId) (cp cn : Content) (z : F64)
    (hf : Sketch.FiniteVarfloats bytes) :
    Sketch.decodeAndMergeWith (Sketch.spec m cp cn z) bytes ≠ none :=
  Sketch.decodeAndMergeWith_total_spec _ (Sketch.isSparse_spec m cp cn z) bytes hf

/-- the hypothesis is needed: a non-finite weight is a `none` of the model
    (`0x7ff0000000000000` is `+Inf`; the varfloat payload is the bits of `count + 1`) -/
example : Sketch.decodeAndMergeWith (Sketch.spec none [] [] (.fin 0))
    (Wire.encBlocks [.bins .pos (.deltasCounts [(0, 0x7ff0000000000000)])]) = none := by
  rfl

/-- encoded streams with finite bin weights: the fold never panics on spec stores, and keeps them
    spec -/
theorem applyBlocks_spec_total (bs : List Block) (hfin : ∀ b ∈ bs, b.FiniteWeights)
    (m : Option MapId) (cp cn : Content) (z : F64) (aux : Sketch.DecAux) :
    Sketch.applyBlocks (Sketch.spec m cp cn z) aux bs ≠ none ∧
      ∀ s' aux', Sketch.applyBlocks (Sketch.spec m cp cn z) aux bs = some (.ok (s', aux')) →
        s'.IsSparse :=
  Sketch.applyBlocks_spec bs hfin _ aux (Sketch.isSparse_spec m cp cn z)

theorem decode_encoded_total_spec (bs : List Block) (h : ∀ b ∈ bs, b.WF)
    (hfin : ∀ b ∈ bs, b.FiniteWeights) (fuel : Nat) (hf : bs.length ≤ fuel)
    (m : Option MapId) (cp cn : Content) (z : F64) (aux : Sketch.DecAux) :
    Sketch.decodeLoop fuel (Sketch.spec m cp cn z) aux (Wire.encBlocks bs) ≠ none := by
  rw [Sketch.decodeLoop_encBlocks bs h fuel hf]
  exact (Sketch.applyBlocks_spec bs hfin _ aux (Sketch.isSparse_spec m cp cn z)).1

end DDS.Props.C08
