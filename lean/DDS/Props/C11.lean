/-
  DDS.Props.C11 — `GetValueAtQuantile` with arbitrary non-negative rational weights
  (`AddWithCount(v, c)`, fractional counts included), on sparse (= spec) stores.

  The float sums are rounded in the model (`F64`); this file states what the answer is UNDER THE
  EXPLICIT HYPOTHESIS `QExact` that the additions/subtractions of the rank computation return the
  exact rational result (the product `q·(count-1)` may round: `r0` is whatever it rounds to):

      count    : (zero + posTotal) + negTotal        = W            (W := z + cp.total + cn.total)
      countm1  : W - 1                                = W - 1
      rank0    : q * (W - 1)                          = r0  (finite)
      negm1    : negTotal - 1                         = cn.total - 1
      negRank  : (negTotal - 1) - rank'               exact        (rank' := max 0 r0 = clampRank r0)
      zeroNeg  : zero + negTotal                      exact
      posRank1 : rank' - zero                         exact
      posRank2 : (rank' - zero) - negTotal            exact

  `cumul c k` is the weight `c` holds at indexes `≤ k`.

  FINDINGS (see the `example`s at the end)
  * F1. On the NEGATIVE side the bin is not the one whose cumulative-weight interval (in value
    order) contains `rank'`: because of the `- 1` in `negativeValueCount - 1 - rank`, the selected
    bin `j` satisfies   above(j) < min(rank'+1, negTotal) ≤ above(j) + w_j   (`above(j)` = weight at
    indexes `> j`), i.e. it contains `rank' + 1` under the closed-above convention.  For integer
    weights and integer ranks this is the same bin; for fractional weights it is not (counterexample
    below: weights 1/2, 1/2 on the negative side, rank' = 1/4 answers the bin of the SMALLER
    magnitude although the first 1/2 of the weight is the larger magnitude).  On the positive side
    the statement is the expected one:  below(j) ≤ rank' - z - negTotal < below(j) + w_j.
  * F2. Exactness of `count - 1` is NECESSARY for "never answers from an empty store": when the
    count is so large that `count - 1` rounds back to `count` (e.g. a single negative value added
    with count `2^54`), `q = 1` gives `rank = count`, both tests `rank < negCount` and
    `rank < zero + negCount` fail, and the answer is read from the EMPTY positive store
    (`absorbed_count_answers_from_empty_store`).

  The lemmas they rest on are in `DDS.Proofs.Quantile` (section G).
-/
import DDS.Proofs.Quantile

namespace DDS.Props.C11

open DDS Content DDS.QuantileEx

/-! ### the state after weighted insertions -/

/-- Weighted insertions (`|v| ≤ maxIndexable`, `c ≥ 0`) into sparse stores are never refused and
    never panic; both stores are canonical (`WF`), and hold at every index exactly the total weight
    of the inputs the mapping sends there. -/
theorem addAll_weighted_state (env : MapEnv) (α mn mx : Rat) (C : Contract env α mn mx)
    (xs : List (Rat × Rat)) (hx : ∀ p ∈ xs, rabs p.1 ≤ mx ∧ 0 ≤ p.2) :
    ∃ cp cn : Content, ∃ zf : F64,
      Sketch.addAll env (Sketch.new (some env.id) .sparse) xs = some ⟨some env.id, .sp cp, .sp cn, zf⟩ ∧
      cp.WF ∧ cn.WF ∧
      (∀ j, cp.lookup j =
        Content.lookup ((xs.filter (fun p => decide (mn < p.1))).map
          (fun p => (env.index (.fin (rabs p.1)), p.2))) j) ∧
      (∀ j, cn.lookup j =
        Content.lookup ((xs.filter (fun p => decide (p.1 < -mn))).map
          (fun p => (env.index (.fin (rabs p.1)), p.2))) j) := by
  refine ⟨Content.merge [] (Sketch.posPart env mn xs), Content.merge [] (Sketch.negPart env mn xs),
    Sketch.fsum (.fin 0) (Sketch.zeroPart mn xs), ?_, ?_, ?_, ?_, ?_⟩
  · exact Sketch.addAll_spec env mn mx C.minEq C.maxEq C.minPos.le (some env.id) xs hx [] [] (.fin 0)
  · exact wf_merge_of_nonneg _ _ wf_nil (Sketch.posPart_nonneg env mn xs (fun p hp => (hx p hp).2))
  · exact wf_merge_of_nonneg _ _ wf_nil (Sketch.negPart_nonneg env mn xs (fun p hp => (hx p hp).2))
  · intro j; rw [lookup_merge, lookup_nil, zero_add]; rfl
  · intro j; rw [lookup_merge, lookup_nil, zero_add]; rfl

/-! ### which bin answers -/

/-- **Weighted quantile.**  With `rank' = clampRank r0 = max 0 (fl(q·(W-1)))`:
    * `rank' < negTotal`: the answer is `-value j` for a bin `j` of the negative store, with
      `above(j) < min(rank'+1, negTotal) ≤ above(j-1)`  (`above(k) = negTotal - cumul cn k`);
    * `negTotal ≤ rank' < z + negTotal`: the answer is 0;
    * otherwise: the answer is `value j` for a bin `j` of the positive store whose cumulative
      interval contains the rank: `z + negTotal + cumul cp (j-1) ≤ rank' < z + negTotal + cumul cp j`
      (it is never "the last one by default": `rank' < W`). -/
theorem quantile_weighted (env : MapEnv) (m : Option MapId) (cp cn : Content) (z q r0 : Rat)
    (hcp : cp.WF) (hcn : cn.WF) (hz : 0 ≤ z) (hq0 : 0 ≤ q) (hq1 : q ≤ 1)
    (hW : 0 < z + cp.total + cn.total) (hexact : QExact cp cn z q r0) :
    (clampRank r0 < cn.total ∧ ∃ j w, (j, w) ∈ cn ∧
        Sketch.quantile env ⟨m, .sp cp, .sp cn, .fin z⟩ (.fin q) = .ok (F64.neg (env.value j)) ∧
        cn.total - cumul cn j < min (clampRank r0 + 1) cn.total ∧
        min (clampRank r0 + 1) cn.total ≤ cn.total - cumul cn (j - 1)) ∨
    (cn.total ≤ clampRank r0 ∧ clampRank r0 < z + cn.total ∧
        Sketch.quantile env ⟨m, .sp cp, .sp cn, .fin z⟩ (.fin q) = .ok (.fin 0)) ∨
    (z + cn.total ≤ clampRank r0 ∧ ∃ j w, (j, w) ∈ cp ∧
        Sketch.quantile env ⟨m, .sp cp, .sp cn, .fin z⟩ (.fin q) = .ok (env.value j) ∧
        z + cn.total + cumul cp (j - 1) ≤ clampRank r0 ∧
        clampRank r0 < z + cn.total + cumul cp j) :=
  DDS.quantile_weighted env m cp cn z q r0 hcp hcn hz hq0 hq1 hW hexact

/-- **The answer is never taken from an empty store**: with no negative values the answer is
    `≥ 0`, with no positive values it is `≤ 0` (representatives are positive: `Contract.valFin`). -/
theorem answer_from_nonempty_side (env : MapEnv) (α mn mx : Rat) (C : Contract env α mn mx)
    (m : Option MapId) (cp cn : Content) (z q r0 : Rat)
    (hcp : cp.WF) (hcn : cn.WF) (hz : 0 ≤ z) (hq0 : 0 ≤ q) (hq1 : q ≤ 1)
    (hW : 0 < z + cp.total + cn.total) (hexact : QExact cp cn z q r0) :
    (cn = [] → ∃ a, Sketch.quantile env ⟨m, .sp cp, .sp cn, .fin z⟩ (.fin q) = .ok (.fin a) ∧ 0 ≤ a) ∧
    (cp = [] → ∃ a, Sketch.quantile env ⟨m, .sp cp, .sp cn, .fin z⟩ (.fin q) = .ok (.fin a) ∧ a ≤ 0) := by
  have h := DDS.quantile_weighted env m cp cn z q r0 hcp hcn hz hq0 hq1 hW hexact
  constructor
  · intro hn
    rcases h with ⟨_, j, w, hjw, _⟩ | ⟨_, _, h0⟩ | ⟨_, j, w, _, hv, _⟩
    · rw [hn] at hjw; simp at hjw
    · exact ⟨0, h0, le_refl _⟩
    · obtain ⟨r, hr, hr0⟩ := C.valFin j
      exact ⟨r, by rw [hv, hr], le_of_lt hr0⟩
  · intro hp
    rcases h with ⟨_, j, w, _, hv, _⟩ | ⟨_, _, h0⟩ | ⟨_, j, w, hjw, _⟩
    · obtain ⟨r, hr, hr0⟩ := C.valFin j
      exact ⟨-r, by rw [hv, hr]; rfl, by linarith⟩
    · exact ⟨0, h0, le_refl _⟩
    · rw [hp] at hjw; simp at hjw

/-- The rank is below the total weight, and the clamp makes it 0 when the total weight is below 1
    (where `q·(W-1)` is negative). -/
theorem rank_clamped (cp cn : Content) (z q r0 : Rat) (hq0 : 0 ≤ q) (hq1 : q ≤ 1)
    (hW : 0 < z + cp.total + cn.total) (hexact : QExact cp cn z q r0) :
    0 ≤ clampRank r0 ∧ clampRank r0 < z + cp.total + cn.total ∧
      (z + cp.total + cn.total < 1 → clampRank r0 = 0) :=
  ⟨clampRank_nonneg r0, (clampRank_lt cp cn z q r0 hq0 hq1 hW hexact).1,
    (clampRank_lt cp cn z q r0 hq0 hq1 hW hexact).2⟩

/-! ### F2: without exactness of `count - 1` the empty positive store answers -/

/-- If the (representable) count `W` absorbs the subtraction of 1, all the weight is negative and
    `q = 1`, the answer is read from the empty positive store: `+value 0`. -/
theorem absorbed_count_answers_from_empty_store (env : MapEnv) (m : Option MapId) (cn : Content)
    (hW : 0 < cn.total)
    (hrep : F64.roundF64 cn.total = .fin cn.total)
    (habs : F64.sub (.fin cn.total) F64.one = .fin cn.total) :
    Sketch.quantile env ⟨m, .sp [], .sp cn, .fin 0⟩ (.fin 1) = .ok (env.value 0) := by
  obtain ⟨W, hWe⟩ : ∃ W, W = cn.total := ⟨_, rfl⟩
  rw [← hWe] at hW hrep habs
  have hr := F64.isRep_of_roundF64 hrep
  have e0 := F64.zero_add_exact 0 F64.isRep_zero
  have e1 := F64.zero_add_exact W hr
  have e2 : F64.mul (.fin 1) (.fin W) = .fin W := by
    show F64.roundF64 (1 * W) = _; rw [one_mul]; exact hrep
  have e3 := F64.sub_zero_exact W hr
  have e4 := F64.sub_self_fin W
  have hW0 : ¬ W = 0 := ne_of_gt hW
  have hW1 : ¬ W < 0 := not_lt.2 (le_of_lt hW)
  unfold Sketch.quantile
  simp only [Sketch.getCount, Sketch.posTotal, Sketch.negTotal, Store.totalCount, total_nil, ← hWe,
    e0, e1, habs, e2, e3, e4, F64.le_fin, F64.lt_fin, F64.eq_fin, decide_true, Bool.and_self,
    Bool.not_true, Bool.false_eq_true, if_false, beq_iff_eq, hW0, hW1, lt_irrefl, decide_false,
    le_refl, zero_le_one]
  rfl

/-- **F2, concretely**: one negative value (bin 1) added with count `2^54`; `q = 1` answers
    `+value 0` — read from the empty positive store — for every mapping.
    (`2^54 - 1` rounds to `2^54`: `sub_one_absorbed`.) -/
example (env : MapEnv) (m : Option MapId) :
    Sketch.quantile env ⟨m, .sp [], .sp [(1, (2 : Rat) ^ 54)], .fin 0⟩ (.fin 1) = .ok (env.value 0) := by
  have ht : Content.total [((1 : Int), (2 : Rat) ^ 54)] = (2 : Rat) ^ 54 := by
    simp [Content.total]
  apply absorbed_count_answers_from_empty_store
  · rw [ht]; norm_num
  · rw [ht]; exact round_pow54
  · rw [ht]; exact sub_one_absorbed

/-! ### the hypotheses are satisfiable; F1 (negative side, fractional weights) -/

/- `QuantileEx.exCn = [(0, 1/2), (1, 1/2)]` (negative side: weight 1/2 at index 0 = small magnitude,
   1/2 at index 1 = large magnitude), `QuantileEx.exCp = [(5, 2)]`, zero bucket 0: `W = 3`;
   `q = 1/8`, `rank' = 1/4`.  `QuantileEx.exExact : QExact exCp exCn 0 (1/8) (1/4)`. -/

example : ∃ cp cn z q r0, cp.WF ∧ cn.WF ∧ 0 ≤ z ∧ 0 ≤ q ∧ q ≤ 1 ∧ 0 < z + cp.total + cn.total ∧
    QExact cp cn z q r0 :=
  ⟨exCp, exCn, 0, 1 / 8, 1 / 4,
    by simp [exCp, wf_cons], by simp [exCn, wf_cons],
    le_refl _, by norm_num, by norm_num, by rw [exCp_total, exCn_total]; norm_num, exExact⟩

/-- **F1.**  In value order the negative weight is: 1/2 at index 1 (ranks `[0, 1/2)`), then 1/2 at
    index 0 (ranks `[1/2, 1)`).  The rank is `1/4`, yet the answer is the representative of
    index 0, for every mapping. -/
example (env : MapEnv) (m : Option MapId) :
    clampRank (1 / 4) = 1 / 4 ∧
    Sketch.quantile env ⟨m, .sp exCp, .sp exCn, .fin 0⟩ (.fin (1 / 8)) = .ok (F64.neg (env.value 0)) := by
  refine ⟨ex_clamp, ?_⟩
  rw [quantile_eval_exact env m exCp exCn 0 (1 / 8) (1 / 4) (by norm_num) (by norm_num)
    (by rw [exCp_total, exCn_total]; norm_num) exExact, ex_clamp, exCn_total, if_pos (by norm_num)]
  have : karAux exCn 0 (1 - 1 - 1 / 4) = 0 := by
    rw [exCn, karAux_cons_cons, if_pos (by norm_num)]
  rw [this]

end DDS.Props.C11
