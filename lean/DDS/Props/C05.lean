/-
  DDS.Props.C05 — "Collapsing stores stay bounded, conserve weight and clamp correctly".

  Statements about the Lean transcription (`DDS.Model.Dense`, `kind = .low N` / `.high N`) of
  `ddsketch/store/collapsing_lowest_dense_store.go` and `collapsing_highest_dense_store.go`,
  proved in `DDS.Proofs.Collapsing`, `DDS.Proofs.CollapsingHigh` and, for what holds of every dense
  kind, `DDS.Proofs.DenseKinds`.

  * No assumption is left on the float computation `denseNewLength`: `DStore.growthOK`
    (`DDS.Proofs.Growth`) proves that it covers every span below `2^33`.
  * A history is a list of `DStore.Op` (`add i w`, `clear`, `reweight w`); `Op.ok32` asks for
    non-negative weights on int32 indexes (the mapping only produces int32 indexes).  Outside
    that range (a) the sentinels `MaxInt32`/`MinInt32` of the empty store break the exact
    clamping relation (`low_below_int32_discrepancy`), and (b) safety itself fails: for spans
    from about `2^60` on `getNewLength` under-allocates or overflows
    (`DStore.denseNewLength_underallocates`, `DStore.not_growthOK_unbounded`).  All theorems
    are therefore stated for int32 indexes.
  * `DStore.exactContent ops` is the content an unbounded store would hold after `ops`.
-/
import DDS.Proofs.CollapsingHigh
import DDS.Proofs.Growth

namespace DDS.Props.C05

open DDS DStore

/-! ### histories -/

/-- non-negative weights, arbitrary `Int` indexes: not enough for the theorems below, which need
    `Op.ok32` -/
def Op.nonneg : Op → Prop
  | .add _ w => 0 ≤ w
  | _ => True

theorem nonneg_iff (op : Op) : Op.nonneg op ↔ (match op with | .add _ w => 0 ≤ w | _ => True) := by
  cases op <;> rfl

theorem ok32_append_clear {ops : List Op} (h : ∀ op ∈ ops, op.ok32) :
    ∀ op ∈ ops ++ [Op.clear], op.ok32 := fun op hop =>
  (List.mem_append.1 hop).elim (h op) fun hc => List.mem_singleton.1 hc ▸ trivial

theorem exactContent_append_clear (ops : List Op) : exactContent (ops ++ [Op.clear]) = [] := by
  unfold exactContent; rw [List.foldl_append]; rfl

/-! ### lowest-collapsing store -/

/-- the history run on a fresh lowest-collapsing store with limit `N` -/
def runLow (N : Nat) (ops : List Op) : Option DStore :=
  ops.foldlM applyOp (DStore.new (.low N))

/-- no history panics (int32 indexes) and the invariant holds afterwards -/
theorem low_never_panics (N : Nat) (hN : 1 ≤ N) (ops : List Op)
    (hops : ∀ op ∈ ops, op.ok32) :
    ∃ s, runLow N ops = some s ∧ InvLow N s :=
  let ⟨s, h1, h2, _⟩ := low_history growthOK N hN ops hops
  ⟨s, h1, h2⟩

/-- never more than `N` array slots, never more than `N` bins reported, never a span of more
    than `N` consecutive indexes -/
theorem low_bounded_after_history (N : Nat) (hN : 1 ≤ N) (ops : List Op)
    (hops : ∀ op ∈ ops, op.ok32) :
    ∃ s, runLow N ops = some s ∧ s.bins.size ≤ N ∧
      (∃ l, s.binsList = some l ∧ l.length ≤ N) ∧
      (∀ mn mx, s.minIndex? = some mn → s.maxIndex? = some mx → mx - mn + 1 ≤ N) := by
  obtain ⟨s, hs, hinv⟩ := low_never_panics N hN ops hops
  refine ⟨s, hs, hinv.lenLe,
    ⟨content s, hinv.core.content_spec.1, hinv.core.content_length_le hinv.lenLe⟩, ?_⟩
  intro mn mx hmn hmx
  obtain ⟨h0, rfl⟩ := minIndex?_eq s mn hmn
  obtain ⟨_, rfl⟩ := maxIndex?_eq s mx hmx
  exact hinv.core.span_le hinv.lenLe h0

/-- the total count is the total of the reported bins -/
theorem low_total_is_sum_of_bins (N : Nat) (hN : 1 ≤ N) (ops : List Op)
    (hops : ∀ op ∈ ops, op.ok32) :
    ∃ s, runLow N ops = some s ∧ s.totalCount = (content s).total := by
  obtain ⟨s, hs, hinv⟩ := low_never_panics N hN ops hops
  exact ⟨s, hs, hinv.core.total⟩

/-- after ANY history the content is the exact content with every index below
    `max − N + 1` folded into that edge bin -/
theorem low_content_after_history (N : Nat) (hN : 1 ≤ N) (ops : List Op)
    (hops : ∀ op ∈ ops, op.ok32) :
    ∃ s, runLow N ops = some s ∧ s.binsList = some (content s) ∧
      content s = Content.specLow N (exactContent ops) := by
  obtain ⟨s, hs, hinv, _, hc⟩ := low_history growthOK N hN ops hops
  exact ⟨s, hs, hinv.core.content_spec.1, hc⟩

/-- no weight is ever lost: the total count is the total weight of the exact content -/
theorem low_weight_conserved (N : Nat) (hN : 1 ≤ N) (ops : List Op)
    (hops : ∀ op ∈ ops, op.ok32) :
    ∃ s, runLow N ops = some s ∧ s.totalCount = (exactContent ops).total := by
  obtain ⟨s, hs, hinv, _, hc⟩ := low_history growthOK N hN ops hops
  refine ⟨s, hs, ?_⟩
  rw [hinv.core.total, hc, Content.total_specLow]

/-- the observers agree with the clamped exact content -/
theorem low_observers_after_history (N : Nat) (hN : 1 ≤ N) (ops : List Op)
    (hops : ∀ op ∈ ops, op.ok32) :
    ∃ s, runLow N ops = some s ∧
      s.isEmpty = (Content.specLow N (exactContent ops)).isEmpty ∧
      s.minIndex? = (Content.specLow N (exactContent ops)).minIndex? ∧
      s.maxIndex? = (Content.specLow N (exactContent ops)).maxIndex? := by
  obtain ⟨s, hs, hinv, ht, hc⟩ := low_history growthOK N hN ops hops
  have hr := hc ▸ hinv.core.refines ht
  exact ⟨s, hs, hr.empty, hr.min, hr.max⟩

/-- `KeyAtRank` of a non-empty store is the rank lookup of the clamped exact content -/
theorem low_keyAtRank_after_history (N : Nat) (hN : 1 ≤ N) (ops : List Op)
    (hops : ∀ op ∈ ops, op.ok32) :
    ∃ s, runLow N ops = some s ∧ (s.isEmpty = false → ∀ r,
      s.keyAtRank r = (Content.specLow N (exactContent ops)).keyAtRank r) := by
  obtain ⟨s, hs, hinv, ht, hc⟩ := low_history growthOK N hN ops hops
  have hr := hc ▸ hinv.core.refines ht
  exact ⟨s, hs, fun hne => hr.kar fun he => Bool.false_ne_true (hne.symm.trans (hr.empty.trans (by rw [he]; rfl)))⟩

/-- EVERY merge of two lowest-collapsing stores is safe — whatever the two bin limits `N`, `M`,
    the two histories (in particular: empty or cleared receiver, argument wider than `N`).
    The result holds the receiver's exact content merged with the argument's (already clamped,
    limit `M`) content, folded at `max − N + 1`; no weight is lost. -/
theorem low_merge_safe (N M : Nat) (hN : 1 ≤ N) (hM : 1 ≤ M)
    (ops₁ ops₂ : List Op) (h₁ : ∀ op ∈ ops₁, op.ok32) (h₂ : ∀ op ∈ ops₂, op.ok32) :
    ∃ s o s', runLow N ops₁ = some s ∧ runLow M ops₂ = some o ∧ s.mergeSame o = some s' ∧
      InvLow N s' ∧ s'.bins.size ≤ N ∧ s'.totalCount = s.totalCount + o.totalCount ∧
      content s' = Content.specLow N
        ((exactContent ops₁).merge (Content.specLow M (exactContent ops₂))) := by
  obtain ⟨s, hs, hinv, ht, hc⟩ := low_history growthOK N hN ops₁ h₁
  obtain ⟨o, ho, hinvo, hto, hco⟩ := low_history growthOK M hM ops₂ h₂
  obtain ⟨s', hm, ⟨hinv', _⟩, hc', hcnt⟩ := KInv.mergeSame growthOK (k := .low N) (k' := .low M)
    ⟨hinv, ht⟩ ⟨hinvo, hto⟩ rfl
  have hc' : content s' = Content.specLow N _ := hc'
  refine ⟨s, o, s', hs, ho, hm, hinv', hinv'.lenLe, hcnt, ?_⟩
  rw [hc', hc, hco, Content.specLow_merge_specLow N hN _ _ (wf_exactContent ops₁ h₁)
    (Content.wf_specLow M _ (wf_exactContent ops₂ h₂))]

/-- merging into an EMPTY (fresh or cleared) receiver a store wider than the receiver's limit —
    the case that panicked before the repair -/
theorem low_merge_into_empty_safe (N M : Nat) (hN : 1 ≤ N) (hM : 1 ≤ M)
    (ops₁ ops₂ : List Op) (h₁ : ∀ op ∈ ops₁, op.ok32) (h₂ : ∀ op ∈ ops₂, op.ok32) :
    ∃ s o s', runLow N (ops₁ ++ [Op.clear]) = some s ∧ runLow M ops₂ = some o ∧
      s.mergeSame o = some s' ∧
      content s' = Content.specLow N (Content.specLow M (exactContent ops₂)) := by
  obtain ⟨s, o, s', a1, a2, a3, _, _, _, a7⟩ :=
    low_merge_safe N M hN hM (ops₁ ++ [Op.clear]) ops₂ (ok32_append_clear h₁) h₂
  refine ⟨s, o, s', a1, a2, a3, ?_⟩
  rw [a7, exactContent_append_clear,
    Content.merge_nil_left _ (Content.wf_specLow M _ (wf_exactContent ops₂ h₂))]

/-- the fallback merge (`other.ForEach(s.AddWithCount)`, used across kinds) is safe as well -/
theorem low_mergeBins_safe (N : Nat) (hN : 1 ≤ N) (ops : List Op)
    (hops : ∀ op ∈ ops, op.ok32) (l : List (Int × Rat)) (hl : ∀ p ∈ l, 0 ≤ p.2)
    (hl32 : ∀ p ∈ l, minInt32 ≤ p.1 ∧ p.1 ≤ maxInt32) :
    ∃ s s', runLow N ops = some s ∧ s.mergeBins l = some s' ∧ InvLow N s' ∧
      content s' = Content.specLow N ((exactContent ops).merge (Content.ofList l)) := by
  obtain ⟨s, hs, hinv, ht, hc⟩ := low_history growthOK N hN ops hops
  obtain ⟨s', h1, h2, _, h3⟩ := KRel.mergeBins growthOK (k := .low N) l hl hl32
    ⟨⟨hinv, ht⟩, wf_exactContent ops hops, hc⟩
  exact ⟨s, s', hs, h1, h2.1, h3.trans
    (congrArg _ (Content.merge_ofList _ l (wf_exactContent ops hops) hl).symm)⟩

/-! ### highest-collapsing store -/

/-- the history run on a fresh highest-collapsing store with limit `N` -/
def runHigh (N : Nat) (ops : List Op) : Option DStore :=
  ops.foldlM applyOp (DStore.new (.high N))

theorem high_never_panics (N : Nat) (hN : 1 ≤ N) (ops : List Op)
    (hops : ∀ op ∈ ops, op.ok32) :
    ∃ s, runHigh N ops = some s ∧ InvHigh N s :=
  let ⟨s, h1, h2, _⟩ := high_history growthOK N hN ops hops
  ⟨s, h1, h2⟩

theorem high_bounded_after_history (N : Nat) (hN : 1 ≤ N) (ops : List Op)
    (hops : ∀ op ∈ ops, op.ok32) :
    ∃ s, runHigh N ops = some s ∧ s.bins.size ≤ N ∧
      (∃ l, s.binsList = some l ∧ l.length ≤ N) ∧
      (∀ mn mx, s.minIndex? = some mn → s.maxIndex? = some mx → mx - mn + 1 ≤ N) := by
  obtain ⟨s, hs, hinv⟩ := high_never_panics N hN ops hops
  refine ⟨s, hs, hinv.lenLe,
    ⟨content s, hinv.core.content_spec.1, hinv.core.content_length_le hinv.lenLe⟩, ?_⟩
  intro mn mx hmn hmx
  obtain ⟨h0, rfl⟩ := minIndex?_eq s mn hmn
  obtain ⟨_, rfl⟩ := maxIndex?_eq s mx hmx
  exact hinv.core.span_le hinv.lenLe h0

theorem high_total_is_sum_of_bins (N : Nat) (hN : 1 ≤ N) (ops : List Op)
    (hops : ∀ op ∈ ops, op.ok32) :
    ∃ s, runHigh N ops = some s ∧ s.totalCount = (content s).total := by
  obtain ⟨s, hs, hinv⟩ := high_never_panics N hN ops hops
  exact ⟨s, hs, hinv.core.total⟩

/-- after ANY history the content is the exact content with every index above
    `min + N − 1` folded into that edge bin -/
theorem high_content_after_history (N : Nat) (hN : 1 ≤ N) (ops : List Op)
    (hops : ∀ op ∈ ops, op.ok32) :
    ∃ s, runHigh N ops = some s ∧ s.binsList = some (content s) ∧
      content s = Content.specHigh N (exactContent ops) := by
  obtain ⟨s, hs, hinv, _, hc⟩ := high_history growthOK N hN ops hops
  exact ⟨s, hs, hinv.core.content_spec.1, hc⟩

theorem high_weight_conserved (N : Nat) (hN : 1 ≤ N) (ops : List Op)
    (hops : ∀ op ∈ ops, op.ok32) :
    ∃ s, runHigh N ops = some s ∧ s.totalCount = (exactContent ops).total := by
  obtain ⟨s, hs, hinv, _, hc⟩ := high_history growthOK N hN ops hops
  refine ⟨s, hs, ?_⟩
  rw [hinv.core.total, hc, Content.total_specHigh]

theorem high_observers_after_history (N : Nat) (hN : 1 ≤ N) (ops : List Op)
    (hops : ∀ op ∈ ops, op.ok32) :
    ∃ s, runHigh N ops = some s ∧
      s.isEmpty = (Content.specHigh N (exactContent ops)).isEmpty ∧
      s.minIndex? = (Content.specHigh N (exactContent ops)).minIndex? ∧
      s.maxIndex? = (Content.specHigh N (exactContent ops)).maxIndex? ∧
      (s.isEmpty = false → ∀ r,
        s.keyAtRank r = (Content.specHigh N (exactContent ops)).keyAtRank r) := by
  obtain ⟨s, hs, hinv, ht, hc⟩ := high_history growthOK N hN ops hops
  have hr := hc ▸ hinv.core.refines ht
  exact ⟨s, hs, hr.empty, hr.min, hr.max,
    fun hne => hr.kar fun he => Bool.false_ne_true (hne.symm.trans (hr.empty.trans (by rw [he]; rfl)))⟩

/-- EVERY merge of two highest-collapsing stores is safe, whatever the two limits and histories -/
theorem high_merge_safe (N M : Nat) (hN : 1 ≤ N) (hM : 1 ≤ M)
    (ops₁ ops₂ : List Op) (h₁ : ∀ op ∈ ops₁, op.ok32) (h₂ : ∀ op ∈ ops₂, op.ok32) :
    ∃ s o s', runHigh N ops₁ = some s ∧ runHigh M ops₂ = some o ∧ s.mergeSame o = some s' ∧
      InvHigh N s' ∧ s'.bins.size ≤ N ∧ s'.totalCount = s.totalCount + o.totalCount ∧
      content s' = Content.specHigh N
        ((exactContent ops₁).merge (Content.specHigh M (exactContent ops₂))) := by
  obtain ⟨s, hs, hinv, ht, hc⟩ := high_history growthOK N hN ops₁ h₁
  obtain ⟨o, ho, hinvo, hto, hco⟩ := high_history growthOK M hM ops₂ h₂
  obtain ⟨s', hm, ⟨hinv', _⟩, hc', hcnt⟩ := KInv.mergeSame growthOK (k := .high N) (k' := .high M)
    ⟨hinv, ht⟩ ⟨hinvo, hto⟩ rfl
  have hc' : content s' = Content.specHigh N _ := hc'
  refine ⟨s, o, s', hs, ho, hm, hinv', hinv'.lenLe, hcnt, ?_⟩
  rw [hc', hc, hco, Content.specHigh_merge_specHigh N hN _ _ (wf_exactContent ops₁ h₁)
    (Content.wf_specHigh M _ (wf_exactContent ops₂ h₂))]

theorem high_merge_into_empty_safe (N M : Nat) (hN : 1 ≤ N) (hM : 1 ≤ M)
    (ops₁ ops₂ : List Op) (h₁ : ∀ op ∈ ops₁, op.ok32) (h₂ : ∀ op ∈ ops₂, op.ok32) :
    ∃ s o s', runHigh N (ops₁ ++ [Op.clear]) = some s ∧ runHigh M ops₂ = some o ∧
      s.mergeSame o = some s' ∧
      content s' = Content.specHigh N (Content.specHigh M (exactContent ops₂)) := by
  obtain ⟨s, o, s', a1, a2, a3, _, _, _, a7⟩ :=
    high_merge_safe N M hN hM (ops₁ ++ [Op.clear]) ops₂ (ok32_append_clear h₁) h₂
  refine ⟨s, o, s', a1, a2, a3, ?_⟩
  rw [a7, exactContent_append_clear,
    Content.merge_nil_left _ (Content.wf_specHigh M _ (wf_exactContent ops₂ h₂))]

theorem high_mergeBins_safe (N : Nat) (hN : 1 ≤ N) (ops : List Op)
    (hops : ∀ op ∈ ops, op.ok32) (l : List (Int × Rat)) (hl : ∀ p ∈ l, 0 ≤ p.2)
    (hl32 : ∀ p ∈ l, minInt32 ≤ p.1 ∧ p.1 ≤ maxInt32) :
    ∃ s s', runHigh N ops = some s ∧ s.mergeBins l = some s' ∧ InvHigh N s' ∧
      content s' = Content.specHigh N ((exactContent ops).merge (Content.ofList l)) := by
  obtain ⟨s, hs, hinv, ht, hc⟩ := high_history growthOK N hN ops hops
  obtain ⟨s', h1, h2, _, h3⟩ := KRel.mergeBins growthOK (k := .high N) l hl hl32
    ⟨⟨hinv, ht⟩, wf_exactContent ops hops, hc⟩
  exact ⟨s, s', hs, h1, h2.1, h3.trans
    (congrArg _ (Content.merge_ofList _ l (wf_exactContent ops hops) hl).symm)⟩

/-! ### examples -/

/-- three adds into a lowest-collapsing store with 2 bins: index 1 and 3 end up on the edge 4 -/
example :
    ∃ s, runLow 2 [.add 1 1, .add 5 1, .add 3 1] = some s ∧
      s.binsList = some [(4, 2), (5, 1)] ∧ s.totalCount = 3 := by
  obtain ⟨s, h1, hinv, _, h3⟩ := low_history growthOK 2 (by omega) [.add 1 1, .add 5 1, .add 3 1]
    (by
      intro op hop
      simp only [List.mem_cons, List.not_mem_nil, or_false] at hop
      rcases hop with rfl | rfl | rfl <;> exact ⟨by decide, by decide, by decide⟩)
  have he : Content.specLow 2 (exactContent [.add 1 1, .add 5 1, .add 3 1]) = [(4, 2), (5, 1)] := by
    decide +kernel
  rw [he] at h3
  refine ⟨s, h1, by rw [hinv.core.content_spec.1, h3], ?_⟩
  rw [hinv.core.total, h3]
  decide +kernel

/-- the same history in a highest-collapsing store with 2 bins: 3 and 5 end up on the edge 2 -/
example :
    ∃ s, runHigh 2 [.add 1 1, .add 5 1, .add 3 1] = some s ∧
      s.binsList = some [(1, 1), (2, 2)] := by
  obtain ⟨s, h1, h2, h3⟩ := high_content_after_history 2 (by omega)
    [.add 1 1, .add 5 1, .add 3 1] (by
      intro op hop
      simp only [List.mem_cons, List.not_mem_nil, or_false] at hop
      rcases hop with rfl | rfl | rfl <;> exact ⟨by decide, by decide, by decide⟩)
  have he : Content.specHigh 2 (exactContent [.add 1 1, .add 5 1, .add 3 1]) = [(1, 1), (2, 2)] := by
    decide +kernel
  exact ⟨s, h1, by rw [h2, h3, he]⟩

/-- merging a store spanning 11 indexes into a FRESH lowest-collapsing store with 3 bins
    (this panicked before the repair): safe, everything below 8 is folded into 8 -/
example :
    ∃ s o s', runLow 3 [] = some s ∧ runLow 16 [.add 0 1, .add 4 2, .add 9 1, .add 10 1] = some o ∧
      s.mergeSame o = some s' ∧ content s' = [(8, 3), (9, 1), (10, 1)] := by
  obtain ⟨s, o, s', a1, a2, a3, _, _, _, a7⟩ := low_merge_safe 3 16 (by omega) (by omega) []
    [.add 0 1, .add 4 2, .add 9 1, .add 10 1] (fun _ h => nomatch h) (by
      intro op hop
      simp only [List.mem_cons, List.not_mem_nil, or_false] at hop
      rcases hop with rfl | rfl | rfl | rfl <;> exact ⟨by decide, by decide, by decide⟩)
  refine ⟨s, o, s', a1, a2, a3, ?_⟩
  rw [a7]
  decide +kernel

end DDS.Props.C05
