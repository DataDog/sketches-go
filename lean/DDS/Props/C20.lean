/-
  DDS.Props.C20 — "The in-memory dataset helper computes exact order statistics".

  Statements about the Lean transcription `DDS.Dataset` (`DDS/Model/Dataset.lean`) of
  `dataset/dataset.go`, proved with the lemmas of `DDS.Proofs.Dataset`.

  * `ofList xs` is a fresh dataset after `Add(x)` for every `x` of `xs`, in order.
  * `Inv d`: `Count` is (exactly) the number of values and the private `sorted` flag is honest.
    Every dataset built through the API with at most `2^53` values satisfies it; beyond `2^53`
    additions `Count++` no longer changes `Count` (`count_sticks_at_2_53`).
  * `sortedVals l` is `l.mergeSort (· ≤ ·)`: what `sort.Float64s` leaves in the slice
    (values are finite floats, i.e. rationals; NaN values are outside the model).
  * A query returns the new state too, because `sort()` mutates the receiver.
  * `QRes.panic` models the Go run-time panic (index out of range); `QRes.nan` the documented NaN.
  * `⌊·⌋ / ⌈·⌉` are Mathlib's floor and ceiling on `ℚ` (definitionally core's `Rat.floor`; for the
    ceiling see `DDS.F64.rat_ceil_eq`).

  Statements that needed a correction with respect to the informal claim:
  * `sort_perm` needs the honest-flag hypothesis (`sort_perm_needs_honest_flag`).
  * the quantile theorems need `length ≤ 2^53` even under `Inv` (`inv_alone_does_not_prevent_panic`).
  * `Min()`/`Max()` of an empty dataset panic in Go (`min_max_empty_panic`).
  * `Sum()` depends on the insertion order (`sum_is_order_dependent`); every other answer does not.
  * the lower quantile is the element of rank `⌊fl(q·(n−1))⌋` where `fl` is the FLOAT product, which can
    be the next integer above the exact product: `lower_rank_can_round_up` (q = fl(1/3), n = 4).
-/
import DDS.Proofs.Dataset

namespace DDS.Props.C20

open DDS DDS.Dataset

/-! ### the vocabulary, restated -/

example (xs : List Rat) : ofList xs = xs.foldl Dataset.add Dataset.new := rfl

example (d : Dataset) : Inv d ↔
    (d.count = .fin (d.values.length : Rat) ∧ (d.sorted = true → d.values.Pairwise (· ≤ ·))) := Iff.rfl

example (l : List Rat) : sortedVals l = l.mergeSort (fun a b => decide (a ≤ b)) := rfl

example (a b : Dataset) : ObsEq a b ↔
    (a.values.Perm b.values ∧ a.count = b.count ∧
      (a.sorted = true → a.values.Pairwise (· ≤ ·)) ∧ (b.sorted = true → b.values.Pairwise (· ≤ ·))) :=
  Iff.rfl

def ex : Dataset := ofList [3, -1, 2, 2, 7]

theorem ex_values : ex.values = [3, -1, 2, 2, 7] := ofList_values _
theorem ex_inv : Inv ex := Dataset.inv_ofList _ (by decide)
theorem ex_len : ex.values.length = 5 := by rw [ex_values]; rfl
theorem ex_sorted : sortedVals ex.values = [-1, 2, 2, 3, 7] :=
  sortedVals_eq_of (by decide) (by rw [ex_values]; decide)

/-! ### the invariant -/

theorem inv_ofList (xs : List Rat) (h : xs.length ≤ 2 ^ 53) : Inv (ofList xs) :=
  Dataset.inv_ofList xs h

example : Inv (ofList [3, -1, 2, 2, 7]) := inv_ofList _ (by decide)

/-- every call of the API preserves the invariant (additions: as long as the length stays
    `≤ 2^53`) -/
theorem inv_preserved (d : Dataset) (h : Inv d) :
    (∀ v, d.values.length + 1 ≤ 2 ^ 53 → Inv (d.add v)) ∧
    Inv d.sort ∧
    (∀ q, Inv (d.lowerQuantile q).1) ∧
    (∀ q, Inv (d.upperQuantile q).1) ∧
    Inv d.min.1 ∧
    Inv d.max.1 ∧
    (∀ o : Dataset, d.values.length + o.values.length ≤ 2 ^ 53 → Inv (d.merge o)) :=
  ⟨fun v hv => inv_add h v hv, inv_sort h, inv_quantileBy _ h, inv_quantileBy _ h, inv_sort h,
    inv_sort h, fun o ho => inv_merge h o ho⟩

example : Inv (ex.add 4) ∧ Inv (ex.lowerQuantile (.fin (1/2))).1 ∧ Inv (ex.merge ex) := by
  obtain ⟨h1, _, h3, _, _, _, h7⟩ := inv_preserved ex ex_inv
  exact ⟨h1 4 (by rw [ex_len]; decide), h3 _, h7 ex (by rw [ex_len]; decide)⟩

/-- `Count++` stops counting at `2^53` (round to nearest even): `Inv` cannot be maintained by
    longer datasets -/
theorem count_sticks_at_2_53 :
    F64.add (.fin ((2 ^ 53 : Nat) : Rat)) F64.one = .fin ((2 ^ 53 : Nat) : Rat) := by
  decide +kernel

/-! ### sorting -/

/-- `sort()` permutes the values, leaves them ascending, and does not touch `Count` — provided
    the flag is honest (it is private in Go, so always) -/
theorem sort_perm (d : Dataset) (h : d.sorted = true → d.values.Pairwise (· ≤ ·)) :
    d.sort.values.Perm d.values ∧ d.sort.values.Pairwise (· ≤ ·) ∧ d.sort.count = d.count ∧
      d.sort.sorted = true :=
  ⟨sort_values_perm d, sort_values_pairwise d h, sort_count d, sort_sorted d⟩

/-- without any hypothesis: permutation and count -/
theorem sort_perm_unconditional (d : Dataset) :
    d.sort.values.Perm d.values ∧ d.sort.count = d.count ∧ d.sort.sorted = true :=
  ⟨sort_values_perm d, sort_count d, sort_sorted d⟩

/-- with a lying flag `sort()` does nothing: the hypothesis of `sort_perm` is needed -/
theorem sort_perm_needs_honest_flag :
    ∃ d : Dataset, ¬ d.sort.values.Pairwise (· ≤ ·) :=
  ⟨{ values := [2, 1], count := .fin 2, sorted := true }, by decide⟩

example : ex.sort.values.Perm ex.values ∧ ex.sort.values.Pairwise (· ≤ ·) ∧
    ex.sort.count = ex.count ∧ ex.sort.sorted = true :=
  sort_perm ex ex_inv.2

example : ex.sort.values = [-1, 2, 2, 3, 7] := by
  rw [sort_values_of_honest ex_inv.2, ex_sorted]

/-! ### quantiles -/

/-- the guard: NaN, negative, above one, or an empty dataset: the answer is NaN and the dataset
    is not touched (not even sorted) -/
theorem quantile_rejects (d : Dataset) (q : F64)
    (h : q.isNaN = true ∨ F64.lt q (.fin 0) = true ∨ F64.gt q (.fin 1) = true ∨
      F64.eq d.count (.fin 0) = true) :
    d.lowerQuantile q = (d, .nan) ∧ d.upperQuantile q = (d, .nan) := by
  have hrej : d.rejects q = true := by
    unfold rejects
    rcases h with h | h | h | h <;> simp [h]
  exact ⟨quantileBy_rejected _ d q hrej, quantileBy_rejected _ d q hrej⟩

/-- the empty dataset (under `Inv`) rejects every `q` -/
theorem quantile_rejects_empty (d : Dataset) (h : Inv d) (he : d.values = []) (q : F64) :
    d.lowerQuantile q = (d, .nan) ∧ d.upperQuantile q = (d, .nan) := by
  apply quantile_rejects
  right; right; right
  rw [h.1, he]; rfl

/-- conversely a finite `q ∈ [0,1]` on a non-empty dataset is never rejected -/
theorem quantile_accepts (d : Dataset) (h : Inv d) (hn : 0 < d.values.length) (q : Rat)
    (hq0 : 0 ≤ q) (hq1 : q ≤ 1) : d.rejects (.fin q) = false :=
  (rejects_fin d _ h.1 q).mpr ⟨hq0, hq1, hn⟩

/-- `LowerQuantile(q)` is the element of rank `k` of the ascending values where `k` is the floor
    or (when the float product rounds up to an integer) the ceiling of `q·(n−1)` -/
theorem lowerQuantile_spec (d : Dataset) (h : Inv d) (hn : 0 < d.values.length)
    (hlen : d.values.length ≤ 2 ^ 53) (q : Rat) (hq0 : 0 ≤ q) (hq1 : q ≤ 1) :
    ∃ k : Nat, k < d.values.length ∧
      (d.lowerQuantile (.fin q)).2 =
        .val ((d.values.mergeSort (fun a b => decide (a ≤ b)))[k]!) ∧
      ((k : Int) = ⌊q * ((d.values.length : Rat) - 1)⌋ ∨
       (k : Int) = ⌈q * ((d.values.length : Rat) - 1)⌉) := by
  obtain ⟨r, -, -, -, b1, b2, b3, c4, -, hl, -⟩ := quantile_core d h hn hlen q hq0 hq1 _ rfl
  refine ⟨⌊r⌋.toNat, (Int.toNat_le_toNat b2).trans_lt b3, by rw [hl]; rfl, ?_⟩
  rw [Int.toNat_of_nonneg b1]; exact c4

/-- the exact version: `k = ⌊fl⌋` where `fl = q ⊗ (n − 1)` is the float product, which lies between
    the neighbouring integers of the exact product -/
theorem lowerQuantile_spec_exact (d : Dataset) (h : Inv d) (hn : 0 < d.values.length)
    (hlen : d.values.length ≤ 2 ^ 53) (q : Rat) (hq0 : 0 ≤ q) (hq1 : q ≤ 1) :
    ∃ fl : Rat, F64.mul (.fin q) (.fin ((d.values.length : Rat) - 1)) = .fin fl ∧
      ((⌊q * ((d.values.length : Rat) - 1)⌋ : Int) : Rat) ≤ fl ∧
      fl ≤ ((⌈q * ((d.values.length : Rat) - 1)⌉ : Int) : Rat) ∧
      0 ≤ ⌊fl⌋ ∧ ⌊fl⌋.toNat < d.values.length ∧
      d.lowerQuantile (.fin q) =
        (d.sort, .val ((d.values.mergeSort (fun a b => decide (a ≤ b)))[⌊fl⌋.toNat]!)) := by
  obtain ⟨r, hr, h1, h2, b1, b2, b3, -, -, hl, -⟩ := quantile_core d h hn hlen q hq0 hq1 _ rfl
  rw [rank_eq_mul d _ h.1 hlen] at hr
  exact ⟨r, hr, h1, h2, b1, (Int.toNat_le_toNat b2).trans_lt b3, hl⟩

/-- when the product is representable there is no rounding: `k = ⌊q·(n−1)⌋` -/
theorem lowerQuantile_spec_of_rep (d : Dataset) (h : Inv d) (hn : 0 < d.values.length)
    (hlen : d.values.length ≤ 2 ^ 53) (q : Rat) (hq0 : 0 ≤ q) (hq1 : q ≤ 1)
    (hrep : F64.isRep (q * ((d.values.length : Rat) - 1)) = true) :
    (d.lowerQuantile (.fin q)).2 =
      .val ((d.values.mergeSort (fun a b => decide (a ≤ b)))[⌊q * ((d.values.length : Rat) - 1)⌋.toNat]!) := by
  obtain ⟨fl, hfl, _, _, _, _, hl⟩ := lowerQuantile_spec_exact d h hn hlen q hq0 hq1
  rw [F64.mul_exact _ _ hrep] at hfl
  rw [hl, ← F64.fin.inj hfl]

theorem upperQuantile_spec (d : Dataset) (h : Inv d) (hn : 0 < d.values.length)
    (hlen : d.values.length ≤ 2 ^ 53) (q : Rat) (hq0 : 0 ≤ q) (hq1 : q ≤ 1) :
    ∃ k : Nat, k < d.values.length ∧
      (d.upperQuantile (.fin q)).2 =
        .val ((d.values.mergeSort (fun a b => decide (a ≤ b)))[k]!) ∧
      ((k : Int) = ⌊q * ((d.values.length : Rat) - 1)⌋ ∨
       (k : Int) = ⌈q * ((d.values.length : Rat) - 1)⌉) := by
  obtain ⟨r, -, -, -, b1, b2, b3, -, c5, -, hu⟩ := quantile_core d h hn hlen q hq0 hq1 _ rfl
  refine ⟨⌈r⌉.toNat, b3, by rw [hu]; rfl, ?_⟩
  rw [Int.toNat_of_nonneg (b1.trans b2)]; exact c5

theorem upperQuantile_spec_exact (d : Dataset) (h : Inv d) (hn : 0 < d.values.length)
    (hlen : d.values.length ≤ 2 ^ 53) (q : Rat) (hq0 : 0 ≤ q) (hq1 : q ≤ 1) :
    ∃ fl : Rat, F64.mul (.fin q) (.fin ((d.values.length : Rat) - 1)) = .fin fl ∧
      ((⌊q * ((d.values.length : Rat) - 1)⌋ : Int) : Rat) ≤ fl ∧
      fl ≤ ((⌈q * ((d.values.length : Rat) - 1)⌉ : Int) : Rat) ∧
      0 ≤ ⌈fl⌉ ∧ ⌈fl⌉.toNat < d.values.length ∧
      d.upperQuantile (.fin q) =
        (d.sort, .val ((d.values.mergeSort (fun a b => decide (a ≤ b)))[⌈fl⌉.toNat]!)) := by
  obtain ⟨r, hr, h1, h2, b1, b2, b3, -, -, -, hu⟩ := quantile_core d h hn hlen q hq0 hq1 _ rfl
  rw [rank_eq_mul d _ h.1 hlen] at hr
  exact ⟨r, hr, h1, h2, b1.trans b2, b3, hu⟩

theorem upperQuantile_spec_of_rep (d : Dataset) (h : Inv d) (hn : 0 < d.values.length)
    (hlen : d.values.length ≤ 2 ^ 53) (q : Rat) (hq0 : 0 ≤ q) (hq1 : q ≤ 1)
    (hrep : F64.isRep (q * ((d.values.length : Rat) - 1)) = true) :
    (d.upperQuantile (.fin q)).2 =
      .val ((d.values.mergeSort (fun a b => decide (a ≤ b)))[⌈q * ((d.values.length : Rat) - 1)⌉.toNat]!) := by
  obtain ⟨fl, hfl, _, _, _, _, hl⟩ := upperQuantile_spec_exact d h hn hlen q hq0 hq1
  rw [F64.mul_exact _ _ hrep] at hfl
  rw [hl, ← F64.fin.inj hfl]

theorem lower_le_upper (d : Dataset) (h : Inv d) (hn : 0 < d.values.length)
    (hlen : d.values.length ≤ 2 ^ 53) (q : Rat) (hq0 : 0 ≤ q) (hq1 : q ≤ 1) :
    ∃ a b : Rat, (d.lowerQuantile (.fin q)).2 = .val a ∧ (d.upperQuantile (.fin q)).2 = .val b ∧
      a ≤ b := by
  obtain ⟨r, -, -, -, -, b2, b3, -, -, hl, hu⟩ := quantile_core d h hn hlen q hq0 hq1 _ rfl
  refine ⟨_, _, by rw [hl], by rw [hu], ?_⟩
  have hi : ⌊r⌋.toNat ≤ ⌈r⌉.toNat := Int.toNat_le_toNat b2
  have hj : ⌈r⌉.toNat < (sortedVals d.values).length := by rwa [sortedVals_length]
  rw [getElem!_pos (sortedVals d.values) ⌈r⌉.toNat hj,
    getElem!_pos (sortedVals d.values) ⌊r⌋.toNat (hi.trans_lt hj)]
  exact pairwise_getElem_le (sortedVals_pairwise _) hi hj

/-- no quantile query panics, whatever `q` is (NaN, ±∞, out of range, …) -/
theorem quantile_never_panics (d : Dataset) (h : Inv d) (hlen : d.values.length ≤ 2 ^ 53)
    (q : F64) : (d.lowerQuantile q).2 ≠ .panic ∧ (d.upperQuantile q).2 ≠ .panic := by
  cases hrej : d.rejects q with
  | true =>
    rw [lowerQuantile_by, upperQuantile_by, quantileBy_rejected _ d q hrej,
      quantileBy_rejected _ d q hrej]
    exact ⟨nofun, nofun⟩
  | false =>
    cases q with
    | fin r =>
      obtain ⟨hq0, hq1, hn⟩ := (rejects_fin d _ h.1 r).mp hrej
      obtain ⟨_, -, -, -, -, -, -, -, -, hl, hu⟩ := quantile_core d h hn hlen r hq0 hq1 _ rfl
      rw [hl, hu]
      exact ⟨nofun, nofun⟩
    | _ => cases hrej

/-- a rank equal to the length indexes one past the end -/
theorem panic_of_rank_eq_length (l : List Rat) (c : F64) (N : Nat) (hl : l.length = N)
    (hrej : Dataset.rejects (Dataset.mk l c true) (.fin 1) = false)
    (hr : Dataset.rank (Dataset.mk l c true) (.fin 1) = .fin (N : Rat)) :
    (Dataset.lowerQuantile (Dataset.mk l c true) (.fin 1)).2 = .panic := by
  rw [lowerQuantile_by, quantileBy_of_rank _ _ _ _ hrej hr, sort_of_sorted rfl]
  have : at? l ((N : Rat)).floor = none := by
    unfold at?
    rw [F64.floor_natCast, if_pos (by omega), Int.toNat_natCast, List.getElem?_eq_none (by omega)]
  simp only [this]

/-- `Inv` alone (without the length bound) does not exclude the panic: with `2^53 + 4` values the
    float `Count − 1` rounds up to `Count` and `q = 1` indexes one past the end -/
theorem inv_alone_does_not_prevent_panic :
    ∃ d : Dataset, Inv d ∧ (d.lowerQuantile (.fin 1)).2 = .panic := by
  refine ⟨Dataset.mk (List.replicate (2 ^ 53 + 4) 0) (.fin ((2 ^ 53 + 4 : Nat) : Rat)) true, ⟨?_, ?_⟩, ?_⟩
  · show F64.fin _ = F64.fin _
    rw [List.length_replicate]
  · intro _
    show List.Pairwise _ (List.replicate _ _)
    rw [List.pairwise_replicate]; right; exact le_refl _
  · apply panic_of_rank_eq_length _ _ (2 ^ 53 + 4) List.length_replicate
    · unfold Dataset.rejects; decide +kernel
    · unfold Dataset.rank; decide +kernel

/-! #### on the example -/

example : ∃ k : Nat, k < ex.values.length ∧
    (ex.lowerQuantile (.fin (1/2))).2 =
      .val ((ex.values.mergeSort (fun a b => decide (a ≤ b)))[k]!) ∧
    ((k : Int) = ⌊(1/2 : Rat) * ((ex.values.length : Rat) - 1)⌋ ∨
     (k : Int) = ⌈(1/2 : Rat) * ((ex.values.length : Rat) - 1)⌉) :=
  lowerQuantile_spec ex ex_inv (by rw [ex_len]; decide) (by rw [ex_len]; decide) _
    (by norm_num) (by norm_num)

example : ∃ k : Nat, k < ex.values.length ∧
    (ex.upperQuantile (.fin (3/10))).2 =
      .val ((ex.values.mergeSort (fun a b => decide (a ≤ b)))[k]!) ∧
    ((k : Int) = ⌊(3/10 : Rat) * ((ex.values.length : Rat) - 1)⌋ ∨
     (k : Int) = ⌈(3/10 : Rat) * ((ex.values.length : Rat) - 1)⌉) :=
  upperQuantile_spec ex ex_inv (by rw [ex_len]; decide) (by rw [ex_len]; decide) _
    (by norm_num) (by norm_num)

example : ∃ a b : Rat, (ex.lowerQuantile (.fin (3/10))).2 = .val a ∧
    (ex.upperQuantile (.fin (3/10))).2 = .val b ∧ a ≤ b :=
  lower_le_upper ex ex_inv (by rw [ex_len]; decide) (by rw [ex_len]; decide) _
    (by norm_num) (by norm_num)

example (q : F64) : (ex.lowerQuantile q).2 ≠ .panic ∧ (ex.upperQuantile q).2 ≠ .panic :=
  quantile_never_panics ex ex_inv (by rw [ex_len]; decide) q

example : ex.lowerQuantile .nan = (ex, .nan) ∧ ex.upperQuantile .nan = (ex, .nan) :=
  quantile_rejects ex .nan (Or.inl rfl)

example : ex.lowerQuantile (.fin (-1/10)) = (ex, .nan) :=
  (quantile_rejects ex _ (Or.inr (Or.inl (by decide +kernel)))).1

example : ex.upperQuantile .pinf = (ex, .nan) :=
  (quantile_rejects ex _ (Or.inr (Or.inr (Or.inl (by decide +kernel))))).2

/-- concrete values: ranks 0.5·4 = 2 and 0.3·4 = 1.2 (float 1.2000000000000002) -/
example : (ex.lowerQuantile (.fin (1/2))).2 = .val 2 := by
  rw [lowerQuantile_by]
  exact quantileBy_eval Rat.floor ex ex_inv.2 _ ex_sorted _ 2 2
    (by decide +kernel) (by decide +kernel) (by decide +kernel)

example : (ex.upperQuantile (.fin 1)).2 = .val 7 := by
  rw [upperQuantile_by]
  exact quantileBy_eval Rat.ceil ex ex_inv.2 _ ex_sorted _ 4 7
    (by decide +kernel) (by decide +kernel) (by decide +kernel)

example : (ex.lowerQuantile (.fin 0)).2 = .val (-1) := by
  rw [lowerQuantile_by]
  exact quantileBy_eval Rat.floor ex ex_inv.2 _ ex_sorted _ 0 (-1)
    (by decide +kernel) (by decide +kernel) (by decide +kernel)

/-- The disjunct "or the ceiling" of `lowerQuantile_spec` is needed: for `q = fl(1/3)` (the double
    nearest to 1/3, slightly below it) and four values, the exact product `3q = 1 − 2⁻⁵⁴` has floor 0
    but the float product is exactly 1, so `LowerQuantile` returns the SECOND smallest value. -/
theorem lower_rank_can_round_up :
    let q : Rat := 6004799503160661 / 18014398509481984
    let d := ofList [3, -1, 2, 7]
    F64.isRep q = true ∧ ⌊q * ((d.values.length : Rat) - 1)⌋ = 0 ∧
      d.rank (.fin q) = .fin 1 ∧ (d.lowerQuantile (.fin q)).2 = .val 2 := by
  intro q d
  have hv : d.values = [3, -1, 2, 7] := ofList_values _
  have hinv : Inv d := Dataset.inv_ofList _ (by decide)
  refine ⟨by decide +kernel, by rw [hv]; decide +kernel, by decide +kernel, ?_⟩
  rw [lowerQuantile_by]
  exact quantileBy_eval Rat.floor d hinv.2 [-1, 2, 3, 7]
    (sortedVals_eq_of (by decide) (by rw [hv]; decide)) _ 1 2
    (by decide +kernel) (by decide +kernel) (by decide +kernel)

/-! ### minimum, maximum, count -/

theorem min_spec (d : Dataset) (h : Inv d) (hn : 0 < d.values.length) :
    ∃ m, d.min.2 = .val m ∧ m ∈ d.values ∧ ∀ x ∈ d.values, m ≤ x := by
  obtain ⟨m, h1, h2, h3⟩ := min_core d h.2 hn
  exact ⟨m, by rw [h1], h2, h3⟩

theorem max_spec (d : Dataset) (h : Inv d) (hn : 0 < d.values.length) :
    ∃ m, d.max.2 = .val m ∧ m ∈ d.values ∧ ∀ x ∈ d.values, x ≤ m := by
  obtain ⟨m, h1, h2, h3⟩ := max_core d h.2 hn
  exact ⟨m, by rw [h1], h2, h3⟩

/-- `Min()` / `Max()` of an empty dataset: index out of range in Go -/
theorem min_max_empty_panic (d : Dataset) (he : d.values = []) :
    d.min.2 = .panic ∧ d.max.2 = .panic := ⟨min_empty d he, max_empty d he⟩

example : ∃ m, ex.min.2 = .val m ∧ m ∈ ex.values ∧ ∀ x ∈ ex.values, m ≤ x :=
  min_spec ex ex_inv (by rw [ex_len]; decide)

example : ∃ m, ex.max.2 = .val m ∧ m ∈ ex.values ∧ ∀ x ∈ ex.values, x ≤ m :=
  max_spec ex ex_inv (by rw [ex_len]; decide)

example : ex.min.2 = .val (-1) ∧ ex.max.2 = .val 7 := by
  rw [min_eq, max_eq, sort_values_of_honest ex_inv.2, ex_sorted]; exact ⟨rfl, rfl⟩

theorem count_spec (xs : List Rat) (h : xs.length ≤ 2 ^ 53) :
    (ofList xs).count = .fin (xs.length : Rat) ∧ (ofList xs).values = xs := by
  refine ⟨?_, ofList_values xs⟩
  have := (Dataset.inv_ofList xs h).1
  rwa [ofList_values] at this

example : ex.count = .fin 5 ∧ ex.values = [3, -1, 2, 2, 7] := by
  have := count_spec [3, -1, 2, 2, 7] (by decide)
  simpa [ex] using this

/-! ### merging -/

theorem merge_eq_adds (d o : Dataset) :
    d.merge o = o.values.foldl Dataset.add d ∧
    (d.merge o).values = d.values ++ o.values ∧
    (d.merge d).values = d.values ++ d.values ∧
    (Inv d → 2 * d.values.length ≤ 2 ^ 53 →
      (d.merge d).count = .fin ((2 * d.values.length : Nat) : Rat)) := by
  refine ⟨rfl, merge_values d o, merge_values d d, ?_⟩
  intro h hlen
  rw [(inv_merge h d (Nat.two_mul _ ▸ hlen)).1, merge_values, List.length_append, Nat.two_mul]

example : (ex.merge ex).values = [3, -1, 2, 2, 7, 3, -1, 2, 2, 7] ∧ (ex.merge ex).count = .fin 10 := by
  obtain ⟨_, _, h3, h4⟩ := merge_eq_adds ex ex
  refine ⟨by rw [h3, ex_values]; rfl, ?_⟩
  rw [h4 ex_inv (by rw [ex_len]; decide), ex_len]; norm_num

/-! ### order independence -/

/-- the answers depend on the multiset of added values only (any length: no `2^53` bound) -/
theorem order_independent (xs ys : List Rat) (h : xs.Perm ys) (q : F64) :
    ((ofList xs).lowerQuantile q).2 = ((ofList ys).lowerQuantile q).2 ∧
    ((ofList xs).upperQuantile q).2 = ((ofList ys).upperQuantile q).2 ∧
    (ofList xs).min.2 = (ofList ys).min.2 ∧
    (ofList xs).max.2 = (ofList ys).max.2 ∧
    (ofList xs).count = (ofList ys).count := by
  have ho := obsEq_ofList h
  exact ⟨(ho.lower q).1, (ho.upper q).1, ho.min.1, ho.max.1, ho.2.1⟩

/-- … and so do the answers to every later sequence of calls -/
theorem order_independent_run (xs ys : List Rat) (h : xs.Perm ys) (ops : List Op) :
    (run (ofList xs) ops).2 = (run (ofList ys) ops).2 :=
  ((obsEq_ofList h).run ops).1

/-- the reason: the ascending arrangement of a permutation is the same list -/
theorem mergeSort_perm_eq (xs ys : List Rat) (h : xs.Perm ys) :
    xs.mergeSort (fun a b => decide (a ≤ b)) = ys.mergeSort (fun a b => decide (a ≤ b)) :=
  sortedVals_congr h

example (q : F64) :
    (ex.lowerQuantile q).2 = ((ofList [7, 2, 3, 2, -1]).lowerQuantile q).2 :=
  (order_independent [3, -1, 2, 2, 7] [7, 2, 3, 2, -1] (by decide) q).1

/-- `Sum()` is NOT covered by `order_independent`: it is a (Kahan-compensated) float fold in insertion
    order, and the compensation does not always recover a lost unit -/
theorem sum_is_order_dependent :
    (ofList [2 ^ 54, 1, -2 ^ 54]).sum = .fin 0 ∧ (ofList [2 ^ 54, -2 ^ 54, 1]).sum = .fin 1 ∧
      List.Perm [(2 : Rat) ^ 54, 1, -2 ^ 54] [2 ^ 54, -2 ^ 54, 1] := by
  refine ⟨?_, ?_, by decide +kernel⟩
  · decide +kernel
  · decide +kernel

/-! ### queries are invisible -/

/-- a query leaves an observationally equal dataset behind -/
theorem query_invisible (d : Dataset) (h : Inv d) (q : F64) :
    ObsEq (d.lowerQuantile q).1 d ∧ ObsEq (d.upperQuantile q).1 d ∧ ObsEq d.min.1 d ∧
      ObsEq d.max.1 d :=
  ⟨obsEq_quantileBy _ h.2 q, obsEq_quantileBy _ h.2 q, ObsEq.sort_left h.2, ObsEq.sort_left h.2⟩

/-- observationally equal datasets answer every sequence of later calls (`Op`: add, lower, upper,
    min, max, merge) identically -/
theorem obsEq_same_answers (a b : Dataset) (h : ObsEq a b) (ops : List Op) :
    (run a ops).2 = (run b ops).2 := (h.run ops).1

/-- querying before an addition changes nothing that can be observed later (no hypothesis on `d`
    is needed: `Add` resets the flag) -/
theorem query_then_add (d : Dataset) (q : F64) (v : Rat) :
    ((d.lowerQuantile q).1.add v).values.Perm (d.add v).values ∧
    ((d.lowerQuantile q).1.add v).count = (d.add v).count ∧
    (∀ ops : List Op, (run ((d.lowerQuantile q).1.add v) ops).2 = (run (d.add v) ops).2) ∧
    (∀ q', (((d.lowerQuantile q).1.add v).lowerQuantile q').2 = ((d.add v).lowerQuantile q').2 ∧
           (((d.lowerQuantile q).1.add v).upperQuantile q').2 = ((d.add v).upperQuantile q').2) ∧
    ((d.lowerQuantile q).1.add v).min.2 = (d.add v).min.2 ∧
    ((d.lowerQuantile q).1.add v).max.2 = (d.add v).max.2 := by
  have ho := obsEq_add_of_query v (quantileBy_fst_cases Rat.floor d q)
  exact ⟨ho.1, ho.2.1, fun ops => (ho.run ops).1, fun q' => ⟨(ho.lower q').1, (ho.upper q').1⟩,
    ho.min.1, ho.max.1⟩

/-- the same for the other queries -/
theorem query_then_add' (d : Dataset) (q : F64) (v : Rat) (ops : List Op) :
    (run ((d.upperQuantile q).1.add v) ops).2 = (run (d.add v) ops).2 ∧
    (run (d.min.1.add v) ops).2 = (run (d.add v) ops).2 ∧
    (run (d.max.1.add v) ops).2 = (run (d.add v) ops).2 :=
  ⟨((obsEq_add_of_query v (quantileBy_fst_cases Rat.ceil d q)).run ops).1,
    ((obsEq_add_of_query v (.inr rfl)).run ops).1, ((obsEq_add_of_query v (.inr rfl)).run ops).1⟩

example (q' : F64) :
    (((ex.lowerQuantile (.fin (1/2))).1.add 4).lowerQuantile q').2 = ((ex.add 4).lowerQuantile q').2 :=
  ((query_then_add ex _ 4).2.2.2.1 q').1

end DDS.Props.C20
