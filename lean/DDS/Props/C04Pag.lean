/-
  DDS.Props.C04Pag — property C04 for the buffered paginated store:
  "non-collapsing stores behave as exact index→count maps".

  `PStore.content s` (the merged iteration `binsList`) is canonical (`PStore.content_wf`) and holds
  pointwise the weights `wt` (`lookup_content`).  After ANY history of operations
  (adds with arbitrary compaction bits, clears, reweightings, buffer-sorting reads, same-kind and
  fallback merges) started from `PStore.new`, with int32 indexes and non-negative weights, the
  model never panics, keeps `PStore.Inv`, and every observer (`totalCount`, `isEmpty`, `minIndex?`,
  `maxIndex?`, `binsList`, `keyAtRank`) equals the observer of the spec `Content` accumulated by
  the same operations.
-/
import DDS.Proofs.Paginated

namespace DDS.Props.C04Pag

open DDS DDS.PStore

/-! ### the content holds the weights, gives every observer, and is the only canonical content that does -/

theorem lookup_content (s : PStore) (h : Inv s) (j : Int) : (content s).lookup j = wt s j :=
  PStore.lookup_content s h j

/-- all observers of a store satisfying the invariant are those of its abstract content -/
theorem observers_eq (s : PStore) (h : Inv s) :
    s.binsList = content s ∧ s.totalCount = (content s).total ∧
    s.isEmpty = (content s).isEmpty ∧ s.minIndex? = (content s).minIndex? ∧
    s.maxIndex? = (content s).maxIndex? ∧ ∀ r, s.keyAtRank r = (content s).keyAtRank r :=
  ⟨rfl, totalCount_eq s h, isEmpty_eq s h, minIndex?_eq s h, maxIndex?_eq s h, keyAtRank_spec s h⟩

theorem content_unique (s : PStore) (h : Inv s) (c : Content) (hc : c.WF)
    (hl : ∀ j, wt s j = c.lookup j) : content s = c := content_eq_of_lookup s h c hc hl

/-! ### single operations at content level

  `PStore.add_content`, `addUnit_content`, `compact_content`, `clear_content`, `reweight_content`,
  `mergeBins_content`, `sortRead_content` in `DDS.Proofs.Paginated`; the same-kind merge: -/

theorem mergeSame_content (s o : PStore) (hs : Inv s) (ho : Inv o) :
    ∃ s', s.mergeSame o = some s' ∧ Inv s' ∧ content s' = (content s).merge (content o) :=
  PStore.mergeSame_content s o hs ho

/-! ### histories (`PStore.Op`: add with compaction bit / clear / reweight / sorting read) -/

/-- every admissible history succeeds, keeps the invariant, and the store's content is the spec
    content accumulated by the same operations -/
theorem history_content (ops : List Op) (hops : ∀ op ∈ ops, op.ok) :
    ∃ s, run PStore.new ops = some s ∧ Inv s ∧ content s = specRun [] ops := by
  obtain ⟨s, h1, h2, h3⟩ := run_content ops hops PStore.new inv_new
  exact ⟨s, h1, h2, content_new ▸ h3⟩

/-- C04 for the paginated store: after any history all observers are those of the exact map -/
theorem history_observers (ops : List Op) (hops : ∀ op ∈ ops, op.ok) :
    ∃ s, run PStore.new ops = some s ∧ Inv s ∧
      s.binsList = specRun [] ops ∧
      s.totalCount = (specRun [] ops).total ∧
      s.isEmpty = (specRun [] ops).isEmpty ∧
      s.minIndex? = (specRun [] ops).minIndex? ∧
      s.maxIndex? = (specRun [] ops).maxIndex? ∧
      ∀ r, s.keyAtRank r = (specRun [] ops).keyAtRank r := by
  obtain ⟨s, h1, h2, h3⟩ := history_content ops hops
  obtain ⟨o1, o2, o3, o4, o5, o6⟩ := observers_eq s h2
  rw [h3] at o1 o2 o3 o4 o5 o6
  exact ⟨s, h1, h2, o1, o2, o3, o4, o5, o6⟩

/-- add-only histories: the content is `Content.ofList` of the added bins, whatever the
    compaction schedule -/
theorem adds_content (adds : List (Int × Rat × Bool)) (h : ∀ a ∈ adds, Idx32 a.1 ∧ 0 ≤ a.2.1) :
    ∃ s, run PStore.new (adds.map fun a => Op.add a.1 a.2.1 a.2.2) = some s ∧ Inv s ∧
      content s = Content.ofList (adds.map fun a => (a.1, a.2.1)) := by
  obtain ⟨s, h1, h2, h3⟩ := history_content (adds.map fun a => Op.add a.1 a.2.1 a.2.2) (by
    intro op hop
    obtain ⟨a, ha, rfl⟩ := List.mem_map.1 hop
    exact h a ha)
  refine ⟨s, h1, h2, ?_⟩
  rw [h3]
  unfold specRun Content.ofList
  rw [List.foldl_map, List.foldl_map]
  rfl

/-- the result does not depend on the allocator: two runs of the same operations with different
    compaction bits end in stores with the same content (hence the same observers) -/
theorem compaction_schedule_irrelevant (adds : List (Int × Rat)) (bits₁ bits₂ : List Bool)
    (hlen₁ : bits₁.length = adds.length) (hlen₂ : bits₂.length = adds.length)
    (h : ∀ a ∈ adds, Idx32 a.1 ∧ 0 ≤ a.2) :
    ∃ s₁ s₂,
      run PStore.new ((adds.zip bits₁).map fun a => Op.add a.1.1 a.1.2 a.2) = some s₁ ∧
      run PStore.new ((adds.zip bits₂).map fun a => Op.add a.1.1 a.1.2 a.2) = some s₂ ∧
      content s₁ = content s₂ := by
  have key : ∀ bits : List Bool, bits.length = adds.length →
      ∃ s, run PStore.new ((adds.zip bits).map fun a => Op.add a.1.1 a.1.2 a.2) = some s ∧
        content s = Content.ofList adds := by
    intro bits hlen
    obtain ⟨s, h1, _, h3⟩ := history_content ((adds.zip bits).map fun a => Op.add a.1.1 a.1.2 a.2) (by
      intro op hop
      obtain ⟨a, ha, rfl⟩ := List.mem_map.1 hop
      exact h a.1 (List.of_mem_zip ha).1)
    refine ⟨s, h1, ?_⟩
    rw [h3]
    unfold specRun Content.ofList
    rw [List.foldl_map]
    have : adds = (adds.zip bits).map Prod.fst := by
      rw [List.map_fst_zip]; omega
    conv => rhs; rw [this, List.foldl_map]
    rfl
  obtain ⟨s₁, h1, c1⟩ := key bits₁ hlen₁
  obtain ⟨s₂, h2, c2⟩ := key bits₂ hlen₂
  exact ⟨s₁, s₂, h1, h2, c1.trans c2.symm⟩

/-! ### histories with merges -/

/-- operations including merges: the argument of a same-kind merge is itself the result of a
    history; a fallback merge receives the bins of any other store -/
inductive HOp where
  | base (op : Op)
  | mergeSame (other : List Op)
  | mergeBins (l : List (Int × Rat))

def HOp.ok : HOp → Prop
  | .base op => op.ok
  | .mergeSame other => ∀ op ∈ other, op.ok
  | .mergeBins l => ∀ p ∈ l, Idx32 p.1 ∧ 0 ≤ p.2

def hstep (s : PStore) : HOp → Option PStore
  | .base op => step s op
  | .mergeSame other => do
    let o ← run PStore.new other
    s.mergeSame o
  | .mergeBins l => s.mergeBins l

def hrun (s : PStore) (ops : List HOp) : Option PStore := ops.foldlM hstep s

def specHStep (c : Content) : HOp → Content
  | .base op => specStep c op
  | .mergeSame other => c.merge (specRun [] other)
  | .mergeBins l => c.merge l

def specHRun (c : Content) (ops : List HOp) : Content := ops.foldl specHStep c

theorem hstep_ok (s : PStore) (h : Inv s) (op : HOp) (hop : op.ok) :
    ∃ s', hstep s op = some s' ∧ Inv s' ∧ content s' = specHStep (content s) op := by
  cases op with
  | base op => exact step_content s h op hop
  | mergeSame other =>
    obtain ⟨o, ho1, ho2, ho3⟩ := history_content other hop
    obtain ⟨s', h1, h2, h3⟩ := mergeSame_content s o h ho2
    refine ⟨s', ?_, h2, ?_⟩
    · simp only [hstep, ho1, Option.bind_eq_bind, Option.bind_some]; exact h1
    · rw [h3, ho3]; rfl
  | mergeBins l => exact mergeBins_content s h l hop

theorem hrun_ok_from (ops : List HOp) (hops : ∀ op ∈ ops, op.ok) (s : PStore) (h : Inv s) :
    ∃ s', hrun s ops = some s' ∧ Inv s' ∧ content s' = specHRun (content s) ops :=
  foldlM_sim (R := fun s c => Inv s ∧ content s = c) ops
    (fun op hop s _ ⟨h, hc⟩ => hc ▸ hstep_ok s h op (hops op hop)) ⟨h, rfl⟩

/-- C04 with merges: every history over adds (any compaction bits), clears, reweightings,
    sorting reads, same-kind merges and fallback merges succeeds from `PStore.new`, and all
    observers equal those of the spec content accumulated by the same operations -/
theorem hhistory_observers (ops : List HOp) (hops : ∀ op ∈ ops, op.ok) :
    ∃ s, hrun PStore.new ops = some s ∧ Inv s ∧
      s.binsList = specHRun [] ops ∧
      s.totalCount = (specHRun [] ops).total ∧
      s.isEmpty = (specHRun [] ops).isEmpty ∧
      s.minIndex? = (specHRun [] ops).minIndex? ∧
      s.maxIndex? = (specHRun [] ops).maxIndex? ∧
      ∀ r, s.keyAtRank r = (specHRun [] ops).keyAtRank r := by
  obtain ⟨s, h1, h2, h3⟩ := hrun_ok_from ops hops PStore.new inv_new
  rw [content_new] at h3
  obtain ⟨o1, o2, o3, o4, o5, o6⟩ := observers_eq s h2
  rw [h3] at o1 o2 o3 o4 o5 o6
  exact ⟨s, h1, h2, o1, o2, o3, o4, o5, o6⟩

/-- a cleared store behaves like a new one: same (empty) content, and by `hrun_ok_from` every
    later history yields the content a fresh store would hold -/
theorem clear_like_new (s : PStore) (h : Inv s) (ops : List HOp) (hops : ∀ op ∈ ops, op.ok) :
    ∃ s₁ s₂, hrun s.clear ops = some s₁ ∧ hrun PStore.new ops = some s₂ ∧
      content s₁ = content s₂ := by
  obtain ⟨hI, hc⟩ := clear_content s h
  obtain ⟨s₁, h1, _, c1⟩ := hrun_ok_from ops hops s.clear hI
  obtain ⟨s₂, h2, _, c2⟩ := hrun_ok_from ops hops PStore.new inv_new
  rw [hc] at c1; rw [content_new] at c2
  exact ⟨s₁, s₂, h1, h2, c1.trans c2.symm⟩

end DDS.Props.C04Pag
