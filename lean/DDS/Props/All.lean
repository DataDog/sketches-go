/- the `Cxx` property modules about the hand-written model, imported together (name clashes between
   modules would surface here); `Props/NonVacuity` audits their hypotheses on top of this.
   `Props/Lift`, `Lift2`, `Lift3` and `C12x` are not among them: the root `DDS.lean` imports those. -/
import DDS.Props.C01
import DDS.Props.C02
import DDS.Props.C03
import DDS.Props.C04Pag
import DDS.Props.C05
import DDS.Props.C11
import DDS.Props.C12
import DDS.Props.C13
import DDS.Props.C13Stat
import DDS.Props.C14
import DDS.Props.C15
import DDS.Props.C16
import DDS.Props.C18
import DDS.Props.C18Bits
import DDS.Props.C10
import DDS.Props.C10Self
import DDS.Props.C20
import DDS.Props.C07
import DDS.Props.C08
import DDS.Props.C17
import DDS.Props.C17Sketch
import DDS.Props.C06
import DDS.Props.C09
import DDS.Props.C19
import DDS.Proofs.Growth
