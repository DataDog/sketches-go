/-
  DDS.Props.C07 — the documented binary format (`ddsketch/encoding/flag.go`) is self-delimiting,
  and the decoder written from the documentation (`Wire.parseBlocks`) inverts the encoder
  (`Wire.encBlocks`); the transcribed decoder loop (`Sketch.decodeLoop`, from
  `ddsketch.go: decodeAndMergeWith` + `store.go: DecodeAndMergeWith`) does to a sketch exactly what
  the documentation says each block means.

  Proofs are in `DDS.Proofs.WireFormat` (the format) and `DDS.Proofs.Wire` (the transcribed decoder).
  Vocabulary defined there:
  * `Block.WF` — what an encoder can produce: every 64-bit payload `< 2^64`, mapping sub-flag `≤ 4`,
    list lengths `< 2^64`, every delta / start / stride in the int64 range (`I64`).
  * `Wire.allFlags` = `featureFlags ++ mappingFlags ++ binFlags` — the 5 + 5 + 2×3 (type, sub-flag)
    pairs the format defines, built from the GENERATED constants `Consts.*`;
    `Wire.definedFlagBytes` their `mkFlag` bytes.
  * `Wire.zeroIncrements bs` — the zero-count increments of a block list, in stream order.
  * `Sketch.applyBlock / applyBlocks` — "the obvious fold": what the documentation says a block does
    to the receiving sketch (`none` = a store panics or a bin weight is not a finite float).
  * `Sketch.addBins st l` — add `(index, weight)` pairs to a store with `Sketch.addF`, in order.

  Nothing about the flag constants is assumed: every fact is obtained by unfolding the generated
  definitions, so a change of the Go constants re-checks (or breaks) these proofs.
-/
import DDS.Proofs.Wire
import DDS.Proofs.SketchDefs

namespace DDS.Props.C07

open DDS DDS.Codec DDS.Wire

/-! ### flag bytes -/

/-- the 16 defined flag bytes are pairwise distinct, each is a byte, and
    `flagType` / `flagSub` recover the (type, sub-flag) pair -/
theorem flags_distinct :
    definedFlagBytes.Nodup ∧ definedFlagBytes.length = 16 ∧
    ∀ p ∈ allFlags, mkFlag p.1 p.2 < 256 ∧ flagType (mkFlag p.1 p.2) = p.1 ∧
      flagSub (mkFlag p.1 p.2) = p.2 :=
  Wire.flags_distinct

example : definedFlagBytes = [4, 160, 132, 136, 140, 2, 6, 10, 14, 18, 5, 9, 13, 7, 11, 15] := by
  decide
-- the generated `typeOfFlag*` constants (computed by the Go code from its own flags) agree
example : Consts.typeOfFlagZeroCountVarFloat = Consts.flagTypeSketchFeatures ∧
    Consts.typeOfFlagCount = Consts.flagTypeSketchFeatures ∧
    Consts.typeOfFlagSum = Consts.flagTypeSketchFeatures ∧
    Consts.typeOfFlagMin = Consts.flagTypeSketchFeatures ∧
    Consts.typeOfFlagMax = Consts.flagTypeSketchFeatures ∧
    Consts.typeOfFlagIndexMappingBaseLogarithmic = Consts.flagTypeIndexMapping ∧
    Consts.typeOfFlagIndexMappingBaseLinear = Consts.flagTypeIndexMapping ∧
    Consts.typeOfFlagIndexMappingBaseQuadratic = Consts.flagTypeIndexMapping ∧
    Consts.typeOfFlagIndexMappingBaseCubic = Consts.flagTypeIndexMapping ∧
    Consts.typeOfFlagIndexMappingBaseQuartic = Consts.flagTypeIndexMapping := by decide

theorem flag_fields (t s : Nat) (ht : t < 2 ^ Consts.numBitsForType) :
    flagType (mkFlag t s) = t ∧ flagSub (mkFlag t s) = s :=
  Wire.flag_mk t s ht

theorem flag_of_fields (f : Nat) : mkFlag (flagType f) (flagSub f) = f :=
  Wire.mkFlag_type_sub f

/-! ### the documentation decoder inverts the encoder; blocks are self-delimiting -/

theorem parseBlock_encBlock (b : Block) (hb : b.WF) (rest : Bytes) :
    Wire.parseBlock (Wire.encBlock b ++ rest) = .ok (b, rest) :=
  Wire.parseBlock_encBlock b hb rest

example : Wire.parseBlock (Wire.encBlock (.bins .neg (.deltasCounts [(-7, 0x4000000000000000)])) ++ [1, 2])
    = .ok (.bins .neg (.deltasCounts [(-7, 0x4000000000000000)]), [1, 2]) :=
  parseBlock_encBlock _ (by decide) _
example : Wire.encBlock (.bins .neg (.deltasCounts [(-7, 0x4000000000000000)])) = [7, 1, 13, 2] := by
  decide

theorem parseBlocks_encBlocks (bs : List Block) (h : ∀ b ∈ bs, b.WF) :
    Wire.parseBlocks (Wire.encBlocks bs) = .ok bs :=
  Wire.parseBlocks_encBlocks bs h

example : Wire.parseBlocks (Wire.encBlocks
      [.mapping 0 0x3ff051eb851eb852 0, .zeroCount 0x4008000000000000,
       .bins .pos (.contiguous (-3) 1 [0x4000000000000000, 0x3ff0000000000000])])
    = .ok [.mapping 0 0x3ff051eb851eb852 0, .zeroCount 0x4008000000000000,
       .bins .pos (.contiguous (-3) 1 [0x4000000000000000, 0x3ff0000000000000])] :=
  parseBlocks_encBlocks _ (by decide)

theorem encBlock_bytes (b : Block) (hb : b.WF) : ∀ x ∈ Wire.encBlock b, x < 256 :=
  Wire.encBlock_bytes b hb

-- the hypothesis is needed: a mapping sub-flag `≥ 64` does not fit the flag byte
example : ¬ ∀ x ∈ Wire.encBlock (.mapping 64 0 0), x < 256 := by decide

theorem encBlock_nonempty (b : Block) : 1 ≤ (Wire.encBlock b).length :=
  Wire.encBlock_length_pos b

theorem encBlocks_length_ge (bs : List Block) : bs.length ≤ (Wire.encBlocks bs).length :=
  Wire.encBlocks_length_ge bs

theorem encBlocks_append (a b : List Block) :
    Wire.encBlocks (a ++ b) = Wire.encBlocks a ++ Wire.encBlocks b :=
  Wire.encBlocks_append a b

/-! ### concatenation of encodings = merge of the documented contents -/

/-- `interp (a ++ b)` is the componentwise combination of `interp a` and `interp b`: lists are
    appended; the zero count continues `interp a`'s with `b`'s increments, added with `F64.add` in
    stream order (float addition is not associative, so this cannot be stated as one `F64.add`) -/
theorem interp_append (a b : List Block) :
    (interp (a ++ b)).zero = (zeroIncrements b).foldl F64.add (interp a).zero ∧
    (interp (a ++ b)).pos = (interp a).pos ++ (interp b).pos ∧
    (interp (a ++ b)).neg = (interp a).neg ++ (interp b).neg ∧
    (interp (a ++ b)).mappings = (interp a).mappings ++ (interp b).mappings ∧
    (interp (a ++ b)).count = (interp a).count ++ (interp b).count ∧
    (interp (a ++ b)).sum = (interp a).sum ++ (interp b).sum ∧
    (interp (a ++ b)).min = (interp a).min ++ (interp b).min ∧
    (interp (a ++ b)).max = (interp a).max ++ (interp b).max :=
  Wire.interp_append a b

theorem interp_zero (bs : List Block) :
    (interp bs).zero = (zeroIncrements bs).foldl F64.add (.fin 0) :=
  Wire.interp_zero bs

theorem parseBlocks_concat (a b : List Block) (ha : ∀ x ∈ a, x.WF) (hb : ∀ x ∈ b, x.WF) :
    Wire.parseBlocks (Wire.encBlocks a ++ Wire.encBlocks b) = .ok (a ++ b) := by
  rw [← Wire.encBlocks_append]
  exact Wire.parseBlocks_encBlocks _ (fun x hx => (List.mem_append.mp hx).elim (ha x) (hb x))

/-! ### the transcribed decoder does what the documentation says (any store kind) -/

/-- One iteration of the transcribed loop on an encoded block followed by anything: exactly
    `applyBlock`, then the loop goes on with the rest.  Holds for EVERY store kind. -/
theorem decodeLoop_encBlock (b : Block) (hb : b.WF) (n : Nat) (s : Sketch) (aux : Sketch.DecAux)
    (tail : Bytes) :
    Sketch.decodeLoop (n + 1) s aux (Wire.encBlock b ++ tail) =
      Sketch.andThen (Sketch.applyBlock s aux b) (fun s' aux' => Sketch.decodeLoop n s' aux' tail) :=
  Sketch.decodeLoop_encBlock b hb n s aux tail

/-- The transcribed decoder on an encoded stream is the fold of `applyBlock` over the blocks; one
    unit of fuel per block suffices (`decodeAndMergeWith` supplies `bytes + 1 ≥ blocks`).
    Holds for EVERY store kind, hence in particular for `s = Sketch.spec m cp cn z`. -/
theorem decodeLoop_eq_interp (bs : List Block) (h : ∀ b ∈ bs, b.WF) (fuel : Nat)
    (hf : bs.length ≤ fuel) (s : Sketch) (aux : Sketch.DecAux) :
    Sketch.decodeLoop fuel s aux (Wire.encBlocks bs) = Sketch.applyBlocks s aux bs :=
  Sketch.decodeLoop_encBlocks bs h fuel hf s aux

/-- the stated form: fuel larger than the number of bytes, on a spec sketch -/
theorem decodeLoop_eq_interp_spec (bs : List Block) (h : ∀ b ∈ bs, b.WF) (fuel : Nat)
    (hf : (Wire.encBlocks bs).length < fuel) (m : Option MapId) (cp cn : Content) (z : F64)
    (s : Sketch) (hs : s = Sketch.spec m cp cn z) (aux : Sketch.DecAux) :
    Sketch.decodeLoop fuel s aux (Wire.encBlocks bs) = Sketch.applyBlocks (Sketch.spec m cp cn z) aux bs := by
  subst hs
  have := Wire.encBlocks_length_ge bs
  exact Sketch.decodeLoop_encBlocks bs h fuel (by omega) _ aux

/-- what the fold computes, in terms of the documentation content `interp`: the zero count continues
    with the stream's increments, and each store receives that side's bins in stream order -/
theorem applyBlocks_interp (bs : List Block) (s s' : Sketch) (aux aux' : Sketch.DecAux)
    (h : Sketch.applyBlocks s aux bs = some (.ok (s', aux'))) :
    s'.zero = (zeroIncrements bs).foldl F64.add s.zero ∧
    Sketch.addBins s.pos (interp bs).pos = some s'.pos ∧
    Sketch.addBins s.neg (interp bs).neg = some s'.neg :=
  Sketch.applyBlocks_interp bs s s' aux aux' h

/-- decoding an encoded stream into an EMPTY spec sketch that succeeds yields exactly the
    documentation content: `zero = (interp bs).zero`, stores = `contentOf` of the two bin lists -/
theorem decode_empty_spec_eq_interp (bs : List Block) (h : ∀ b ∈ bs, b.WF) (fuel : Nat)
    (hf : bs.length ≤ fuel) (m : Option MapId) (s' : Sketch) (aux aux' : Sketch.DecAux)
    (hd : Sketch.decodeLoop fuel (Sketch.spec m [] [] (.fin 0)) aux (Wire.encBlocks bs)
      = some (.ok (s', aux'))) :
    s'.zero = (interp bs).zero ∧
    (∃ cp, contentOf (interp bs).pos = some cp ∧ s'.pos = .sp cp) ∧
    (∃ cn, contentOf (interp bs).neg = some cn ∧ s'.neg = .sp cn) := by
  rw [Sketch.decodeLoop_encBlocks bs h fuel hf] at hd
  exact Sketch.applyBlocks_interp_empty bs m s' aux aux' hd

/-- on a spec store, adding decoded bins is `contentOf`-style accumulation into the content -/
theorem addBins_spec (c : Content) (l : List (Int × F64)) :
    Sketch.addBins (.sp c) l = (l.foldlM Sketch.addPair c).map Store.sp :=
  Sketch.addBins_sp c l

example : Sketch.applyBlocks (Sketch.spec none [] [] (.fin 0)) { stats := none }
      [.bins .pos (.deltas [3, 2])]
    = some (.ok (Sketch.spec none [(3, 1), (5, 1)] [] (.fin 0), { stats := none })) := by
  rfl

end DDS.Props.C07
