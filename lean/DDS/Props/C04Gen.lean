/-
  DDS.Props.C04Gen — the main theorems about the plain dense store (`DDS/Proofs/Dense.lean`, with the
  growth hypothesis discharged in `DDS/Proofs/Growth.lean`) restated on the REGENERATED code
  `DDS/Generated/CodeDense.lean` (translated from `/repo/ddsketch/store/dense_store.go` on every run).

  Every theorem is the model theorem of the same name transported along the equivalence of
  `DDS/Proofs/GenDenseBase.lean` / `DDS/Proofs/GenDense.lean` (`toGen`, `addWithCount_rel`,
  `mergeWith_rel`, `keyAtRank_eq`, …) with the SAME hypotheses, stated about the model store `s` that
  the generated store `toGen s` holds (`GenDense.forall_gen`: every generated `DenseStore` is `toGen`
  of a plain model store).  A generated method returns `Res _`: `.ok g` is "returned, the receiver is
  now `g`", `.panic` is the Go run-time panic, `.nofuel` is "the fuel given to the loops ran out".
  Each statement says which fuel suffices (`extendFuel`, `mergeFuel`, `reweightFuel`: all computable
  from the arguments) and so proves termination as well; the `_ex` forms only say that enough fuel
  exists (and that any larger amount gives the same result).
-/
import DDS.Proofs.GenDense
import DDS.Proofs.Growth

namespace DDS.Props.C04Gen

open DDS DDS.GoSem DDS.DStore DDS.GenDense

/-! ### `AddWithCount` / `Add` -/

/-- generated `AddWithCount` never panics on a store satisfying the invariant (non-negative weight,
    span below `2^33`), and adds exactly `w` at index `i` -/
theorem gen_addWithCount_ok (fuel : Nat) (s : DStore) (h : Inv s) (i : Int) (w : Rat) (hw : 0 ≤ w)
    (hsp : SpanOK s i i) (hf : extendFuel s i i ≤ fuel) :
    ∃ s', Gen.Dense.DenseStore.AddWithCount fuel (toGen s) i w = .ok (toGen s') ∧ Inv s' ∧
      (∀ j, wt s' j = wt s j + (if j = i then w else 0)) ∧ s'.count = s.count + w :=
  toRes_ok (addWithCount_rel fuel s i w h.plain hf) (Uncond.addWithCount_ok s h i w hw hsp)

/-- the int32 form: a store holding int32 indexes accepts every int32 index -/
theorem gen_addWithCount_ok32 (fuel : Nat) (s : DStore) (h : Inv s) (hb : Bounded32 s) (i : Int)
    (hi : minInt32 ≤ i ∧ i ≤ maxInt32) (w : Rat) (hw : 0 ≤ w) (hf : extendFuel s i i ≤ fuel) :
    ∃ s', Gen.Dense.DenseStore.AddWithCount fuel (toGen s) i w = .ok (toGen s') ∧ Inv s' ∧
      Bounded32 s' ∧ (∀ j, wt s' j = wt s j + (if j = i then w else 0)) ∧ s'.count = s.count + w :=
  toRes_ok (addWithCount_rel fuel s i w h.plain hf) (Uncond.addWithCount_ok32 s h hb i hi w hw)

theorem gen_addWithCount_ok32_ex (s : DStore) (h : Inv s) (hb : Bounded32 s) (i : Int)
    (hi : minInt32 ≤ i ∧ i ≤ maxInt32) (w : Rat) (hw : 0 ≤ w) :
    ∃ s' f0, (∀ fuel, f0 ≤ fuel →
        Gen.Dense.DenseStore.AddWithCount fuel (toGen s) i w = .ok (toGen s')) ∧ Inv s' ∧
      Bounded32 s' ∧ (∀ j, wt s' j = wt s j + (if j = i then w else 0)) ∧ s'.count = s.count + w := by
  obtain ⟨s', h1, h2, h3, h4, h5⟩ := Uncond.addWithCount_ok32 s h hb i hi w hw
  exact ⟨s', extendFuel s i i,
    fun fuel hf => by rw [addWithCount_rel fuel s i w h.plain hf, h1]; rfl, h2, h3, h4, h5⟩

theorem gen_add_ok32 (fuel : Nat) (s : DStore) (h : Inv s) (hb : Bounded32 s) (i : Int)
    (hi : minInt32 ≤ i ∧ i ≤ maxInt32) (hf : extendFuel s i i ≤ fuel) :
    ∃ s', Gen.Dense.DenseStore.Add fuel (toGen s) i = .ok (toGen s') ∧ Inv s' ∧
      Bounded32 s' ∧ (∀ j, wt s' j = wt s j + (if j = i then 1 else 0)) ∧ s'.count = s.count + 1 :=
  toRes_ok (add_rel fuel s i h.plain hf) (Uncond.addWithCount_ok32 s h hb i hi 1 (by decide))

/-! ### `MergeWith` (two dense stores) -/

theorem gen_mergeWith_ok (fuel : Nat) (s o : DStore) (hs : Inv s) (ho : Inv o)
    (hsp : SpanOK s o.minIndex o.maxIndex) (hf : mergeFuel s o ≤ fuel) :
    ∃ s', Gen.Dense.DenseStore.MergeWith fuel (toGen s) (toGen o) = .ok (toGen s') ∧ Inv s' ∧
      (∀ j, wt s' j = wt s j + wt o j) ∧ s'.count = s.count + o.count :=
  toRes_ok (mergeWith_rel fuel s o hs.plain hf) (Uncond.mergeSame_ok s o hs ho hsp)

theorem gen_mergeWith_ok32 (fuel : Nat) (s o : DStore) (hs : Inv s) (ho : Inv o) (bs : Bounded32 s)
    (bo : Bounded32 o) (hf : mergeFuel s o ≤ fuel) :
    ∃ s', Gen.Dense.DenseStore.MergeWith fuel (toGen s) (toGen o) = .ok (toGen s') ∧ Inv s' ∧
      Bounded32 s' ∧ (∀ j, wt s' j = wt s j + wt o j) ∧ s'.count = s.count + o.count :=
  toRes_ok (mergeWith_rel fuel s o hs.plain hf) (Uncond.mergeSame_ok32 s o hs ho bs bo)

/-! ### `KeyAtRank` -/

/-- generated `KeyAtRank(r)` returns the first index whose cumulative weight exceeds `max r 0`, or
    `maxIndex` when the total count does not exceed it; any fuel, never panics -/
theorem gen_keyAtRank_spec (fuel : Nat) (s : DStore) (h : Inv s) (r : Rat) :
    ∃ k, Gen.Dense.DenseStore.KeyAtRank fuel (toGen s) r = .ok k ∧
      let r' := if r < 0 then 0 else r
      (r' < cum s k ∧ ∀ j, j < k → cum s j ≤ r') ∨ (s.count ≤ r' ∧ k = s.maxIndex) :=
  ⟨s.keyAtRank r, keyAtRank_eq fuel s r, DStore.keyAtRank_spec s h r⟩

/-! ### `Reweight`, `Clear` -/

theorem gen_reweight_ok (fuel : Nat) (s : DStore) (h : Inv s) (w : Rat) (hw : 0 < w) (hw1 : w ≠ 1)
    (hf : reweightFuel s ≤ fuel) :
    ∃ s', Gen.Dense.DenseStore.Reweight fuel (toGen s) w = .ok (toGen s', GoErr.nil) ∧ Inv s' ∧
      (∀ j, wt s' j = wt s j * w) ∧ s'.count = s.count * w :=
  toRes_ok (reweight_rel fuel s w hw hw1 hf) (DStore.reweight_ok s h w hw)

theorem gen_clear_spec (fuel : Nat) (s : DStore) (h : Inv s) :
    ∃ s', Gen.Dense.DenseStore.Clear fuel (toGen s) = .ok (toGen s') ∧ Inv s' ∧ ∀ j, wt s' j = 0 :=
  ⟨s.clear, clear_rel fuel s, (DStore.clear_spec s h).1, (DStore.clear_spec s h).2⟩

/-! ### `MinIndex` / `MaxIndex` -/

theorem gen_minIndex_spec (s : DStore) (h : Inv s) (hb : Bounded32 s) (k : Int)
    (hk : Gen.Dense.DenseStore.MinIndex (toGen s) = (k, GoErr.nil)) :
    0 < wt s k ∧ ∀ j, j < k → wt s j = 0 := by
  rw [minIndex_eq] at hk
  cases hm : s.minIndex? with
  | none =>
    rw [hm] at hk
    have e : Gen.Dense.errUndefinedMinIndex = GoErr.nil := congrArg Prod.snd hk
    exact absurd e (by decide)
  | some i =>
    rw [hm] at hk
    have : i = k := congrArg Prod.fst hk
    exact DStore.minIndex_spec s h hb k (this ▸ hm)

theorem gen_maxIndex_spec (s : DStore) (h : Inv s) (hb : Bounded32 s) (k : Int)
    (hk : Gen.Dense.DenseStore.MaxIndex (toGen s) = (k, GoErr.nil)) :
    0 < wt s k ∧ ∀ j, k < j → wt s j = 0 := by
  rw [maxIndex_eq] at hk
  cases hm : s.maxIndex? with
  | none =>
    rw [hm] at hk
    have e : Gen.Dense.errUndefinedMaxIndex = GoErr.nil := congrArg Prod.snd hk
    exact absurd e (by decide)
  | some i =>
    rw [hm] at hk
    have : i = k := congrArg Prod.fst hk
    exact DStore.maxIndex_spec s h hb k (this ▸ hm)

/-- the error `errUndefinedMinIndex` is returned exactly by the stores that hold no weight -/
theorem gen_minIndex_undefined_iff (s : DStore) (h : Inv s) :
    (Gen.Dense.DenseStore.MinIndex (toGen s)).2 = Gen.Dense.errUndefinedMinIndex ↔ ∀ j, wt s j = 0 := by
  rw [minIndex_eq, ← DStore.minIndex?_none_iff s h]
  cases s.minIndex? with
  | none => simp
  | some i => simp [Gen.Dense.errUndefinedMinIndex]

/-! ### histories -/

/-- every history of adds (int32 indexes, non-negative weights), clears and reweightings run by the
    GENERATED code from `NewDenseStore()` terminates without a panic (given enough fuel) in a state
    that is `toGen` of a model store satisfying the invariant -/
theorem gen_run_ok (ops : List Op)
    (hops : ∀ op ∈ ops, match op with
      | .add i w => 0 ≤ w ∧ minInt32 ≤ i ∧ i ≤ maxInt32 | _ => True) :
    ∃ s f0, (∀ fuel, f0 ≤ fuel → genRun fuel ops Gen.Dense.NewDenseStore = .ok (toGen s)) ∧
      Inv s ∧ Bounded32 s := by
  obtain ⟨s, h1, h2, h3, _⟩ := Uncond.run_ok32 ops fun op hop => (DStore.ok32_iff op).2 (hops op hop)
  obtain ⟨f0, hf⟩ := genRun_rel ops (DStore.new .plain) rfl
  refine ⟨s, f0, fun fuel hfuel => ?_, h2, h3⟩
  rw [newDenseStore_eq', hf fuel hfuel, h1]
  rfl

/-! ### the finding reproduces on the generated code -/

/-- FINDING (concrete, known): add index `0`, then index `2^62`, to a fresh generated dense store —
    the second `AddWithCount` panics (the float `getNewLength` under-allocates by one) -/
theorem gen_addWithCount_far_panics :
    ∃ s f0, ∀ fuel, f0 ≤ fuel →
      Gen.Dense.DenseStore.AddWithCount fuel Gen.Dense.NewDenseStore 0 1 = .ok (toGen s) ∧
      Gen.Dense.DenseStore.AddWithCount fuel (toGen s) (2^62) 1 = .panic := by
  obtain ⟨s, h1, h2, h3⟩ := DStore.addWithCount_far_panics DStore.growthOK
  refine ⟨s, max (extendFuel (DStore.new .plain) 0 0) (extendFuel s (2^62) (2^62)), fun fuel hf => ⟨?_, ?_⟩⟩
  · rw [newDenseStore_eq', addWithCount_rel fuel _ 0 1 rfl (by omega), h1]; rfl
  · rw [addWithCount_rel fuel s _ 1 h2.plain (by omega), h3]; rfl

end DDS.Props.C04Gen
