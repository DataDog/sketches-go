/-
  DDS.Props.C18 — properties of the byte-level codecs (`ddsketch/encoding/encoding.go`):
  uvarint64, zig-zag varint64/32, float64 little endian, varfloat64, and their size functions.
  Proofs are in `DDS.Proofs.Codec`.
-/
import DDS.Proofs.Codec

namespace DDS.Props.C18

open DDS DDS.Codec

/-! ### uvarint64 -/

theorem uvarint_roundtrip (v : Nat) (hv : v < W64) (rest : Bytes) :
    decUvarint64 (encUvarint64 v ++ rest) = .ok (v, rest) :=
  decUvarint64_encUvarint64 v hv rest

example : decUvarint64 (encUvarint64 300 ++ [7, 9]) = .ok (300, [7, 9]) :=
  uvarint_roundtrip 300 (by decide) [7, 9]
example : encUvarint64 300 = [172, 2] := by decide
example : decUvarint64 (encUvarint64 (W64 - 1) ++ [1]) = .ok (W64 - 1, [1]) :=
  uvarint_roundtrip (W64 - 1) (by decide) [1]

-- (`hv` is not needed: the encoder masks every byte; the property is stated for 64-bit values)
set_option linter.unusedVariables false in
theorem uvarint_bytes (v : Nat) (hv : v < W64) : ∀ b ∈ encUvarint64 v, b < 256 :=
  encU_bytes _ v

example : ∀ b ∈ encUvarint64 (W64 - 1), b < 256 := uvarint_bytes _ (by decide)

theorem uvarint_length (v : Nat) :
    1 ≤ (encUvarint64 v).length ∧ (encUvarint64 v).length ≤ 9 := by
  rw [encUvarint64_eq]
  exact ⟨encU_length_pos 8 v, encU_length_le 8 v⟩

example : (encUvarint64 0).length = 1 := by decide
example : (encUvarint64 (W64 - 1)).length = 9 := by decide

theorem uvarint_size (v : Nat) (hv : v < W64) : uvarint64Size v = (encUvarint64 v).length :=
  uvarint64Size_eq v hv

example : uvarint64Size 16384 = 3 := by rw [uvarint_size _ (by decide)]; decide

theorem uvarint_prefix_eof (v : Nat) (k : Nat) (hk : k < (encUvarint64 v).length) :
    decUvarint64 ((encUvarint64 v).take k) = .error .eof :=
  decUvarint64_take v k hk

example : decUvarint64 ((encUvarint64 1000000).take 2) = .error .eof :=
  uvarint_prefix_eof 1000000 2 (by decide)

theorem uvarint_reads_at_most_9 (bs : Bytes) (v : Nat) (rest : Bytes)
    (h : decUvarint64 bs = .ok (v, rest)) :
    ∃ k, 1 ≤ k ∧ k ≤ 9 ∧ rest = bs.drop k ∧ v < W64 :=
  decUvarint64_ok bs v rest h

example : decUvarint64 [172, 2, 5] = .ok (300, [5]) := by rfl
example : ∃ k, 1 ≤ k ∧ k ≤ 9 ∧ [5] = [172, 2, 5].drop k ∧ 300 < W64 :=
  uvarint_reads_at_most_9 [172, 2, 5] 300 [5] (by rfl)

/-! ### zig-zag; varint64 and varint32 -/

theorem zigzag_roundtrip (v : Int) : unzigzag (zigzag v) = v :=
  unzigzag_zigzag' v

example : zigzag (-3) = 5 ∧ unzigzag 5 = -3 := by decide

theorem unzigzag_zigzag (u : Nat) : zigzag (unzigzag u) = u :=
  zigzag_unzigzag' u

theorem zigzag_range (v : Int) (h1 : -(2:Int)^63 ≤ v) (h2 : v < (2:Int)^63) : zigzag v < W64 :=
  zigzag_lt v h1 h2

example : zigzag (-(2:Int)^63) = W64 - 1 := by decide

theorem varint_roundtrip (v : Int) (h1 : -(2:Int)^63 ≤ v) (h2 : v < (2:Int)^63) (rest : Bytes) :
    decVarint64 (encVarint64 v ++ rest) = .ok (v, rest) :=
  decVarint64_encVarint64 v h1 h2 rest

example : decVarint64 (encVarint64 (-123456789) ++ [1]) = .ok (-123456789, [1]) :=
  varint_roundtrip _ (by decide) (by decide) _

theorem varint_size (v : Int) (h1 : -(2:Int)^63 ≤ v) (h2 : v < (2:Int)^63) :
    varint64Size v = (encVarint64 v).length :=
  uvarint64Size_eq _ (zigzag_lt v h1 h2)

example : varint64Size (-65) = 2 := by rw [varint_size _ (by decide) (by decide)]; decide

theorem varint32_accepts_iff (v : Int) (h1 : -(2:Int)^63 ≤ v) (h2 : v < (2:Int)^63)
    (rest : Bytes) :
    decVarint32 (encVarint64 v ++ rest) =
      (if v > 2147483647 ∨ v < -2147483648 then .error .overflow32 else .ok (v, rest)) :=
  decVarint32_encVarint64 v h1 h2 rest

example : decVarint32 (encVarint64 2147483648 ++ []) = .error .overflow32 := by
  rw [varint32_accepts_iff _ (by decide) (by decide)]; rfl
example : decVarint32 (encVarint64 (-2147483648) ++ [3]) = .ok (-2147483648, [3]) := by
  rw [varint32_accepts_iff _ (by decide) (by decide)]; rfl

/-! ### float64, little endian -/

theorem f64le_roundtrip (b : Nat) (hb : b < W64) (rest : Bytes) :
    decF64LE (encF64LE b ++ rest) = .ok (b, rest) :=
  decF64LE_encF64LE b hb rest

example : decF64LE (encF64LE 0x3ff8000000000000 ++ [1]) = .ok (0x3ff8000000000000, [1]) :=
  f64le_roundtrip _ (by decide) _
example : encF64LE 0x3ff8000000000000 = [0, 0, 0, 0, 0, 0, 0xf8, 0x3f] := by decide

theorem f64le_length (b : Nat) : (encF64LE b).length = 8 :=
  encF64LE_length b

theorem f64le_prefix_eof (b : Nat) (k : Nat) (hk : k < 8) :
    decF64LE ((encF64LE b).take k) = .error .eof :=
  decF64LE_take b k hk

example : decF64LE ((encF64LE 0x3ff8000000000000).take 7) = .error .eof :=
  f64le_prefix_eof _ 7 (by decide)

/-! ### varfloat64 -/

theorem vfword_roundtrip (b : Nat) (hb : b < W64) : vfUnword (vfWord b) = b :=
  vfUnword_vfWord b hb

example : vfWord 0x4000000000000000 = 2 ^ 58 := by decide
example : vfUnword (2 ^ 58) = 0x4000000000000000 := by decide

theorem varfloat_roundtrip (b : Nat) (hb : b < W64) (rest : Bytes) :
    decVarfloatBits (encVarfloatBits b ++ rest) = .ok (b, rest) :=
  decVarfloatBits_encVarfloatBits b hb rest

example : decVarfloatBits (encVarfloatBits 0x4059000000000000 ++ [9]) =
    .ok (0x4059000000000000, [9]) :=
  varfloat_roundtrip _ (by decide) _
example : encVarfloatBits 0x4059000000000000 = [141, 16] := by decide

-- (`hb` is not needed: `vfWord` always yields a 64-bit word; the property is stated for 64-bit
-- patterns)
set_option linter.unusedVariables false in
theorem varfloat_bytes (b : Nat) (hb : b < W64) : ∀ x ∈ encVarfloatBits b, x < 256 := by
  rw [encVarfloatBits_eq]
  exact encVF_bytes 8 _ (vfWord_lt b)

theorem varfloat_length (b : Nat) :
    1 ≤ (encVarfloatBits b).length ∧ (encVarfloatBits b).length ≤ 9 := by
  rw [encVarfloatBits_eq]
  exact ⟨encVF_length_pos 8 _, encVF_length_le 8 _⟩

example : (encVarfloatBits 0x3ff0000000000000).length = 1 := by decide
example : (encVarfloatBits 0x3ff0000000000001).length = 9 := by decide

-- (`hb` is not needed, for the same reason)
set_option linter.unusedVariables false in
theorem varfloat_size (b : Nat) (hb : b < W64) :
    varfloat64SizeBits b = (encVarfloatBits b).length :=
  varfloat64SizeBits_eq b

example : varfloat64SizeBits 0x4059000000000000 = 2 := by
  rw [varfloat_size _ (by decide)]; decide

theorem varfloat_prefix_eof (b : Nat) (k : Nat) (hk : k < (encVarfloatBits b).length) :
    decVarfloatBits ((encVarfloatBits b).take k) = .error .eof :=
  decVarfloatBits_take b k hk

example : decVarfloatBits ((encVarfloatBits 0x4059000000000000).take 1) = .error .eof :=
  varfloat_prefix_eof _ 1 (by decide)

theorem varfloat_reads_at_most_9 (bs : Bytes) (b : Nat) (rest : Bytes)
    (h : decVarfloatBits bs = .ok (b, rest)) : ∃ k, 1 ≤ k ∧ k ≤ 9 ∧ rest = bs.drop k :=
  decVarfloatBits_ok bs b rest h

example : decVarfloatBits [141, 16, 9] = .ok (0x4059000000000000, [9]) := by rfl
example : ∃ k, 1 ≤ k ∧ k ≤ 9 ∧ [9] = [141, 16, 9].drop k :=
  varfloat_reads_at_most_9 [141, 16, 9] 0x4059000000000000 [9] (by rfl)

end DDS.Props.C18
