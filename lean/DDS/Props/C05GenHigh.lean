/-
  DDS.Props.C05GenHigh — the main C05 statements about the highest-collapsing store, transported
  from the hand-written model (`DDS.Props.C05`, `DDS.Proofs.Collapsing`) to the REGENERATED Go code
  (`DDS/Generated/CodeDense.lean`, `CollapsingHighestDenseStore`) through the method-by-method
  equalities of `DDS.Proofs.GenCollapsingHigh` (`AddWithCount`, `Clear`, `MergeWith`) and
  `DDS.Proofs.GenDense` (`Reweight`, a promoted method of the embedded `DenseStore`: `reweightOp_rel`; the
  induction over a history: `run_rel`).

  A history is a list of `DStore.Op`; `genRunHigh fuel N ops` runs it on
  `NewCollapsingHighestDenseStore N` with the generated methods.  Every statement has the form
  "there is a fuel `f0` such that for every `fuel ≥ f0` the generated run returns `.ok g`" — so the
  generated code neither panics nor runs out of fuel — "and `g = toHigh N s` for a model store `s`
  with the property proved in C05".
-/
import DDS.Props.C05
import DDS.Proofs.GenCollapsingHigh
import DDS.Proofs.GenDense

namespace DDS.Props.C05GenHigh

open DDS DStore DDS.GoSem DDS.GenDense DDS.GenHigh DDS.Props.C05

abbrev GH := DDS.Gen.Dense.CollapsingHighestDenseStore

/-- one operation on the generated store; `Reweight` is the embedded `DenseStore`'s method (its error
    value is dropped, as `applyOp` does) -/
def genApplyOp (fuel : Nat) (g : GH) : Op → Res GH
  | .add i w => Gen.Dense.CollapsingHighestDenseStore.AddWithCount fuel g i w
  | .clear => Gen.Dense.CollapsingHighestDenseStore.Clear fuel g
  | .reweight w => (Gen.Dense.DenseStore.Reweight fuel g.DenseStore w).bind fun p =>
      .ok { g with DenseStore := p.1 }

def genRun (fuel : Nat) : List Op → GH → Res GH
  | [], g => .ok g
  | op :: ops, g => (genApplyOp fuel g op).bind (genRun fuel ops)

def genRunHigh (fuel : Nat) (N : Nat) (ops : List Op) : Res GH :=
  genRun fuel ops (Gen.Dense.NewCollapsingHighestDenseStore (N : Int))

theorem genApplyOp_rel (fuel : Nat) (n : Nat) (s : DStore) (op : Op) (hk : s.kind = .high n)
    (hf : opFuel s op ≤ fuel) :
    genApplyOp fuel (toHigh (n : Int) s) op = toRes (toHigh (n : Int)) (applyOp s op) := by
  cases op with
  | add i w => exact addWithCount_rel fuel n s i w hk hf
  | clear => exact GenHigh.clear_rel fuel n s
  | reweight w =>
    exact reweightOp_rel (toHigh n) (fun g => { toHigh (n : Int) s with DenseStore := g }) fuel s w
      (fun t h => by rw [toHigh, toHigh, h]) hf

theorem genRun_rel (n : Nat) (ops : List Op) : ∀ (s : DStore), s.kind = .high n →
    ∃ f0, ∀ fuel, f0 ≤ fuel →
      genRun fuel ops (toHigh (n : Int) s) = toRes (toHigh (n : Int)) (ops.foldlM applyOp s) :=
  run_rel (toHigh n) (.high n) genApplyOp genRun (fun _ _ => rfl) (fun _ _ _ _ => rfl)
    (fun fuel s op => genApplyOp_rel fuel n s op) ops

/-- what the model's `runHigh` returns, the generated run from the generated constructor returns, given
    enough fuel: every statement below is the C05 theorem about `runHigh` carried over by this -/
theorem genRunHigh_ok (N : Nat) (ops : List Op) :
    ∃ f0, ∀ s, runHigh N ops = some s → ∀ fuel, f0 ≤ fuel → genRunHigh fuel N ops = .ok (toHigh (N : Int) s) := by
  obtain ⟨f0, h⟩ := genRun_rel N ops (DStore.new (.high N)) rfl
  refine ⟨f0, fun s hs fuel hf => ?_⟩
  unfold genRunHigh
  rw [new_eq, h fuel hf, show List.foldlM applyOp (DStore.new (.high N)) ops = some s from hs]
  rfl

/-! ### the C05 statements on the generated code -/

/-- no history on int32 indexes panics or runs out of fuel; the result is the image of a model store
    satisfying the invariant -/
theorem gen_high_never_panics (N : Nat) (hN : 1 ≤ N) (ops : List Op) (hops : ∀ op ∈ ops, op.ok32) :
    ∃ f0 s, (∀ fuel, f0 ≤ fuel → genRunHigh fuel N ops = .ok (toHigh (N : Int) s)) ∧ InvHigh N s := by
  obtain ⟨s, hs, hinv⟩ := high_never_panics N hN ops hops
  obtain ⟨f0, h⟩ := genRunHigh_ok N ops
  exact ⟨f0, s, h s hs, hinv⟩

/-- never more than `N` array slots in the generated store, never a span of more than `N` indexes -/
theorem gen_high_bounded_after_history (N : Nat) (hN : 1 ≤ N) (ops : List Op)
    (hops : ∀ op ∈ ops, op.ok32) :
    ∃ f0 g, (∀ fuel, f0 ≤ fuel → genRunHigh fuel N ops = .ok g) ∧ g.maxNumBins = N ∧
      g.DenseStore.bins.length ≤ N ∧
      (Gen.Dense.DenseStore.IsEmpty g.DenseStore = false →
        g.DenseStore.maxIndex - g.DenseStore.minIndex + 1 ≤ N) := by
  obtain ⟨f0, s, h, hinv⟩ := gen_high_never_panics N hN ops hops
  refine ⟨f0, _, h, rfl, hinv.lenLe, fun he => hinv.core.span_le hinv.lenLe fun h0 => ?_⟩
  rw [toHigh_DenseStore, isEmpty_eq, (isEmpty_iff_count s).2 h0] at he
  cases he

/-- after ANY history the generated store holds the exact content with every index above
    `min + N − 1` folded into that edge bin, and the total weight is conserved -/
theorem gen_high_content_after_history (N : Nat) (hN : 1 ≤ N) (ops : List Op)
    (hops : ∀ op ∈ ops, op.ok32) :
    ∃ f0 g, (∀ fuel, f0 ≤ fuel → genRunHigh fuel N ops = .ok g) ∧
      content (ofHigh g) = Content.specHigh N (exactContent ops) ∧
      Gen.Dense.DenseStore.TotalCount g.DenseStore = (exactContent ops).total := by
  obtain ⟨s, hs, hinv, _, hc⟩ := high_history growthOK N hN ops hops
  obtain ⟨f0, h⟩ := genRunHigh_ok N ops
  refine ⟨f0, _, h s hs, by rw [ofHigh_toHigh N s hinv.kind, hc], ?_⟩
  show s.totalCount = _
  rw [hinv.core.total, hc, Content.total_specHigh]

/-- EVERY merge of two generated highest-collapsing stores (any two limits, any two histories) is safe:
    it neither panics nor runs out of fuel, stays within `N` slots and holds the folded union -/
theorem gen_high_merge_safe (N M : Nat) (hN : 1 ≤ N) (hM : 1 ≤ M)
    (ops₁ ops₂ : List Op) (h₁ : ∀ op ∈ ops₁, op.ok32) (h₂ : ∀ op ∈ ops₂, op.ok32) :
    ∃ f0 g o g', ∀ fuel, f0 ≤ fuel →
      genRunHigh fuel N ops₁ = .ok g ∧ genRunHigh fuel M ops₂ = .ok o ∧
      Gen.Dense.CollapsingHighestDenseStore.MergeWith fuel g o = .ok g' ∧
      g'.DenseStore.bins.length ≤ N ∧
      g'.DenseStore.count = g.DenseStore.count + o.DenseStore.count ∧
      content (ofHigh g') = Content.specHigh N
        ((exactContent ops₁).merge (Content.specHigh M (exactContent ops₂))) := by
  obtain ⟨s, o, s', hs, ho, hm, hinv', hsz, hcnt, hc⟩ := high_merge_safe N M hN hM ops₁ ops₂ h₁ h₂
  obtain ⟨_, hs', hinv⟩ := high_never_panics N hN ops₁ h₁
  cases hs.symm.trans hs'
  obtain ⟨f1, r1⟩ := genRunHigh_ok N ops₁
  obtain ⟨f2, r2⟩ := genRunHigh_ok M ops₂
  obtain ⟨f3, r3⟩ := mergeWith_ex N (M : Int) s o hinv.kind
  refine ⟨max f1 (max f2 f3), toHigh (N : Int) s, toHigh (M : Int) o, toHigh (N : Int) s', fun fuel hf => ?_⟩
  have h23 := Nat.le_trans (Nat.le_max_right f1 _) hf
  refine ⟨r1 s hs fuel (Nat.le_trans (Nat.le_max_left _ _) hf), r2 o ho fuel (Nat.le_trans (Nat.le_max_left _ _) h23),
    ?_, hsz, hcnt, ?_⟩
  · rw [r3 fuel (Nat.le_trans (Nat.le_max_right _ _) h23), hm]
    rfl
  · rw [ofHigh_toHigh N s' hinv'.kind, hc]

end DDS.Props.C05GenHigh
