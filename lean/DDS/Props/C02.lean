/-
  DDS.Props.C02 — full mergeability.

  Any tree of merges over sketches built from sub-lists of the inputs yields the sketch obtained by
  adding all inputs to one sketch (`merge_tree`); the order of the inputs does not matter
  (`addAll_perm`); the empty sketch is a right unit (`merge_empty_right`); `mergeWith` reads only
  (mapping, bins, zero) of its argument (`merge_pure_argument`).  The statements are on SPEC
  sketches and are lifted to any store kind through `Sketch.Refines` (`merge_refines`).

  The only place where float arithmetic is not associative is the zero bucket; `ExactSums` is the
  hypothesis under which it is (every sub-sum of the zero weights is a binary64 number), and
  `exactSums_of_nat` shows that integer weights with total ≤ 2^53 satisfy it.
-/
import DDS.Proofs.SpecSketch
import DDS.Proofs.Num
import DDS.Proofs.MapId

namespace DDS.Props.C02
open DDS DDS.Sketch

/-! ## `MapId.equals` is reflexive -/

theorem equals_refl (id : MapId) (g o : Rat) (hg : id.gamma = .fin g) (ho : id.indexOffset = .fin o) :
    id.equals id = true := by
  simp [MapId.equals, hg, ho, MapId.withinTolerance_refl]

/-! ## merge trees -/

inductive MergeTree where
  | leaf (inputs : List (Rat × Rat))
  | node (l r : MergeTree)

def MergeTree.flat : MergeTree → List (Rat × Rat)
  | .leaf l => l
  | .node l r => l.flat ++ r.flat

/-- leaf: the inputs added to a new sparse sketch; node: the right result merged into the left
    one (`none` if any step is refused or panics) -/
def MergeTree.eval (env : MapEnv) : MergeTree → Option Sketch
  | .leaf l => Sketch.addAll env (Sketch.new (some env.id) .sparse) l
  | .node l r =>
    match l.eval env, r.eval env with
    | some a, some b =>
      match a.mergeWith b with
      | some (.ok s) => some s
      | _ => none
    | _, _ => none

/-! ## exact zero-bucket sums -/

/-- every sub-sum of the weights (sum of a sub-multiset) is exactly representable in binary64:
    then any way of adding them up in float arithmetic is exact -/
def ExactSums (ws : List Rat) : Prop :=
  ∀ p sub : List Rat, p.Perm ws → sub.Sublist p → F64.isRep sub.sum = true

theorem ExactSums.perm {ws ws' : List Rat} (h : ExactSums ws) (hp : ws.Perm ws') : ExactSums ws' :=
  fun p sub hpp hs => h p sub (hpp.trans hp.symm) hs

theorem ExactSums.left {x y : List Rat} (h : ExactSums (x ++ y)) : ExactSums x :=
  fun p sub hp hs => h (p ++ y) sub (hp.append_right y) (hs.trans (List.sublist_append_left p y))

theorem ExactSums.right {x y : List Rat} (h : ExactSums (x ++ y)) : ExactSums y :=
  fun p sub hp hs => h (x ++ p) sub (hp.append_left x) (hs.trans (List.sublist_append_right x p))

theorem ExactSums.whole {ws : List Rat} (h : ExactSums ws) : F64.isRep ws.sum = true :=
  h ws ws (List.Perm.refl _) (List.Sublist.refl _)

theorem ExactSums.tail {c : Rat} {ws : List Rat} (h : ExactSums (c :: ws)) : ExactSums ws :=
  ExactSums.right (x := [c]) h

theorem fsum_exact_aux (pre ws : List Rat) (h : ExactSums (pre ++ ws)) :
    fsum (.fin pre.sum) ws = .fin (pre ++ ws).sum := by
  induction ws generalizing pre with
  | nil => simp
  | cons c ws ih =>
    have hrep : F64.isRep (pre ++ [c]).sum = true :=
      h (pre ++ c :: ws) (pre ++ [c]) (List.Perm.refl _)
        (List.Sublist.append_left (List.cons_sublist_cons.2 (List.nil_sublist ws)) pre)
    have hadd : F64.add (.fin pre.sum) (.fin c) = .fin (pre ++ [c]).sum := by
      have := F64.add_exact pre.sum c (by simpa using hrep)
      simpa using this
    have h' : ExactSums ((pre ++ [c]) ++ ws) := by simpa using h
    rw [fsum_cons, hadd, ih (pre ++ [c]) h']
    simp

theorem fsum_exact (ws : List Rat) (h : ExactSums ws) : fsum (.fin 0) ws = .fin ws.sum := by
  have := fsum_exact_aux [] ws (by simpa using h)
  simpa using this

/-- non-vacuity: natural-number weights whose total is at most 2^53 -/
theorem exactSums_of_nat (ws : List Rat) (hnat : ∀ w ∈ ws, ∃ n : Nat, w = (n : Rat))
    (htot : ws.sum ≤ 2 ^ 53) : ExactSums ws := by
  intro p sub hp hs
  have hnatp : ∀ w ∈ p, ∃ n : Nat, w = (n : Rat) := fun w hw => hnat w (hp.mem_iff.1 hw)
  have hnn : ∀ w ∈ p, (0 : Rat) ≤ w := by
    intro w hw; obtain ⟨n, rfl⟩ := hnatp w hw; exact Nat.cast_nonneg n
  have hle : sub.sum ≤ 2 ^ 53 := (hs.sum_le_sum hnn).trans (hp.sum_eq.trans_le htot)
  have hsum : ∀ l : List Rat, (∀ w ∈ l, ∃ n : Nat, w = (n : Rat)) → ∃ n : Nat, l.sum = (n : Rat) := by
    intro l hl
    induction l with
    | nil => exact ⟨0, by simp⟩
    | cons a l ih =>
      obtain ⟨n, hn⟩ := hl a (List.mem_cons_self ..)
      obtain ⟨k, hk⟩ := ih fun w hw => hl w (List.mem_cons_of_mem _ hw)
      exact ⟨n + k, by rw [List.sum_cons, hn, hk, Nat.cast_add]⟩
  obtain ⟨n, hn⟩ := hsum sub fun w hw => hnatp w (hs.subset hw)
  rw [hn] at hle ⊢
  exact F64.isRep_nat n (by exact_mod_cast hle)

/-! ## the closed form of a merge tree -/

section tree
variable (env : MapEnv) (mn mx : Rat)

/-- the sketch every merge tree over the inputs `l` evaluates to -/
def target (l : List (Rat × Rat)) : Sketch :=
  spec (some env.id) (Content.merge [] (posPart env mn l)) (Content.merge [] (negPart env mn l))
    (.fin (zeroPart mn l).sum)

theorem addAll_new (hmn : env.minIndexable = .fin mn) (hmx : env.maxIndexable = .fin mx)
    (hmn0 : 0 ≤ mn) (l : List (Rat × Rat)) (hacc : Accepted mx l)
    (hexact : ExactSums (zeroPart mn l)) :
    Sketch.addAll env (Sketch.new (some env.id) .sparse) l = some (target env mn l) := by
  rw [new_sparse, addAll_spec env mn mx hmn hmx hmn0 _ l hacc, fsum_exact _ hexact]
  rfl

theorem target_isSpec (l : List (Rat × Rat)) (hacc : Accepted mx l) : (target env mn l).IsSpec :=
  isSpec_spec _ _ _ _
    (Content.wf_merge_of_nonneg [] _ Content.wf_nil
      (posPart_nonneg env mn l (fun p hp => (hacc p hp).2)))
    (Content.wf_merge_of_nonneg [] _ Content.wf_nil
      (negPart_nonneg env mn l (fun p hp => (hacc p hp).2)))

theorem target_merge (hrefl : env.id.equals env.id = true) (l₁ l₂ : List (Rat × Rat))
    (h₁ : Accepted mx l₁) (h₂ : Accepted mx l₂) (hexact : ExactSums (zeroPart mn (l₁ ++ l₂))) :
    (target env mn l₁).mergeWith (target env mn l₂) = some (.ok (target env mn (l₁ ++ l₂))) := by
  unfold target
  rw [mergeWith_spec _ _ _ _ _ _ _ _ (by simpa [mappingEquals] using hrefl)]
  have hz : F64.add (.fin (zeroPart mn l₁).sum) (.fin (zeroPart mn l₂).sum)
      = .fin (zeroPart mn (l₁ ++ l₂)).sum := by
    have := F64.add_exact (zeroPart mn l₁).sum (zeroPart mn l₂).sum
      (by simpa [zeroPart_append] using hexact.whole)
    simpa [zeroPart_append] using this
  rw [hz, posPart_append, negPart_append,
    Content.canon_append _ _ (posPart_nonneg env mn l₁ (fun p hp => (h₁ p hp).2))
      (posPart_nonneg env mn l₂ (fun p hp => (h₂ p hp).2)),
    Content.canon_append _ _ (negPart_nonneg env mn l₁ (fun p hp => (h₁ p hp).2))
      (negPart_nonneg env mn l₂ (fun p hp => (h₂ p hp).2))]

theorem eval_eq_target (hmn : env.minIndexable = .fin mn) (hmx : env.maxIndexable = .fin mx)
    (hmn0 : 0 ≤ mn) (hrefl : env.id.equals env.id = true) (t : MergeTree)
    (hacc : Accepted mx t.flat) (hexact : ExactSums (zeroPart mn t.flat)) :
    t.eval env = some (target env mn t.flat) := by
  induction t with
  | leaf l => exact addAll_new env mn mx hmn hmx hmn0 l hacc hexact
  | node l r ihl ihr =>
    have hex' : ExactSums (zeroPart mn l.flat ++ zeroPart mn r.flat) := by
      simpa [MergeTree.flat, zeroPart_append] using hexact
    have hl := ihl (Accepted.left hacc) hex'.left
    have hr := ihr (Accepted.right hacc) hex'.right
    simp only [MergeTree.eval, hl, hr, MergeTree.flat]
    rw [target_merge env mn mx hrefl _ _ (Accepted.left hacc) (Accepted.right hacc) hexact]

/-- **Full mergeability.**  Any tree of merges over sketches built from the pieces of the input
    equals (field by field — hence for every observer) the single sketch that received all the
    inputs. -/
theorem merge_tree (hmn : env.minIndexable = .fin mn) (hmx : env.maxIndexable = .fin mx)
    (hmn0 : 0 ≤ mn) (hrefl : env.id.equals env.id = true) (t : MergeTree)
    (hacc : ∀ p ∈ t.flat, rabs p.1 ≤ mx ∧ 0 ≤ p.2) (hexact : ExactSums (zeroPart mn t.flat)) :
    ∃ s s', t.eval env = some s ∧
      Sketch.addAll env (Sketch.new (some env.id) .sparse) t.flat = some s' ∧
      s.pos = s'.pos ∧ s.neg = s'.neg ∧ s.zero = s'.zero ∧ s.mapping = s'.mapping :=
  ⟨_, _, eval_eq_target env mn mx hmn hmx hmn0 hrefl t hacc hexact,
    addAll_new env mn mx hmn hmx hmn0 t.flat hacc hexact, rfl, rfl, rfl, rfl⟩

/-- the same, as one equation; the common value is a spec sketch with canonical contents -/
theorem merge_tree_eq (hmn : env.minIndexable = .fin mn) (hmx : env.maxIndexable = .fin mx)
    (hmn0 : 0 ≤ mn) (hrefl : env.id.equals env.id = true) (t : MergeTree)
    (hacc : ∀ p ∈ t.flat, rabs p.1 ≤ mx ∧ 0 ≤ p.2) (hexact : ExactSums (zeroPart mn t.flat)) :
    t.eval env = Sketch.addAll env (Sketch.new (some env.id) .sparse) t.flat ∧
      ∃ s, t.eval env = some s ∧ s.IsSpec := by
  rw [eval_eq_target env mn mx hmn hmx hmn0 hrefl t hacc hexact,
    addAll_new env mn mx hmn hmx hmn0 t.flat hacc hexact]
  exact ⟨rfl, _, rfl, target_isSpec env mn mx _ hacc⟩

theorem target_perm {l₁ l₂ : List (Rat × Rat)} (h : l₁.Perm l₂) (hacc : Accepted mx l₁) :
    target env mn l₁ = target env mn l₂ := by
  unfold target
  rw [Content.merge_perm [] Content.nz_nil (posPart_perm env mn h),
    Content.merge_perm [] Content.nz_nil (negPart_perm env mn h), (zeroPart_perm mn h).sum_eq]

/-- **Order independence.**  Adding a permutation of the inputs gives the same sketch. -/
theorem addAll_perm (hmn : env.minIndexable = .fin mn) (hmx : env.maxIndexable = .fin mx)
    (hmn0 : 0 ≤ mn) (l₁ l₂ : List (Rat × Rat)) (h : l₁.Perm l₂)
    (hacc : ∀ p ∈ l₁, rabs p.1 ≤ mx ∧ 0 ≤ p.2) (hexact : ExactSums (zeroPart mn l₁)) :
    ∃ s s', Sketch.addAll env (Sketch.new (some env.id) .sparse) l₁ = some s ∧
      Sketch.addAll env (Sketch.new (some env.id) .sparse) l₂ = some s' ∧
      s.pos = s'.pos ∧ s.neg = s'.neg ∧ s.zero = s'.zero ∧ s.mapping = s'.mapping := by
  refine ⟨_, _, addAll_new env mn mx hmn hmx hmn0 l₁ hacc hexact,
    addAll_new env mn mx hmn hmx hmn0 l₂ (Accepted.perm hacc h)
      (hexact.perm (zeroPart_perm mn h)), ?_⟩
  rw [target_perm env mn mx h hacc]
  exact ⟨rfl, rfl, rfl, rfl⟩

/-- two merge trees over permuted inputs evaluate to the same sketch: shape and order are both
    irrelevant -/
theorem merge_tree_perm (hmn : env.minIndexable = .fin mn) (hmx : env.maxIndexable = .fin mx)
    (hmn0 : 0 ≤ mn) (hrefl : env.id.equals env.id = true) (t₁ t₂ : MergeTree)
    (h : t₁.flat.Perm t₂.flat)
    (hacc : ∀ p ∈ t₁.flat, rabs p.1 ≤ mx ∧ 0 ≤ p.2) (hexact : ExactSums (zeroPart mn t₁.flat)) :
    t₁.eval env = t₂.eval env ∧ (t₁.eval env).isSome := by
  rw [eval_eq_target env mn mx hmn hmx hmn0 hrefl t₁ hacc hexact,
    eval_eq_target env mn mx hmn hmx hmn0 hrefl t₂ (Accepted.perm hacc h)
      (hexact.perm (zeroPart_perm mn h)), target_perm env mn mx h hacc]
  exact ⟨rfl, rfl⟩

end tree

/-! ## unit and purity -/

/-- the zero weight is a binary64 number (always the case for a value computed by the model) -/
def ZeroRep : F64 → Prop
  | .fin q => F64.isRep q = true
  | _ => True

theorem add_zero_of_zeroRep (z : F64) (h : ZeroRep z) : F64.add z (.fin 0) = z := by
  cases z with
  | fin q => exact F64.add_zero_exact q h
  | pinf => rfl
  | ninf => rfl
  | nan => rfl

/-- **The empty sketch is a right unit of `mergeWith`.**  (`ZeroRep` is needed: the model adds
    `+ 0.0` in float arithmetic, which rounds a zero weight that is not a float — such a value is
    never produced by the model, but the structure does not exclude it.) -/
theorem merge_empty_right (id : MapId) (a b : Content) (z : F64)
    (hrefl : id.equals id = true) (hz : ZeroRep z) :
    (spec (some id) a b z).mergeWith (Sketch.new (spec (some id) a b z).mapping .sparse)
      = some (.ok (spec (some id) a b z)) := by
  rw [new_sparse, spec_mapping,
    mergeWith_spec _ _ _ _ _ _ _ _ (by simpa [mappingEquals] using hrefl),
    add_zero_of_zeroRep z hz]
  rfl

/-- counterexample without `ZeroRep`: a zero weight of 1/3 is rounded by the merge with an empty
    sketch -/
theorem merge_empty_right_needs_zeroRep :
    F64.add (.fin (1 / 3)) (.fin 0) ≠ .fin (1 / 3) := by
  -- the model computes the float next to 1/3, which is 6004799503160661 / 2^54
  decide +kernel

/-- **`mergeWith` reads only (mapping, bins, zero) of its argument**: two arguments with the same
    mapping, the same enumerated bins and the same zero weight are interchangeable, whatever their
    store kinds and internal state. -/
theorem merge_pure_argument (m : Option MapId) (a b : Content) (z : F64) (o o' : Sketch)
    (hm : o.mapping = o'.mapping) (hp : o.pos.binsList = o'.pos.binsList)
    (hn : o.neg.binsList = o'.neg.binsList) (hz : o.zero = o'.zero) :
    (spec m a b z).mergeWith o = (spec m a b z).mergeWith o' := by
  -- a sparse receiver sees its argument through `binsList` only
  have key (c : Content) (x : Store) :
      (Store.sp c).mergeWith x = x.binsList.bind fun l => some (.sp (c.merge l)) := rfl
  simp only [mergeWith, spec, hm, hz, key, hp, hn]

/-! ## lifting to any store kind through `Refines` -/

/-- **Sketch-level merge refinement** from a per-store merge refinement `hstep` for the store
    class `K` the receiving sketch uses (`hstep` is proved per store kind; `sparse_step` below is
    the instance for sparse receivers, with ANY kind of argument store). -/
theorem merge_refines (K : Store → Prop) (s o : Sketch) (cp cn cp' cn' : Content)
    (hKp : K s.pos) (hKn : K s.neg)
    (hs : s.Refines cp cn) (ho : o.Refines cp' cn')
    (hm : mappingEquals s.mapping o.mapping = true)
    (hstep : ∀ (st : Store) (c : Content) (ot : Store) (co : Content), K st → st.Refines c →
      ot.Refines co → ∃ st', st.mergeWith ot = some st' ∧ st'.Refines (c.merge co)) :
    ∃ s', s.mergeWith o = some (.ok s') ∧ s'.Refines (cp.merge cp') (cn.merge cn') ∧
      s'.zero = F64.add s.zero o.zero ∧ s'.mapping = s.mapping := by
  obtain ⟨p, hp1, hp2⟩ := hstep s.pos cp o.pos cp' hKp hs.pos ho.pos
  obtain ⟨n, hn1, hn2⟩ := hstep s.neg cn o.neg cn' hKn hs.neg ho.neg
  refine ⟨{ s with pos := p, neg := n, zero := F64.add s.zero o.zero }, ?_, ⟨hp2, hn2⟩, rfl, rfl⟩
  simp [mergeWith, hm, hp1, hn1]

theorem sparse_step (st : Store) (c : Content) (ot : Store) (co : Content)
    (hK : ∃ x, st = .sp x) (hst : st.Refines c) (hot : ot.Refines co) :
    ∃ st', st.mergeWith ot = some st' ∧ st'.Refines (c.merge co) := by
  obtain ⟨x, rfl⟩ := hK
  have := Store.sp_refines_eq hst
  subst this
  exact Store.merge_into_sparse_refines x hst.wf ot co hot

/-- unconditional instance: a spec sketch absorbs a sketch of ANY store kinds -/
theorem merge_refines_sparse (m : Option MapId) (a b : Content) (z : F64) (ha : a.WF) (hb : b.WF)
    (o : Sketch) (cp' cn' : Content) (ho : o.Refines cp' cn')
    (hm : mappingEquals m o.mapping = true) :
    ∃ s', (spec m a b z).mergeWith o = some (.ok s') ∧ s'.Refines (a.merge cp') (b.merge cn') ∧
      s'.zero = F64.add z o.zero ∧ s'.mapping = m :=
  merge_refines (fun st => ∃ x, st = .sp x) (spec m a b z) o a b cp' cn' ⟨a, rfl⟩ ⟨b, rfl⟩
    ⟨Store.refines_sparse a ha, Store.refines_sparse b hb⟩ ho hm sparse_step

/-! ## the hypotheses are satisfiable: a concrete instance -/

def demoId : MapId := { kind := .log, gamma := .fin (51 / 49), indexOffset := .fin 0 }

def demoEnv : MapEnv :=
  { id := demoId, minIndexable := .fin (1 / 1000), maxIndexable := .fin 1000, relAcc := .fin (1 / 100),
    value := fun i => .fin ((i : Rat) + 1), lowerBound := fun i => .fin (i : Rat),
    index := fun v => match v with | .fin q => q.floor | _ => 0 }

def demoTree : MergeTree :=
  .node (.leaf [(5, 2), (0, 1)]) (.node (.leaf [(-3, 1)]) (.leaf [(7, 3), (1 / 2000, 2), (5, 1)]))

theorem demo_refl : demoEnv.id.equals demoEnv.id = true :=
  equals_refl _ (51 / 49) 0 rfl rfl

theorem demo_acc : ∀ p ∈ demoTree.flat, rabs p.1 ≤ 1000 ∧ 0 ≤ p.2 := by decide +kernel

theorem demo_zero : zeroPart (1 / 1000) demoTree.flat = [1, 2] := by decide +kernel

theorem demo_exact : ExactSums (zeroPart (1 / 1000) demoTree.flat) := by
  rw [demo_zero]
  apply exactSums_of_nat
  · intro w hw
    simp at hw
    rcases hw with rfl | rfl
    · exact ⟨1, by norm_num⟩
    · exact ⟨2, by norm_num⟩
  · norm_num

example : ∃ s s', demoTree.eval demoEnv = some s ∧
    Sketch.addAll demoEnv (Sketch.new (some demoEnv.id) .sparse) demoTree.flat = some s' ∧
    s.pos = s'.pos ∧ s.neg = s'.neg ∧ s.zero = s'.zero ∧ s.mapping = s'.mapping :=
  merge_tree demoEnv (1 / 1000) 1000 rfl rfl (by norm_num) demo_refl demoTree demo_acc demo_exact

example : ∃ s s', Sketch.addAll demoEnv (Sketch.new (some demoEnv.id) .sparse) demoTree.flat = some s ∧
    Sketch.addAll demoEnv (Sketch.new (some demoEnv.id) .sparse) demoTree.flat.reverse = some s' ∧
    s.pos = s'.pos ∧ s.neg = s'.neg ∧ s.zero = s'.zero ∧ s.mapping = s'.mapping :=
  addAll_perm demoEnv (1 / 1000) 1000 rfl rfl (by norm_num) _ _ (List.reverse_perm _).symm
    demo_acc demo_exact

example : (spec (some demoId) [(1, 2)] [(3, 1)] (.fin 5)).mergeWith
    (Sketch.new (spec (some demoId) [(1, 2)] [(3, 1)] (.fin 5)).mapping .sparse)
      = some (.ok (spec (some demoId) [(1, 2)] [(3, 1)] (.fin 5))) :=
  merge_empty_right demoId _ _ _ demo_refl (by
    have := F64.isRep_int 5 (by norm_num)
    simpa [ZeroRep] using this)

example (o o' : Sketch) (hm : o.mapping = o'.mapping) (hp : o.pos.binsList = o'.pos.binsList)
    (hn : o.neg.binsList = o'.neg.binsList) (hz : o.zero = o'.zero) :
    (spec (some demoId) [(1, 2)] [] (.fin 0)).mergeWith o
      = (spec (some demoId) [(1, 2)] [] (.fin 0)).mergeWith o' :=
  merge_pure_argument _ _ _ _ o o' hm hp hn hz

/-- the hypotheses of `merge_pure_argument` hold between a sparse and a dense argument (here the
    two new sketches) -/
example : (Sketch.new (some demoId) .sparse).mapping = (Sketch.new (some demoId) .dense).mapping ∧
    (Sketch.new (some demoId) .sparse).pos.binsList = (Sketch.new (some demoId) .dense).pos.binsList ∧
    (Sketch.new (some demoId) .sparse).neg.binsList = (Sketch.new (some demoId) .dense).neg.binsList ∧
    (Sketch.new (some demoId) .sparse).zero = (Sketch.new (some demoId) .dense).zero := by
  refine ⟨rfl, ?_, ?_, rfl⟩ <;> decide

/-- `merge_refines_sparse`: a sparse receiver and a sparse argument, both non-trivial -/
example : ∃ s', (spec (some demoId) [(1, 2)] [(3, 1)] (.fin 5)).mergeWith
      (spec (some demoId) [(1, 1), (2, 4)] [] (.fin 1)) = some (.ok s') ∧
    s'.Refines (Content.merge [(1, 2)] [(1, 1), (2, 4)]) (Content.merge [(3, 1)] []) ∧
    s'.zero = F64.add (.fin 5) (.fin 1) ∧ s'.mapping = some demoId := by
  have wf1 : Content.WF [((1 : Int), (2 : Rat))] := ⟨trivial, by decide +kernel⟩
  have wf2 : Content.WF [((3 : Int), (1 : Rat))] := ⟨trivial, by decide +kernel⟩
  have wf3 : Content.WF [((1 : Int), (1 : Rat)), (2, 4)] := ⟨⟨by decide, trivial⟩, by decide +kernel⟩
  exact merge_refines_sparse (some demoId) _ _ _ wf1 wf2 _ _ _
    ⟨Store.refines_sparse _ wf3, Store.refines_sparse _ Content.wf_nil⟩
    (by show demoId.equals demoId = true; exact demo_refl)

end DDS.Props.C02
