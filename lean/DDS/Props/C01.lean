/-
  DDS.Props.C01 — THE DDSketch guarantee, machine-checked on the model of
  `ddsketch/ddsketch.go` (`DDS.Model.Sketch`): after adding values with unit weights, the answer
  of `GetValueAtQuantile(q)` is within relative error `α` of an order statistic of rank
  `⌊q(n-1)⌋` or `⌈q(n-1)⌉` of the inputs.

  Scope: sparse stores (= the spec content, `Store.sp`), unit weights, `n ≤ 2^53` values of
  magnitude `≤ maxIndexable`; the mapping is the oracle `env` assumed to meet `Contract env α mn mx`
  (C03 proves the contract for the ideal formulas).  ALL the float arithmetic of
  `GetValueAtQuantile` is the exact binary64 model (`F64`): the counts add up exactly, the rank
  `q·(count-1)` is ROUNDED (it lands between the neighbouring integers), and so are the two
  subtractions `negCount-1-rank` and `rank-zero-negCount`; the theorem shows the rounding never
  moves the selected element outside `{⌊q(n-1)⌋, ⌈q(n-1)⌉}`.

  Ground truth: `sortedInputs mn xs` = the inputs with magnitudes `≤ minIndexable` replaced by 0,
  sorted ascending; `l[k]!` is list access (default 0, never used: `k < n`).
  `⌊·⌋ ⌈·⌉` are Mathlib's `Int.floor`/`Int.ceil` on `ℚ` (`⌊x⌋ = x.floor` by `rfl`,
  `⌈x⌉ = x.ceil` by `F64.rat_ceil_eq`).

  The lemmas they rest on are in `DDS.Proofs.Quantile`.
-/
import DDS.Proofs.Quantile

namespace DDS.Props.C01

open DDS DDS.QuantileEx

/-! ### adding never fails -/

/-- `AddWithCount(x, 1)` for values of magnitude at most `maxIndexable` is never refused and never
    panics on sparse stores — for any number of values. -/
theorem addAll_ok (env : MapEnv) (α mn mx : Rat) (C : Contract env α mn mx)
    (xs : List Rat) (hx : ∀ x ∈ xs, rabs x ≤ mx) :
    ∃ s, Sketch.addAll env (Sketch.new (some env.id) .sparse) (xs.map (fun x => (x, 1))) = some s :=
  ⟨_, addAll_units env α mn mx C xs hx (some env.id) [] [] (.fin 0)⟩

/-! ### the accuracy theorem -/

/-- **DDSketch accuracy.** -/
theorem quantile_accuracy
    (env : MapEnv) (α mn mx : Rat) (C : Contract env α mn mx)
    (xs : List Rat) (hx : ∀ x ∈ xs, rabs x ≤ mx) (hne : xs ≠ []) (hn : xs.length ≤ 2 ^ 53)
    (s : Sketch)
    (hs : Sketch.addAll env (Sketch.new (some env.id) .sparse) (xs.map (fun x => (x, 1))) = some s)
    (q : Rat) (hq0 : 0 ≤ q) (hq1 : q ≤ 1) :
    ∃ a : Rat, Sketch.quantile env s (.fin q) = .ok (.fin a) ∧
      ∃ k : Nat, k < xs.length ∧
        ((k : Int) = ⌊q * ((xs.length : Rat) - 1)⌋ ∨ (k : Int) = ⌈q * ((xs.length : Rat) - 1)⌉) ∧
        rabs (a - (sortedInputs mn xs)[k]!) ≤ α * rabs ((sortedInputs mn xs)[k]!) := by
  obtain ⟨k, hk, hfc, hqv⟩ := DDS.quantile_bin env α mn mx C xs hx hne hn s hs q hq0 hq1
  obtain ⟨a, ha, hacc⟩ := binRep_acc env α mn mx C _
    (sortedInputs_range mn mx xs hx _ (sortedInputs_get_mem mn xs k hk))
  exact ⟨a, by rw [hqv, ha], k, hk, hfc, hacc⟩

/-- The sharper form the accuracy theorem is derived from: the answer IS the (signed)
    representative of the bin of that order statistic — `value(index x)` for `x > 0`,
    `-value(index |x|)` for `x < 0`, and `0` for the zero bucket. -/
theorem quantile_bin
    (env : MapEnv) (α mn mx : Rat) (C : Contract env α mn mx)
    (xs : List Rat) (hx : ∀ x ∈ xs, rabs x ≤ mx) (hne : xs ≠ []) (hn : xs.length ≤ 2 ^ 53)
    (s : Sketch)
    (hs : Sketch.addAll env (Sketch.new (some env.id) .sparse) (xs.map (fun x => (x, 1))) = some s)
    (q : Rat) (hq0 : 0 ≤ q) (hq1 : q ≤ 1) :
    ∃ k : Nat, k < xs.length ∧
      ((k : Int) = ⌊q * ((xs.length : Rat) - 1)⌋ ∨ (k : Int) = ⌈q * ((xs.length : Rat) - 1)⌉) ∧
      Sketch.quantile env s (.fin q) = .ok (
        let x := (sortedInputs mn xs)[k]!
        if 0 < x then env.value (env.index (.fin (rabs x)))
        else if x < 0 then F64.neg (env.value (env.index (.fin (rabs x))))
        else .fin 0) :=
  DDS.quantile_bin env α mn mx C xs hx hne hn s hs q hq0 hq1

/-! ### the extreme quantiles -/

/-- `q = 0` answers the representative of the bin of the smallest input (0 if it is in the zero
    bucket). -/
theorem quantile_zero
    (env : MapEnv) (α mn mx : Rat) (C : Contract env α mn mx)
    (xs : List Rat) (hx : ∀ x ∈ xs, rabs x ≤ mx) (hne : xs ≠ []) (hn : xs.length ≤ 2 ^ 53)
    (s : Sketch)
    (hs : Sketch.addAll env (Sketch.new (some env.id) .sparse) (xs.map (fun x => (x, 1))) = some s) :
    (∀ y ∈ sortedInputs mn xs, (sortedInputs mn xs)[0]! ≤ y) ∧
    Sketch.quantile env s (.fin 0) = .ok (
      let x := (sortedInputs mn xs)[0]!
      if 0 < x then env.value (env.index (.fin (rabs x)))
      else if x < 0 then F64.neg (env.value (env.index (.fin (rabs x))))
      else .fin 0) := by
  obtain ⟨k, hk, hfc, hqv⟩ := DDS.quantile_bin env α mn mx C xs hx hne hn s hs 0 le_rfl (by norm_num)
  simp only [zero_mul, Int.floor_zero, Int.ceil_zero, or_self] at hfc
  obtain rfl : k = 0 := by omega
  exact ⟨sortedInputs_min mn xs, hqv⟩

/-- `q = 1` answers the representative of the bin of the largest input. -/
theorem quantile_one
    (env : MapEnv) (α mn mx : Rat) (C : Contract env α mn mx)
    (xs : List Rat) (hx : ∀ x ∈ xs, rabs x ≤ mx) (hne : xs ≠ []) (hn : xs.length ≤ 2 ^ 53)
    (s : Sketch)
    (hs : Sketch.addAll env (Sketch.new (some env.id) .sparse) (xs.map (fun x => (x, 1))) = some s) :
    (∀ y ∈ sortedInputs mn xs, y ≤ (sortedInputs mn xs)[xs.length - 1]!) ∧
    Sketch.quantile env s (.fin 1) = .ok (
      let x := (sortedInputs mn xs)[xs.length - 1]!
      if 0 < x then env.value (env.index (.fin (rabs x)))
      else if x < 0 then F64.neg (env.value (env.index (.fin (rabs x))))
      else .fin 0) := by
  obtain ⟨k, hk, hfc, hqv⟩ := DDS.quantile_bin env α mn mx C xs hx hne hn s hs 1 (by norm_num) le_rfl
  have hpos : 0 < xs.length := List.length_pos_iff.2 hne
  have e : (1 : Rat) * ((xs.length : Rat) - 1) = (((xs.length : Int) - 1 : Int) : Rat) := by
    push_cast; ring
  rw [e, Int.floor_intCast, Int.ceil_intCast, or_self] at hfc
  obtain rfl : k = xs.length - 1 := by omega
  exact ⟨sortedInputs_max mn xs, hqv⟩

/-! ### the hypotheses are satisfiable -/

/-- the contract is satisfiable (`QuantileEx.exEnv`: a two-bin mapping with `α = 1/2`, `γ = 3`:
    bin 0 = `(4/3, 4]` ↦ 2, bin 1 = `(4, 12]` ↦ 6) -/
example : Contract exEnv (1 / 2) (4 / 3) 12 := exContract

example : ∀ x ∈ exXs, rabs x ≤ 12 := exXs_ok

/-- all the hypotheses of `quantile_accuracy` hold together on a concrete instance (values on both
    sides and in the zero bucket), for every `q ∈ [0,1]` -/
example : ∃ s, Sketch.addAll exEnv (Sketch.new (some exEnv.id) .sparse) (exXs.map (fun x => (x, 1))) = some s ∧
    ∀ q : Rat, 0 ≤ q → q ≤ 1 →
      ∃ a : Rat, Sketch.quantile exEnv s (.fin q) = .ok (.fin a) ∧
        ∃ k : Nat, k < exXs.length ∧
          ((k : Int) = ⌊q * ((exXs.length : Rat) - 1)⌋ ∨ (k : Int) = ⌈q * ((exXs.length : Rat) - 1)⌉) ∧
          rabs (a - (sortedInputs (4 / 3) exXs)[k]!) ≤ 1 / 2 * rabs ((sortedInputs (4 / 3) exXs)[k]!) := by
  obtain ⟨s, hs⟩ := addAll_ok exEnv _ _ _ exContract exXs exXs_ok
  exact ⟨s, hs, fun q h0 h1 =>
    quantile_accuracy exEnv _ _ _ exContract exXs exXs_ok exXs_ne exXs_len s hs q h0 h1⟩

example : ∃ s, Sketch.addAll exEnv (Sketch.new (some exEnv.id) .sparse) (exXs.map (fun x => (x, 1))) = some s :=
  addAll_ok exEnv _ _ _ exContract exXs exXs_ok

end DDS.Props.C01
