/-
  DDS.Props.C06GenSketch — the sketch-level statements of C06 (round trip of the binary encoding,
  "encoding only appends", "encoding is observably pure") restated on the REGENERATED encoders
  `DDS.Gen.Sketch.DDSketch.Encode` / `DDSketchWithExactSummaryStatistics.Encode`
  (`DDS/Generated/CodeSketch.lean`, translated from `/repo/ddsketch/ddsketch.go` on every run).

  `DDS.GenSketch.Encode_rel` / `XEncode_rel` (`DDS/Proofs/GenSketch4.lean`) say that the regenerated
  encoders, instantiated with the model's mapping object and stores, append exactly the bytes of
  the blocks of the hand-written `Sketch.encode` / `XSketch.encode`; `DDS.Props.C06.decode_encode`,
  `xsketch_decode_encode`, `encode_observably_pure` say what those blocks decode to.  Combined: the
  BYTES THE REGENERATED ENCODER APPENDED to any prefix `b` decode (model decoder, fresh spec
  sketch) to the sketch that was encoded.

  Same hypotheses as the model theorems, plus: `env.id = m` (the mapping object of the generated
  structure is the sketch's mapping) and `9 ≤ fuel` (the varfloat64 loop of the zero count / count).
-/
import DDS.Proofs.GenSketch4
import DDS.Props.C06

namespace DDS.Props.C06GenSketch

open DDS DDS.GoSem DDS.Gen.Sketch DDS.GenEncoding DDS.GenSketch DDS.RoundTrip

/-- **C06 round trip on the regenerated encoder.**  Producer of any store kinds: the bytes
    `DDSketch.Encode` appends to the caller's buffer decode, into a fresh spec sketch, to the
    producer's mapping, zero bucket and contents. -/
theorem Encode_decode (s : Sketch) (cp cn : Content) (hs : s.Refines cp cn)
    (hp : EncOK s.pos) (hn : EncOK s.neg)
    (env : MapEnv) (hm : s.mapping = some env.id) (hmk : MapOK env.id)
    (z : Rat) (hz : s.zero = .fin z) (hzw : WOK z) (omitMapping : Bool)
    (fuel : Nat) (hf : 9 ≤ fuel) (b : List (BitVec 8)) :
    ∃ s' out, DDSketch.Encode fuel (toGen env s) b omitMapping = .ok (toGen env s', b ++ out) ∧
      Sketch.decodeAndMergeWith (Sketch.new (if omitMapping then some env.id else none) .sparse)
        (nb out) = some (.ok (Sketch.spec (some env.id) cp cn (.fin z))) := by
  obtain ⟨s', bl, he, hwf, hd⟩ :=
    C06.decode_encode s cp cn hs hp hn env.id hm hmk z hz hzw omitMapping
  refine ⟨s', bn (Wire.encBlocks bl),
    Encode_rel fuel hf env s b omitMapping (fun _ => hm) s' bl he, ?_⟩
  rw [nb_bn_encBlocks bl (fun x hx => (hwf x hx).1)]
  exact hd

/-- **C06 on the regenerated encoder: observably pure and appending.**  The call returns (no panic,
    no fuel exhaustion), the caller's bytes are kept in front, and the returned sketch observes like
    the same contents with the same mapping and zero bucket. -/
theorem Encode_observably_pure (s : Sketch) (cp cn : Content) (hs : s.Refines cp cn)
    (hp : EncOK s.pos) (hn : EncOK s.neg)
    (env : MapEnv) (hm : s.mapping = some env.id) (z : Rat) (hz : s.zero = .fin z)
    (omitMapping : Bool) (fuel : Nat) (hf : 9 ≤ fuel) (b : List (BitVec 8)) :
    ∃ s' out, DDSketch.Encode fuel (toGen env s) b omitMapping = .ok (toGen env s', b ++ out) ∧
      s'.Refines cp cn ∧ s'.mapping = s.mapping ∧ s'.zero = s.zero := by
  obtain ⟨s', bl, he, hr, h1, h2⟩ :=
    C06.encode_observably_pure s cp cn hs hp hn env.id hm z hz omitMapping
  exact ⟨s', _, Encode_rel fuel hf env s b omitMapping (fun _ => hm) s' bl he, hr, h1, h2⟩

/-- **C06 round trip of the exact-summary variant on the regenerated encoder**: the appended bytes
    decode into a fresh exact-summary sketch to the same sketch with count, sum, min and max
    restored. -/
theorem XEncode_decode (x : XSketch) (cp cn : Content) (hs : x.sk.Refines cp cn)
    (hp : EncOK x.sk.pos) (hn : EncOK x.sk.neg)
    (env : MapEnv) (hm : x.sk.mapping = some env.id) (hmk : MapOK env.id)
    (z : Rat) (hz : x.sk.zero = .fin z) (hzw : WOK z)
    (c S mn mx : Rat) (hst : StatsOK x.st c S mn mx) (omitMapping : Bool)
    (fuel : Nat) (hf : 9 ≤ fuel) (b : List (BitVec 8)) :
    ∃ x' out, DDSketchWithExactSummaryStatistics.Encode fuel (toGenX env x) b omitMapping
        = .ok (toGenX env x', b ++ out) ∧
      XSketch.decodeAndMergeWith (XSketch.new (if omitMapping then some env.id else none) .sparse)
        (nb out) =
        some (.ok { sk := Sketch.spec (some env.id) cp cn (.fin z), st := restored c S mn mx }) := by
  obtain ⟨x', xbl, he, hd⟩ :=
    C06.xsketch_decode_encode x cp cn hs hp hn env.id hm hmk z hz hzw c S mn mx hst omitMapping
  obtain ⟨s', bl, hes, hwf, _⟩ :=
    C06.decode_encode x.sk cp cn hs hp hn env.id hm hmk z hz hzw omitMapping
  rw [RoundTrip.xencode_eq, hes] at he
  cases he
  refine ⟨_, bn (Wire.encBlocks (statBlocks x.st ++ bl)),
    XEncode_rel fuel hf env x b omitMapping (fun _ => hm) _ _ (by rw [RoundTrip.xencode_eq, hes]; rfl), ?_⟩
  rw [nb_bn_encBlocks _ fun y hy =>
    (List.mem_append.1 hy).elim (RoundTrip.statBlocks_wf x.st y) fun h => (hwf y h).1]
  exact hd

/-! ### concrete instances (the hypotheses are satisfiable) -/

section Examples
open DDS.Props.C06

/-- a mapping object whose identity is `C06.exM` (logarithmic, gamma 1.125) -/
def exEnv : MapEnv := { (default : MapEnv) with id := exM }

-- dense positive store, paginated negative store, zero bucket 3/4; any prefix, any fuel ≥ 9
example (om : Bool) (fuel : Nat) (hf : 9 ≤ fuel) (b : List (BitVec 8)) :
    ∃ s' out, DDSketch.Encode fuel (toGen exEnv exS) b om = .ok (toGen exEnv s', b ++ out) ∧
      Sketch.decodeAndMergeWith (Sketch.new (if om then some exM else none) .sparse) (nb out)
        = some (.ok (Sketch.spec (some exM) exCp exCn (.fin (3 / 4)))) :=
  Encode_decode exS exCp exCn exS_refines exS_pos exS_neg exEnv rfl exM_ok (3 / 4) rfl
    (by decide +kernel) om fuel hf b

example (fuel : Nat) (hf : 9 ≤ fuel) (b : List (BitVec 8)) :
    ∃ x' out, DDSketchWithExactSummaryStatistics.Encode fuel (toGenX exEnv exX) b false
        = .ok (toGenX exEnv x', b ++ out) ∧
      XSketch.decodeAndMergeWith (XSketch.new none .sparse) (nb out) =
        some (.ok { sk := Sketch.spec (some exM) exCp exCn (.fin (3 / 4)),
                    st := restored (43 / 4) 10 (-3) 9 }) :=
  XEncode_decode exX exCp exCn exS_refines exS_pos exS_neg exEnv rfl exM_ok (3 / 4) rfl
    (by decide +kernel) (43 / 4) 10 (-3) 9 exX_stats false fuel hf b

end Examples

end DDS.Props.C06GenSketch
