/-
  DDS.Props.C18Bits — the arithmetic forms used in `DDS.Model.Codec` agree with the bit tricks
  of `encoding.go` on 64-bit words (`BitVec 64`).
-/
import DDS.Proofs.Codec

namespace DDS.Props.C18Bits

open DDS DDS.Codec

/-- `uint64(v>>63 ^ v<<1)` (arithmetic shift on `int64`) is `zigzag`. -/
theorem zigzag_bits (v : BitVec 64) :
    (v.sshiftRight 63 ^^^ v <<< 1).toNat = zigzag v.toInt := by
  have hlt := v.isLt
  rw [BitVec.toInt_eq_msb_cond]
  cases hm : v.msb with
  | false =>
    have h63 : v.toNat < 2 ^ 63 := by simpa [BitVec.msb_eq_decide] using hm
    have hz : v >>> 63 = 0#64 := BitVec.eq_of_toNat_eq (by
      rw [BitVec.toNat_ushiftRight, Nat.shiftRight_eq_div_pow]; exact Nat.div_eq_of_lt h63)
    rw [BitVec.sshiftRight_eq_of_msb_false hm, hz, BitVec.zero_xor, BitVec.toNat_shiftLeft,
      Nat.shiftLeft_eq]
    simp only [zigzag, Bool.false_eq_true, if_false, if_pos (Int.natCast_nonneg _)]
    omega
  | true =>
    have h63 : 2 ^ 63 ≤ v.toNat := by simpa [BitVec.msb_eq_decide] using hm
    have hz : ~~~v >>> 63 = 0#64 := BitVec.eq_of_toNat_eq (by
      rw [BitVec.toNat_ushiftRight, Nat.shiftRight_eq_div_pow, BitVec.toNat_not]
      exact Nat.div_eq_of_lt (by omega))
    rw [BitVec.sshiftRight_eq_of_msb_true hm, hz, show ~~~(0#64) = BitVec.allOnes 64 by decide,
      BitVec.allOnes_xor, BitVec.toNat_not, BitVec.toNat_shiftLeft, Nat.shiftLeft_eq]
    simp only [zigzag, if_true]
    split <;> omega

example : ((-3 : BitVec 64).sshiftRight 63 ^^^ (-3 : BitVec 64) <<< 1).toNat = 5 := by decide

/-- `int64((u >> 1) ^ -(u & 1))` is `unzigzag`. -/
theorem unzigzag_bits (u : BitVec 64) :
    ((u >>> 1) ^^^ -(u &&& 1#64)).toInt = unzigzag u.toNat := by
  have hlt := u.isLt
  have hand : (u &&& 1#64).toNat = u.toNat % 2 := by
    rw [BitVec.toNat_and]
    exact Nat.and_two_pow_sub_one_eq_mod u.toNat 1
  have hs : (u >>> 1).toNat = u.toNat / 2 := by
    rw [BitVec.toNat_ushiftRight, Nat.shiftRight_eq_div_pow, Nat.pow_one]
  unfold unzigzag
  by_cases hpar : u.toNat % 2 = 0
  · have h1 : u &&& 1#64 = 0#64 := by
      apply BitVec.eq_of_toNat_eq; rw [hand, hpar]; rfl
    have hneg : -(0#64) = 0#64 := by decide
    rw [h1, hneg, BitVec.xor_zero, BitVec.toInt_eq_msb_cond, BitVec.msb_eq_decide, hs]
    have : ¬ (2 ^ (64 - 1) ≤ u.toNat / 2) := by omega
    simp only [hpar, if_true, this, decide_false, Bool.false_eq_true, if_false]
  · have h1 : u &&& 1#64 = 1#64 := by
      apply BitVec.eq_of_toNat_eq; rw [hand]
      have : (1#64).toNat = 1 := by decide
      omega
    have hneg : -(1#64) = BitVec.allOnes 64 := by decide
    rw [h1, hneg, BitVec.xor_allOnes, BitVec.toInt_eq_msb_cond, BitVec.msb_eq_decide,
      BitVec.toNat_not, hs]
    have : 2 ^ (64 - 1) ≤ 2 ^ 64 - 1 - u.toNat / 2 := by omega
    simp only [hpar, if_false, this, decide_true, if_true]
    omega

example : ((5#64 >>> 1) ^^^ -(5#64 &&& 1#64)).toInt = -3 := by decide

/-- One continuation step of `EncodeUvarint64`: the byte `byte(v) | 0x80`, and `v >>= 7`. -/
theorem uvarint_step_bits (v : BitVec 64) :
    ((v.setWidth 8) ||| 0x80#8).toNat = v.toNat % 128 + 128 ∧ (v >>> 7).toNat = v.toNat / 128 := by
  have h : ∀ n, n < 256 → n ||| 128 = n % 128 + 128 := by decide +kernel
  constructor
  · rw [BitVec.toNat_or, BitVec.toNat_setWidth]
    show v.toNat % 256 ||| 128 = _
    rw [h _ (Nat.mod_lt _ (by decide)), Nat.mod_mod_of_dvd _ (by decide)]
  · rw [BitVec.toNat_ushiftRight, Nat.shiftRight_eq_div_pow]

/-- One step of `DecodeUvarint64` / `DecodeVarfloat64`: `x | uint64(n) << s` is an addition when
    the accumulator only has bits below `s`. -/
theorem acc_or_bits (x n : BitVec 64) (s : Nat) (hx : x.toNat < 2 ^ s) :
    (x ||| n <<< s).toNat = (x.toNat + n.toNat * 2 ^ s) % W64 := by
  rw [BitVec.toNat_or, BitVec.toNat_shiftLeft, ← Nat.mod_eq_of_lt x.isLt, ← Nat.or_mod_two_pow,
    Nat.mod_eq_of_lt x.isLt, Nat.or_comm, ← Nat.shiftLeft_add_eq_or_of_lt hx, Nat.shiftLeft_eq,
    Nat.add_comm]
  rfl

/-- Byte `i` written by `binary.LittleEndian.PutUint64`. -/
theorem f64le_byte_bits (b : BitVec 64) (i : Nat) :
    ((b >>> (8 * i)).setWidth 8).toNat = b.toNat / 256 ^ i % 256 := by
  rw [BitVec.toNat_setWidth, BitVec.toNat_ushiftRight, Nat.shiftRight_eq_div_pow, Nat.pow_mul]

/-- `bits.RotateLeft64(x, r)` for `0 ≤ r < 64`. -/
theorem rotl64_bits (x : BitVec 64) (r : Nat) (hr : r < 64) :
    (x.rotateLeft r).toNat = rotl64 x.toNat r := by
  have hb := shiftRight_lt x (Nat.sub_le 64 r)
  rw [Nat.sub_sub_self (Nat.le_of_lt hr)] at hb
  rw [BitVec.toNat_rotateLeft, Nat.mod_eq_of_lt hr, shiftLeft_mod _ (Nat.le_of_lt hr),
    ← Nat.shiftLeft_add_eq_or_of_lt hb, ← shiftLeft_mod _ (Nat.le_of_lt hr), Nat.shiftLeft_eq,
    Nat.shiftRight_eq_div_pow]
  rfl

/-- `bits.RotateLeft64(x, -r)` for `0 ≤ r < 64` (a right rotation). -/
theorem rotr64_bits (x : BitVec 64) (r : Nat) (hr : r < 64) :
    (x.rotateRight r).toNat = rotr64 x.toNat r := by
  rw [BitVec.toNat_rotateRight, Nat.mod_eq_of_lt hr, shiftLeft_mod _ (Nat.sub_le 64 r),
    Nat.sub_sub_self (Nat.le_of_lt hr), Nat.or_comm, ← Nat.shiftLeft_add_eq_or_of_lt (shiftRight_lt x (Nat.le_of_lt hr)),
    Nat.shiftLeft_eq, Nat.shiftRight_eq_div_pow, Nat.add_comm]
  rfl

/-- `RotateLeft64(Float64bits(v+1) - Float64bits(1), 6)` is `vfWord`. -/
theorem vfWord_bits (b : BitVec 64) :
    ((b - BitVec.ofNat 64 oneBits).rotateLeft 6).toNat = vfWord b.toNat := by
  rw [rotl64_bits _ 6 (by decide), BitVec.toNat_sub]
  unfold vfWord
  have h6 : Consts.varfloat64Rotate = 6 := by decide
  have ho : (BitVec.ofNat 64 oneBits).toNat = oneBits := by decide
  rw [h6, ho]
  have e : (2 ^ 64 - oneBits + b.toNat) % 2 ^ 64 = (b.toNat + W64 - oneBits) % W64 := by
    unfold W64 oneBits
    omega
  rw [e]

/-- `RotateLeft64(x, -6) + Float64bits(1)` is `vfUnword`. -/
theorem vfUnword_bits (x : BitVec 64) :
    (x.rotateRight 6 + BitVec.ofNat 64 oneBits).toNat = vfUnword x.toNat := by
  rw [BitVec.toNat_add, rotr64_bits _ 6 (by decide)]
  unfold vfUnword
  have h6 : Consts.varfloat64Rotate = 6 := by decide
  have ho : (BitVec.ofNat 64 oneBits).toNat = oneBits := by decide
  rw [h6, ho]
  rfl

/-- One step of `EncodeVarfloat64`: `byte(x >> 57)` and `x <<= 7`. -/
theorem varfloat_step_bits (x : BitVec 64) :
    (x >>> 57).toNat = x.toNat / 2 ^ 57 ∧ (x <<< 7).toNat = x.toNat * 128 % W64 := by
  constructor
  · rw [BitVec.toNat_ushiftRight, Nat.shiftRight_eq_div_pow]
  · rw [BitVec.toNat_shiftLeft, Nat.shiftLeft_eq]; rfl

/-- `bits.LeadingZeros64`. -/
theorem lzcnt64_bits (x : BitVec 64) : x.clz.toNat = lzcnt64 x.toNat := by
  unfold lzcnt64
  by_cases h0 : x = 0#64
  · subst h0; decide
  · have hne : x.toNat ≠ 0 := by
      intro h; apply h0; apply BitVec.eq_of_toNat_eq; simpa using h
    have hc : x.clz.toNat < 64 := by
      have := (BitVec.clz_lt_iff_ne_zero (x := x)).mpr h0
      rw [BitVec.lt_def] at this
      simpa using this
    have hlo := BitVec.two_pow_sub_clz_le_toNat_of_ne_zero (x := x) (by decide) h0
    have hhi := BitVec.toNat_lt_two_pow_sub_clz (x := x)
    simp only [hne, if_false]
    have h1 : x.toNat.log2 < 64 - x.clz.toNat := (Nat.log2_lt hne).mpr hhi
    have h2 : ¬ x.toNat.log2 < 64 - 1 - x.clz.toNat := by
      rw [Nat.log2_lt hne]; omega
    omega

/-- `tzcnt64` is determined by the lowest set bit. -/
theorem tzcnt64_eq_of (x t : Nat) (ht : t < 64) (hbit : x / 2 ^ t % 2 = 1)
    (hlow : ∀ j, j < t → x / 2 ^ j % 2 = 0) : tzcnt64 x = t := by
  unfold tzcnt64
  have h0 : x ≠ 0 := by
    intro h; subst h; simp at hbit
  have : (List.range 64).find? (fun i => decide ((x / 2 ^ i) % 2 = 1)) = some t := by
    rw [List.find?_range_eq_some]
    refine ⟨by simpa using hbit, List.mem_range.mpr ht, ?_⟩
    intro j hj
    have := hlow j hj
    simp [this]
  simp only [h0, if_false, this, Option.getD_some]

/-- `bits.TrailingZeros64`. -/
theorem tzcnt64_bits (x : BitVec 64) : x.ctz.toNat = tzcnt64 x.toNat := by
  by_cases h0 : x = 0#64
  · subst h0
    have hr : (0#64).reverse = 0#64 := BitVec.reverse_eq_zero_iff.mpr rfl
    have hz : (0#64).ctz = 64#64 := by
      rw [BitVec.ctz_eq_reverse_clz, hr]
      exact BitVec.clz_eq_iff_eq_zero.mpr rfl
    rw [hz]; decide
  · have hc : x.ctz.toNat < 64 := by
      have := (BitVec.ctz_lt_iff_ne_zero (x := x)).mpr h0
      rw [BitVec.lt_def] at this
      simpa using this
    symm
    apply tzcnt64_eq_of _ _ hc
    · have := BitVec.getLsbD_true_ctz_of_ne_zero (x := x) h0
      rw [← BitVec.testBit_toNat, Nat.testBit_eq_decide_div_mod_eq] at this
      simpa using this
    · intro j hj
      have := BitVec.getLsbD_false_of_lt_ctz (x := x) hj
      rw [← BitVec.testBit_toNat, Nat.testBit_eq_decide_div_mod_eq] at this
      have := of_decide_eq_false this
      omega

example : (0x0400000000000030#64).ctz.toNat = 4 := by rw [tzcnt64_bits]; decide
example : (0x0400000000000030#64).clz.toNat = 5 := by rw [lzcnt64_bits]; decide
example : ((0x4059000000000000#64 - BitVec.ofNat 64 oneBits).rotateLeft 6).toNat
    = vfWord 0x4059000000000000 := vfWord_bits _

end DDS.Props.C18Bits
