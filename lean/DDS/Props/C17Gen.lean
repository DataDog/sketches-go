/-
  DDS.Props.C17Gen — C17 ("changing mapping or unit conserves weight …") on the REGENERATED
  `changeStoreMapping` / `DDSketch.ChangeMapping` (`DDS/Generated/CodeSketch.lean`, translated from
  ddsketch.go on every run), transported from the model's theorems (`Props/C17.lean`, `Props/C17Sketch.lean`)
  through `Proofs/GenSketch6.lean` (`changeStoreMapping_eq`: the target store receives exactly the calls
  `AddWithCount(i, w)` for `(i, w)` in the model's `spreadStore`, in order).

  "What the regenerated code hands to the new store" is made observable in two ways:
  * for ANY store type, the result is `addAll newStore l` with `l` the list the theorems talk about;
  * with the RECORDING store `Rec` (a `StoreI` instance whose `AddWithCount` only logs the call and whose
    `ForEach` enumerates a given list of bins) the log IS that list: `gen_calls_eq`.

  * `gen_weights_not_neg`      : no weight handed to the new store is negative — ALL floats (NaN, ±∞ bounds
                                 included), any two mappings, any scale factor, whenever no source count is negative;
  * `gen_indexes_overlap`      : every call goes to a target bin whose lower bound is below the scaled upper
                                 bound of some source bin (and, unless the weight is NaN, whose upper bound is above its
                                 scaled lower bound);
  * `gen_total`                : when each source bin's contributions add up to its weight
                                 (`C17.spreadBin_spec_total`), the logged weights add up to the source's total;
  * `gen_changeMapping_identity` : scale exactly 1 and an `Equals` mapping: a copy of the receiver, target
                                 stores untouched;
  * `gen_changeMapping_pure`   : the source is not modified — BY CONSTRUCTION: the generated function takes
                                 the receiver as a value and returns (targets, new sketch) only; what can be said is
                                 that the returned sketch is a `Copy` of the receiver or a sketch on the new mapping
                                 with the receiver's zero count, and on the model's stores the receiver read back
                                 (`ofGen`) is the same model sketch before and after.
-/
import DDS.Props.C17Sketch
import DDS.Proofs.GenSketch6

namespace DDS.Props.C17Gen

open DDS DDS.GoSem DDS.Gen.Sketch DDS.ChangeMapping DDS.GenSketch

/-! ### where a contribution comes from -/

theorem mem_spreadStoreF {old new : MapEnv} {scale : F64} {bins : List (Int × F64)} {fuel : Nat}
    {q : Int × F64} (h : q ∈ spreadStoreF old new scale bins fuel) :
    ∃ b ∈ bins, q ∈ spreadBin new (F64.mul (old.lowerBound b.1) scale)
      (F64.mul (old.lowerBound (b.1 + 1)) scale) b.2 fuel (new.index (F64.mul (old.lowerBound b.1) scale)) := by
  simp only [spreadStoreF, List.mem_flatMap] at h
  obtain ⟨b, hb, hq⟩ := h
  exact ⟨b, hb, hq⟩

theorem spreadStoreF_not_neg (old new : MapEnv) (scale : F64) (bins : List (Int × F64)) (fuel : Nat)
    (hc : ∀ b ∈ bins, F64.lt b.2 (.fin 0) = false) :
    ∀ q ∈ spreadStoreF old new scale bins fuel, F64.lt q.2 (.fin 0) = false := by
  intro q hq
  obtain ⟨b, hb, hmem⟩ := mem_spreadStoreF hq
  exact C17.spreadBin_weights_not_neg new _ _ b.2 (hc b hb) fuel _ q.1 q.2 hmem

/-! ### any store -/

/-- **never a negative weight**, regenerated code, any mapping and store types, all floats: the target
    store has received a list of calls none of whose weights is negative -/
theorem gen_weights_not_neg_any {M S : Type} [MapI M] [StoreI S] [Inhabited M] [Inhabited S] (oldM newM : M)
    (old new : MapEnv) (hold : MapAgrees oldM old) (hnew : MapAgrees newM new) (scale : F64) (fuel : Nat)
    (oldStore newStore r : S)
    (hc : ∀ b ∈ StoreI.ForEachList oldStore, F64.lt b.2 (.fin 0) = false)
    (h : changeStoreMapping fuel oldM newM oldStore newStore scale = .ok r) :
    ∃ l, r = addAll newStore l ∧ ∀ q ∈ l, F64.lt q.2 (.fin 0) = false := by
  rw [changeStoreMapping_eq oldM newM old new hold hnew] at h
  split at h
  · cases h
    exact ⟨_, rfl, spreadStoreF_not_neg old new scale _ fuel hc⟩
  · cases h

/-! ### the recording store -/

/-- a store that only records: `ForEach` enumerates `bins`, `AddWithCount` appends the call to `calls` -/
structure Rec where
  bins : List (Int × F64)
  calls : List (Int × F64)
deriving Inhabited

instance : StoreI Rec where
  Add st i := { st with calls := st.calls ++ [(i, .fin 1)] }
  AddWithCount st i c := { st with calls := st.calls ++ [(i, c)] }
  Copy st := st
  Clear st := { st with bins := [] }
  IsEmpty st := st.bins.isEmpty
  MaxIndex _ := (0, GoErr.nil)
  MinIndex _ := (0, GoErr.nil)
  TotalCount _ := .fin 0
  KeyAtRank _ _ := 0
  MergeWith st _ := st
  Reweight st _ := (st, GoErr.nil)
  Encode st b _ := (st, b)
  ForEachList st := st.bins
  DecodeAndMergeWith st b _ := (st, b, GoErr.nil)

theorem addAll_rec (st : Rec) (l : List (Int × F64)) :
    addAll st l = { st with calls := st.calls ++ l } := by
  induction l generalizing st with
  | nil => simp
  | cons p rest ih =>
    rw [addAll_cons, ih]
    show ({ bins := st.bins, calls := (st.calls ++ [(p.1, p.2)]) ++ rest } : Rec) = _
    simp

/-- the calls the regenerated `changeStoreMapping` makes on the new store are exactly the model's
    contributions, in order -/
theorem gen_calls_eq {M : Type} [MapI M] [Inhabited M] (oldM newM : M) (old new : MapEnv)
    (hold : MapAgrees oldM old) (hnew : MapAgrees newM new) (scale : F64) (fuel : Nat)
    (bins : List (Int × F64)) (r : Rec)
    (h : changeStoreMapping fuel oldM newM ({ bins := bins, calls := [] } : Rec) { bins := [], calls := [] } scale
      = .ok r) :
    r.calls = spreadStoreF old new scale bins fuel := by
  rw [changeStoreMapping_eq oldM newM old new hold hnew] at h
  split at h
  · cases h
    rw [addAll_rec]
    show [] ++ spreadStoreF old new scale bins fuel = _
    simp
  · cases h

/-- **never a negative weight**: no call `AddWithCount(i, w)` made by the regenerated code has `w < 0` -/
theorem gen_weights_not_neg {M : Type} [MapI M] [Inhabited M] (oldM newM : M) (old new : MapEnv)
    (hold : MapAgrees oldM old) (hnew : MapAgrees newM new) (scale : F64) (fuel : Nat)
    (bins : List (Int × F64)) (hc : ∀ b ∈ bins, F64.lt b.2 (.fin 0) = false) (r : Rec)
    (h : changeStoreMapping fuel oldM newM ({ bins := bins, calls := [] } : Rec) { bins := [], calls := [] } scale
      = .ok r) :
    ∀ q ∈ r.calls, F64.lt q.2 (.fin 0) = false := by
  rw [gen_calls_eq oldM newM old new hold hnew scale fuel bins r h]
  exact spreadStoreF_not_neg old new scale bins fuel hc

/-- **only to overlapping bins**: every call comes from a source bin `b` whose scaled range the target bin
    meets -/
theorem gen_indexes_overlap {M : Type} [MapI M] [Inhabited M] (oldM newM : M) (old new : MapEnv)
    (hold : MapAgrees oldM old) (hnew : MapAgrees newM new) (scale : F64) (fuel : Nat)
    (bins : List (Int × F64)) (r : Rec)
    (h : changeStoreMapping fuel oldM newM ({ bins := bins, calls := [] } : Rec) { bins := [], calls := [] } scale
      = .ok r) :
    ∀ q ∈ r.calls, ∃ b ∈ bins,
      F64.lt (new.lowerBound q.1) (F64.mul (old.lowerBound (b.1 + 1)) scale) = true ∧
      (q.2 = .nan ∨ F64.lt (F64.mul (old.lowerBound b.1) scale) (new.lowerBound (q.1 + 1)) = true) := by
  rw [gen_calls_eq oldM newM old new hold hnew scale fuel bins r h]
  intro q hq
  obtain ⟨b, hb, hmem⟩ := mem_spreadStoreF hq
  exact ⟨b, hb, C17.spreadBin_indexes_overlap new _ _ b.2 fuel _ q.1 q.2 hmem⟩

/-- **weight conservation**: when every source bin's contributions add up to its weight (the hypothesis
    `C17.spreadBin_spec_total` discharges), the weights handed to the new store add up to the source's total -/
theorem gen_total (old new : MapEnv) (scale : F64) (fuel : Nat) (bins : List (Int × Rat)) (r : Rec)
    (hbin : ∀ p ∈ bins,
      ((spreadBin new (F64.mul (old.lowerBound p.1) scale) (F64.mul (old.lowerBound (p.1 + 1)) scale)
          (.fin p.2) fuel (new.index (F64.mul (old.lowerBound p.1) scale))).map
        fun q => Rebin.ratOfF q.2).sum = p.2)
    (h : changeStoreMapping fuel old new
      ({ bins := bins.map fun p => (p.1, F64.fin p.2), calls := [] } : Rec) { bins := [], calls := [] } scale
      = .ok r) :
    (r.calls.map fun q => Rebin.ratOfF q.2).sum = (bins.map Prod.snd).sum := by
  rw [gen_calls_eq old new old new (MapAgrees.refl old) (MapAgrees.refl new) scale fuel _ r h,
    spreadStoreF_fin]
  exact C17.spreadStore_total old new scale bins fuel hbin

/-- non-vacuity: the regenerated code run on a concrete source (one bin `[1, 2)·5 = [5, 10)` of weight 8,
    target bins `[2^j, 2^(j+1))`, loop started at `j = 0`): bins 0 and 1 only touch or miss the range
    (`continue`), bin 2 `[4,8)` and bin 3 `[8,16)` receive a weight, the loop exits at `j = 4` (5 units of
    fuel); with 4 units it reports `nofuel` -/
example : (match changeStoreMapping 5 (C17.envPow2 0) (C17.envPow2 0)
    ({ bins := [(0, .fin 8)], calls := [] } : Rec) { bins := [], calls := [] } (.fin 5) with
    | .ok r => r.calls.map (·.1) == [2, 3] && r.calls.all (fun q => F64.lt (.fin 0) q.2)
    | _ => false) = true := by decide +kernel

example : (match changeStoreMapping 4 (C17.envPow2 0) (C17.envPow2 0)
    ({ bins := [(0, .fin 8)], calls := [] } : Rec) { bins := [], calls := [] } (.fin 5) with
    | .nofuel => true
    | _ => false) = true := by decide +kernel

/-- … whereas the model's list is already complete with 4 (it needs one unit per visited bin, the generated
    loop one more for the failing test of the loop condition) and silently truncated with 3 -/
example : (spreadStoreF (C17.envPow2 0) (C17.envPow2 0) (.fin 5) [(0, .fin 8)] 4).map (·.1) = [2, 3] ∧
    (spreadStoreF (C17.envPow2 0) (C17.envPow2 0) (.fin 5) [(0, .fin 8)] 3).map (·.1) = [2] := by
  decide +kernel

/-! ### the whole sketch -/

/-- identity shortcut on the regenerated code (and on the model: `C17Sketch.changeMapping_identity`) -/
theorem gen_changeMapping_identity (old new : MapEnv) (s : Sketch) (scale : F64) (fuel : Nat) (pos neg : Store)
    (hs : F64.eq scale F64.one = true) (hm : old.id.equals new.id = true) :
    DDSketch.ChangeMapping fuel (toGen old s) new pos neg scale = .ok (pos, neg, toGen old s) ∧
    ofGen (toGen old s) = { s with mapping := some old.id } ∧
    changeMapping old new s scale fuel = some s :=
  ⟨(ChangeMapping_identity old new s scale fuel pos neg hs hm).1, rfl,
    C17Sketch.changeMapping_identity old new s scale fuel hs hm⟩

/-- the source is not modified.  BY CONSTRUCTION in the regenerated code: the receiver is a value, the
    function returns the two target stores and the new sketch, nothing else (the translator would return a
    new receiver in front of the results if the Go code assigned through `s`).  What remains to be said:
    the returned sketch is a `Copy` of the receiver, or carries the new mapping and the receiver's zero count. -/
theorem gen_changeMapping_pure {M S : Type} [MapI M] [StoreI S] [Inhabited M] [Inhabited S] (g : DDSketch M S)
    (newM : M) (scale : F64) (fuel : Nat) (pos neg : S) (r : S × S × DDSketch M S)
    (h : DDSketch.ChangeMapping fuel g newM pos neg scale = .ok r) :
    r.2.2 = DDSketch.Copy g ∨ (r.2.2.IndexMapping = newM ∧ r.2.2.zeroCount = g.zeroCount) := by
  unfold DDSketch.ChangeMapping at h
  split at h
  · cases h; exact Or.inl rfl
  · right
    cases hp : changeStoreMapping fuel g.IndexMapping newM g.positiveValueStore pos scale with
    | ok p =>
      cases hn : changeStoreMapping fuel g.IndexMapping newM g.negativeValueStore neg scale with
      | ok n =>
        rw [hp, hn] at h
        simp only [Res.bind_ok, Res.ok.injEq] at h
        subst h
        exact ⟨rfl, rfl⟩
      | panic => rw [hp, hn] at h; cases h
      | nofuel => rw [hp, hn] at h; cases h
    | panic => rw [hp] at h; cases h
    | nofuel => rw [hp] at h; cases h

/-- … and against the model (`C17Sketch.changeMapping_pure`), empty sparse targets: the returned sketch,
    read back, is the model's `t`, which is the source itself or a sketch on the new mapping with the
    source's zero weight -/
theorem gen_changeMapping_pure_model (old new : MapEnv) (s t : Sketch) (scale : F64) (fuel : Nat)
    (p n : List (Int × Rat)) (hp : s.pos.binsList = some p) (hn : s.neg.binsList = some n)
    (hne : (F64.eq scale F64.one && old.id.equals new.id) = false)
    (hexp : allExit old new scale fuel (p.map (·.1)) = true)
    (hexn : allExit old new scale fuel (n.map (·.1)) = true)
    (hm : changeMapping old new s scale fuel = some t) :
    DDSketch.ChangeMapping fuel (toGen old s) new (Store.sp []) (Store.sp []) scale
        = .ok (t.pos, t.neg, toGen new t) ∧
      (t = s ∨ (t.mapping = some new.id ∧ t.zero = s.zero)) :=
  ⟨ChangeMapping_rel old new s t scale fuel p n hp hn hne hexp hexn hm,
    C17Sketch.changeMapping_pure old new s t scale fuel hm⟩

end DDS.Props.C17Gen
