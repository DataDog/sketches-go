/-
  DDS.Props.C12 — coherence of the observers of a sketch, on spec sketches
  `Sketch.spec m cp cn (.fin zq)` with canonical contents and a non-negative zero bucket.
  (`DDS.Proofs.SketchObs` transports every statement to any sketch refining `cp`, `cn`.)

  The exactness hypothesis `hx` says that the float sums of `GetCount()` are exact:
  `F64.add (F64.add z (.fin cp.total)) (.fin cn.total) = .fin (zq + cp.total + cn.total)`.

  The file starts with what `GetMinValue` / `GetMaxValue` are on a spec sketch (`Extremes.IsMinOf`:
  a lower bound of the values the sketch can answer, and one of them; the maximum by the mirror
  symmetry `getMax_eq_neg_getMin`), which `min_le_max` here and `DDS.Props.C12x` rest on.
  What exact counting gives the rank (`count_eq_total`, `qrank_spec`, `quantile_congr_exact`) is in
  `DDS.Props.C12Exact`.
-/
import DDS.Proofs.SketchObs
import DDS.Proofs.Quantile
import DDS.Props.C13
import DDS.Props.C12Exact

namespace DDS

namespace Extremes
open Content

/-- the representative of bin `i` as a rational (0 if the oracle's answer is not finite, which the
    contract excludes) -/
def valQ (env : MapEnv) (i : Int) : Rat :=
  match env.value i with
  | .fin r => r
  | _ => 0

theorem getMin_sp (env : MapEnv) (m : Option MapId) (cp cn : Content) (z : F64) :
    (Sketch.spec m cp cn z).getMin env =
      (if !cn.isEmpty then
        match cn.maxIndex? with
        | some k => .ok (F64.neg (env.value k))
        | none => .ok (F64.neg (env.value 0))
      else if F64.gt z (.fin 0) then .ok (.fin 0)
      else match cp.minIndex? with
        | some k => .ok (env.value k)
        | none => .error .empty) := rfl

theorem getMax_sp (env : MapEnv) (m : Option MapId) (cp cn : Content) (z : F64) :
    (Sketch.spec m cp cn z).getMax env =
      (if !cp.isEmpty then
        match cp.maxIndex? with
        | some k => .ok (env.value k)
        | none => .ok (env.value 0)
      else if F64.gt z (.fin 0) then .ok (.fin 0)
      else match cn.minIndex? with
        | some k => .ok (F64.neg (env.value k))
        | none => .error .empty) := rfl

/-- `GetMaxValue` is `GetMinValue` of the mirrored sketch (stores exchanged), negated -/
theorem getMax_eq_neg_getMin (env : MapEnv) (m : Option MapId) (cp cn : Content) (z : F64) :
    (Sketch.spec m cp cn z).getMax env = ((Sketch.spec m cn cp z).getMin env).map F64.neg := by
  rw [getMax_sp, getMin_sp]
  split
  · cases cp.maxIndex? <;> simp only [Except.map, F64.neg_neg]
  · split
    · simp [Except.map, F64.neg]
    · cases cn.minIndex? <;> rfl

section
variable {env : MapEnv} {α mn mx : Rat} (C : Contract env α mn mx)
include C

theorem value_eq (i : Int) : env.value i = .fin (valQ env i) := by
  obtain ⟨r, hr, _⟩ := C.valFin i
  unfold valQ; rw [hr]

theorem valQ_pos (i : Int) : 0 < valQ env i := by
  obtain ⟨r, hr, h0⟩ := C.valFin i
  unfold valQ; rw [hr]; exact h0

theorem valQ_mono {i j : Int} (h : i ≤ j) : valQ env i ≤ valQ env j :=
  C.valMono i j _ _ h (value_eq C i) (value_eq C j)

end

/-- `a` is one of the values the spec sketch can answer and a lower bound of all of them -/
structure IsMinOf (env : MapEnv) (cp cn : Content) (zq a : Rat) : Prop where
  neg : ∀ k w, (k, w) ∈ cn → a ≤ -valQ env k
  zero : cn ≠ [] ∨ 0 < zq → a ≤ 0
  pos : ∀ k w, (k, w) ∈ cp → a ≤ valQ env k
  att : (∃ k w, (k, w) ∈ cn ∧ a = -valQ env k) ∨ (0 < zq ∧ a = 0) ∨
    ∃ k w, (k, w) ∈ cp ∧ a = valQ env k

section
variable {env : MapEnv} {α mn mx : Rat} (C : Contract env α mn mx)
  (m : Option MapId) (cp cn : Content) (zq : Rat) (hcp : cp.WF) (hcn : cn.WF)
include C hcp hcn

theorem getMin_isMin (a : F64) (ha : (Sketch.spec m cp cn (.fin zq)).getMin env = .ok a) :
    ∃ a', a = .fin a' ∧ IsMinOf env cp cn zq a' := by
  rw [getMin_sp] at ha
  have vp := valQ_pos C
  rcases eq_or_ne cn [] with rfl | hne
  · rw [if_neg (by simp [Content.isEmpty]), F64.gt_fin] at ha
    by_cases hz : 0 < zq
    · rw [if_pos (decide_eq_true hz)] at ha
      cases ha
      exact ⟨0, rfl, fun _ _ h => absurd h List.not_mem_nil, fun _ => le_rfl,
        fun k _ _ => (vp k).le, Or.inr (Or.inl ⟨hz, rfl⟩)⟩
    · rw [if_neg (by simpa using hz)] at ha
      cases hmin : cp.minIndex? with
      | none => rw [hmin] at ha; cases ha
      | some kn =>
        simp only [hmin, value_eq C] at ha
        cases ha
        obtain ⟨w, hw⟩ := minIndex_mem cp kn hmin
        exact ⟨_, rfl, fun _ _ h => absurd h List.not_mem_nil,
          fun h => (h.elim (absurd rfl) hz).elim,
          fun k w' h => valQ_mono C (minIndex_le cp hcp.1 kn hmin _ h),
          Or.inr (Or.inr ⟨kn, w, hw, rfl⟩)⟩
  · obtain ⟨kx, hkx⟩ := maxIndex?_isSome cn hne
    obtain ⟨w, hw⟩ := maxIndex_mem cn kx hkx
    have hemp : (!cn.isEmpty) = true := by cases cn with
      | nil => exact absurd rfl hne
      | cons _ _ => rfl
    simp only [if_pos hemp, hkx, value_eq C] at ha
    cases ha
    exact ⟨_, rfl, fun k w' h => neg_le_neg (valQ_mono C (le_maxIndex cn hcn.1 kx hkx _ h)),
      fun _ => by linarith [vp kx], fun k _ _ => by linarith [vp kx, vp k],
      Or.inl ⟨kx, w, hw, rfl⟩⟩

theorem getMax_isMax (b : F64) (hb : (Sketch.spec m cp cn (.fin zq)).getMax env = .ok b) :
    ∃ b', b = .fin b' ∧ IsMinOf env cn cp zq (-b') := by
  rw [getMax_eq_neg_getMin] at hb
  cases ha : (Sketch.spec m cn cp (.fin zq)).getMin env with
  | error e => rw [ha] at hb; cases hb
  | ok a =>
    obtain ⟨a', rfl, A⟩ := getMin_isMin C m cn cp zq hcn hcp a ha
    rw [ha] at hb
    cases hb
    exact ⟨-a', rfl, by rwa [_root_.neg_neg]⟩

end
end Extremes
end DDS

namespace DDS.Props.C12

open DDS

/-! ### count, emptiness, enumeration -/

/-- `IsEmpty()` says exactly that the (real) total weight is zero; no exactness needed -/
theorem isEmpty_iff_count_zero (m : Option MapId) (cp cn : Content) (zq : Rat)
    (hcp : cp.WF) (hcn : cn.WF) (hz : 0 ≤ zq) :
    (Sketch.spec m cp cn (.fin zq)).isEmpty = true ↔ zq + cp.total + cn.total = 0 := by
  have h1 := Content.total_nonneg cp hcp.nonneg
  have h2 := Content.total_nonneg cn hcn.nonneg
  have e1 := Content.isEmpty_iff_total_zero cp hcp
  have e2 := Content.isEmpty_iff_total_zero cn hcn
  have : (Sketch.spec m cp cn (.fin zq)).isEmpty =
      (F64.eq (.fin zq) (.fin 0) && cp.isEmpty && cn.isEmpty) := rfl
  rw [this]
  simp only [F64.eq, Bool.and_eq_true, beq_iff_eq, e1, e2]
  constructor
  · rintro ⟨⟨a, b⟩, c⟩; rw [a, b, c]; norm_num
  · intro h; refine ⟨⟨?_, ?_⟩, ?_⟩ <;> linarith

/-- … and with exact sums, that `GetCount()` is zero -/
theorem isEmpty_iff_getCount_zero (m : Option MapId) (cp cn : Content) (zq : Rat)
    (hcp : cp.WF) (hcn : cn.WF) (hz : 0 ≤ zq)
    (hx : F64.add (F64.add (.fin zq) (.fin cp.total)) (.fin cn.total) =
      .fin (zq + cp.total + cn.total)) :
    (Sketch.spec m cp cn (.fin zq)).isEmpty = true ↔
      (Sketch.spec m cp cn (.fin zq)).getCount = .fin 0 := by
  rw [isEmpty_iff_count_zero m cp cn zq hcp hcn hz, count_eq_total m cp cn zq hx]
  constructor
  · intro h; rw [h]
  · intro h; exact F64.fin.inj h

theorem forEachList_spec (env : MapEnv) (m : Option MapId) (cp cn : Content) (zq : Rat) :
    (Sketch.spec m cp cn (.fin zq)).forEachList env =
      some ((if zq = 0 then [] else [(F64.fin 0, zq)]) ++
        cp.map (fun b => (env.value b.1, b.2)) ++
        cn.map (fun b => (F64.neg (env.value b.1), b.2))) := rfl

theorem sum_map_snd (c : Content) (f : Int → F64) :
    ((c.map (fun b => (f b.1, b.2))).map (·.2)).sum = c.total := by
  induction c with
  | nil => rfl
  | cons p rest ih =>
    simp only [List.map_cons, List.sum_cons, Content.total_cons, ih]

theorem forEach_weights_positive (env : MapEnv) (m : Option MapId) (cp cn : Content) (zq : Rat)
    (hcp : cp.WF) (hcn : cn.WF) (hz : 0 ≤ zq) (l : List (F64 × Rat))
    (hl : (Sketch.spec m cp cn (.fin zq)).forEachList env = some l) : ∀ p ∈ l, 0 < p.2 := by
  rw [forEachList_spec] at hl
  cases hl
  intro p hp
  simp only [List.mem_append, List.mem_map] at hp
  rcases hp with (hp | ⟨b, hb, rfl⟩) | ⟨b, hb, rfl⟩
  · by_cases h0 : zq = 0
    · simp [h0] at hp
    · simp only [if_neg h0, List.mem_singleton] at hp
      subst hp
      exact lt_of_le_of_ne hz (Ne.symm h0)
  · exact hcp.2 b hb
  · exact hcn.2 b hb

theorem forEach_weights_sum (env : MapEnv) (m : Option MapId) (cp cn : Content) (zq : Rat)
    (l : List (F64 × Rat))
    (hl : (Sketch.spec m cp cn (.fin zq)).forEachList env = some l) :
    (l.map (·.2)).sum = zq + cp.total + cn.total := by
  rw [forEachList_spec] at hl
  cases hl
  rw [List.map_append, List.map_append, List.sum_append, List.sum_append,
    sum_map_snd cp env.value, sum_map_snd cn (fun i => F64.neg (env.value i))]
  by_cases h0 : zq = 0
  · simp [h0]
  · simp [h0]

/-- `ForEach` never panics on a spec sketch -/
theorem forEach_total (env : MapEnv) (m : Option MapId) (cp cn : Content) (zq : Rat) :
    ∃ l, (Sketch.spec m cp cn (.fin zq)).forEachList env = some l := ⟨_, forEachList_spec env m cp cn zq⟩

/-! ### `GetValuesAtQuantiles` is the map of `GetValueAtQuantile` (first error wins) -/

theorem quantiles_eq_map (env : MapEnv) (s : Sketch) (qs : List F64) :
    Sketch.quantiles env s qs = qs.mapM (Sketch.quantile env s) := rfl

theorem quantiles_nil (env : MapEnv) (s : Sketch) : Sketch.quantiles env s [] = .ok [] := rfl

theorem quantiles_cons (env : MapEnv) (s : Sketch) (q : F64) (qs : List F64) :
    Sketch.quantiles env s (q :: qs) =
      match Sketch.quantile env s q with
      | .error e => .error e
      | .ok v => match Sketch.quantiles env s qs with
        | .error e => .error e
        | .ok vs => .ok (v :: vs) := by
  unfold Sketch.quantiles
  rw [List.mapM_cons]
  cases Sketch.quantile env s q with
  | error e => rfl
  | ok v =>
    cases List.mapM (Sketch.quantile env s) qs <;> rfl

/-! ### minimum ≤ maximum -/

theorem min_le_max_index (c : Content) (h : c.WF) (a b : Int) (ha : c.minIndex? = some a)
    (hb : c.maxIndex? = some b) : a ≤ b := by
  obtain ⟨w, hw⟩ := Content.maxIndex_mem c b hb
  exact Content.minIndex_le c h.1 a ha _ hw

theorem min_le_max (env : MapEnv) (α mn mx : Rat) (hC : Contract env α mn mx)
    (m : Option MapId) (cp cn : Content) (zq : Rat) (hcp : cp.WF) (hcn : cn.WF)
    (a b : F64)
    (ha : (Sketch.spec m cp cn (.fin zq)).getMin env = .ok a)
    (hb : (Sketch.spec m cp cn (.fin zq)).getMax env = .ok b) : F64.le a b = true := by
  obtain ⟨a', rfl, A⟩ := Extremes.getMin_isMin hC m cp cn zq hcp hcn a ha
  obtain ⟨b', rfl, B⟩ := Extremes.getMax_isMax hC m cp cn zq hcp hcn b hb
  apply F64.le_fin_of_le
  rcases B.att with ⟨k, w, hk, e⟩ | ⟨hz, e⟩ | ⟨k, w, hk, e⟩
  · linarith [A.pos k w hk]
  · linarith [A.zero (Or.inr hz)]
  · linarith [A.neg k w hk]

/-! ### monotonicity of `GetValueAtQuantile` in the quantile

The float pipeline `q ↦ rank ↦ (branch, key) ↦ value` is monotone step by step: rounding is monotone
(`F64.rv_mono`), `KeyAtRank` is monotone (`Content.keyAtRank_mono`), representative values are
monotone (`Contract.valMono`).  Infinite intermediate results (possible in principle in the two
subtractions) are handled through the extended order `F64.leX` (`DDS.Proofs.F64Cmp`); no hypothesis
excludes them. -/

open DDS.F64 (leX round_cases roundF64_leX)

theorem sub_leX_left {x y : F64} (g : Rat) (h : leX x y) :
    leX (F64.sub x (.fin g)) (F64.sub y (.fin g)) := by
  obtain ⟨hx, hy⟩ := F64.not_nan_of_leX h
  rcases F64.sub_leX h (F64.leX_refl (a := .fin g) rfl) with e | e | e
  · have := F64.sub_fin_isNaN x g; rw [e, hx] at this; cases this
  · have := F64.sub_fin_isNaN y g; rw [e, hy] at this; cases this
  · exact e

theorem sub_leX_right (t : Rat) {a b : Rat} (h : a ≤ b) :
    leX (F64.sub (F64.roundF64 t) (.fin b)) (F64.sub (F64.roundF64 t) (.fin a)) := by
  rcases round_cases t with ⟨ht, _⟩ | ⟨ht, _⟩ | ⟨ht, _⟩ <;> rw [ht]
  · exact True.intro
  · exact True.intro
  · rw [F64.sub_fin, F64.sub_fin]; exact roundF64_leX (by linarith)

theorem skar_mem (c : Content) (hc : c.WF) (hne : c ≠ []) (x : F64) :
    ∃ w, (Sketch.storeKeyAtRank (.sp c) x, w) ∈ c := by
  obtain ⟨kx, hkx⟩ := Content.maxIndex?_isSome c hne
  have hmax : ∃ w, ((c.maxIndex?).getD 0, w) ∈ c := by
    rw [hkx]; exact Content.maxIndex_mem c kx hkx
  cases x with
  | fin r =>
    have : Sketch.storeKeyAtRank (.sp c) (.fin r) = c.keyAtRank r := Store.sp_keyAtRank c hc r
    rw [this]; exact Content.keyAtRank_mem c r hne
  | ninf =>
    have : Sketch.storeKeyAtRank (.sp c) .ninf = c.keyAtRank 0 := Store.sp_keyAtRank c hc 0
    rw [this]; exact Content.keyAtRank_mem c 0 hne
  | pinf => exact hmax
  | nan => exact hmax

theorem skar_mono (c : Content) (hc : c.WF) {x y : F64} (h : leX x y) :
    Sketch.storeKeyAtRank (.sp c) x ≤ Sketch.storeKeyAtRank (.sp c) y := by
  have e1 : ∀ r, Sketch.storeKeyAtRank (.sp c) (.fin r) = c.keyAtRank r :=
    fun r => Store.sp_keyAtRank c hc r
  have e2 : Sketch.storeKeyAtRank (.sp c) .ninf = c.keyAtRank 0 := Store.sp_keyAtRank c hc 0
  have e3 : Sketch.storeKeyAtRank (.sp c) .pinf = (c.maxIndex?).getD 0 := rfl
  have h0 : ∀ r, c.keyAtRank 0 ≤ c.keyAtRank r := by
    intro r
    by_cases hr : r < 0
    · rw [Content.keyAtRank_neg c r hr]
    · exact Content.keyAtRank_mono c hc.1 0 r (not_lt.mp hr)
  cases x with
  | fin a =>
    cases y with
    | fin b => rw [e1, e1]; exact Content.keyAtRank_mono c hc.1 a b h
    | pinf => rw [e1, e3]; exact Content.keyAtRank_le_max c hc a
    | ninf => exact h.elim
    | nan => exact h.elim
  | ninf =>
    cases y with
    | fin b => rw [e2, e1]; exact h0 b
    | pinf => rw [e2, e3]; exact Content.keyAtRank_le_max c hc 0
    | ninf => exact le_refl _
    | nan => exact h.elim
  | pinf =>
    cases y with
    | pinf => exact le_refl _
    | fin b => exact h.elim
    | ninf => exact h.elim
    | nan => exact h.elim
  | nan => cases y <;> exact h.elim

/-- the value `GetValueAtQuantile` returns on a spec sketch once the rank `ρ` is known -/
def res (env : MapEnv) (cp cn : Content) (zq : Rat) (ρ : Rat) : F64 :=
  if F64.lt (.fin ρ) (.fin cn.total) then
    F64.neg (env.value (Sketch.storeKeyAtRank (.sp cn)
      (F64.sub (F64.sub (.fin cn.total) F64.one) (.fin ρ))))
  else if F64.lt (.fin ρ) (F64.add (.fin zq) (.fin cn.total)) then .fin 0
  else env.value (Sketch.storeKeyAtRank (.sp cp) (F64.sub (F64.sub (.fin ρ) (.fin zq)) (.fin cn.total)))

theorem quantile_eq_res (env : MapEnv) (m : Option MapId) (cp cn : Content) (zq : Rat) (q : F64)
    (hq : (F64.le (.fin 0) q && F64.le q (.fin 1)) = true)
    (hne : F64.eq (Sketch.spec m cp cn (.fin zq)).getCount (.fin 0) = false)
    (ρ : Rat) (hρ : (Sketch.spec m cp cn (.fin zq)).qrank q = .fin ρ) :
    (Sketch.spec m cp cn (.fin zq)).quantile env q = .ok (res env cp cn zq ρ) := by
  rw [Sketch.quantile_eq_qcases, Sketch.qcases, hρ, hq, hne]
  simp only [Bool.not_true, Bool.false_eq_true, if_false]
  unfold res
  rw [Sketch.spec_negTotal, Sketch.spec_zero, Sketch.spec_neg, Sketch.spec_pos]
  split
  · rfl
  · split <;> rfl

theorem res_mono (env : MapEnv) (α mn mx : Rat) (hC : Contract env α mn mx)
    (cp cn : Content) (hcp : cp.WF) (hcn : cn.WF) (zq : Rat) (ρ₁ ρ₂ : Rat) (h : ρ₁ ≤ ρ₂) :
    F64.le (res env cp cn zq ρ₁) (res env cp cn zq ρ₂) = true := by
  have vpos := hC.valFin
  unfold res
  have g1 : F64.sub (.fin cn.total) F64.one = F64.roundF64 (cn.total - 1) := F64.sub_fin _ _
  by_cases hb2 : F64.lt (.fin ρ₂) (.fin cn.total) = true
  · -- both in the negative store
    have hb1 := F64.lt_fin_mono h _ hb2
    rw [if_pos hb1, if_pos hb2, g1]
    have hk := skar_mono cn hcn (sub_leX_right (cn.total - 1) h)
    obtain ⟨r1, hr1, _⟩ := vpos (Sketch.storeKeyAtRank (.sp cn) (F64.sub (F64.roundF64 (cn.total - 1)) (.fin ρ₁)))
    obtain ⟨r2, hr2, _⟩ := vpos (Sketch.storeKeyAtRank (.sp cn) (F64.sub (F64.roundF64 (cn.total - 1)) (.fin ρ₂)))
    have := hC.valMono _ _ r2 r1 hk hr2 hr1
    rw [hr1, hr2]
    exact F64.le_fin_of_le _ _ (by linarith)
  · rw [if_neg hb2]
    by_cases hb1 : F64.lt (.fin ρ₁) (.fin cn.total) = true
    · -- negative value vs zero or positive value
      rw [if_pos hb1]
      obtain ⟨r1, hr1, hr10⟩ := vpos (Sketch.storeKeyAtRank (.sp cn) (F64.sub (F64.sub (.fin cn.total) F64.one) (.fin ρ₁)))
      rw [hr1]
      split
      · exact F64.le_fin_of_le _ _ (by linarith)
      · obtain ⟨r2, hr2, hr20⟩ := vpos (Sketch.storeKeyAtRank (.sp cp) (F64.sub (F64.sub (.fin ρ₂) (.fin zq)) (.fin cn.total)))
        rw [hr2]
        exact F64.le_fin_of_le _ _ (by linarith)
    · rw [if_neg hb1]
      by_cases hz2 : F64.lt (.fin ρ₂) (F64.add (.fin zq) (.fin cn.total)) = true
      · have hz1 := F64.lt_fin_mono h _ hz2
        rw [if_pos hz1, if_pos hz2]
        exact F64.le_fin_of_le 0 0 le_rfl
      · rw [if_neg hz2]
        obtain ⟨r2, hr2, hr20⟩ := vpos (Sketch.storeKeyAtRank (.sp cp) (F64.sub (F64.sub (.fin ρ₂) (.fin zq)) (.fin cn.total)))
        by_cases hz1 : F64.lt (.fin ρ₁) (F64.add (.fin zq) (.fin cn.total)) = true
        · rw [if_pos hz1, hr2]
          exact F64.le_fin_of_le _ _ hr20.le
        · rw [if_neg hz1]
          have hk := skar_mono cp hcp (sub_leX_left cn.total
            (show leX (F64.sub (.fin ρ₁) (.fin zq)) (F64.sub (.fin ρ₂) (.fin zq)) by
              rw [F64.sub_fin, F64.sub_fin]; exact roundF64_leX (by linarith)))
          obtain ⟨r1, hr1, _⟩ := vpos (Sketch.storeKeyAtRank (.sp cp) (F64.sub (F64.sub (.fin ρ₁) (.fin zq)) (.fin cn.total)))
          have := hC.valMono _ _ r1 r2 hk hr1 hr2
          rw [hr1, hr2]
          exact F64.le_fin_of_le _ _ this

theorem rank_mono (c1 : Rat) (r₁ r₂ : Rat) (h0 : 0 ≤ r₁) (h : r₁ ≤ r₂) :
    max 0 (F64.rv (r₁ * c1)) ≤ max 0 (F64.rv (r₂ * c1)) := by
  by_cases hc : 0 ≤ c1
  · exact max_le_max le_rfl (F64.rv_mono (by nlinarith))
  · have hc' : c1 ≤ 0 := le_of_lt (not_le.mp hc)
    have h1 := F64.rv_nonpos (show r₁ * c1 ≤ 0 by nlinarith)
    rw [max_eq_left h1]
    exact le_max_left _ _

/-- **Quantiles are monotone**: on a spec sketch with exact counting, under the mapping contract,
    `q₁ ≤ q₂` implies `GetValueAtQuantile(q₁) ≤ GetValueAtQuantile(q₂)` — in float arithmetic,
    including the rounding of the rank and of the two subtractions. -/
theorem quantile_mono (env : MapEnv) (α mn mx : Rat) (hC : Contract env α mn mx)
    (m : Option MapId) (cp cn : Content) (zq : Rat) (hcp : cp.WF) (hcn : cn.WF) (hz : 0 ≤ zq)
    (hx : F64.add (F64.add (.fin zq) (.fin cp.total)) (.fin cn.total) =
      .fin (zq + cp.total + cn.total))
    (q₁ q₂ a b : F64) (hq : F64.le q₁ q₂ = true)
    (h1 : (Sketch.spec m cp cn (.fin zq)).quantile env q₁ = .ok a)
    (h2 : (Sketch.spec m cp cn (.fin zq)).quantile env q₂ = .ok b) : F64.le a b = true := by
  -- both quantiles are valid, the sketch is not empty
  have hv : ∀ q v, (Sketch.spec m cp cn (.fin zq)).quantile env q = .ok v →
      (F64.le (.fin 0) q && F64.le q (.fin 1)) = true := by
    intro q v hqv
    by_contra hc
    rw [C13.quantile_rejects env _ q (by simpa using hc)] at hqv
    cases hqv
  have hv1 := hv q₁ a h1
  have hv2 := hv q₂ b h2
  have hne : F64.eq (Sketch.spec m cp cn (.fin zq)).getCount (.fin 0) = false := by
    by_contra hc
    have hc' : F64.eq (Sketch.spec m cp cn (.fin zq)).getCount (.fin 0) = true := by simpa using hc
    rw [Sketch.quantile_eq_qcases, Sketch.qcases, hv1, hc'] at h1
    simp at h1
  obtain ⟨r1, rfl, h10, h11⟩ := (C13.quantile_valid_iff q₁).1 hv1
  obtain ⟨r2, rfl, h20, h21⟩ := (C13.quantile_valid_iff q₂).1 hv2
  have hr : r1 ≤ r2 := by
    simp only [F64.le, F64.lt, F64.eq, Bool.or_eq_true, decide_eq_true_eq, beq_iff_eq] at hq
    rcases hq with hq | hq
    · exact hq.le
    · exact hq.le
  have e1 := qrank_spec m cp cn zq hcp hcn hz hx r1 h10 h11
  have e2 := qrank_spec m cp cn zq hcp hcn hz hx r2 h20 h21
  rw [quantile_eq_res env m cp cn zq _ hv1 hne _ e1] at h1
  rw [quantile_eq_res env m cp cn zq _ hv2 hne _ e2] at h2
  cases h1
  cases h2
  exact res_mono env α mn mx hC cp cn hcp hcn zq _ _ (rank_mono _ r1 r2 h10 hr)

/-- the same for any sketch refining the contents (any store kinds), when the positive store is not
    consulted while empty (`Sketch.usesPos`, see `DDS.Proofs.SketchObs`) -/
theorem quantile_mono_refines (env : MapEnv) (α mn mx : Rat) (hC : Contract env α mn mx)
    (s : Sketch) (cp cn : Content) (zq : Rat) (hs : s.Refines cp cn) (hzero : s.zero = .fin zq)
    (hz : 0 ≤ zq)
    (hx : F64.add (F64.add (.fin zq) (.fin cp.total)) (.fin cn.total) =
      .fin (zq + cp.total + cn.total))
    (q₁ q₂ a b : F64) (hq : F64.le q₁ q₂ = true)
    (hp : cp = [] → s.usesPos q₁ = false ∧ s.usesPos q₂ = false)
    (h1 : s.quantile env q₁ = .ok a) (h2 : s.quantile env q₂ = .ok b) : F64.le a b = true := by
  rw [Sketch.quantile_congr' env hs q₁ (fun hc => (hp hc).1), hzero] at h1
  rw [Sketch.quantile_congr' env hs q₂ (fun hc => (hp hc).2), hzero] at h2
  exact quantile_mono env α mn mx hC s.mapping cp cn zq hs.pos.wf hs.neg.wf hz hx q₁ q₂ a b hq h1 h2

/-! ### the hypotheses are satisfiable -/

/-- a toy environment meeting the contract: one bin `(9/10, 11/10]` around 1, accuracy `1/2`;
    representative of index `i` is `max i 0 + 1` -/
def envC : MapEnv :=
  { id := { kind := .log, gamma := .fin 2, indexOffset := .fin 0 }
    minIndexable := .fin (9 / 10)
    maxIndexable := .fin (11 / 10)
    relAcc := .fin (1 / 2)
    value := fun i => .fin ((i.toNat : Rat) + 1)
    lowerBound := fun i => .fin (i.toNat : Rat)
    index := fun _ => 0 }

theorem envC_contract : Contract envC (1 / 2) (9 / 10) (11 / 10) where
  minEq := rfl
  maxEq := rfl
  minPos := by norm_num
  minLeMax := by norm_num
  alphaPos := by norm_num
  alphaLt := by norm_num
  valFin := fun i => ⟨_, rfl, by positivity⟩
  valMono := by
    intro i j ri rj hij hi hj
    have hi' : ((i.toNat : Rat) + 1) = ri := F64.fin.inj hi
    have hj' : ((j.toNat : Rat) + 1) = rj := F64.fin.inj hj
    rw [← hi', ← hj']
    have : i.toNat ≤ j.toNat := Int.toNat_le_toNat hij
    have : (i.toNat : Rat) ≤ (j.toNat : Rat) := by exact_mod_cast this
    linarith
  idxMono := fun _ _ _ _ _ => le_refl _
  acc := by
    intro v r h1 h2 hr
    have hr' : ((0 : Rat) + 1) = r := F64.fin.inj hr
    rw [← hr']
    unfold rabs
    split <;> linarith

def skC : Sketch := Sketch.spec (some envC.id) [(0, 2), (3, 1)] [(1, 1)] (.fin 1)

example : ∃ a b, skC.quantile envC (.fin (1 / 4)) = .ok a ∧ skC.quantile envC (.fin (3 / 4)) = .ok b ∧
    F64.le a b = true := by
  have hx : F64.add (F64.add (.fin 1) (.fin (Content.total [(0, 2), (3, 1)])))
      (.fin (Content.total [(1, 1)])) =
      .fin (1 + Content.total [(0, 2), (3, 1)] + Content.total [(1, 1)]) := by decide +kernel
  have hne : F64.eq skC.getCount (.fin 0) = false := by decide +kernel
  obtain ⟨a, ha⟩ := C13.quantile_ok envC skC (.fin (1 / 4)) (by decide +kernel) hne
  obtain ⟨b, hb⟩ := C13.quantile_ok envC skC (.fin (3 / 4)) (by decide +kernel) hne
  refine ⟨a, b, ha, hb, ?_⟩
  exact quantile_mono envC _ _ _ envC_contract (some envC.id) [(0, 2), (3, 1)] [(1, 1)] 1
    ((Content.wf_cons _ _).2 ⟨by norm_num, by simp,
      (Content.wf_cons _ _).2 ⟨by norm_num, by simp, Content.wf_nil⟩⟩)
    ((Content.wf_cons _ _).2 ⟨by norm_num, by simp, Content.wf_nil⟩)
    (by norm_num) hx _ _ a b (by decide +kernel) ha hb

example : ∃ a b, skC.getMin envC = .ok a ∧ skC.getMax envC = .ok b ∧ F64.le a b = true := by
  refine ⟨_, _, rfl, rfl, ?_⟩
  exact min_le_max envC _ _ _ envC_contract (some envC.id) [(0, 2), (3, 1)] [(1, 1)] 1
    ((Content.wf_cons _ _).2 ⟨by norm_num, by simp,
      (Content.wf_cons _ _).2 ⟨by norm_num, by simp, Content.wf_nil⟩⟩)
    ((Content.wf_cons _ _).2 ⟨by norm_num, by simp, Content.wf_nil⟩) _ _ rfl rfl

end DDS.Props.C12
