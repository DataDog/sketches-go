/-
  DDS.Props.C01GenSparse — property C01 (quantile accuracy) for the sketch ENTIRELY ON REGENERATED CODE over the
  SPARSE store: the regenerated `DDSketch` (`DDS/Generated/CodeSketch.lean`, from `/repo/ddsketch/ddsketch.go`)
  whose two stores are the regenerated `SparseStore` (`DDS/Generated/CodeSparse.lean`, from
  `/repo/ddsketch/store/sparse.go`), through `instance : StoreI (GSS ord)` of `DDS/Proofs/GenSparseSketch.lean`,
  FOR EVERY LAWFUL ITERATION ORDER `ord` of Go's `range` over the map (`GoSem.MapOrder.Lawful`: the oracle returns
  a permutation of the keys) — the answers do not depend on the order the runtime picks.

  * `sparse_quantile_accuracy_regenerated`: C01's conclusion (`Lift.quantile_accuracy_any_store` with kind
    `.sparse`) for the regenerated sketch built by `NewDDSketch env (NewSparseStore) (NewSparseStore)` and fed the
    unit adds `xs`: no add is refused and the value returned is within relative error `α` of the lower or the upper
    quantile of the inputs.  It is `C01GenSim.quantile_accuracy_paramG` at `sparseStoreSim ord hl` (int32 indexes
    are admissible: `adm64_of_idx32`; the simulation itself only needs `int64`).  Hypotheses exactly those of
    `quantile_accuracy_any_store` plus `ord.Lawful`.
  * `sparse_quantile_order_irrelevant`: two lawful orders give the same errors and the same answer to every
    quantile query, after any history with `int64` routed indexes (any mapping implementation).
  The mapping stays the model's oracle `MapEnv` (`instance : MapI MapEnv`), as in `C01GenPag`.
-/
import DDS.Proofs.GenSparseSketch
import DDS.Props.C01GenSim

namespace DDS.Props.C01GenSparse

open DDS DDS.GoSem DDS.Gen.Sketch DDS.Gen.Sparse DDS.GenSketch DDS.GenStoreSim DDS.GenSparseSketch
open DDS.GenPagSketch (runAdds)
open DDS.Props.C01GenPag (unitAdds)

/-- **C01 on regenerated code, sketch and sparse store, for every lawful iteration order of the map** -/
theorem sparse_quantile_accuracy_regenerated (ord : MapOrder) (hl : ord.Lawful)
    (env : MapEnv) (α mn mx : Rat) (C : Contract env α mn mx)
    (xs : List Rat) (hx : ∀ x ∈ xs, rabs x ≤ mx)
    (hx32 : ∀ x ∈ xs, mn < rabs x → Lift.I32 (env.index (.fin (rabs x))))
    (hne : xs ≠ []) (hn : xs.length ≤ 2 ^ 53)
    (q : Rat) (hq0 : 0 ≤ q) (hq1 : q ≤ 1) :
    let g := runAdds (NewDDSketch env (⟨NewSparseStore⟩ : GSS ord) ⟨NewSparseStore⟩) (unitAdds xs)
    g.2 = List.replicate xs.length GoErr.nil ∧
    ∃ a : Rat, DDSketch.GetValueAtQuantile g.1 (.fin q) = (.fin a, GoErr.nil) ∧
      ∃ k : Nat, k < xs.length ∧
        ((k : Int) = ⌊q * ((xs.length : Rat) - 1)⌋ ∨ (k : Int) = ⌈q * ((xs.length : Rat) - 1)⌉) ∧
        rabs (a - (sortedInputs mn xs)[k]!) ≤ α * rabs ((sortedInputs mn xs)[k]!) :=
  C01GenSim.quantile_accuracy_paramG (sparseStoreSim ord hl) (fun _ h => adm64_of_idx32 h) .sparse trivial ssim_new env
    α mn mx C xs hx hx32 hne hn q hq0 hq1

/-- **the iteration order of the map is unobservable at the sketch level**: for two lawful orders, any mapping
    implementation and any history of `AddWithCount` calls with `int64` routed indexes, the errors returned and
    every observer agree -/
theorem sparse_quantile_order_irrelevant {M : Type} [MapI M] [Inhabited M]
    (ord ord' : MapOrder) (hl : ord.Lawful) (hl' : ord'.Lawful) (m : M) (l : List (F64 × F64))
    (hr : ∀ p ∈ l, RoutedG (sparseStoreSim ord hl) m p.1) :
    let a := runAdds (NewDDSketch m (⟨NewSparseStore⟩ : GSS ord) ⟨NewSparseStore⟩) l
    let b := runAdds (NewDDSketch m (⟨NewSparseStore⟩ : GSS ord') ⟨NewSparseStore⟩) l
    a.2 = b.2 ∧ DDSketch.GetCount a.1 = DDSketch.GetCount b.1 ∧ DDSketch.IsEmpty a.1 = DDSketch.IsEmpty b.1 ∧
    (∀ q, DDSketch.GetValueAtQuantile a.1 q = DDSketch.GetValueAtQuantile b.1 q) ∧
    DDSketch.GetMinValue a.1 = DDSketch.GetMinValue b.1 ∧ DDSketch.GetMaxValue a.1 = DDSketch.GetMaxValue b.1 := by
  intro a b
  obtain ⟨e1, c1, i1, q1, mn1, mx1⟩ := sparse_history_observers ord hl m l hr
  obtain ⟨e2, c2, i2, q2, mn2, mx2⟩ := sparse_history_observers ord' hl' m l hr
  exact ⟨e1.trans e2.symm, c1.trans c2.symm, i1.trans i2.symm, fun q => (q1 q).trans (q2 q).symm,
    mn1.trans mn2.symm, mx1.trans mx2.symm⟩

end DDS.Props.C01GenSparse
