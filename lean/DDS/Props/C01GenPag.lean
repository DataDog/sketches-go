/-
  DDS.Props.C01GenPag — property C01 (quantile accuracy) for the DEFAULT sketch ENTIRELY ON REGENERATED CODE:
  the regenerated `DDSketch` (`DDS/Generated/CodeSketch.lean`, from `/repo/ddsketch/ddsketch.go`) whose two stores
  are the regenerated buffered-paginated store (`DDS/Generated/CodePaginated.lean`, from
  `/repo/ddsketch/store/buffered_paginated.go`), through `instance : StoreI (GPS grow)` of
  `DDS/Proofs/GenPagSketch.lean` (every method runs the regenerated function with a fuel the instance computes).

  * `quantile_accuracy_regenerated`: C01's conclusion (`Lift.quantile_accuracy_any_store` with kind `.pag`, itself
    `C01.quantile_accuracy` transported) for the regenerated sketch over the regenerated stores, built by
    `NewDDSketch env (NewBufferedPaginatedStore) (NewBufferedPaginatedStore)` and fed the unit adds `xs`, for every
    growth policy `grow` of the Go runtime: no add is refused, and the value `GetValueAtQuantile q` returns is within
    relative error `α` of the lower or the upper quantile of the inputs.  It is `C01GenSim.quantile_accuracy_paramG`
    (the chain through the model, for any store simulating the model's) at the simulation `pagStoreSim grow`, whose
    admissible indexes are the int32 ones.  Hypotheses exactly those of `quantile_accuracy_any_store` (mapping
    contract for the oracle `env`, magnitudes at most the maximum indexable value, int32 indexes, `1 ≤ n ≤ 2^53`
    inputs, `0 ≤ q ≤ 1`).
  * `routed32_of`: the int32 hypothesis of the model theorems gives `Routed32`; `adds_then_quantile_eq_model`: the
    step before C01 (`GetValueAtQuantile` returns the model's answer), at `pagStoreSim grow`.
  The mapping stays the model's oracle `MapEnv` (`instance : MapI MapEnv`), as in `GenSketch2`.
-/
import DDS.Proofs.GenPagSim
import DDS.Props.C01GenSim

namespace DDS.Props.C01GenPag

open DDS DDS.GoSem DDS.Gen.Sketch DDS.Gen.Paginated DDS.GenSketch DDS.GenPagSketch

/-- the int32 hypothesis of `Lift.quantile_accuracy_any_store` gives the routing condition of
    `GenPagSketch.AddWithCount_param` -/
theorem routed32_of (env : MapEnv) (mn : Rat) (hmin : env.minIndexable = .fin mn) (hmn : 0 ≤ mn) (x : Rat)
    (h32 : mn < rabs x → Lift.I32 (env.index (.fin (rabs x)))) : Routed32 env (F64.fin x) :=
  routed_of PStore.Idx32 env mn hmin hmn x h32

/-- **the regenerated sketch over the regenerated paginated stores = the model**, for unit adds followed by a
    quantile query: no add is refused, and `GetValueAtQuantile` returns the model's answer with a nil error -/
theorem adds_then_quantile_eq_model (grow : Int → Int → Int)
    (env : MapEnv) (mn : Rat) (hmin : env.minIndexable = .fin mn) (hmn : 0 ≤ mn)
    (xs : List Rat) (hx32 : ∀ x ∈ xs, mn < rabs x → Lift.I32 (env.index (.fin (rabs x))))
    (s : Sketch) (hs : Sketch.addAll env (Sketch.new (some env.id) .pag) (xs.map (fun x => (x, 1))) = some s)
    (q : F64) (v : F64) (hq : Sketch.quantile env s q = .ok v) :
    let g := runAdds (NewDDSketch env (⟨NewBufferedPaginatedStore⟩ : GPS grow) ⟨NewBufferedPaginatedStore⟩)
      (unitAdds xs)
    g.2 = List.replicate xs.length GoErr.nil ∧ DDSketch.GetValueAtQuantile g.1 q = (v, GoErr.nil) :=
  C05GenSketch.adds_then_quantile_eq_model (GenStoreSim.pagStoreSim grow) .pag sim_new env mn hmin hmn xs
    (fun p hp => by
      obtain ⟨x, hx, rfl⟩ := List.mem_map.1 hp
      exact routed32_of env mn hmin hmn x (hx32 x hx)) s hs q v hq

/-- **C01 on regenerated code, sketch and store**: DDSketch accuracy for the default sketch
    (`NewDDSketch(mapping, NewBufferedPaginatedStore(), NewBufferedPaginatedStore())`), for every growth policy
    of the runtime.  Hypotheses: those of `Lift.quantile_accuracy_any_store`. -/
theorem quantile_accuracy_regenerated (grow : Int → Int → Int)
    (env : MapEnv) (α mn mx : Rat) (C : Contract env α mn mx)
    (xs : List Rat) (hx : ∀ x ∈ xs, rabs x ≤ mx)
    (hx32 : ∀ x ∈ xs, mn < rabs x → Lift.I32 (env.index (.fin (rabs x))))
    (hne : xs ≠ []) (hn : xs.length ≤ 2 ^ 53)
    (q : Rat) (hq0 : 0 ≤ q) (hq1 : q ≤ 1) :
    let g := runAdds (NewDDSketch env (⟨NewBufferedPaginatedStore⟩ : GPS grow) ⟨NewBufferedPaginatedStore⟩)
      (unitAdds xs)
    g.2 = List.replicate xs.length GoErr.nil ∧
    ∃ a : Rat, DDSketch.GetValueAtQuantile g.1 (.fin q) = (.fin a, GoErr.nil) ∧
      ∃ k : Nat, k < xs.length ∧
        ((k : Int) = ⌊q * ((xs.length : Rat) - 1)⌋ ∨ (k : Int) = ⌈q * ((xs.length : Rat) - 1)⌉) ∧
        rabs (a - (sortedInputs mn xs)[k]!) ≤ α * rabs ((sortedInputs mn xs)[k]!) :=
  C01GenSim.quantile_accuracy_paramG (GenStoreSim.pagStoreSim grow) (fun _ h => h) .pag trivial sim_new env α mn mx C
    xs hx hx32 hne hn q hq0 hq1

end DDS.Props.C01GenPag
