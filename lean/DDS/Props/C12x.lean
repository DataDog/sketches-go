/-
  DDS.Props.C12x — the clauses of property C12 that `DDS.Props.C12` leaves open:

    "… the reported minimum and maximum are within alpha of the true extremes (0 when the extreme
     is in the zero bucket; the clamped extremes of C05 for collapsing stores), quantile answers …
     stay between the reported minimum and maximum, …, the approximate sum is within alpha of the
     true sum for same-signed data, …"

  Vocabulary (`DDS.Proofs.SketchDefs`, `DDS.Proofs.Quantile`, `DDS.Proofs.Extremes`):
  `Contract env α mn mx` is the mapping contract (`mn`/`mx` = min/max indexable magnitude);
  `sortedInputs mn xs` is the ground truth: the inputs with magnitudes `≤ mn` replaced by 0, sorted
  ascending, so `(sortedInputs mn xs)[0]!` is the true minimum and `[xs.length - 1]!` the true
  maximum; `rabs` is `|·|` on `ℚ`.  "Unit-add history" = `Sketch.addAll` of the pairs `(x, 1)`.
  The lemmas they rest on are in `DDS.Props.C12` (what the two extremes are on a spec sketch) and
  `DDS.Proofs.Extremes`.

  T1 — the reported extremes are α-accurate (sparse = spec stores, at most `2^53` unit adds)
  * `getMin_bin`, `getMax_bin`: `GetMinValue()` / `GetMaxValue()` IS the signed representative of
    the bin of the smallest / largest input: `value(index x)` for `x > 0`, `−value(index |x|)` for
    `x < 0`, and exactly `0` when that input is in the zero bucket.
  * `min_accuracy`, `max_accuracy`: hence within relative error `α` of the true extreme.
  * `min_eq_quantile_zero`, `max_eq_quantile_one`: they coincide with the answers at `q = 0`, `q = 1`.

  T2 — quantile answers stay between the reported minimum and maximum
  * `quantile_between`: on ANY spec sketch with canonical contents and non-negative zero count,
    under the contract, `min ≤ GetValueAtQuantile(q) ≤ max` (float comparisons), assuming only
    (`hpos`) that the positive store is not consulted while it is empty and (`hrep`) that, when
    the sketch holds negative values only, their total weight is a float (automatic in Go, where
    the total is a float64; needed here because a `Content` may hold any rational weights).
  * `quantile_above_max_of_empty_store`: `hpos` is NECESSARY — whenever it fails the answer is
    `value 0 > 0`, strictly above the reported maximum.  THE UNRESTRICTED STATEMENT IS THEREFORE
    FALSE; the `example` after it is the absorbed-count instance of C11 (one negative value with
    count `2^54`: `q = 1` answers `+2` while `GetMaxValue() = −6`).
  * `quantile_between_exact`: the hypotheses of `C12.quantile_mono` suffice (exact counting, and
    `count − 1 ≠ count` when there is no positive value).
  * `quantile_between_units`, `quantile_between_units_rat`: after at most `2^53` unit adds no
    extra hypothesis is needed.

  T3 — the approximate sum
  * `Extremes.approxSumQ env s` is the exact-arithmetic version of `GetSum()`: the same
    `Σ value·weight` over the same `ForEach` enumeration, without rounding.  `approxSumQ_spec`:
    the zero bucket contributes 0, a positive bin `r_k·w_k`, a negative bin `−r_k·w_k`.
  * `sum_accuracy_abs`: after unit adds `|approxSum − Σxᵢ| ≤ α·Σ|xᵢ|` (always).
  * `sum_accuracy`, `sum_accuracy_nonneg`, `sum_accuracy_nonpos`: for same-signed data
    `|approxSum − Σxᵢ| ≤ α·|Σxᵢ|`.
  * the `example` after them: with mixed signs the bound FAILS (`[3, −5]`: true sum −2,
    approximate sum −4).
  * `getSum_of_exact`: the float fold of `GetSum()` returns exactly `approxSumQ` when no product
    and no partial sum is rounded (`Extremes.SumExact`); an `example` shows `SumExact` on the
    sketch of `exXs`.

  T4 — every store kind
  * `getMin_congr`, `getMax_congr`, `getSum_congr`, `approxSumQ_congr`: a sketch refining contents
    `cp`, `cn` (any store kinds) answers like `Sketch.spec s.mapping cp cn s.zero`.
  * `min_accuracy_any_store`, `max_accuracy_any_store`, `quantile_between_any_store`,
    `sum_accuracy_any_store`: T1–T3 for dense / sparse / paginated stores (`Lift.Plain k`), with
    the int32 hypothesis `hx32` of `Lift.quantile_accuracy_any_store`.

  T5 — collapsing stores ("the clamped extremes of C05")
  * `minIndex_specLow`, `maxIndex_specHigh`: the minimum index of a lowest-collapsing content is
    `max(minIndex, maxIndex − N + 1)`, the maximum index of a highest-collapsing content is
    `min(maxIndex, minIndex + N − 1)`; the other extreme index is unchanged.
  * `low_extremes`, `high_extremes`: what `GetMinValue()` / `GetMaxValue()` report on collapsing
    stores after unit adds, in terms of the exact contents: the un-collapsed answer, or the
    representative of the clamped bin.
  * `low_min_accuracy`, `low_max_accuracy`, `high_min_accuracy`, `high_max_accuracy`: the extreme
    on the side a store kind does not collapse is still α-accurate.
-/
import DDS.Proofs.Extremes
import DDS.Props.Lift2

namespace DDS.Props.C12x

open DDS DDS.Extremes DDS.Lift DDS.QuantileEx

/-! ## T1. the reported extremes are α-accurate -/

/-- **`GetMinValue()` is the representative of the bin of the true minimum** (sign included; 0 if
    the minimum is in the zero bucket) -/
theorem getMin_bin
    (env : MapEnv) (α mn mx : Rat) (C : Contract env α mn mx)
    (xs : List Rat) (hx : ∀ x ∈ xs, rabs x ≤ mx) (hne : xs ≠ []) (hn : xs.length ≤ 2 ^ 53)
    (s : Sketch)
    (hs : Sketch.addAll env (Sketch.new (some env.id) .sparse) (xs.map (fun x => (x, 1))) = some s) :
    Sketch.getMin env s = .ok (
      let x := (sortedInputs mn xs)[0]!
      if 0 < x then env.value (env.index (.fin (rabs x)))
      else if x < 0 then F64.neg (env.value (env.index (.fin (rabs x))))
      else .fin 0) := by
  have hlen := length_sorted_split mn C.minPos xs
  have hpos : 0 < xs.length := List.length_pos_iff.2 hne
  rw [addAll_state env α mn mx C xs hx hn s hs, sortedInputs_split mn C.minPos xs]
  exact getMin_core env α mn mx C (some env.id) (Psorted mn xs) (Msorted mn xs) (zeroCnt mn xs)
    (Dataset.sortedVals_pairwise _) (Dataset.sortedVals_pairwise _) (Psorted_range mn mx xs hx)
    (Msorted_range mn mx xs hx) (by omega)

/-- **`GetMaxValue()` is the representative of the bin of the true maximum** -/
theorem getMax_bin
    (env : MapEnv) (α mn mx : Rat) (C : Contract env α mn mx)
    (xs : List Rat) (hx : ∀ x ∈ xs, rabs x ≤ mx) (hne : xs ≠ []) (hn : xs.length ≤ 2 ^ 53)
    (s : Sketch)
    (hs : Sketch.addAll env (Sketch.new (some env.id) .sparse) (xs.map (fun x => (x, 1))) = some s) :
    Sketch.getMax env s = .ok (
      let x := (sortedInputs mn xs)[xs.length - 1]!
      if 0 < x then env.value (env.index (.fin (rabs x)))
      else if x < 0 then F64.neg (env.value (env.index (.fin (rabs x))))
      else .fin 0) := by
  have hlen := length_sorted_split mn C.minPos xs
  have hpos : 0 < xs.length := List.length_pos_iff.2 hne
  rw [addAll_state env α mn mx C xs hx hn s hs, sortedInputs_split mn C.minPos xs, ← hlen]
  exact getMax_core env α mn mx C (some env.id) (Psorted mn xs) (Msorted mn xs) (zeroCnt mn xs)
    (Dataset.sortedVals_pairwise _) (Dataset.sortedVals_pairwise _) (Psorted_range mn mx xs hx)
    (Msorted_range mn mx xs hx) (by omega)

/-- **the reported minimum is within `α` of the true minimum** (exactly 0 when the minimum is in
    the zero bucket: the bound is then `α·0`) -/
theorem min_accuracy
    (env : MapEnv) (α mn mx : Rat) (C : Contract env α mn mx)
    (xs : List Rat) (hx : ∀ x ∈ xs, rabs x ≤ mx) (hne : xs ≠ []) (hn : xs.length ≤ 2 ^ 53)
    (s₀ : Sketch)
    (hs : Sketch.addAll env (Sketch.new (some env.id) .sparse) (xs.map (fun x => (x, 1))) = some s₀) :
    ∃ a : Rat, s₀.getMin env = .ok (.fin a) ∧
      rabs (a - (sortedInputs mn xs)[0]!) ≤ α * rabs ((sortedInputs mn xs)[0]!) := by
  obtain ⟨a, ha, hacc⟩ := binRep_acc env α mn mx C _ (sortedInputs_range mn mx xs hx _
    (sortedInputs_get_mem mn xs 0 (List.length_pos_iff.2 hne)))
  exact ⟨a, (getMin_bin env α mn mx C xs hx hne hn s₀ hs).trans (congrArg _ ha), hacc⟩

/-- **the reported maximum is within `α` of the true maximum** -/
theorem max_accuracy
    (env : MapEnv) (α mn mx : Rat) (C : Contract env α mn mx)
    (xs : List Rat) (hx : ∀ x ∈ xs, rabs x ≤ mx) (hne : xs ≠ []) (hn : xs.length ≤ 2 ^ 53)
    (s₀ : Sketch)
    (hs : Sketch.addAll env (Sketch.new (some env.id) .sparse) (xs.map (fun x => (x, 1))) = some s₀) :
    ∃ b : Rat, s₀.getMax env = .ok (.fin b) ∧
      rabs (b - (sortedInputs mn xs)[xs.length - 1]!) ≤
        α * rabs ((sortedInputs mn xs)[xs.length - 1]!) := by
  have hpos : 0 < xs.length := List.length_pos_iff.2 hne
  obtain ⟨b, hb, hacc⟩ := binRep_acc env α mn mx C _ (sortedInputs_range mn mx xs hx _
    (sortedInputs_get_mem mn xs (xs.length - 1) (by omega)))
  exact ⟨b, (getMax_bin env α mn mx C xs hx hne hn s₀ hs).trans (congrArg _ hb), hacc⟩

/-- the reported minimum is the answer at `q = 0` -/
theorem min_eq_quantile_zero
    (env : MapEnv) (α mn mx : Rat) (C : Contract env α mn mx)
    (xs : List Rat) (hx : ∀ x ∈ xs, rabs x ≤ mx) (hne : xs ≠ []) (hn : xs.length ≤ 2 ^ 53)
    (s : Sketch)
    (hs : Sketch.addAll env (Sketch.new (some env.id) .sparse) (xs.map (fun x => (x, 1))) = some s) :
    s.getMin env = s.quantile env (.fin 0) := by
  rw [getMin_bin env α mn mx C xs hx hne hn s hs, (C01.quantile_zero env α mn mx C xs hx hne hn s hs).2]

/-- the reported maximum is the answer at `q = 1` -/
theorem max_eq_quantile_one
    (env : MapEnv) (α mn mx : Rat) (C : Contract env α mn mx)
    (xs : List Rat) (hx : ∀ x ∈ xs, rabs x ≤ mx) (hne : xs ≠ []) (hn : xs.length ≤ 2 ^ 53)
    (s : Sketch)
    (hs : Sketch.addAll env (Sketch.new (some env.id) .sparse) (xs.map (fun x => (x, 1))) = some s) :
    s.getMax env = s.quantile env (.fin 1) := by
  rw [getMax_bin env α mn mx C xs hx hne hn s hs, (C01.quantile_one env α mn mx C xs hx hne hn s hs).2]

/-- `exXs = [5, -2, 1, 3, -7, 0, 12]` under `exEnv` (`α = 1/2`; bins `(4/3, 4] ↦ 2`,
    `(4, 12] ↦ 6`): the true extremes are −7 and 12, the reported ones −6 and 6, both within
    `α` -/
example : ∃ s, Sketch.addAll exEnv (Sketch.new (some exEnv.id) .sparse) (exXs.map (fun x => (x, 1))) = some s ∧
    s.getMin exEnv = .ok (.fin (-6)) ∧ s.getMax exEnv = .ok (.fin 6) ∧
    rabs (-6 - (sortedInputs (4 / 3) exXs)[0]!) ≤ 1 / 2 * rabs ((sortedInputs (4 / 3) exXs)[0]!) ∧
    rabs (6 - (sortedInputs (4 / 3) exXs)[exXs.length - 1]!) ≤
      1 / 2 * rabs ((sortedInputs (4 / 3) exXs)[exXs.length - 1]!) := by
  obtain ⟨s, hs⟩ := C01.addAll_ok exEnv _ _ _ exContract exXs exXs_ok
  obtain ⟨a, ha, hacc⟩ := min_accuracy exEnv _ _ _ exContract exXs exXs_ok exXs_ne exXs_len s hs
  obtain ⟨b, hb, hbcc⟩ := max_accuracy exEnv _ _ _ exContract exXs exXs_ok exXs_ne exXs_len s hs
  have h1 : _ = Except.ok (binRep exEnv _) :=
    getMin_bin exEnv _ _ _ exContract exXs exXs_ok exXs_ne exXs_len s hs
  have h2 : _ = Except.ok (binRep exEnv _) :=
    getMax_bin exEnv _ _ _ exContract exXs exXs_ok exXs_ne exXs_len s hs
  have e1 : (sortedInputs (4 / 3) exXs)[0]! = -7 := by rw [exXs_sorted]; rfl
  have e2 : (sortedInputs (4 / 3) exXs)[exXs.length - 1]! = 12 := by rw [exXs_sorted]; rfl
  have v1 : binRep exEnv (-7) = .fin (-6) := by decide +kernel
  have v2 : binRep exEnv 12 = .fin 6 := by decide +kernel
  rw [e1, v1] at h1
  rw [e2, v2] at h2
  rw [h1] at ha
  rw [h2] at hb
  cases ha
  cases hb
  exact ⟨s, hs, h1, h2, hacc, hbcc⟩

/-! ## T2. quantile answers stay between the reported minimum and maximum -/

/-- **min ≤ quantile ≤ max on a spec sketch**, with the weakest hypotheses: `hpos` — the positive
    store is not consulted while empty (`Sketch.usesPos`, see `DDS.Proofs.SketchObs`); `hrep` —
    when only negative values are held their total weight is a float. -/
theorem quantile_between (env : MapEnv) (α mn mx : Rat) (C : Contract env α mn mx)
    (m : Option MapId) (cp cn : Content) (zq : Rat) (hcp : cp.WF) (hcn : cn.WF) (hz : 0 ≤ zq)
    (hrep : cp = [] → zq = 0 → F64.roundF64 cn.total = .fin cn.total)
    (q v a b : F64)
    (hpos : cp = [] → (Sketch.spec m cp cn (.fin zq)).usesPos q = false)
    (hq : (Sketch.spec m cp cn (.fin zq)).quantile env q = .ok v)
    (ha : (Sketch.spec m cp cn (.fin zq)).getMin env = .ok a)
    (hb : (Sketch.spec m cp cn (.fin zq)).getMax env = .ok b) :
    F64.le a v = true ∧ F64.le v b = true := by
  obtain ⟨a', rfl, A⟩ := getMin_isMin C m cp cn zq hcp hcn a ha
  obtain ⟨b', rfl, B⟩ := getMax_isMax C m cp cn zq hcp hcn b hb
  obtain ⟨hv, hne, h⟩ := Sketch.quantile_ok_cases env _ q v hq
  rcases h with ⟨h3, rfl⟩ | ⟨h3, h4, rfl⟩ | ⟨hu, rfl⟩
  · obtain ⟨w, hw⟩ := C12.skar_mem cn hcn (Sketch.neg_nonempty_of_lt _ q cn h3)
      (F64.sub (F64.sub (Sketch.spec m cp cn (.fin zq)).negTotal F64.one)
        ((Sketch.spec m cp cn (.fin zq)).qrank q))
    rw [Sketch.spec_neg, value_eq C]
    exact ⟨F64.le_fin_of_le _ _ (A.neg _ w hw), F64.le_fin_of_le _ _ (by linarith [B.pos _ w hw])⟩
  · obtain ⟨r, hr, hr0⟩ : ∃ r, (Sketch.spec m cp cn (.fin zq)).qrank q = .fin r ∧ 0 ≤ r := by
      rcases Sketch.qrank_cases (Sketch.spec m cp cn (.fin zq)) q with h | h | h
      · rw [h] at h4; cases h4
      · rw [h] at h4
        cases hadd : F64.add (.fin zq) (.fin cn.total) <;>
          rw [Sketch.spec_zero, Sketch.spec_negTotal, hadd] at h4 <;>
          cases h4
      · exact h
    rw [hr] at h3 h4
    have h3' : F64.lt (.fin r) (.fin cn.total) = false := h3
    have h4' : F64.lt (.fin r) (F64.add (.fin zq) (.fin cn.total)) = true := h4
    have hn : cn ≠ [] ∨ 0 < zq := by
      by_contra hc
      obtain ⟨hc1, hc2⟩ := not_or.1 hc
      obtain rfl := not_not.1 hc1
      obtain rfl := le_antisymm (not_lt.1 hc2) hz
      have : F64.add (.fin (0 : Rat)) (.fin (Content.total [])) = .fin 0 :=
        F64.zero_add_exact 0 F64.isRep_zero
      rw [this] at h4'
      exact absurd (of_decide_eq_true h4') (not_lt.2 hr0)
    have hp : cp ≠ [] ∨ 0 < zq := by
      by_contra hc
      obtain ⟨hc1, hc2⟩ := not_or.1 hc
      obtain rfl := le_antisymm (not_lt.1 hc2) hz
      have e : F64.add (.fin (0 : Rat)) (.fin cn.total) = .fin cn.total :=
        F64.zero_add_exact _ (F64.isRep_of_roundF64 (hrep (not_not.1 hc1) rfl))
      rw [e, h3'] at h4'
      cases h4'
    exact ⟨F64.le_fin_of_le _ _ (A.zero hn), F64.le_fin_of_le _ _ (by linarith [B.zero hp])⟩
  · have hne : cp ≠ [] := fun hc => by rw [hpos hc] at hu; cases hu
    obtain ⟨w, hw⟩ := C12.skar_mem cp hcp hne (F64.sub (F64.sub
      ((Sketch.spec m cp cn (.fin zq)).qrank q) (Sketch.spec m cp cn (.fin zq)).zero)
      (Sketch.spec m cp cn (.fin zq)).negTotal)
    rw [Sketch.spec_pos, value_eq C]
    exact ⟨F64.le_fin_of_le _ _ (A.pos _ w hw), F64.le_fin_of_le _ _ (by linarith [B.neg _ w hw])⟩

/-- **`hpos` is necessary**: if a sketch without positive values consults its (empty) positive
    store, the answer is `value 0`, strictly ABOVE the reported maximum.  (So "quantile answers stay
    between the reported minimum and maximum" is FALSE without a hypothesis excluding this.) -/
theorem quantile_above_max_of_empty_store (env : MapEnv) (α mn mx : Rat) (C : Contract env α mn mx)
    (m : Option MapId) (cn : Content) (zq : Rat) (hcn : cn.WF) (q v b : F64)
    (hu : (Sketch.spec m [] cn (.fin zq)).usesPos q = true)
    (hq : (Sketch.spec m [] cn (.fin zq)).quantile env q = .ok v)
    (hb : (Sketch.spec m [] cn (.fin zq)).getMax env = .ok b) :
    v = env.value 0 ∧ F64.lt b v = true := by
  obtain ⟨b', rfl, B⟩ := getMax_isMax C m [] cn zq Content.wf_nil hcn b hb
  obtain ⟨_, _, ⟨h3, _⟩ | ⟨_, h4, _⟩ | ⟨_, rfl⟩⟩ := Sketch.quantile_ok_cases env _ q v hq
  · simp only [Sketch.usesPos, h3, Bool.not_true, Bool.false_and, Bool.false_eq_true] at hu
  · simp only [Sketch.usesPos, h4, Bool.not_true, Bool.and_false, Bool.false_eq_true] at hu
  have hk : ∀ x : F64, Sketch.storeKeyAtRank (.sp []) x = 0 := fun x => by cases x <;> rfl
  rw [Sketch.spec_pos, hk]
  refine ⟨rfl, ?_⟩
  rw [value_eq C 0]
  have h0 := valQ_pos C 0
  apply decide_eq_true
  rcases B.att with ⟨k, w, hk, _⟩ | ⟨_, e⟩ | ⟨k, w, _, e⟩
  · exact absurd hk List.not_mem_nil
  · linarith
  · linarith [valQ_pos C k]

/-- the counterexample, concretely (the absorbed count of `C11`): one negative value in bin 1 with
    count `2^54` under `exEnv`; `count − 1` rounds back to `count`, `q = 1` reads the empty
    positive store and answers `+2`, while the reported maximum (= minimum) is `−6` -/
example :
    Sketch.quantile exEnv (Sketch.spec (some exEnv.id) [] [(1, (2 : Rat) ^ 54)] (.fin 0)) (.fin 1)
      = .ok (.fin 2) ∧
    Sketch.getMax exEnv (Sketch.spec (some exEnv.id) [] [(1, (2 : Rat) ^ 54)] (.fin 0))
      = .ok (.fin (-6)) ∧
    Sketch.getMin exEnv (Sketch.spec (some exEnv.id) [] [(1, (2 : Rat) ^ 54)] (.fin 0))
      = .ok (.fin (-6)) ∧
    F64.lt (.fin (-6)) (.fin 2) = true := by
  have ht : Content.total [((1 : Int), (2 : Rat) ^ 54)] = (2 : Rat) ^ 54 := by
    simp [Content.total]
  refine ⟨?_, by decide +kernel, by decide +kernel, by decide +kernel⟩
  have := C11.absorbed_count_answers_from_empty_store exEnv (some exEnv.id)
    [(1, (2 : Rat) ^ 54)] (by rw [ht]; norm_num) (by rw [ht]; exact round_pow54)
    (by rw [ht]; exact sub_one_absorbed)
  exact this

/-- **min ≤ quantile ≤ max under exact counting** (the hypotheses of `C12.quantile_mono`;
    `count − 1 ≠ count` — true below `2^53` — is only needed when there is no positive value) -/
theorem quantile_between_exact (env : MapEnv) (α mn mx : Rat) (C : Contract env α mn mx)
    (m : Option MapId) (cp cn : Content) (zq : Rat) (hcp : cp.WF) (hcn : cn.WF) (hz : 0 ≤ zq)
    (hx : F64.add (F64.add (.fin zq) (.fin cp.total)) (.fin cn.total) =
      .fin (zq + cp.total + cn.total))
    (hpred : cp = [] →
      F64.sub (.fin (zq + cp.total + cn.total)) F64.one ≠ .fin (zq + cp.total + cn.total))
    (q v a b : F64)
    (hq : (Sketch.spec m cp cn (.fin zq)).quantile env q = .ok v)
    (ha : (Sketch.spec m cp cn (.fin zq)).getMin env = .ok a)
    (hb : (Sketch.spec m cp cn (.fin zq)).getMax env = .ok b) :
    F64.le a v = true ∧ F64.le v b = true := by
  apply quantile_between env α mn mx C m cp cn zq hcp hcn hz ?_ q v a b ?_ hq ha hb
  · intro h1 h2
    subst h1; subst h2
    have e0 : F64.add (.fin (0 : Rat)) (.fin (Content.total [])) = .fin 0 :=
      F64.zero_add_exact 0 F64.isRep_zero
    rw [e0] at hx
    have hx' : F64.roundF64 (0 + cn.total) = .fin (0 + 0 + cn.total) := hx
    simpa using hx'
  · intro hc
    obtain ⟨hv, hne, _⟩ := Sketch.quantile_ok_cases env _ q v hq
    obtain ⟨r, rfl, hr0, hr1⟩ := (C13.quantile_valid_iff q).1 hv
    apply C12.usesPos_false_of_exact m cp cn zq hcp hcn hz hx hc ?_ (hpred hc) r hr0 hr1
    intro hN
    rw [C12.count_eq_total m cp cn zq hx, hN] at hne
    simp [F64.eq] at hne

/-- **min ≤ quantile ≤ max after at most `2^53` unit adds**: no extra hypothesis -/
theorem quantile_between_units
    (env : MapEnv) (α mn mx : Rat) (C : Contract env α mn mx)
    (xs : List Rat) (hx : ∀ x ∈ xs, rabs x ≤ mx) (hne : xs ≠ []) (hn : xs.length ≤ 2 ^ 53)
    (s : Sketch)
    (hs : Sketch.addAll env (Sketch.new (some env.id) .sparse) (xs.map (fun x => (x, 1))) = some s)
    (q v a b : F64) (hq : s.quantile env q = .ok v)
    (ha : s.getMin env = .ok a) (hb : s.getMax env = .ok b) :
    F64.le a v = true ∧ F64.le v b = true := by
  have hst := addAll_state env α mn mx C xs hx hn s hs
  have hlen := length_sorted_split mn C.minPos xs
  have hpos : 0 < xs.length := List.length_pos_iff.2 hne
  subst hst
  obtain ⟨u1, u2⟩ := Props.Lift.unit_counts_exact (zeroCnt mn xs)
    ((Psorted mn xs).map (idxOf env)).length ((Msorted mn xs).map (idxOf env)).length
    (by simp only [List.length_map]; omega) (by simp only [List.length_map]; omega)
  exact quantile_between_exact env α mn mx C (some env.id) (unitsOf ((Psorted mn xs).map (idxOf env)))
    (unitsOf ((Msorted mn xs).map (idxOf env))) (zeroCnt mn xs : Rat) (wf_unitsOf _) (wf_unitsOf _)
    (by positivity) (by rw [total_unitsOf, total_unitsOf]; exact u1)
    (fun _ => by rw [total_unitsOf, total_unitsOf]; exact u2) q v a b hq ha hb

/-- the same with everything made explicit: the extremes and every valid quantile are answered,
    with finite values, and `min ≤ quantile ≤ max` as rationals -/
theorem quantile_between_units_rat
    (env : MapEnv) (α mn mx : Rat) (C : Contract env α mn mx)
    (xs : List Rat) (hx : ∀ x ∈ xs, rabs x ≤ mx) (hne : xs ≠ []) (hn : xs.length ≤ 2 ^ 53)
    (s : Sketch)
    (hs : Sketch.addAll env (Sketch.new (some env.id) .sparse) (xs.map (fun x => (x, 1))) = some s) :
    ∃ a b : Rat, s.getMin env = .ok (.fin a) ∧ s.getMax env = .ok (.fin b) ∧
      ∀ q : Rat, 0 ≤ q → q ≤ 1 →
        ∃ v : Rat, s.quantile env (.fin q) = .ok (.fin v) ∧ a ≤ v ∧ v ≤ b := by
  obtain ⟨a, ha, _⟩ := min_accuracy env α mn mx C xs hx hne hn s hs
  obtain ⟨b, hb, _⟩ := max_accuracy env α mn mx C xs hx hne hn s hs
  refine ⟨a, b, ha, hb, fun q h0 h1 => ?_⟩
  obtain ⟨v, hv, _⟩ := C01.quantile_accuracy env α mn mx C xs hx hne hn s hs q h0 h1
  obtain ⟨l1, l2⟩ := quantile_between_units env α mn mx C xs hx hne hn s hs _ _ _ _ hv ha hb
  exact ⟨v, hv, by simpa using l1, by simpa using l2⟩

example : ∃ s, Sketch.addAll exEnv (Sketch.new (some exEnv.id) .sparse) (exXs.map (fun x => (x, 1))) = some s ∧
    ∃ a b : Rat, s.getMin exEnv = .ok (.fin a) ∧ s.getMax exEnv = .ok (.fin b) ∧
      ∀ q : Rat, 0 ≤ q → q ≤ 1 →
        ∃ v : Rat, s.quantile exEnv (.fin q) = .ok (.fin v) ∧ a ≤ v ∧ v ≤ b := by
  obtain ⟨s, hs⟩ := C01.addAll_ok exEnv _ _ _ exContract exXs exXs_ok
  exact ⟨s, hs, quantile_between_units_rat exEnv _ _ _ exContract exXs exXs_ok exXs_ne exXs_len s hs⟩

/-- `quantile_between_exact` on the weighted spec sketch `C12.skC` (fractional ranks) -/
example (q v a b : F64) (hq : C12.skC.quantile C12.envC q = .ok v)
    (ha : C12.skC.getMin C12.envC = .ok a) (hb : C12.skC.getMax C12.envC = .ok b) :
    F64.le a v = true ∧ F64.le v b = true :=
  quantile_between_exact C12.envC _ _ _ C12.envC_contract (some C12.envC.id) [(0, 2), (3, 1)]
    [(1, 1)] 1
    ((Content.wf_cons _ _).2 ⟨by norm_num, by simp,
      (Content.wf_cons _ _).2 ⟨by norm_num, by simp, Content.wf_nil⟩⟩)
    ((Content.wf_cons _ _).2 ⟨by norm_num, by simp, Content.wf_nil⟩)
    (by norm_num) (by decide +kernel) (fun h => by simp at h) q v a b hq ha hb

/-! ## T3. the approximate sum -/

/-- the exact approximate sum of a spec sketch: the zero bucket contributes 0, a positive bin
    `value(k)·w`, a negative bin `−value(k)·w` (`Extremes.valQ env k` is the rational `r` with
    `env.value k = .fin r`, `Extremes.fsumC f c = Σ_{(k,w) ∈ c} f k · w`) -/
theorem approxSumQ_spec (env : MapEnv) (m : Option MapId) (cp cn : Content) (zq : Rat) :
    approxSumQ env (Sketch.spec m cp cn (.fin zq)) =
      some (fsumC (valQ env) cp - fsumC (valQ env) cn) :=
  Extremes.approxSumQ_spec env m cp cn zq

/-- under the contract `valQ` is the representative value -/
theorem value_eq_valQ (env : MapEnv) (α mn mx : Rat) (C : Contract env α mn mx) (k : Int) :
    env.value k = .fin (valQ env k) ∧ 0 < valQ env k :=
  ⟨value_eq C k, valQ_pos C k⟩

/-- **accuracy of the approximate sum, any signs**: the error is at most `α · Σ|xᵢ|` -/
theorem sum_accuracy_abs
    (env : MapEnv) (α mn mx : Rat) (C : Contract env α mn mx)
    (xs : List Rat) (hx : ∀ x ∈ xs, rabs x ≤ mx) (hn : xs.length ≤ 2 ^ 53)
    (s : Sketch)
    (hs : Sketch.addAll env (Sketch.new (some env.id) .sparse) (xs.map (fun x => (x, 1))) = some s) :
    ∃ A : Rat, approxSumQ env s = some A ∧
      rabs (A - (sortedInputs mn xs).sum) ≤ α * ((sortedInputs mn xs).map rabs).sum :=
  ⟨_, approxSumQ_units env α mn mx C xs hx hn s hs,
    sum_err (repQ env) α _ (fun y hy => repQ_acc C y (sortedInputs_range mn mx xs hx y hy))⟩

/-- **the approximate sum is within `α` of the true sum for same-signed data** (values of
    sub-minimum magnitude count as 0 — on both sides of the comparison) -/
theorem sum_accuracy
    (env : MapEnv) (α mn mx : Rat) (C : Contract env α mn mx)
    (xs : List Rat) (hx : ∀ x ∈ xs, rabs x ≤ mx) (hn : xs.length ≤ 2 ^ 53)
    (s : Sketch)
    (hs : Sketch.addAll env (Sketch.new (some env.id) .sparse) (xs.map (fun x => (x, 1))) = some s)
    (hsign : (∀ y ∈ sortedInputs mn xs, 0 ≤ y) ∨ (∀ y ∈ sortedInputs mn xs, y ≤ 0)) :
    ∃ A : Rat, approxSumQ env s = some A ∧
      rabs (A - (sortedInputs mn xs).sum) ≤ α * rabs (sortedInputs mn xs).sum := by
  obtain ⟨A, h1, h2⟩ := sum_accuracy_abs env α mn mx C xs hx hn s hs
  refine ⟨A, h1, ?_⟩
  rcases hsign with h | h
  · rwa [sum_rabs_nonneg _ h] at h2
  · rwa [sum_rabs_nonpos _ h] at h2

/-- all inputs non-negative; the true sum is spelled out as the sum of the zero-collapsed inputs -/
theorem sum_accuracy_nonneg
    (env : MapEnv) (α mn mx : Rat) (C : Contract env α mn mx)
    (xs : List Rat) (hx : ∀ x ∈ xs, rabs x ≤ mx) (hn : xs.length ≤ 2 ^ 53)
    (s : Sketch)
    (hs : Sketch.addAll env (Sketch.new (some env.id) .sparse) (xs.map (fun x => (x, 1))) = some s)
    (h0 : ∀ x ∈ xs, 0 ≤ x) :
    ∃ A : Rat, approxSumQ env s = some A ∧
      rabs (A - (xs.map (zeroSmall mn)).sum) ≤ α * rabs (xs.map (zeroSmall mn)).sum := by
  rw [← sum_sortedInputs]
  exact sum_accuracy env α mn mx C xs hx hn s hs (Or.inl (sortedInputs_nonneg_of mn xs h0))

/-- all inputs non-positive -/
theorem sum_accuracy_nonpos
    (env : MapEnv) (α mn mx : Rat) (C : Contract env α mn mx)
    (xs : List Rat) (hx : ∀ x ∈ xs, rabs x ≤ mx) (hn : xs.length ≤ 2 ^ 53)
    (s : Sketch)
    (hs : Sketch.addAll env (Sketch.new (some env.id) .sparse) (xs.map (fun x => (x, 1))) = some s)
    (h0 : ∀ x ∈ xs, x ≤ 0) :
    ∃ A : Rat, approxSumQ env s = some A ∧
      rabs (A - (xs.map (zeroSmall mn)).sum) ≤ α * rabs (xs.map (zeroSmall mn)).sum := by
  rw [← sum_sortedInputs]
  exact sum_accuracy env α mn mx C xs hx hn s hs (Or.inr (sortedInputs_nonpos_of mn xs h0))

/-- the non-negative inputs `[5, 1, 3, 0, 12]` under `exEnv`: true sum (1 counts as 0) 20,
    approximate sum `6 + 2 + 6 = 14`, within `α = 1/2` -/
example : ∃ s, Sketch.addAll exEnv (Sketch.new (some exEnv.id) .sparse)
      (([5, 1, 3, 0, 12] : List Rat).map (fun x => (x, 1))) = some s ∧
    approxSumQ exEnv s = some 14 ∧
    (([5, 1, 3, 0, 12] : List Rat).map (zeroSmall (4 / 3))).sum = 20 ∧
    rabs (14 - 20) ≤ 1 / 2 * rabs (20 : Rat) := by
  have hok : ∀ x ∈ ([5, 1, 3, 0, 12] : List Rat), rabs x ≤ 12 := by decide +kernel
  obtain ⟨s, hs⟩ := C01.addAll_ok exEnv _ _ _ exContract _ hok
  obtain ⟨A, hA, hacc⟩ := sum_accuracy_nonneg exEnv _ _ _ exContract _ hok (by simp) s hs
    (by decide +kernel)
  have hsum : (([5, 1, 3, 0, 12] : List Rat).map (zeroSmall (4 / 3))).sum = 20 := by decide +kernel
  have hval : approxSumQ exEnv s = some 14 := by
    have h := hs
    rw [Sketch.new_sparse, addAll_units exEnv _ _ _ exContract _ hok] at h
    cases h
    decide +kernel
  rw [hval] at hA
  cases hA
  rw [hsum] at hacc
  exact ⟨s, hs, hval, hsum, hacc⟩

/-- **mixed signs: the bound fails.**  Inputs `3` (bin 0 ↦ 2) and `−5` (bin 1 ↦ 6) under `exEnv`:
    true sum `−2`, approximate sum `2 − 6 = −4`, error `2 > α·|−2| = 1`
    (only `sum_accuracy_abs` holds: `2 ≤ α·(3 + 5) = 4`). -/
example : ∃ s, Sketch.addAll exEnv (Sketch.new (some exEnv.id) .sparse)
      (([3, -5] : List Rat).map (fun x => (x, 1))) = some s ∧
    approxSumQ exEnv s = some (-4) ∧ (sortedInputs (4 / 3) [3, -5]).sum = -2 ∧
    ¬ (rabs (-4 - -2) ≤ 1 / 2 * rabs (-2 : Rat)) := by
  have hok : ∀ x ∈ ([3, -5] : List Rat), rabs x ≤ 12 := by decide +kernel
  obtain ⟨s, hs⟩ := C01.addAll_ok exEnv _ _ _ exContract _ hok
  refine ⟨s, hs, ?_, ?_, by unfold rabs; norm_num⟩
  · have h := hs
    rw [Sketch.new_sparse, addAll_units exEnv _ _ _ exContract _ hok] at h
    cases h
    decide +kernel
  · rw [sum_sortedInputs]; decide +kernel

/-- **the float `GetSum()` equals the exact approximate sum when nothing is rounded**
    (`SumExact l`: every enumerated value is finite, every product `value·weight` and every partial
    sum is a float) -/
theorem getSum_of_exact (env : MapEnv) (s : Sketch) (l : List (F64 × Rat))
    (hl : s.forEachList env = some l) (hE : SumExact l) :
    s.getSum env = some (.fin (approxSumL l)) ∧ approxSumQ env s = some (approxSumL l) :=
  Extremes.getSum_of_exact env s l hl hE

/-- `GetSum()` is by definition the float fold over the `ForEach` enumeration -/
theorem getSum_eq_fold (env : MapEnv) (s : Sketch) :
    s.getSum env = (s.forEachList env).map (sumFold (.fin 0)) :=
  Extremes.getSum_eq_fold env s

/-- `SumExact` holds on the sketch of `exXs` (two zeros, positive bins `0 ↦ 1`, `1 ↦ 2`, negative
    bins `0 ↦ 1`, `1 ↦ 1`): partial sums `0, 2, 14, 12, 6`; `GetSum() = 6` (true sum 11) -/
example : ∃ s, Sketch.addAll exEnv (Sketch.new (some exEnv.id) .sparse) (exXs.map (fun x => (x, 1))) = some s ∧
    s.forEachList exEnv =
      some [(.fin 0, 2), (.fin 2, 1), (.fin 6, 2), (.fin (-2), 1), (.fin (-6), 1)] ∧
    SumExact [(.fin 0, 2), (.fin 2, 1), (.fin 6, 2), (.fin (-2), 1), (.fin (-6), 1)] ∧
    s.getSum exEnv = some (.fin 6) := by
  obtain ⟨s, hs⟩ := C01.addAll_ok exEnv _ _ _ exContract exXs exXs_ok
  have hl : s.forEachList exEnv =
      some [(.fin 0, 2), (.fin 2, 1), (.fin 6, 2), (.fin (-2), 1), (.fin (-6), 1)] := by
    have h := hs
    rw [Sketch.new_sparse, addAll_units exEnv _ _ _ exContract exXs exXs_ok] at h
    cases h
    decide +kernel
  have hE : SumExact [(.fin 0, 2), (.fin 2, 1), (.fin 6, 2), (.fin (-2), 1), (.fin (-6), 1)] := by
    constructor
    · intro p hp
      simp only [List.mem_cons, List.not_mem_nil, or_false] at hp
      rcases hp with rfl | rfl | rfl | rfl | rfl <;> exact ⟨_, rfl, by decide +kernel⟩
    · intro k hk
      simp only [List.length_cons, List.length_nil] at hk
      have hk' : k = 0 ∨ k = 1 ∨ k = 2 ∨ k = 3 ∨ k = 4 ∨ k = 5 := by omega
      rcases hk' with rfl | rfl | rfl | rfl | rfl | rfl <;> decide +kernel
  refine ⟨s, hs, hl, hE, ?_⟩
  rw [(getSum_of_exact exEnv s _ hl hE).1]
  decide +kernel

/-! ## T4. every store kind -/

theorem getMin_congr (env : MapEnv) (s : Sketch) (cp cn : Content) (h : s.Refines cp cn) :
    s.getMin env = (Sketch.spec s.mapping cp cn s.zero).getMin env :=
  Sketch.getMin_congr env h

theorem getMax_congr (env : MapEnv) (s : Sketch) (cp cn : Content) (h : s.Refines cp cn) :
    s.getMax env = (Sketch.spec s.mapping cp cn s.zero).getMax env :=
  Sketch.getMax_congr env h

theorem getSum_congr (env : MapEnv) (s : Sketch) (cp cn : Content) (h : s.Refines cp cn) :
    s.getSum env = (Sketch.spec s.mapping cp cn s.zero).getSum env :=
  Sketch.getSum_congr env h

theorem approxSumQ_congr (env : MapEnv) (s : Sketch) (cp cn : Content) (h : s.Refines cp cn) :
    approxSumQ env s = approxSumQ env (Sketch.spec s.mapping cp cn s.zero) :=
  Extremes.approxSumQ_congr env h

/-- **the reported minimum is α-accurate for every non-collapsing store kind** -/
theorem min_accuracy_any_store (k : StoreKind) (hk : Plain k)
    (env : MapEnv) (α mn mx : Rat) (C : Contract env α mn mx)
    (xs : List Rat) (hx : ∀ x ∈ xs, rabs x ≤ mx)
    (hx32 : ∀ x ∈ xs, mn < rabs x → I32 (env.index (.fin (rabs x))))
    (hne : xs ≠ []) (hn : xs.length ≤ 2 ^ 53) (s : Sketch)
    (hs : Sketch.addAll env (Sketch.new (some env.id) k) (xs.map (fun x => (x, 1))) = some s) :
    ∃ a : Rat, s.getMin env = .ok (.fin a) ∧
      rabs (a - (sortedInputs mn xs)[0]!) ≤ α * rabs ((sortedInputs mn xs)[0]!) := by
  obtain ⟨s₀, h0, e1, _⟩ := obs_eq_spec k hk env α mn mx C xs hx hx32 s hs
  rw [e1]
  exact min_accuracy env α mn mx C xs hx hne hn s₀ h0

/-- **the reported maximum is α-accurate for every non-collapsing store kind** -/
theorem max_accuracy_any_store (k : StoreKind) (hk : Plain k)
    (env : MapEnv) (α mn mx : Rat) (C : Contract env α mn mx)
    (xs : List Rat) (hx : ∀ x ∈ xs, rabs x ≤ mx)
    (hx32 : ∀ x ∈ xs, mn < rabs x → I32 (env.index (.fin (rabs x))))
    (hne : xs ≠ []) (hn : xs.length ≤ 2 ^ 53) (s : Sketch)
    (hs : Sketch.addAll env (Sketch.new (some env.id) k) (xs.map (fun x => (x, 1))) = some s) :
    ∃ b : Rat, s.getMax env = .ok (.fin b) ∧
      rabs (b - (sortedInputs mn xs)[xs.length - 1]!) ≤
        α * rabs ((sortedInputs mn xs)[xs.length - 1]!) := by
  obtain ⟨s₀, h0, _, e2, _⟩ := obs_eq_spec k hk env α mn mx C xs hx hx32 s hs
  rw [e2]
  exact max_accuracy env α mn mx C xs hx hne hn s₀ h0

/-- **min ≤ quantile ≤ max for every non-collapsing store kind** -/
theorem quantile_between_any_store (k : StoreKind) (hk : Plain k)
    (env : MapEnv) (α mn mx : Rat) (C : Contract env α mn mx)
    (xs : List Rat) (hx : ∀ x ∈ xs, rabs x ≤ mx)
    (hx32 : ∀ x ∈ xs, mn < rabs x → I32 (env.index (.fin (rabs x))))
    (hne : xs ≠ []) (hn : xs.length ≤ 2 ^ 53) (s : Sketch)
    (hs : Sketch.addAll env (Sketch.new (some env.id) k) (xs.map (fun x => (x, 1))) = some s)
    (q v a b : F64) (hq : s.quantile env q = .ok v)
    (ha : s.getMin env = .ok a) (hb : s.getMax env = .ok b) :
    F64.le a v = true ∧ F64.le v b = true := by
  obtain ⟨s₀, h0, e1, e2, _⟩ := obs_eq_spec k hk env α mn mx C xs hx hx32 s hs
  obtain ⟨s₀', h0', eq⟩ := Props.Lift.quantile_eq_spec k hk env α mn mx C xs hx hx32 hne hn s hs
  rw [h0] at h0'
  cases h0'
  rw [eq] at hq
  rw [e1] at ha
  rw [e2] at hb
  exact quantile_between_units env α mn mx C xs hx hne hn s₀ h0 q v a b hq ha hb

/-- **the approximate sum is α-accurate on same-signed data for every non-collapsing store
    kind**; and `GetSum()`, `ForEach` agree with the spec sketch built from the same values -/
theorem sum_accuracy_any_store (k : StoreKind) (hk : Plain k)
    (env : MapEnv) (α mn mx : Rat) (C : Contract env α mn mx)
    (xs : List Rat) (hx : ∀ x ∈ xs, rabs x ≤ mx)
    (hx32 : ∀ x ∈ xs, mn < rabs x → I32 (env.index (.fin (rabs x))))
    (hn : xs.length ≤ 2 ^ 53) (s : Sketch)
    (hs : Sketch.addAll env (Sketch.new (some env.id) k) (xs.map (fun x => (x, 1))) = some s)
    (hsign : (∀ y ∈ sortedInputs mn xs, 0 ≤ y) ∨ (∀ y ∈ sortedInputs mn xs, y ≤ 0)) :
    (∃ A : Rat, approxSumQ env s = some A ∧
      rabs (A - (sortedInputs mn xs).sum) ≤ α * rabs (sortedInputs mn xs).sum) ∧
    ∃ s₀, Sketch.addAll env (Sketch.new (some env.id) .sparse) (xs.map (fun x => (x, 1))) = some s₀ ∧
      s.getSum env = s₀.getSum env ∧ s.forEachList env = s₀.forEachList env := by
  obtain ⟨s₀, h0, _, _, e3, e4, e5⟩ := obs_eq_spec k hk env α mn mx C xs hx hx32 s hs
  refine ⟨?_, s₀, h0, e4, e3⟩
  rw [e5]
  exact sum_accuracy env α mn mx C xs hx hn s₀ h0 hsign

/-- T1/T2 on dense and on paginated stores, `exXs` -/
example (k : StoreKind) (hk : k = .dense ∨ k = .pag) :
    ∃ s, Sketch.addAll exEnv (Sketch.new (some exEnv.id) k) (exXs.map (fun x => (x, 1))) = some s ∧
    (∃ a : Rat, s.getMin exEnv = .ok (.fin a) ∧
      rabs (a - (sortedInputs (4 / 3) exXs)[0]!) ≤ 1 / 2 * rabs ((sortedInputs (4 / 3) exXs)[0]!)) ∧
    (∃ b : Rat, s.getMax exEnv = .ok (.fin b) ∧
      rabs (b - (sortedInputs (4 / 3) exXs)[exXs.length - 1]!) ≤
        1 / 2 * rabs ((sortedInputs (4 / 3) exXs)[exXs.length - 1]!)) ∧
    ∀ q v a b : F64, s.quantile exEnv q = .ok v → s.getMin exEnv = .ok a →
      s.getMax exEnv = .ok b → F64.le a v = true ∧ F64.le v b = true := by
  have hp : Plain k := by rcases hk with rfl | rfl <;> trivial
  have h32 := Props.Lift.exXs_32
  obtain ⟨s, hs⟩ := Props.Lift.addAll_ok_any_store k hp exEnv _ _ _ exContract exXs exXs_ok h32
  exact ⟨s, hs,
    min_accuracy_any_store k hp exEnv _ _ _ exContract exXs exXs_ok h32 exXs_ne exXs_len s hs,
    max_accuracy_any_store k hp exEnv _ _ _ exContract exXs exXs_ok h32 exXs_ne exXs_len s hs,
    fun q v a b => quantile_between_any_store k hp exEnv _ _ _ exContract exXs exXs_ok h32 exXs_ne
      exXs_len s hs q v a b⟩

/-! ## T5. collapsing stores: the clamped extremes of C05 -/

/-- the minimum index of a lowest-collapsing content (limit `N`) is `max(minIndex, maxIndex−N+1)`;
    its maximum index and emptiness are those of the exact content -/
theorem minIndex_specLow (N : Nat) (hN : 1 ≤ N) (c : Content) (h : c.WF) :
    (Content.specLow N c).maxIndex? = c.maxIndex? ∧
    (Content.specLow N c).isEmpty = c.isEmpty ∧
    ∀ mn mx, c.minIndex? = some mn → c.maxIndex? = some mx →
      (Content.specLow N c).minIndex? = some (max mn (mx - (N : Int) + 1)) :=
  ⟨Content.maxIndex?_specLow N hN c h, Content.isEmpty_specLow N c h,
    fun mn mx => Extremes.minIndex_specLow N c h mn mx⟩

/-- the maximum index of a highest-collapsing content (limit `N`) is `min(maxIndex, minIndex+N−1)`;
    its minimum index and emptiness are those of the exact content -/
theorem maxIndex_specHigh (N : Nat) (hN : 1 ≤ N) (c : Content) (h : c.WF) :
    (Content.specHigh N c).minIndex? = c.minIndex? ∧
    (Content.specHigh N c).isEmpty = c.isEmpty ∧
    ∀ mn mx, c.minIndex? = some mn → c.maxIndex? = some mx →
      (Content.specHigh N c).maxIndex? = some (min mx (mn + (N : Int) - 1)) :=
  ⟨Content.minIndex?_specHigh N hN c h, Content.isEmpty_specHigh N c h,
    fun mn mx => Extremes.maxIndex_specHigh N c h mn mx⟩

/-- **extremes reported on lowest-collapsing stores** (`N ≥ 1` bins per store), after unit adds,
    in terms of the spec sketch `s₀ = spec cp cn zero` built from the same values:
    * `GetMinValue()` is `s₀`'s whenever a negative value or a zero was added (the negative store
      keeps its highest index = the most negative value); otherwise it is the representative of
      the clamped bin `max(minIndex cp, maxIndex cp − N + 1)`;
    * `GetMaxValue()` is `s₀`'s whenever a positive value or a zero was added; otherwise it is
      minus the representative of the clamped bin of the negative store. -/
theorem low_extremes (N : Nat) (hN : 1 ≤ N)
    (env : MapEnv) (α mn mx : Rat) (C : Contract env α mn mx)
    (xs : List Rat) (hx : ∀ x ∈ xs, rabs x ≤ mx)
    (hx32 : ∀ x ∈ xs, mn < rabs x → I32 (env.index (.fin (rabs x)))) (s : Sketch)
    (hs : Sketch.addAll env (Sketch.new (some env.id) (.low N)) (xs.map (fun x => (x, 1))) = some s) :
    ∃ s₀ cp cn,
      Sketch.addAll env (Sketch.new (some env.id) .sparse) (xs.map (fun x => (x, 1))) = some s₀ ∧
      s₀ = Sketch.spec (some env.id) cp cn s.zero ∧ cp.WF ∧ cn.WF ∧
      s.getMin env =
        (if (!cn.isEmpty || F64.gt s.zero (.fin 0)) = true then s₀.getMin env
         else match cp.minIndex?, cp.maxIndex? with
          | some a, some b => .ok (env.value (max a (b - (N : Int) + 1)))
          | _, _ => .error .empty) ∧
      s.getMax env =
        (if (!cp.isEmpty || F64.gt s.zero (.fin 0)) = true then s₀.getMax env
         else match cn.minIndex?, cn.maxIndex? with
          | some a, some b => .ok (F64.neg (env.value (max a (b - (N : Int) + 1))))
          | _, _ => .error .empty) := by
  obtain ⟨s', s₀, cp, cn, h1, h2, h3, hmap, wp, wn, _, _, _, _, R⟩ :=
    Props.Lift.collapsing_sketch_contents (.low N) hN env α mn mx C xs hx hx32
  rw [hs] at h1
  cases h1
  change s.Refines (Content.specLow N cp) (Content.specLow N cn) at R
  refine ⟨s₀, cp, cn, h2, h3, wp, wn, ?_, ?_⟩
  · rw [Sketch.getMin_congr env R, hmap, getMin_specLow env N hN _ cp cn s.zero wp wn, h3]
    rfl
  · rw [Sketch.getMax_congr env R, hmap, getMax_specLow env N hN _ cp cn s.zero wp wn, h3]
    rfl

/-- **extremes reported on highest-collapsing stores**: with negative values `GetMinValue()` is
    minus the representative of the clamped bin `min(maxIndex cn, minIndex cn + N − 1)`, otherwise
    `s₀`'s; with positive values `GetMaxValue()` is the representative of the clamped bin
    `min(maxIndex cp, minIndex cp + N − 1)`, otherwise `s₀`'s. -/
theorem high_extremes (N : Nat) (hN : 1 ≤ N)
    (env : MapEnv) (α mn mx : Rat) (C : Contract env α mn mx)
    (xs : List Rat) (hx : ∀ x ∈ xs, rabs x ≤ mx)
    (hx32 : ∀ x ∈ xs, mn < rabs x → I32 (env.index (.fin (rabs x)))) (s : Sketch)
    (hs : Sketch.addAll env (Sketch.new (some env.id) (.high N)) (xs.map (fun x => (x, 1))) = some s) :
    ∃ s₀ cp cn,
      Sketch.addAll env (Sketch.new (some env.id) .sparse) (xs.map (fun x => (x, 1))) = some s₀ ∧
      s₀ = Sketch.spec (some env.id) cp cn s.zero ∧ cp.WF ∧ cn.WF ∧
      s.getMin env =
        (if (!cn.isEmpty) = true then
          match cn.minIndex?, cn.maxIndex? with
          | some a, some b => .ok (F64.neg (env.value (min b (a + (N : Int) - 1))))
          | _, _ => .ok (F64.neg (env.value 0))
         else s₀.getMin env) ∧
      s.getMax env =
        (if (!cp.isEmpty) = true then
          match cp.minIndex?, cp.maxIndex? with
          | some a, some b => .ok (env.value (min b (a + (N : Int) - 1)))
          | _, _ => .ok (env.value 0)
         else s₀.getMax env) := by
  obtain ⟨s', s₀, cp, cn, h1, h2, h3, hmap, wp, wn, _, _, _, _, R⟩ :=
    Props.Lift.collapsing_sketch_contents (.high N) hN env α mn mx C xs hx hx32
  rw [hs] at h1
  cases h1
  change s.Refines (Content.specHigh N cp) (Content.specHigh N cn) at R
  refine ⟨s₀, cp, cn, h2, h3, wp, wn, ?_, ?_⟩
  · rw [Sketch.getMin_congr env R, hmap, getMin_specHigh env N hN _ cp cn s.zero wp wn, h3]
    rfl
  · rw [Sketch.getMax_congr env R, hmap, getMax_specHigh env N hN _ cp cn s.zero wp wn, h3]
    rfl

/-- lowest-collapsing stores: the reported minimum is α-accurate as soon as some input is
    negative or in the zero bucket (`x ≤ minIndexable`) -/
theorem low_min_accuracy (N : Nat) (hN : 1 ≤ N)
    (env : MapEnv) (α mn mx : Rat) (C : Contract env α mn mx)
    (xs : List Rat) (hx : ∀ x ∈ xs, rabs x ≤ mx)
    (hx32 : ∀ x ∈ xs, mn < rabs x → I32 (env.index (.fin (rabs x))))
    (hne : xs ≠ []) (hn : xs.length ≤ 2 ^ 53) (s : Sketch)
    (hs : Sketch.addAll env (Sketch.new (some env.id) (.low N)) (xs.map (fun x => (x, 1))) = some s)
    (hlow : ∃ x ∈ xs, x ≤ mn) :
    ∃ a : Rat, s.getMin env = .ok (.fin a) ∧
      rabs (a - (sortedInputs mn xs)[0]!) ≤ α * rabs ((sortedInputs mn xs)[0]!) := by
  obtain ⟨s₀, cp, cn, h2, h3, _, _, hmin, _⟩ := low_extremes N hN env α mn mx C xs hx hx32 s hs
  obtain ⟨_, e2, e3⟩ := spec_contents env α mn mx C xs hx hn s₀ cp cn s.zero h2 h3
  rw [hmin, e2, e3, if_pos (neg_or_zero_of env mn xs hlow)]
  exact min_accuracy env α mn mx C xs hx hne hn s₀ h2

/-- lowest-collapsing stores: the reported maximum is α-accurate as soon as some input is
    positive or in the zero bucket (`x ≥ −minIndexable`) -/
theorem low_max_accuracy (N : Nat) (hN : 1 ≤ N)
    (env : MapEnv) (α mn mx : Rat) (C : Contract env α mn mx)
    (xs : List Rat) (hx : ∀ x ∈ xs, rabs x ≤ mx)
    (hx32 : ∀ x ∈ xs, mn < rabs x → I32 (env.index (.fin (rabs x))))
    (hne : xs ≠ []) (hn : xs.length ≤ 2 ^ 53) (s : Sketch)
    (hs : Sketch.addAll env (Sketch.new (some env.id) (.low N)) (xs.map (fun x => (x, 1))) = some s)
    (hhigh : ∃ x ∈ xs, -mn ≤ x) :
    ∃ b : Rat, s.getMax env = .ok (.fin b) ∧
      rabs (b - (sortedInputs mn xs)[xs.length - 1]!) ≤
        α * rabs ((sortedInputs mn xs)[xs.length - 1]!) := by
  obtain ⟨s₀, cp, cn, h2, h3, _, _, _, hmax⟩ := low_extremes N hN env α mn mx C xs hx hx32 s hs
  obtain ⟨e1, _, e3⟩ := spec_contents env α mn mx C xs hx hn s₀ cp cn s.zero h2 h3
  rw [hmax, e1, e3, if_pos (pos_or_zero_of env mn xs hhigh)]
  exact max_accuracy env α mn mx C xs hx hne hn s₀ h2

/-- highest-collapsing stores: the reported minimum is α-accurate when no input is negative -/
theorem high_min_accuracy (N : Nat) (hN : 1 ≤ N)
    (env : MapEnv) (α mn mx : Rat) (C : Contract env α mn mx)
    (xs : List Rat) (hx : ∀ x ∈ xs, rabs x ≤ mx)
    (hx32 : ∀ x ∈ xs, mn < rabs x → I32 (env.index (.fin (rabs x))))
    (hne : xs ≠ []) (hn : xs.length ≤ 2 ^ 53) (s : Sketch)
    (hs : Sketch.addAll env (Sketch.new (some env.id) (.high N)) (xs.map (fun x => (x, 1))) = some s)
    (hnn : ∀ x ∈ xs, -mn ≤ x) :
    ∃ a : Rat, s.getMin env = .ok (.fin a) ∧
      rabs (a - (sortedInputs mn xs)[0]!) ≤ α * rabs ((sortedInputs mn xs)[0]!) := by
  obtain ⟨s₀, cp, cn, h2, h3, _, _, hmin, _⟩ := high_extremes N hN env α mn mx C xs hx hx32 s hs
  obtain ⟨_, e2, _⟩ := spec_contents env α mn mx C xs hx hn s₀ cp cn s.zero h2 h3
  rw [hmin, e2, isEmpty_unitsOf_map, Msorted_eq_nil.2 hnn, if_neg (by simp)]
  exact min_accuracy env α mn mx C xs hx hne hn s₀ h2

/-- highest-collapsing stores: the reported maximum is α-accurate when no input is positive -/
theorem high_max_accuracy (N : Nat) (hN : 1 ≤ N)
    (env : MapEnv) (α mn mx : Rat) (C : Contract env α mn mx)
    (xs : List Rat) (hx : ∀ x ∈ xs, rabs x ≤ mx)
    (hx32 : ∀ x ∈ xs, mn < rabs x → I32 (env.index (.fin (rabs x))))
    (hne : xs ≠ []) (hn : xs.length ≤ 2 ^ 53) (s : Sketch)
    (hs : Sketch.addAll env (Sketch.new (some env.id) (.high N)) (xs.map (fun x => (x, 1))) = some s)
    (hnp : ∀ x ∈ xs, x ≤ mn) :
    ∃ b : Rat, s.getMax env = .ok (.fin b) ∧
      rabs (b - (sortedInputs mn xs)[xs.length - 1]!) ≤
        α * rabs ((sortedInputs mn xs)[xs.length - 1]!) := by
  obtain ⟨s₀, cp, cn, h2, h3, _, _, _, hmax⟩ := high_extremes N hN env α mn mx C xs hx hx32 s hs
  obtain ⟨e1, _, _⟩ := spec_contents env α mn mx C xs hx hn s₀ cp cn s.zero h2 h3
  rw [hmax, e1, isEmpty_unitsOf_map, Psorted_eq_nil.2 hnp, if_neg (by simp)]
  exact max_accuracy env α mn mx C xs hx hne hn s₀ h2

/-- the clamped minimum, concretely: bins 1, 3, 5 collapsed to two bins: `max(1, 5 − 2 + 1) = 4` -/
example : (Content.specLow 2 [(1, 1), (3, 1), (5, 1)]).minIndex? = some 4 ∧
    (Content.specLow 2 [(1, 1), (3, 1), (5, 1)]).maxIndex? = some 5 ∧
    (Content.specHigh 2 [(1, 1), (3, 1), (5, 1)]).maxIndex? = some 2 ∧
    (Content.specHigh 2 [(1, 1), (3, 1), (5, 1)]).minIndex? = some 1 := by
  have wf : Content.WF [((1 : Int), (1 : Rat)), (3, 1), (5, 1)] := by simp [Content.wf_cons]
  obtain ⟨a1, _, a3⟩ := minIndex_specLow 2 (by omega) _ wf
  obtain ⟨b1, _, b3⟩ := maxIndex_specHigh 2 (by omega) _ wf
  exact ⟨a3 1 5 rfl rfl, a1, b3 1 5 rfl rfl, b1⟩

/-- `exXs` into lowest-collapsing stores with ONE bin: both extremes are still α-accurate (there
    are negative, zero and positive inputs) -/
example : ∃ s,
    Sketch.addAll exEnv (Sketch.new (some exEnv.id) (.low 1)) (exXs.map (fun x => (x, 1))) = some s ∧
    (∃ a : Rat, s.getMin exEnv = .ok (.fin a) ∧
      rabs (a - (sortedInputs (4 / 3) exXs)[0]!) ≤ 1 / 2 * rabs ((sortedInputs (4 / 3) exXs)[0]!)) ∧
    (∃ b : Rat, s.getMax exEnv = .ok (.fin b) ∧
      rabs (b - (sortedInputs (4 / 3) exXs)[exXs.length - 1]!) ≤
        1 / 2 * rabs ((sortedInputs (4 / 3) exXs)[exXs.length - 1]!)) := by
  have h32 := Props.Lift.exXs_32
  obtain ⟨s, _, _, _, hs, _⟩ := Props.Lift.collapsing_sketch_contents (.low 1) (by decide) exEnv _ _ _
    exContract exXs exXs_ok h32
  exact ⟨s, hs,
    low_min_accuracy 1 (by omega) exEnv _ _ _ exContract exXs exXs_ok h32 exXs_ne exXs_len s hs
      ⟨0, by simp [exXs], by norm_num⟩,
    low_max_accuracy 1 (by omega) exEnv _ _ _ exContract exXs exXs_ok h32 exXs_ne exXs_len s hs
      ⟨0, by simp [exXs], by norm_num⟩⟩

/-- positive inputs only, `[3, 5, 12]`, into a lowest-collapsing store with ONE bin: bin 0 (of the
    value 3) is folded into bin 1, the reported minimum is `value 1 = 6` — the clamped extreme —
    which is NOT within `α = 1/2` of the true minimum 3 -/
example : ∃ s, Sketch.addAll exEnv (Sketch.new (some exEnv.id) (.low 1))
      (([3, 5, 12] : List Rat).map (fun x => (x, 1))) = some s ∧
    s.getMin exEnv = .ok (.fin 6) ∧ ¬ (rabs (6 - 3) ≤ 1 / 2 * rabs (3 : Rat)) := by
  have hok : ∀ x ∈ ([3, 5, 12] : List Rat), rabs x ≤ 12 := by decide +kernel
  have h32 : ∀ x ∈ ([3, 5, 12] : List Rat), (4 / 3 : Rat) < rabs x →
      I32 (exEnv.index (.fin (rabs x))) := fun x _ _ => Props.Lift.exEnv_index32 _
  obtain ⟨s, _, _, _, hs, _⟩ := Props.Lift.collapsing_sketch_contents (.low 1) (by decide) exEnv _ _ _
    exContract _ hok h32
  refine ⟨s, hs, ?_, by unfold rabs; norm_num⟩
  obtain ⟨s₀, cp, cn, h2, h3, _, _, hmin, _⟩ :=
    low_extremes 1 (by omega) exEnv _ _ _ exContract _ hok h32 s hs
  obtain ⟨e1, e2, e3⟩ := spec_contents exEnv _ _ _ exContract _ hok (by simp) s₀ cp cn s.zero h2 h3
  have eP : unitsOf ((Psorted (4 / 3) ([3, 5, 12] : List Rat)).map (idxOf exEnv)) =
      unitsOf ((posVals (4 / 3) ([3, 5, 12] : List Rat)).map (idxOf exEnv)) :=
    unitsOf_perm ((Dataset.sortedVals_perm _).map _)
  have eM : unitsOf ((Msorted (4 / 3) ([3, 5, 12] : List Rat)).map (idxOf exEnv)) =
      unitsOf (((negVals (4 / 3) ([3, 5, 12] : List Rat)).map (fun x => -x)).map (idxOf exEnv)) :=
    unitsOf_perm ((Dataset.sortedVals_perm _).map _)
  rw [hmin, e1, e2, e3, eP, eM, if_neg (by decide +kernel)]
  decide +kernel

end DDS.Props.C12x
