/-
  DDS.Props.C04GenPag — property C04 ("non-collapsing stores behave as exact index→count maps") for the
  buffered-paginated store, stated on the REGENERATED code (`DDS/Generated/CodePaginated.lean`, re-translated
  from `/repo/ddsketch/store/buffered_paginated.go` on every run through the desugaring pre-pass, DESIGN §4.2c).

  * `gen_observers`: on every store that is the image of a model store satisfying the invariant, the regenerated
    `IsEmpty`, `TotalCount`, `MinIndex`, `MaxIndex`, `KeyAtRank` (every rank) and `ForEach` (the sequence of
    bins handed to a visitor that never stops) return the observers of the exact map `content s`.
  * `gen_reads_preserve_content`: the two reads that sort the buffer (`KeyAtRank`, `ForEach`) return the image of a
    store with the invariant and the same content (C14).
  * `gen_forEach_stops`: a visitor that asks to stop is not called again (the C12 clause on iteration).
  * `gen_history_from`, `gen_history_observers`: for every admissible history of `AddWithCount` / `Clear` /
    `Reweight` (int32 indexes, weights ≥ 0, factors > 0), every growth policy `grow` of the Go runtime (the capacity
    oracle) and every sufficiently large fuel (`RunsFrom`), the regenerated code run from
    `NewBufferedPaginatedStore` never panics and ends in the image of a model store with the invariant whose
    content is the spec content accumulated by the same operations; `gen_history_observers` combines the two: C04
    for the code as it is written now.
  * `gen_merge`: the same-kind `MergeWith` of two such stores never panics and holds the merged content.

  Fuel is existential ("for every fuel ≥ F"): the bounds of the single operations are explicit functions of the
  store (`addFuel`, `compactFuel`, `keyFuel`, …); a history needs their maximum along the run.
-/
import DDS.Proofs.GenPaginated
import DDS.Props.C04Pag

namespace DDS.Props.C04GenPag

open DDS DDS.GoSem DDS.PStore DDS.GenPag DDS.Gen.Paginated

/-- fuel that suffices for every observer of `s` -/
def obsFuel (s : PStore) : Nat :=
  max (max (minFuel s) (keyFuel s)) (forEachFuel s)

theorem obsFuel_le {s : PStore} {fuel : Nat} (hf : obsFuel s ≤ fuel) :
    minFuel s ≤ fuel ∧ keyFuel s ≤ fuel ∧ forEachFuel s ≤ fuel :=
  have h := Nat.le_trans (Nat.le_max_left _ _) hf
  ⟨Nat.le_trans (Nat.le_max_left _ _) h, Nat.le_trans (Nat.le_max_right _ _) h, Nat.le_trans (Nat.le_max_right _ _) hf⟩

/-- C04 observers on the regenerated code -/
theorem gen_observers (s : PStore) (h : Inv s) (cap : Int) (fuel : Nat) (hf : obsFuel s ≤ fuel) :
    BufferedPaginatedStore.IsEmpty fuel (toGen s cap) = .ok (content s).isEmpty ∧
    BufferedPaginatedStore.TotalCount fuel (toGen s cap) = .ok (content s).total ∧
    BufferedPaginatedStore.MinIndex fuel (toGen s cap)
      = .ok (match (content s).minIndex? with
             | some m => (m, GoErr.nil) | none => ((0 : Int), errUndefinedMinIndex)) ∧
    BufferedPaginatedStore.MaxIndex fuel (toGen s cap)
      = .ok (match (content s).maxIndex? with
             | some m => (m, GoErr.nil) | none => ((0 : Int), errUndefinedMaxIndex)) ∧
    (∀ r : Rat, ∃ g', BufferedPaginatedStore.KeyAtRank fuel (toGen s cap) r = .ok (g', (content s).keyAtRank r)) ∧
    (∃ g', BufferedPaginatedStore.ForEach fuel (toGen s cap) (fun _ _ => .ok false) = .ok g') ∧
    visitTrace (fun _ _ => .ok false) s.binsList = content s := by
  obtain ⟨o1, o2, o3, o4, o5, o6⟩ := C04Pag.observers_eq s h
  obtain ⟨hmin, hkey, hfe⟩ := obsFuel_le hf
  have hmax : maxFuel s ≤ fuel := Nat.le_trans (Nat.le_max_right _ _) hkey
  refine ⟨?_, ?_, ?_, ?_, ?_, ?_, ?_⟩
  · rw [isEmpty_spec, o3]
  · rw [totalCount_spec, o2]
  · rw [MinIndex_eq_of_inv s cap fuel h hmin, o4]; rfl
  · rw [MaxIndex_eq s cap fuel hmax, o5]; rfl
  · intro r
    exact ⟨_, by rw [KeyAtRank_eq s cap r fuel hkey, o6 r]⟩
  · exact ⟨_, (forEach_all s cap fuel hfe).1⟩
  · rw [(forEach_all s cap fuel hfe).2]; exact o1

/-- C14 on the regenerated code: the two reads that reorganise the store (`KeyAtRank`, `ForEach` sort the buffer)
    return a store that is the image of a model store with the invariant and the SAME content — no later answer
    can change -/
theorem gen_reads_preserve_content (s : PStore) (h : Inv s) (cap : Int) (r : Rat) (fuel : Nat)
    (hf : obsFuel s ≤ fuel) :
    ∃ s' : PStore, Inv s' ∧ content s' = content s ∧
      BufferedPaginatedStore.KeyAtRank fuel (toGen s cap) r = .ok (toGen s' cap, (content s).keyAtRank r) ∧
      BufferedPaginatedStore.ForEach fuel (toGen s cap) (fun _ _ => .ok false) = .ok (toGen s' cap) := by
  obtain ⟨_, hkey, hfe⟩ := obsFuel_le hf
  refine ⟨s.sortRead, (PStore.sortRead_content s h).1, (PStore.sortRead_content s h).2, ?_, ?_⟩
  · rw [KeyAtRank_eq s cap r fuel hkey, (C04Pag.observers_eq s h).2.2.2.2.2 r]; rfl
  · exact (forEach_all s cap fuel hfe).1

/-- a visitor that asks to stop is not called again: the bins handed to it are the prefix of the exact map's bins
    up to and including the first one on which it answers `true` -/
theorem gen_forEach_stops (s : PStore) (cap : Int) (p : Int → Rat → Bool) (fuel : Nat)
    (hf : forEachFuel s ≤ fuel) :
    (∃ g', BufferedPaginatedStore.ForEach fuel (toGen s cap) (fun i c => .ok (p i c)) = .ok g') ∧
    visitTrace (fun i c => .ok (p i c)) s.binsList = uptoFirst p (content s) := by
  obtain ⟨h1, h2⟩ := forEach_pred s cap p fuel hf
  exact ⟨⟨_, h1⟩, h2⟩

/-! ### histories on the regenerated code -/

inductive GOp where
  | add (i : Int) (w : Rat)
  | clear
  | reweight (w : Rat)
deriving Repr

/-- admissible: int32 index, non-negative weight; a positive reweighting factor -/
def GOp.ok : GOp → Prop
  | .add i w => Idx32 i ∧ 0 ≤ w
  | .clear => True
  | .reweight w => 0 < w

/-- one operation on the regenerated code (`Reweight` also returns Go's error value, which is dropped here) -/
def gstep (fuel : Nat) (grow : Int → Int → Int) (g : GP) : GOp → Res GP
  | .add i w => BufferedPaginatedStore.AddWithCount fuel grow g i w
  | .clear => BufferedPaginatedStore.Clear fuel g
  | .reweight w => (BufferedPaginatedStore.Reweight fuel grow g w).bind (fun r => .ok r.1)

def grun (fuel : Nat) (grow : Int → Int → Int) : GP → List GOp → Res GP
  | g, [] => .ok g
  | g, op :: ops => (gstep fuel grow g op).bind (fun g' => grun fuel grow g' ops)

/-- the same operation on the exact map -/
def cstep (c : Content) : GOp → Content
  | .add i w => c.add i w
  | .clear => []
  | .reweight w => if w = 1 then c else c.scale w

def crun (c : Content) (ops : List GOp) : Content := ops.foldl cstep c

/-- from `s` the history `ops` runs to completion on the regenerated code, for every capacity, growth policy and
    sufficiently large fuel, and ends in the image of a store with the invariant that holds the spec content -/
def RunsFrom (s : PStore) (ops : List GOp) : Prop :=
  ∃ F : Nat, ∀ (cap : Int) (grow : Int → Int → Int) (fuel : Nat), F ≤ fuel →
    ∃ (s' : PStore) (cap' : Int), grun fuel grow (toGen s cap) ops = .ok (toGen s' cap') ∧ Inv s' ∧
      content s' = crun (content s) ops

/-- one step: the operation leads from `s` to (the image of) `s₁` or of `s₂`, both holding the content the operation
    gives, and from both the rest of the history runs -/
theorem RunsFrom.cons {op : GOp} {ops : List GOp} {s s₁ s₂ : PStore} (F₀ : Nat)
    (hstep : ∀ (cap : Int) (grow : Int → Int → Int) (fuel : Nat), F₀ ≤ fuel → ∃ cap₁,
      gstep fuel grow (toGen s cap) op = .ok (toGen s₁ cap₁) ∨ gstep fuel grow (toGen s cap) op = .ok (toGen s₂ cap₁))
    (hc₁ : content s₁ = cstep (content s) op) (hc₂ : content s₂ = cstep (content s) op)
    (ih₁ : RunsFrom s₁ ops) (ih₂ : RunsFrom s₂ ops) : RunsFrom s (op :: ops) := by
  obtain ⟨F₁, h₁⟩ := ih₁
  obtain ⟨F₂, h₂⟩ := ih₂
  refine ⟨max F₀ (max F₁ F₂), fun cap grow fuel hfu => ?_⟩
  have hfu' := Nat.le_trans (Nat.le_max_right _ _) hfu
  obtain ⟨cap₁, hg | hg⟩ := hstep cap grow fuel (Nat.le_trans (Nat.le_max_left _ _) hfu)
  · obtain ⟨s', cap', hr, hinv, hc⟩ := h₁ cap₁ grow fuel (Nat.le_trans (Nat.le_max_left _ _) hfu')
    exact ⟨s', cap', by rw [grun, hg]; exact hr, hinv, by rw [hc, hc₁]; rfl⟩
  · obtain ⟨s', cap', hr, hinv, hc⟩ := h₂ cap₁ grow fuel (Nat.le_trans (Nat.le_max_right _ _) hfu')
    exact ⟨s', cap', by rw [grun, hg]; exact hr, hinv, by rw [hc, hc₂]; rfl⟩

theorem gen_history_from (ops : List GOp) (hops : ∀ op ∈ ops, op.ok) : ∀ (s : PStore), Inv s → RunsFrom s ops := by
  induction ops with
  | nil => intro s h; exact ⟨0, fun cap _ _ _ => ⟨s, cap, rfl, h, rfl⟩⟩
  | cons op ops ih =>
    intro s h
    have hop : op.ok := hops op (List.mem_cons_self ..)
    have ih := ih (fun op' h' => hops op' (List.mem_cons_of_mem _ h'))
    cases op with
    | add i w =>
      -- the successor depends on whether the buffer is full (`len = cap`): two candidates
      obtain ⟨st, ht1, ht2, ht3⟩ := PStore.add_content s h i hop.1 w hop.2 true
      obtain ⟨sf, hf1, hf2, hf3⟩ := PStore.add_content s h i hop.1 w hop.2 false
      refine RunsFrom.cons (s₁ := st) (s₂ := sf) (addFuel s i) (fun cap grow fuel hfu => ?_) ht3 hf3 (ih st ht2) (ih sf hf2)
      have hspec := addWithCountSpec s cap grow i w fuel hfu
      cases hb : decide ((s.buffer.length : Int) = cap) with
      | true =>
        rw [hb, ht1] at hspec
        obtain ⟨g', hg', cap₁, rfl⟩ := hspec
        exact ⟨cap₁, Or.inl hg'⟩
      | false =>
        rw [hb, hf1] at hspec
        obtain ⟨g', hg', cap₁, rfl⟩ := hspec
        exact ⟨cap₁, Or.inr hg'⟩
    | clear =>
      obtain ⟨hc1, hc2⟩ := PStore.clear_content s h
      exact RunsFrom.cons (s₁ := s.clear) (s₂ := s.clear) 0 (fun cap grow fuel _ => ⟨cap, Or.inl (GenPag.clear_spec s cap fuel)⟩)
        hc2 hc2 (ih _ hc1) (ih _ hc1)
    | reweight w =>
      by_cases h1 : w = 1
      · subst h1
        exact RunsFrom.cons (s₁ := s) (s₂ := s) 0 (fun cap grow fuel _ => ⟨cap, Or.inl (by rw [gstep, reweight_one]; rfl)⟩)
          (by rw [cstep, if_pos rfl]) (by rw [cstep, if_pos rfl]) (ih s h) (ih s h)
      · obtain ⟨sr, hr1, hr2, hr3⟩ := PStore.reweight_content s h w hop
        exact RunsFrom.cons (s₁ := sr) (s₂ := sr) (reweightFuel s w)
          (fun cap grow fuel hfu => ⟨cap, Or.inl (by rw [gstep, reweight_spec page_spec s cap grow w fuel hop h1 hfu, hr1]; rfl)⟩)
          (by rw [cstep, if_neg h1]; exact hr3) (by rw [cstep, if_neg h1]; exact hr3) (ih sr hr2) (ih sr hr2)

/-- C04 for the regenerated paginated store: for every admissible history there is a fuel bound from which on,
    whatever the growth policy of the runtime, the regenerated code started from `NewBufferedPaginatedStore` runs to
    completion and every observer of the result is the observer of the exact map built by the same operations -/
theorem gen_history_observers (ops : List GOp) (hops : ∀ op ∈ ops, op.ok) :
    ∃ F : Nat, ∀ (grow : Int → Int → Int) (fuel : Nat), F ≤ fuel →
      ∃ g : GP, grun fuel grow NewBufferedPaginatedStore ops = .ok g ∧
        ∃ F' : Nat, ∀ fuel', F' ≤ fuel' →
          BufferedPaginatedStore.IsEmpty fuel' g = .ok (crun [] ops).isEmpty ∧
          BufferedPaginatedStore.TotalCount fuel' g = .ok (crun [] ops).total ∧
          BufferedPaginatedStore.MinIndex fuel' g
            = .ok (match (crun [] ops).minIndex? with
                   | some m => (m, GoErr.nil) | none => ((0 : Int), errUndefinedMinIndex)) ∧
          BufferedPaginatedStore.MaxIndex fuel' g
            = .ok (match (crun [] ops).maxIndex? with
                   | some m => (m, GoErr.nil) | none => ((0 : Int), errUndefinedMaxIndex)) ∧
          (∀ r : Rat, ∃ g', BufferedPaginatedStore.KeyAtRank fuel' g r = .ok (g', (crun [] ops).keyAtRank r)) ∧
          (∃ g', BufferedPaginatedStore.ForEach fuel' g (fun _ _ => .ok false) = .ok g') := by
  have hnew : Inv PStore.new := PStore.inv_new
  have hc0 : content PStore.new = [] := (PStore.content_eq_nil_iff _ hnew).2 PStore.wt_new
  obtain ⟨F, hF⟩ := gen_history_from ops hops PStore.new hnew
  refine ⟨F, fun grow fuel hfu => ?_⟩
  obtain ⟨s', cap', hr, hinv, hc⟩ := hF 4 grow fuel hfu
  rw [← new_spec] at hr
  refine ⟨toGen s' cap', hr, obsFuel s', fun fuel' hf' => ?_⟩
  obtain ⟨o1, o2, o3, o4, o5, o6, _⟩ := gen_observers s' hinv cap' fuel' hf'
  rw [hc, hc0] at o1 o2 o3 o4
  refine ⟨o1, o2, o3, o4, ?_, o6⟩
  intro r
  obtain ⟨g', hg'⟩ := o5 r
  exact ⟨g', by rw [hg', hc, hc0]⟩

/-! ### same-kind merge -/

/-- same-kind merge on the regenerated code: for any two stores with the invariant (any capacities, any growth policy,
    fuel from `mergeFuel` on) `MergeWith` never panics and the receiver ends holding the merged content; the
    argument is a value and is unchanged -/
theorem gen_merge (s o : PStore) (hs : Inv s) (ho : Inv o) (cap cap' : Int) (grow : Int → Int → Int)
    (mf : GP → GP → Res GP) (fuel : Nat) (hf : mergeFuel addFuel s o ≤ fuel) :
    ∃ (g' : GP) (s' : PStore),
      BufferedPaginatedStore.MergeWith fuel grow mf (toGen s cap) (toGen o cap') = .ok g' ∧ Rel g' s' ∧ Inv s' ∧
      content s' = (content s).merge (content o) := by
  obtain ⟨g', s', h1, h2, h3, h4, _⟩ :=
    mergeWith_same_content page_spec addSpec grow mf s o cap cap' fuel hs ho hf
  exact ⟨g', s', h1, h2, h3, h4⟩

end DDS.Props.C04GenPag
