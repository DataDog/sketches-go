/-
  DDS.Props.C01GenSim — property C01 (quantile accuracy) for the regenerated `DDSketch`
  (`DDS/Generated/CodeSketch.lean`, from `/repo/ddsketch/ddsketch.go`) over ANY store implementation that simulates
  the model's stores (`T : StoreSim S Store`, `DDS/Proofs/GenStoreSim.lean`), by the chain
    regenerated sketch over `S`  --`runAdds_paramG T`-->  regenerated sketch over the model stores
      --`model_runAdds` (`GenSketch2.AddV_rel` iterated)-->  the model's `Sketch.addAll`  --`Props/Lift`-->  C01.

  * `model_runAdds_pairs`: on the model-store instance, a history of `AddWithCount(x, c)` calls with rational
    arguments run by the regenerated sketch code is the model's `Sketch.addAll` (no error, final receiver
    `toGen env s`); `model_runAdds`: the unit adds of C01 (`unitAdds`).
  * `routed_of`: the index hypothesis of the model theorems (on the index of the magnitude) gives the routing condition
    of `AddWithCount_paramG` (on the index Go computes on the side the value is routed to), for any predicate.
  * `adds_eq_model`: the regenerated sketch built by `NewDDSketch env p p` on stores related to the model's fresh
    stores of a kind and fed the unit adds `xs` (routed indexes admissible for `T`) returns no error and ends RELATED
    (`SkSimG T`: same mapping, same zero count, stores in `T.R`) to the model sketch `Sketch.addAll` builds;
    `adds_then_quantile_eq_model`: … and `GetValueAtQuantile` returns the model's answer.
  * `quantile_accuracy_paramG`: hence C01's conclusion (`Lift.quantile_accuracy_any_store`, itself
    `C01.quantile_accuracy` transported) when every int32 index is admissible for `T`.  Hypotheses exactly those of
    `quantile_accuracy_any_store` (mapping contract for the oracle `env`, magnitudes at most the maximum indexable
    value, int32 indexes, `1 ≤ n ≤ 2^53` inputs, `0 ≤ q ≤ 1`).  Its instances: `C01GenPag` (buffered-paginated),
    `C05GenSketch` (dense), `C01GenSparse` (sparse).
  The mapping stays the model's oracle `MapEnv` (`instance : MapI MapEnv`), as in `GenSketch2`.
  Namespaces: `unitAdds`, `model_runAdds*`, `routed_of` are in `DDS.Props.C01GenPag`, `adds_eq_model` and
  `adds_then_quantile_eq_model` in `DDS.Props.C05GenSketch`, `quantile_accuracy_paramG` in `DDS.Props.C01GenSim`.
-/
import DDS.Proofs.GenStoreSim
import DDS.Proofs.GenSketch2
import DDS.Props.Lift

namespace DDS.Props.C01GenPag

open DDS DDS.GoSem DDS.Gen.Sketch DDS.GenSketch DDS.GenPagSketch

/-- the history `Add(x)` for `x ∈ xs` as `AddWithCount(x, 1)` calls (`Add` is `AddWithCount(·, 1)`:
    `GenPagSketch.Add_eq_AddWithCount`) -/
def unitAdds (xs : List Rat) : List (F64 × F64) := xs.map (fun x => (F64.fin x, F64.fin 1))

theorem addAll_cons_some {env : MapEnv} {s s' : Sketch} {v c : Rat} {rest : List (Rat × Rat)}
    (h : Sketch.addAll env s ((v, c) :: rest) = some s') :
    ∃ s1, s.addV env v c = some (.ok s1) ∧ Sketch.addAll env s1 rest = some s' := by
  unfold Sketch.addAll at h
  split at h
  · exact ⟨_, ‹_›, h⟩
  · cases h

/-- on the model-store instance the regenerated sketch code runs the model's `addAll`: a history of
    `AddWithCount(v, c)` calls with rational arguments returns no error and ends in `toGen env s`
    (`GenSketch2.AddV_rel` iterated) -/
theorem model_runAdds_pairs (env : MapEnv) (mn : Rat) (hmin : env.minIndexable = .fin mn) (hmn : 0 ≤ mn)
    (l : List (Rat × Rat)) : ∀ (s0 s : Sketch), Sketch.addAll env s0 l = some s →
      runAdds (toGen env s0) (l.map fun p => (F64.fin p.1, F64.fin p.2)) =
        (toGen env s, List.replicate l.length GoErr.nil) := by
  induction l with
  | nil => intro s0 s h; cases h; rfl
  | cons p rest ih =>
    intro s0 s h
    obtain ⟨s1, h1, h2⟩ := addAll_cons_some h
    have hrel : DDSketch.AddWithCount (toGen env s0) (.fin p.1) (.fin p.2) = (toGen env s1, GoErr.nil) := by
      have := AddV_rel env s0 mn p.1 p.2 hmin hmn
      rwa [h1] at this
    rw [List.map_cons, runAdds_cons, hrel, ih s1 s h2]
    rfl

/-- the unit adds of C01 -/
theorem model_runAdds (env : MapEnv) (mn : Rat) (hmin : env.minIndexable = .fin mn) (hmn : 0 ≤ mn)
    (xs : List Rat) : ∀ (s0 s : Sketch), Sketch.addAll env s0 (xs.map (fun x => (x, 1))) = some s →
      runAdds (toGen env s0) (unitAdds xs) = (toGen env s, List.replicate xs.length GoErr.nil) := by
  intro s0 s h
  have := model_runAdds_pairs env mn hmin hmn _ s0 s h
  rwa [List.map_map, List.length_map] at this

/-- a condition `P` on the index of the magnitude of every value outside the zero bucket (the form the hypotheses of
    `Props/Lift` take) is `P` of the index Go computes on the side the value is routed to -/
theorem routed_of (P : Int → Prop) (env : MapEnv) (mn : Rat) (hmin : env.minIndexable = .fin mn) (hmn : 0 ≤ mn)
    (x : Rat) (h : mn < rabs x → P (env.index (.fin (rabs x)))) :
    (F64.lt (MapI.MinIndexableValue env) (F64.fin x) = true → P (MapI.Index env (F64.fin x))) ∧
    (F64.lt (F64.fin x) (F64.neg (MapI.MinIndexableValue env)) = true →
      P (MapI.Index env (F64.neg (F64.fin x)))) := by
  obtain ⟨i1, i2⟩ := goIdx_rabs env mn x hmin hmn
  constructor
  · intro hv
    have := h (Lift.lt_rabs_of_routed env mn hmin hmn x (Or.inl hv))
    rwa [i1 hv] at this
  · intro hv
    have := h (Lift.lt_rabs_of_routed env mn hmin hmn x (Or.inr hv))
    rwa [i2 hv] at this

end DDS.Props.C01GenPag

namespace DDS.Props.C05GenSketch

open DDS DDS.GoSem DDS.Gen.Sketch DDS.GenSketch DDS.GenStoreSim
open DDS.GenPagSketch (runAdds)
open DDS.Props.C01GenPag (unitAdds model_runAdds)

variable {S : Type} [StoreI S] [Inhabited S]

/-- unit adds on the regenerated sketch over stores that simulate the model's fresh stores of kind `k` return no
    error and end RELATED to the model sketch `Sketch.addAll` builds -/
theorem adds_eq_model (T : StoreSim S Store) (k : StoreKind) {p : S} (hp : T.R p (Store.new k))
    (env : MapEnv) (mn : Rat) (hmin : env.minIndexable = .fin mn) (hmn : 0 ≤ mn) (xs : List Rat)
    (hr : ∀ a ∈ unitAdds xs, RoutedG T env a.1) (s : Sketch)
    (hs : Sketch.addAll env (Sketch.new (some env.id) k) (xs.map (fun x => (x, 1))) = some s) :
    (runAdds (NewDDSketch env p p) (unitAdds xs)).2 = List.replicate xs.length GoErr.nil ∧
      SkSimG T (runAdds (NewDDSketch env p p) (unitAdds xs)).1 (toGen env s) := by
  have hm := model_runAdds env mn hmin hmn xs (Sketch.new (some env.id) k) s hs
  rw [← GenSketch.NewDDSketch_eq env (some env.id) k] at hm
  have h := runAdds_paramG T (unitAdds xs) (skSimG_new T env hp hp) hr
  rwa [hm] at h

/-- … then a quantile query: `GetValueAtQuantile` returns the model's answer -/
theorem adds_then_quantile_eq_model (T : StoreSim S Store) (k : StoreKind) {p : S} (hp : T.R p (Store.new k))
    (env : MapEnv) (mn : Rat) (hmin : env.minIndexable = .fin mn) (hmn : 0 ≤ mn) (xs : List Rat)
    (hr : ∀ a ∈ unitAdds xs, RoutedG T env a.1) (s : Sketch)
    (hs : Sketch.addAll env (Sketch.new (some env.id) k) (xs.map (fun x => (x, 1))) = some s)
    (q : F64) (v : F64) (hq : Sketch.quantile env s q = .ok v) :
    (runAdds (NewDDSketch env p p) (unitAdds xs)).2 = List.replicate xs.length GoErr.nil ∧
      DDSketch.GetValueAtQuantile (runAdds (NewDDSketch env p p) (unitAdds xs)).1 q = (v, GoErr.nil) := by
  obtain ⟨he, hsim⟩ := adds_eq_model T k hp env mn hmin hmn xs hr s hs
  exact ⟨he, (GetValueAtQuantile_paramG T hsim q).trans ((GetValueAtQuantile_rel env s q).ok hq)⟩

end DDS.Props.C05GenSketch

namespace DDS.Props.C01GenSim

open DDS DDS.GoSem DDS.Gen.Sketch DDS.GenSketch DDS.GenStoreSim
open DDS.GenPagSketch (runAdds)
open DDS.Props.C01GenPag (unitAdds routed_of)

/-- **C01 on the regenerated sketch over any store implementation simulating the model's stores of a plain kind `k`**
    for which every int32 index is admissible: no add is refused, and `GetValueAtQuantile` is within relative error `α`
    of the lower or the upper quantile of the inputs.  Hypotheses: those of `Lift.quantile_accuracy_any_store`. -/
theorem quantile_accuracy_paramG {S : Type} [StoreI S] [Inhabited S] (T : StoreSim S Store)
    (hadm : ∀ i, Lift.I32 i → T.Adm i) (k : StoreKind) (hk : Lift.Plain k) {p : S} (hp : T.R p (Store.new k))
    (env : MapEnv) (α mn mx : Rat) (C : Contract env α mn mx)
    (xs : List Rat) (hx : ∀ x ∈ xs, rabs x ≤ mx)
    (hx32 : ∀ x ∈ xs, mn < rabs x → Lift.I32 (env.index (.fin (rabs x))))
    (hne : xs ≠ []) (hn : xs.length ≤ 2 ^ 53)
    (q : Rat) (hq0 : 0 ≤ q) (hq1 : q ≤ 1) :
    let g := runAdds (NewDDSketch env p p) (unitAdds xs)
    g.2 = List.replicate xs.length GoErr.nil ∧
    ∃ a : Rat, DDSketch.GetValueAtQuantile g.1 (.fin q) = (.fin a, GoErr.nil) ∧
      ∃ k : Nat, k < xs.length ∧
        ((k : Int) = ⌊q * ((xs.length : Rat) - 1)⌋ ∨ (k : Int) = ⌈q * ((xs.length : Rat) - 1)⌉) ∧
        rabs (a - (sortedInputs mn xs)[k]!) ≤ α * rabs ((sortedInputs mn xs)[k]!) := by
  intro g
  obtain ⟨s, hs⟩ := Lift.addAll_ok_any_store k hk env α mn mx C xs hx hx32
  obtain ⟨a, ha, hacc⟩ := Lift.quantile_accuracy_any_store k hk env α mn mx C xs hx hx32 hne hn s hs q hq0 hq1
  have hmn := Rat.le_of_lt C.minPos
  obtain ⟨h1, h2⟩ := C05GenSketch.adds_then_quantile_eq_model T k hp env mn C.minEq hmn xs (fun a ha => by
    obtain ⟨x, hx', rfl⟩ := List.mem_map.1 ha
    exact routed_of T.Adm env mn C.minEq hmn x fun h => hadm _ (hx32 x hx' h)) s hs (.fin q) (.fin a) ha
  exact ⟨h1, a, h2, hacc⟩

end DDS.Props.C01GenSim
