/-
  DDS.Props.NonVacuityGen — AUDIT of the hypotheses of the headline theorems about REGENERATED code
  (`Props/C01GenPag`, `C02GenPag`, `C04GenPag`, `C05GenSketch`, `C05GenLow`, `C05GenHigh`, `C06GenPag`, `C09GenStore`,
  `C12GenIter`, `C19GenProto`), in the manner of `DDS.Props.NonVacuity`: every theorem is APPLIED here to a
  concrete, non-trivial instance, so that its hypotheses are shown to be jointly satisfiable.  No hypothesis was
  found to be unsatisfiable.

  One section per property file, in the order of the numbers; in each, a witness stands before the examples that
  use it.  Two sections lend facts to a later one: `exXs_32`, `exXs_ne`, `exXs_len` of C01GenPag serve C05GenSketch,
  and `pagS_obsFuel`, `pagS_feFuel` of C04GenPag serve C09GenStore.

  Instances used
  * C01GenPag `quantile_accuracy_regenerated`, `adds_then_quantile_eq_model`; C05GenSketch
    `collapsing_sketch_contents_regenerated(_high)`, `collapsing_quantile_retained_regenerated`,
    `dense_quantile_accuracy_regenerated`: the mapping `QuantileEx.exEnv` (`exContract`), the seven inputs `exXs`
    (both signs, the zero bucket), every `grow`, every `q ∈ [0, 1]`, collapsing limit `N = 1`.  The inner guard of
    `collapsing_quantile_retained_regenerated` is met at `q = 1` (the selected bin is the edge; answer 6).
  * C02GenPag `merge_tree_regenerated(_spec)`: `C02.demoEnv`, `C02.demoTree` (three leaves, six weighted inputs);
    `weighted_history_regenerated`: `exEnv`, `Lift.exWs` — and its inner implication (`QExact` …) is met at
    `z = 0, q = 1/8, rank' = 1/4` with `cp = [(1, 2)]`, `cn = exCn`.
  * C04GenPag `gen_observers`, `gen_forEach_stops`, `gen_reads_preserve_content`, `gen_history_from`, `gen_merge`: the
    store `NonVacuity.pagS` (a materialised page and a buffered entry), fuel 100 (`pagS_obsFuel`);
    `gen_history_from`, `gen_history_observers`: the histories `gops` (adds, reweight 2, reweight 1) and `gops2` (a
    `Clear` in the middle); `gen_merge`: `pagS` with the store of `NonVacuity.PStoreInv_inhabited`.
  * C05GenLow / C05GenHigh: `N = 2` (and `M = 3` for the merges), the history `lops`.
  * C06GenPag `gen_pag_Encode`: `pagS`; `gen_pag_Decode_deltas`: `pagS`, capacity 4, the block `deltaBytes` (3 bins,
    deltas 5, 2, -1, one trailing byte), every `grow` and fallback; `gen_pag_Decode_other`.
  * C09GenStore `pag_roundtrip`, `pag_roundtrip_any`: `pagS`, the DESCENDING map order; `sparse_roundtrip`,
    `sparse_to_dense_fromProto`: the sparse store `spC`, orders descending / ascending, kinds `.low 1`, `.pag`, the
    instance `GenDecodeWrap.denseI`; `mergeWithProto_adds_gen`: the message `pbBoth` (map AND contiguous bins,
    overlapping) into the non-empty sparse store `[(5, 1)]`.
  * C12GenIter `forEach_gen_bins`, `forEach_gen_stops`: `C06.exS` (dense + paginated stores) under `C12.envC`;
    `getSum_gen_exact`, `getSum_gen_accuracy`: `exEnv`, the inputs `nnXs = [5, 1, 3, 0, 12]`, `SumExact nnL`.
  * C19GenProto: the theorems quantify over every instance `[MOps F64]` and the project declares none: `demoOps`
    is one (local to the section), it meets `LeOne`, and `gamma = 1.02` passes its guard; all of
    `log/lin/cub_proto_roundtrip(_model)`, `proto_roundtrip_inf_not_equals`, `proto_rejects_*` are applied.
  Fuel hypotheses are bounds by a function of the state; they are instantiated by the function itself or by a number
  checked by evaluation (`pagS_obsFuel`, `pagS_feFuel`).

  Only closed computations (`decide`, `decide +kernel`) and the audited theorems are used; every declaration depends on
  `propext`, `Classical.choice`, `Quot.sound` at most.
-/
import DDS.Props.C01GenPag
import DDS.Props.C02GenPag
import DDS.Props.C05GenSketch
import DDS.Props.C04GenPag
import DDS.Props.NonVacuity
import DDS.Props.C06GenPag
import DDS.Props.C09GenStore
import DDS.Props.C12GenIter
import DDS.Props.C19GenProto
import DDS.Props.C05GenLow
import DDS.Props.C05GenHigh

namespace DDS.Props.NonVacuityGen

open DDS DDS.GoSem

/-! ## C01GenPag: `exEnv`, `exXs = [5, -2, 1, 3, -7, 0, 12]` -/
section C01
open DDS.QuantileEx DDS.Gen.Sketch DDS.Gen.Paginated DDS.GenSketch DDS.GenPagSketch
open DDS.Props.C01GenPag

theorem exXs_32 : ∀ x ∈ exXs, (4 / 3 : Rat) < rabs x → Lift.I32 (exEnv.index (.fin (rabs x))) :=
  Lift.exXs_32

theorem exXs_ne : exXs ≠ [] := QuantileEx.exXs_ne
theorem exXs_len : exXs.length ≤ 2 ^ 53 := QuantileEx.exXs_len

/-- `quantile_accuracy_regenerated`: every growth policy, every `q ∈ [0, 1]`, seven inputs on both sides and in
    the zero bucket -/
example (grow : Int → Int → Int) (q : Rat) (hq0 : 0 ≤ q) (hq1 : q ≤ 1) :
    let g := runAdds (NewDDSketch exEnv (⟨NewBufferedPaginatedStore⟩ : GPS grow) ⟨NewBufferedPaginatedStore⟩)
      (unitAdds exXs)
    g.2 = List.replicate exXs.length GoErr.nil ∧
    ∃ a : Rat, DDSketch.GetValueAtQuantile g.1 (.fin q) = (.fin a, GoErr.nil) ∧
      ∃ k : Nat, k < exXs.length ∧
        ((k : Int) = ⌊q * ((exXs.length : Rat) - 1)⌋ ∨ (k : Int) = ⌈q * ((exXs.length : Rat) - 1)⌉) ∧
        rabs (a - (sortedInputs (4 / 3) exXs)[k]!) ≤ 1 / 2 * rabs ((sortedInputs (4 / 3) exXs)[k]!) :=
  quantile_accuracy_regenerated grow exEnv _ _ _ exContract exXs exXs_ok exXs_32 exXs_ne exXs_len q hq0 hq1

/-- `adds_then_quantile_eq_model`: the model sketch and a model answer exist (`addAll_ok_any_store`,
    `quantile_accuracy_any_store` at `q = 1/2`), so all hypotheses hold together -/
example (grow : Int → Int → Int) : ∃ (s : Sketch) (v : F64),
    Sketch.addAll exEnv (Sketch.new (some exEnv.id) .pag) (exXs.map (fun x => (x, 1))) = some s ∧
    Sketch.quantile exEnv s (.fin (1 / 2)) = .ok v ∧
    (let g := runAdds (NewDDSketch exEnv (⟨NewBufferedPaginatedStore⟩ : GPS grow) ⟨NewBufferedPaginatedStore⟩)
      (unitAdds exXs)
     g.2 = List.replicate exXs.length GoErr.nil ∧
       DDSketch.GetValueAtQuantile g.1 (.fin (1 / 2)) = (v, GoErr.nil)) := by
  obtain ⟨s, hs⟩ := Lift.addAll_ok_any_store .pag trivial exEnv _ _ _ exContract exXs exXs_ok exXs_32
  obtain ⟨a, ha, _⟩ := Lift.quantile_accuracy_any_store .pag trivial exEnv _ _ _ exContract exXs exXs_ok exXs_32
    exXs_ne exXs_len s hs (1 / 2) (by decide +kernel) (by decide +kernel)
  exact ⟨s, .fin a, hs, ha,
    adds_then_quantile_eq_model grow exEnv (4 / 3) rfl (by decide +kernel) exXs exXs_32 s hs _ _ ha⟩

end C01

/-! ## C02GenPag: `demoEnv`, `demoTree` (three leaves, six weighted inputs, both signs and the zero bucket);
    the weighted history `exWs` on `exEnv` -/
section C02
open DDS.QuantileEx DDS.Gen.Sketch DDS.Gen.Paginated DDS.GenSketch DDS.GenPagSketch
open DDS.Props.C02GenPag DDS.Props.C01GenPag

theorem demo_32 : ∀ p ∈ C02.demoTree.flat, (1 / 1000 : Rat) < rabs p.1 →
    Lift.I32 (C02.demoEnv.index (.fin (rabs p.1))) := Lift.demo_index32

theorem demoTree_nontrivial : C02.demoTree.flat.length = 6 ∧ (toG C02.demoTree).flat = ratAdds C02.demoTree.flat :=
  ⟨rfl, toG_flat _⟩

/-- `merge_tree_regenerated` -/
example (grow : Int → Int → Int) :
    let mk := NewDDSketch C02.demoEnv (⟨NewBufferedPaginatedStore⟩ : GPS grow) ⟨NewBufferedPaginatedStore⟩
    let g := GTree.eval mk (toG C02.demoTree)
    let g1 := runAdds mk (ratAdds C02.demoTree.flat)
    (∀ e ∈ g.2, e = GoErr.nil) ∧ (∀ e ∈ g1.2, e = GoErr.nil) ∧
    DDSketch.GetCount g.1 = DDSketch.GetCount g1.1 ∧ DDSketch.IsEmpty g.1 = DDSketch.IsEmpty g1.1 ∧
    DDSketch.GetZeroCount g.1 = DDSketch.GetZeroCount g1.1 ∧
    (∀ q, DDSketch.GetValueAtQuantile g.1 q = DDSketch.GetValueAtQuantile g1.1 q) ∧
    DDSketch.GetMinValue g.1 = DDSketch.GetMinValue g1.1 ∧
    DDSketch.GetMaxValue g.1 = DDSketch.GetMaxValue g1.1 :=
  merge_tree_regenerated grow C02.demoEnv (1 / 1000) 1000 rfl rfl (by decide +kernel) C02.demo_refl C02.demoTree
    C02.demo_acc C02.demo_exact demo_32

/-- `merge_tree_regenerated_spec` -/
example (grow : Int → Int → Int) :
    let mk := NewDDSketch C02.demoEnv (⟨NewBufferedPaginatedStore⟩ : GPS grow) ⟨NewBufferedPaginatedStore⟩
    let g := GTree.eval mk (toG C02.demoTree)
    ∃ s₀ cp cn,
      Sketch.addAll C02.demoEnv (Sketch.new (some C02.demoEnv.id) .sparse) C02.demoTree.flat = some s₀ ∧
      s₀ = Sketch.spec (some C02.demoEnv.id) cp cn (DDSketch.GetZeroCount g.1) ∧
      DDSketch.GetCount g.1 = s₀.getCount ∧ DDSketch.IsEmpty g.1 = s₀.isEmpty ∧
      ExtRel (s₀.getMin C02.demoEnv) (DDSketch.GetMinValue g.1) ∧
      ExtRel (s₀.getMax C02.demoEnv) (DDSketch.GetMaxValue g.1) ∧
      ∀ q : F64, (cp = [] → s₀.usesPos q = false) →
        QRel (s₀.quantile C02.demoEnv q) (DDSketch.GetValueAtQuantile g.1 q) :=
  merge_tree_regenerated_spec grow C02.demoEnv (1 / 1000) 1000 rfl rfl (by decide +kernel) C02.demo_refl C02.demoTree
    C02.demo_acc C02.demo_exact demo_32

theorem exWs_32 : ∀ p ∈ Lift.exWs, (4 / 3 : Rat) < rabs p.1 → Lift.I32 (exEnv.index (.fin (rabs p.1))) :=
  fun _ _ _ => Lift.exEnv_index32 _

/-- `weighted_history_regenerated`, outer statement -/
example (grow : Int → Int → Int) :
    let g := runAdds (NewDDSketch exEnv (⟨NewBufferedPaginatedStore⟩ : GPS grow) ⟨NewBufferedPaginatedStore⟩)
      (ratAdds Lift.exWs)
    g.2 = List.replicate Lift.exWs.length GoErr.nil ∧ ∃ cp cn : Content, cp.WF ∧ cn.WF ∧
      DDSketch.GetCount g.1 =
        F64.add (F64.add (DDSketch.GetZeroCount g.1) (.fin cp.total)) (.fin cn.total) := by
  intro g
  obtain ⟨h1, cp, cn, h2, h3, _, _, h6, _⟩ :=
    weighted_history_regenerated grow exEnv _ _ _ exContract Lift.exWs Lift.exWs_ok exWs_32
  exact ⟨h1, cp, cn, h2, h3, h6⟩

theorem wf_12 : Content.WF [((1 : Int), (2 : Rat))] := RoundTrip.wf_of_wfb _ (by decide +kernel)
theorem exCn_wf : exCn.WF := NonVacuity.exCn_wf

/-- … and the INNER implication of `weighted_history_regenerated` (`GetZeroCount = .fin z`, `0 ≤ z`, `q ∈ [0,1]`,
    positive total, `QExact`) is satisfiable on that instance: the contents are `cp = [(1, 2)]`, `cn = exCn`, the
    zero count is `0`, and `q = 1/8`, `rank' = 1/4` meet `QExact`; the first alternative holds (bin 0 of the
    negative side answers) -/
example (grow : Int → Int → Int) :
    let g := runAdds (NewDDSketch exEnv (⟨NewBufferedPaginatedStore⟩ : GPS grow) ⟨NewBufferedPaginatedStore⟩)
      (ratAdds Lift.exWs)
    DDSketch.GetZeroCount g.1 = .fin 0 ∧ QExact [(1, 2)] exCn 0 (1 / 8) (1 / 4) ∧
    (0 : Rat) < 0 + Content.total [((1 : Int), (2 : Rat))] + exCn.total ∧
    ∃ j w, (j, w) ∈ exCn ∧ DDSketch.GetValueAtQuantile g.1 (.fin (1 / 8)) = (F64.neg (exEnv.value j), GoErr.nil) := by
  intro g
  obtain ⟨_, cp, cn, wp, wn, lp, ln, _, hq⟩ :=
    weighted_history_regenerated grow exEnv _ _ _ exContract Lift.exWs Lift.exWs_ok exWs_32
  have fp : (Lift.exWs.filter (fun p => decide ((4 / 3 : Rat) < p.1))).map
      (fun p => (exEnv.index (.fin (rabs p.1)), p.2)) = [(1, 2)] := by decide +kernel
  have fn : (Lift.exWs.filter (fun p => decide (p.1 < -(4 / 3 : Rat)))).map
      (fun p => (exEnv.index (.fin (rabs p.1)), p.2)) = exCn := by decide +kernel
  have ep : cp = [(1, 2)] := Content.ext _ _ wp wf_12 (fun j => by rw [lp j, fp])
  have en : cn = exCn := Content.ext _ _ wn exCn_wf (fun j => by rw [ln j, fn])
  subst ep en
  -- the zero count of the regenerated sketch is the model's
  obtain ⟨s, cp', cn', a1, a2, _, _, _, _, _⟩ :=
    Lift.addAll_weighted_any_store .pag trivial exEnv _ _ _ exContract Lift.exWs Lift.exWs_ok exWs_32
  rw [Lift.exWs_spec] at a2
  simp only [Option.some.injEq, Sketch.mk.injEq, Store.sp.injEq, true_and] at a2
  have hz : s.zero = .fin 0 := a2.2.2.symm
  have hmn0 : (0 : Rat) ≤ 4 / 3 := by decide +kernel
  have hm := model_runAdds_w exEnv (4 / 3) rfl hmn0 Lift.exWs _ s a1
  obtain ⟨_, sS⟩ := runAdds_param (grow := grow) (ratAdds Lift.exWs) (skSim_new exEnv)
    (routed32_ratAdds exEnv (4 / 3) rfl hmn0 Lift.exWs exWs_32)
  rw [NewDDSketch_eq exEnv (some exEnv.id) .pag, hm] at sS
  have hS : SkSim g.1 (toGen exEnv s) := sS
  have hz0 : DDSketch.GetZeroCount g.1 = .fin 0 := by
    rw [GetZeroCount_param hS, GetZeroCount_eq]; exact hz
  have tp : Content.total [((1 : Int), (2 : Rat))] = exCp.total := by rw [exCp_total]; decide +kernel
  have hE : QExact [((1 : Int), (2 : Rat))] exCn 0 (1 / 8) (1 / 4) := Lift.qexact_of_totals exExact tp rfl
  have hW : (0 : Rat) < 0 + Content.total [((1 : Int), (2 : Rat))] + exCn.total := by
    rw [tp, exCp_total, exCn_total]; decide +kernel
  refine ⟨hz0, hE, hW, ?_⟩
  rcases hq 0 (1 / 8) (1 / 4) hz0 (le_refl _) (by decide +kernel) (by decide +kernel) hW hE with
    ⟨_, j, w, hj, hv, _⟩ | ⟨a, _, _⟩ | ⟨a, _⟩
  · exact ⟨j, w, hj, hv⟩
  · rw [ex_clamp, exCn_total] at a; norm_num at a
  · rw [ex_clamp, exCn_total] at a; norm_num at a

end C02

/-! ## C04GenPag: the store `NonVacuity.pagS` (one materialised page holding `3 ↦ 5/2`, the buffered entry `40`;
    invariant `pagS_inv`, content `[(3, 5/2), (40, 1)]`), and a second store with content `[(3, 7), (40, 2)]` -/
section C04
open DDS.PStore DDS.GenPag DDS.Gen.Paginated DDS.Props.C04GenPag
open DDS.Props.NonVacuity (pagS pagS_inv pagS_content)

/-- `gen_observers` at the fuel `obsFuel pagS`, capacity 4 -/
example : content pagS = [(3, 5 / 2), (40, 1)] ∧
    BufferedPaginatedStore.IsEmpty (obsFuel pagS) (toGen pagS 4) = .ok (content pagS).isEmpty ∧
    BufferedPaginatedStore.TotalCount (obsFuel pagS) (toGen pagS 4) = .ok (content pagS).total ∧
    BufferedPaginatedStore.MinIndex (obsFuel pagS) (toGen pagS 4)
      = .ok (match (content pagS).minIndex? with
             | some m => (m, GoErr.nil) | none => ((0 : Int), errUndefinedMinIndex)) ∧
    BufferedPaginatedStore.MaxIndex (obsFuel pagS) (toGen pagS 4)
      = .ok (match (content pagS).maxIndex? with
             | some m => (m, GoErr.nil) | none => ((0 : Int), errUndefinedMaxIndex)) ∧
    (∀ r : Rat, ∃ g', BufferedPaginatedStore.KeyAtRank (obsFuel pagS) (toGen pagS 4) r
      = .ok (g', (content pagS).keyAtRank r)) ∧
    (∃ g', BufferedPaginatedStore.ForEach (obsFuel pagS) (toGen pagS 4) (fun _ _ => .ok false) = .ok g') ∧
    visitTrace (fun _ _ => .ok false) pagS.binsList = content pagS :=
  ⟨pagS_content, gen_observers pagS pagS_inv 4 _ (Nat.le_refl _)⟩

/-- … the bound is a number: fuel 100 is enough for that store -/
theorem pagS_obsFuel : obsFuel pagS ≤ 100 := by decide +kernel
theorem pagS_feFuel : forEachFuel pagS ≤ 100 := by decide +kernel

example : BufferedPaginatedStore.TotalCount 100 (toGen pagS 4) = .ok (7 / 2) ∧
    BufferedPaginatedStore.MinIndex 100 (toGen pagS 4) = .ok (3, GoErr.nil) ∧
    BufferedPaginatedStore.MaxIndex 100 (toGen pagS 4) = .ok (40, GoErr.nil) := by
  obtain ⟨_, h2, h3, h4, _⟩ := gen_observers pagS pagS_inv 4 100 pagS_obsFuel
  rw [pagS_content] at h2 h3 h4
  have e2 : Content.total [((3 : Int), (5 / 2 : Rat)), (40, 1)] = 7 / 2 := by decide +kernel
  have e3 : Content.minIndex? [((3 : Int), (5 / 2 : Rat)), (40, 1)] = some 3 := by decide +kernel
  have e4 : Content.maxIndex? [((3 : Int), (5 / 2 : Rat)), (40, 1)] = some 40 := by decide +kernel
  rw [e2] at h2; rw [e3] at h3; rw [e4] at h4
  exact ⟨h2, h3, h4⟩

/-- `gen_forEach_stops`: a visitor that stops at index 3 sees `[(3, 5/2)]` only -/
example : (∃ g', BufferedPaginatedStore.ForEach 100 (toGen pagS 4) (fun i c => .ok ((fun i _ => i == 3) i c))
      = .ok g') ∧
    visitTrace (fun i c => .ok ((fun i _ => i == 3) i c)) pagS.binsList = [(3, 5 / 2)] := by
  obtain ⟨h1, h2⟩ := gen_forEach_stops pagS 4 (fun i _ => i == 3) 100 pagS_feFuel
  refine ⟨h1, ?_⟩
  rw [h2, pagS_content]; decide +kernel

/-- `gen_reads_preserve_content` -/
example (r : Rat) : ∃ s' : PStore, Inv s' ∧ content s' = [(3, 5 / 2), (40, 1)] ∧
    BufferedPaginatedStore.KeyAtRank 100 (toGen pagS 4) r
      = .ok (toGen s' 4, Content.keyAtRank [(3, 5 / 2), (40, 1)] r) ∧
    BufferedPaginatedStore.ForEach 100 (toGen pagS 4) (fun _ _ => .ok false) = .ok (toGen s' 4) := by
  obtain ⟨s', h1, h2, h3, h4⟩ := gen_reads_preserve_content pagS pagS_inv 4 r 100 pagS_obsFuel
  rw [pagS_content] at h2 h3
  exact ⟨s', h1, h2, h3, h4⟩

instance : (op : GOp) → Decidable op.ok
  | .add .. => inferInstanceAs (Decidable ((_ ∧ _) ∧ _))
  | .clear => .isTrue trivial
  | .reweight _ => inferInstanceAs (Decidable (_ < _))

/-- a history with every kind of operation, negative and repeated indexes, a fractional weight -/
def gops : List GOp := [.add 3 1, .add (-100) (1 / 2), .add 3 (5 / 4), .reweight 2, .reweight 1, .add 7 1]

theorem gops_ok : ∀ op ∈ gops, op.ok := by decide +kernel

theorem gops_spec : crun [] gops = [(-100, 1), (3, 9 / 2), (7, 1)] := by decide +kernel

theorem gops_from_pagS : crun [(3, 5 / 2), (40, 1)] gops = [(-100, 1), (3, 19 / 2), (7, 1), (40, 2)] := by
  decide +kernel

/-- a history with a `Clear` in the middle -/
def gops2 : List GOp := [.add 3 1, .clear, .add 5 (1 / 2)]

theorem gops2_ok : ∀ op ∈ gops2, op.ok := by decide +kernel

/-- `gen_history_from`, from the non-empty store `pagS` -/
example : ∃ F : Nat, ∀ (cap : Int) (grow : Int → Int → Int) (fuel : Nat), F ≤ fuel →
    ∃ (s' : PStore) (cap' : Int), grun fuel grow (toGen pagS cap) gops = .ok (toGen s' cap') ∧ Inv s' ∧
      content s' = [(-100, 1), (3, 19 / 2), (7, 1), (40, 2)] := by
  obtain ⟨F, hF⟩ := gen_history_from gops gops_ok pagS pagS_inv
  refine ⟨F, fun cap grow fuel hf => ?_⟩
  obtain ⟨s', cap', h1, h2, h3⟩ := hF cap grow fuel hf
  rw [pagS_content, gops_from_pagS] at h3
  exact ⟨s', cap', h1, h2, h3⟩

/-- `gen_history_observers` -/
example : ∃ F : Nat, ∀ (grow : Int → Int → Int) (fuel : Nat), F ≤ fuel →
    ∃ g : GP, grun fuel grow NewBufferedPaginatedStore gops = .ok g ∧
      ∃ F' : Nat, ∀ fuel', F' ≤ fuel' →
        BufferedPaginatedStore.IsEmpty fuel' g = .ok false ∧
        BufferedPaginatedStore.TotalCount fuel' g = .ok (13 / 2) ∧
        BufferedPaginatedStore.MinIndex fuel' g = .ok (-100, GoErr.nil) ∧
        BufferedPaginatedStore.MaxIndex fuel' g = .ok (7, GoErr.nil) ∧
        (∀ r : Rat, ∃ g', BufferedPaginatedStore.KeyAtRank fuel' g r
          = .ok (g', Content.keyAtRank [(-100, 1), (3, 9 / 2), (7, 1)] r)) ∧
        (∃ g', BufferedPaginatedStore.ForEach fuel' g (fun _ _ => .ok false) = .ok g') := by
  obtain ⟨F, hF⟩ := gen_history_observers gops gops_ok
  refine ⟨F, fun grow fuel hf => ?_⟩
  obtain ⟨g, h1, F', hF'⟩ := hF grow fuel hf
  refine ⟨g, h1, F', fun fuel' hf' => ?_⟩
  obtain ⟨o1, o2, o3, o4, o5, o6⟩ := hF' fuel' hf'
  rw [gops_spec] at o1 o2 o3 o4 o5
  have e1 : Content.isEmpty [((-100 : Int), (1 : Rat)), (3, 9 / 2), (7, 1)] = false := by decide +kernel
  have e2 : Content.total [((-100 : Int), (1 : Rat)), (3, 9 / 2), (7, 1)] = 13 / 2 := by decide +kernel
  have e3 : Content.minIndex? [((-100 : Int), (1 : Rat)), (3, 9 / 2), (7, 1)] = some (-100) := by decide +kernel
  have e4 : Content.maxIndex? [((-100 : Int), (1 : Rat)), (3, 9 / 2), (7, 1)] = some 7 := by decide +kernel
  rw [e1] at o1; rw [e2] at o2; rw [e3] at o3; rw [e4] at o4
  exact ⟨o1, o2, o3, o4, o5, o6⟩

example : ∃ F : Nat, ∀ (grow : Int → Int → Int) (fuel : Nat), F ≤ fuel →
    ∃ g : GP, grun fuel grow NewBufferedPaginatedStore gops2 = .ok g ∧
      ∃ F' : Nat, ∀ fuel', F' ≤ fuel' → BufferedPaginatedStore.TotalCount fuel' g = .ok (1 / 2) := by
  obtain ⟨F, hF⟩ := gen_history_observers gops2 gops2_ok
  refine ⟨F, fun grow fuel hf => ?_⟩
  obtain ⟨g, h1, F', hF'⟩ := hF grow fuel hf
  refine ⟨g, h1, F', fun fuel' hf' => ?_⟩
  obtain ⟨_, o2, _⟩ := hF' fuel' hf'
  have e2 : Content.total (crun [] gops2) = 1 / 2 := by decide +kernel
  rw [o2, e2]

/-- `gen_merge`: `pagS` (content `[(3, 5/2), (40, 1)]`) receives a store with content `[(3, 7), (40, 2)]`
    (`NonVacuity.PStoreInv_inhabited`: reached by a history with a compaction and a reweighting) -/
example : ∃ o : PStore, Inv o ∧ content o = [(3, 7), (40, 2)] ∧
    ∀ (cap cap' : Int) (grow : Int → Int → Int) (mf : GP → GP → Res GP),
    ∃ (g' : GP) (s' : PStore),
      BufferedPaginatedStore.MergeWith (mergeFuel addFuel pagS o) grow mf (toGen pagS cap) (toGen o cap') = .ok g' ∧
      Rel g' s' ∧ Inv s' ∧ content s' = [(3, 19 / 2), (40, 3)] := by
  obtain ⟨o, ho, hc, _⟩ := DDS.Props.NonVacuity.PStoreInv_inhabited
  refine ⟨o, ho, hc, fun cap cap' grow mf => ?_⟩
  obtain ⟨g', s', h1, h2, h3, h4⟩ := gen_merge pagS o pagS_inv ho cap cap' grow mf _ (Nat.le_refl _)
  rw [pagS_content, hc] at h4
  exact ⟨g', s', h1, h2, h3, by rw [h4]; decide +kernel⟩

end C04

/-! ## C05GenSketch: `exEnv`, `exXs`, collapsing stores with ONE bin (something is collapsed: on the positive
    side bin 0 of the value 3 is folded) -/
section C05
open DDS.QuantileEx DDS.Gen.Sketch DDS.Gen.Dense DDS.GenSketch DDS.GenStoreSim DDS.GenLowSketch
open DDS.GenPagSketch (runAdds)
open DDS.Props.C01GenPag (unitAdds)
open DDS.Props.C05GenSketch DDS.GenDenseSketch DDS.GenHighSketch

/-- `collapsing_sketch_contents_regenerated` -/
example : let g := runAdds (newLow exEnv 1) (unitAdds exXs)
    g.2 = List.replicate exXs.length GoErr.nil ∧
    ∃ (s₀ : Sketch) (cp cn : Content) (dp dn : DStore),
      Sketch.addAll exEnv (Sketch.new (some exEnv.id) .sparse) (exXs.map (fun x => (x, 1))) = some s₀ ∧
      s₀ = Sketch.spec (some exEnv.id) cp cn g.1.zeroCount ∧ g.1.IndexMapping = exEnv ∧ cp.WF ∧ cn.WF ∧
      g.1.positiveValueStore.g = GenDense.toLow ((1 : Nat) : Int) dp ∧ dp.kind = .low 1 ∧
      g.1.negativeValueStore.g = GenDense.toLow ((1 : Nat) : Int) dn ∧ dn.kind = .low 1 ∧
      Lift.contentOf (.d dp) = Content.specLow 1 cp ∧ Lift.contentOf (.d dn) = Content.specLow 1 cn :=
  collapsing_sketch_contents_regenerated 1 (by omega) exEnv _ _ _ exContract exXs exXs_ok exXs_32

/-- `collapsing_sketch_contents_regenerated_high` -/
example : let g := runAdds (newHigh exEnv 1) (unitAdds exXs)
    g.2 = List.replicate exXs.length GoErr.nil ∧
    ∃ (s₀ : Sketch) (cp cn : Content) (dp dn : DStore),
      Sketch.addAll exEnv (Sketch.new (some exEnv.id) .sparse) (exXs.map (fun x => (x, 1))) = some s₀ ∧
      s₀ = Sketch.spec (some exEnv.id) cp cn g.1.zeroCount ∧ g.1.IndexMapping = exEnv ∧ cp.WF ∧ cn.WF ∧
      g.1.positiveValueStore.g = GenDense.toHigh ((1 : Nat) : Int) dp ∧ dp.kind = .high 1 ∧
      g.1.negativeValueStore.g = GenDense.toHigh ((1 : Nat) : Int) dn ∧ dn.kind = .high 1 ∧
      Lift.contentOf (.d dp) = Content.specHigh 1 cp ∧ Lift.contentOf (.d dn) = Content.specHigh 1 cn :=
  collapsing_sketch_contents_regenerated_high 1 (by omega) exEnv _ _ _ exContract exXs exXs_ok exXs_32

/-- `collapsing_quantile_retained_regenerated` -/
example : let g := runAdds (newLow exEnv 1) (unitAdds exXs)
    g.2 = List.replicate exXs.length GoErr.nil ∧
    ∃ (s₀ : Sketch) (cp cn : Content),
      Sketch.addAll exEnv (Sketch.new (some exEnv.id) .sparse) (exXs.map (fun x => (x, 1))) = some s₀ ∧
      s₀ = Sketch.spec (some exEnv.id) cp cn g.1.zeroCount ∧
      ∀ q : F64,
        (∀ side k, Lift.selKey s₀ q = some (side, k) → Lift.edgeLow 1 (if side then cp else cn) ≤ k) →
        QRel (s₀.quantile exEnv q) (DDSketch.GetValueAtQuantile g.1 q) :=
  collapsing_quantile_retained_regenerated 1 (by omega) exEnv _ _ _ exContract exXs exXs_ok exXs_32
    exXs_ne exXs_len

/-- `dense_quantile_accuracy_regenerated` -/
example (q : Rat) (hq0 : 0 ≤ q) (hq1 : q ≤ 1) :
    let g := runAdds (NewDDSketch exEnv (⟨NewDenseStore⟩ : GDS) ⟨NewDenseStore⟩) (unitAdds exXs)
    g.2 = List.replicate exXs.length GoErr.nil ∧
    ∃ a : Rat, DDSketch.GetValueAtQuantile g.1 (.fin q) = (.fin a, GoErr.nil) ∧
      ∃ k : Nat, k < exXs.length ∧
        ((k : Int) = ⌊q * ((exXs.length : Rat) - 1)⌋ ∨ (k : Int) = ⌈q * ((exXs.length : Rat) - 1)⌉) ∧
        rabs (a - (sortedInputs (4 / 3) exXs)[k]!) ≤ 1 / 2 * rabs ((sortedInputs (4 / 3) exXs)[k]!) :=
  dense_quantile_accuracy_regenerated exEnv _ _ _ exContract exXs exXs_ok exXs_32 exXs_ne exXs_len q hq0 hq1

/-- the exact (sparse) sketch of `exXs`: positive bins `0 ↦ 1` (the value 3), `1 ↦ 2` (5 and 12), negative bins
    `0 ↦ 1`, `1 ↦ 1`, two values in the zero bucket -/
def exS0 : Sketch := ⟨some exEnv.id, .sp [(0, 1), (1, 2)], .sp [(0, 1), (1, 1)], .fin 2⟩

theorem exS0_spec :
    Sketch.addAll exEnv (Sketch.new (some exEnv.id) .sparse) (exXs.map (fun x => (x, 1))) = some exS0 := by
  rw [Sketch.new_sparse, addAll_units exEnv _ _ _ exContract exXs exXs_ok]
  have e1 : Content.merge [] (unitPairs ((posVals (4 / 3) exXs).map (idxOf exEnv))) = [(0, 1), (1, 2)] := by
    decide +kernel
  have e2 : Content.merge [] (unitPairs ((negVals (4 / 3) exXs).map (idxOf exEnv))) = [(0, 1), (1, 1)] := by
    decide +kernel
  have e3 : Dataset.addN (.fin 0) (zeroCnt (4 / 3) exXs) = .fin 2 := by decide +kernel
  rw [e1, e2, e3]; rfl

/-- … and the INNER guard of `collapsing_quantile_retained_regenerated` (the selected bin is at or above the edge) is
    met non-trivially: at `q = 1` the exact sketch of `exXs` selects bin 1 of the positive side, which IS the edge
    of a one-bin store (bin 0 has been collapsed); the regenerated collapsing sketch answers `6` with a nil error -/
example : let g := runAdds (newLow exEnv 1) (unitAdds exXs)
    Lift.selKey exS0 (.fin 1) = some (true, 1) ∧ Lift.edgeLow 1 [(0, 1), (1, 2)] = 1 ∧
    DDSketch.GetValueAtQuantile g.1 (.fin 1) = (.fin 6, GoErr.nil) := by
  intro g
  obtain ⟨_, s₀, cp, cn, h1, h2, hq⟩ :=
    collapsing_quantile_retained_regenerated 1 (by omega) exEnv _ _ _ exContract exXs exXs_ok exXs_32
      exXs_ne exXs_len
  rw [exS0_spec] at h1
  cases h1
  simp only [exS0, Sketch.spec, Sketch.mk.injEq, Store.sp.injEq, true_and] at h2
  obtain ⟨rfl, rfl, _⟩ := h2
  have hsel : Lift.selKey exS0 (.fin 1) = some (true, 1) := by decide +kernel
  have hedge : Lift.edgeLow 1 [((0 : Int), (1 : Rat)), (1, 2)] = 1 := by decide +kernel
  refine ⟨hsel, hedge, ?_⟩
  have hv : exS0.quantile exEnv (.fin 1) = .ok (.fin 6) := by decide +kernel
  have := hq (.fin 1) (by
    intro side k h
    rw [hsel] at h
    cases h
    show Lift.edgeLow 1 [((0 : Int), (1 : Rat)), (1, 2)] ≤ 1
    rw [hedge])
  rw [hv] at this
  exact this

end C05

/-! ## C05GenLow / C05GenHigh (store-level C05 on the regenerated collapsing stores; no instance in their own
    files): limit `N = 2`, a history over five distinct indexes of both signs with a `Clear` in it -/
section C05Store
open DDS.DStore DDS.GenDense DDS.Props.C05

def lops : List C05GenLow.LOp := [.add 3 1, .add 10 (1 / 2), .clear, .add (-5) 2, .add 7 1, .add 8 1, .add 7 (1 / 4)]

instance : (op : Op) → Decidable op.ok32
  | .add .. => inferInstanceAs (Decidable (_ ∧ _ ∧ _))
  | .clear | .reweight _ => .isTrue trivial

theorem lops_ok : ∀ op ∈ lops, op.toOp.ok32 := by decide +kernel

theorem lops_exact : exactContent (lops.map C05GenLow.LOp.toOp) = [(-5, 2), (7, 5 / 4), (8, 1)] := by
  decide +kernel

/-- `gen_low_never_panics`, `gen_low_content_after_history`, `gen_low_weight_conserved` at the fuel `2N + 2 = 6` -/
example : (∃ s, C05GenLow.genRunLow 6 2 lops = .ok (toLow ((2 : Nat) : Int) s) ∧ InvLow 2 s) ∧
    (∃ g, C05GenLow.genRunLow 6 2 lops = .ok g ∧
      content (ofLow g) = Content.specLow 2 [(-5, 2), (7, 5 / 4), (8, 1)]) ∧
    (∃ g, C05GenLow.genRunLow 6 2 lops = .ok g ∧
      Gen.Dense.DenseStore.TotalCount g.DenseStore = Content.total [(-5, 2), (7, 5 / 4), (8, 1)]) := by
  have h2 := C05GenLow.gen_low_content_after_history 6 2 (by omega) (by omega) lops lops_ok
  have h3 := C05GenLow.gen_low_weight_conserved 6 2 (by omega) (by omega) lops lops_ok
  rw [lops_exact] at h2 h3
  exact ⟨C05GenLow.gen_low_never_panics 6 2 (by omega) (by omega) lops lops_ok, h2, h3⟩

/-- `gen_low_merge_safe`: limits 2 and 3, fuel 9 -/
example : ∃ g o s', C05GenLow.genRunLow 9 2 lops = .ok g ∧ C05GenLow.genRunLow 9 3 lops = .ok o ∧
    Gen.Dense.CollapsingLowestDenseStore.MergeWith 9 g o = .ok (toLow ((2 : Nat) : Int) s') ∧
    InvLow 2 s' ∧ s'.bins.size ≤ 2 ∧
    s'.totalCount = Gen.Dense.DenseStore.TotalCount g.DenseStore
                      + Gen.Dense.DenseStore.TotalCount o.DenseStore ∧
    content s' = Content.specLow 2 ((exactContent (lops.map C05GenLow.LOp.toOp)).merge
      (Content.specLow 3 (exactContent (lops.map C05GenLow.LOp.toOp)))) :=
  C05GenLow.gen_low_merge_safe 9 2 3 (by omega) (by omega) (by omega) (by omega) lops lops lops_ok lops_ok

def hops : List Op := lops.map C05GenLow.LOp.toOp

theorem hops_ok : ∀ op ∈ hops, op.ok32 := C05GenLow.ok32_map lops lops_ok

/-- `gen_high_never_panics`, `gen_high_content_after_history`, `gen_high_merge_safe` -/
example : (∃ f0 s, (∀ fuel, f0 ≤ fuel → C05GenHigh.genRunHigh fuel 2 hops = .ok (toHigh ((2 : Nat) : Int) s)) ∧
      InvHigh 2 s) ∧
    (∃ f0 g, (∀ fuel, f0 ≤ fuel → C05GenHigh.genRunHigh fuel 2 hops = .ok g) ∧
      content (ofHigh g) = Content.specHigh 2 [(-5, 2), (7, 5 / 4), (8, 1)] ∧
      Gen.Dense.DenseStore.TotalCount g.DenseStore = Content.total [(-5, 2), (7, 5 / 4), (8, 1)]) := by
  have h2 := C05GenHigh.gen_high_content_after_history 2 (by omega) hops hops_ok
  rw [show exactContent hops = [(-5, 2), (7, 5 / 4), (8, 1)] from lops_exact] at h2
  exact ⟨C05GenHigh.gen_high_never_panics 2 (by omega) hops hops_ok, h2⟩

example : ∃ f0 g o g', ∀ fuel, f0 ≤ fuel →
    C05GenHigh.genRunHigh fuel 2 hops = .ok g ∧ C05GenHigh.genRunHigh fuel 3 hops = .ok o ∧
    Gen.Dense.CollapsingHighestDenseStore.MergeWith fuel g o = .ok g' ∧
    g'.DenseStore.bins.length ≤ 2 ∧
    g'.DenseStore.count = g.DenseStore.count + o.DenseStore.count ∧
    content (ofHigh g') = Content.specHigh 2
      ((exactContent hops).merge (Content.specHigh 3 (exactContent hops))) :=
  C05GenHigh.gen_high_merge_safe 2 3 (by omega) (by omega) hops hops hops_ok hops_ok

end C05Store

/-! ## C06GenPag: encoding and decoding of `pagS` -/
section C06
open DDS.PStore DDS.GenPag DDS.Gen.Paginated DDS.Gen.Encoding DDS.Props.C06GenPag
open DDS.Props.NonVacuity (pagS pagS_inv pagS_content)

/-- `gen_pag_Encode`: the positive-store flag, a non-empty prefix of bytes already written -/
example (cap : Int) : ∃ s' blocks, Sketch.encodeStore (.pg pagS) .pos = some (.pg s', blocks) ∧
    BufferedPaginatedStore.Encode (encodeFuel compactFuel pagS) (toGen pagS cap) [7#8, 9#8] FlagTypePositiveStore
      = .ok (toGen s' cap, [7#8, 9#8] ++ DDS.GenEncoding.bn (Wire.encBlocks blocks)) ∧
    PStore.Inv s' ∧ content s' = [(3, 5 / 2), (40, 1)] := by
  obtain ⟨s', bl, h1, h2, h3, h4⟩ := gen_pag_Encode (encodeFuel compactFuel pagS) pagS cap .pos
    FlagTypePositiveStore (by decide) [7#8, 9#8] pagS_inv (by decide) (Nat.le_refl _)
  rw [pagS_content] at h4
  exact ⟨s', bl, h1, h2, h3, h4⟩

/-- an index-delta block announcing 3 bins with deltas `5, 2, -1` (indexes `5, 7, 6`), followed by one more byte -/
def deltaBytes : List (BitVec 8) := [3#8, 10#8, 4#8, 1#8, 7#8]

theorem deltaBytes_count : Codec.decUvarint64 (DDS.GenEncoding.nb deltaBytes) = .ok (3, [10, 4, 1, 7]) := by
  decide +kernel

theorem deltaBytes_indexes :
    DDS.GenStoreDecode.storeIndexes Consts.binEncodingIndexDeltas (DDS.GenEncoding.nb deltaBytes) = [5, 7, 6] := by
  decide +kernel

/-- the model decodes that block into `pagS` and leaves the last byte -/
theorem deltaBytes_model :
    (Sketch.decodeStore (.pg pagS) Consts.binEncodingIndexDeltas (DDS.GenEncoding.nb deltaBytes)).map
      (fun r => match r with | .ok (_, rest) => some rest | .error _ => none) = some (some [7]) := by
  decide +kernel

/-- `gen_pag_Decode_deltas`: all five hypotheses hold of `pagS` (buffer of length 1, trigger 64), capacity 4,
    every growth policy and every fallback; the regenerated decoder returns a store with the invariant, the
    remaining byte and a nil error -/
example (grow : Int → Int → Int)
    (fb : GP → List (BitVec 8) → SubFlag → Res (GP × List (BitVec 8) × GoErr)) :
    ∃ s' cap', BufferedPaginatedStore.DecodeAndMergeWith (deltasFuel compactFuel grow pagS 4 deltaBytes) grow fb
        (toGen pagS 4) deltaBytes BinEncodingIndexDeltas = .ok (toGen s' cap', [7#8], GoErr.nil) ∧
      PStore.Inv s' := by
  have h := gen_pag_Decode_deltas grow fb _ pagS 4 deltaBytes pagS_inv (by decide)
    (by
      intro v rest hv
      rw [deltaBytes_count] at hv
      cases hv
      decide)
    (by rw [deltaBytes_indexes]; decide)
    (Nat.le_refl _)
  have hm := deltaBytes_model
  cases hd : Sketch.decodeStore (.pg pagS) Consts.binEncodingIndexDeltas (DDS.GenEncoding.nb deltaBytes) with
  | none => rw [hd] at hm; cases hm
  | some r =>
    rw [hd] at hm h
    cases r with
    | error e => cases hm
    | ok p =>
      obtain ⟨st', rest⟩ := p
      simp only [Option.map_some, Option.some.injEq] at hm
      cases hm
      obtain ⟨s', cap', st'', h1, _, h3, _⟩ := h
      exact ⟨s', cap', h1, h3⟩

/-- `gen_pag_Decode_other` -/
example (grow : Int → Int → Int)
    (fb : GP → List (BitVec 8) → SubFlag → Res (GP × List (BitVec 8) × GoErr)) (fuel : Nat) (g : GP)
    (b : List (BitVec 8)) :
    BufferedPaginatedStore.DecodeAndMergeWith fuel grow fb g b BinEncodingIndexDeltasAndCounts
      = fb g b BinEncodingIndexDeltasAndCounts :=
  gen_pag_Decode_other grow fb fuel g b _ (by decide) (by decide)

end C06

/-! ## C09GenStore: protobuf conversions of the stores -/
section C09
open DDS.PStore DDS.GenPag DDS.Gen.Paginated DDS.Proto DDS.GenProtoStore DDS.Gen.PaginatedProto
open DDS.Props.C09GenStore
open DDS.Props.NonVacuity (pagS pagS_inv pagS_content)

/-- `pag_roundtrip`: `pagS`, the DESCENDING iteration order of the map (lawful, not the identity), every capacity
    and growth policy -/
example (cap cap0 : Int) (grow : Int → Int → Int) :
    ∃ g1 m, BufferedPaginatedStore.ToProto 100 (toGen pagS cap) = .ok (g1, m) ∧
      some (pbOfGo m) = storeToProto (.pg pagS) ∧
      ∀ fuel2, pagFuel PStore.new (msgCalls GenSparse.descending m) ≤ fuel2 →
        ∃ s' cap', BufferedPaginatedStore.MergeWithProto fuel2 GenSparse.descending grow (toGen PStore.new cap0) m
            = .ok (toGen s' cap') ∧ Inv s' ∧ content s' = [(3, 5 / 2), (40, 1)] := by
  obtain ⟨g1, m, h1, h2, h3⟩ :=
    pag_roundtrip pagS pagS_inv cap cap0 grow GenSparse.descending GenSparse.descending_lawful 100 pagS_feFuel
  refine ⟨g1, m, h1, h2, fun fuel2 hf2 => ?_⟩
  obtain ⟨s', cap', a1, a2, a3⟩ := h3 fuel2 hf2
  rw [pagS_content] at a3
  exact ⟨s', cap', a1, a2, a3⟩

/-- `pag_roundtrip_any`: the same producer, a regenerated generic consumer filling a dense store -/
example (cap : Int) (fuel2 : Nat) :
    ∃ g1 m, BufferedPaginatedStore.ToProto 100 (toGen pagS cap) = .ok (g1, m) ∧
      some (pbOfGo m) = storeToProto (.pg pagS) ∧
      ∃ st', Gen.StoreProto.MergeWithProto fuel2 GenSparse.descending (Store.new .dense) (toF64 m) = .ok st' ∧
        Lift.Good st' ∧ st'.kind = .dense ∧
        Lift.contentOf st' = (Lift.clampOfKind .dense).apply (content pagS) :=
  pag_roundtrip_any pagS pagS_inv cap GenSparse.descending GenSparse.descending_lawful .dense trivial 100 fuel2
    pagS_feFuel

/-- a sparse store holding two bins, one negative index, one fractional weight -/
def spC : Content := [(-3, 2), (5, 1 / 2)]

theorem spC_wf : spC.WF := RoundTrip.wf_of_wfb _ (by decide +kernel)

theorem spC_rep : GenSparse.Rep ⟨spC⟩ spC := ⟨rfl, spC_wf⟩

theorem spC_32 : ∀ p ∈ spC, Lift.I32 p.1 := by
  intro p hp
  simp only [spC, List.mem_cons, List.not_mem_nil, or_false] at hp
  rcases hp with rfl | rfl <;> decide

/-- `sparse_roundtrip`: producer order descending, consumer order ascending, into a lowest-collapsing store with ONE
    bin (the clamp is not the identity) and into a paginated store -/
example (fuel fuel2 : Nat) :
    ∃ m, Gen.SparseProto.SparseStore.ToProto fuel GenSparse.descending ⟨spC⟩ = .ok m ∧
      some (pbOfGo m) = storeToProto (.sp spC) ∧
      ∃ st', Gen.StoreProto.MergeWithProto fuel2 MapOrder.ascending (Store.new (.low 1)) (toF64 m) = .ok st' ∧
        Lift.Good st' ∧ st'.kind = .low 1 ∧ Lift.contentOf st' = (Lift.clampOfKind (.low 1)).apply spC :=
  sparse_roundtrip spC_rep spC_32 GenSparse.descending MapOrder.ascending GenSparse.descending_lawful
    GenSparse.ascending_lawful (.low 1) (by show 1 ≤ 1; omega) fuel fuel2

example (fuel fuel2 : Nat) :
    ∃ m, Gen.SparseProto.SparseStore.ToProto fuel GenSparse.descending ⟨spC⟩ = .ok m ∧
      some (pbOfGo m) = storeToProto (.sp spC) ∧
      ∃ st', Gen.StoreProto.MergeWithProto fuel2 MapOrder.ascending (Store.new .pag) (toF64 m) = .ok st' ∧
        Lift.Good st' ∧ st'.kind = .pag ∧ Lift.contentOf st' = (Lift.clampOfKind .pag).apply spC :=
  sparse_roundtrip spC_rep spC_32 GenSparse.descending MapOrder.ascending GenSparse.descending_lawful
    GenSparse.ascending_lawful .pag trivial fuel fuel2

/-- a message with BOTH forms of bins, overlapping at index 5 (map: `-3 ↦ 2`, `5 ↦ 1/2`; contiguous from 4:
    `1, 0, 3`) -/
def pbBoth : GoPb.Store F64 :=
  { BinCounts := [(-3, .fin 2), (5, .fin (1 / 2))], ContiguousBinCounts := [.fin 1, .fin 0, .fin 3],
    ContiguousBinIndexOffset := 4#32 }

theorem pbBoth_wf : pbBoth.WF := by unfold GoPb.Store.WF; decide +kernel

theorem pbBoth_fin : Finite pbBoth := by
  refine ⟨?_, ?_⟩
  · intro p hp
    simp only [pbBoth, List.mem_cons, List.not_mem_nil, or_false] at hp
    rcases hp with rfl | rfl <;> exact ⟨_, rfl⟩
  · intro c hc
    simp only [pbBoth, List.mem_cons, List.not_mem_nil, or_false] at hc
    rcases hc with rfl | rfl | rfl <;> exact ⟨_, rfl⟩

theorem pbBoth_ok : Lift.BinsOK (msgBins GenSparse.descending pbBoth) := by
  unfold Lift.BinsOK Lift.I32; decide +kernel

theorem wf_51 : Content.WF [((5 : Int), (1 : Rat))] := RoundTrip.wf_of_wfb _ (by decide +kernel)

/-- `mergeWithProto_adds_gen`: into the NON-EMPTY sparse store `[(5, 1)]`; index 5 receives `1 + 1/2 + 0` -/
example (fuel : Nat) :
    ∃ st' C, Gen.StoreProto.MergeWithProto fuel GenSparse.descending (.sp [(5, 1)]) pbBoth = .ok st' ∧
      Lift.Good st' ∧ st'.kind = (Store.sp [(5, 1)]).kind ∧
      Lift.contentOf st' = (Store.sp [(5, 1)]).clamp.apply C ∧
      C.lookup 5 = 3 / 2 ∧ C.lookup 6 = 3 ∧ C.lookup (-3) = 2 ∧ C.lookup 4 = 1 := by
  obtain ⟨st', C, h1, h2, h3, h4, h5⟩ :=
    mergeWithProto_adds_gen fuel GenSparse.descending GenSparse.descending_lawful (.sp [(5, 1)])
      ⟨wf_51, by intro p hp; simp only [List.mem_cons, List.not_mem_nil, or_false] at hp; subst hp; decide⟩
      [(5, 1)] wf_51 (by decide +kernel) pbBoth pbBoth_wf pbBoth_fin pbBoth_ok
  refine ⟨st', C, h1, h2, h3, h4, ?_, ?_, ?_, ?_⟩
  · rw [h5]; decide +kernel
  · rw [h5]; decide +kernel
  · rw [h5]; decide +kernel
  · rw [h5]; decide +kernel

/-- `sparse_to_dense_fromProto`: the instance `GenDecodeWrap.denseI` meets `DenseAdds` -/
example (fuel fuel2 : Nat) :
    ∃ m d, Gen.SparseProto.SparseStore.ToProto fuel GenSparse.descending ⟨spC⟩ = .ok m ∧
      @Gen.DenseFromProto.FromProto GenDecodeWrap.denseI fuel2 MapOrder.ascending (toF64 m)
        = .ok (GenDense.toGen d) ∧
      Lift.Good (.d d) ∧ Lift.contentOf (.d d) = spC :=
  sparse_to_dense_fromProto spC_rep spC_32 GenSparse.descending MapOrder.ascending GenSparse.descending_lawful
    GenSparse.ascending_lawful GenDecodeWrap.denseI GenDecodeWrap.denseI_adds fuel fuel2

end C09

/-! ## C12GenIter: iteration and approximate sum on regenerated code -/
section C12
open DDS.QuantileEx DDS.GenSketch DDS.GenSketch7 DDS.Extremes DDS.Props.C12GenIter

theorem exCp6_wf : C06.exCp.WF := C06.exS_refines.pos.wf
theorem exCn6_wf : C06.exCn.WF := C06.exS_refines.neg.wf

/-- `forEach_gen_bins`: the sketch `C06.exS` (a DENSE positive store, a PAGINATED negative store, zero count `3/4`),
    refining `exCp = [(5, 2), (7, 1), (8, 3)]`, `exCn = [(1, 2), (2, 1), (3, 1)]`; seven bins are reported -/
example (fuel : Nat) : ∃ l : List (F64 × Rat),
    C06.exS.forEachList C12.envC = some l ∧
    Gen.SketchIter.DDSketch.ForEach fuel (toGen C12.envC C06.exS) [] recorder = .ok (liftL l) ∧
    (∀ p ∈ l, 0 < p.2) ∧ (l.map (·.2)).sum = 3 / 4 + C06.exCp.total + C06.exCn.total ∧ l.length = 7 := by
  obtain ⟨l, h1, h2, h3, h4⟩ := forEach_gen_bins C12.envC C06.exS C06.exCp C06.exCn (3 / 4) C06.exS_refines rfl
    exCp6_wf exCn6_wf (by decide +kernel) fuel
  refine ⟨l, h1, h2, h3, h4, ?_⟩
  have hc := Sketch.forEachList_congr C12.envC C06.exS_refines
  rw [h1] at hc
  have : ((Sketch.spec C06.exS.mapping C06.exCp C06.exCn C06.exS.zero).forEachList C12.envC).map List.length
      = some 7 := by decide +kernel
  rw [← hc] at this
  exact Option.some.inj this

/-- `forEach_gen_stops`: a visitor that stops on the first NEGATIVE value -/
example (fuel : Nat) : ∃ l : List (F64 × Rat), C06.exS.forEachList C12.envC = some l ∧
    Gen.SketchIter.DDSketch.ForEach fuel (toGen C12.envC C06.exS) ([] : List (F64 × F64))
      (fun log v c => .ok (log ++ [(v, c)], (fun v _ => F64.lt v (.fin 0)) v c))
        = .ok (takeThrough (fun v _ => F64.lt v (.fin 0)) (liftL l)) ∧
    takeThrough (fun v _ => F64.lt v (.fin 0)) (liftL l) <+: liftL l := by
  obtain ⟨l, h1, _⟩ := forEach_gen_bins C12.envC C06.exS C06.exCp C06.exCn (3 / 4) C06.exS_refines rfl
    exCp6_wf exCn6_wf (by decide +kernel) fuel
  exact ⟨l, h1, forEach_gen_stops C12.envC C06.exS l h1 rfl fuel _⟩

/-- non-negative inputs, two of them in the zero bucket -/
def nnXs : List Rat := [5, 1, 3, 0, 12]

theorem nnXs_ok : ∀ x ∈ nnXs, rabs x ≤ 12 := by decide +kernel

theorem nnXs_nonneg : ∀ x ∈ nnXs, 0 ≤ x := by decide +kernel

def nnL : List (F64 × Rat) := [(.fin 0, 2), (.fin 2, 1), (.fin 6, 2)]

theorem nnL_exact : SumExact nnL := by
  constructor
  · intro p hp
    simp only [nnL, List.mem_cons, List.not_mem_nil, or_false] at hp
    rcases hp with rfl | rfl | rfl <;> exact ⟨_, rfl, by decide +kernel⟩
  · decide +kernel

/-- `getSum_gen_accuracy` (and `getSum_gen_exact`): all of its hypotheses hold of `nnXs` under `exEnv`; the regenerated
    `GetSum` returns `14`, the true sum of the inputs (1 counting as 0) is `20`, and `|14 - 20| ≤ 1/2 · 20` -/
example (fuel : Nat) : ∃ s,
    Sketch.addAll exEnv (Sketch.new (some exEnv.id) .sparse) (nnXs.map (fun x => (x, 1))) = some s ∧
    s.forEachList exEnv = some nnL ∧ s.zero.isFinite = true ∧
    Gen.SketchIter.DDSketch.GetSum fuel (toGen exEnv s) = .ok (.fin 14) ∧
    ∃ A : Rat, Gen.SketchIter.DDSketch.GetSum fuel (toGen exEnv s) = .ok (.fin A) ∧
      rabs (A - (sortedInputs (4 / 3) nnXs).sum) ≤ 1 / 2 * rabs (sortedInputs (4 / 3) nnXs).sum := by
  obtain ⟨s, hs⟩ := C01.addAll_ok exEnv _ _ _ exContract nnXs nnXs_ok
  have hspec := hs
  rw [Sketch.new_sparse, addAll_units exEnv _ _ _ exContract nnXs nnXs_ok] at hspec
  have hl : s.forEachList exEnv = some nnL := by
    cases hspec; decide +kernel
  have hz : s.zero.isFinite = true := by
    cases hspec; decide +kernel
  have hsum := (getSum_gen_exact exEnv s nnL hl nnL_exact hz fuel).1
  have e14 : approxSumL nnL = 14 := by decide +kernel
  rw [e14] at hsum
  exact ⟨s, hs, hl, hz, hsum,
    getSum_gen_accuracy exEnv _ _ _ exContract nnXs nnXs_ok (by decide) s hs
      (Or.inl (sortedInputs_nonneg_of (4 / 3) nnXs nnXs_nonneg)) nnL hl nnL_exact hz fuel⟩

end C12

/-! ## C19GenProto: the theorems quantify over EVERY instance `[MOps F64]`, and the project declares none — so an
    instance is exhibited here (the exact-float operations of the model where they exist, the identity for the
    transcendental functions, which the conversions never call), together with a mapping that passes its guard -/
section C19
open DDS.GenProtoSketch DDS.Gen.MappingProto DDS.Gen.MappingFromProto DDS.Props.C19GenProto

/-- an instance of the float operations over the exact float model -/
@[reducible] def demoOps : MOps F64 where
  add := F64.add
  sub := F64.sub
  mul := F64.mul
  div := F64.div
  neg := F64.neg
  ofInt := fun i => .fin (i : Rat)
  ofRat := fun q => .fin q
  lt := F64.lt
  le := F64.le
  log := id
  exp := id
  log2 := id
  exp2 := id
  pow := fun a _ => a
  cbrt := id
  sqrt := id
  floor := id
  trunc := fun _ => 0
  exponentOf := id
  significandPlusOne := id
  buildFloat := fun _ a => a
  ln2 := .fin 1
  expOverflow := .fin 1
  minNormal := .fin 1

attribute [local instance] demoOps

/-- the instance meets `LeOne` (the only thing the `…_model` theorems ask of it) -/
theorem demoOps_leOne : LeOne := by
  intro x
  show F64.le x (.fin ((1 : Int) : Rat)) = F64.le x (.fin 1)
  rw [Int.cast_one]

/-- gamma = 1.02 (nearest float), offset 0; the other three fields are not read by the conversions -/
def g102 : F64 := F64.ofBits 0x3FF051EB851EB852

theorem g102_guard : MOps.le g102 (MOps.ofInt 1 : F64) = false := by
  rw [demoOps_leOne]; exact C19.m102_valid.gammaGtOne

def mLog : Gen.Mapping.LogarithmicMapping F64 := ⟨g102, .fin 0, .fin 1, .fin (1 / 1000), .fin 1000⟩
def mLin : Gen.Mapping.LinearlyInterpolatedMapping F64 := ⟨g102, .fin 0, .fin 1, .fin (1 / 1000), .fin 1000⟩
def mCub : Gen.Mapping.CubicallyInterpolatedMapping F64 := ⟨g102, .fin 0, .fin 1, .fin (1 / 1000), .fin 1000⟩

/-- `log_proto_roundtrip` -/
example (fuel : Nat) : ∃ m', FromProto fuel (some (LogarithmicMapping.ToProto mLog)) =
      .ok (IndexMapping.LogarithmicMapping m', GoErr.nil) ∧
    m'.gamma = g102 ∧ m'.indexOffset = .fin 0 ∧
    Gen.MapId.LogarithmicMapping.Equals (asIdLog m') (asIdLog mLog) = true ∧
    Gen.MapId.LogarithmicMapping.Equals (asIdLog mLog) (asIdLog m') = true :=
  log_proto_roundtrip fuel mLog _ 0 g102_guard C19.gamma102_eq rfl

/-- `lin_proto_roundtrip` -/
example (fuel : Nat) : ∃ m', FromProto fuel (some (LinearlyInterpolatedMapping.ToProto mLin)) =
      .ok (IndexMapping.LinearlyInterpolatedMapping m', GoErr.nil) ∧
    m'.gamma = g102 ∧ m'.indexOffset = .fin 0 ∧
    Gen.MapId.LinearlyInterpolatedMapping.Equals (asIdLin m') (asIdLin mLin) = true ∧
    Gen.MapId.LinearlyInterpolatedMapping.Equals (asIdLin mLin) (asIdLin m') = true :=
  lin_proto_roundtrip fuel mLin _ 0 g102_guard C19.gamma102_eq rfl

/-- `cub_proto_roundtrip` -/
example (fuel : Nat) : ∃ m', FromProto fuel (some (CubicallyInterpolatedMapping.ToProto mCub)) =
      .ok (IndexMapping.CubicallyInterpolatedMapping m', GoErr.nil) ∧
    m'.gamma = g102 ∧ m'.indexOffset = .fin 0 ∧
    Gen.MapId.CubicallyInterpolatedMapping.Equals (asIdCub m') (asIdCub mCub) = true ∧
    Gen.MapId.CubicallyInterpolatedMapping.Equals (asIdCub mCub) (asIdCub m') = true :=
  cub_proto_roundtrip fuel mCub _ 0 g102_guard C19.gamma102_eq rfl

/-- `log/lin/cub_proto_roundtrip_model`: `LeOne` and the bit-pattern hypotheses hold together -/
example (fuel : Nat) : ∃ r, FromProto fuel (some (LogarithmicMapping.ToProto mLog)) = .ok (r, GoErr.nil) ∧
    idOf r = some C19.m102 ∧
    Proto.mappingFromProto (some (pbOfGo (LogarithmicMapping.ToProto mLog))) = .ok C19.m102 :=
  log_proto_roundtrip_model demoOps_leOne fuel mLog C19.m102_valid.gammaBits C19.m102_valid.offsetBits
    C19.m102_valid.gammaGtOne

example (fuel : Nat) : ∃ r, FromProto fuel (some (LinearlyInterpolatedMapping.ToProto mLin)) = .ok (r, GoErr.nil) ∧
    idOf r = some (idLin mLin) ∧
    Proto.mappingFromProto (some (pbOfGo (LinearlyInterpolatedMapping.ToProto mLin))) = .ok (idLin mLin) :=
  lin_proto_roundtrip_model demoOps_leOne fuel mLin C19.m102_valid.gammaBits C19.m102_valid.offsetBits
    C19.m102_valid.gammaGtOne

example (fuel : Nat) : ∃ r, FromProto fuel (some (CubicallyInterpolatedMapping.ToProto mCub)) = .ok (r, GoErr.nil) ∧
    idOf r = some (idCub mCub) ∧
    Proto.mappingFromProto (some (pbOfGo (CubicallyInterpolatedMapping.ToProto mCub))) = .ok (idCub mCub) :=
  cub_proto_roundtrip_model demoOps_leOne fuel mCub C19.m102_valid.gammaBits C19.m102_valid.offsetBits
    C19.m102_valid.gammaGtOne

/-- `proto_roundtrip_inf_not_equals`, `proto_rejects_gamma_le_one` (gamma = 1/2 with the LINEAR tag),
    `proto_rejects_unknown_interpolation` (tag 7) under that instance -/
example (fuel : Nat) : ∃ m', FromProto fuel (some (LogarithmicMapping.ToProto ⟨.pinf, .fin 0, .fin 1, .fin 1, .fin 1⟩)) =
      .ok (IndexMapping.LogarithmicMapping m', GoErr.nil) ∧
    m'.gamma = .pinf ∧ m'.indexOffset = .fin 0 ∧
    Gen.MapId.LogarithmicMapping.Equals (asIdLog m') (asIdLog ⟨.pinf, .fin 0, .fin 1, .fin 1, .fin 1⟩) = false :=
  proto_roundtrip_inf_not_equals demoOps_leOne fuel _ _ _

example (fuel : Nat) : ∃ r, FromProto fuel
    (some { (LinearlyInterpolatedMapping.ToProto mLin) with Gamma := .fin (1 / 2) }) = .ok (r, errGamma) :=
  proto_rejects_gamma_le_one demoOps_leOne fuel _ (Or.inr (Or.inl rfl)) (by decide +kernel)

example (fuel : Nat) :
    FromProto fuel (some { (LogarithmicMapping.ToProto mLog) with Interpolation := 7#32 })
      = .ok (IndexMapping.nil, errInterpolation) ∧
    Proto.mappingFromProto (some (pbOfGo { (LogarithmicMapping.ToProto mLog) with Interpolation := 7#32 }))
      = .error .badInterpolation :=
  proto_rejects_unknown_interpolation fuel _ (Or.inr (by decide))

end C19

end DDS.Props.NonVacuityGen
