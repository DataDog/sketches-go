/-
  DDS.Props.Lift2 — more guarantees transported to every store kind (continuation of
  `DDS.Props.Lift`; helper lemmas in `DDS.Proofs.Lift2`).

  HIGHEST-COLLAPSING STORES (mirror image of the lowest-collapsing results of `DDS.Props.Lift`)
  * `collapsing_quantile_retained_high` — a sketch on highest-collapsing stores with `N ≥ 1` bins,
    built by at most `2^53` unit adds, holds `specHigh N` of the exact contents, and
    `GetValueAtQuantile(q)` answers EXACTLY what the un-collapsed spec sketch answers for every
    `q` whose selected bin is at or below the edge `min + N − 1` of its side (`Lift.edgeHigh`),
    and for every `q` that is refused or answered by the zero bucket.
    Beyond the edge the edge bin answers: `Lift.storeKeyAtRank_specHigh` (in
    `DDS.Proofs.Lift2`, with `cumul_foldHigh`, `keyAtRank_foldHigh`).  An instance of
    `Lift.quantile_retained_any_kind`.

  THE ACCURACY GUARANTEE ON COLLAPSING STORES (property C05: "sketches built on them keep the
  relative-accuracy guarantee for every quantile whose true value falls in a retained bin")
  * `collapsing_quantile_accuracy_low` / `collapsing_quantile_accuracy_high` — the conclusion of
    `C01.quantile_accuracy`, verbatim, for sketches on lowest- / highest-collapsing stores, for
    every `q ∈ [0,1]` such that the TRUE order statistics of ranks `⌊q(n-1)⌋` and `⌈q(n-1)⌉` lie
    in retained bins (`Lift.RetainedLow` / `Lift.RetainedHigh`: the bin index of the order
    statistic is less than `N` below the largest / above the smallest bin index among the inputs
    of the same sign; nothing is asked of the zero bucket).
  * `selected_bin_is_order_statistic_bin` — the bin (side and index) that `GetValueAtQuantile(q)`
    selects on the exact sketch is the bin of the order statistic of rank `⌊q(n-1)⌋` or
    `⌈q(n-1)⌉` (companion of `C01.quantile_bin`, which describes the answered value).
  * `collapsing_quantile_accuracy_all` — when the inputs of each sign span fewer than `N` bins,
    every quantile of a sketch on collapsing stores (either kind) is accurate.

  WEIGHTED QUANTILES (C11) ON EVERY STORE KIND
  * `quantile_weighted_any_store` — the three-way description of `C11.quantile_weighted`
    (which bin answers, in terms of cumulative weights) for ANY sketch whose stores refine the
    contents `cp`, `cn` (dense, sparse, paginated: `Lift.GoodSk.refines`; collapsing:
    `collapsing_sketch_contents`), under the same exactness hypothesis `QExact`.
  * `addAll_weighted_any_store`, `quantile_weighted_history_any_store` — weighted insertion
    histories into stores of any non-collapsing kind: never refused, never panic, the stores
    refine contents holding at every index the total weight the mapping sends there, and the
    three-way description applies.
  * `answer_from_nonempty_side_any_store` — the answer is never taken from an empty store, for
    any store kinds.
-/
import DDS.Proofs.Lift2
import DDS.Props.C11

namespace DDS.Lift

open DDS DDS.Props DDS.Props.Lift Content

/-! ## T1: highest-collapsing stores -/

/-- **Quantiles below the edge survive the highest-collapsing.**  A sketch on highest-collapsing
    stores with `N ≥ 1` bins, built by at most `2^53` unit adds, holds `specHigh N` of the exact
    contents (`collapsing_sketch_contents`); consequently `GetValueAtQuantile(q)` answers EXACTLY
    what the un-collapsed spec sketch built from the same values answers, for every `q` whose
    selected bin (`selKey`) is at or below the edge `min + N − 1` of its side, and for every `q`
    that is refused or falls in the zero bucket.  (Above the edge the collapsed sketch answers the
    edge bin instead: `Lift.storeKeyAtRank_specHigh`.) -/
theorem collapsing_quantile_retained_high (N : Nat) (hN : 1 ≤ N)
    (env : MapEnv) (α mn mx : Rat) (C : Contract env α mn mx)
    (xs : List Rat) (hx : ∀ x ∈ xs, rabs x ≤ mx)
    (hx32 : ∀ x ∈ xs, mn < rabs x → I32 (env.index (.fin (rabs x))))
    (hne : xs ≠ []) (hn : xs.length ≤ 2 ^ 53) :
    ∃ s s₀ cp cn,
      Sketch.addAll env (Sketch.new (some env.id) (.high N)) (xs.map (fun x => (x, 1))) = some s ∧
      Sketch.addAll env (Sketch.new (some env.id) .sparse) (xs.map (fun x => (x, 1))) = some s₀ ∧
      s₀ = Sketch.spec (some env.id) cp cn s.zero ∧
      contentOf s.pos = Content.specHigh N cp ∧ contentOf s.neg = Content.specHigh N cn ∧
      ∀ q : F64,
        (∀ side k, selKey s₀ q = some (side, k) → k ≤ edgeHigh N (if side then cp else cn)) →
        s.quantile env q = s₀.quantile env q := by
  obtain ⟨s, s₀, cp, cn, h1, h2, h3, ep, en, hq⟩ :=
    quantile_retained_any_kind (.high N) hN env α mn mx C xs hx hx32 hne hn
  exact ⟨s, s₀, cp, cn, h1, h2, h3, ep, en, fun q hsel =>
    hq q fun side key h => key_high_of_edge N _ key (hsel side key h)⟩

/-! ## T2: the accuracy guarantee on collapsing stores -/

/-- **Which bin answers.**  On the exact (spec) sketch built by at most `2^53` unit adds, the bin
    `GetValueAtQuantile(q)` selects — `selKey`: the side and the bin index, `none` for the zero
    bucket — is the bin of the order statistic of rank `⌊q(n-1)⌋` or `⌈q(n-1)⌉` of the inputs
    (`selOf env x` = `(x > 0, index |x|)`, `none` for `x = 0`). -/
theorem selected_bin_is_order_statistic_bin
    (env : MapEnv) (α mn mx : Rat) (C : Contract env α mn mx)
    (xs : List Rat) (hx : ∀ x ∈ xs, rabs x ≤ mx) (hne : xs ≠ []) (hn : xs.length ≤ 2 ^ 53)
    (s₀ : Sketch)
    (hs : Sketch.addAll env (Sketch.new (some env.id) .sparse) (xs.map (fun x => (x, 1))) = some s₀)
    (q : Rat) (hq0 : 0 ≤ q) (hq1 : q ≤ 1) :
    ∃ k : Nat, k < xs.length ∧
      ((k : Int) = ⌊q * ((xs.length : Rat) - 1)⌋ ∨ (k : Int) = ⌈q * ((xs.length : Rat) - 1)⌉) ∧
      selKey s₀ (.fin q) = selOf env ((sortedInputs mn xs)[k]!) :=
  selKey_bin env α mn mx C xs hx hne hn s₀ hs q hq0 hq1

/-- **DDSketch accuracy on lowest-collapsing stores.**  A sketch on lowest-collapsing stores with
    `N ≥ 1` bins, built by at most `2^53` unit adds (never refused, never panics), keeps the
    guarantee of `C01.quantile_accuracy` for every `q ∈ [0,1]` whose true order statistics of
    ranks `⌊q(n-1)⌋` and `⌈q(n-1)⌉` fall in retained bins: the bin index of the order statistic
    is `≥ maxIndex − N + 1`, `maxIndex` being the largest bin index among the inputs of the same
    sign (`RetainedLow`; order statistics in the zero bucket are always fine). -/
theorem collapsing_quantile_accuracy_low (N : Nat) (hN : 1 ≤ N)
    (env : MapEnv) (α mn mx : Rat) (C : Contract env α mn mx)
    (xs : List Rat) (hx : ∀ x ∈ xs, rabs x ≤ mx)
    (hx32 : ∀ x ∈ xs, mn < rabs x → I32 (env.index (.fin (rabs x))))
    (hne : xs ≠ []) (hn : xs.length ≤ 2 ^ 53) :
    ∃ s, Sketch.addAll env (Sketch.new (some env.id) (.low N)) (xs.map (fun x => (x, 1))) = some s ∧
      ∀ q : Rat, 0 ≤ q → q ≤ 1 →
        (∀ k : Nat, k < xs.length →
          ((k : Int) = ⌊q * ((xs.length : Rat) - 1)⌋ ∨ (k : Int) = ⌈q * ((xs.length : Rat) - 1)⌉) →
          RetainedLow env mn N xs ((sortedInputs mn xs)[k]!)) →
        ∃ a : Rat, Sketch.quantile env s (.fin q) = .ok (.fin a) ∧
          ∃ k : Nat, k < xs.length ∧
            ((k : Int) = ⌊q * ((xs.length : Rat) - 1)⌋ ∨ (k : Int) = ⌈q * ((xs.length : Rat) - 1)⌉) ∧
            rabs (a - (sortedInputs mn xs)[k]!) ≤ α * rabs ((sortedInputs mn xs)[k]!) := by
  obtain ⟨s, s₀, cp, cn, h1, h2, h3, _, _, hq⟩ :=
    collapsing_quantile_retained N hN env α mn mx C xs hx hx32 hne hn
  refine ⟨s, h1, fun q hq0 hq1 hret => ?_⟩
  rw [hq (.fin q) (selKey_retained_low env α mn mx C xs hx hne hn s₀ h2 cp cn s.zero h3 N q
    hq0 hq1 hret)]
  exact C01.quantile_accuracy env α mn mx C xs hx hne hn s₀ h2 q hq0 hq1

/-- **DDSketch accuracy on highest-collapsing stores**: the same with the retained bins of a
    highest-collapsing store — the bin index of the order statistic is `≤ minIndex + N − 1`,
    `minIndex` being the smallest bin index among the inputs of the same sign (`RetainedHigh`). -/
theorem collapsing_quantile_accuracy_high (N : Nat) (hN : 1 ≤ N)
    (env : MapEnv) (α mn mx : Rat) (C : Contract env α mn mx)
    (xs : List Rat) (hx : ∀ x ∈ xs, rabs x ≤ mx)
    (hx32 : ∀ x ∈ xs, mn < rabs x → I32 (env.index (.fin (rabs x))))
    (hne : xs ≠ []) (hn : xs.length ≤ 2 ^ 53) :
    ∃ s, Sketch.addAll env (Sketch.new (some env.id) (.high N)) (xs.map (fun x => (x, 1))) = some s ∧
      ∀ q : Rat, 0 ≤ q → q ≤ 1 →
        (∀ k : Nat, k < xs.length →
          ((k : Int) = ⌊q * ((xs.length : Rat) - 1)⌋ ∨ (k : Int) = ⌈q * ((xs.length : Rat) - 1)⌉) →
          RetainedHigh env mn N xs ((sortedInputs mn xs)[k]!)) →
        ∃ a : Rat, Sketch.quantile env s (.fin q) = .ok (.fin a) ∧
          ∃ k : Nat, k < xs.length ∧
            ((k : Int) = ⌊q * ((xs.length : Rat) - 1)⌋ ∨ (k : Int) = ⌈q * ((xs.length : Rat) - 1)⌉) ∧
            rabs (a - (sortedInputs mn xs)[k]!) ≤ α * rabs ((sortedInputs mn xs)[k]!) := by
  obtain ⟨s, s₀, cp, cn, h1, h2, h3, _, _, hq⟩ :=
    collapsing_quantile_retained_high N hN env α mn mx C xs hx hx32 hne hn
  refine ⟨s, h1, fun q hq0 hq1 hret => ?_⟩
  rw [hq (.fin q) (selKey_retained_high env α mn mx C xs hx hne hn s₀ h2 cp cn s.zero h3 N q
    hq0 hq1 hret)]
  exact C01.quantile_accuracy env α mn mx C xs hx hne hn s₀ h2 q hq0 hq1

/-- **No collapse, no loss.**  When the inputs of each sign span fewer than `N` bins (any two
    inputs of the same sign have bin indexes less than `N` apart), EVERY quantile of the sketch on
    lowest-collapsing stores and of the sketch on highest-collapsing stores with `N` bins meets
    the guarantee of `C01.quantile_accuracy`. -/
theorem collapsing_quantile_accuracy_all (N : Nat) (hN : 1 ≤ N)
    (env : MapEnv) (α mn mx : Rat) (C : Contract env α mn mx)
    (xs : List Rat) (hx : ∀ x ∈ xs, rabs x ≤ mx)
    (hx32 : ∀ x ∈ xs, mn < rabs x → I32 (env.index (.fin (rabs x))))
    (hne : xs ≠ []) (hn : xs.length ≤ 2 ^ 53)
    (hspanP : ∀ x ∈ xs, ∀ y ∈ xs, mn < x → mn < y → idxOf env y < idxOf env x + (N : Int))
    (hspanN : ∀ x ∈ xs, ∀ y ∈ xs, x < -mn → y < -mn → idxOf env y < idxOf env x + (N : Int))
    (k : StoreKind) (hk : k = .low N ∨ k = .high N) :
    ∃ s, Sketch.addAll env (Sketch.new (some env.id) k) (xs.map (fun x => (x, 1))) = some s ∧
      ∀ q : Rat, 0 ≤ q → q ≤ 1 →
        ∃ a : Rat, Sketch.quantile env s (.fin q) = .ok (.fin a) ∧
          ∃ k : Nat, k < xs.length ∧
            ((k : Int) = ⌊q * ((xs.length : Rat) - 1)⌋ ∨ (k : Int) = ⌈q * ((xs.length : Rat) - 1)⌉) ∧
            rabs (a - (sortedInputs mn xs)[k]!) ≤ α * rabs ((sortedInputs mn xs)[k]!) := by
  -- an element of the ground truth that is not zero is an input of its sign, beyond `mn`
  have hin : ∀ j : Nat, j < xs.length → ∀ y, y = (sortedInputs mn xs)[j]! →
      (0 < y → y ∈ xs ∧ mn < y) ∧ (y < 0 → y ∈ xs ∧ y < -mn) := by
    intro j hj y hy
    have hj' : j < (sortedInputs mn xs).length := by rw [length_sortedInputs]; exact hj
    have hm : y ∈ sortedInputs mn xs := by
      rw [hy, getElem!_pos _ j hj']; exact List.getElem_mem hj'
    refine ⟨fun h0 => ?_, fun h0 => ?_⟩
    · obtain ⟨a, b⟩ := sortedInputs_nonzero hm (ne_of_gt h0)
      rw [rabs_of_pos h0] at b
      exact ⟨a, b⟩
    · obtain ⟨a, b⟩ := sortedInputs_nonzero hm (ne_of_lt h0)
      rw [rabs_of_neg h0] at b
      exact ⟨a, lt_neg_of_lt_neg b⟩
  -- hence retained by both kinds
  rcases hk with rfl | rfl
  · obtain ⟨s, h1, hq⟩ := collapsing_quantile_accuracy_low N hN env α mn mx C xs hx hx32 hne hn
    refine ⟨s, h1, fun q hq0 hq1 => hq q hq0 hq1 (fun j hj _ => ?_)⟩
    obtain ⟨hp, hng⟩ := hin j hj _ rfl
    exact ⟨fun h0 y hy hmy => hspanP _ (hp h0).1 y hy (hp h0).2 hmy,
      fun h0 y hy hmy => hspanN _ (hng h0).1 y hy (hng h0).2 hmy⟩
  · obtain ⟨s, h1, hq⟩ := collapsing_quantile_accuracy_high N hN env α mn mx C xs hx hx32 hne hn
    refine ⟨s, h1, fun q hq0 hq1 => hq q hq0 hq1 (fun j hj _ => ?_)⟩
    obtain ⟨hp, hng⟩ := hin j hj _ rfl
    exact ⟨fun h0 y hy hmy => hspanP y hy _ (hp h0).1 hmy (hp h0).2,
      fun h0 y hy hmy => hspanN y hy _ (hng h0).1 hmy (hng h0).2⟩

/-! ## T3: weighted quantiles on every store kind -/

theorem qexact_pred_ne {cp cn : Content} {z q r0 : Rat} (h : QExact cp cn z q r0) :
    F64.sub (.fin (z + cp.total + cn.total)) F64.one ≠ .fin (z + cp.total + cn.total) := by
  rw [h.countm1]
  exact fun hc => (sub_one_lt _).ne (F64.fin.inj hc)

theorem quantile_eq_spec_of_exact (env : MapEnv) (s : Sketch) (cp cn : Content) (z q r0 : Rat)
    (hs : s.Refines cp cn) (hzero : s.zero = .fin z) (hz : 0 ≤ z)
    (hexact : QExact cp cn z q r0) :
    Sketch.quantile env s (.fin q) =
      Sketch.quantile env ⟨s.mapping, .sp cp, .sp cn, .fin z⟩ (.fin q) := by
  rw [C12.quantile_congr_exact env s cp cn z hs hzero hz hexact.count (qexact_pred_ne hexact) (.fin q),
    hzero]
  rfl

/-- **Weighted quantile, any store kinds.**  The statement of `C11.quantile_weighted` for ANY
    sketch `s` whose stores refine the contents `cp`, `cn` (dense, sparse, paginated or
    collapsing stores alike) and whose zero count is `z`: with `rank' = clampRank r0`,
    * `rank' < negTotal`: the answer is `-value j` for a bin `j` of `cn` with
      `above(j) < min(rank'+1, negTotal) ≤ above(j-1)`;
    * `negTotal ≤ rank' < z + negTotal`: the answer is 0;
    * otherwise the answer is `value j` for a bin `j` of `cp` whose cumulative interval contains
      the rank. -/
theorem quantile_weighted_any_store (env : MapEnv) (s : Sketch) (cp cn : Content) (z q r0 : Rat)
    (hs : s.Refines cp cn) (hzero : s.zero = .fin z)
    (hz : 0 ≤ z) (hq0 : 0 ≤ q) (hq1 : q ≤ 1)
    (hW : 0 < z + cp.total + cn.total) (hexact : QExact cp cn z q r0) :
    (clampRank r0 < cn.total ∧ ∃ j w, (j, w) ∈ cn ∧
        Sketch.quantile env s (.fin q) = .ok (F64.neg (env.value j)) ∧
        cn.total - cumul cn j < min (clampRank r0 + 1) cn.total ∧
        min (clampRank r0 + 1) cn.total ≤ cn.total - cumul cn (j - 1)) ∨
    (cn.total ≤ clampRank r0 ∧ clampRank r0 < z + cn.total ∧
        Sketch.quantile env s (.fin q) = .ok (.fin 0)) ∨
    (z + cn.total ≤ clampRank r0 ∧ ∃ j w, (j, w) ∈ cp ∧
        Sketch.quantile env s (.fin q) = .ok (env.value j) ∧
        z + cn.total + cumul cp (j - 1) ≤ clampRank r0 ∧
        clampRank r0 < z + cn.total + cumul cp j) := by
  rw [quantile_eq_spec_of_exact env s cp cn z q r0 hs hzero hz hexact]
  exact C11.quantile_weighted env s.mapping cp cn z q r0 hs.pos.wf hs.neg.wf hz hq0 hq1 hW hexact

/-- **Weighted insertions into any non-collapsing store kind** (`|v| ≤ maxIndexable`, `c ≥ 0`,
    int32 indexes) are never refused and never panic; the resulting sketch has the mapping and the
    zero count of the spec sketch built from the same history, and its stores refine (observe
    exactly like) contents holding at every index the total weight of the inputs the mapping
    sends there — the characterisation of `C11.addAll_weighted_state`. -/
theorem addAll_weighted_any_store (k : StoreKind) (hk : Plain k)
    (env : MapEnv) (α mn mx : Rat) (C : Contract env α mn mx)
    (xs : List (Rat × Rat)) (hx : ∀ p ∈ xs, rabs p.1 ≤ mx ∧ 0 ≤ p.2)
    (hx32 : ∀ p ∈ xs, mn < rabs p.1 → I32 (env.index (.fin (rabs p.1)))) :
    ∃ s cp cn,
      Sketch.addAll env (Sketch.new (some env.id) k) xs = some s ∧
      Sketch.addAll env (Sketch.new (some env.id) .sparse) xs =
        some ⟨some env.id, .sp cp, .sp cn, s.zero⟩ ∧
      s.mapping = some env.id ∧ GoodSk s ∧ s.Refines cp cn ∧
      (∀ j, cp.lookup j =
        Content.lookup ((xs.filter (fun p => decide (mn < p.1))).map
          (fun p => (env.index (.fin (rabs p.1)), p.2))) j) ∧
      (∀ j, cn.lookup j =
        Content.lookup ((xs.filter (fun p => decide (p.1 < -mn))).map
          (fun p => (env.index (.fin (rabs p.1)), p.2))) j) := by
  obtain ⟨cp, cn, zf, h0, _, _, lp, ln⟩ := C11.addAll_weighted_state env α mn mx C xs hx
  obtain ⟨s, h1, G', h3⟩ := addAll_lift_new env k hk xs (fun p hp hr =>
    hx32 p hp (lt_rabs_of_routed env mn C.minEq C.minPos.le p.1 hr)) _ h0
  simp only [specOf, Sketch.spec, Sketch.mk.injEq, Store.sp.injEq] at h3
  obtain ⟨hm, hp, hng, hz⟩ := h3
  have R := G'.refines
  rw [hp, hng] at R
  exact ⟨s, cp, cn, h1, by rw [hz]; exact h0, hm, G', R, lp, ln⟩

/-- **Weighted quantiles after a weighted insertion history, any non-collapsing store kind**:
    `addAll_weighted_any_store` combined with `quantile_weighted_any_store`. -/
theorem quantile_weighted_history_any_store (k : StoreKind) (hk : Plain k)
    (env : MapEnv) (α mn mx : Rat) (C : Contract env α mn mx)
    (xs : List (Rat × Rat)) (hx : ∀ p ∈ xs, rabs p.1 ≤ mx ∧ 0 ≤ p.2)
    (hx32 : ∀ p ∈ xs, mn < rabs p.1 → I32 (env.index (.fin (rabs p.1)))) :
    ∃ s cp cn,
      Sketch.addAll env (Sketch.new (some env.id) k) xs = some s ∧ s.Refines cp cn ∧
      (∀ j, cp.lookup j =
        Content.lookup ((xs.filter (fun p => decide (mn < p.1))).map
          (fun p => (env.index (.fin (rabs p.1)), p.2))) j) ∧
      (∀ j, cn.lookup j =
        Content.lookup ((xs.filter (fun p => decide (p.1 < -mn))).map
          (fun p => (env.index (.fin (rabs p.1)), p.2))) j) ∧
      ∀ z q r0 : Rat, s.zero = .fin z → 0 ≤ z → 0 ≤ q → q ≤ 1 →
        0 < z + cp.total + cn.total → QExact cp cn z q r0 →
        (clampRank r0 < cn.total ∧ ∃ j w, (j, w) ∈ cn ∧
            Sketch.quantile env s (.fin q) = .ok (F64.neg (env.value j)) ∧
            cn.total - cumul cn j < min (clampRank r0 + 1) cn.total ∧
            min (clampRank r0 + 1) cn.total ≤ cn.total - cumul cn (j - 1)) ∨
        (cn.total ≤ clampRank r0 ∧ clampRank r0 < z + cn.total ∧
            Sketch.quantile env s (.fin q) = .ok (.fin 0)) ∨
        (z + cn.total ≤ clampRank r0 ∧ ∃ j w, (j, w) ∈ cp ∧
            Sketch.quantile env s (.fin q) = .ok (env.value j) ∧
            z + cn.total + cumul cp (j - 1) ≤ clampRank r0 ∧
            clampRank r0 < z + cn.total + cumul cp j) := by
  obtain ⟨s, cp, cn, h1, _, _, _, R, lp, ln⟩ :=
    addAll_weighted_any_store k hk env α mn mx C xs hx hx32
  exact ⟨s, cp, cn, h1, R, lp, ln, fun z q r0 hzero hz hq0 hq1 hW hE =>
    quantile_weighted_any_store env s cp cn z q r0 R hzero hz hq0 hq1 hW hE⟩

/-! ## T4: the answer is never taken from an empty store, any store kinds -/

/-- **The answer is never taken from an empty store**, for any sketch refining `cp`, `cn`: with no
    negative values the answer is `≥ 0`, with no positive values it is `≤ 0`
    (`C11.answer_from_nonempty_side` for every store kind). -/
theorem answer_from_nonempty_side_any_store (env : MapEnv) (α mn mx : Rat)
    (C : Contract env α mn mx) (s : Sketch) (cp cn : Content) (z q r0 : Rat)
    (hs : s.Refines cp cn) (hzero : s.zero = .fin z)
    (hz : 0 ≤ z) (hq0 : 0 ≤ q) (hq1 : q ≤ 1)
    (hW : 0 < z + cp.total + cn.total) (hexact : QExact cp cn z q r0) :
    (cn = [] → ∃ a, Sketch.quantile env s (.fin q) = .ok (.fin a) ∧ 0 ≤ a) ∧
    (cp = [] → ∃ a, Sketch.quantile env s (.fin q) = .ok (.fin a) ∧ a ≤ 0) := by
  rw [quantile_eq_spec_of_exact env s cp cn z q r0 hs hzero hz hexact]
  exact C11.answer_from_nonempty_side env α mn mx C s.mapping cp cn z q r0 hs.pos.wf hs.neg.wf
    hz hq0 hq1 hW hexact

/-! ## the hypotheses are satisfiable: concrete instances -/

section examples
open DDS.QuantileEx

/-- `collapsing_quantile_retained_high`: `exXs = [5, -2, 1, 3, -7, 0, 12]` into
    highest-collapsing stores with ONE bin (on the positive side the bin 1 of the values 5 and 12
    is folded into bin 0) -/
example : ∃ s s₀ cp cn,
    Sketch.addAll exEnv (Sketch.new (some exEnv.id) (.high 1)) (exXs.map (fun x => (x, 1))) = some s ∧
    Sketch.addAll exEnv (Sketch.new (some exEnv.id) .sparse) (exXs.map (fun x => (x, 1))) = some s₀ ∧
    s₀ = Sketch.spec (some exEnv.id) cp cn s.zero ∧
    contentOf s.pos = Content.specHigh 1 cp ∧ contentOf s.neg = Content.specHigh 1 cn ∧
    ∀ q : F64,
      (∀ side k, selKey s₀ q = some (side, k) → k ≤ edgeHigh 1 (if side then cp else cn)) →
      s.quantile exEnv q = s₀.quantile exEnv q :=
  collapsing_quantile_retained_high 1 (by omega) exEnv _ _ _ exContract exXs exXs_ok
    exXs_32 exXs_ne exXs_len

/-- `keyAtRank_foldHigh` on `specHigh`: three unit bins 1, 3, 5 collapsed to two bins (edge 2):
    rank 0 keeps its answer 1; rank 2 (exact answer 5, above the edge) now answers the edge 2 -/
example : (Content.specHigh 2 [(1, 1), (3, 1), (5, 1)]).keyAtRank 0 = 1 ∧
    (Content.specHigh 2 [(1, 1), (3, 1), (5, 1)]).keyAtRank 2 = 2 := by
  rw [Content.specHigh_of_min 2 _ 1 rfl, keyAtRank_foldHigh _ wf135 (List.cons_ne_nil _ _),
    keyAtRank_foldHigh _ wf135 (List.cons_ne_nil _ _)]
  decide +kernel

theorem exEnv_idx01 (y : Rat) : idxOf exEnv y = 0 ∨ idxOf exEnv y = 1 := by
  unfold idxOf
  simp only [exEnv]
  split <;> simp

/-- the ground truth of `exXs`: `1` is below `minIndexable = 4/3`, hence counted as 0 -/
theorem exXs_sorted : sortedInputs (4 / 3) exXs = [-7, -2, 0, 0, 3, 5, 12] := by
  have hmap : exXs.map (zeroSmall (4 / 3)) = [5, -2, 0, 3, -7, 0, 12] := by decide +kernel
  have hperm : (sortedInputs (4 / 3) exXs).Perm [-7, -2, 0, 0, 3, 5, 12] := by
    refine (Dataset.sortedVals_perm _).trans ?_
    rw [hmap]
    decide +kernel
  exact Dataset.pairwise_perm_eq (sortedInputs_pairwise _ _) (by decide +kernel) hperm

/-- `collapsing_quantile_accuracy_low` on `exXs` with ONE bin per store -/
example : ∃ s,
    Sketch.addAll exEnv (Sketch.new (some exEnv.id) (.low 1)) (exXs.map (fun x => (x, 1))) = some s ∧
    ∀ q : Rat, 0 ≤ q → q ≤ 1 →
      (∀ k : Nat, k < exXs.length →
        ((k : Int) = ⌊q * ((exXs.length : Rat) - 1)⌋ ∨ (k : Int) = ⌈q * ((exXs.length : Rat) - 1)⌉) →
        RetainedLow exEnv (4 / 3) 1 exXs ((sortedInputs (4 / 3) exXs)[k]!)) →
      ∃ a : Rat, Sketch.quantile exEnv s (.fin q) = .ok (.fin a) ∧
        ∃ k : Nat, k < exXs.length ∧
          ((k : Int) = ⌊q * ((exXs.length : Rat) - 1)⌋ ∨ (k : Int) = ⌈q * ((exXs.length : Rat) - 1)⌉) ∧
          rabs (a - (sortedInputs (4 / 3) exXs)[k]!) ≤ 1 / 2 * rabs ((sortedInputs (4 / 3) exXs)[k]!) :=
  collapsing_quantile_accuracy_low 1 (by omega) exEnv _ _ _ exContract exXs exXs_ok
    exXs_32 exXs_ne exXs_len

/-- … and its retained-bin hypothesis is satisfiable where the collapse DID happen: with one bin
    per store the positive bin 0 (the value 3) was folded into bin 1, and `q = 1` (order
    statistic 12, bin 1 = the largest positive bin) is retained -/
example : ∀ k : Nat, k < exXs.length →
    ((k : Int) = ⌊(1 : Rat) * ((exXs.length : Rat) - 1)⌋ ∨
      (k : Int) = ⌈(1 : Rat) * ((exXs.length : Rat) - 1)⌉) →
    RetainedLow exEnv (4 / 3) 1 exXs ((sortedInputs (4 / 3) exXs)[k]!) := by
  intro k _ hk
  have e : (1 : Rat) * ((exXs.length : Rat) - 1) = ((6 : Int) : Rat) := by
    rw [show exXs.length = 7 from rfl]; norm_num
  rw [e, Int.floor_intCast, Int.ceil_intCast] at hk
  have hk6 : k = 6 := by omega
  subst hk6
  have h12 : (sortedInputs (4 / 3) exXs)[6]! = 12 := by rw [exXs_sorted]; rfl
  rw [h12]
  refine ⟨fun _ y _ _ => ?_, fun h => absurd h (by norm_num)⟩
  have i12 : idxOf exEnv 12 = 1 := by decide +kernel
  rw [i12]
  rcases exEnv_idx01 y with h | h <;> rw [h] <;> decide

/-- `collapsing_quantile_accuracy_high` on `exXs` with ONE bin per store -/
example : ∃ s,
    Sketch.addAll exEnv (Sketch.new (some exEnv.id) (.high 1)) (exXs.map (fun x => (x, 1))) = some s ∧
    ∀ q : Rat, 0 ≤ q → q ≤ 1 →
      (∀ k : Nat, k < exXs.length →
        ((k : Int) = ⌊q * ((exXs.length : Rat) - 1)⌋ ∨ (k : Int) = ⌈q * ((exXs.length : Rat) - 1)⌉) →
        RetainedHigh exEnv (4 / 3) 1 exXs ((sortedInputs (4 / 3) exXs)[k]!)) →
      ∃ a : Rat, Sketch.quantile exEnv s (.fin q) = .ok (.fin a) ∧
        ∃ k : Nat, k < exXs.length ∧
          ((k : Int) = ⌊q * ((exXs.length : Rat) - 1)⌋ ∨ (k : Int) = ⌈q * ((exXs.length : Rat) - 1)⌉) ∧
          rabs (a - (sortedInputs (4 / 3) exXs)[k]!) ≤ 1 / 2 * rabs ((sortedInputs (4 / 3) exXs)[k]!) :=
  collapsing_quantile_accuracy_high 1 (by omega) exEnv _ _ _ exContract exXs exXs_ok
    exXs_32 exXs_ne exXs_len

/-- … retained on highest-collapsing stores with one bin: `q = 2/3` (order statistic 3, bin 0 =
    the smallest positive bin; the bin 1 of 5 and 12 was folded into it) -/
example : ∀ k : Nat, k < exXs.length →
    ((k : Int) = ⌊(2 / 3 : Rat) * ((exXs.length : Rat) - 1)⌋ ∨
      (k : Int) = ⌈(2 / 3 : Rat) * ((exXs.length : Rat) - 1)⌉) →
    RetainedHigh exEnv (4 / 3) 1 exXs ((sortedInputs (4 / 3) exXs)[k]!) := by
  intro k _ hk
  have e : (2 / 3 : Rat) * ((exXs.length : Rat) - 1) = ((4 : Int) : Rat) := by
    rw [show exXs.length = 7 from rfl]; norm_num
  rw [e, Int.floor_intCast, Int.ceil_intCast] at hk
  have hk4 : k = 4 := by omega
  subst hk4
  have h3 : (sortedInputs (4 / 3) exXs)[4]! = 3 := by rw [exXs_sorted]; rfl
  rw [h3]
  refine ⟨fun _ y _ _ => ?_, fun h => absurd h (by norm_num)⟩
  have i3 : idxOf exEnv 3 = 0 := by decide +kernel
  rw [i3]
  rcases exEnv_idx01 y with h | h <;> rw [h] <;> decide

/-- `collapsing_quantile_accuracy_all`: `exEnv` has two bins, so with `N = 2` every quantile of
    the sketches on lowest- and on highest-collapsing stores is accurate -/
example (k : StoreKind) (hk : k = .low 2 ∨ k = .high 2) : ∃ s,
    Sketch.addAll exEnv (Sketch.new (some exEnv.id) k) (exXs.map (fun x => (x, 1))) = some s ∧
    ∀ q : Rat, 0 ≤ q → q ≤ 1 →
      ∃ a : Rat, Sketch.quantile exEnv s (.fin q) = .ok (.fin a) ∧
        ∃ k : Nat, k < exXs.length ∧
          ((k : Int) = ⌊q * ((exXs.length : Rat) - 1)⌋ ∨ (k : Int) = ⌈q * ((exXs.length : Rat) - 1)⌉) ∧
          rabs (a - (sortedInputs (4 / 3) exXs)[k]!) ≤ 1 / 2 * rabs ((sortedInputs (4 / 3) exXs)[k]!) := by
  have hspan : ∀ x y : Rat, idxOf exEnv y < idxOf exEnv x + ((2 : Nat) : Int) := by
    intro x y
    rcases exEnv_idx01 x with h | h <;> rcases exEnv_idx01 y with h' | h' <;> rw [h, h'] <;> decide
  exact collapsing_quantile_accuracy_all 2 (by omega) exEnv _ _ _ exContract exXs exXs_ok
    exXs_32 exXs_ne exXs_len
    (fun x _ y _ _ _ => hspan x y) (fun x _ y _ _ _ => hspan x y) k hk

/-- the exactness hypothesis only mentions the totals of the contents -/
theorem qexact_of_totals {cp cn cp' cn' : Content} {z q r0 : Rat} (h : QExact cp cn z q r0)
    (hp : cp'.total = cp.total) (hn : cn'.total = cn.total) : QExact cp' cn' z q r0 := by
  constructor
  · rw [hp, hn]; exact h.count
  · rw [hp, hn]; exact h.countm1
  · rw [hp, hn]; exact h.rank0
  · rw [hn]; exact h.negm1
  · rw [hn]; exact h.negRank
  · rw [hn]; exact h.zeroNeg
  · exact h.posRank1
  · rw [hn]; exact h.posRank2

/-- the weighted history of the examples: weight 1/2 on each of the negative bins 0 and 1, weight
    2 on the positive bin 1 (the instance F1 of `C11`, with the positive weight moved to bin 1) -/
def exWs : List (Rat × Rat) := [(-2, 1 / 2), (-7, 1 / 2), (5, 2)]

theorem exWs_ok : ∀ p ∈ exWs, rabs p.1 ≤ 12 ∧ 0 ≤ p.2 := by decide +kernel

theorem exWs_spec :
    Sketch.addAll exEnv (Sketch.new (some exEnv.id) .sparse) exWs =
      some ⟨some exEnv.id, .sp [(1, 2)], .sp exCn, .fin 0⟩ := by
  have e1 : Content.merge [] (Sketch.posPart exEnv (4 / 3) exWs) = [(1, 2)] := by decide +kernel
  have e2 : Content.merge [] (Sketch.negPart exEnv (4 / 3) exWs) = exCn := by decide +kernel
  have e3 : Sketch.fsum (.fin 0) (Sketch.zeroPart (4 / 3) exWs) = .fin 0 := by decide +kernel
  rw [← e1, ← e2, ← e3]
  exact Sketch.addAll_spec exEnv _ 12 rfl rfl (by norm_num) _ exWs exWs_ok [] [] (.fin 0)

/-- `quantile_weighted_any_store` / `answer_from_nonempty_side_any_store` on DENSE and on
    PAGINATED stores with fractional weights: the history `exWs`, `q = 1/8`, `rank' = 1/4` — all
    the hypotheses hold together, and the first alternative is the one that holds (finding F1 of
    `C11` on dense stores: the bin 0 of the SMALLER magnitude answers) -/
example (k : StoreKind) (hk : k = .dense ∨ k = .pag) : ∃ s cp cn,
    Sketch.addAll exEnv (Sketch.new (some exEnv.id) k) exWs = some s ∧ s.Refines cp cn ∧
    s.zero = .fin 0 ∧ 0 < 0 + cp.total + cn.total ∧ QExact cp cn 0 (1 / 8) (1 / 4) ∧
    clampRank (1 / 4) < cn.total ∧
    Sketch.quantile exEnv s (.fin (1 / 8)) = .ok (F64.neg (exEnv.value 0)) := by
  have hp : Plain k := by rcases hk with rfl | rfl <;> trivial
  obtain ⟨s, cp, cn, h1, h2, _, _, R, _, _⟩ :=
    addAll_weighted_any_store k hp exEnv _ _ _ exContract exWs exWs_ok
      (fun p _ _ => exEnv_index32 _)
  rw [exWs_spec] at h2
  simp only [Option.some.injEq, Sketch.mk.injEq, Store.sp.injEq, true_and] at h2
  obtain ⟨e1, e2, e3⟩ := h2
  subst e1 e2
  have tp : Content.total [((1 : Int), (2 : Rat))] = exCp.total := by
    rw [exCp_total]; norm_num [Content.total]
  have hE : QExact [((1 : Int), (2 : Rat))] exCn 0 (1 / 8) (1 / 4) :=
    qexact_of_totals exExact tp rfl
  have hW : (0 : Rat) < 0 + Content.total [((1 : Int), (2 : Rat))] + exCn.total := by
    rw [tp, exCp_total, exCn_total]; norm_num
  refine ⟨s, _, _, h1, R, e3.symm, hW, hE, by rw [ex_clamp, exCn_total]; norm_num, ?_⟩
  rw [quantile_eq_spec_of_exact exEnv s _ _ 0 (1 / 8) (1 / 4) R e3.symm (le_refl _) hE,
    quantile_eval_exact exEnv s.mapping _ exCn 0 (1 / 8) (1 / 4) (by norm_num) (by norm_num) hW hE,
    ex_clamp, exCn_total, if_pos (by norm_num)]
  have : karAux exCn 0 (1 - 1 - 1 / 4) = 0 := by
    rw [exCn, karAux_cons_cons, if_pos (by norm_num)]
  rw [this]

end examples

end DDS.Lift
