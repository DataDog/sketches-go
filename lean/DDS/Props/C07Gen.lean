/-
  DDS.Props.C07Gen — theorems of C07 / C08 about the store-level bin decoder, transported from the
  hand-written model (`Sketch.decodeStore`) to the REGENERATED Go code
  (`DDS.Gen.StoreDecode.DecodeAndMergeWith`, from /repo/ddsketch/store/store.go:90) through the equivalence
  of `DDS/Proofs/GenStoreDecode.lean`.

  * `storeIndexes_encPayload` — on an encoded payload, the indexes handed to the store are the indexes of
    the bins the payload denotes (`Wire.payloadBins`), so the no-wrap hypothesis of the equivalence becomes
    a condition on the payload: every bin index is an `int64`.
  * `gen_decode_payload` (from `decodeStore_encPayload`, C07) — the generated decoder, run on
    `encPayload p ++ rest`, adds exactly the bins of `p` to the store and leaves `rest`.
  * `gen_decode_payload_cut` (from `decodeStore_take`, C08) — run on a strict prefix of `encPayload p` it
    returns `io.EOF`: no panic, no fuel exhaustion, no success.
  * `gen_decode_sparse_total` (from `decodeStore_good`, C08) — on the sparse store and an input whose
    varfloats are finite, whatever the bytes are: the generated decoder either succeeds with the model's
    store (when no index wraps) or fails with a non-nil error.
-/
import DDS.Proofs.GenStoreDecode

namespace DDS.Props.C07Gen

open DDS DDS.GoSem DDS.Gen.Encoding DDS.Gen.StoreDecode DDS.Codec DDS.GenEncoding DDS.Wire DDS.Sketch
  DDS.GenStoreDecode

/-! ### the indexes handed to the store, on an encoded payload -/

theorem dTrace_enc (items : List Int) (h : ∀ d ∈ items, I64 d) (idx : Int) (rest : Bytes) :
    dTrace items.length idx (items.flatMap encVarint64 ++ rest) = (dBins idx items).map Prod.fst := by
  rw [dTrace_eq, (parseItems_reads dBins (fun _ => rfl) (fun _ _ _ => rfl) items
    (fun a ha => rdD_reads a (h a ha)) idx).full]

/-- on an encoded payload the store receives the indexes of the payload's bins, in order -/
theorem storeIndexes_encPayload (p : BinsPayload) (hp : p.WF) (rest : Bytes) :
    storeIndexes (payloadSub p) (encPayload p ++ rest) = (payloadBins p).map Prod.fst := by
  rw [storeIndexes_eq, (parseBins_reads p hp).full]

/-- the no-wrap hypothesis on an encoded payload: every bin index of the payload is an `int64` -/
theorem noWrap_encPayload (p : BinsPayload) (hp : p.WF) (rest : Bytes)
    (hi : ∀ q ∈ payloadBins p, I64 q.1) : NoWrap (payloadSub p) (encPayload p ++ rest) := by
  unfold NoWrap
  rw [storeIndexes_encPayload p hp rest]
  intro u hu
  obtain ⟨q, hq, rfl⟩ := List.mem_map.mp hu
  exact hi q hq

theorem payloadSub_known (p : BinsPayload) : KnownSub (payloadSub p) := by
  cases p
  · exact Or.inl rfl
  · exact Or.inr (Or.inl rfl)
  · exact Or.inr (Or.inr rfl)

/-! ### transported theorems -/

/-- **C07 on the generated decoder.**  `b` holds an encoded, well-formed bins payload `p` followed by `r`;
    every bin index of `p` is an `int64`; the model's store accepts the bins (`addBins … = some st'`).
    Then the regenerated `DecodeAndMergeWith` returns exactly `st'`, the untouched remainder `r` and a nil
    error. -/
theorem gen_decode_payload (st st' : Store) (p : BinsPayload) (hp : p.WF) (b r : List (BitVec 8))
    (hb : nb b = encPayload p ++ nb r) (hi : ∀ q ∈ payloadBins p, I64 q.1)
    (hadd : addBins st (payloadBins p) = some st') (fuel : Nat) (hf : b.length + 9 ≤ fuel) :
    DecodeAndMergeWith fuel st b (subflag (payloadSub p)) = .ok (st', r, GoErr.nil) := by
  have hm := decodeStore_encPayload st p hp (nb r)
  rw [hadd] at hm
  have h := DecodeAndMergeWith_ok st st' (payloadSub p) b (nb r) fuel hf
    (by rw [hb]; exact noWrap_encPayload p hp (nb r) hi) (by rw [hb]; exact hm)
  rw [h, bn_nb]

/-- **C08 on the generated decoder.**  A payload cut strictly inside (`b` holds the first `k` bytes of
    `encPayload p`): the regenerated decoder returns `io.EOF` — it neither panics, nor runs out of fuel, nor
    succeeds.  (No hypothesis on the indexes: control flow does not depend on the store.) -/
theorem gen_decode_payload_cut (st : Store) (p : BinsPayload) (hp : p.WF)
    (hs : addBins st (payloadBins p) ≠ none) (k : Nat) (hk : k < (encPayload p).length)
    (b : List (BitVec 8)) (hb : nb b = (encPayload p).take k) (fuel : Nat) (hf : b.length + 9 ≤ fuel) :
    ∃ s' b', DecodeAndMergeWith fuel st b (subflag (payloadSub p)) = .ok (s', b', GoErr.eof) := by
  have hm := decodeStore_take st p hp hs k hk
  rw [← hb] at hm
  rcases DecodeAndMergeWith_error st (payloadSub p) (knownSub_lt (payloadSub_known p)) b _ fuel hf hm with
    ⟨_, _, h⟩ | ⟨hk, _⟩
  · exact h
  · exact absurd (payloadSub_known p) hk

/-- **C08 (totality) on the generated decoder, sparse store.**  For ANY bytes whose varfloats are finite
    and any sub-flag `< 64`, decoding into a sparse store: the model never panics, and the regenerated
    decoder returns either the model's store with the model's remaining bytes (when no index wraps) or a
    non-nil error exactly when the model refuses. -/
theorem gen_decode_sparse_total (c : Content) (sub : Nat) (hsub : sub < 64) (b : List (BitVec 8))
    (hfin : FiniteVarfloats (nb b)) (hw : NoWrap sub (nb b)) (fuel : Nat) (hf : b.length + 9 ≤ fuel) :
    (∃ c' rest, decodeStore (.sp c) sub (nb b) = some (.ok (.sp c', rest)) ∧
        DecodeAndMergeWith fuel (Store.sp c) b (subflag sub) = .ok (.sp c', bn rest, GoErr.nil)) ∨
    (∃ e s' b' err, decodeStore (.sp c) sub (nb b) = some (.error e) ∧
        DecodeAndMergeWith fuel (Store.sp c) b (subflag sub) = .ok (s', b', err) ∧ err ≠ GoErr.nil) := by
  obtain ⟨hne, hgood⟩ := decodeStore_good c sub (nb b) hfin
  cases hd : decodeStore (.sp c) sub (nb b) with
  | none => exact absurd hd hne
  | some r =>
    cases r with
    | error e =>
      obtain ⟨s', b', err, h1, h2⟩ := DecodeAndMergeWith_error_ne_nil (.sp c) sub hsub b e fuel hf hd
      exact Or.inr ⟨e, s', b', err, rfl, h1, h2⟩
    | ok q =>
      obtain ⟨st', rest⟩ := q
      obtain ⟨⟨c', rfl⟩, _⟩ := hgood st' rest hd
      exact Or.inl ⟨c', rest, rfl, DecodeAndMergeWith_ok (.sp c) (.sp c') sub b rest fuel hf hw hd⟩

end DDS.Props.C07Gen
