/-
  DDS.Props.C19GenProto — the protobuf clause of C19 ("the identity `(kind, gamma, indexOffset)` of an index
  mapping survives the `IndexMapping` protobuf message", `DDS/Props/C19.lean: proto_roundtrip`) on the REGENERATED
  code: `ToProto` of the three mappings (`DDS/Generated/CodeMappingProto.lean`), `mapping.FromProto`
  (`CodeMappingFromProto.lean`) and `Equals` (`CodeMapId.lean`), all translated from `/repo/ddsketch/mapping/*.go`
  on every run.

  The conversions are translated generically over the float operations (`[MOps F]`), `Equals` in exact-float
  mode over a copy of the same Go structure with `F64` fields; `asIdLog / asIdLin / asIdCub` identify the two
  (same five fields).  The project has no instance `MOps F64`: every statement is for EVERY instance
  `[MOps F64]`, and asks of it only what it says about the mapping at hand — `¬ m.gamma <= 1` in the instance's own
  comparison, i.e. `m` passes the guard of its own constructor.  `fuel` is arbitrary (no loop).

    * `log/lin/cub_proto_roundtrip`: `FromProto (ToProto m)` succeeds (error nil), returns a mapping OF THE SAME
      KIND with IDENTICAL `gamma` and `indexOffset`, and — parameters finite — it is `Equals` to `m`, both ways round;
    * `log/lin/cub_proto_roundtrip_model`: with the model's guard (`GenProtoSketch.LeOne`) and floats surviving
      `toBits/ofBits`, the identity of that result is the one the model's round trip `C19.proto_roundtrip` returns;
    * `proto_roundtrip_inf_not_equals`: finiteness is needed, as in C19: `gamma = +Inf` passes the guard, goes
      through the message unchanged, and the result is NOT `Equals` to the original (`Inf - Inf` is NaN);
    * `proto_kinds_apart`: the messages of the three kinds carry three different tags, for all parameters;
    * `proto_rejects_*`: the decoder side of C19 (unknown kinds, `gamma ≤ 1`) on the regenerated `FromProto`.
-/
import DDS.Proofs.GenProtoSketch
import DDS.Props.C19Gen

set_option linter.unusedVariables false

namespace DDS.Props.C19GenProto

open DDS DDS.GoSem DDS.GenProtoSketch DDS.Gen.MappingProto DDS.Gen.MappingFromProto

/-- the structure of the identity unit (`Equals`, `Encode`) holding the same five fields -/
def asIdLog (m : Gen.Mapping.LogarithmicMapping F64) : Gen.MapId.LogarithmicMapping :=
  { gamma := m.gamma, indexOffset := m.indexOffset, multiplier := m.multiplier,
    minIndexableValue := m.minIndexableValue, maxIndexableValue := m.maxIndexableValue }
def asIdLin (m : Gen.Mapping.LinearlyInterpolatedMapping F64) : Gen.MapId.LinearlyInterpolatedMapping :=
  { gamma := m.gamma, indexOffset := m.indexOffset, multiplier := m.multiplier,
    minIndexableValue := m.minIndexableValue, maxIndexableValue := m.maxIndexableValue }
def asIdCub (m : Gen.Mapping.CubicallyInterpolatedMapping F64) : Gen.MapId.CubicallyInterpolatedMapping :=
  { gamma := m.gamma, indexOffset := m.indexOffset, multiplier := m.multiplier,
    minIndexableValue := m.minIndexableValue, maxIndexableValue := m.maxIndexableValue }

/-- the two readings of the identity agree -/
theorem toIdLog_asIdLog (m : Gen.Mapping.LogarithmicMapping F64) : GenMapId.toIdLog (asIdLog m) = idLog m := rfl
theorem toIdLin_asIdLin (m : Gen.Mapping.LinearlyInterpolatedMapping F64) :
    GenMapId.toIdLin (asIdLin m) = idLin m := rfl
theorem toIdCub_asIdCub (m : Gen.Mapping.CubicallyInterpolatedMapping F64) :
    GenMapId.toIdCub (asIdCub m) = idCub m := rfl

section
variable [MOps F64]

/-! ### `FromProto (ToProto m)`: same kind, identical parameters, `Equals` -/

theorem log_proto_roundtrip (fuel : Nat) (m : Gen.Mapping.LogarithmicMapping F64) (g o : Rat)
    (h1 : MOps.le m.gamma (MOps.ofInt 1 : F64) = false) (hg : m.gamma = .fin g) (ho : m.indexOffset = .fin o) :
    ∃ m', FromProto fuel (some (LogarithmicMapping.ToProto m)) =
        .ok (IndexMapping.LogarithmicMapping m', GoErr.nil) ∧
      m'.gamma = m.gamma ∧ m'.indexOffset = m.indexOffset ∧
      Gen.MapId.LogarithmicMapping.Equals (asIdLog m') (asIdLog m) = true ∧
      Gen.MapId.LogarithmicMapping.Equals (asIdLog m) (asIdLog m') = true := by
  obtain ⟨m', h, hg', ho'⟩ := log_roundtrip fuel m h1
  exact ⟨m', h, hg', ho',
    C19Gen.log_equals_of_identity (asIdLog m') (asIdLog m) g o hg' ho' (hg'.trans hg) (ho'.trans ho),
    C19Gen.log_equals_of_identity (asIdLog m) (asIdLog m') g o hg'.symm ho'.symm hg ho⟩

theorem lin_proto_roundtrip (fuel : Nat) (m : Gen.Mapping.LinearlyInterpolatedMapping F64) (g o : Rat)
    (h1 : MOps.le m.gamma (MOps.ofInt 1 : F64) = false) (hg : m.gamma = .fin g) (ho : m.indexOffset = .fin o) :
    ∃ m', FromProto fuel (some (LinearlyInterpolatedMapping.ToProto m)) =
        .ok (IndexMapping.LinearlyInterpolatedMapping m', GoErr.nil) ∧
      m'.gamma = m.gamma ∧ m'.indexOffset = m.indexOffset ∧
      Gen.MapId.LinearlyInterpolatedMapping.Equals (asIdLin m') (asIdLin m) = true ∧
      Gen.MapId.LinearlyInterpolatedMapping.Equals (asIdLin m) (asIdLin m') = true := by
  obtain ⟨m', h, hg', ho'⟩ := lin_roundtrip fuel m h1
  exact ⟨m', h, hg', ho',
    C19Gen.lin_equals_of_identity (asIdLin m') (asIdLin m) g o hg' ho' (hg'.trans hg) (ho'.trans ho),
    C19Gen.lin_equals_of_identity (asIdLin m) (asIdLin m') g o hg'.symm ho'.symm hg ho⟩

theorem cub_proto_roundtrip (fuel : Nat) (m : Gen.Mapping.CubicallyInterpolatedMapping F64) (g o : Rat)
    (h1 : MOps.le m.gamma (MOps.ofInt 1 : F64) = false) (hg : m.gamma = .fin g) (ho : m.indexOffset = .fin o) :
    ∃ m', FromProto fuel (some (CubicallyInterpolatedMapping.ToProto m)) =
        .ok (IndexMapping.CubicallyInterpolatedMapping m', GoErr.nil) ∧
      m'.gamma = m.gamma ∧ m'.indexOffset = m.indexOffset ∧
      Gen.MapId.CubicallyInterpolatedMapping.Equals (asIdCub m') (asIdCub m) = true ∧
      Gen.MapId.CubicallyInterpolatedMapping.Equals (asIdCub m) (asIdCub m') = true := by
  obtain ⟨m', h, hg', ho'⟩ := cub_roundtrip fuel m h1
  exact ⟨m', h, hg', ho',
    C19Gen.cub_equals_of_identity (asIdCub m') (asIdCub m) g o hg' ho' (hg'.trans hg) (ho'.trans ho),
    C19Gen.cub_equals_of_identity (asIdCub m) (asIdCub m') g o hg'.symm ho'.symm hg ho⟩

/-! ### … and it is the model's round trip -/

/-- the identity of the regenerated round trip is the `MapId` the model's `proto_roundtrip` returns (hypotheses
    of `C19.proto_roundtrip`, the guard read through `LeOne`) -/
theorem log_proto_roundtrip_model (hle : LeOne) (fuel : Nat) (m : Gen.Mapping.LogarithmicMapping F64)
    (hg : F64.ofBits (F64.toBits m.gamma) = m.gamma)
    (ho : F64.ofBits (F64.toBits m.indexOffset) = m.indexOffset)
    (h1 : F64.le m.gamma (.fin 1) = false) :
    ∃ r, FromProto fuel (some (LogarithmicMapping.ToProto m)) = .ok (r, GoErr.nil) ∧
      idOf r = some (idLog m) ∧
      Proto.mappingFromProto (some (pbOfGo (LogarithmicMapping.ToProto m))) = .ok (idLog m) := by
  obtain ⟨m', h, hg', ho'⟩ := log_roundtrip fuel m (by rw [hle, h1])
  refine ⟨_, h, ?_, ?_⟩
  · simp only [idOf, idLog, hg', ho']
  · rw [log_toProto_model]; exact C19.proto_roundtrip (idLog m) hg ho h1

theorem lin_proto_roundtrip_model (hle : LeOne) (fuel : Nat) (m : Gen.Mapping.LinearlyInterpolatedMapping F64)
    (hg : F64.ofBits (F64.toBits m.gamma) = m.gamma)
    (ho : F64.ofBits (F64.toBits m.indexOffset) = m.indexOffset)
    (h1 : F64.le m.gamma (.fin 1) = false) :
    ∃ r, FromProto fuel (some (LinearlyInterpolatedMapping.ToProto m)) = .ok (r, GoErr.nil) ∧
      idOf r = some (idLin m) ∧
      Proto.mappingFromProto (some (pbOfGo (LinearlyInterpolatedMapping.ToProto m))) = .ok (idLin m) := by
  obtain ⟨m', h, hg', ho'⟩ := lin_roundtrip fuel m (by rw [hle, h1])
  refine ⟨_, h, ?_, ?_⟩
  · simp only [idOf, idLin, hg', ho']
  · rw [lin_toProto_model]; exact C19.proto_roundtrip (idLin m) hg ho h1

theorem cub_proto_roundtrip_model (hle : LeOne) (fuel : Nat) (m : Gen.Mapping.CubicallyInterpolatedMapping F64)
    (hg : F64.ofBits (F64.toBits m.gamma) = m.gamma)
    (ho : F64.ofBits (F64.toBits m.indexOffset) = m.indexOffset)
    (h1 : F64.le m.gamma (.fin 1) = false) :
    ∃ r, FromProto fuel (some (CubicallyInterpolatedMapping.ToProto m)) = .ok (r, GoErr.nil) ∧
      idOf r = some (idCub m) ∧
      Proto.mappingFromProto (some (pbOfGo (CubicallyInterpolatedMapping.ToProto m))) = .ok (idCub m) := by
  obtain ⟨m', h, hg', ho'⟩ := cub_roundtrip fuel m (by rw [hle, h1])
  refine ⟨_, h, ?_, ?_⟩
  · simp only [idOf, idCub, hg', ho']
  · rw [cub_toProto_model]; exact C19.proto_roundtrip (idCub m) hg ho h1

/-! ### finiteness is needed for `Equals` -/

/-- `gamma = +Inf`: accepted by the guard (`¬ +Inf <= 1`), carried by the message unchanged, identical parameters
    after `FromProto` — and the result is not `Equals` to the original.  Same in Go. -/
theorem proto_roundtrip_inf_not_equals (hle : LeOne) (fuel : Nat) (mu lo hi : F64) :
    ∃ m', FromProto fuel (some (LogarithmicMapping.ToProto ⟨.pinf, .fin 0, mu, lo, hi⟩)) =
        .ok (IndexMapping.LogarithmicMapping m', GoErr.nil) ∧
      m'.gamma = .pinf ∧ m'.indexOffset = .fin 0 ∧
      Gen.MapId.LogarithmicMapping.Equals (asIdLog m') (asIdLog ⟨.pinf, .fin 0, mu, lo, hi⟩) = false := by
  obtain ⟨m', h, hg', ho'⟩ := log_roundtrip fuel (⟨.pinf, .fin 0, mu, lo, hi⟩ : Gen.Mapping.LogarithmicMapping F64)
    (by rw [hle]; rfl)
  refine ⟨m', h, hg', ho', ?_⟩
  rw [GenMapId.log_equals_eq]
  show MapId.equals ⟨.log, m'.gamma, m'.indexOffset⟩ ⟨.log, .pinf, .fin 0⟩ = false
  rw [show m'.gamma = F64.pinf from hg', show m'.indexOffset = F64.fin 0 from ho']
  rfl

/-! ### the kind is in the message -/

theorem proto_kinds_apart (a : Gen.Mapping.LogarithmicMapping F64) (b : Gen.Mapping.LinearlyInterpolatedMapping F64)
    (c : Gen.Mapping.CubicallyInterpolatedMapping F64) :
    LogarithmicMapping.ToProto a ≠ LinearlyInterpolatedMapping.ToProto b ∧
    LogarithmicMapping.ToProto a ≠ CubicallyInterpolatedMapping.ToProto c ∧
    LinearlyInterpolatedMapping.ToProto b ≠ CubicallyInterpolatedMapping.ToProto c := by
  refine ⟨fun h => ?_, fun h => ?_, fun h => ?_⟩ <;>
  · have := congrArg GoPb.IndexMapping.Interpolation h
    revert this
    simp only [LogarithmicMapping.ToProto, LinearlyInterpolatedMapping.ToProto, CubicallyInterpolatedMapping.ToProto]
    decide

/-! ### rejections (the decoder side of C19) -/

/-- an interpolation outside {NONE, LINEAR, CUBIC} is refused, whatever the parameters (model:
    `C19.mappingFromProto_rejects_unknown_interpolation`) -/
theorem proto_rejects_unknown_interpolation (fuel : Nat) (pm : GoPb.IndexMapping F64)
    (h : pm.Interpolation.toNat = 2 ∨ 4 ≤ pm.Interpolation.toNat) :
    FromProto fuel (some pm) = .ok (IndexMapping.nil, errInterpolation) ∧
    Proto.mappingFromProto (some (pbOfGo pm)) = .error .badInterpolation := by
  have h0 : pm.Interpolation ≠ GoPb.IndexMapping_NONE := by
    intro e; rw [e] at h; revert h; decide
  have h1 : pm.Interpolation ≠ GoPb.IndexMapping_LINEAR := by
    intro e; rw [e] at h; revert h; decide
  have h3 : pm.Interpolation ≠ GoPb.IndexMapping_CUBIC := by
    intro e; rw [e] at h; revert h; decide
  exact ⟨FromProto_unsupported fuel pm h0 h1 h3, model_unsupported pm h0 h1 h3⟩

/-- `gamma ≤ 1` (as floats) is refused for the three known kinds (model: `C19.ofBlock_rejects_gamma_le_one` for
    the binary form, `Proto.mappingFromProto` → `.badGamma` for this one) -/
theorem proto_rejects_gamma_le_one (hle : LeOne) (fuel : Nat) (pm : GoPb.IndexMapping F64)
    (ht : pm.Interpolation = GoPb.IndexMapping_NONE ∨ pm.Interpolation = GoPb.IndexMapping_LINEAR ∨
      pm.Interpolation = GoPb.IndexMapping_CUBIC)
    (hg : F64.le pm.Gamma (.fin 1) = true) :
    ∃ r, FromProto fuel (some pm) = .ok (r, errGamma) :=
  FromProto_gamma_le_one fuel pm ht (by rw [hle, hg])

/-- nil message (the sketch message had no `mapping` field) -/
theorem proto_rejects_nil (fuel : Nat) :
    FromProto (F := F64) fuel none = .ok (IndexMapping.nil, errNilMapping) := rfl

end

end DDS.Props.C19GenProto
