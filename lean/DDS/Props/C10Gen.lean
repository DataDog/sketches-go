/-
  DDS.Props.C10Gen — the C10 theorems ("summary statistics are exact whenever the float operations
  are") restated for the REGENERATED code `DDS.Gen.Stat.*` (`DDS/Generated/CodeStat.lean`, translated
  from `ddsketch/stat/summary.go` on every run) and proved by rewriting with the equivalences of
  `DDS.Proofs.GenStat` into the model theorems of `DDS.Props.C10`.

  Vocabulary: `genAddAll s l` / `genAddAllF s l` fold the generated `SummaryStatistics.Add` over a
  list of (value, weight) pairs; `genExactOf l` is THE exact summary of `l` as a generated struct.
  Every theorem `gen_X` is theorem `C10.X` with the generated function in place of the model one.
-/
import DDS.Proofs.GenStat
import DDS.Props.C10

namespace DDS.Props.C10Gen

open DDS DDS.Summary DDS.F64 DDS.GoSem DDS.Gen.Stat DDS.GenStat

def genExactOf (l : List (Rat × Rat)) : SummaryStatistics := ofModel (exactOf l)

example (l : List (Rat × Rat)) : genExactOf l =
    { count := .fin (cnt l), sum := .fin (tot l), sumCompensation := .fin 0,
      simpleSum := .fin (tot l), min := minOf l, max := maxOf l } := rfl

theorem toModel_genExactOf (l : List (Rat × Rat)) : toModel (genExactOf l) = exactOf l := rfl

theorem genExactOf_nil : genExactOf [] = NewSummaryStatistics := by
  apply toModel_injective
  rw [new_eq]; rfl

theorem toModel_genAddAll (s : SummaryStatistics) (l : List (Rat × Rat)) :
    toModel (genAddAll s l) = addAll (toModel s) l := genAddAll_eq s l

theorem toModel_genAddAllF (s : SummaryStatistics) (l : List (F64 × F64)) :
    toModel (genAddAllF s l) = addAllF (toModel s) l := genAddAllF_eq s l

theorem toModel_genAddAll_new (l : List (Rat × Rat)) :
    toModel (genAddAll NewSummaryStatistics l) = addAll Summary.new l := by
  rw [toModel_genAddAll, new_eq]

/-! ### one addition -/

theorem gen_add_exact_state (c sm v w : Rat) (mn mx : F64) (h1 : isRep (c + w) = true)
    (h2 : isRep (v * w) = true) (h3 : isRep (sm + v * w) = true) :
    SummaryStatistics.Add ⟨.fin c, .fin sm, .fin 0, .fin sm, mn, mx⟩ (.fin v) (.fin w) =
      ⟨.fin (c + w), .fin (sm + v * w), .fin 0, .fin (sm + v * w),
        if F64.lt (.fin v) mn then .fin v else mn, if F64.lt mx (.fin v) then .fin v else mx⟩ := by
  apply toModel_injective
  rw [add_eq]
  exact C10.add_exact_state c sm v w mn mx h1 h2 h3

/-! ### a history of additions -/

/-- after absorbing `l` with the generated `Add`, starting from the generated
    `NewSummaryStatistics`, the state is the exact one -/
theorem gen_fold_exact_eq (l : List (Rat × Rat)) (h : RepOK l) :
    genAddAll NewSummaryStatistics l = genExactOf l := by
  apply toModel_injective
  rw [toModel_genAddAll_new, C10.fold_exact_eq l h]; rfl

/-- … field by field, through the generated getters `Count / Sum / Min / Max` -/
theorem gen_fold_exact (l : List (Rat × Rat)) (h : RepOK l) :
    SummaryStatistics.Count (genAddAll NewSummaryStatistics l) = .fin (cnt l) ∧
    SummaryStatistics.Sum (genAddAll NewSummaryStatistics l) = .fin (tot l) ∧
    (genAddAll NewSummaryStatistics l).sumCompensation = .fin 0 ∧
    (genAddAll NewSummaryStatistics l).sum = .fin (tot l) ∧
    (genAddAll NewSummaryStatistics l).simpleSum = .fin (tot l) ∧
    SummaryStatistics.Min (genAddAll NewSummaryStatistics l) = minOf l ∧
    SummaryStatistics.Max (genAddAll NewSummaryStatistics l) = maxOf l := by
  have hm := C10.fold_exact l h
  rw [← toModel_genAddAll_new] at hm
  rw [count_eq, sum_eq, min_eq, max_eq]
  exact hm

/-- the reported minimum of a non-empty exact history is its least value -/
theorem gen_min_is_least (l : List (Rat × Rat)) (h : RepOK l) (hl : l ≠ []) :
    ∃ m, SummaryStatistics.Min (genAddAll NewSummaryStatistics l) = .fin m ∧
      (∃ p ∈ l, p.1 = m) ∧ ∀ p ∈ l, m ≤ p.1 := by
  rw [(gen_fold_exact l h).2.2.2.2.2.1]
  exact C10.min_is_least l hl

theorem gen_max_is_greatest (l : List (Rat × Rat)) (h : RepOK l) (hl : l ≠ []) :
    ∃ m, SummaryStatistics.Max (genAddAll NewSummaryStatistics l) = .fin m ∧
      (∃ p ∈ l, p.1 = m) ∧ ∀ p ∈ l, p.1 ≤ m := by
  rw [(gen_fold_exact l h).2.2.2.2.2.2]
  exact C10.max_is_greatest l hl

/-- the same starting from any exact state -/
theorem gen_fold_exact_from (l : List (Rat × Rat)) (c sm : Rat) (mn mx : F64) (h : RepFrom c sm l) :
    genAddAll ⟨.fin c, .fin sm, .fin 0, .fin sm, mn, mx⟩ l =
      ⟨.fin (c + cnt l), .fin (sm + tot l), .fin 0, .fin (sm + tot l),
        l.foldl (fun m p => minStep (.fin p.1) m) mn, l.foldl (fun m p => maxStep (.fin p.1) m) mx⟩ := by
  apply toModel_injective
  rw [toModel_genAddAll]
  exact C10.fold_exact_from l c sm mn mx h

/-- the running example of C10 (values 3, −1, 5/2 with weights 2, 1, 4), on the generated code -/
example : SummaryStatistics.Count (genAddAll NewSummaryStatistics C10.exL) = .fin 7 ∧
    SummaryStatistics.Sum (genAddAll NewSummaryStatistics C10.exL) = .fin 15 := by
  obtain ⟨h1, h2, _⟩ := gen_fold_exact C10.exL C10.exL_ok
  exact ⟨by rw [h1]; decide +kernel, by rw [h2]; decide +kernel⟩

/-! ### emptiness -/

theorem gen_empty_iff (l : List (Rat × Rat)) (h : RepOK l) (hw : ∀ p ∈ l, 0 ≤ p.2) :
    (SummaryStatistics.Count (genAddAll NewSummaryStatistics l) = .fin 0 ↔ ∀ p ∈ l, p.2 = 0) ∧
    (F64.eq (SummaryStatistics.Count (genAddAll NewSummaryStatistics l)) (.fin 0) = true ↔
      ∀ p ∈ l, p.2 = 0) := by
  rw [count_eq, toModel_genAddAll_new]
  exact C10.empty_iff l h hw

theorem gen_empty_iff_pos (l : List (Rat × Rat)) (h : RepOK l) (hw : ∀ p ∈ l, 0 < p.2) :
    F64.eq (SummaryStatistics.Count (genAddAll NewSummaryStatistics l)) (.fin 0) = true ↔ l = [] := by
  rw [count_eq, toModel_genAddAll_new]
  exact C10.empty_iff_pos l h hw

/-! ### merging, reweighting, rescaling, clearing -/

theorem gen_mergeWith_exact (l₁ l₂ : List (Rat × Rat)) (hc : isRep (cnt l₁ + cnt l₂) = true)
    (hs2 : isRep (tot l₂) = true) (hs : isRep (tot l₁ + tot l₂) = true) :
    SummaryStatistics.MergeWith (genExactOf l₁) (genExactOf l₂) = genExactOf (l₁ ++ l₂) := by
  apply toModel_injective
  rw [mergeWith_eq]
  exact C10.mergeWith_exact l₁ l₂ hc hs2 hs

/-- … for two histories absorbed by the generated `Add` -/
theorem gen_mergeWith_exact_folds (l₁ l₂ : List (Rat × Rat)) (h1 : RepOK l₁) (h2 : RepOK l₂)
    (hc : isRep (cnt l₁ + cnt l₂) = true) (hs : isRep (tot l₁ + tot l₂) = true) :
    SummaryStatistics.MergeWith (genAddAll NewSummaryStatistics l₁) (genAddAll NewSummaryStatistics l₂)
      = genExactOf (l₁ ++ l₂) := by
  rw [gen_fold_exact_eq l₁ h1, gen_fold_exact_eq l₂ h2]
  have hs2 : isRep (tot l₂) = true := by
    have := repFrom_isRep_sum l₂ 0 0 h2 isRep_zero
    rwa [zero_add] at this
  exact gen_mergeWith_exact l₁ l₂ hc hs2 hs

theorem gen_mergeWith_exact_state (c1 s1 c2 s2 : Rat) (mn1 mx1 mn2 mx2 : F64)
    (hc : isRep (c1 + c2) = true) (hs2 : isRep s2 = true) (hs : isRep (s1 + s2) = true) :
    SummaryStatistics.MergeWith ⟨.fin c1, .fin s1, .fin 0, .fin s1, mn1, mx1⟩
        ⟨.fin c2, .fin s2, .fin 0, .fin s2, mn2, mx2⟩ =
      ⟨.fin (c1 + c2), .fin (s1 + s2), .fin 0, .fin (s1 + s2),
        if F64.lt mn2 mn1 then mn2 else mn1, if F64.lt mx1 mx2 then mx2 else mx1⟩ := by
  apply toModel_injective
  rw [mergeWith_eq]
  exact C10.mergeWith_exact_state c1 s1 c2 s2 mn1 mx1 mn2 mx2 hc hs2 hs

theorem gen_reweight_exact (l : List (Rat × Rat)) (w : Rat) (hw : w ≠ 0)
    (hc : isRep (cnt l * w) = true) (hs : isRep (tot l * w) = true) :
    SummaryStatistics.Reweight (genExactOf l) (.fin w) = genExactOf (scaleWts w l) := by
  apply toModel_injective
  rw [reweight_eq]
  exact C10.reweight_exact l w hw hc hs

theorem gen_reweight_zero (l : List (Rat × Rat)) :
    SummaryStatistics.Reweight (genExactOf l) (.fin 0) = NewSummaryStatistics := by
  apply toModel_injective
  rw [reweight_eq, new_eq]
  exact C10.reweight_zero l

theorem gen_rescale_exact_state (c : F64) (sm f : Rat) (mn mx : F64) (hs : isRep (sm * f) = true) :
    SummaryStatistics.Rescale ⟨c, .fin sm, .fin 0, .fin sm, mn, mx⟩ (.fin f) =
      if 0 < f then
        ⟨c, .fin (sm * f), .fin 0, .fin (sm * f), F64.mul mn (.fin f), F64.mul mx (.fin f)⟩
      else if f < 0 then
        ⟨c, .fin (sm * f), .fin 0, .fin (sm * f), F64.mul mx (.fin f), F64.mul mn (.fin f)⟩
      else if F64.ne c (.fin 0) = true then
        ⟨c, .fin 0, .fin 0, .fin 0, .fin 0, .fin 0⟩
      else ⟨c, .fin 0, .fin 0, .fin 0, mn, mx⟩ := by
  apply toModel_injective
  rw [rescale_eq]
  have := C10.rescale_exact_state c sm f mn mx hs
  simp only [toModel_ite]
  exact this

theorem gen_rescale_exact (l : List (Rat × Rat)) (f : Rat) (hs : isRep (tot l * f) = true)
    (hmn : ∀ a, minOf l = .fin a → isRep (a * f) = true)
    (hmx : ∀ b, maxOf l = .fin b → isRep (b * f) = true)
    (hw : ∀ p ∈ l, 0 < p.2) :
    SummaryStatistics.Rescale (genExactOf l) (.fin f) = genExactOf (scaleVals f l) := by
  apply toModel_injective
  rw [rescale_eq]
  exact C10.rescale_exact l f hs hmn hmx hw

theorem gen_clear_is_new (s : SummaryStatistics) :
    SummaryStatistics.Clear s = NewSummaryStatistics ∧ NewSummaryStatistics = genExactOf [] := by
  refine ⟨?_, genExactOf_nil.symm⟩
  apply toModel_injective
  rw [clear_eq, new_eq]; rfl

example : SummaryStatistics.MergeWith (genExactOf C10.exL) (genExactOf [(7, 1)]) =
    genExactOf (C10.exL ++ [(7, 1)]) :=
  gen_mergeWith_exact _ _ (by decide +kernel) (by decide +kernel) (by decide +kernel)

/-! ### min and max never round -/

theorem gen_minmax_no_rounding (s : SummaryStatistics) (v w : F64) :
    SummaryStatistics.Min (SummaryStatistics.Add s v w) = (if F64.lt v s.min then v else s.min) ∧
    SummaryStatistics.Max (SummaryStatistics.Add s v w) = (if F64.lt s.max v then v else s.max) := by
  rw [min_eq, max_eq, add_eq]
  exact C10.minmax_no_rounding (toModel s) v w

theorem gen_extremes_are_absorbed_values (l : List (F64 × F64)) :
    let s := genAddAllF NewSummaryStatistics l
    (SummaryStatistics.Min s = .pinf ∨ ∃ p ∈ l, SummaryStatistics.Min s = p.1) ∧
    (SummaryStatistics.Max s = .ninf ∨ ∃ p ∈ l, SummaryStatistics.Max s = p.1) := by
  intro s
  have h := C10.extremes_are_absorbed_values l
  have e : toModel s = l.foldl (fun s p => s.add p.1 p.2) Summary.new := by
    show toModel (genAddAllF NewSummaryStatistics l) = _
    rw [genAddAllF_eq, new_eq]
  rw [min_eq, max_eq, e]
  exact h

theorem gen_merge_minmax_no_rounding (s o : SummaryStatistics) :
    SummaryStatistics.Min (SummaryStatistics.MergeWith s o) =
      (if F64.lt o.min s.min then o.min else s.min) ∧
    SummaryStatistics.Max (SummaryStatistics.MergeWith s o) =
      (if F64.lt s.max o.max then o.max else s.max) := by
  rw [min_eq, max_eq, mergeWith_eq]
  exact C10.merge_minmax_no_rounding (toModel s) (toModel o)

theorem gen_exact_stats_ordered (l : List (Rat × Rat)) (hl : l ≠ []) :
    F64.lt (SummaryStatistics.Max (genExactOf l)) (SummaryStatistics.Min (genExactOf l)) = false :=
  C10.exact_stats_ordered l hl

end DDS.Props.C10Gen
