/-
  DDS.Props.C06 — round trip of the binary encoding: `decode (encode s) = s`, for every store kind
  as producer (sparse, dense, lowest/highest-collapsing dense, buffered paginated), the consumer being
  the spec sketch (both stores plain finite maps); the refinement of the other consumers is the
  store-level `addWithCount` refinement proved per kind.

  Proofs are in `DDS.Proofs.RoundTrip`.  Vocabulary defined there:
  * `VfOK w` — `Codec.VarfloatExact w = true`: the weight survives the documented `+1 / −1` float
    transform.  `WOK w` — `F64.isRep w = true ∧ VfOK w`: a weight as the library holds it (a binary64)
    that survives it.  `VfOK` ALONE DOES NOT give the round trip of a weight, see `vfOK_not_enough`.
  * `Keys32 c` — every index of the content is an int32 (`PStore.Idx32`).
  * `sideBins d side` — `d.pos` or `d.neg` of a documentation content `Wire.Doc`.
  * `DenseOK s` — what the dense encoder uses of a dense store of any of the three kinds; follows
    from `DStore.Inv` + `Bounded32` (plain), `InvLow` / `InvHigh` + `Tight32` (collapsing), plus
    `WOK` of every weight.
  * `PagOK s` — `PStore.Inv s`, `s.buffer.length < 2^64`, and `WOK (s.line j + k)` for every
    `k ≤ s.buffer.count j` (compaction moves buffered unit entries onto their page line).
  * `EncOK st` — `Keys32` + `WOK` weights / `DenseOK` / `PagOK` according to the store kind.
  * `MapOK m` — gamma and offset survive their bit patterns and `¬ gamma ≤ 1`;
    `MapFinite m` — both are finite floats (then `m.Equals m`, `equals_self`).
  * `StatsOK st c S mn mx` — the summary exposes finite count / sum / min / max, `WOK c`, `0 < c`,
    `mn ≤ mx`.  `restored c S mn mx` — count `c`, sum `S`, compensation 0, simple sum `S`, min, max.
  * `statBlocks st` — the (up to four) statistics blocks `XSketch.encode` writes first.

  Scope notes.
  * The consumer is always a spec sketch.  For the collapsing dense kinds the caller supplies
    `Store.Refines` (from `InvLow`/`InvHigh` + `Tight32` by `DStore.Core.refines` of
    `DDS.Proofs.Refine`); the store-level statement `encodeStore_collapsing_denotes` needs only
    `InvLow`/`InvHigh` + `Tight32`.
  * `MapOK` does not ask for a finite gamma: the decoder (as the Go constructors) rejects only
    `gamma <= 1`, which is false for NaN.
-/
import DDS.Proofs.Collapsing
import DDS.Proofs.RoundTrip
import DDS.Proofs.CollapsingHigh

/-! ### the two collapsing kinds meet the encoder's hypotheses -/

namespace DDS.RoundTrip

open DStore (wt)

theorem denseOK_of_invLow (N : Nat) (s : DStore) (h : DStore.InvLow N s) (ht : DStore.Tight32 s)
    (hw : ∀ j, WOK (wt s j)) : DenseOK s := denseOK_of_core s h.core ht hw

theorem denseOK_of_invHigh (N : Nat) (s : DStore) (h : DStore.InvHigh N s) (ht : DStore.Tight32 s)
    (hw : ∀ j, WOK (wt s j)) : DenseOK s := denseOK_of_core s h.core ht hw

theorem ArrayStore.coll {s : DStore} (h : ArrayStore s) (N : Nat) (hN : s.bins.size ≤ N)
    (hc : s.isCollapsed = false) : DStore.Coll N s :=
  { h.core with
    hN := by have := h.size; omega
    fresh := fun h0 => absurd h0 h.ne
    lenLe := hN
    collapsed := fun hcc => by rw [hc] at hcc; exact absurd hcc (by decide) }

theorem ArrayStore.invLow {s : DStore} (h : ArrayStore s) (N : Nat) (hk : s.kind = .low N)
    (hN : s.bins.size ≤ N) (hc : s.isCollapsed = false) : DStore.InvLow N s :=
  DStore.invLow_iff.2 ⟨hk, h.coll N hN hc⟩

theorem ArrayStore.invHigh {s : DStore} (h : ArrayStore s) (N : Nat) (hk : s.kind = .high N)
    (hN : s.bins.size ≤ N) (hc : s.isCollapsed = false) : DStore.InvHigh N s :=
  DStore.invHigh_iff.2 ⟨hk, h.coll N hN hc⟩

end DDS.RoundTrip

namespace DDS.Props.C06

open DDS DDS.Wire DDS.RoundTrip

/-! ### weights -/

/-- the float the decoder computes from the bits the encoder writes is the weight -/
theorem vfValue_vfBits (w : Rat) (h : WOK w) : Wire.vfValue (Sketch.vfBits w) = .fin w :=
  RoundTrip.vfValue_vfBits w h

/-- `VfOK` alone is not enough: the rational `2^53 + 1` is not a float; `w + 1 = 2^53 + 2` is one,
    and `(w + 1) − 1` rounds to `2^53` -/
theorem vfOK_not_enough :
    VfOK 9007199254740993 ∧
    Wire.vfValue (Sketch.vfBits 9007199254740993) = .fin 9007199254740992 := by
  constructor
  · unfold VfOK; decide +kernel
  · decide +kernel

/-- `VfOK w` is "`w + 1` is a float", whether or not `w` itself is one -/
theorem vfOK_iff (w : Rat) : VfOK w ↔ F64.isRep (w + 1) = true :=
  ⟨RoundTrip.vfOK_isRep_succ w, RoundTrip.vfOK_of_isRep_succ w⟩

theorem wOK_nat (n : Nat) (hn : n < 2 ^ 53) : WOK (n : Rat) := RoundTrip.wOK_nat n hn

theorem wOK_dyadic (k g : Nat) (hg : g ≤ 52) (hk : k < 2 ^ (53 - g)) : WOK ((k : Rat) / 2 ^ g) :=
  RoundTrip.wOK_dyadic k g hg hk

example : WOK 12345 := by have := wOK_nat 12345 (by norm_num); simpa using this
example : WOK (3 / 8) := by have := wOK_dyadic 3 3 (by norm_num) (by norm_num); norm_num at this; exact this
example : Wire.vfValue (Sketch.vfBits (3 / 8)) = .fin (3 / 8) := vfValue_vfBits _ (by decide +kernel)
-- a weight the transform does not preserve: `2^-60 + 1` rounds to 1
example : ¬ VfOK (1 / 2 ^ 60) := by unfold VfOK; decide +kernel

/-! ### what the encoder writes denotes the store's content -/

theorem encodeStore_sparse_denotes (c : Content) (hc : c.WF) (hw : ∀ p ∈ c, WOK p.2)
    (hk : Keys32 c) (side : Side) :
    ∃ bl, Sketch.encodeStore (.sp c) side = some (.sp c, bl) ∧
      (∀ b ∈ bl, b.WF ∧ b.FiniteWeights) ∧
      Wire.contentOf (sideBins (Wire.interp bl) side) = some c := by
  obtain ⟨bl, h1, h2, h3⟩ := RoundTrip.encodeStore_sparse c hc hw hk side
  exact ⟨bl, h1, fun b hb => ⟨(h2 b hb).1, (h2 b hb).2.1⟩, h3.contentOf hc⟩

/-- plain dense store, BOTH layouts (contiguous with the zero counts of the window, or index
    deltas of the non-zero counts): zero counts add nothing -/
theorem encodeStore_dense_denotes (s : DStore) (h : DStore.Inv s) (hb : DStore.Bounded32 s)
    (hw : ∀ j, WOK (DStore.wt s j)) (side : Side) :
    ∃ (bl : List Block) (c : Content), Sketch.encodeStore (.d s) side = some (.d s, bl) ∧
      (∀ b ∈ bl, b.WF ∧ b.FiniteWeights) ∧
      c.WF ∧ (∀ j, c.lookup j = DStore.wt s j) ∧ s.binsList = some c ∧
      Wire.contentOf (sideBins (Wire.interp bl) side) = some c := by
  have hd := RoundTrip.denseOK_of_inv s h hb hw
  obtain ⟨e1, e2, e3⟩ := hd.content_spec
  obtain ⟨bl, h1, h2, h3⟩ := RoundTrip.encodeDense_denotes s hd _ e3 side
  exact ⟨bl, _, h1, fun b hb => ⟨(h2 b hb).1, (h2 b hb).2.1⟩, e2, e3, e1, h3.contentOf e2⟩

/-- collapsing dense stores: the same encoder on a `.low N` / `.high N` store -/
theorem encodeStore_collapsing_denotes (s : DStore) (N : Nat)
    (h : DStore.InvLow N s ∨ DStore.InvHigh N s) (ht : DStore.Tight32 s)
    (hw : ∀ j, WOK (DStore.wt s j)) (side : Side) :
    ∃ (bl : List Block) (c : Content), Sketch.encodeStore (.d s) side = some (.d s, bl) ∧
      (∀ b ∈ bl, b.WF ∧ b.FiniteWeights) ∧
      c.WF ∧ (∀ j, c.lookup j = DStore.wt s j) ∧ s.binsList = some c ∧
      Wire.contentOf (sideBins (Wire.interp bl) side) = some c := by
  have hd : DenseOK s := h.elim (fun h => RoundTrip.denseOK_of_invLow N s h ht hw)
    (fun h => RoundTrip.denseOK_of_invHigh N s h ht hw)
  obtain ⟨e1, e2, e3⟩ := hd.content_spec
  obtain ⟨bl, h1, h2, h3⟩ := RoundTrip.encodeDense_denotes s hd _ e3 side
  exact ⟨bl, _, h1, fun b hb => ⟨(h2 b hb).1, (h2 b hb).2.1⟩, e2, e3, e1, h3.contentOf e2⟩

/-- paginated store: the encoder compacts first; the compacted store has the same content -/
theorem encodeStore_pag_denotes (s : PStore) (h : PagOK s) (side : Side) :
    ∃ s' bl, Sketch.encodeStore (.pg s) side = some (.pg s', bl) ∧ PStore.Inv s' ∧
      PStore.content s' = PStore.content s ∧ (∀ b ∈ bl, b.WF ∧ b.FiniteWeights) ∧
      Wire.contentOf (sideBins (Wire.interp bl) side) = some (PStore.content s) := by
  obtain ⟨s', _, h2, h3, bl, h4, h5, h6⟩ := RoundTrip.storeEncodes_pag s h side
  exact ⟨s', bl, h4, h2, h3, fun b hb => ⟨(h5 b hb).1, (h5 b hb).2.1⟩,
    h6.contentOf (PStore.content_wf s h.inv)⟩

/-! ### the sketch-level round trip -/

/-- Producer of any store kinds, consumer a fresh spec sketch: the decoded sketch has the
    producer's mapping, zero bucket and contents.  (`0 ≤ z` is not needed.) -/
theorem decode_encode (s : Sketch) (cp cn : Content) (hs : s.Refines cp cn)
    (hp : EncOK s.pos) (hn : EncOK s.neg)
    (m : MapId) (hm : s.mapping = some m) (hmk : MapOK m)
    (z : Rat) (hz : s.zero = .fin z) (hzw : WOK z) (omitMapping : Bool) :
    ∃ s' bl, s.encode omitMapping = some (s', bl) ∧ (∀ b ∈ bl, b.WF ∧ b.FiniteWeights) ∧
      Sketch.decodeAndMergeWith (Sketch.new (if omitMapping then some m else none) .sparse)
        (Wire.encBlocks bl) = some (.ok (Sketch.spec (some m) cp cn (.fin z))) := by
  obtain ⟨s', bl, he⟩ := RoundTrip.encode_ok s cp cn hs hp hn m hm z hz omitMapping
  have hd := he.decode hmk hzw (if omitMapping then some m else none)
    (by cases omitMapping <;> simp [Accepts]) [] [] Content.wf_nil Content.wf_nil (.fin 0)
  rw [Content.merge_nil_left cp hs.pos.wf, Content.merge_nil_left cn hs.neg.wf,
    RoundTrip.zeroAfter_zero z hzw] at hd
  exact ⟨s', bl, he.encode_eq, fun b hb => ⟨he.wf b hb, he.finite b hb⟩, hd⟩

/-- Decoding into a NON-EMPTY spec sketch with the same mapping is a merge: contents add up
    pointwise, the zero buckets add (exactness of that float addition is the hypothesis `hadd`). -/
theorem decode_into_nonempty_is_merge (s : Sketch) (cp cn : Content) (hs : s.Refines cp cn)
    (hp : EncOK s.pos) (hn : EncOK s.neg)
    (m : MapId) (hm : s.mapping = some m) (hmk : MapOK m) (hmf : MapFinite m)
    (z : Rat) (hz : s.zero = .fin z) (hzw : WOK z) (omitMapping : Bool)
    (a b : Content) (ha : a.WF) (hb : b.WF) (z₀ : Rat)
    (hadd : F64.add (.fin z₀) (.fin z) = .fin (z₀ + z)) :
    ∃ s' bl, s.encode omitMapping = some (s', bl) ∧
      Sketch.decodeAndMergeWith (Sketch.spec (some m) a b (.fin z₀)) (Wire.encBlocks bl) =
        some (.ok (Sketch.spec (some m) (a.merge cp) (b.merge cn) (.fin (z₀ + z)))) := by
  obtain ⟨s', bl, he⟩ := RoundTrip.encode_ok s cp cn hs hp hn m hm z hz omitMapping
  have hd := he.decode hmk hzw (some m)
    (by cases omitMapping
        · simpa using RoundTrip.accepts_self m hmf
        · simp) a b ha hb (.fin z₀)
  rw [RoundTrip.zeroAfter_exact z₀ z hadd] at hd
  exact ⟨s', bl, he.encode_eq, hd⟩

/-- decoding a concatenation of two encoded streams = decoding the second stream into the result of
    decoding the first (ANY store kind; block lists only need to be well formed) -/
theorem decode_concat (bl₁ bl₂ : List Block) (h₁ : ∀ b ∈ bl₁, b.WF) (h₂ : ∀ b ∈ bl₂, b.WF)
    (s s₁ : Sketch)
    (hd : Sketch.decodeAndMergeWith s (Wire.encBlocks bl₁) = some (.ok s₁)) :
    Sketch.decodeAndMergeWith s (Wire.encBlocks bl₁ ++ Wire.encBlocks bl₂) =
      Sketch.decodeAndMergeWith s₁ (Wire.encBlocks bl₂) :=
  RoundTrip.decode_concat bl₁ bl₂ h₁ h₂ s s₁ hd

/-- loop-level form, without the final "mapping present" check and for any statistics state -/
theorem decodeLoop_concat (bl₁ bl₂ : List Block) (h₁ : ∀ b ∈ bl₁, b.WF) (h₂ : ∀ b ∈ bl₂, b.WF)
    (fuel : Nat) (hf : bl₁.length + bl₂.length ≤ fuel) (s : Sketch) (aux : Sketch.DecAux) :
    Sketch.decodeLoop fuel s aux (Wire.encBlocks bl₁ ++ Wire.encBlocks bl₂) =
      Sketch.andThen (Sketch.applyBlocks s aux bl₁)
        (fun s' aux' => Sketch.applyBlocks s' aux' bl₂) :=
  RoundTrip.decodeLoop_concat bl₁ bl₂ h₁ h₂ fuel hf s aux

/-- `Encode(b, …)` appends: the model's `Sketch.encode` takes no buffer at all (its result is a
    function of the sketch and the flag), and the bytes of "what was there, then the sketch" are
    the bytes that were there followed by the bytes of the sketch -/
theorem encode_appends (s : Sketch) (omitMapping : Bool) (s' : Sketch) (bl : List Block)
    (_h : s.encode omitMapping = some (s', bl)) (pre : List Block) :
    Wire.encBlocks (pre ++ bl) = Wire.encBlocks pre ++ Wire.encBlocks bl :=
  Wire.encBlocks_append pre bl

/-- `Encode` is observably pure: the returned sketch observes like the same contents and has the
    same mapping and zero bucket (the paginated store compacts, nothing else changes) -/
theorem encode_observably_pure (s : Sketch) (cp cn : Content) (hs : s.Refines cp cn)
    (hp : EncOK s.pos) (hn : EncOK s.neg)
    (m : MapId) (hm : s.mapping = some m) (z : Rat) (hz : s.zero = .fin z) (omitMapping : Bool) :
    ∃ s' bl, s.encode omitMapping = some (s', bl) ∧ s'.Refines cp cn ∧
      s'.mapping = s.mapping ∧ s'.zero = s.zero := by
  obtain ⟨s', bl, pb, nb, _, henc, hr, h1, h2, _⟩ :=
    RoundTrip.encode_ok s cp cn hs hp hn m hm z hz omitMapping
  exact ⟨s', bl, henc, hr, by rw [h1, hm], by rw [h2, hz]⟩

/-! ### the variant with exact summary statistics -/

/-- `XSketch.encode` = the statistics blocks, then the blocks of the inner sketch -/
theorem xencode_eq (x : XSketch) (omitMapping : Bool) :
    x.encode omitMapping = (x.sk.encode omitMapping).map
      (fun r => ({ x with sk := r.1 }, statBlocks x.st ++ r.2)) :=
  RoundTrip.xencode_eq x omitMapping

/-- round trip of the exact-summary variant into a fresh one: the sketch as in `decode_encode`, and
    the four statistics blocks restore count, sum (added into a fresh summary: compensation 0),
    min and max -/
theorem xsketch_decode_encode (x : XSketch) (cp cn : Content) (hs : x.sk.Refines cp cn)
    (hp : EncOK x.sk.pos) (hn : EncOK x.sk.neg)
    (m : MapId) (hm : x.sk.mapping = some m) (hmk : MapOK m)
    (z : Rat) (hz : x.sk.zero = .fin z) (hzw : WOK z)
    (c S mn mx : Rat) (hst : StatsOK x.st c S mn mx) (omitMapping : Bool) :
    ∃ x' bl, x.encode omitMapping = some (x', bl) ∧
      XSketch.decodeAndMergeWith (XSketch.new (if omitMapping then some m else none) .sparse)
        (Wire.encBlocks bl) =
        some (.ok { sk := Sketch.spec (some m) cp cn (.fin z), st := restored c S mn mx }) := by
  obtain ⟨s', bl, he⟩ := RoundTrip.encode_ok x.sk cp cn hs hp hn m hm z hz omitMapping
  refine ⟨{ x with sk := s' }, statBlocks x.st ++ bl, by rw [xencode_eq, he.encode_eq]; rfl, ?_⟩
  have hd := fun aux => he.applyBlocks hmk hzw (if omitMapping then some m else none)
    (by cases omitMapping <;> simp [Accepts]) [] [] Content.wf_nil Content.wf_nil (.fin 0) aux
  rw [Content.merge_nil_left cp hs.pos.wf, Content.merge_nil_left cn hs.neg.wf,
    RoundTrip.zeroAfter_zero z hzw] at hd
  exact RoundTrip.xdecode_encBlocks x.st c S mn mx hst _ _ bl he.wf hd rfl

/-- the plain decoder on the bytes of `XSketch.encode` behaves exactly as on the bytes of the inner
    `Sketch.encode`: the statistics blocks are skipped (ANY receiver, any store kinds) -/
theorem plain_decodes_exact (x x' : XSketch) (omitMapping : Bool) (xbl : List Block)
    (hx : x.encode omitMapping = some (x', xbl)) :
    ∃ sk' bl, x.sk.encode omitMapping = some (sk', bl) ∧ x'.sk = sk' ∧
      xbl = statBlocks x.st ++ bl ∧
      ∀ r : Sketch, (∀ b ∈ bl, b.WF) →
        Sketch.decodeAndMergeWith r (Wire.encBlocks xbl) =
          Sketch.decodeAndMergeWith r (Wire.encBlocks bl) := by
  rw [xencode_eq] at hx
  cases he : x.sk.encode omitMapping with
  | none => rw [he] at hx; simp at hx
  | some r =>
    obtain ⟨sk', bl⟩ := r
    rw [he] at hx
    simp only [Option.map_some, Option.some.injEq, Prod.mk.injEq] at hx
    obtain ⟨h1, h2⟩ := hx
    refine ⟨sk', bl, rfl, by rw [← h1], h2.symm, fun r hwf => ?_⟩
    rw [← h2]
    exact RoundTrip.plain_skips_stats x.st r bl hwf

section Examples

/-- logarithmic mapping, gamma = 1.125 -/
def exM : MapId := { kind := .log, gamma := .fin (9 / 8), indexOffset := .fin 0 }

theorem exM_ok : MapOK exM := ⟨by decide +kernel, by decide +kernel, by decide +kernel⟩
theorem exM_fin : MapFinite exM := ⟨⟨_, rfl⟩, ⟨_, rfl⟩⟩

/-- a plain dense store holding weights 2, 0, 1, 3 at the indexes 5 … 8 (contiguous layout, with
    a zero count inside the window) -/
def exD : DStore :=
  { kind := .plain, bins := #[2, 0, 1, 3], count := 6, offset := 5, minIndex := 5, maxIndex := 8,
    isCollapsed := false }

theorem exD_arr : ArrayStore exD := arrayStore_of_b _ (by decide +kernel)

/-- a plain dense store with two far-apart bins (sparse layout) -/
def exD2 : DStore :=
  { kind := .plain, bins := #[1, 0, 0, 0, 0, 0, 0, 0, 0, 0, 0, 0, 0, 0, 0, 0, 0, 0, 0, 3], count := 4,
    offset := -9, minIndex := -9, maxIndex := 10, isCollapsed := false }

theorem exD2_arr : ArrayStore exD2 := arrayStore_of_b _ (by decide +kernel)

/-- a lowest-collapsing dense store (limit 4) -/
def exL : DStore := { exD with kind := .low 4 }
theorem exL_arr : ArrayStore exL := arrayStore_of_b _ (by decide +kernel)

/-- a highest-collapsing dense store (limit 4) -/
def exH : DStore := { exD with kind := .high 4 }
theorem exH_arr : ArrayStore exH := arrayStore_of_b _ (by decide +kernel)

/-- a paginated store with four buffered unit entries -/
def exP : PStore := { PStore.new with buffer := [3, 1, 2, 1], trigger := 64 }

theorem exP_ok : PagOK exP := pagOK_buffer_only _ _ (by decide) (by decide)

-- the two dense layouts are both exercised
example : Sketch.encodeDense exD .pos
    = some [.bins .pos (.contiguous 5 1
        [0x4008000000000000, 0x3ff0000000000000, 0x4000000000000000, 0x4010000000000000])] := by
  decide +kernel
example : Sketch.encodeDense exD2 .pos
    = some [.bins .pos (.deltasCounts [(-9, 0x4000000000000000), (19, 0x4010000000000000)])] := by
  decide +kernel

example : ∃ bl, Sketch.encodeStore (.sp [(-3, 2), (5, 1 / 2)]) .neg = some (.sp [(-3, 2), (5, 1 / 2)], bl) ∧
    (∀ b ∈ bl, b.WF ∧ b.FiniteWeights) ∧
    Wire.contentOf (sideBins (Wire.interp bl) .neg) = some [(-3, 2), (5, 1 / 2)] :=
  encodeStore_sparse_denotes _ (wf_of_wfb _ (by decide +kernel)) (by decide +kernel)
    (by decide +kernel) .neg

example : ∃ (bl : List Block) (c : Content), Sketch.encodeStore (.d exD) .pos = some (.d exD, bl) ∧
    (∀ b ∈ bl, b.WF ∧ b.FiniteWeights) ∧ c.WF ∧ (∀ j, c.lookup j = DStore.wt exD j) ∧
    exD.binsList = some c ∧ Wire.contentOf (sideBins (Wire.interp bl) .pos) = some c :=
  encodeStore_dense_denotes exD (exD_arr.inv rfl) exD_arr.bounded32 exD_arr.wt_wok .pos

example : ∃ (bl : List Block) (c : Content), Sketch.encodeStore (.d exD2) .neg = some (.d exD2, bl) ∧
    (∀ b ∈ bl, b.WF ∧ b.FiniteWeights) ∧ c.WF ∧ (∀ j, c.lookup j = DStore.wt exD2 j) ∧
    exD2.binsList = some c ∧ Wire.contentOf (sideBins (Wire.interp bl) .neg) = some c :=
  encodeStore_dense_denotes exD2 (exD2_arr.inv rfl) exD2_arr.bounded32 exD2_arr.wt_wok .neg

example : ∃ (bl : List Block) (c : Content), Sketch.encodeStore (.d exL) .pos = some (.d exL, bl) ∧
    (∀ b ∈ bl, b.WF ∧ b.FiniteWeights) ∧ c.WF ∧ (∀ j, c.lookup j = DStore.wt exL j) ∧
    exL.binsList = some c ∧ Wire.contentOf (sideBins (Wire.interp bl) .pos) = some c :=
  encodeStore_collapsing_denotes exL 4 (.inl (exL_arr.invLow 4 rfl (by decide) rfl)) exL_arr.tight32
    exL_arr.wt_wok .pos

example : ∃ (bl : List Block) (c : Content), Sketch.encodeStore (.d exH) .pos = some (.d exH, bl) ∧
    (∀ b ∈ bl, b.WF ∧ b.FiniteWeights) ∧ c.WF ∧ (∀ j, c.lookup j = DStore.wt exH j) ∧
    exH.binsList = some c ∧ Wire.contentOf (sideBins (Wire.interp bl) .pos) = some c :=
  encodeStore_collapsing_denotes exH 4 (.inr (exH_arr.invHigh 4 rfl (by decide) rfl)) exH_arr.tight32
    exH_arr.wt_wok .pos

theorem exP_content : PStore.content exP = [(1, 2), (2, 1), (3, 1)] := by
  rw [show exP = { PStore.new with buffer := [3, 1, 2, 1], trigger := 64 } from rfl,
    content_buffer_only _ _ (by decide)]
  decide +kernel

example : ∃ s' bl, Sketch.encodeStore (.pg exP) .pos = some (.pg s', bl) ∧ PStore.Inv s' ∧
    PStore.content s' = PStore.content exP ∧ (∀ b ∈ bl, b.WF ∧ b.FiniteWeights) ∧
    Wire.contentOf (sideBins (Wire.interp bl) .pos) = some (PStore.content exP) :=
  encodeStore_pag_denotes exP exP_ok .pos

/-- a sketch with a dense positive store, a paginated negative store and a zero bucket -/
def exS : Sketch := { mapping := some exM, pos := .d exD, neg := .pg exP, zero := .fin (3 / 4) }

def exCp : Content := [(5, 2), (7, 1), (8, 3)]
def exCn : Content := [(1, 2), (2, 1), (3, 1)]

theorem exD_lookup (j : Int) : exCp.lookup j = DStore.wt exD j := by
  have h : ∀ k : Nat, k < 4 → exCp.lookup (5 + (k : Int)) = DStore.wt exD (5 + (k : Int)) := by
    decide +kernel
  by_cases hj : 5 ≤ j ∧ j ≤ 8
  · have := h (j - 5).toNat (by omega)
    rwa [show (5 : Int) + ((j - 5).toNat : Int) = j by omega] at this
  · rw [exD_arr.outside j (by simp only [exD]; omega)]
    have : ¬ (5 = j) ∧ ¬ (7 = j) ∧ ¬ (8 = j) := by omega
    simp [exCp, Content.lookup, this.1, this.2.1, this.2.2]

theorem exS_refines : exS.Refines exCp exCn :=
  ⟨exD_arr.refines rfl exCp (wf_of_wfb _ (by decide +kernel)) exD_lookup, by
    have := Store.refines_pag exP exP_ok.inv
    rwa [exP_content] at this⟩

theorem exS_pos : EncOK exS.pos := denseOK_of_inv exD (exD_arr.inv rfl) exD_arr.bounded32 exD_arr.wt_wok
theorem exS_neg : EncOK exS.neg := exP_ok

example (om : Bool) : ∃ s' bl, exS.encode om = some (s', bl) ∧ (∀ b ∈ bl, b.WF ∧ b.FiniteWeights) ∧
    Sketch.decodeAndMergeWith (Sketch.new (if om then some exM else none) .sparse) (Wire.encBlocks bl)
      = some (.ok (Sketch.spec (some exM) exCp exCn (.fin (3 / 4)))) :=
  decode_encode exS exCp exCn exS_refines exS_pos exS_neg exM rfl exM_ok (3 / 4) rfl
    (by decide +kernel) om

-- merging into a receiver that already holds data
example : ∃ s' bl, exS.encode false = some (s', bl) ∧
    Sketch.decodeAndMergeWith (Sketch.spec (some exM) [(5, 1)] [(0, 4)] (.fin (1 / 4))) (Wire.encBlocks bl)
      = some (.ok (Sketch.spec (some exM) [(5, 3), (7, 1), (8, 3)] [(0, 4), (1, 2), (2, 1), (3, 1)] (.fin 1))) := by
  have := decode_into_nonempty_is_merge exS exCp exCn exS_refines exS_pos exS_neg exM rfl exM_ok
    exM_fin (3 / 4) rfl (by decide +kernel) false [(5, 1)] [(0, 4)] (wf_of_wfb _ (by decide +kernel))
    (wf_of_wfb _ (by decide +kernel)) (1 / 4) (by decide +kernel)
  rwa [show Content.merge [(5, 1)] exCp = [(5, 3), (7, 1), (8, 3)] by decide +kernel,
    show Content.merge [(0, 4)] exCn = [(0, 4), (1, 2), (2, 1), (3, 1)] by decide +kernel,
    show ((1 : Rat) / 4 + 3 / 4) = 1 by norm_num] at this

-- the sketch encoded twice into one stream decodes to the sketch merged with itself
example : ∃ s' bl, exS.encode false = some (s', bl) ∧
    Sketch.decodeAndMergeWith (Sketch.new none .sparse) (Wire.encBlocks bl ++ Wire.encBlocks bl)
      = some (.ok (Sketch.spec (some exM) [(5, 4), (7, 2), (8, 6)] [(1, 4), (2, 2), (3, 2)] (.fin (3 / 2)))) := by
  obtain ⟨s', bl, h1, h2, h3⟩ := decode_encode exS exCp exCn exS_refines exS_pos exS_neg exM rfl exM_ok
    (3 / 4) rfl (by decide +kernel) false
  obtain ⟨s'', bl', h1', h4⟩ := decode_into_nonempty_is_merge exS exCp exCn exS_refines exS_pos exS_neg
    exM rfl exM_ok exM_fin (3 / 4) rfl (by decide +kernel) false exCp exCn
    (wf_of_wfb _ (by decide +kernel)) (wf_of_wfb _ (by decide +kernel)) (3 / 4) (by decide +kernel)
  rw [h1] at h1'
  obtain ⟨rfl, rfl⟩ := Prod.mk.inj (Option.some.inj h1')
  simp only [Bool.false_eq_true, if_false] at h3
  refine ⟨s', bl, h1, ?_⟩
  rw [decode_concat bl bl (fun b hb => (h2 b hb).1) (fun b hb => (h2 b hb).1) _ _ h3, h4,
    show Content.merge exCp exCp = [(5, 4), (7, 2), (8, 6)] by decide +kernel,
    show Content.merge exCn exCn = [(1, 4), (2, 2), (3, 2)] by decide +kernel,
    show ((3 : Rat) / 4 + 3 / 4) = 3 / 2 by norm_num]

example : ∃ s' bl, exS.encode false = some (s', bl) ∧
    ∀ pre, Wire.encBlocks (pre ++ bl) = Wire.encBlocks pre ++ Wire.encBlocks bl := by
  obtain ⟨s', bl, h, _⟩ :=
    encode_observably_pure exS exCp exCn exS_refines exS_pos exS_neg exM rfl (3 / 4) rfl false
  exact ⟨s', bl, h, encode_appends exS false s' bl h⟩

example : Sketch.decodeLoop 2 (Sketch.new none .sparse) { stats := none }
      (Wire.encBlocks [exM.toBlock] ++ Wire.encBlocks [.zeroCount 0x3ffc000000000000]) =
    Sketch.andThen (Sketch.applyBlocks (Sketch.new none .sparse) { stats := none } [exM.toBlock])
      (fun s' aux' => Sketch.applyBlocks s' aux' [.zeroCount 0x3ffc000000000000]) :=
  decodeLoop_concat _ _ (by decide +kernel) (by decide +kernel) 2 (by decide) _ _

example : ∃ s' bl, exS.encode true = some (s', bl) ∧ s'.Refines exCp exCn ∧
    s'.mapping = exS.mapping ∧ s'.zero = exS.zero :=
  encode_observably_pure exS exCp exCn exS_refines exS_pos exS_neg exM rfl (3 / 4) rfl true

/-- the exact-summary variant around `exS`: total weight 43/4, sum 10, min −3, max 9 -/
def exX : XSketch :=
  { sk := exS, st := { count := .fin (43 / 4), sum := .fin 10, sumCompensation := .fin 0,
                       simpleSum := .fin 10, min := .fin (-3), max := .fin 9 } }

theorem exX_stats : StatsOK exX.st (43 / 4) 10 (-3) 9 :=
  ⟨rfl, by decide +kernel, by decide +kernel, by decide +kernel, by decide +kernel, rfl, rfl,
    by decide +kernel, by decide +kernel, by decide +kernel⟩

example : ∃ x' bl, exX.encode false = some (x', bl) ∧
    XSketch.decodeAndMergeWith (XSketch.new none .sparse) (Wire.encBlocks bl) =
      some (.ok { sk := Sketch.spec (some exM) exCp exCn (.fin (3 / 4)),
                  st := { count := .fin (43 / 4), sum := .fin 10, sumCompensation := .fin 0,
                          simpleSum := .fin 10, min := .fin (-3), max := .fin 9 } }) :=
  xsketch_decode_encode exX exCp exCn exS_refines exS_pos exS_neg exM rfl exM_ok (3 / 4) rfl
    (by decide +kernel) (43 / 4) 10 (-3) 9 exX_stats false

-- the plain decoder reads the exact-summary encoding: same sketch, statistics ignored
example : ∃ x' xbl, exX.encode false = some (x', xbl) ∧
    Sketch.decodeAndMergeWith (Sketch.new none .sparse) (Wire.encBlocks xbl) =
      some (.ok (Sketch.spec (some exM) exCp exCn (.fin (3 / 4)))) := by
  obtain ⟨s', bl, h1, h2, h3⟩ := decode_encode exS exCp exCn exS_refines exS_pos exS_neg exM rfl exM_ok
    (3 / 4) rfl (by decide +kernel) false
  have hx : exX.encode false = some ({ exX with sk := s' }, statBlocks exX.st ++ bl) := by
    rw [xencode_eq]
    show Option.map _ (exS.encode false) = _
    rw [h1]; rfl
  obtain ⟨sk', bl', e1, _, e3, e4⟩ := plain_decodes_exact exX _ false _ hx
  have : bl' = bl := by
    have e1' : exS.encode false = some (sk', bl') := e1
    rw [h1] at e1'
    exact (Prod.mk.inj (Option.some.inj e1')).2.symm
  subst this
  exact ⟨_, _, hx, by rw [e4 _ (fun b hb => (h2 b hb).1)]; exact h3⟩

end Examples

end DDS.Props.C06
