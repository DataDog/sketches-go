/-
  DDS.Props.NonVacuity — AUDIT of the hypotheses of the property theorems (C01 … C20).

  A hypothesis that is provably false makes its theorem vacuous.  This file guards against that:

  * every `Prop`-valued definition used as a hypothesis of a theorem of `DDS/Props/*.lean` gets a
    NON-TRIVIAL inhabitant (`<Pred>_inhabited`: a concrete, non-empty state);
  * every theorem with hypotheses that has no instantiating `example` in its own file is applied
    here to a concrete, non-trivial instance (`example : <conclusion instance> := thm …`), so that all
    its hypotheses are shown to be JOINTLY satisfiable.

  The index comes first: the inhabitants whose witnesses stand in the audited files already.  Then one
  section per property, in the order of the numbers, with the namespace of its property file open.  In a
  section each witness (a store, a history, a stream of blocks, with the facts evaluated about it) stands
  directly before the examples that use it; an inhabitant that needs a witness of its own stands in the
  section of the property whose theorems assume the predicate (the index says where).  Two witnesses
  serve more than one section: the store `pagS` of C04Pag is the one of C06, and C07 and C08 share the
  stream `bsW`, defined before the two.

  Not covered: `DDS/Proofs/{Dense,Collapsing,Refine}.lean`, `DDS/Props/C05.lean`.

  Only closed computations (`decide`, `decide +kernel`) and the theorems of the audited files are
  used; no axioms beyond `propext`, `Classical.choice`, `Quot.sound`.
-/
import DDS.Props.All

namespace DDS.Props.NonVacuity

section Index
open DDS DDS.RoundTrip

/-! ## Index: one non-trivial inhabitant per hypothesis predicate

Witnesses that exist in the Props/Proofs files are re-exported here under a uniform name
(`<Pred>_inhabited`), together with a non-triviality clause.  Those that need a witness of their own are
in the sections below: C02 `ExactSums_inhabited`, `ZeroRep_inhabited`; C04Pag `PStoreInv_inhabited`,
`PStoreInv_inhabited_page`, and `pagOps_ok`, `pagHOps_ok` for `Op.ok` / `HOp.ok`; C06 `PagOK_inhabited`;
C07, C08 `bsW_fin` for `Block.FiniteWeights`, `FiniteVarfloats_inhabited`; C10 `RepOK_inhabited`,
`RepFrom_inhabited`; C11 `qexact_noneg`, `qexact_nopos`; C14 `NZ_inhabited`, `PInv_inhabited`; C15
`PEmpty_inhabited`; C20 `DatasetInv_inhabited`, `ObsEq_inhabited`. -/

theorem Contract_inhabited : ∃ env α mn mx, Contract env α mn mx ∧
    env.index (.fin 3) ≠ env.index (.fin 5) ∧ env.value 0 ≠ env.value 1 :=
  ⟨QuantileEx.exEnv, _, _, _, QuantileEx.exContract, by decide +kernel, by decide +kernel⟩

theorem Accepted_inhabited : Sketch.Accepted 1000 C02.demoTree.flat ∧ C02.demoTree.flat.length = 6 :=
  ⟨C02.demo_acc, rfl⟩

theorem QExact_inhabited : QExact QuantileEx.exCp QuantileEx.exCn 0 (1 / 8) (1 / 4) ∧
    QuantileEx.exCp ≠ [] ∧ QuantileEx.exCn ≠ [] := ⟨QuantileEx.exExact, by decide, by decide⟩

/-- dense (`exD`) and paginated (`exP`) stores refining non-empty contents -/
theorem StoreRefines_inhabited : (Store.d C06.exD).Refines [(5, 2), (7, 1), (8, 3)] ∧
    (Store.pg C06.exP).Refines [(1, 2), (2, 1), (3, 1)] ∧ (Store.sp [(1, 2)]).Refines [(1, 2)] :=
  ⟨C06.exS_refines.pos, C06.exS_refines.neg, Store.refines_sparse _ (wf_of_wfb _ (by decide +kernel))⟩

theorem SketchRefines_inhabited : C06.exS.Refines [(5, 2), (7, 1), (8, 3)] [(1, 2), (2, 1), (3, 1)] :=
  C06.exS_refines

theorem WOK_inhabited : WOK 12345 ∧ WOK (3 / 8) ∧ ¬ WOK (1 / 3) ∧ ¬ WOK (1 / 2 ^ 60) := by
  refine ⟨by decide +kernel, by decide +kernel, by decide +kernel, by decide +kernel⟩

theorem VfOK_inhabited : VfOK (3 / 8) ∧ ¬ VfOK (1 / 2 ^ 60) :=
  ⟨by unfold VfOK; decide +kernel, by unfold VfOK; decide +kernel⟩

theorem Keys32_inhabited : Keys32 [(-3, 2), (5, 1 / 2)] ∧ ¬ Keys32 [(2 ^ 31, 1)] := by
  constructor
  · decide +kernel
  · intro h
    have := h (2 ^ 31, 1) (by simp)
    revert this
    decide

theorem MapOK_inhabited : MapOK C06.exM ∧ MapFinite C06.exM := ⟨C06.exM_ok, C06.exM_fin⟩

theorem DenseOK_inhabited : DenseOK C06.exD ∧ DenseOK C06.exL ∧ DenseOK C06.exH ∧ C06.exD.bins = #[2, 0, 1, 3] :=
  ⟨C06.exS_pos, denseOK_of_invLow 4 _ (C06.exL_arr.invLow 4 rfl (by decide) rfl) C06.exL_arr.tight32 C06.exL_arr.wt_wok,
    denseOK_of_invHigh 4 _ (C06.exH_arr.invHigh 4 rfl (by decide) rfl) C06.exH_arr.tight32 C06.exH_arr.wt_wok, rfl⟩

theorem EncOK_inhabited : EncOK (.d C06.exD) ∧ EncOK (.pg C06.exP) ∧ EncOK (.sp [(-3, 2), (5, 1 / 2)]) :=
  ⟨C06.exS_pos, C06.exS_neg, by decide +kernel, by decide +kernel⟩

theorem StatsOK_inhabited : StatsOK C06.exX.st (43 / 4) 10 (-3) 9 := C06.exX_stats

theorem ArrayStore_inhabited : ArrayStore C06.exD ∧ ArrayStore C06.exD2 := ⟨C06.exD_arr, C06.exD2_arr⟩

theorem BlockWF_inhabited :
    Block.WF (.bins .neg (.deltasCounts [(-7, 0x4000000000000000)])) ∧
    Block.WF (.mapping 0 0x3ff051eb851eb852 0) ∧ ¬ Block.WF (.mapping 64 0 0) ∧
    ¬ Block.WF (.bins .pos (.deltas [2 ^ 63])) := by decide

theorem StoreKeys32_inhabited : Proto.StoreKeys32 C09.sp3 ∧ Proto.StoreKeys32 C09.d3 := ⟨C09.sp3_keys, C09.d3_keys⟩

theorem FitsLen_inhabited : C09.FitsLen C09.sp3 ∧ C09.FitsLen C09.d3 :=
  ⟨by unfold C09.FitsLen; decide, by unfold C09.FitsLen; decide⟩

theorem IsSpec_inhabited : ∃ s, C02.demoTree.eval C02.demoEnv = some s ∧ s.IsSpec :=
  (C02.merge_tree_eq C02.demoEnv (1 / 1000) 1000 rfl rfl (by decide +kernel) C02.demo_refl C02.demoTree C02.demo_acc
    C02.demo_exact).2

theorem Exact_inhabited : Rebin.Exact (5 - 1) ∧ ¬ Rebin.Exact (1 / 3) := by
  refine ⟨C17.ex_hsize, ?_⟩
  unfold Rebin.Exact
  decide +kernel

theorem Idx32_inhabited : PStore.Idx32 (-7) ∧ ¬ PStore.Idx32 (2 ^ 31) ∧ Proto.I32 (-7) ∧ ¬ Proto.I32 (2 ^ 31) ∧
    I64 (2 ^ 31) ∧ ¬ I64 (2 ^ 63) := by
  refine ⟨⟨by decide, by decide⟩, ?_, by decide, by decide, by decide, by decide⟩
  intro h
  exact absurd h.2 (by decide)

theorem Valid_inhabited : C19.Valid C19.m102 := C19.m102_valid

end Index

/-! ## C01 -/
section C01
open DDS DDS.QuantileEx
open DDS.Props.C01

theorem c01_inputs : exXs ≠ [] ∧ exXs.length ≤ 2 ^ 53 := ⟨exXs_ne, exXs_len⟩

example : ∃ s, Sketch.addAll exEnv (Sketch.new (some exEnv.id) .sparse) (exXs.map (fun x => (x, 1))) = some s ∧
    (∀ q : Rat, 0 ≤ q → q ≤ 1 → ∃ k : Nat, k < exXs.length ∧
      ((k : Int) = ⌊q * ((exXs.length : Rat) - 1)⌋ ∨ (k : Int) = ⌈q * ((exXs.length : Rat) - 1)⌉) ∧
      Sketch.quantile exEnv s (.fin q) = .ok (
        let x := (sortedInputs (4 / 3) exXs)[k]!
        if 0 < x then exEnv.value (exEnv.index (.fin (rabs x)))
        else if x < 0 then F64.neg (exEnv.value (exEnv.index (.fin (rabs x))))
        else .fin 0)) ∧
    ((∀ y ∈ sortedInputs (4 / 3) exXs, (sortedInputs (4 / 3) exXs)[0]! ≤ y) ∧
      Sketch.quantile exEnv s (.fin 0) = .ok (
        let x := (sortedInputs (4 / 3) exXs)[0]!
        if 0 < x then exEnv.value (exEnv.index (.fin (rabs x)))
        else if x < 0 then F64.neg (exEnv.value (exEnv.index (.fin (rabs x))))
        else .fin 0)) ∧
    ((∀ y ∈ sortedInputs (4 / 3) exXs, y ≤ (sortedInputs (4 / 3) exXs)[exXs.length - 1]!) ∧
      Sketch.quantile exEnv s (.fin 1) = .ok (
        let x := (sortedInputs (4 / 3) exXs)[exXs.length - 1]!
        if 0 < x then exEnv.value (exEnv.index (.fin (rabs x)))
        else if x < 0 then F64.neg (exEnv.value (exEnv.index (.fin (rabs x))))
        else .fin 0)) := by
  obtain ⟨s, hs⟩ := addAll_ok exEnv _ _ _ exContract exXs exXs_ok
  exact ⟨s, hs,
    fun q h0 h1 => quantile_bin exEnv _ _ _ exContract exXs exXs_ok c01_inputs.1 c01_inputs.2 s hs q h0 h1,
    quantile_zero exEnv _ _ _ exContract exXs exXs_ok c01_inputs.1 c01_inputs.2 s hs,
    quantile_one exEnv _ _ _ exContract exXs exXs_ok c01_inputs.1 c01_inputs.2 s hs⟩

end C01

/-! ## C02 -/
section C02
open DDS DDS.QuantileEx
open DDS.Props.C02 DDS.Sketch

theorem ExactSums_inhabited : ∃ ws : List Rat, ExactSums ws ∧ ws ≠ [] ∧ ws.sum ≠ 0 :=
  ⟨[1, 2], demo_zero ▸ demo_exact, by decide, by decide +kernel⟩

theorem ZeroRep_inhabited : ∃ q : Rat, q ≠ 0 ∧ ZeroRep (.fin q) :=
  ⟨5, by decide +kernel, by show F64.isRep 5 = true; decide +kernel⟩

theorem demo_flat_ne : demoTree.flat ≠ [] := by decide

example : demoTree.eval demoEnv =
      Sketch.addAll demoEnv (Sketch.new (some demoEnv.id) .sparse) demoTree.flat ∧
    ∃ s, demoTree.eval demoEnv = some s ∧ s.IsSpec :=
  merge_tree_eq demoEnv (1 / 1000) 1000 rfl rfl (by decide +kernel) demo_refl demoTree demo_acc demo_exact

/-- a differently shaped tree over a permutation of the same inputs -/
def demoTree' : MergeTree :=
  .node (.node (.leaf [(5, 1), (1 / 2000, 2)]) (.leaf [(7, 3)])) (.leaf [(-3, 1), (0, 1), (5, 2)])

example : demoTree.eval demoEnv = demoTree'.eval demoEnv ∧ (demoTree.eval demoEnv).isSome :=
  merge_tree_perm demoEnv (1 / 1000) 1000 rfl rfl (by decide +kernel) demo_refl demoTree demoTree'
    (by decide +kernel) demo_acc demo_exact

example : fsum (.fin 0) (zeroPart (1 / 1000) demoTree.flat) = .fin (zeroPart (1 / 1000) demoTree.flat).sum :=
  fsum_exact _ demo_exact

/-- `target_isSpec` on the demo tree, whose inputs fall on both sides and in the zero bucket -/
example : (target demoEnv (1 / 1000) demoTree.flat).IsSpec :=
  target_isSpec demoEnv (1 / 1000) 1000 _ demo_acc

/-- `merge_pure_argument` on NON-EMPTY arguments of different store kinds: a dense store holding
    `10 ↦ 1, 11 ↦ 2, 12 ↦ 3` and the sparse store with the same bins -/
def pureO : Sketch := { mapping := some demoId, pos := C09.d3, neg := .sp [(2, 1)], zero := .fin 1 }
def pureO' : Sketch := { mapping := some demoId, pos := .sp [(10, 1), (11, 2), (12, 3)], neg := .sp [(2, 1)], zero := .fin 1 }

example : pureO.pos.binsList = pureO'.pos.binsList ∧ pureO'.pos.binsList = some [(10, 1), (11, 2), (12, 3)] := by
  decide +kernel

example : (spec (some demoId) [(1, 2)] [] (.fin 0)).mergeWith pureO
      = (spec (some demoId) [(1, 2)] [] (.fin 0)).mergeWith pureO' :=
  merge_pure_argument _ _ _ _ pureO pureO' rfl (by decide +kernel) rfl rfl

end C02

/-! ## C03 -/
section C03
open DDS
open DDS.Props.C03

example (k : MKind) :
    -2147483648 ≤ Mapping.index (⟨k, 2, 0⟩ : Mapping.Params ℝ) 1 ∧
      Mapping.index (⟨k, 2, 0⟩ : Mapping.Params ℝ) 1 ≤ 2147483647 :=
  index_int32 ⟨k, 2, 0⟩ (by norm_num) 1 (RealMap.one_indexable k).1 (RealMap.one_indexable k).2

example (k : MKind) (off : ℝ) :
    Mapping.index (⟨k, 2, off⟩ : Mapping.Params ℝ) 3 ≤ Mapping.index ⟨k, 2, off⟩ 5 ∧
    Mapping.lowerBound (⟨k, 2, off⟩ : Mapping.Params ℝ) (Mapping.index ⟨k, 2, off⟩ 3) ≤ 3 ∧
    (3 : ℝ) ≤ Mapping.lowerBound (⟨k, 2, off⟩ : Mapping.Params ℝ) (Mapping.index ⟨k, 2, off⟩ 3 + 1) ∧
    Mapping.lowerBound (⟨k, 2, off⟩ : Mapping.Params ℝ) 4 < Mapping.lowerBound ⟨k, 2, off⟩ 7 ∧
    (0 < Mapping.relativeAccuracy (⟨k, 2, off⟩ : Mapping.Params ℝ) ∧
      Mapping.relativeAccuracy (⟨k, 2, off⟩ : Mapping.Params ℝ) < 1) ∧
    Mapping.relativeAccuracy (Mapping.ofAlpha k (1 / 100 : ℝ)) = 1 / 100 :=
  ⟨index_mono _ (by norm_num) 3 5 (by norm_num) (by norm_num), lowerBound_le _ (by norm_num) 3 (by norm_num),
    le_lowerBound_succ _ (by norm_num) 3 (by norm_num), lowerBound_strictMono _ (by norm_num) 4 7 (by norm_num),
    relativeAccuracy_pos_lt_one _ (by norm_num), relativeAccuracy_ofAlpha k _ (by norm_num) (by norm_num)⟩

end C03

/-! ## C04Pag -/
section C04
open DDS

deriving instance DecidableEq for PStore

open DDS.PStore DDS.Props.C04Pag

/-- admissible arguments, as a test that evaluates -/
def okB : Op → Bool
  | .add i w _ => decide (minInt32 ≤ i ∧ i ≤ maxInt32 ∧ 0 ≤ w)
  | .reweight w => decide (0 < w)
  | _ => true

theorem ok_of_b (ops : List Op) (h : ops.all okB = true) : ∀ op ∈ ops, op.ok := by
  intro op hop
  have := List.all_eq_true.1 h op hop
  cases op with
  | add i w c => obtain ⟨h1, h2, h3⟩ := of_decide_eq_true this; exact ⟨⟨h1, h2⟩, h3⟩
  | reweight w => exact of_decide_eq_true (p := 0 < w) this
  | _ => trivial

theorem binsOK_of_b (l : List (Int × Rat))
    (h : (l.all fun p => decide (minInt32 ≤ p.1 ∧ p.1 ≤ maxInt32 ∧ 0 ≤ p.2)) = true) :
    ∀ p ∈ l, Idx32 p.1 ∧ 0 ≤ p.2 := by
  intro p hp
  obtain ⟨h1, h2, h3⟩ := of_decide_eq_true (List.all_eq_true.1 h p hp)
  exact ⟨⟨h1, h2⟩, h3⟩

/-- a history that materialises a page (weight `5/2` goes straight to a page line), buffers an
    entry, reweights, and reads -/
def pagOps : List Op := [.add 3 (5 / 2) false, .add 40 1 false, .sortRead, .add 3 1 true, .reweight 2]

theorem pagOps_ok : ∀ op ∈ pagOps, op.ok := ok_of_b _ (by decide +kernel)

theorem pagOps_spec : specRun [] pagOps = [(3, 7), (40, 2)] := by decide +kernel

/-- `PStore.Inv` has a non-trivial inhabitant: non-empty content, reached by a real history -/
theorem PStoreInv_inhabited :
    ∃ s, PStore.Inv s ∧ content s = [(3, 7), (40, 2)] ∧ s.totalCount = 9 ∧ s.isEmpty = false ∧
      s.minIndex? = some 3 ∧ s.maxIndex? = some 40 := by
  obtain ⟨s, _, h2, h3, h4, h5, h6, h7, _⟩ := history_observers pagOps pagOps_ok
  rw [pagOps_spec] at h3 h4 h5 h6 h7
  exact ⟨s, h2, h3, by rw [h4]; decide +kernel, by rw [h5]; decide +kernel,
    by rw [h6]; decide +kernel, by rw [h7]; decide +kernel⟩

/-- the two-step prefix is computable (no sorting involved): one materialised page of 32 lines among
    8 slots (index 3 ↦ 5/2 on page 0, slot 4), one buffered entry (index 40) -/
def pagOps2 : List Op := [.add 3 (5 / 2) false, .add 40 1 false]

def pagS : PStore :=
  { buffer := [40], trigger := 64,
    pages := (Array.replicate 8 #[]).setIfInBounds 4 ((Array.replicate 32 (0 : Rat)).setIfInBounds 3 (5 / 2)),
    minPageIndex := -4, pageLenLog2 := 5 }

theorem pagS_run : run PStore.new pagOps2 = some pagS := by decide +kernel

theorem pagOps2_ok : ∀ op ∈ pagOps2, op.ok := ok_of_b _ (by decide +kernel)

/-- what the history theorem says of `pagS` -/
theorem pagS_hist : PStore.Inv pagS ∧ content pagS = [(3, 5 / 2), (40, 1)] := by
  obtain ⟨s, h1, h2, h3⟩ := history_content pagOps2 pagOps2_ok
  cases pagS_run.symm.trans h1
  exact ⟨h2, h3.trans (by decide +kernel)⟩

/-- `PStore.Inv` holds of a store with a materialised page AND a buffered entry -/
theorem PStoreInv_inhabited_page :
    ∃ s, PStore.Inv s ∧ s.pages.size = 8 ∧ (s.pages.getD 4 #[]).size = 32 ∧ s.buffer = [40] ∧
      content s = [(3, 5 / 2), (40, 1)] :=
  ⟨pagS, pagS_hist.1, by decide, by decide, rfl, pagS_hist.2⟩

/-! the per-operation theorems, applied to the store of `PStoreInv_inhabited` -/
example : ∃ s, PStore.Inv s ∧ content s = [(3, 7), (40, 2)] ∧
    (content s).WF ∧ (content s).lookup 3 = wt s 3 ∧
    (∃ s', s.addWithCount 5 (1 / 2) true = some s' ∧ Inv s' ∧ content s' = (content s).add 5 (1 / 2)) ∧
    (∃ s', s.addUnit 40 true = some s' ∧ Inv s' ∧ content s' = (content s).add 40 1) ∧
    (∃ s', s.compact = some s' ∧ Inv s' ∧ content s' = content s) ∧
    (Inv s.clear ∧ content s.clear = []) ∧
    (∃ s', s.reweight (1 / 4) = some s' ∧ Inv s' ∧ content s' = (content s).scale (1 / 4)) ∧
    (∃ s', s.mergeSame s = some s' ∧ Inv s' ∧ content s' = (content s).merge (content s)) ∧
    (∃ s', s.mergeBins [(3, 1), (-7, 2)] = some s' ∧ Inv s' ∧ content s' = (content s).merge [(3, 1), (-7, 2)]) := by
  obtain ⟨s, hI, hc, _⟩ := PStoreInv_inhabited
  exact ⟨s, hI, hc, PStore.content_wf s hI, C04Pag.lookup_content s hI 3,
    add_content s hI 5 ⟨by decide, by decide⟩ (1 / 2) (by decide +kernel) true,
    addUnit_content s hI 40 ⟨by decide, by decide⟩ true,
    compact_content s hI, clear_content s hI,
    reweight_content s hI (1 / 4) (by decide +kernel),
    C04Pag.mergeSame_content s s hI hI,
    mergeBins_content s hI _ (binsOK_of_b _ (by decide +kernel))⟩

example : ∃ s, PStore.Inv s ∧ s.binsList = content s ∧ s.totalCount = (content s).total ∧
    content s = [(3, 7), (40, 2)] := by
  obtain ⟨s, hI, hc, _⟩ := PStoreInv_inhabited
  obtain ⟨o1, o2, _⟩ := observers_eq s hI
  exact ⟨s, hI, o1, o2, hc⟩

example : ∃ s, PStore.Inv s ∧ content s = [(3, 7), (40, 2)] := by
  obtain ⟨s, hI, hc, _⟩ := PStoreInv_inhabited
  have := content_unique s hI [(3, 7), (40, 2)] (hc ▸ PStore.content_wf s hI)
    (fun j => by rw [← hc]; exact (C04Pag.lookup_content s hI j).symm)
  exact ⟨s, hI, this⟩

/-- add-only histories, two compaction schedules -/
def pagAdds : List (Int × Rat) := [(3, 1), (40, 1), (3, 1), (-100, 1 / 2), (40, 1)]

theorem pagAdds_ok : ∀ a ∈ pagAdds, Idx32 a.1 ∧ 0 ≤ a.2 := binsOK_of_b _ (by decide +kernel)

example : ∃ s₁ s₂,
    run PStore.new ((pagAdds.zip [true, true, true, true, true]).map fun a => Op.add a.1.1 a.1.2 a.2) = some s₁ ∧
    run PStore.new ((pagAdds.zip [false, true, false, false, true]).map fun a => Op.add a.1.1 a.1.2 a.2) = some s₂ ∧
    content s₁ = content s₂ :=
  compaction_schedule_irrelevant pagAdds _ _ rfl rfl pagAdds_ok

example : ∃ s, run PStore.new ([((3 : Int), (1 : Rat), true), (40, 1 / 2, false)].map fun a => Op.add a.1 a.2.1 a.2.2) = some s ∧
    Inv s ∧ content s = Content.ofList ([((3 : Int), (1 : Rat), true), (40, 1 / 2, false)].map fun a => (a.1, a.2.1)) :=
  adds_content _ (by
    intro a ha
    simp only [List.mem_cons, List.not_mem_nil, or_false] at ha
    rcases ha with rfl | rfl <;> exact ⟨⟨by decide, by decide⟩, by decide +kernel⟩)

/-- a history with a same-kind merge (whose argument is itself a non-trivial history) and a
    fallback merge -/
def pagHOps : List HOp :=
  [.base (.add 3 (5 / 2) false), .mergeSame pagOps, .mergeBins [(3, 1), (-7, 2)], .base (.reweight (1 / 2))]

theorem pagHOps_ok : ∀ op ∈ pagHOps, op.ok := by
  intro op hop
  simp only [pagHOps, List.mem_cons, List.not_mem_nil, or_false] at hop
  rcases hop with rfl | rfl | rfl | rfl
  · exact ⟨⟨by decide, by decide⟩, by decide +kernel⟩
  · exact pagOps_ok
  · exact binsOK_of_b _ (by decide +kernel)
  · show (0 : Rat) < 1 / 2; decide +kernel

theorem pagHOps_spec : specHRun [] pagHOps = [(-7, 1), (3, 21 / 4), (40, 1)] := by decide +kernel

example : ∃ s, hrun PStore.new pagHOps = some s ∧ Inv s ∧ s.binsList = [(-7, 1), (3, 21 / 4), (40, 1)] ∧
    s.totalCount = 29 / 4 ∧ s.minIndex? = some (-7) := by
  obtain ⟨s, h1, h2, h3, h4, _, h6, _⟩ := hhistory_observers pagHOps pagHOps_ok
  rw [pagHOps_spec] at h3 h4 h6
  exact ⟨s, h1, h2, h3, by rw [h4]; decide +kernel, by rw [h6]; decide +kernel⟩

example : ∃ s, PStore.Inv s ∧ content s = [(3, 7), (40, 2)] ∧
    ∃ s₁ s₂, hrun s.clear pagHOps = some s₁ ∧ hrun PStore.new pagHOps = some s₂ ∧
      content s₁ = content s₂ := by
  obtain ⟨s, hI, hc, _⟩ := PStoreInv_inhabited
  exact ⟨s, hI, hc, clear_like_new s hI pagHOps pagHOps_ok⟩

end C04

/-! ## C06: `PagOK` of the store `pagS` of C04Pag, and the round trip with it -/
section C06
open DDS DDS.RoundTrip

theorem pagS_inv : PStore.Inv pagS := pagS_hist.1

theorem pagS_line (j : Int) : pagS.line j = if j = 3 then 5 / 2 else 0 := by
  by_cases h3 : j = 3
  · subst h3; decide +kernel
  by_cases h40 : j = 40
  · subst h40; decide +kernel
  -- elsewhere the content holds nothing and nothing is buffered
  have hw : pagS.wt j = 0 := by
    rw [← PStore.lookup_content pagS pagS_inv j, pagS_hist.2]
    apply Content.lookup_eq_zero_of_not_mem
    intro p hp
    simp only [List.mem_cons, List.not_mem_nil, or_false] at hp
    rcases hp with rfl | rfl
    exacts [Ne.symm h3, Ne.symm h40]
  have hc : List.count j pagS.buffer = 0 := List.count_eq_zero.2 (by simpa [pagS] using h40)
  rw [PStore.wt, hc, Nat.cast_zero, add_zero] at hw
  rw [if_neg h3, hw]

theorem pagS_ok : PagOK pagS where
  inv := pagS_inv
  bufLen := by decide
  wok := fun j k hk => by
    have hk' : k ≤ List.count j [40] := hk
    rw [pagS_line]
    by_cases h3 : j = 3
    · subst h3
      cases Nat.eq_zero_of_le_zero hk'
      decide +kernel
    · rw [if_neg h3, zero_add]
      exact wOK_nat k ((hk'.trans List.count_le_length).trans_lt (by decide))

/-- `PagOK` (whose `wok` field quantifies over ALL integers) holds of a store with a materialised
    page and a buffered entry -/
theorem PagOK_inhabited : ∃ s : PStore, PagOK s ∧ s.buffer = [40] ∧ (s.pages.getD 4 #[]).size = 32 ∧
    s.line 3 = 5 / 2 := ⟨pagS, pagS_ok, rfl, by decide, by decide +kernel⟩

theorem pagS_content : PStore.content pagS = [(3, 5 / 2), (40, 1)] := pagS_hist.2

example : ∃ s' bl, Sketch.encodeStore (.pg pagS) .pos = some (.pg s', bl) ∧ PStore.Inv s' ∧
    PStore.content s' = PStore.content pagS ∧ (∀ b ∈ bl, b.WF ∧ b.FiniteWeights) ∧
    Wire.contentOf (sideBins (Wire.interp bl) .pos) = some (PStore.content pagS) :=
  C06.encodeStore_pag_denotes pagS pagS_ok .pos

/-- the round trip with that store on the positive side and a dense store on the negative side -/
def exS2 : Sketch := { mapping := some C06.exM, pos := .pg pagS, neg := .d C06.exD, zero := .fin (3 / 4) }

example (om : Bool) : ∃ s' bl, exS2.encode om = some (s', bl) ∧ (∀ b ∈ bl, b.WF ∧ b.FiniteWeights) ∧
    Sketch.decodeAndMergeWith (Sketch.new (if om then some C06.exM else none) .sparse) (Wire.encBlocks bl)
      = some (.ok (Sketch.spec (some C06.exM) [(3, 5 / 2), (40, 1)] C06.exCp (.fin (3 / 4)))) :=
  C06.decode_encode exS2 _ _
    ⟨by have := Store.refines_pag pagS pagS_inv; rwa [pagS_content] at this, C06.exS_refines.pos⟩
    pagS_ok C06.exS_pos C06.exM rfl C06.exM_ok (3 / 4) rfl (by decide +kernel) om

end C06

/-! ## C07, C08: the stream of four blocks both use -/
section WireFormat
open DDS DDS.Codec DDS.Wire

def bsW : List Block :=
  [.mapping 0 0x3ff2000000000000 0, .zeroCount 0x4008000000000000,
   .bins .pos (.deltasCounts [(-7, 0x4000000000000000)]),
   .bins .neg (.contiguous 3 1 [0x4000000000000000, 0x3ff8000000000000])]

def finWB : Block → Bool
  | .bins _ p => (Wire.payloadBins p).all (fun q => q.2.isFinite)
  | _ => true

theorem finW_of_b (b : Block) (h : finWB b = true) : b.FiniteWeights := by
  cases b <;> try trivial
  rename_i side p
  intro q hq
  simp only [finWB, List.all_eq_true] at h
  exact h q hq

theorem finW_all (l : List Block) (h : l.all finWB = true) : ∀ b ∈ l, b.FiniteWeights :=
  fun b hb => finW_of_b b (List.all_eq_true.1 h b hb)

theorem bsW_wf : ∀ b ∈ bsW, b.WF := by decide
theorem bsW_fin : ∀ b ∈ bsW, b.FiniteWeights := finW_all _ (by decide +kernel)

/-- observable part of a decoder-loop result -/
def obsR (r : Option (Except SkErr (Sketch × Sketch.DecAux))) :
    Option (Option (Option MapId × Option Content × Option Content × F64)) :=
  r.map (fun e => e.toOption.map (fun p => (p.1.mapping, p.1.pos.binsList, p.1.neg.binsList, p.1.zero)))

set_option synthInstance.maxSize 1024 in
theorem bsW_apply : obsR (Sketch.applyBlocks (Sketch.spec none [] [] (.fin 0)) { stats := none } bsW) =
    some (some (some ⟨.log, .fin (9 / 8), .fin 0⟩, some [(-7, 1)], some [(3, 1), (4, 1 / 2)], .fin 2)) := by
  decide +kernel

theorem bsW_apply_ok : ∃ s' aux', Sketch.applyBlocks (Sketch.spec none [] [] (.fin 0)) { stats := none } bsW
    = some (.ok (s', aux')) := by
  have h := bsW_apply
  cases hr : Sketch.applyBlocks (Sketch.spec none [] [] (.fin 0)) { stats := none } bsW with
  | none => rw [hr] at h; cases h
  | some e =>
    cases e with
    | error e => rw [hr] at h; cases h
    | ok r => exact ⟨r.1, r.2, rfl⟩

/-! ## C07 -/
section C07
open DDS.Props.C07

example : flagType (mkFlag 3 5) = 3 ∧ flagSub (mkFlag 3 5) = 5 := C07.flag_fields 3 5 (by decide)

example : Wire.parseBlocks (Wire.encBlocks (bsW.take 2) ++ Wire.encBlocks (bsW.drop 2)) = .ok (bsW.take 2 ++ bsW.drop 2) :=
  C07.parseBlocks_concat _ _ (by decide) (by decide)

example (n : Nat) (s : Sketch) (aux : Sketch.DecAux) (tail : Bytes) :
    Sketch.decodeLoop (n + 1) s aux (Wire.encBlock (.bins .neg (.contiguous 3 1 [0x4000000000000000, 0x3ff8000000000000])) ++ tail) =
      Sketch.andThen (Sketch.applyBlock s aux (.bins .neg (.contiguous 3 1 [0x4000000000000000, 0x3ff8000000000000])))
        (fun s' aux' => Sketch.decodeLoop n s' aux' tail) :=
  C07.decodeLoop_encBlock _ (by decide) n s aux tail

/-- `C07.decodeLoop_eq_interp` on a four-block stream (mapping, zero count, both stores), and the
    fold it reduces to is a success with the expected content -/
example : Sketch.decodeLoop 4 (Sketch.spec none [] [] (.fin 0)) { stats := none } (Wire.encBlocks bsW)
      = Sketch.applyBlocks (Sketch.spec none [] [] (.fin 0)) { stats := none } bsW ∧
    obsR (Sketch.applyBlocks (Sketch.spec none [] [] (.fin 0)) { stats := none } bsW) =
      some (some (some ⟨.log, .fin (9 / 8), .fin 0⟩, some [(-7, 1)], some [(3, 1), (4, 1 / 2)], .fin 2)) :=
  ⟨C07.decodeLoop_eq_interp bsW bsW_wf 4 (by decide) _ _, bsW_apply⟩

example : Sketch.decodeLoop 30 (Sketch.spec none [] [] (.fin 0)) { stats := none } (Wire.encBlocks bsW)
      = Sketch.applyBlocks (Sketch.spec none [] [] (.fin 0)) { stats := none } bsW :=
  C07.decodeLoop_eq_interp_spec bsW bsW_wf 30 (by decide) none [] [] (.fin 0) _ rfl _

example : ∃ s' aux', Sketch.applyBlocks (Sketch.spec none [] [] (.fin 0)) { stats := none } bsW = some (.ok (s', aux')) ∧
    s'.zero = (zeroIncrements bsW).foldl F64.add (.fin 0) ∧
    Sketch.addBins (.sp []) (interp bsW).pos = some s'.pos ∧
    Sketch.addBins (.sp []) (interp bsW).neg = some s'.neg := by
  obtain ⟨s', aux', h⟩ := bsW_apply_ok
  exact ⟨s', aux', h, C07.applyBlocks_interp bsW _ s' _ aux' h⟩

example : ∃ s' aux', Sketch.decodeLoop 4 (Sketch.spec none [] [] (.fin 0)) { stats := none } (Wire.encBlocks bsW)
      = some (.ok (s', aux')) ∧
    s'.zero = (interp bsW).zero ∧
    (∃ cp, contentOf (interp bsW).pos = some cp ∧ s'.pos = .sp cp) ∧
    (∃ cn, contentOf (interp bsW).neg = some cn ∧ s'.neg = .sp cn) := by
  obtain ⟨s', aux', h⟩ := bsW_apply_ok
  have hd : Sketch.decodeLoop 4 (Sketch.spec none [] [] (.fin 0)) { stats := none } (Wire.encBlocks bsW)
      = some (.ok (s', aux')) := by
    rw [C07.decodeLoop_eq_interp bsW bsW_wf 4 (by decide)]; exact h
  exact ⟨s', aux', hd, C07.decode_empty_spec_eq_interp bsW bsW_wf 4 (by decide) none s' _ aux' hd⟩

end C07

/-! ## C08 -/
section C08
open DDS.Props.C08

/-- the bytes of `bsW` (blocks of 17, 2, 4 and 6 bytes) -/
def bytesW : Bytes :=
  [2, 0, 0, 0, 0, 0, 0, 242, 63, 0, 0, 0, 0, 0, 0, 0, 0, 4, 3, 5, 1, 13, 2, 15, 2, 6, 2, 2, 1]

theorem bytesW_eq : Wire.encBlocks bsW = bytesW := by decide

def fvfB (bytes : Bytes) : Bool :=
  bytes.tails.all fun suf =>
    match decVarfloat64 suf with
    | .ok (c, _) => c.isFinite
    | .error _ => true

theorem finiteVarfloats_of_b (bytes : Bytes) (h : fvfB bytes = true) : Sketch.FiniteVarfloats bytes := by
  intro suf c rest hs hd
  have hm : suf ∈ bytes.tails := (List.mem_tails _ _).2 hs
  have := List.all_eq_true.1 h suf hm
  rw [hd] at this
  exact this

theorem bytesW_fvf : Sketch.FiniteVarfloats bytesW := finiteVarfloats_of_b _ (by decide +kernel)

/-- `FiniteVarfloats` holds of a non-empty byte string in which varfloats CAN be read -/
theorem FiniteVarfloats_inhabited : ∃ bytes : Bytes, Sketch.FiniteVarfloats bytes ∧ bytes.length = 29 ∧
    ∃ suf c rest, suf <:+ bytes ∧ decVarfloat64 suf = .ok (c, rest) ∧ c = .fin 2 :=
  ⟨bytesW, bytesW_fvf, rfl, [3, 5, 1, 13, 2, 15, 2, 6, 2, 2, 1], .fin 2, [5, 1, 13, 2, 15, 2, 6, 2, 2, 1],
    ⟨[2, 0, 0, 0, 0, 0, 0, 242, 63, 0, 0, 0, 0, 0, 0, 0, 0, 4], rfl⟩, by decide +kernel, rfl⟩

/-- the predicate is not always true: a `+Inf` varfloat (`0x7ff0…` − 1 = +Inf) -/
example : ¬ Sketch.FiniteVarfloats (encVarfloatBits 0x7ff0000000000000) := by
  intro h
  have := h (encVarfloatBits 0x7ff0000000000000) .pinf [] (List.suffix_refl _) (by decide +kernel)
  cases this

example : (∃ j, 19 = (Wire.encBlocks (bsW.take j)).length ∧
        Wire.parseBlocks ((Wire.encBlocks bsW).take 19) = .ok (bsW.take j))
    ∨ Wire.parseBlocks ((Wire.encBlocks bsW).take 19) = .error .eof :=
  C08.parseBlocks_cut bsW bsW_wf 19 (by decide)

example : (∃ j, 21 = (Wire.encBlocks (bsW.take j)).length ∧
        Wire.parseBlocks ((Wire.encBlocks bsW).take 21) = .ok (bsW.take j))
    ∨ Wire.parseBlocks ((Wire.encBlocks bsW).take 21) = .error .eof :=
  C08.parseBlocks_cut bsW bsW_wf 21 (by decide)

example : ∃ j, j ≤ bsW.length ∧
      ((21 = (Wire.encBlocks (bsW.take j)).length ∧
          (Wire.encBlocks bsW).take 21 = Wire.encBlocks (bsW.take j)) ∨
       (∃ b k', b ∈ bsW ∧ 0 < k' ∧ k' < (Wire.encBlock b).length ∧
          (Wire.encBlocks bsW).take 21 = Wire.encBlocks (bsW.take j) ++ (Wire.encBlock b).take k')) :=
  C08.encBlocks_take bsW 21 (by decide)

example : Wire.parseBlocks (Wire.encBlocks (bsW.take 3) ++
      (Wire.encBlock (.bins .neg (.contiguous 3 1 [0x4000000000000000, 0x3ff8000000000000]))).take 4) = .error .eof :=
  C08.parseBlocks_cut_inside _ (by decide) _ (by decide) 4 (by decide) (by decide)

example (out : List Block) : Wire.parseBlocks (Wire.encBlocks (bsW.take 3) ++
      (Wire.encBlock (.bins .neg (.contiguous 3 1 [0x4000000000000000, 0x3ff8000000000000]))).take 4) ≠ .ok out :=
  C08.parseBlocks_never_ok_on_cut_block _ (by decide) _ (by decide) 4 (by decide) (by decide) out

example (rest : Bytes) : OkOrEof (Wire.parseBlock (5 :: rest)) := C08.parseBlock_defined_flag 5 rest (by decide)

example (rest : Bytes) :
    (13 ∈ definedFlagBytes ∧ OkOrEof (Wire.parseBlock (13 :: rest))) ∨
    (13 ∉ definedFlagBytes ∧ ∃ g, Wire.parseBlock (13 :: rest) = .error (.unknownFlag g)) :=
  C08.flag_byte_classification 13 (by decide) rest

example (m : Option MapId) (cp cn : Content) (z : F64) :
    ∃ e, Sketch.decodeAndMergeWith (Sketch.spec m cp cn z)
      (Wire.encBlocks (bsW.take 3) ++
        (Wire.encBlock (.bins .neg (.contiguous 3 1 [0x4000000000000000, 0x3ff8000000000000]))).take 4) = some (.error e) :=
  C08.decode_cut_inside_block_errors (bsW.take 3) (by decide) (finW_all _ (by decide +kernel)) _ (by decide)
    (finW_of_b _ (by decide +kernel)) 4 (by decide) (by decide) m cp cn z

example (n : Nat) (m : Option MapId) (cp cn : Content) (z : F64) (aux : Sketch.DecAux) :
    ∃ e, Sketch.decodeLoop (n + 1) (Sketch.spec m cp cn z) aux
      ((Wire.encBlock (.bins .pos (.deltasCounts [(-7, 0x4000000000000000)]))).take 3) = some (.error e) := by
  refine C08.decodeLoop_cut_block _ (by decide) n _ aux 3 (by decide) (by decide) ?_
  intro h
  have := (C08.applyBlocks_spec_total [.bins .pos (.deltasCounts [(-7, 0x4000000000000000)])]
    (finW_all _ (by decide +kernel)) m cp cn z aux).1
  apply this
  simp only [Sketch.applyBlocks, h]

example (m : Option MapId) (cp cn : Content) (z : F64) (aux : Sketch.DecAux) :
    (∃ j, 19 = (Wire.encBlocks (bsW.take j)).length ∧
        Sketch.decodeLoop 30 (Sketch.spec m cp cn z) aux ((Wire.encBlocks bsW).take 19)
          = Sketch.applyBlocks (Sketch.spec m cp cn z) aux (bsW.take j) ∧
        Sketch.applyBlocks (Sketch.spec m cp cn z) aux (bsW.take j) ≠ none)
    ∨ ∃ e, Sketch.decodeLoop 30 (Sketch.spec m cp cn z) aux ((Wire.encBlocks bsW).take 19)
        = some (.error e) :=
  C08.decode_cut bsW bsW_wf bsW_fin 19 (by decide) 30 (by decide) m cp cn z aux

example (m : Option MapId) (cp cn : Content) (z : F64) (aux : Sketch.DecAux) :
    Sketch.decodeLoop 29 (Sketch.spec m cp cn z) aux bytesW ≠ none :=
  C08.decode_total_spec 29 bytesW (by decide) m cp cn z aux bytesW_fvf

example (m : Option MapId) (cp cn : Content) (z : F64) :
    Sketch.decodeAndMergeWith (Sketch.spec m cp cn z) bytesW ≠ none :=
  C08.decodeAndMergeWith_total_spec bytesW m cp cn z bytesW_fvf

/-- … also on a truncated / garbage input -/
example (m : Option MapId) (cp cn : Content) (z : F64) :
    Sketch.decodeAndMergeWith (Sketch.spec m cp cn z) [13, 2, 15, 2, 6, 2, 255, 255] ≠ none :=
  C08.decodeAndMergeWith_total_spec _ m cp cn z (finiteVarfloats_of_b _ (by decide +kernel))

example (m : Option MapId) (cp cn : Content) (z : F64) (aux : Sketch.DecAux) :
    Sketch.applyBlocks (Sketch.spec m cp cn z) aux bsW ≠ none ∧
      ∀ s' aux', Sketch.applyBlocks (Sketch.spec m cp cn z) aux bsW = some (.ok (s', aux')) → s'.IsSparse :=
  C08.applyBlocks_spec_total bsW bsW_fin m cp cn z aux

example (m : Option MapId) (cp cn : Content) (z : F64) (aux : Sketch.DecAux) :
    Sketch.decodeLoop 4 (Sketch.spec m cp cn z) aux (Wire.encBlocks bsW) ≠ none :=
  C08.decode_encoded_total_spec bsW bsW_wf bsW_fin 4 (by decide) m cp cn z aux

end C08

end WireFormat

/-! ## C09 -/
section C09
open DDS DDS.Proto
open DDS.Props.C09

theorem sp3_some : (storeToProto sp3).isSome = true ∧ (streamStore sp3).isSome = true := by decide +kernel

example : ∃ pb bs, storeToProto sp3 = some pb ∧ streamStore sp3 = some bs ∧ parseStore {} bs = .ok pb ∧
    pb.binCounts.length = 3 := by
  obtain ⟨pb, hpb⟩ := Option.isSome_iff_exists.mp sp3_some.1
  obtain ⟨bs, hbs⟩ := Option.isSome_iff_exists.mp sp3_some.2
  refine ⟨pb, bs, hpb, hbs, parseStore_stream_exact sp3 sp3_keys pb bs hpb hbs, ?_⟩
  have : (storeToProto sp3).map (fun p => p.binCounts.length) = some 3 := by decide +kernel
  rw [hpb] at this
  exact Option.some.inj this

example : ∃ pb bs, storeToProto d3 = some pb ∧ streamStore d3 = some bs ∧
    (parseStore {} bs).map (fun p => normStore (some p)) = .ok (normStore (some pb)) := by
  obtain ⟨bs, hbs⟩ := Option.isSome_iff_exists.mp d3_stream_some
  exact ⟨_, bs, d3_toProto, hbs, parseStore_stream d3 d3_keys _ bs d3_toProto hbs⟩

theorem sk_some : ∃ msg bs, toProto sk = some msg ∧ streamBytes sk = some bs := by
  have h : (toProto sk).isSome = true ∧ (streamBytes sk).isSome = true := by decide +kernel
  obtain ⟨msg, hm⟩ := Option.isSome_iff_exists.mp h.1
  obtain ⟨bs, hb⟩ := Option.isSome_iff_exists.mp h.2
  exact ⟨msg, bs, hm, hb⟩

example : ∃ msg bs, toProto sk = some msg ∧ streamBytes sk = some bs ∧ pbParse bs = .ok msg ∧
    (pbParse bs).map norm = .ok (norm msg) := by
  obtain ⟨msg, bs, hm, hb⟩ := sk_some
  exact ⟨msg, bs, hm, hb,
    pbParse_stream_exact sk m102 rfl sp3_keys d3_keys FitsLen_inhabited.1 FitsLen_inhabited.2 msg bs hm hb,
    pbParse_stream sk m102 rfl sp3_keys d3_keys FitsLen_inhabited.1 FitsLen_inhabited.2 msg bs hm hb⟩

example : streamBytes { sk with mapping := none } = none := streamBytes_none_of_no_mapping _ rfl

end C09

/-! ## C10 -/
section C10
open DDS DDS.QuantileEx
open DDS.Props.C10 DDS.Summary DDS.F64

theorem RepOK_inhabited : ∃ l : List (Rat × Rat), RepOK l ∧ l.length = 3 ∧ cnt l = 7 ∧ tot l = 15 :=
  ⟨exL, exL_ok, rfl, by decide +kernel, by decide +kernel⟩

/-- `RepFrom` from a non-zero state -/
theorem RepFrom_inhabited : RepFrom 2 6 [(-1, 1), (5 / 2, 4)] :=
  ⟨by decide +kernel, by decide +kernel, by decide +kernel, by decide +kernel, by decide +kernel,
    by decide +kernel, trivial⟩

example : ∃ m, minOf exL = .fin m ∧ (∃ p ∈ exL, p.1 = m) ∧ ∀ p ∈ exL, m ≤ p.1 :=
  min_is_least exL (by decide)
example : ∃ m, maxOf exL = .fin m ∧ (∃ p ∈ exL, p.1 = m) ∧ ∀ p ∈ exL, p.1 ≤ m :=
  max_is_greatest exL (by decide)

example : addAll (Summary.mk (.fin 2) (.fin 6) (.fin 0) (.fin 6) (.fin 3) (.fin 3)) [(-1, 1), (5 / 2, 4)] =
    Summary.mk (.fin (2 + cnt [(-1, 1), (5 / 2, 4)])) (.fin (6 + tot [(-1, 1), (5 / 2, 4)])) (.fin 0)
      (.fin (6 + tot [(-1, 1), (5 / 2, 4)]))
      (([(-1, 1), (5 / 2, 4)] : List (Rat × Rat)).foldl (fun m p => minStep (.fin p.1) m) (.fin 3))
      (([(-1, 1), (5 / 2, 4)] : List (Rat × Rat)).foldl (fun m p => maxStep (.fin p.1) m) (.fin 3)) :=
  fold_exact_from _ 2 6 _ _ RepFrom_inhabited

example : ((addAll Summary.new exL).count = .fin 0 ↔ ∀ p ∈ exL, p.2 = 0) ∧
    (F64.eq (addAll Summary.new exL).count (.fin 0) = true ↔ ∀ p ∈ exL, p.2 = 0) :=
  empty_iff exL exL_ok (by decide)

example : addAll Summary.new exL = exactOf exL := fold_exact_eq exL exL_ok

example : F64.lt (exactOf exL).max (exactOf exL).min = false := exact_stats_ordered exL (by decide)

/-- an exact-summary sketch whose statistics `[3/2, 3]` are tighter than the sketch's bins, so that
    the clamp acts (plain answer for `q = 1` is `4`) -/
def xC : XSketch :=
  { sk := C12.skC, st := { count := .fin 5, sum := .fin 10, sumCompensation := .fin 0, simpleSum := .fin 10,
                           min := .fin (3 / 2), max := .fin 3 } }

theorem xC_q1 : xC.quantile C12.envC (.fin 1) = .ok (.fin 3) := by decide +kernel
theorem xC_plain_q1 : xC.sk.quantile C12.envC (.fin 1) = .ok (.fin 4) := by decide +kernel

example : F64.lt (.fin 3) xC.st.min = false ∧ F64.gt (.fin 3) xC.st.max = false :=
  xsketch_quantile_clamped C12.envC xC (.fin 1) (.fin 3) (by decide +kernel) xC_q1

/-- a plain answer inside `[min, max]` is returned as is -/
def xC' : XSketch := { xC with st := { xC.st with min := .fin (-2), max := .fin 4 } }

example : xC'.quantile C12.envC (.fin 1) = .ok (.fin 4) :=
  xsketch_quantile_eq_plain C12.envC xC' (.fin 1) (.fin 4) (by decide +kernel) (by decide +kernel)
    (by decide +kernel)

example : xC.quantile C12.envC (.fin (3 / 2)) = .error .badQuantile :=
  xsketch_quantile_error C12.envC xC _ _ (C13.quantile_rejects _ _ _ (by decide +kernel))

/-- the additions of the exact variant, on `C13.skEx` -/
def xE : XSketch := { sk := C13.skEx, st := exactOf exL }

theorem xE_add_plain (c : Rat) (hc : 0 ≤ c) :
    xE.sk.addWithCount C13.envEx (.fin 5) (.fin c) 2 =
      some (.ok (if (1 : Rat) / 1000 < 5 then Sketch.spec (some C13.envEx.id) (Content.add [(0, 2), (3, 1)] 2 c) [(1, 1)] (.fin 1)
        else if (5 : Rat) < -(1 / 1000) then Sketch.spec (some C13.envEx.id) [(0, 2), (3, 1)] (Content.add [(1, 1)] 2 c) (.fin 1)
        else Sketch.spec (some C13.envEx.id) [(0, 2), (3, 1)] [(1, 1)] (F64.add (.fin 1) (.fin c)))) :=
  C13.skEx_add 5 c 2 hc (by decide +kernel)

example : ∃ x', xE.addWithCount C13.envEx (.fin 5) (.fin 0) 2 = some (.ok x') ∧ x' = xE := by
  have h := C13.exact_add_zero_weight_noop C13.envEx xE (.fin 5) 2 _ (xE_add_plain 0 (by decide +kernel))
  exact ⟨xE, h, xsketch_add_zero_weight C13.envEx xE xE (.fin 5) (.fin 0) 2 (by decide +kernel) h⟩

example : ∃ x', xE.addWithCount C13.envEx (.fin 5) (.fin 1) 2 = some (.ok x') ∧
    x'.st = xE.st.add (.fin 5) (.fin 1) := by
  have h := C13.exact_add_accepted C13.envEx xE (.fin 5) (.fin 1) 2 _ (xE_add_plain 1 (by decide +kernel))
    (by decide +kernel)
  exact ⟨_, h, xsketch_add_accepted C13.envEx xE _ (.fin 5) (.fin 1) 2 (by decide +kernel) h⟩

example : ∃ x', xE.mergeWith xE = some (.ok x') ∧ x'.st = xE.st.mergeWith xE.st := by
  obtain ⟨sk', hm⟩ : ∃ sk', xE.sk.mergeWith xE.sk = some (.ok sk') :=
    ⟨_, C13.merge_accepts_spec (some C13.envEx.id) (some C13.envEx.id) [(0, 2), (3, 1)] [(1, 1)] [(0, 2), (3, 1)] [(1, 1)]
      (.fin 1) (.fin 1) (by decide +kernel)⟩
  have h : xE.mergeWith xE = some (.ok { sk := sk', st := xE.st.mergeWith xE.st }) := by
    simp only [XSketch.mergeWith, hm]
  exact ⟨_, h, (xsketch_stats_ops xE xE _ (.fin 1)).1 h⟩

example : ∃ x', xE.reweight (.fin 1) = some (.ok x') ∧ x'.st = xE.st.reweight (.fin 1) := by
  have h : xE.reweight (.fin 1) = some (.ok { sk := xE.sk, st := xE.st.reweight (.fin 1) }) := by
    simp only [XSketch.reweight, C13.reweight_one]
  exact ⟨_, h, (xsketch_stats_ops xE xE _ (.fin 1)).2.1 h⟩

end C10

/-! ## C11 -/
section C11
open DDS DDS.QuantileEx
open DDS.Props.C11 Content

/-- weighted inputs with fractional weights on both sides and in the zero bucket -/
def wXs : List (Rat × Rat) := [(5, 1 / 2), (-2, 3 / 4), (1, 2), (12, 1 / 4), (-7, 1), (5, 3 / 2)]

theorem wXs_ok : ∀ p ∈ wXs, rabs p.1 ≤ 12 ∧ 0 ≤ p.2 := by decide +kernel

example : ∃ cp cn : Content, ∃ zf : F64,
      Sketch.addAll exEnv (Sketch.new (some exEnv.id) .sparse) wXs = some ⟨some exEnv.id, .sp cp, .sp cn, zf⟩ ∧
      cp.WF ∧ cn.WF ∧
      (∀ j, cp.lookup j =
        Content.lookup ((wXs.filter (fun p => decide ((4 : Rat) / 3 < p.1))).map
          (fun p => (exEnv.index (.fin (rabs p.1)), p.2))) j) ∧
      (∀ j, cn.lookup j =
        Content.lookup ((wXs.filter (fun p => decide (p.1 < -((4 : Rat) / 3)))).map
          (fun p => (exEnv.index (.fin (rabs p.1)), p.2))) j) :=
  addAll_weighted_state exEnv _ _ _ exContract wXs wXs_ok

theorem exCp_wf : exCp.WF := RoundTrip.wf_of_wfb _ (by decide +kernel)
theorem exCn_wf : exCn.WF := RoundTrip.wf_of_wfb _ (by decide +kernel)
theorem ex_W : (0 : Rat) < 0 + exCp.total + exCn.total := by rw [exCp_total, exCn_total]; norm_num

example (m : Option MapId) :
    (clampRank (1 / 4) < exCn.total ∧ ∃ j w, (j, w) ∈ exCn ∧
        Sketch.quantile exEnv ⟨m, .sp exCp, .sp exCn, .fin 0⟩ (.fin (1 / 8)) = .ok (F64.neg (exEnv.value j)) ∧
        exCn.total - cumul exCn j < min (clampRank (1 / 4) + 1) exCn.total ∧
        min (clampRank (1 / 4) + 1) exCn.total ≤ exCn.total - cumul exCn (j - 1)) ∨
    (exCn.total ≤ clampRank (1 / 4) ∧ clampRank (1 / 4) < 0 + exCn.total ∧
        Sketch.quantile exEnv ⟨m, .sp exCp, .sp exCn, .fin 0⟩ (.fin (1 / 8)) = .ok (.fin 0)) ∨
    (0 + exCn.total ≤ clampRank (1 / 4) ∧ ∃ j w, (j, w) ∈ exCp ∧
        Sketch.quantile exEnv ⟨m, .sp exCp, .sp exCn, .fin 0⟩ (.fin (1 / 8)) = .ok (exEnv.value j) ∧
        0 + exCn.total + cumul exCp (j - 1) ≤ clampRank (1 / 4) ∧
        clampRank (1 / 4) < 0 + exCn.total + cumul exCp j) :=
  quantile_weighted exEnv m exCp exCn 0 (1 / 8) (1 / 4) exCp_wf exCn_wf le_rfl (by decide +kernel) (by decide +kernel)
    ex_W exExact

example : 0 ≤ clampRank (1 / 4) ∧ clampRank (1 / 4) < 0 + exCp.total + exCn.total ∧
    (0 + exCp.total + exCn.total < 1 → clampRank (1 / 4) = 0) :=
  rank_clamped exCp exCn 0 (1 / 8) (1 / 4) (by decide +kernel) (by decide +kernel) ex_W exExact

/-- `QExact` with an EMPTY negative side and a zero bucket: `cp = [(0, 3/2), (1, 1/2)]`, `z = 1`,
    `W = 3`, `q = 1/2`, rank 1 -/
theorem qexact_noneg : QExact [(0, 3 / 2), (1, 1 / 2)] [] 1 (1 / 2) 1 :=
  ⟨by decide +kernel, by decide +kernel, by decide +kernel, by decide +kernel, by decide +kernel,
    by decide +kernel, by decide +kernel, by decide +kernel⟩

/-- … and with an EMPTY positive side -/
theorem qexact_nopos : QExact [] [(0, 3 / 2), (1, 1 / 2)] 1 (1 / 2) 1 :=
  ⟨by decide +kernel, by decide +kernel, by decide +kernel, by decide +kernel, by decide +kernel,
    by decide +kernel, by decide +kernel, by decide +kernel⟩

theorem wf_32 : Content.WF [(0, 3 / 2), (1, 1 / 2)] := RoundTrip.wf_of_wfb _ (by decide +kernel)

example (m : Option MapId) :
    ∃ a, Sketch.quantile exEnv ⟨m, .sp [(0, 3 / 2), (1, 1 / 2)], .sp [], .fin 1⟩ (.fin (1 / 2)) = .ok (.fin a) ∧ 0 ≤ a :=
  (C11.answer_from_nonempty_side exEnv _ _ _ exContract m _ [] 1 (1 / 2) 1 wf_32 wf_nil (by decide +kernel)
    (by decide +kernel) (by decide +kernel) (by decide +kernel) qexact_noneg).1 rfl

example (m : Option MapId) :
    ∃ a, Sketch.quantile exEnv ⟨m, .sp [], .sp [(0, 3 / 2), (1, 1 / 2)], .fin 1⟩ (.fin (1 / 2)) = .ok (.fin a) ∧ a ≤ 0 :=
  (C11.answer_from_nonempty_side exEnv _ _ _ exContract m [] _ 1 (1 / 2) 1 wf_nil wf_32 (by decide +kernel)
    (by decide +kernel) (by decide +kernel) (by decide +kernel) qexact_nopos).2 rfl

end C11

/-! ## C12 -/
section C12
open DDS
open DDS.Props.C12

def cpC : Content := [(0, 2), (3, 1)]
def cnC : Content := [(1, 1)]

theorem cpC_wf : cpC.WF := RoundTrip.wf_of_wfb _ (by decide +kernel)
theorem cnC_wf : cnC.WF := RoundTrip.wf_of_wfb _ (by decide +kernel)

theorem hxC : F64.add (F64.add (.fin 1) (.fin cpC.total)) (.fin cnC.total) =
    .fin (1 + cpC.total + cnC.total) := by decide +kernel

example : (Sketch.spec (some envC.id) cpC cnC (.fin 1)).getCount = .fin (1 + cpC.total + cnC.total) :=
  count_eq_total _ cpC cnC 1 hxC

example : (Sketch.spec (some envC.id) cpC cnC (.fin 1)).isEmpty = true ↔ 1 + cpC.total + cnC.total = 0 :=
  isEmpty_iff_count_zero _ cpC cnC 1 cpC_wf cnC_wf (by decide +kernel)

example : (Sketch.spec (some envC.id) cpC cnC (.fin 1)).isEmpty = true ↔
    (Sketch.spec (some envC.id) cpC cnC (.fin 1)).getCount = .fin 0 :=
  isEmpty_iff_getCount_zero _ cpC cnC 1 cpC_wf cnC_wf (by decide +kernel) hxC

example : ∃ l, (Sketch.spec (some envC.id) cpC cnC (.fin 1)).forEachList envC = some l ∧ l.length = 4 ∧
    (∀ p ∈ l, 0 < p.2) ∧ (l.map (·.2)).sum = 1 + cpC.total + cnC.total := by
  obtain ⟨l, hl⟩ := forEach_total envC (some envC.id) cpC cnC 1
  refine ⟨l, hl, ?_, forEach_weights_positive envC _ cpC cnC 1 cpC_wf cnC_wf (by decide +kernel) l hl,
    forEach_weights_sum envC _ cpC cnC 1 l hl⟩
  rw [forEachList_spec] at hl
  cases hl
  decide +kernel

example : (0 : Int) ≤ 3 := min_le_max_index cpC cpC_wf 0 3 (by decide +kernel) (by decide +kernel)

theorem qrankC : (Sketch.spec (some envC.id) cpC cnC (.fin 1)).qrank (.fin (1 / 4)) =
    .fin (max 0 (F64.rv ((1 / 4) * F64.rv (1 + cpC.total + cnC.total - 1)))) :=
  qrank_spec _ cpC cnC 1 cpC_wf cnC_wf (by decide +kernel) hxC (1 / 4) (by decide +kernel) (by decide +kernel)

example : (Sketch.spec (some envC.id) cpC cnC (.fin 1)).quantile envC (.fin (1 / 4)) =
    .ok (res envC cpC cnC 1 (max 0 (F64.rv ((1 / 4) * F64.rv (1 + cpC.total + cnC.total - 1))))) :=
  quantile_eq_res envC _ cpC cnC 1 _ (by decide +kernel) (by decide +kernel) _ qrankC

example : F64.le (res envC cpC cnC 1 (1 / 2)) (res envC cpC cnC 1 (7 / 2)) = true :=
  res_mono envC _ _ _ envC_contract cpC cnC cpC_wf cnC_wf 1 _ _ (by decide +kernel)

/-! sketches with NON-sparse stores (`C06.exS`: dense positive store, paginated negative store) -/

theorem hxS : F64.add (F64.add (.fin (3 / 4)) (.fin C06.exCp.total)) (.fin C06.exCn.total) =
    .fin (3 / 4 + C06.exCp.total + C06.exCn.total) := by decide +kernel

theorem exS_ne : F64.eq C06.exS.getCount (.fin 0) = false := by decide +kernel

example : ∃ a b, C06.exS.quantile envC (.fin (1 / 4)) = .ok a ∧ C06.exS.quantile envC (.fin (3 / 4)) = .ok b ∧
    F64.le a b = true := by
  obtain ⟨a, ha⟩ := C13.quantile_ok envC C06.exS (.fin (1 / 4)) (by decide +kernel) exS_ne
  obtain ⟨b, hb⟩ := C13.quantile_ok envC C06.exS (.fin (3 / 4)) (by decide +kernel) exS_ne
  exact ⟨a, b, ha, hb, quantile_mono_refines envC _ _ _ envC_contract C06.exS C06.exCp C06.exCn (3 / 4)
    C06.exS_refines rfl (by decide +kernel) hxS _ _ a b (by decide +kernel)
    (fun h => absurd h (by decide)) ha hb⟩

/-- a sketch WITHOUT positive values: new dense positive store, paginated negative store -/
def exSn : Sketch := { mapping := some C06.exM, pos := Store.new .dense, neg := .pg C06.exP, zero := .fin (3 / 4) }

theorem exSn_refines : exSn.Refines [] C06.exCn := ⟨C15.store_new_refines_nil .dense, C06.exS_refines.neg⟩

theorem hxSn : F64.add (F64.add (.fin (3 / 4)) (.fin (Content.total []))) (.fin C06.exCn.total) =
    .fin (3 / 4 + Content.total [] + C06.exCn.total) := by decide +kernel

theorem hpredSn : F64.sub (.fin (3 / 4 + Content.total [] + C06.exCn.total)) F64.one ≠
    .fin (3 / 4 + Content.total [] + C06.exCn.total) := by decide +kernel

example : (Sketch.spec (some C06.exM) [] C06.exCn (.fin (3 / 4))).usesPos (.fin 1) = false :=
  usesPos_false_of_exact _ [] C06.exCn (3 / 4) Content.wf_nil C06.exS_refines.neg.wf (by decide +kernel) hxSn rfl
    (by decide +kernel) hpredSn 1 (by decide +kernel) (by decide +kernel)

example (q : F64) : exSn.quantile envC q = (Sketch.spec exSn.mapping [] C06.exCn exSn.zero).quantile envC q :=
  quantile_congr_exact envC exSn [] C06.exCn (3 / 4) exSn_refines rfl (by decide +kernel) hxSn hpredSn q

end C12

/-! ## C13 -/
section C13
open DDS
open DDS.Props.C13

example : Sketch.addWithCount envEx skEx (.fin (-1001)) (.fin 1) 2 = some (.error .tooLow) :=
  add_too_low' envEx skEx _ _ 2 (1 / 1000) rfl (by decide +kernel) (by decide +kernel) (by decide +kernel)
    (by decide +kernel)

example : Sketch.addWithCount envEx skEx (.fin 5) (.fin 0) 2 = some (.ok skEx) :=
  add_zero_count_noop_spec envEx _ _ _ 1 5 2 (1 / 1000) 1000 rfl rfl (by decide +kernel) (by decide +kernel)
    (by decide +kernel)

theorem skEx_refused : Sketch.addWithCount envEx skEx (.fin 1001) (.fin 1) 2 = some (.error .tooHigh) :=
  add_too_high envEx skEx _ _ 2 (by decide +kernel) (by decide +kernel) (by decide +kernel)

example : SkErr.tooHigh = .negativeCount ∨ SkErr.tooHigh = .tooHigh ∨ SkErr.tooHigh = .tooLow ∨ SkErr.tooHigh = .nan :=
  add_error_cases envEx skEx _ _ 2 _ skEx_refused

example (s' : Sketch) : Sketch.addWithCount envEx s' (.fin 1001) (.fin 1) 2 = some (.error .tooHigh) ∨
    Sketch.addWithCount envEx s' (.fin 1001) (.fin 1) 2 = none :=
  add_error_state_independent envEx skEx s' _ _ 2 _ skEx_refused

theorem skEx_ne : F64.eq skEx.getCount (.fin 0) = false := by decide +kernel

example : ∃ v, Sketch.quantile envEx skEx (.fin (1 / 2)) = .ok v :=
  quantile_ok envEx skEx _ (by decide +kernel) skEx_ne

example : Sketch.quantiles envEx skEx [.fin (1 / 2), .fin 2, .fin 1] = .error .badQuantile :=
  quantiles_rejects envEx skEx _ (.fin 2) (by simp) (by decide +kernel) skEx_ne

example (e : SkErr) (h : Sketch.quantile envEx skEx (.fin 2) = .error e) : e = .badQuantile ∨ e = .empty :=
  quantile_error_cases envEx skEx _ e h

example : skEx.mergeWith (Sketch.new (some { envEx.id with kind := .cubic }) .dense) = some (.error .mismatch) :=
  merge_rejects_kind skEx _ envEx.id { envEx.id with kind := .cubic } rfl rfl (by decide)

example : skEx.mergeWith skEx = some (.ok (Sketch.spec (some envEx.id) (Content.merge [(0, 2), (3, 1)] [(0, 2), (3, 1)])
    (Content.merge [(1, 1)] [(1, 1)]) (F64.add (.fin 1) (.fin 1)))) :=
  merge_accepts_spec _ _ _ _ _ _ _ _ (by decide +kernel)

example : ∃ sk, XSketch.addWithCount envEx { sk := skEx, st := Summary.new } (.fin 5) (.fin 1) 2 =
    some (.ok { sk := sk, st := Summary.new.add (.fin 5) (.fin 1) }) :=
  ⟨_, exact_add_accepted envEx { sk := skEx, st := Summary.new } (.fin 5) (.fin 1) 2 _
    (skEx_add 5 1 2 (by decide +kernel) (by decide +kernel)) (by decide +kernel)⟩

example : XSketch.addWithCount envEx { sk := skEx, st := Summary.new } (.fin 5) (.fin 0) 2 =
    some (.ok { sk := skEx, st := Summary.new }) :=
  exact_add_zero_weight_noop envEx { sk := skEx, st := Summary.new } (.fin 5) 2 _
    (skEx_add 5 0 2 (by decide +kernel) (by decide +kernel))

example : XSketch.addWithCount envEx { sk := skEx, st := Summary.new } (.fin 1001) (.fin 1) 2 =
    some (.error .tooHigh) :=
  exact_add_validates_first envEx { sk := skEx, st := Summary.new } _ _ 2 _ skEx_refused

example : ∃ s', Sketch.addWithCount C13.envEx (Sketch.spec none [(1, 1)] [] (.fin 0)) (.fin 5) (.fin (1 / 2)) 2 = some (.ok s') :=
  C13.add_accepts_ok C13.envEx none _ _ _ 5 (1 / 2) 2 (1 / 1000) 1000 rfl rfl (by decide +kernel) (by decide +kernel)
    (by decide +kernel)
example : Sketch.quantile C13.envEx C13.skEx (.fin (-1 / 10)) = .error .badQuantile :=
  C13.quantile_negative _ _ _ (by decide +kernel)
example : Sketch.quantile C13.envEx C13.skEx (.fin (11 / 10)) = .error .badQuantile :=
  C13.quantile_above_one _ _ _ (by decide +kernel)

end C13

/-! ## C14 -/
section C14
open DDS
open DDS.Props.C14

example : ∃ st' b, Sketch.encodeStore (.sp [(1, 2)]) .pos = some (st', b) ∧ st' = .sp [(1, 2)] ∧
    (st' = .sp [(1, 2)] ∨ ∃ p t, Store.sp [(1, 2)] = .pg p ∧ p.compact = some t ∧ st' = .pg t) := by
  have h : ∃ b, Sketch.encodeStore (.sp [(1, 2)]) .pos = some (.sp [(1, 2)], b) := ⟨_, rfl⟩
  obtain ⟨b, hb⟩ := h
  exact ⟨_, b, hb, encodeStore_sp _ _ _ _ hb, encodeStore_store _ _ _ _ hb⟩

/-- a sketch with a dense positive store and a sparse negative store, both non-empty -/
def sdS : Sketch := { mapping := some C06.exM, pos := .d C06.exD, neg := .sp C06.exCn, zero := .fin (3 / 4) }

theorem sdS_refines : sdS.Refines C06.exCp C06.exCn :=
  ⟨C06.exS_refines.pos, Store.refines_sparse _ C06.exS_refines.neg.wf⟩

theorem sdS_encodes : ∃ s' bl, sdS.encode false = some (s', bl) := by
  obtain ⟨s', bl, h, _⟩ := C06.encode_observably_pure sdS C06.exCp C06.exCn sdS_refines C06.exS_pos
    (show RoundTrip.EncOK (.sp C06.exCn) from ⟨by decide +kernel, by decide +kernel⟩)
    C06.exM rfl (3 / 4) rfl false
  exact ⟨s', bl, h⟩

example : ∃ s' bl, sdS.encode false = some (s', bl) ∧ s' = sdS ∧ s'.mapping = sdS.mapping ∧ s'.zero = sdS.zero := by
  obtain ⟨s', bl, h⟩ := sdS_encodes
  exact ⟨s', bl, h, encode_pure_sp_d sdS s' false bl (Or.inr ⟨_, rfl⟩) (Or.inl ⟨_, rfl⟩) h,
    (encode_pure sdS s' false bl h).1, (encode_pure sdS s' false bl h).2.1⟩

example : ∃ st' b, Sketch.encodeStore (.d C06.exD) .pos = some (st', b) ∧ st' = .d C06.exD := by
  obtain ⟨bl, c, h, _⟩ := C06.encodeStore_dense_denotes C06.exD (C06.exD_arr.inv rfl) C06.exD_arr.bounded32
    C06.exD_arr.wt_wok .pos
  exact ⟨_, bl, h, encodeStore_d _ _ _ _ h⟩

example : ∃ x' bl, C06.exX.encode false = some (x', bl) ∧ x'.st = C06.exX.st ∧
    ∃ bl', C06.exX.sk.encode false = some (x'.sk, bl') := by
  obtain ⟨x', bl, h, _⟩ := C06.xsketch_decode_encode C06.exX C06.exCp C06.exCn C06.exS_refines C06.exS_pos
    C06.exS_neg C06.exM rfl C06.exM_ok (3 / 4) rfl (by decide +kernel) (43 / 4) 10 (-3) 9 C06.exX_stats false
  exact ⟨x', bl, h, xencode_pure C06.exX x' false bl h⟩

theorem NZ_inhabited : Content.NZ [(1, -2), (4, 3)] := by
  refine ⟨⟨by decide, trivial⟩, ?_⟩
  intro p hp
  simp at hp
  rcases hp with rfl | rfl <;> simp

example : ([((1 : Int), (2 : Rat)), (4, -3), (2, 5)]).foldl (fun acc p => Content.add acc p.1 p.2) [(1, -2), (4, 3)] =
    ([((2 : Int), (5 : Rat)), (1, 2), (4, -3)]).foldl (fun acc p => Content.add acc p.1 p.2) [(1, -2), (4, 3)] :=
  foldl_add_perm _ NZ_inhabited (by decide +kernel)

example : (1 : Int) ∈ [3, 1, 2] ∧ ∀ y ∈ ([3, 1, 2] : List Int), 1 ≤ y := PStore.scan_listMin_some [3, 1, 2] 1 rfl
example : (3 : Int) ∈ [3, 1, 2] ∧ ∀ y ∈ ([3, 1, 2] : List Int), y ≤ 3 := PStore.scan_listMax_some [3, 1, 2] 3 rfl

/-- a store with an existing NON-EMPTY page (indexes 4, 5 ↦ 2, 0), pages of two lines, and four
    buffered entries, three of which lie on that page -/
def demoR : PStore := { C14.demoQ with pages := #[#[2, 0]], minPageIndex := 2 }

theorem PInv_inhabited : PagCompact.PInv demoR ∧ demoR.pages = #[#[2, 0]] ∧ demoR.buffer = [4, 9, 5, 4] :=
  ⟨PagCompact.pinv_of_lt _ (by decide), rfl, rfl⟩

theorem demoR_compact : ∃ t, demoR.compact = some t ∧ t.buffer = [9] ∧ t.pages = #[#[4, 1]] := by
  unfold PStore.compact
  rw [show demoR.buffer = C14.demoQ.buffer from rfl, C14.demoQ_sorted]
  refine ⟨_, rfl, ?_, ?_⟩
  · rfl
  · decide +kernel

example : ∃ t, demoR.compact = some t ∧ t.buffer = [9] ∧ t.pages = #[#[4, 1]] ∧ t.abs = demoR.abs := by
  obtain ⟨t, ht, hb, hp⟩ := demoR_compact
  refine ⟨t, ht, hb, hp, compact_preserves_abs demoR t PInv_inhabited.1 ?_ ht⟩
  intro i hi
  apply pageIndex_lt_maxInt demoR (by decide)
  simp only [demoR, C14.demoQ, List.mem_cons, List.not_mem_nil, or_false] at hi
  rcases hi with rfl | rfl | rfl | rfl <;> decide

/-- permuting the buffer of a store that HAS a non-empty page -/
example : (Store.pg (withBuffer demoR [9, 5, 4, 4])).abs = (Store.pg demoR).abs ∧
    (Store.pg (withBuffer demoR [9, 5, 4, 4])).binsList = (Store.pg demoR).binsList ∧
    ∀ r, (Store.pg (withBuffer demoR [9, 5, 4, 4])).keyAtRank r = (Store.pg demoR).keyAtRank r :=
  let h := pstore_observers_perm_buffer demoR [9, 5, 4, 4] (by decide)
  ⟨h.1, h.2.2.2.2.2.1, h.2.2.2.2.2.2⟩

end C14

/-! ## C15 -/
section C15
open DDS
open DDS.Props.C15

/-- a store with a non-empty table of (empty) page slots and a stale `minPageIndex` -/
def pe3 : PStore := { PStore.new with pages := #[#[], #[], #[]], minPageIndex := -7 }

theorem pe3_empty : PEmpty pe3 := ⟨rfl, by intro pg h; simp [pe3] at h; subst h; rfl⟩

theorem PEmpty_inhabited : ∃ s : PStore, PEmpty s ∧ s.pages.size = 3 ∧ s.minPageIndex = -7 :=
  ⟨pe3, pe3_empty, rfl, rfl⟩

example : (Store.pg pe3).Refines [] := pempty_refines _ pe3_empty

/-- clearing a sketch that holds data (dense + paginated stores) -/
example : C06.exS.clear.Refines [] [] ∧ C06.exS.clear.zero = .fin 0 ∧ C06.exS.clear.mapping = C06.exS.mapping ∧
    C06.exS.clear.pos.kind = C06.exS.pos.kind ∧ C06.exS.clear.neg.kind = C06.exS.neg.kind :=
  sketch_clear_refines C06.exS

example (o' : Int) : ({ C06.exD.clear with offset := o' } : DStore).extendRange 3 9 = C06.exD.clear.extendRange 3 9 :=
  extendRange_offset C06.exD.clear rfl o' 3 9

end C15

/-! ## C16 -/
section C16
open DDS
open DDS.Props.C16 DDS.Props.C02 DDS.Sketch

example : (target demoEnv (1 / 1000) demoTree.flat).reweight (.fin 3) =
    some (.ok (target demoEnv (1 / 1000) (scaleInputs 3 demoTree.flat))) :=
  reweight_target demoEnv (1 / 1000) 1000 demoTree.flat demo_acc 3 (by decide +kernel) (by
    have := demo_exact3.whole
    rwa [zeroPart_scaleInputs, sum_map_mul] at this)

example : Accepted 1000 (scaleInputs 3 demoTree.flat) := accepted_scaleInputs 1000 (by decide +kernel) demo_acc

example : Content.merge [] (Content.scale [(3, 2), (1, 0), (3, 1 / 2)] (1 / 4)) =
    Content.scale (Content.merge [] [(3, 2), (1, 0), (3, 1 / 2)]) (1 / 4) :=
  canon_scale _ (by decide +kernel) (1 / 4) (by decide +kernel)

/-- the exact-summary sketch with data, reweighted by 3 -/
def xR : XSketch := { sk := spec (some demoId) [(1, 2)] [(3, 1)] (.fin 5), st := Summary.exactOf C10.exL }

example : ∃ x', xR.reweight (.fin 3) = some (.ok x') ∧ xR.sk.reweight (.fin 3) = some (.ok x'.sk) ∧
    x'.st = xR.st.reweight (.fin 3) ∧ x'.sk.pos = .sp (Content.scale [(1, 2)] 3) := by
  obtain ⟨r, hr, hp, _⟩ := reweight_contents (some demoId) [(1, 2)] [(3, 1)] (.fin 5) 3 (by decide +kernel)
  have hr' : xR.sk.reweight (.fin 3) = some (.ok r) := hr
  have h : xR.reweight (.fin 3) = some (.ok { sk := r, st := xR.st.reweight (.fin 3) }) := by
    simp only [XSketch.reweight, hr']
  exact ⟨_, h, (xsketch_reweight xR _ (.fin 3) h).1, (xsketch_reweight xR _ (.fin 3) h).2, hp⟩

example : ((Summary.exactOf C10.exL).reweight .pinf).min = (Summary.exactOf C10.exL).min ∧
    ((Summary.exactOf C10.exL).reweight .pinf).max = (Summary.exactOf C10.exL).max :=
  summary_reweight_minmax _ .pinf rfl

end C16

/-! ## C17 -/
section C17
open DDS
open DDS.Props.C17 DDS.Rebin DDS.ChangeMapping

example : ∑ j ∈ Finset.Icc (0 : ℤ) 1, prop G2.b 1 3 j = 1 :=
  C17.prop_sum_eq_one G2.strictMono.monotone (by decide +kernel) (by norm_num [G2_b]) (by norm_num [G2_b])

example : ∑ j ∈ Finset.Icc (0 : ℤ) 3, rebin G3.b G2.b 1 src0 j = total src0 :=
  C17.rebin_total G3.strictMono G2.strictMono.monotone one_pos src0 (by decide +kernel) src0_low src0_high

example : total src0 = 18 := by norm_num [total, src0]

example : ∃ pre p post, src0 = pre ++ p :: post ∧ total pre ≤ 7 ∧ 7 < total pre + p.2 ∧
    G2.b 1 < sHi G3.b 1 p.1 ∧ sLo G3.b 1 p.1 < G2.b (1 + 1) :=
  C17.rebin_quantile_bin G3.strictMono G2.strictMono.monotone one_pos src0_sorted src0_nonneg src0_low
    (by decide +kernel) (by decide +kernel) below0 above0

example (i j : ℤ) : prop G2.b (G2.b i) (G2.b (i + 1)) j = if j = i then 1 else 0 :=
  C17.identity_prop G2.strictMono i j

example : (0 : Int) ≤ 1 ∧ (1 : Int) < 0 + (3 : Nat) ∧ F64.lt ((envPow2 0).lowerBound 1) (.fin 5) = true ∧
      F64.le (fInter (envPow2 0) (.fin 1) (.fin 5) 1) (.fin 0) = false ∧
      F64.fin 4 = fWeight (envPow2 0) (.fin 1) (.fin 5) (.fin 8) 1 :=
  C17.spreadBin_mem (envPow2 0) (.fin 1) (.fin 5) (.fin 8) 3 0 1 _ ex_mem

example (k : MKind) (off : ℝ) : StrictMono (Mapping.lowerBound (⟨k, 2, off⟩ : Mapping.Params ℝ)) :=
  mapping_lowerBound_strictMono _ (by norm_num)

/-- the grid `G2` concretely: bounds `1, 2`, and the bin of `3` is bin `1` -/
example : ∃ G : Grid ℚ, G.b 0 = 1 ∧ G.b 1 = 2 ∧ G.idx 3 = 1 := ⟨G2, by norm_num [G2_b], by norm_num [G2_b], by
  show Int.log 2 (3 : ℚ) = 1
  rw [show (3 : ℚ) = ((3 : ℕ) : ℚ) by norm_num, Int.log_natCast]
  norm_num [Nat.log]⟩

end C17

/-! ## C18, C18Bits -/
section C18
open DDS

example : Codec.zigzag (-12345) < W64 := C18.zigzag_range _ (by decide) (by decide)
example : Codec.vfUnword (Codec.vfWord 0x4059000000000000) = 0x4059000000000000 := C18.vfword_roundtrip _ (by decide)
example : ∀ x ∈ Codec.encVarfloatBits 0x4059000000000000, x < 256 := C18.varfloat_bytes _ (by decide)
example : ((5#64) ||| (3#64) <<< 3).toNat = ((5#64).toNat + (3#64).toNat * 2 ^ 3) % W64 :=
  C18Bits.acc_or_bits _ _ 3 (by decide)
example : ((0x0123456789abcdef#64).rotateLeft 6).toNat = Codec.rotl64 (0x0123456789abcdef#64).toNat 6 :=
  C18Bits.rotl64_bits _ 6 (by decide)
example : ((0x0123456789abcdef#64).rotateRight 6).toNat = Codec.rotr64 (0x0123456789abcdef#64).toNat 6 :=
  C18Bits.rotr64_bits _ 6 (by decide)

end C18

/-! ## C19 -/
section C19
open DDS
open DDS.Props.C19

def m103 : MapId := { m102 with gamma := .fin (103 / 100) }

example : m102.equals m103 = m103.equals m102 :=
  equals_symm m102 m103 _ _ 0 0 gamma102_eq rfl rfl rfl

example : m102.equals { kind := .log, gamma := F64.ofBits 0x3FF051EB851EB852, indexOffset := .fin 0 } = true :=
  equals_of_identity m102 _ _ 0 rfl rfl rfl gamma102_eq rfl

example : Proto.mappingFromProto (some { (Proto.mappingToProto m102) with interpolation := 2 }) = .error .badInterpolation :=
  mappingFromProto_rejects_unknown_interpolation _ (Or.inl rfl)

example : Proto.mappingFromProto (some { (Proto.mappingToProto m102) with interpolation := 7 }) = .error .badInterpolation :=
  mappingFromProto_rejects_unknown_interpolation _ (Or.inr (by decide))

example (rest : Bytes) : match m102.toBlock with
    | .mapping sub g o => MapId.ofBlock sub g o = .ok m102
    | _ => False :=
  (binary_roundtrip m102 m102_valid.1 m102_valid.2 m102_valid.3 rest).2

end C19

/-! ## C20 -/
section C20
open DDS
open DDS.Props.C20 DDS.Dataset

theorem DatasetInv_inhabited : Dataset.Inv ex ∧ ex.values.length = 5 := ⟨ex_inv, ex_len⟩

example : (ex.lowerQuantile (.fin (1 / 2))).2 =
    .val ((ex.values.mergeSort (fun a b => decide (a ≤ b)))[⌊(1 / 2 : Rat) * ((ex.values.length : Rat) - 1)⌋.toNat]!) :=
  lowerQuantile_spec_of_rep ex ex_inv (by rw [ex_len]; decide) (by rw [ex_len]; decide) _ (by decide +kernel) (by decide +kernel)
    (by rw [ex_len]; decide +kernel)

example : (ex.upperQuantile (.fin (1 / 2))).2 =
    .val ((ex.values.mergeSort (fun a b => decide (a ≤ b)))[⌈(1 / 2 : Rat) * ((ex.values.length : Rat) - 1)⌉.toNat]!) :=
  upperQuantile_spec_of_rep ex ex_inv (by rw [ex_len]; decide) (by rw [ex_len]; decide) _ (by decide +kernel) (by decide +kernel)
    (by rw [ex_len]; decide +kernel)

example : ∃ fl : Rat, F64.mul (.fin (3 / 10)) (.fin ((ex.values.length : Rat) - 1)) = .fin fl ∧
      ((⌊(3 / 10 : Rat) * ((ex.values.length : Rat) - 1)⌋ : Int) : Rat) ≤ fl ∧
      fl ≤ ((⌈(3 / 10 : Rat) * ((ex.values.length : Rat) - 1)⌉ : Int) : Rat) ∧
      0 ≤ ⌊fl⌋ ∧ ⌊fl⌋.toNat < ex.values.length ∧
      ex.lowerQuantile (.fin (3 / 10)) =
        (ex.sort, .val ((ex.values.mergeSort (fun a b => decide (a ≤ b)))[⌊fl⌋.toNat]!)) :=
  lowerQuantile_spec_exact ex ex_inv (by rw [ex_len]; decide) (by rw [ex_len]; decide) _ (by decide +kernel) (by decide +kernel)

example : ∃ fl : Rat, F64.mul (.fin (3 / 10)) (.fin ((ex.values.length : Rat) - 1)) = .fin fl ∧
      ((⌊(3 / 10 : Rat) * ((ex.values.length : Rat) - 1)⌋ : Int) : Rat) ≤ fl ∧
      fl ≤ ((⌈(3 / 10 : Rat) * ((ex.values.length : Rat) - 1)⌉ : Int) : Rat) ∧
      0 ≤ ⌈fl⌉ ∧ ⌈fl⌉.toNat < ex.values.length ∧
      ex.upperQuantile (.fin (3 / 10)) =
        (ex.sort, .val ((ex.values.mergeSort (fun a b => decide (a ≤ b)))[⌈fl⌉.toNat]!)) :=
  upperQuantile_spec_exact ex ex_inv (by rw [ex_len]; decide) (by rw [ex_len]; decide) _ (by decide +kernel) (by decide +kernel)

example : ex.rejects (.fin (3 / 10)) = false :=
  quantile_accepts ex ex_inv (by rw [ex_len]; decide) _ (by decide +kernel) (by decide +kernel)

example (q : F64) : Dataset.new.lowerQuantile q = (Dataset.new, .nan) ∧ Dataset.new.upperQuantile q = (Dataset.new, .nan) :=
  quantile_rejects_empty Dataset.new (Dataset.inv_ofList [] (by decide)) rfl q

example (q : F64) : ObsEq (ex.lowerQuantile q).1 ex ∧ ObsEq (ex.upperQuantile q).1 ex ∧ ObsEq ex.min.1 ex ∧
    ObsEq ex.max.1 ex := query_invisible ex ex_inv q

/-- `ObsEq` between two DIFFERENT datasets (different order of the values) -/
theorem ObsEq_inhabited : ObsEq (ofList [3, -1, 2, 2, 7]) (ofList [7, 2, 3, 2, -1]) ∧
    (ofList [3, -1, 2, 2, 7]).values ≠ (ofList [7, 2, 3, 2, -1]).values := by
  refine ⟨obsEq_ofList (by decide), ?_⟩
  rw [ofList_values, ofList_values]
  decide

example (ops : List Op) : (run (ofList [3, -1, 2, 2, 7]) ops).2 = (run (ofList [7, 2, 3, 2, -1]) ops).2 :=
  obsEq_same_answers _ _ ObsEq_inhabited.1 ops

example (ops : List Op) : (run (ofList [3, -1, 2, 2, 7]) ops).2 = (run (ofList [7, 2, 3, 2, -1]) ops).2 :=
  order_independent_run _ _ (by decide) ops

example : ([3, -1, 2, 2, 7] : List Rat).mergeSort (fun a b => decide (a ≤ b)) =
    ([7, 2, 3, 2, -1] : List Rat).mergeSort (fun a b => decide (a ≤ b)) :=
  mergeSort_perm_eq _ _ (by decide)

end C20

end DDS.Props.NonVacuity
