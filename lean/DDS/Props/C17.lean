/-
  DDS.Props.C17 — "Changing mapping or unit conserves weight and stays within combined accuracy".

  `DDSketch.ChangeMapping` / `changeStoreMapping` (ddsketch.go) spread every source bin
  `[lb₁ i, lb₁ (i+1)) · scale` over the target bins that intersect it, proportionally to the length
  of the intersection.  Two strata:

  * Part 1 — the IDEAL re-binning over any linear ordered field `K` (`ℚ`, `ℝ`): definitions
    `Rebin.prop` (ideal proportion), `Rebin.rebin` (target histogram), `Rebin.srcCdf`
    (piecewise-linear CDF of the scaled source, weight uniformly spread inside each bin).
    A grid is a strictly increasing `b : ℤ → K` (bin `i` is `[b i, b (i+1))`); a source histogram is a
    finite list of `(index, weight)`.
  * Part 2 — the transcribed float loop `ChangeMapping.spreadBin` (exact binary64 model `F64`,
    oracle mapping `MapEnv`): sign of the weights and real overlap for ALL floats, and equality
    with the ideal proportions when the float operations of the loop are exact.
    `Summary.rescale` (exact statistics).

  Statements that needed a correction with respect to the informal claim (each one is witnessed by a
  machine-checked counterexample below):
  * "every weight is `> 0` for ALL floats" is FALSE: a NaN bound gives a NaN weight
    (`nan_bound_gives_nan_weight`), and the quotient `inter / size` can underflow to `0`
    (`underflow_gives_zero_weight`: `inter = 2^-1074`, `size = 2^1000`).  What holds for ALL floats is
    "no weight is `< 0`" (`spreadBin_weights_not_neg`); with finite inputs and a non-NaN oracle every
    weight is `≥ 0` (`spreadBin_weights_nonneg`) and `> 0` when the product does not underflow
    (`spreadBin_weights_pos`).
  * "every produced index satisfies `inLow < lowerBound (j+1)` for ALL floats" is FALSE when that bound
    is NaN (`nan_bound_breaks_overlap`).  What holds for ALL floats: `lowerBound j < inHigh`, and
    `inLow < lowerBound (j+1)` unless the weight is NaN (`spreadBin_indexes_overlap`); with finite
    inputs and a non-NaN oracle both hold (`spreadBin_indexes_overlap_fin`).
  * `rebin_quantile_bin` is proved with the half-open cumulative interval `C_{i-1} ≤ r < C_i`
    (stronger than the closed one of the informal statement).
-/
import DDS.Proofs.Rebin
import DDS.Proofs.MappingReal

namespace DDS.Props.C17

open DDS DDS.Rebin DDS.ChangeMapping

/-! ## Part 1 — the ideal re-binning -/

section Ideal

variable {K : Type*} [Field K] [LinearOrder K] [IsStrictOrderedRing K]

/-! ### the vocabulary, restated -/

example (b₂ : ℤ → K) (lo hi : K) (j : ℤ) :
    prop b₂ lo hi j = max 0 (min (b₂ (j + 1)) hi - max (b₂ j) lo) / (hi - lo) := rfl

example (b₁ b₂ : ℤ → K) (scale : K) (src : List (ℤ × K)) (j : ℤ) :
    rebin b₁ b₂ scale src j =
      (src.map fun p => prop b₂ (b₁ p.1 * scale) (b₁ (p.1 + 1) * scale) j * p.2).sum := rfl

example (b₁ : ℤ → K) (scale : K) (src : List (ℤ × K)) (x : K) :
    srcCdf b₁ scale src x =
      (src.map fun p =>
        p.2 * ((max (b₁ p.1 * scale) (min x (b₁ (p.1 + 1) * scale)) - b₁ p.1 * scale) /
          (b₁ (p.1 + 1) * scale - b₁ p.1 * scale))).sum := rfl

example (src : List (ℤ × K)) : total src = (src.map Prod.snd).sum := rfl

example (src : List (ℤ × K)) (j : ℤ) :
    weightAt src j = (src.map fun p => if p.1 = j then p.2 else 0).sum := rfl

/-! ### one source bin `[lo, hi)` -/

theorem prop_nonneg (b₂ : ℤ → K) {lo hi : K} (h : lo < hi) (j : ℤ) : 0 ≤ prop b₂ lo hi j :=
  Rebin.prop_nonneg b₂ h j

theorem prop_le_one (b₂ : ℤ → K) {lo hi : K} (h : lo < hi) (j : ℤ) : prop b₂ lo hi j ≤ 1 :=
  (div_le_one (sub_pos.mpr h)).mpr
    (max_le (sub_pos.mpr h).le (sub_le_sub (min_le_right _ _) (le_max_right _ _)))

/-- weight only goes to overlapping bins -/
theorem prop_pos_iff_overlap (b₂ : ℤ → K) {lo hi : K} (h : lo < hi) (j : ℤ) :
    0 < prop b₂ lo hi j ↔ ∃ x, (b₂ j < x ∧ x < b₂ (j + 1)) ∧ (lo < x ∧ x < hi) :=
  Rebin.prop_pos_iff_overlap b₂ h j

/-- the same for a non-degenerate target bin, as two inequalities on the bounds -/
theorem prop_pos_iff_lt (b₂ : ℤ → K) {lo hi : K} (h : lo < hi) (j : ℤ)
    (hb : b₂ j < b₂ (j + 1)) :
    0 < prop b₂ lo hi j ↔ b₂ j < hi ∧ lo < b₂ (j + 1) :=
  Rebin.prop_pos_iff_lt b₂ h j hb

/-- the loop `for j := m; b₂ j < hi; j++` visits exactly `m..J`, `J` the last bin that starts below
    `hi`; such a `J` exists as soon as some bound reaches `hi` -/
theorem visited_range {b₂ : ℤ → K} (hb : StrictMono b₂) {hi : K} {m : ℤ} (hm : b₂ m < hi)
    (hex : ∃ J', hi ≤ b₂ (J' + 1)) :
    ∃ J, m ≤ J ∧ b₂ J < hi ∧ hi ≤ b₂ (J + 1) ∧
      ∀ j, (m ≤ j ∧ b₂ j < hi) ↔ j ∈ Finset.Icc m J := by
  have hbdd : ∃ z0 : ℤ, ∀ z, hi ≤ b₂ (z + 1) → z0 ≤ z :=
    ⟨m, fun z hz => Int.lt_add_one_iff.mp (hb.lt_iff_lt.mp (hm.trans_le hz))⟩
  obtain ⟨J, hJ, hmin⟩ := Int.exists_least_of_bdd hbdd hex
  have hJ1 : b₂ J < hi := by
    by_contra hc
    have := hmin (J - 1) (by rw [sub_add_cancel]; exact not_lt.mp hc)
    omega
  refine ⟨J, Int.lt_add_one_iff.mp (hb.lt_iff_lt.mp (hm.trans_le hJ)), hJ1, hJ, fun j => ?_⟩
  rw [Finset.mem_Icc]
  exact and_congr_right fun _ =>
    ⟨fun h => Int.lt_add_one_iff.mp (hb.lt_iff_lt.mp (h.trans_le hJ)),
      fun h => (hb.monotone h).trans_lt hJ1⟩

/-- conservation for one source bin: the proportions over the visited range add up to `1` -/
theorem prop_sum_eq_one {b₂ : ℤ → K} (hb : Monotone b₂) {lo hi : K} (h : lo < hi) {m J : ℤ}
    (hm : b₂ m ≤ lo) (hJ : hi ≤ b₂ (J + 1)) :
    ∑ j ∈ Finset.Icc m J, prop b₂ lo hi j = 1 :=
  Rebin.prop_sum_eq_one hb h hm hJ

/-- … with the start of the loop given by the index function of a grid -/
theorem prop_sum_eq_one_grid (G : Grid K) {lo hi : K} (hlo : 0 < lo) (h : lo < hi) {J : ℤ}
    (hJ : hi ≤ G.b (J + 1)) :
    ∑ j ∈ Finset.Icc (G.idx lo) J, prop G.b lo hi j = 1 :=
  G.prop_sum_eq_one hlo h hJ

/-! ### a finite source histogram -/

/-- conservation: total weight of the target = total weight of the source (`m..J` is any range of
    target bins that covers the scaled source; outside of it the target is empty) -/
theorem rebin_total {b₁ b₂ : ℤ → K} (hb₁ : StrictMono b₁) (hb₂ : Monotone b₂) {scale : K}
    (hs : 0 < scale) (src : List (ℤ × K)) {m J : ℤ} (hmJ : m ≤ J + 1)
    (hm : ∀ p ∈ src, b₂ m ≤ sLo b₁ scale p.1) (hJ : ∀ p ∈ src, sHi b₁ scale p.1 ≤ b₂ (J + 1)) :
    ∑ j ∈ Finset.Icc m J, rebin b₁ b₂ scale src j = total src :=
  Rebin.rebin_total hb₁ hb₂ hs src hmJ hm hJ

theorem rebin_eq_zero_outside {b₁ b₂ : ℤ → K} (hb₁ : StrictMono b₁) (hb₂ : Monotone b₂)
    {scale : K} (hs : 0 < scale) {src : List (ℤ × K)} {m J : ℤ}
    (hm : ∀ p ∈ src, b₂ m ≤ sLo b₁ scale p.1) (hJ : ∀ p ∈ src, sHi b₁ scale p.1 ≤ b₂ (J + 1))
    {j : ℤ} (hj : j ∉ Finset.Icc m J) : rebin b₁ b₂ scale src j = 0 := by
  rw [Finset.mem_Icc, not_and_or, not_le, not_le] at hj
  induction src with
  | nil => simp
  | cons p t ih =>
    rw [rebin_cons, ih (fun q hq => hm q (List.mem_cons_of_mem _ hq))
      (fun q hq => hJ q (List.mem_cons_of_mem _ hq)), add_zero,
      prop_eq_zero_of_le b₂ (sLo_lt_sHi hb₁ hs p.1) j ?_, zero_mul]
    rcases hj with hj | hj
    · left; exact le_trans (hb₂ (by omega)) (hm p (List.mem_cons_self ..))
    · right; exact le_trans (hJ p (List.mem_cons_self ..)) (hb₂ (by omega))

/-- a covering range exists for every finite source on a grid with unbounded bounds -/
theorem cover_exists (b₁ : ℤ → K) (hpos₁ : ∀ i, 0 < b₁ i) (G : Grid K)
    (hunb : ∀ x : K, ∃ J, x ≤ G.b (J + 1)) {scale : K} (hs : 0 < scale) (src : List (ℤ × K)) :
    ∃ m J : ℤ, m ≤ J + 1 ∧ (∀ p ∈ src, G.b m ≤ sLo b₁ scale p.1) ∧
      (∀ p ∈ src, sHi b₁ scale p.1 ≤ G.b (J + 1)) := by
  induction src with
  | nil => exact ⟨0, 0, by decide, by simp, by simp⟩
  | cons p t ih =>
    obtain ⟨m, J, hmJ, hm, hJ⟩ := ih
    obtain ⟨J', hJ'⟩ := hunb (sHi b₁ scale p.1)
    have hlo : 0 < sLo b₁ scale p.1 := mul_pos (hpos₁ _) hs
    refine ⟨min m (G.idx (sLo b₁ scale p.1)), max J J', ?_, ?_, ?_⟩
    · exact (min_le_left _ _).trans (hmJ.trans (Int.add_le_add_right (le_max_left J J') 1))
    · intro q hq
      rcases List.mem_cons.mp hq with rfl | hq
      · exact le_trans (G.strictMono.monotone (min_le_right _ _)) (G.idx_le _ hlo)
      · exact le_trans (G.strictMono.monotone (min_le_left _ _)) (hm q hq)
    · intro q hq
      rcases List.mem_cons.mp hq with rfl | hq
      · exact le_trans hJ' (G.strictMono.monotone (Int.add_le_add_right (le_max_right J J') 1))
      · exact le_trans (hJ q hq) (G.strictMono.monotone (Int.add_le_add_right (le_max_left J J') 1))

theorem rebin_nonneg {b₁ b₂ : ℤ → K} (hb₁ : StrictMono b₁) {scale : K} (hs : 0 < scale)
    {src : List (ℤ × K)} (hc : ∀ p ∈ src, 0 ≤ p.2) (j : ℤ) : 0 ≤ rebin b₁ b₂ scale src j :=
  Rebin.rebin_nonneg hb₁ hs hc j

/-- the key lemma for quantiles: cumulated target weight below the edge `b₂ j` = source CDF there -/
theorem rebin_cdf {b₁ b₂ : ℤ → K} (hb₁ : StrictMono b₁) (hb₂ : Monotone b₂) {scale : K}
    (hs : 0 < scale) (src : List (ℤ × K)) {m j : ℤ}
    (hm : ∀ p ∈ src, b₂ m ≤ sLo b₁ scale p.1) (hmj : m ≤ j) :
    ∑ k ∈ Finset.Ico m j, rebin b₁ b₂ scale src k = srcCdf b₁ scale src (b₂ j) :=
  Rebin.rebin_cdf hb₁ hb₂ hs src hm hmj

/-- if target bin `j` is the first whose cumulated weight exceeds `r`, the source bin that answers
    rank `r` (`src = pre ++ p :: post`, `total pre ≤ r < total pre + p.2`) overlaps target bin `j` -/
theorem rebin_quantile_bin {b₁ b₂ : ℤ → K} (hb₁ : StrictMono b₁) (hb₂ : Monotone b₂) {scale : K}
    (hs : 0 < scale) {src : List (ℤ × K)} (hsorted : src.Pairwise (fun u v => u.1 < v.1))
    (hc : ∀ q ∈ src, 0 ≤ q.2) {m j : ℤ} (hm : ∀ p ∈ src, b₂ m ≤ sLo b₁ scale p.1) (hmj : m ≤ j)
    {r : K} (h0 : 0 ≤ r)
    (hbelow : ∑ k ∈ Finset.Ico m j, rebin b₁ b₂ scale src k ≤ r)
    (habove : r < ∑ k ∈ Finset.Icc m j, rebin b₁ b₂ scale src k) :
    ∃ pre p post, src = pre ++ p :: post ∧ total pre ≤ r ∧ r < total pre + p.2 ∧
      b₂ j < sHi b₁ scale p.1 ∧ sLo b₁ scale p.1 < b₂ (j + 1) :=
  Rebin.rebin_quantile_bin hb₁ hb₂ hs hsorted hc hm hmj h0 hbelow habove

/-- hence the two answers for rank `r` are within the product of the grid ratios
    (`ρ = (1+α)/(1−α)` for a mapping of relative accuracy `α`) -/
theorem rebin_quantile_accuracy {b₁ b₂ : ℤ → K} (hb₁ : StrictMono b₁) (hb₂ : Monotone b₂)
    (hpos₁ : ∀ i, 0 < b₁ i) (hpos₂ : ∀ j, 0 < b₂ j) {scale ρ₁ ρ₂ : K} (hs : 0 < scale)
    (hρ₁ : ∀ i, b₁ (i + 1) ≤ ρ₁ * b₁ i) (hρ₂ : ∀ j, b₂ (j + 1) ≤ ρ₂ * b₂ j)
    {rep₁ rep₂ : ℤ → K}
    (hrep₁ : ∀ i, b₁ i ≤ rep₁ i ∧ rep₁ i ≤ b₁ (i + 1))
    (hrep₂ : ∀ j, b₂ j ≤ rep₂ j ∧ rep₂ j ≤ b₂ (j + 1))
    {src : List (ℤ × K)} (hsorted : src.Pairwise (fun u v => u.1 < v.1))
    (hc : ∀ q ∈ src, 0 ≤ q.2) {m j : ℤ} (hm : ∀ p ∈ src, b₂ m ≤ sLo b₁ scale p.1) (hmj : m ≤ j)
    {r : K} (h0 : 0 ≤ r)
    (hbelow : ∑ k ∈ Finset.Ico m j, rebin b₁ b₂ scale src k ≤ r)
    (habove : r < ∑ k ∈ Finset.Icc m j, rebin b₁ b₂ scale src k) :
    ∃ pre p post, src = pre ++ p :: post ∧ total pre ≤ r ∧ r < total pre + p.2 ∧
      1 / (ρ₁ * ρ₂) < rep₂ j / (scale * rep₁ p.1) ∧ rep₂ j / (scale * rep₁ p.1) < ρ₁ * ρ₂ :=
  Rebin.rebin_quantile_accuracy hb₁ hb₂ hpos₁ hpos₂ hs hρ₁ hρ₂ hrep₁ hrep₂ hsorted hc hm hmj h0
    hbelow habove

/-- the same in terms of accuracies: representatives that are `α`-accurate for the points inside
    their bin (as `Value(index)` of a mapping is, see `mapping_value_accurate`) give
    `(1−α₂)/(1+α₁) ≤ rep₂ j / (scale · rep₁ i) ≤ (1+α₂)/(1−α₁)`, stated without division -/
theorem rebin_quantile_accuracy_alpha {b₁ b₂ : ℤ → K} (hb₁ : StrictMono b₁)
    (hb₂ : StrictMono b₂) {scale α₁ α₂ : K} (hs : 0 < scale)
    (hα₁ : 0 ≤ α₁) (hα₁' : α₁ ≤ 1) (hα₂ : 0 ≤ α₂) (hα₂' : α₂ ≤ 1) {rep₁ rep₂ : ℤ → K}
    (hacc₁ : ∀ i v, b₁ i < v → v < b₁ (i + 1) → |rep₁ i - v| ≤ α₁ * v)
    (hacc₂ : ∀ j v, b₂ j < v → v < b₂ (j + 1) → |rep₂ j - v| ≤ α₂ * v)
    {src : List (ℤ × K)} (hsorted : src.Pairwise (fun u v => u.1 < v.1))
    (hc : ∀ q ∈ src, 0 ≤ q.2) {m j : ℤ} (hm : ∀ p ∈ src, b₂ m ≤ sLo b₁ scale p.1) (hmj : m ≤ j)
    {r : K} (h0 : 0 ≤ r)
    (hbelow : ∑ k ∈ Finset.Ico m j, rebin b₁ b₂ scale src k ≤ r)
    (habove : r < ∑ k ∈ Finset.Icc m j, rebin b₁ b₂ scale src k) :
    ∃ pre p post, src = pre ++ p :: post ∧ total pre ≤ r ∧ r < total pre + p.2 ∧
      (1 - α₂) * (scale * rep₁ p.1) ≤ (1 + α₁) * rep₂ j ∧
      (1 - α₁) * rep₂ j ≤ (1 + α₂) * (scale * rep₁ p.1) := by
  obtain ⟨pre, p, post, e, h1, h2, hov1, hov2⟩ :=
    rebin_quantile_bin hb₁ hb₂.monotone hs hsorted hc hm hmj h0 hbelow habove
  exact ⟨pre, p, post, e, h1, h2,
    overlap_accuracy_alpha hs (hb₁ (lt_add_one _)) (hb₂ (lt_add_one _)) hα₁ hα₁' hα₂ hα₂'
      (hacc₁ p.1) (hacc₂ j) hov1 hov2⟩

/-! ### identity -/

/-- re-binning onto the same grid with scale `1` returns the source histogram -/
theorem identity_rebin {b : ℤ → K} (hb : StrictMono b) (src : List (ℤ × K)) (j : ℤ) :
    rebin b b 1 src j = weightAt src j :=
  Rebin.identity_rebin hb src j

/-- each bin gets proportion `1` on itself and `0` elsewhere -/
theorem identity_prop {b : ℤ → K} (hb : StrictMono b) (i j : ℤ) :
    prop b (b i) (b (i + 1)) j = if j = i then 1 else 0 :=
  Rebin.prop_self hb i j

end Ideal

/-! ### the three concrete mappings over `ℝ` (property C03) fit the hypotheses -/

section RealMappings

variable (p : Mapping.Params ℝ)

theorem mapping_lowerBound_strictMono (hγ : 1 < p.gamma) : StrictMono (Mapping.lowerBound p) :=
  fun _ _ h => RealMap.lowerBound_strictMono p hγ h

/-- `Value(i)` is `α`-accurate for every point inside bin `i` -/
theorem mapping_value_accurate (hγ : 1 < p.gamma) (i : ℤ) (v : ℝ)
    (h1 : Mapping.lowerBound p i < v) (h2 : v < Mapping.lowerBound p (i + 1)) :
    |Mapping.value p i - v| ≤ Mapping.relativeAccuracy p * v := by
  have hv : 0 < v := lt_trans (RealMap.lowerBound_pos p i) h1
  have hsm := mapping_lowerBound_strictMono p hγ
  have a := RealMap.lowerBound_le p hγ hv
  have b := RealMap.le_lowerBound_succ p hγ hv
  have e1 : Mapping.index p v < i + 1 := hsm.lt_iff_lt.mp (lt_of_le_of_lt a h2)
  have e2 : i < Mapping.index p v + 1 := hsm.lt_iff_lt.mp (lt_of_lt_of_le h1 b)
  have e : Mapping.index p v = i := by omega
  have := RealMap.accuracy p hγ hv
  rwa [e] at this

/-- **C17, quantiles**: converting from mapping `p₁` to mapping `p₂` with a positive scale: the value
    the ideal target answers for rank `r` and `scale ·` the value the source answers for the same
    rank are within the combined relative accuracy of the two mappings -/
theorem mapping_quantile_accuracy (p₁ p₂ : Mapping.Params ℝ) (hγ₁ : 1 < p₁.gamma)
    (hγ₂ : 1 < p₂.gamma) {scale : ℝ} (hs : 0 < scale)
    {src : List (ℤ × ℝ)} (hsorted : src.Pairwise (fun u v => u.1 < v.1))
    (hc : ∀ q ∈ src, 0 ≤ q.2) {m j : ℤ}
    (hm : ∀ q ∈ src, Mapping.lowerBound p₂ m ≤ sLo (Mapping.lowerBound p₁) scale q.1)
    (hmj : m ≤ j) {r : ℝ} (h0 : 0 ≤ r)
    (hbelow : ∑ k ∈ Finset.Ico m j,
        rebin (Mapping.lowerBound p₁) (Mapping.lowerBound p₂) scale src k ≤ r)
    (habove : r < ∑ k ∈ Finset.Icc m j,
        rebin (Mapping.lowerBound p₁) (Mapping.lowerBound p₂) scale src k) :
    ∃ pre q post, src = pre ++ q :: post ∧ total pre ≤ r ∧ r < total pre + q.2 ∧
      (1 - Mapping.relativeAccuracy p₂) * (scale * Mapping.value p₁ q.1)
        ≤ (1 + Mapping.relativeAccuracy p₁) * Mapping.value p₂ j ∧
      (1 - Mapping.relativeAccuracy p₁) * Mapping.value p₂ j
        ≤ (1 + Mapping.relativeAccuracy p₂) * (scale * Mapping.value p₁ q.1) := by
  obtain ⟨a1, a2⟩ := RealMap.relativeAccuracy_pos_lt_one p₁ hγ₁
  obtain ⟨b1, b2⟩ := RealMap.relativeAccuracy_pos_lt_one p₂ hγ₂
  exact rebin_quantile_accuracy_alpha (mapping_lowerBound_strictMono p₁ hγ₁)
    (mapping_lowerBound_strictMono p₂ hγ₂) hs a1.le a2.le b1.le b2.le
    (mapping_value_accurate p₁ hγ₁) (mapping_value_accurate p₂ hγ₂) hsorted hc hm hmj h0
    hbelow habove

end RealMappings

/-! ## Part 2 — the transcribed float loop -/

/-! ### the vocabulary, restated -/

example (new : MapEnv) (inLow inHigh : F64) (j : Int) :
    fInter new inLow inHigh j =
      F64.sub (fminG (new.lowerBound (j + 1)) inHigh) (fmaxG (new.lowerBound j) inLow) := rfl

example (new : MapEnv) (inLow inHigh count : F64) (j : Int) :
    fWeight new inLow inHigh count j =
      F64.mul (F64.div (fInter new inLow inHigh j) (F64.sub inHigh inLow)) count := rfl

example (x : ℚ) : Exact x ↔ F64.roundF64 x = .fin x := Iff.rfl

example (j0 J : ℤ) : visited j0 J = (List.range (J + 1 - j0).toNat).map fun (k : ℕ) => j0 + (k : ℤ) :=
  rfl

/-! ### the output of the loop -/

/-- the structure of the output, ALL floats, any oracle: a produced index lies in
    `[j0, j0 + fuel)` and passes the loop guard, its float intersection is not `≤ 0`, and its weight
    is the one the loop computes -/
theorem spreadBin_mem (new : MapEnv) (inLow inHigh count : F64) (fuel : Nat) (j0 j : Int) (w : F64)
    (hmem : (j, w) ∈ spreadBin new inLow inHigh count fuel j0) :
    j0 ≤ j ∧ j < j0 + fuel ∧ F64.lt (new.lowerBound j) inHigh = true ∧
      F64.le (fInter new inLow inHigh j) (.fin 0) = false ∧
      w = fWeight new inLow inHigh count j :=
  Rebin.spreadBin_mem new inLow inHigh count fuel j0 j w hmem

/-- **never a bin of negative weight** — ALL floats (NaN, ±∞ included), any oracle, any count that
    is not negative -/
theorem spreadBin_weights_not_neg (new : MapEnv) (inLow inHigh count : F64)
    (hc : F64.lt count (.fin 0) = false) (fuel : Nat) (j0 j : Int) (w : F64)
    (hmem : (j, w) ∈ spreadBin new inLow inHigh count fuel j0) :
    F64.lt w (.fin 0) = false :=
  Rebin.spreadBin_weights_not_neg new inLow inHigh count hc fuel j0 j w hmem

/-- finite bounds, finite float size, non-NaN oracle, count `≥ 0`: every weight is `≥ 0` -/
theorem spreadBin_weights_nonneg (new : MapEnv) (a b s c : Rat)
    (hnan : ∀ j, (new.lowerBound j).isNaN = false)
    (hs : F64.sub (.fin b) (.fin a) = .fin s) (hc : 0 ≤ c)
    (fuel : Nat) (j0 j : Int) (w : F64)
    (hmem : (j, w) ∈ spreadBin new (.fin a) (.fin b) (.fin c) fuel j0) :
    F64.le (.fin 0) w = true := by
  obtain ⟨x, _, _, _, hq0, _, rfl, _⟩ := spreadBin_mem_fin new a b s c hnan hs fuel j0 j w hmem
  rw [F64.le_iff_leX, ← F64.roundF64_zero]
  exact F64.roundF64_leX (mul_nonneg hq0 hc)

/-- … and `> 0` when the product `fl(inter/size) · count` does not underflow on the visited bins -/
theorem spreadBin_weights_pos (new : MapEnv) (a b s c : Rat)
    (hnan : ∀ j, (new.lowerBound j).isNaN = false)
    (hs : F64.sub (.fin b) (.fin a) = .fin s)
    (fuel : Nat) (j0 : Int)
    (hmul : ∀ j x, j0 ≤ j → j < j0 + fuel → fInter new (.fin a) (.fin b) j = .fin x → 0 < x →
      pow2 (-1075) < F64.rv (x / s) * c)
    (j : Int) (w : F64)
    (hmem : (j, w) ∈ spreadBin new (.fin a) (.fin b) (.fin c) fuel j0) :
    F64.lt (.fin 0) w = true := by
  obtain ⟨x, hx, hx0, _, hq0, _, rfl, _⟩ := spreadBin_mem_fin new a b s c hnan hs fuel j0 j w hmem
  obtain ⟨hj1, hj2, _⟩ := spreadBin_mem new _ _ _ fuel j0 j _ hmem
  have hpos := F64.rv_pos_of_gt (hmul j x hj1 hj2 hx hx0)
  rcases F64.round_cases (F64.rv (x / s) * c) with ⟨e, -⟩ | ⟨e, h⟩ | ⟨e, -⟩ <;> rw [e]
  · rfl
  · exact absurd (hpos.trans_le h) (neg_neg_of_pos (pow2_pos 1024)).not_gt
  · simpa [F64.lt] using hpos

/-- **only to overlapping bins** — ALL floats -/
theorem spreadBin_indexes_overlap (new : MapEnv) (inLow inHigh count : F64)
    (fuel : Nat) (j0 j : Int) (w : F64)
    (hmem : (j, w) ∈ spreadBin new inLow inHigh count fuel j0) :
    F64.lt (new.lowerBound j) inHigh = true ∧
      (w = .nan ∨ F64.lt inLow (new.lowerBound (j + 1)) = true) :=
  Rebin.spreadBin_indexes_overlap new inLow inHigh count fuel j0 j w hmem

theorem spreadBin_indexes_overlap_fin (new : MapEnv) (a b s c : Rat)
    (hnan : ∀ j, (new.lowerBound j).isNaN = false)
    (hs : F64.sub (.fin b) (.fin a) = .fin s)
    (fuel : Nat) (j0 j : Int) (w : F64)
    (hmem : (j, w) ∈ spreadBin new (.fin a) (.fin b) (.fin c) fuel j0) :
    F64.lt (new.lowerBound j) (.fin b) = true ∧
      F64.lt (.fin a) (new.lowerBound (j + 1)) = true := by
  obtain ⟨_, _, _, _, _, _, _, hov⟩ := spreadBin_mem_fin new a b s c hnan hs fuel j0 j w hmem
  exact ⟨(spreadBin_mem new _ _ _ fuel j0 j w hmem).2.2.1, hov⟩

/-- **the float loop computes the ideal proportions** when its operations are exact -/
theorem spreadBin_spec (new : MapEnv) (b : ℤ → ℚ) (hlb : ∀ j, new.lowerBound j = .fin (b j))
    (hb : StrictMono b) {lo hi c : ℚ} (h : lo < hi) {J : ℤ}
    (hJ1 : ∀ j, j ≤ J → b j < hi) (hJ2 : hi ≤ b (J + 1))
    (hsize : Exact (hi - lo)) {m : ℤ}
    (hinter : ∀ j, m ≤ j → j ≤ J → Exact (min (b (j + 1)) hi - max (b j) lo))
    (hdiv : ∀ j, m ≤ j → j ≤ J → 0 < prop b lo hi j → Exact (prop b lo hi j))
    (hmul : ∀ j, m ≤ j → j ≤ J → 0 < prop b lo hi j → Exact (prop b lo hi j * c))
    (fuel : ℕ) (j0 : ℤ) (hm0 : m ≤ j0) (hj0 : j0 ≤ J + 1) (hfuel : (J + 1 - j0).toNat ≤ fuel) :
    spreadBin new (.fin lo) (.fin hi) (.fin c) fuel j0 =
      (visited j0 J).filterMap fun j =>
        if 0 < prop b lo hi j then some (j, F64.fin (prop b lo hi j * c)) else none :=
  Rebin.spreadBin_spec new b hlb hb h hJ1 hJ2 hsize hinter hdiv hmul fuel j0 hm0 hj0 hfuel

/-- … hence, started at a bin whose lower bound is `≤ inLow` (what a consistent `index` returns),
    the float weights add up to the count exactly -/
theorem spreadBin_spec_total (new : MapEnv) (b : ℤ → ℚ)
    (hlb : ∀ j, new.lowerBound j = .fin (b j))
    (hb : StrictMono b) {lo hi c : ℚ} (h : lo < hi) {J : ℤ}
    (hJ1 : ∀ j, j ≤ J → b j < hi) (hJ2 : hi ≤ b (J + 1))
    (hsize : Exact (hi - lo))
    (hinter : ∀ j, new.index (.fin lo) ≤ j → j ≤ J → Exact (min (b (j + 1)) hi - max (b j) lo))
    (hdiv : ∀ j, new.index (.fin lo) ≤ j → j ≤ J → 0 < prop b lo hi j → Exact (prop b lo hi j))
    (hmul : ∀ j, new.index (.fin lo) ≤ j → j ≤ J → 0 < prop b lo hi j →
      Exact (prop b lo hi j * c))
    (hidx : b (new.index (.fin lo)) ≤ lo)
    (fuel : ℕ) (hfuel : (J + 1 - new.index (.fin lo)).toNat ≤ fuel) :
    ((spreadBin new (.fin lo) (.fin hi) (.fin c) fuel (new.index (.fin lo))).map
        fun p => ratOfF p.2).sum = c := by
  have hj0 : new.index (.fin lo) ≤ J + 1 := by
    have : b (new.index (.fin lo)) < b (J + 1) := by linarith
    exact (hb.lt_iff_lt.mp this).le
  rw [spreadBin_spec new b hlb hb h hJ1 hJ2 hsize hinter hdiv hmul fuel _ le_rfl hj0 hfuel,
    filterMap_weights_sum _ (prop_nonneg b h) c,
    visited_sum_prop hb.monotone h hj0, ucdf_of_ge h hJ2, ucdf_of_le h hidx]
  ring

/-- per-bin conservation lifts to `spreadStore` (all bins of a store) -/
theorem spreadStore_total (old new : MapEnv) (scale : F64) (bins : List (Int × Rat)) (fuel : ℕ)
    (hbin : ∀ p ∈ bins,
      ((spreadBin new (F64.mul (old.lowerBound p.1) scale)
          (F64.mul (old.lowerBound (p.1 + 1)) scale)
          (.fin p.2) fuel (new.index (F64.mul (old.lowerBound p.1) scale))).map
        fun q => ratOfF q.2).sum = p.2) :
    ((spreadStore old new scale bins fuel).map fun q => ratOfF q.2).sum
      = (bins.map Prod.snd).sum :=
  Rebin.spreadStore_total old new scale bins fuel hbin

/-! ### `Summary.rescale` -/

/-- **exact statistics are rescaled by the factor**: `count` is kept, the three sums are multiplied,
    `min`/`max` are multiplied (`f > 0`) or swapped and multiplied (`f < 0`) -/
theorem rescale_stats (s : Summary) (f : F64) :
    (s.rescale f).count = s.count ∧
    (s.rescale f).sum = F64.mul s.sum f ∧
    (s.rescale f).sumCompensation = F64.mul s.sumCompensation f ∧
    (s.rescale f).simpleSum = F64.mul s.simpleSum f ∧
    (F64.lt (.fin 0) f = true →
      (s.rescale f).min = F64.mul s.min f ∧ (s.rescale f).max = F64.mul s.max f) ∧
    (F64.lt f (.fin 0) = true →
      (s.rescale f).min = F64.mul s.max f ∧ (s.rescale f).max = F64.mul s.min f) :=
  ⟨rescale_count s f, (rescale_sum s f).1, (rescale_sum s f).2.1, (rescale_sum s f).2.2,
    rescale_pos s f, rescale_neg s f⟩

/-! ## counterexamples to the uncorrected statements (closed computations on the exact model) -/

/-- oracle with `lowerBound j = 2^j` (exactly), `index` constant -/
def envPow2 (idx : Int) : MapEnv :=
  { id := default, minIndexable := .fin 0, maxIndexable := .pinf, relAcc := .fin 0,
    value := fun j => .fin (pow2 j), lowerBound := fun j => .fin (pow2 j), index := fun _ => idx }

def envNaN : MapEnv :=
  { id := default, minIndexable := .fin 0, maxIndexable := .pinf, relAcc := .fin 0,
    value := fun j => .fin (pow2 j),
    lowerBound := fun j => if j = 1 then .nan else .fin (pow2 j), index := fun _ => 0 }

/-- finite positive bounds `2^-1074 < 2^1000`, finite non-NaN oracle, count `1 > 0`: the only
    visited bin gets the weight `fl(fl(2^-1074 / 2^1000) · 1) = 0`, which is not `> 0` -/
theorem underflow_gives_zero_weight :
    spreadBin (envPow2 0) (.fin (pow2 (-1074))) (.fin (pow2 1000)) (.fin 1) 1 (-1074)
      = [(-1074, .fin 0)] ∧ F64.lt (.fin 0) (.fin 0) = false := by decide +kernel

/-- a NaN bound of the target bin: the intersection is NaN, hence not `≤ 0`, and the bin receives a
    NaN weight (which is neither `> 0` nor `< 0`) -/
theorem nan_bound_gives_nan_weight :
    spreadBin envNaN (.fin 1) (.fin 5) (.fin 8) 1 0 = [(0, .nan)] := by decide +kernel

/-- … and `inLow < lowerBound (j+1)` fails for that produced index -/
theorem nan_bound_breaks_overlap :
    (0, F64.nan) ∈ spreadBin envNaN (.fin 1) (.fin 5) (.fin 8) 1 0 ∧
      F64.lt (.fin 1) (envNaN.lowerBound (0 + 1)) = false := by decide +kernel

/-- and a run where everything is exact: `[1,5)` of weight `8` over the bins of `2^j` -/
example : spreadBin (envPow2 0) (.fin 1) (.fin 5) (.fin 8) 3 0
    = [(0, .fin 2), (1, .fin 4), (2, .fin 2)] := by decide +kernel

/-! ## the hypotheses are satisfiable — Part 1

source grid `3^i`, target grid `2^j` over `ℚ`, scale `1`, source histogram `[1,3) ↦ 6`, `[3,9) ↦ 12`;
rank `r = 7` is answered by source bin `1 = [3,9)` and by target bin `1 = [2,4)` (cumulated target
weights `3, 8, …`) -/

def G2 : Grid ℚ := natGrid 2 (by norm_num)
def G3 : Grid ℚ := natGrid 3 (by norm_num)
def src0 : List (ℤ × ℚ) := [(0, 6), (1, 12)]

theorem G2_b (j : ℤ) : G2.b j = (2:ℚ) ^ j := by simp [G2, natGrid]
theorem G3_b (j : ℤ) : G3.b j = (3:ℚ) ^ j := by simp [G3, natGrid]
theorem src0_sorted : src0.Pairwise (fun u v => u.1 < v.1) := by decide +kernel
theorem src0_nonneg : ∀ q ∈ src0, 0 ≤ q.2 := by decide +kernel
theorem src0_low : ∀ p ∈ src0, G2.b 0 ≤ sLo G3.b 1 p.1 := by decide +kernel
theorem src0_high : ∀ p ∈ src0, sHi G3.b 1 p.1 ≤ G2.b (3 + 1) := by decide +kernel
theorem rebin0 : rebin G3.b G2.b 1 src0 0 = 3 := by decide +kernel
theorem rebin1 : rebin G3.b G2.b 1 src0 1 = 5 := by decide +kernel
theorem below0 : ∑ k ∈ Finset.Ico (0:ℤ) 1, rebin G3.b G2.b 1 src0 k ≤ 7 := by decide +kernel
theorem above0 : (7:ℚ) < ∑ k ∈ Finset.Icc (0:ℤ) 1, rebin G3.b G2.b 1 src0 k := by decide +kernel

example (j : ℤ) : 0 ≤ prop G2.b 1 3 j ∧ prop G2.b 1 3 j ≤ 1 :=
  ⟨prop_nonneg _ (by norm_num) j, prop_le_one _ (by norm_num) j⟩

example : 0 < prop G2.b 1 3 1 :=
  (prop_pos_iff_lt G2.b (by norm_num) 1 (G2.strictMono (by norm_num))).mpr
    (by norm_num [G2_b])

example : ∃ x : ℚ, (G2.b 1 < x ∧ x < G2.b (1 + 1)) ∧ (1 < x ∧ x < 3) :=
  (prop_pos_iff_overlap G2.b (by norm_num) 1).mp
    ((prop_pos_iff_lt G2.b (by norm_num) 1 (G2.strictMono (by norm_num))).mpr (by norm_num [G2_b]))

example : ∃ J, (0:ℤ) ≤ J ∧ G2.b J < 3 ∧ 3 ≤ G2.b (J + 1) ∧
    ∀ j, (0 ≤ j ∧ G2.b j < 3) ↔ j ∈ Finset.Icc 0 J :=
  visited_range G2.strictMono (by norm_num [G2_b]) (natGrid_unbounded 2 (by norm_num) 3)

example : ∑ j ∈ Finset.Icc (G2.idx 1) 1, prop G2.b 1 3 j = 1 :=
  prop_sum_eq_one_grid G2 (by norm_num) (by norm_num) (by norm_num [G2_b])

example : rebin G3.b G2.b 1 src0 7 = 0 :=
  rebin_eq_zero_outside G3.strictMono G2.strictMono.monotone one_pos src0_low src0_high (by decide)

example : ∃ m J : ℤ, m ≤ J + 1 ∧ (∀ p ∈ src0, G2.b m ≤ sLo G3.b 1 p.1) ∧
    (∀ p ∈ src0, sHi G3.b 1 p.1 ≤ G2.b (J + 1)) :=
  cover_exists G3.b G3.pos G2 (natGrid_unbounded 2 (by norm_num)) one_pos src0

example (j : ℤ) : 0 ≤ rebin G3.b G2.b 1 src0 j :=
  rebin_nonneg G3.strictMono one_pos src0_nonneg j

example : ∑ k ∈ Finset.Ico 0 2, rebin G3.b G2.b 1 src0 k = srcCdf G3.b 1 src0 (G2.b 2) :=
  rebin_cdf G3.strictMono G2.strictMono.monotone one_pos src0 src0_low (by norm_num)

theorem G3_ratio : ∀ i, G3.b (i + 1) ≤ 3 * G3.b i := by
  intro i; rw [G3_b, G3_b, zpow_add_one₀ (by norm_num)]; linarith
theorem G2_ratio : ∀ i, G2.b (i + 1) ≤ 2 * G2.b i := by
  intro i; rw [G2_b, G2_b, zpow_add_one₀ (by norm_num)]; linarith

example : ∃ pre p post, src0 = pre ++ p :: post ∧ total pre ≤ 7 ∧ 7 < total pre + p.2 ∧
    1 / (3 * 2) < G2.b 1 / (1 * G3.b p.1) ∧ G2.b 1 / (1 * G3.b p.1) < 3 * 2 :=
  rebin_quantile_accuracy G3.strictMono G2.strictMono.monotone G3.pos G2.pos one_pos
    G3_ratio G2_ratio
    (fun i => ⟨le_rfl, G3.strictMono.monotone (by omega)⟩)
    (fun i => ⟨le_rfl, G2.strictMono.monotone (by omega)⟩)
    src0_sorted src0_nonneg src0_low (by norm_num) (by norm_num) below0 above0

theorem G3_acc : ∀ i v, G3.b i < v → v < G3.b (i + 1) → |G3.b i - v| ≤ 2 / 3 * v := by
  intro i v h1 h2
  rw [abs_sub_comm, abs_of_pos (sub_pos.2 h1)]
  linarith [G3_ratio i]
theorem G2_acc : ∀ i v, G2.b i < v → v < G2.b (i + 1) → |G2.b i - v| ≤ 1 / 2 * v := by
  intro i v h1 h2
  rw [abs_sub_comm, abs_of_pos (sub_pos.2 h1)]
  linarith [G2_ratio i]

example : ∃ pre p post, src0 = pre ++ p :: post ∧ total pre ≤ 7 ∧ 7 < total pre + p.2 ∧
    (1 - 1 / 2) * (1 * G3.b p.1) ≤ (1 + 2 / 3) * G2.b 1 ∧
    (1 - 2 / 3) * G2.b 1 ≤ (1 + 1 / 2) * (1 * G3.b p.1) :=
  rebin_quantile_accuracy_alpha G3.strictMono G2.strictMono one_pos
    (by norm_num) (by norm_num) (by norm_num) (by norm_num) G3_acc G2_acc
    src0_sorted src0_nonneg src0_low (by norm_num) (by norm_num) below0 above0

example (j : ℤ) : rebin G2.b G2.b 1 src0 j = weightAt src0 j := identity_rebin G2.strictMono src0 j

/-- all three kinds, `gamma = 2`: the hypotheses of `mapping_quantile_accuracy` are satisfiable
    (identity conversion of a one-bin histogram, rank `0`) -/
example (k : MKind) (off : ℝ) :
    ∃ pre q post, [((0:ℤ), (1:ℝ))] = pre ++ q :: post ∧ total pre ≤ 0 ∧ 0 < total pre + q.2 ∧
      (1 - Mapping.relativeAccuracy ⟨k, 2, off⟩) * (1 * Mapping.value ⟨k, 2, off⟩ q.1)
        ≤ (1 + Mapping.relativeAccuracy ⟨k, 2, off⟩) * Mapping.value ⟨k, 2, off⟩ 0 ∧
      (1 - Mapping.relativeAccuracy ⟨k, 2, off⟩) * Mapping.value ⟨k, 2, off⟩ 0
        ≤ (1 + Mapping.relativeAccuracy ⟨k, 2, off⟩) * (1 * Mapping.value ⟨k, 2, off⟩ q.1) := by
  have hγ : 1 < (⟨k, 2, off⟩ : Mapping.Params ℝ).gamma := by norm_num
  have hsm := mapping_lowerBound_strictMono _ hγ
  refine mapping_quantile_accuracy ⟨k, 2, off⟩ ⟨k, 2, off⟩ hγ hγ one_pos (by simp) (by simp)
    (m := 0) (j := 0) ?_ le_rfl le_rfl ?_ ?_
  · intro q hq; simp only [List.mem_singleton] at hq; subst hq; simp [sLo]
  · simp
  · rw [show Finset.Icc (0:ℤ) 0 = {0} by decide, Finset.sum_singleton, Rebin.identity_rebin hsm]
    simp [weightAt]

/-! ## the hypotheses are satisfiable — Part 2

target oracle `lowerBound j = 2^j`, one source bin `[1, 5)` of weight `8`: the loop visits the bins
`0, 1, 2` and every operation is exact (`1/4, 1/2, 1/4` of the weight) -/

theorem pow2_sm : StrictMono pow2 := fun _ _ h => pow2_strictMono h

theorem ex_hJ1 : ∀ j : ℤ, j ≤ 2 → pow2 j < 5 := fun j hj =>
  lt_of_le_of_lt (pow2_mono hj) (by decide +kernel)
theorem ex_hJ2 : (5:ℚ) ≤ pow2 (2 + 1) := by decide +kernel
theorem ex_hsize : Exact (5 - 1) := by unfold Exact; decide +kernel
theorem ex_hinter : ∀ j : ℤ, 0 ≤ j → j ≤ 2 → Exact (min (pow2 (j + 1)) 5 - max (pow2 j) 1) := by
  intro j h1 h2
  unfold Exact
  interval_cases j <;> decide +kernel
theorem ex_hdiv : ∀ j : ℤ, 0 ≤ j → j ≤ 2 → 0 < prop pow2 1 5 j → Exact (prop pow2 1 5 j) := by
  intro j h1 h2 _
  unfold Exact prop
  interval_cases j <;> decide +kernel
theorem ex_hmul : ∀ j : ℤ, 0 ≤ j → j ≤ 2 → 0 < prop pow2 1 5 j → Exact (prop pow2 1 5 j * 8) := by
  intro j h1 h2 _
  unfold Exact prop
  interval_cases j <;> decide +kernel

example : spreadBin (envPow2 0) (.fin 1) (.fin 5) (.fin 8) 3 0 =
    (visited 0 2).filterMap fun j =>
      if 0 < prop pow2 1 5 j then some (j, F64.fin (prop pow2 1 5 j * 8)) else none :=
  spreadBin_spec (envPow2 0) pow2 (fun _ => rfl) pow2_sm (by norm_num) ex_hJ1 ex_hJ2 ex_hsize
    ex_hinter ex_hdiv ex_hmul 3 0 le_rfl (by norm_num) (by norm_num)

example : ((spreadBin (envPow2 0) (.fin 1) (.fin 5) (.fin 8) 3 ((envPow2 0).index (.fin 1))).map
    fun p => ratOfF p.2).sum = 8 :=
  spreadBin_spec_total (envPow2 0) pow2 (fun _ => rfl) pow2_sm (by norm_num) ex_hJ1 ex_hJ2 ex_hsize
    ex_hinter ex_hdiv ex_hmul (by decide +kernel) 3 (by decide)

theorem ex_hs : F64.sub (.fin 5) (.fin 1) = .fin 4 := by decide +kernel
theorem ex_mem : (1, F64.fin 4) ∈ spreadBin (envPow2 0) (.fin 1) (.fin 5) (.fin 8) 3 0 := by
  decide +kernel

example : F64.lt (.fin 4) (.fin 0) = false :=
  spreadBin_weights_not_neg (envPow2 0) (.fin 1) (.fin 5) (.fin 8) (by decide +kernel) 3 0 1 _ ex_mem

example : F64.le (.fin 0) (.fin 4) = true :=
  spreadBin_weights_nonneg (envPow2 0) 1 5 4 8 (fun _ => rfl) ex_hs (by norm_num) 3 0 1 _ ex_mem

theorem ex_nounderflow : ∀ (j : ℤ) (x : ℚ), 0 ≤ j → j < 0 + (3 : ℕ) →
    fInter (envPow2 0) (.fin 1) (.fin 5) j = .fin x → 0 < x →
      pow2 (-1075) < F64.rv (x / 4) * 8 := by
  intro j x h1 h2 hx _
  have h3 : j < 3 := by simpa using h2
  interval_cases j
  · have : fInter (envPow2 0) (.fin 1) (.fin 5) 0 = .fin 1 := by decide +kernel
    rw [this] at hx; cases hx; decide +kernel
  · have : fInter (envPow2 0) (.fin 1) (.fin 5) 1 = .fin 2 := by decide +kernel
    rw [this] at hx; cases hx; decide +kernel
  · have : fInter (envPow2 0) (.fin 1) (.fin 5) 2 = .fin 1 := by decide +kernel
    rw [this] at hx; cases hx; decide +kernel

example : F64.lt (.fin 0) (.fin 4) = true :=
  spreadBin_weights_pos (envPow2 0) 1 5 4 8 (fun _ => rfl) ex_hs 3 0 ex_nounderflow 1 _ ex_mem

example : F64.lt ((envPow2 0).lowerBound 1) (.fin 5) = true ∧
    (F64.fin 4 = .nan ∨ F64.lt (.fin 1) ((envPow2 0).lowerBound (1 + 1)) = true) :=
  spreadBin_indexes_overlap (envPow2 0) (.fin 1) (.fin 5) (.fin 8) 3 0 1 _ ex_mem

example : F64.lt ((envPow2 0).lowerBound 1) (.fin 5) = true ∧
    F64.lt (.fin 1) ((envPow2 0).lowerBound (1 + 1)) = true :=
  spreadBin_indexes_overlap_fin (envPow2 0) 1 5 4 8 (fun _ => rfl) ex_hs 3 0 1 _ ex_mem

def envOf (lb : Int → Rat) (idx : Int) : MapEnv :=
  { id := default, minIndexable := .fin 0, maxIndexable := .pinf, relAcc := .fin 0,
    value := fun j => .fin (lb j), lowerBound := fun j => .fin (lb j), index := fun _ => idx }

/-- source grid `5^i`, target grid `2^j`, scale `1`, one bin `[1, 5)` of weight `8` -/
example : ((spreadStore (envOf (fun i => if i = 0 then 1 else 5) 0) (envPow2 0) (.fin 1) [(0, 8)] 3).map
    fun q => ratOfF q.2).sum = ([((0:Int), (8:Rat))].map Prod.snd).sum :=
  spreadStore_total _ _ _ _ _ (by
    intro p hp
    simp only [List.mem_singleton] at hp
    subst hp
    decide +kernel)

/-- `rescale_stats`: both sign hypotheses are satisfiable (`f = 2`, `f = -2`) -/
example (s : Summary) :
    (s.rescale (.fin 2)).min = F64.mul s.min (.fin 2) ∧
      (s.rescale (.fin 2)).max = F64.mul s.max (.fin 2) :=
  (rescale_stats s (.fin 2)).2.2.2.2.1 (by decide +kernel)

example (s : Summary) :
    (s.rescale (.fin (-2))).min = F64.mul s.max (.fin (-2)) ∧
      (s.rescale (.fin (-2))).max = F64.mul s.min (.fin (-2)) :=
  (rescale_stats s (.fin (-2))).2.2.2.2.2 (by decide +kernel)

end DDS.Props.C17
