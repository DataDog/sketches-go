/-
  DDS.Props.C08GenSketch — the sketch-level statements of C08 / C07 (truncated and malformed input; the
  decoder does what the wire grammar says) restated on the REGENERATED plain decoder
  `DDS.Gen.Sketch.DDSketch.DecodeAndMergeWith` (`DDS/Generated/CodeSketch.lean`, translated from
  `/repo/ddsketch/ddsketch.go:418-470` on every run).

  `DDS.GenSketch.DecodeAndMergeWith_rel` / `DecodeAndMergeWith_relO` (`DDS/Proofs/GenSketch5.lean`) say that
  the regenerated decoder, instantiated with the model's stores and mapping objects, returns what the
  hand-written `Sketch.decodeAndMergeWith` returns: the same sketch on success, the Go error value `decErr e`
  of the model's refusal `e` otherwise, never `.panic` / `.nofuel` where the model does not panic.
  `DDS.Props.C08.decode_cut`, `decode_cut_inside_block_errors`, `DDS.Props.C07.decodeLoop_eq_interp` say what
  the model does on (cuts of) encoded streams.  Combined here, on SPEC stores (finite maps) and streams of
  finite weights (the hypotheses of the model theorems), receiver with ANY mapping state `m : Option MapEnv`
  (`none`: the nil mapping of `DecodeDDSketch(b, provider, nil)`):

  * `Decode_cut_inside`     a stream cut strictly inside a block: a non-nil Go error, never a panic;
  * `Decode_cut`            every cut: the decoder returns normally; if its error is nil, the cut lies between
                            two blocks and the result is the fold `applyBlocks` over the complete blocks;
  * `Decode_encoded`        a complete stream of well-formed blocks (ANY store kinds): if the fold of the
                            model succeeds with a mapping, the decoder returns exactly that sketch;
  * `Decode_cut_between`    … hence so does the stream cut after `j` complete blocks, with the first `j` blocks;
  * `Decode_unknown_flag`   an undefined feature flag byte: `errUnknownFlag`, receiver untouched, for ANY
                            instances of the two interfaces.

  Fuel: `len(input) + 9` (one unit per block; 9 for the varfloat64 loop).
-/
import DDS.Proofs.GenSketch5
import DDS.Props.C06GenSketch
import DDS.Props.C07
import DDS.Props.C08

namespace DDS.Props.C08GenSketch

open DDS DDS.GoSem DDS.Gen.Sketch DDS.GenEncoding DDS.GenSketch DDS.Wire DDS.RoundTrip

/-- a prefix of an encoded stream of well-formed blocks consists of bytes -/
theorem take_bytes (bs : List Block) (h : ∀ b ∈ bs, b.WF) (k : Nat) :
    nb (bn ((Wire.encBlocks bs).take k)) = (Wire.encBlocks bs).take k :=
  nb_bn _ (fun x hx => GenSketch.encBlocks_bytes bs h x (List.mem_of_mem_take hx))

/-- the model's plain decoder in terms of its loop with the fuel the theorems of C07 / C08 use -/
theorem decodeAndMergeWith_eq (s : Sketch) (bytes : Bytes) :
    s.decodeAndMergeWith bytes =
      match Sketch.decodeLoop (bytes.length + 1) s { stats := none } bytes with
      | none => none
      | some (.error e) => some (.error e)
      | some (.ok (s', _)) => if s'.mapping.isNone then some (.error .missingMapping) else some (.ok s') := rfl

/-- **C08 on the regenerated decoder: a cut strictly inside a block.**  After any number of complete blocks,
    a strict non-empty prefix of a block makes the regenerated decoder return normally with a NON-NIL error
    (`decErr e` for the model's refusal `e`) — never a panic, never out of fuel, never accepted. -/
theorem Decode_cut_inside (pre : List Block) (hpre : ∀ b ∈ pre, b.WF)
    (hfin : ∀ b ∈ pre, b.FiniteWeights) (b : Block) (hb : b.WF) (hbf : b.FiniteWeights)
    (k : Nat) (h0 : 0 < k) (hk : k < (Wire.encBlock b).length)
    (m : Option MapEnv) (cp cn : Content) (z : F64) (fuel : Nat)
    (hf : (Wire.encBlocks pre ++ (Wire.encBlock b).take k).length + 9 ≤ fuel) :
    ∃ e g', DDSketch.DecodeAndMergeWith fuel
        (toGenO m (Sketch.spec (m.map (fun e => e.id)) cp cn z))
        (bn (Wire.encBlocks pre ++ (Wire.encBlock b).take k)) = .ok (g', decErr e) ∧
      decErr e ≠ GoErr.nil := by
  obtain ⟨e, he⟩ := C08.decode_cut_inside_block_errors pre hpre hfin b hb hbf k h0 hk
    (m.map (fun e => e.id)) cp cn z
  have hbytes : nb (bn (Wire.encBlocks pre ++ (Wire.encBlock b).take k))
      = Wire.encBlocks pre ++ (Wire.encBlock b).take k := by
    apply nb_bn
    intro x hx
    rcases List.mem_append.mp hx with hx | hx
    · exact GenSketch.encBlocks_bytes pre hpre x hx
    · exact Wire.encBlock_bytes b hb x (List.mem_of_mem_take hx)
  have h := DecodeAndMergeWith_relO m (Sketch.spec (m.map (fun e => e.id)) cp cn z) rfl fuel
    (bn (Wire.encBlocks pre ++ (Wire.encBlock b).take k)) (by rw [bn_length]; exact hf)
  rw [hbytes, he] at h
  obtain ⟨g', hg⟩ := h
  exact ⟨e, g', hg, decErr_ne_nil' e⟩

/-- **C08 on the regenerated decoder: every cut of an encoded stream.**  The regenerated decoder returns
    normally (no panic, enough fuel) on EVERY prefix of an encoded stream of finite weights; if the returned
    error is nil, the cut falls between two blocks and the returned structure is the model's fold over the
    complete blocks. -/
theorem Decode_cut (bs : List Block) (h : ∀ b ∈ bs, b.WF) (hfin : ∀ b ∈ bs, b.FiniteWeights)
    (k : Nat) (hk : k ≤ (Wire.encBlocks bs).length)
    (m : Option MapEnv) (cp cn : Content) (z : F64) (fuel : Nat) (hf : k + 9 ≤ fuel) :
    ∃ g' err, DDSketch.DecodeAndMergeWith fuel
        (toGenO m (Sketch.spec (m.map (fun e => e.id)) cp cn z))
        (bn ((Wire.encBlocks bs).take k)) = .ok (g', err) ∧
      (err = GoErr.nil → ∃ j aux', k = (Wire.encBlocks (bs.take j)).length ∧
        Sketch.applyBlocks (Sketch.spec (m.map (fun e => e.id)) cp cn z) { stats := none } (bs.take j)
          = some (.ok (ofGenO g', aux'))) := by
  have hlen : ((Wire.encBlocks bs).take k).length = k := by rw [List.length_take]; omega
  have hrel := DecodeAndMergeWith_relO m (Sketch.spec (m.map (fun e => e.id)) cp cn z) rfl fuel
    (bn ((Wire.encBlocks bs).take k)) (by rw [bn_length, hlen]; exact hf)
  rw [take_bytes bs h k, decodeAndMergeWith_eq, hlen] at hrel
  rcases C08.decode_cut bs h hfin k hk (k + 1) (by omega) (m.map (fun e => e.id)) cp cn z
      { stats := none } with ⟨j, hj, hloop, hne⟩ | ⟨e, hloop⟩
  · rw [hloop] at hrel
    cases ha : Sketch.applyBlocks (Sketch.spec (m.map (fun e => e.id)) cp cn z) { stats := none }
        (bs.take j) with
    | none => exact absurd ha hne
    | some r =>
      rw [ha] at hrel
      cases r with
      | error e =>
        obtain ⟨g', hg⟩ := hrel
        exact ⟨g', _, hg, fun h0 => absurd h0 (decErr_ne_nil' e)⟩
      | ok r =>
        obtain ⟨s', aux'⟩ := r
        simp only at hrel
        split at hrel
        · obtain ⟨g', hg⟩ := hrel
          exact ⟨g', _, hg, fun h0 => absurd h0 (decErr_ne_nil' _)⟩
        · obtain ⟨g', hg, hs⟩ := hrel
          refine ⟨g', _, hg, fun _ => ⟨j, aux', hj, ?_⟩⟩
          rw [hs]; exact ha
  · rw [hloop] at hrel
    obtain ⟨g', hg⟩ := hrel
    exact ⟨g', _, hg, fun h0 => absurd h0 (decErr_ne_nil' e)⟩

/-- **C07 on the regenerated decoder: it does what the grammar says** (ANY store kinds).  On the bytes of
    well-formed blocks, if the model's fold `applyBlocks` over the blocks succeeds with a sketch that has a
    mapping, the regenerated decoder returns a nil error and exactly that sketch; if the fold refuses with
    `e`, the Go error `decErr e`. -/
theorem Decode_encoded (bs : List Block) (h : ∀ b ∈ bs, b.WF) (m : Option MapEnv) (s : Sketch)
    (hm : s.mapping = m.map (fun e => e.id)) (fuel : Nat) (hf : (Wire.encBlocks bs).length + 9 ≤ fuel) :
    (∀ s' aux', Sketch.applyBlocks s { stats := none } bs = some (.ok (s', aux')) → s'.mapping ≠ none →
      ∃ g', DDSketch.DecodeAndMergeWith fuel (toGenO m s) (bn (Wire.encBlocks bs)) = .ok (g', GoErr.nil) ∧
        ofGenO g' = s') ∧
    (∀ e, Sketch.applyBlocks s { stats := none } bs = some (.error e) →
      ∃ g', DDSketch.DecodeAndMergeWith fuel (toGenO m s) (bn (Wire.encBlocks bs)) = .ok (g', decErr e)) := by
  have hrel := DecodeAndMergeWith_relO m s hm fuel (bn (Wire.encBlocks bs)) (by rw [bn_length]; exact hf)
  rw [GenSketch.nb_bn_encBlocks bs h, decodeAndMergeWith_eq,
    C07.decodeLoop_eq_interp bs h _ (by have := Wire.encBlocks_length_ge bs; omega)] at hrel
  constructor
  · intro s' aux' ha hmap
    rw [ha] at hrel
    simp only at hrel
    have : s'.mapping.isNone = false := by
      cases hs : s'.mapping with
      | none => exact absurd hs hmap
      | some _ => rfl
    rw [this] at hrel
    exact hrel
  · intro e ha
    rw [ha] at hrel
    exact hrel

/-- … and a cut BETWEEN blocks decodes to the complete blocks: the stream cut after `j` blocks is the stream
    of the first `j` blocks -/
theorem Decode_cut_between (bs : List Block) (h : ∀ b ∈ bs, b.WF) (j : Nat) (m : Option MapEnv) (s : Sketch)
    (hm : s.mapping = m.map (fun e => e.id)) (fuel : Nat)
    (hf : (Wire.encBlocks (bs.take j)).length + 9 ≤ fuel) (s' : Sketch) (aux' : Sketch.DecAux)
    (ha : Sketch.applyBlocks s { stats := none } (bs.take j) = some (.ok (s', aux')))
    (hmap : s'.mapping ≠ none) :
    ∃ g', DDSketch.DecodeAndMergeWith fuel (toGenO m s)
        (bn ((Wire.encBlocks bs).take (Wire.encBlocks (bs.take j)).length)) = .ok (g', GoErr.nil) ∧
      ofGenO g' = s' := by
  have hcut : (Wire.encBlocks bs).take (Wire.encBlocks (bs.take j)).length = Wire.encBlocks (bs.take j) := by
    conv => lhs; arg 2; rw [← List.take_append_drop j bs, Wire.encBlocks_append]
    rw [List.take_left]
  rw [hcut]
  exact (Decode_encoded (bs.take j) (fun b hb => h b (List.mem_of_mem_take hb)) m s hm fuel hf).1
    s' aux' ha hmap

/-- **C08 on the regenerated decoder: undefined flag bytes.**  A flag byte of type "sketch features" that is
    none of the five defined ones (zero count `0x04`, count `0xA0`, sum `0x84`, min `0x88`, max `0x8C`), at
    the head of any input: `errUnknownFlag`, the receiver returned as it was — for ANY instances of
    `mapping.IndexMapping` and `store.Store`. -/
theorem Decode_unknown_flag {M S : Type} [MapI M] [StoreI S] [Inhabited M] [Inhabited S]
    (fuel : Nat) (g : DDSketch M S) (x : BitVec 8) (tl : List (BitVec 8))
    (ht : Wire.flagType x.toNat = Consts.flagTypeSketchFeatures)
    (hx : x.toNat ≠ 4 ∧ x.toNat ≠ 160 ∧ x.toNat ≠ 132 ∧ x.toNat ≠ 136 ∧ x.toNat ≠ 140) :
    DDSketch.DecodeAndMergeWith (fuel + 1) g (x :: tl) = .ok (g, errUnknownFlag) := by
  obtain ⟨h4, h160, h132, h136, h140⟩ := hx
  have hlit : DDSketch.DecodeAndMergeWith.lit1 (M := M) (S := S) (fuel + 1) tl ⟨x⟩ = .ok (tl, errUnknownFlag) := by
    unfold DDSketch.DecodeAndMergeWith.lit1
    rw [if_neg (mt (flag_test FlagCount_nat).1 h160), if_neg]
    rw [Bool.or_eq_true, Bool.or_eq_true, flag_test FlagSum_nat, flag_test FlagMin_nat, flag_test FlagMax_nat]
    exact fun h => h.elim (fun h => h.elim h132 h136) h140
  have ht' : ∀ c, c ≠ Consts.flagTypeSketchFeatures → ¬ Wire.flagType x.toNat = c := fun c hc h => hc (h ▸ ht)
  show Res.bind (Loop.elim (DDSketch.decodeAndMergeWith.loop1 _ (fuel + 1) (x :: tl) g) _) _ = _
  rw [DDSketch.decodeAndMergeWith.loop1, if_pos (len_cons_pos x tl), DecodeFlag_cons, Res.bindL_ok]
  dsimp only
  rw [if_neg (ne_true_of_eq_false GoErr.nil_bne_nil),
    if_neg (mt (type_test FlagTypePositiveStore_byte).1 (ht' _ (by decide))),
    if_neg (mt (type_test FlagTypeNegativeStore_byte).1 (ht' _ (by decide))),
    if_neg (mt (type_test FlagTypeIndexMapping_byte).1 (ht' _ (by decide))),
    if_neg (mt (flag_test FlagZeroCount_nat).1 h4), hlit]
  rfl

/-- e.g. the byte `0x14` (type 0, sub-flag 5) -/
example (g : DDSketch MapEnv Store) (tl : List (BitVec 8)) :
    DDSketch.DecodeAndMergeWith 1 g (20#8 :: tl) = .ok (g, errUnknownFlag) :=
  Decode_unknown_flag 0 g 20#8 tl (by decide) (by decide)

/-! ### both regenerated directions together (C06 round trip, encoder AND decoder regenerated) -/

/-- the bytes the REGENERATED encoder appends, fed to the REGENERATED decoder on a fresh sparse receiver
    (with the producer's mapping object when the mapping was omitted from the stream, with a nil mapping
    otherwise), give a nil error and the producer's mapping, zero bucket and contents -/
theorem Encode_Decode (s : Sketch) (cp cn : Content) (hs : s.Refines cp cn)
    (hp : EncOK s.pos) (hn : EncOK s.neg)
    (env : MapEnv) (hm : s.mapping = some env.id) (hmk : MapOK env.id)
    (z : Rat) (hz : s.zero = .fin z) (hzw : WOK z) (omitMapping : Bool)
    (fuel : Nat) (hf : 9 ≤ fuel) (b : List (BitVec 8)) :
    ∃ s' out g', DDSketch.Encode fuel (toGen env s) b omitMapping = .ok (toGen env s', b ++ out) ∧
      DDSketch.DecodeAndMergeWith (out.length + 9)
        (toGenO (if omitMapping then some env else none)
          (Sketch.new (if omitMapping then some env.id else none) .sparse)) out = .ok (g', GoErr.nil) ∧
      ofGenO g' = Sketch.spec (some env.id) cp cn (.fin z) := by
  obtain ⟨s', out, he, hd⟩ :=
    C06GenSketch.Encode_decode s cp cn hs hp hn env hm hmk z hz hzw omitMapping fuel hf b
  have hmap : (Sketch.new (if omitMapping then some env.id else none) .sparse).mapping
      = (if omitMapping then some env else none).map (fun e => e.id) := by
    cases omitMapping <;> rfl
  have hrel := DecodeAndMergeWith_relO (if omitMapping then some env else none) _ hmap
    (out.length + 9) out (Nat.le_refl _)
  rw [hd] at hrel
  obtain ⟨g', hg, hs'⟩ := hrel
  exact ⟨s', out, g', he, hg, hs'⟩

end DDS.Props.C08GenSketch
