/-
  DDS.Props.C15 — a cleared sketch is indistinguishable from a new one.

  * sparse store: `clear` IS `new`.
  * dense stores: `clear` resets everything but `offset`; the stale `offset` is never read before it
    is overwritten (`extendRange` on an empty store sets it first), so every operation gives the
    same result on `s.clear` and on `DStore.new s.kind`.
  * paginated store: `clear` keeps the page SLOTS (all empty) — the store observes like a new one.
  * every store kind: `st.clear.Refines []`, exactly as `(Store.new k).Refines []`.
-/
import DDS.Proofs.SpecSketch
import DDS.Proofs.PagCompact

namespace DDS.Props.C15
open DDS

/-! ## sparse -/

theorem store_clear_sparse (c : Content) : (Store.sp c).clear = Store.new .sparse := rfl

theorem sketch_clear_spec (m : Option MapId) (a b : Content) (z : F64) :
    (Sketch.spec m a b z).clear = Sketch.spec m [] [] (.fin 0) ∧
      (Sketch.spec m a b z).clear = Sketch.new m .sparse := ⟨rfl, rfl⟩

/-- clearing a new sketch of any store kind changes nothing -/
theorem sketch_clear_new (m : Option MapId) (k : StoreKind) :
    (Sketch.new m k).clear = Sketch.new m k := by
  cases k <;> first | rfl | simp [Sketch.new, Sketch.clear, Store.new, Store.clear, PStore.clear, PStore.new]

/-! ## dense -/

/-- the new store of kind `k` with a (stale) offset `o` -/
def cleared (k : DKind) (o : Int) : DStore := { DStore.new k with offset := o }

theorem cleared_zero (k : DKind) : cleared k 0 = DStore.new k := rfl

@[simp] theorem cleared_kind (k : DKind) (o : Int) : (cleared k o).kind = k := rfl
@[simp] theorem cleared_minIndex (k : DKind) (o : Int) : (cleared k o).minIndex = maxInt32 := rfl
@[simp] theorem cleared_maxIndex (k : DKind) (o : Int) : (cleared k o).maxIndex = minInt32 := rfl
@[simp] theorem cleared_isCollapsed (k : DKind) (o : Int) : (cleared k o).isCollapsed = false := rfl
@[simp] theorem cleared_bins (k : DKind) (o : Int) : (cleared k o).bins = #[] := rfl
@[simp] theorem cleared_count (k : DKind) (o : Int) : (cleared k o).count = 0 := rfl

theorem dstore_clear_eq (s : DStore) : s.clear = cleared s.kind s.offset := rfl

theorem dstore_clear_observes_like_new (s : DStore) :
    let t := s.clear
    t.count = 0 ∧ t.bins = #[] ∧ t.minIndex = maxInt32 ∧ t.maxIndex = minInt32 ∧
      t.isCollapsed = false ∧ t.kind = s.kind :=
  ⟨rfl, rfl, rfl, rfl, rfl, rfl⟩

/-- **the offset of an empty dense store is dead**: `extendRange` overwrites it before any read -/
theorem extendRange_offset (s : DStore) (hc : s.count = 0) (o' a b : Int) :
    ({ s with offset := o' } : DStore).extendRange a b = s.extendRange a b := by
  unfold DStore.extendRange
  rw [if_pos hc, if_pos (show ({ s with offset := o' } : DStore).count = 0 from hc)]
  -- the computed length is the same; `grow` keeps the offset, and it is overwritten right after
  refine Option.bind_congr fun L _ => ?_
  unfold DStore.grow
  split <;> rfl

theorem extendRange_cleared (k : DKind) (o a b : Int) :
    (cleared k o).extendRange a b = (DStore.new k).extendRange a b :=
  extendRange_offset (DStore.new k) rfl o a b

theorem normalize_cleared (k : DKind) (o i : Int) :
    (cleared k o).normalize i = (DStore.new k).normalize i := by
  have h : i < maxInt32 ∨ i > minInt32 := by unfold maxInt32 minInt32; omega
  rw [← cleared_zero]
  unfold DStore.normalize
  simp only [cleared_kind, cleared_minIndex, cleared_maxIndex, cleared_isCollapsed,
    extendRange_cleared k o, extendRange_cleared k 0]
  cases k <;> simp only [Bool.false_eq_true, if_false] <;> (repeat' split) <;>
    first | rfl | (exfalso; simp only [maxInt32, minInt32] at *; omega)

/-- **`AddWithCount` on a cleared store = on a new store** (for a non-zero weight; a zero weight
    returns the receiver unchanged, stale offset included — see `addWithCount_cleared_zero`) -/
theorem dstore_clear_addWithCount (s : DStore) (i : Int) (w : Rat) (hw : w ≠ 0) :
    s.clear.addWithCount i w = (DStore.new s.kind).addWithCount i w := by
  rw [dstore_clear_eq]
  unfold DStore.addWithCount
  simp only [if_neg hw, normalize_cleared]

theorem addWithCount_cleared_zero (k : DKind) (o i : Int) :
    (cleared k o).addWithCount i 0 = some (cleared k o) := by
  simp [DStore.addWithCount]

/-- merging a list of bins: equal as soon as one weight is non-zero; otherwise nothing happens -/
theorem mergeBins_cleared (k : DKind) (o : Int) (l : List (Int × Rat)) :
    (∃ p ∈ l, p.2 ≠ 0) → (cleared k o).mergeBins l = (DStore.new k).mergeBins l := by
  induction l with
  | nil => rintro ⟨p, hp, _⟩; simp at hp
  | cons q l ih =>
    intro h
    unfold DStore.mergeBins at ih ⊢
    by_cases hq : q.2 = 0
    · have h' : ∃ p ∈ l, p.2 ≠ 0 := by
        obtain ⟨p, hp, hp0⟩ := h
        rcases List.mem_cons.1 hp with rfl | hp
        · exact absurd hq hp0
        · exact ⟨p, hp, hp0⟩
      have e1 : (cleared k o).addWithCount q.1 q.2 = some (cleared k o) := by
        rw [hq]; exact addWithCount_cleared_zero k o q.1
      have e2 : (DStore.new k).addWithCount q.1 q.2 = some (DStore.new k) := by
        rw [hq, ← cleared_zero]; exact addWithCount_cleared_zero k 0 q.1
      simp only [List.foldlM_cons, e1, e2, Option.bind_eq_bind, Option.bind_some]
      exact ih h'
    · have := dstore_clear_addWithCount (cleared k o) q.1 q.2 hq
      rw [dstore_clear_eq] at this
      simp only [List.foldlM_cons]
      rw [show (cleared (cleared k o).kind (cleared k o).offset) = cleared k o from rfl] at this
      rw [this]
      rfl

theorem mergeBins_cleared_zero (k : DKind) (o : Int) (l : List (Int × Rat)) (h : ∀ p ∈ l, p.2 = 0) :
    (cleared k o).mergeBins l = some (cleared k o) := by
  induction l with
  | nil => rfl
  | cons q l ih =>
    unfold DStore.mergeBins at ih ⊢
    have e1 : (cleared k o).addWithCount q.1 q.2 = some (cleared k o) := by
      rw [h q (List.mem_cons_self ..)]; exact addWithCount_cleared_zero k o q.1
    simp only [List.foldlM_cons, e1, Option.bind_eq_bind, Option.bind_some]
    exact ih (fun p hp => h p (List.mem_cons_of_mem _ hp))

/-- the same-kind fast path of `MergeWith`, for a non-empty argument with a non-empty window
    (an empty argument returns the receiver unchanged: `mergeSame_cleared_empty`) -/
theorem mergeSame_cleared (k : DKind) (o : Int) (b : DStore) (he : b.isEmpty = false)
    (hb : b.minIndex ≤ b.maxIndex) :
    (cleared k o).mergeSame b = (DStore.new k).mergeSame b := by
  have h : b.minIndex < maxInt32 ∨ b.maxIndex > minInt32 := by
    unfold maxInt32 minInt32; omega
  have h1 : b.minIndex < (cleared k o).minIndex ∨ b.maxIndex > (cleared k o).maxIndex := h
  have h2 : b.minIndex < (DStore.new k).minIndex ∨ b.maxIndex > (DStore.new k).maxIndex := h
  unfold DStore.mergeSame
  simp only [he, Bool.false_eq_true, if_false, if_pos h1, if_pos h2, extendRange_cleared]

theorem mergeSame_cleared_empty (k : DKind) (o : Int) (b : DStore) (he : b.isEmpty = true) :
    (cleared k o).mergeSame b = some (cleared k o) := by
  unfold DStore.mergeSame
  simp only [he, if_true]

theorem idxRange_cleared : DStore.idxRange maxInt32 minInt32 = [] := by decide

/-- the observers of a cleared store: those of a new one, whatever the stale offset -/
theorem observers_cleared (k : DKind) (o : Int) :
    (cleared k o).isEmpty = true ∧ (cleared k o).totalCount = 0 ∧
      (cleared k o).minIndex? = none ∧ (cleared k o).maxIndex? = none ∧
      (cleared k o).binsList = some [] ∧ (∀ r, (cleared k o).keyAtRank r = minInt32) ∧
      (cleared k o).abs = [] := by
  refine ⟨rfl, rfl, rfl, rfl, ?_, ?_, rfl⟩
  · unfold DStore.binsList
    show (DStore.idxRange maxInt32 minInt32).foldrM _ _ = _
    rw [idxRange_cleared]; rfl
  · intro r; rfl

/-- `Reweight` of a cleared store returns it (the stale offset stays, still unread) -/
theorem reweight_cleared (k : DKind) (o : Int) (w : Rat) :
    (cleared k o).reweight w = some (cleared k o) := by
  unfold DStore.reweight
  simp only [cleared_minIndex, cleared_maxIndex, idxRange_cleared]
  simp [cleared, DStore.new]

/-- every dense store, cleared, refines the empty content — as a new one does -/
theorem cleared_refines (k : DKind) (o : Int) : (Store.d (cleared k o)).Refines [] where
  wf := Content.wf_nil
  total := rfl
  empty := rfl
  min := rfl
  max := rfl
  bins := (observers_cleared k o).2.2.2.2.1
  kar := fun h => absurd rfl h

/-! ## paginated -/

/-- what `clear` leaves (`PEmpty` below); that the abstraction `abs` is then empty is `abs_pempty` -/
theorem pstore_clear_abs (s : PStore) :
    s.clear.buffer = [] ∧ (∀ pg ∈ s.clear.pages, pg.size = 0) ∧ s.clear.minPageIndex = maxInt := by
  refine ⟨rfl, ?_, rfl⟩
  intro pg hpg
  simp only [PStore.clear, Array.mem_map] at hpg
  obtain ⟨_, _, rfl⟩ := hpg
  rfl

/-- a paginated store without buffered entries whose page slots are all empty -/
structure PEmpty (s : PStore) : Prop where
  buf : s.buffer = []
  pages : ∀ pg ∈ s.pages, pg.size = 0

theorem pempty_clear (s : PStore) : PEmpty s.clear :=
  ⟨(pstore_clear_abs s).1, (pstore_clear_abs s).2.1⟩

theorem pempty_new : PEmpty PStore.new := ⟨rfl, by intro pg h; simp [PStore.new] at h⟩

theorem getD_size_zero (s : PStore) (h : PEmpty s) (k : Nat) : (s.pages.getD k #[]).size = 0 := by
  rw [Array.getD_eq_getD_getElem?]
  by_cases hk : k < s.pages.size
  · rw [Array.getElem?_eq_getElem hk]
    exact h.pages _ (Array.getElem_mem hk)
  · rw [Array.getElem?_eq_none (by omega)]
    rfl

theorem pageLines_pempty (s : PStore) (h : PEmpty s) : s.pageLines = [] :=
  PagCompact.plines_all_empty _ _ _ 0 fun pg hpg => h.pages pg (Array.mem_def.2 hpg)

theorem abs_pempty (s : PStore) (h : PEmpty s) : s.abs = [] := by
  unfold PStore.abs
  rw [pageLines_pempty s h, h.buf]
  rfl

theorem isEmpty_pempty (s : PStore) (h : PEmpty s) : s.isEmpty = true := by
  unfold PStore.isEmpty
  rw [h.buf]
  simp only [List.isEmpty_nil, Bool.true_and]
  rw [Array.all_eq_true]
  intro i hi
  have : s.pages[i] = #[] := Array.size_eq_zero_iff.1 (h.pages _ (Array.getElem_mem hi))
  rw [this]
  simp

theorem totalCount_pempty (s : PStore) (h : PEmpty s) : s.totalCount = 0 := by
  unfold PStore.totalCount
  rw [h.buf, ← Array.foldl_toList]
  have hl : ∀ pg ∈ s.pages.toList, pg = #[] := fun pg hpg =>
    Array.size_eq_zero_iff.1 (h.pages pg (Array.mem_def.2 hpg))
  generalize s.pages.toList = l at hl
  show List.foldl _ (((0 : Nat) : Int) : Rat) l = 0
  induction l with
  | nil => rfl
  | cons pg l ih =>
    have : pg = #[] := hl pg (List.mem_cons_self ..)
    subst this
    exact ih (fun q hq => hl q (List.mem_cons_of_mem _ hq))

theorem minScan_pempty (s : PStore) (h : PEmpty s) (offs : List Nat) :
    PStore.minIndex?.scan s none offs = none := by
  induction offs with
  | nil => rfl
  | cons off rest ih =>
    unfold PStore.minIndex?.scan
    simp only [getD_size_zero s h off, if_true, ih]
    rfl

theorem maxScan_pempty (s : PStore) (h : PEmpty s) (offs : List Nat) :
    PStore.maxIndex?.scan s none offs = none := by
  induction offs with
  | nil => rfl
  | cons off rest ih =>
    unfold PStore.maxIndex?.scan
    simp only [getD_size_zero s h off, if_true, ih]
    rfl

theorem minIndex?_pempty (s : PStore) (h : PEmpty s) : s.minIndex? = none := by
  unfold PStore.minIndex?
  rw [h.buf]
  exact minScan_pempty s h _

theorem maxIndex?_pempty (s : PStore) (h : PEmpty s) : s.maxIndex? = none := by
  unfold PStore.maxIndex?
  rw [h.buf]
  exact maxScan_pempty s h _

theorem binsList_pempty (s : PStore) (h : PEmpty s) : s.binsList = [] := by
  unfold PStore.binsList
  rw [pageLines_pempty s h, h.buf]
  simp [PStore.sortInts, PStore.mergeIter]

/-- a paginated store with only empty page slots refines the empty content -/
theorem pempty_refines (s : PStore) (h : PEmpty s) : (Store.pg s).Refines [] where
  wf := Content.wf_nil
  total := totalCount_pempty s h
  empty := isEmpty_pempty s h
  min := minIndex?_pempty s h
  max := maxIndex?_pempty s h
  bins := by show some s.binsList = some []; rw [binsList_pempty s h]
  kar := fun hne => absurd rfl hne

/-! ## every store kind, and the sketch -/

/-- **cleared ≡ new, for every store kind**: both observe exactly like the empty content -/
theorem store_clear_refines_nil (st : Store) : st.clear.Refines [] := by
  cases st with
  | d s => exact cleared_refines s.kind s.offset
  | sp c => exact Store.refines_sparse [] Content.wf_nil
  | pg s => exact pempty_refines _ (pempty_clear s)

theorem store_new_refines_nil (k : StoreKind) : (Store.new k).Refines [] := by
  cases k with
  | dense => exact cleared_refines .plain 0
  | sparse => exact Store.refines_sparse [] Content.wf_nil
  | pag => exact pempty_refines _ pempty_new
  | low n => exact cleared_refines (.low n) 0
  | high n => exact cleared_refines (.high n) 0

theorem store_clear_kind (st : Store) : st.clear.kind = st.kind := by
  cases st <;> rfl

/-- a cleared sketch observes like a new one: both stores refine the empty content, the zero
    weight is 0, the mapping and the store kinds are kept -/
theorem sketch_clear_refines (s : Sketch) :
    s.clear.Refines [] [] ∧ s.clear.zero = .fin 0 ∧ s.clear.mapping = s.mapping ∧
      s.clear.pos.kind = s.pos.kind ∧ s.clear.neg.kind = s.neg.kind :=
  ⟨⟨store_clear_refines_nil s.pos, store_clear_refines_nil s.neg⟩, rfl, rfl,
    store_clear_kind s.pos, store_clear_kind s.neg⟩

theorem sketch_new_refines (m : Option MapId) (k : StoreKind) :
    (Sketch.new m k).Refines [] [] ∧ (Sketch.new m k).zero = .fin 0 ∧ (Sketch.new m k).mapping = m :=
  ⟨⟨store_new_refines_nil k, store_new_refines_nil k⟩, rfl, rfl⟩

/-- the derived observers of a cleared sketch -/
theorem sketch_clear_observers (env : MapEnv) (s : Sketch) :
    s.clear.isEmpty = true ∧ s.clear.getCount = .fin 0 ∧
      s.clear.forEachList env = some [] ∧ s.clear.getMin env = .error .empty ∧
      s.clear.getMax env = .error .empty := by
  obtain ⟨⟨hp, hn⟩, hz, _⟩ := sketch_clear_refines s
  have hpe : s.clear.pos.isEmpty = true := hp.empty
  have hne : s.clear.neg.isEmpty = true := hn.empty
  refine ⟨?_, ?_, ?_, ?_, ?_⟩
  · simp [Sketch.isEmpty, hz, hpe, hne, F64.eq]
  · simp only [Sketch.getCount, Sketch.posTotal, Sketch.negTotal, hz, hp.total, hn.total]
    have h0 : (0 : Rat) + 0 = 0 := Rat.add_zero 0
    have h00 : F64.add (.fin 0) (.fin 0) = .fin 0 := by simp [F64.add, F64.roundF64, h0]
    simp only [Content.total_nil, h00]
  · simp [Sketch.forEachList, hp.bins, hn.bins, hz]
  · simp [Sketch.getMin, hne, hz, F64.gt, F64.lt, hp.min]
  · simp [Sketch.getMax, hpe, hz, F64.gt, F64.lt, hn.min]

/-- the exact-summary sketch: `clear` resets the statistics to those of a new sketch -/
theorem xsketch_clear (x : XSketch) : x.clear.st = Summary.new ∧ x.clear.sk = x.sk.clear := ⟨rfl, rfl⟩

theorem xsketch_clear_spec (m : Option MapId) (a b : Content) (z : F64) (st : Summary) :
    (XSketch.mk (Sketch.spec m a b z) st).clear = XSketch.new m .sparse := rfl

/-! ## instances -/

/-- a dense store that has seen data, cleared, then used again: same as a fresh one -/
example (s : DStore) : s.clear.addWithCount 7 2 = (DStore.new s.kind).addWithCount 7 2 :=
  dstore_clear_addWithCount s 7 2 (by decide)

example : (cleared (.low 4) 12).mergeBins [(3, 0), (5, 2), (1, 1)]
    = (DStore.new (.low 4)).mergeBins [(3, 0), (5, 2), (1, 1)] :=
  mergeBins_cleared _ _ _ ⟨(5, 2), by simp, by decide⟩

example (k : DKind) (o : Int) :
    (cleared k o).mergeSame { DStore.new .plain with bins := #[1, 2], count := 3, minIndex := 0, maxIndex := 1 }
      = (DStore.new k).mergeSame { DStore.new .plain with bins := #[1, 2], count := 3, minIndex := 0, maxIndex := 1 } :=
  mergeSame_cleared k o _ (by decide) (by decide)

example : (cleared (.high 8) (-3)).mergeBins [(3, 0), (5, 0)] = some (cleared (.high 8) (-3)) :=
  mergeBins_cleared_zero _ _ _ (by simp)

example (k : DKind) (o : Int) : (cleared k o).mergeSame (DStore.new .plain) = some (cleared k o) :=
  mergeSame_cleared_empty k o _ rfl

/-- a paginated store that has pages, cleared: the slots stay, empty; it observes like a new one -/
example (s : PStore) : (Store.pg s.clear).Refines [] := pempty_refines _ (pempty_clear s)

end DDS.Props.C15
