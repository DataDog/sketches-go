/-
  DDS.Props.GenSketchProps — PROPERTY-LEVEL statements about the REGENERATED sketch code
  (`DDS/Generated/CodeSketch.lean`, re-translated from `/repo/ddsketch/ddsketch.go` on every run),
  obtained by transporting theorems of the hand-written model through the method-by-method
  equivalences of `DDS/Proofs/GenSketch2.lean`.

  * from `DDS/Props/C13.lean` (decision table): each refusal is restated for the generated method,
    which returns THE GO ERROR VALUE and THE UNCHANGED RECEIVER; same hypotheses as the model
    theorem.
  * from `DDS/Props/C12.lean` (coherence of the observers): `GetCount`, `IsEmpty` of the generated
    code on any sketch whose stores refine canonical contents.
  * statements proved directly on the generated code, for ANY implementation of the two
    interfaces: the outcomes of `AddWithCount` (`AddWithCount_outcome`), hence its frame condition and the list of
    its possible errors.
-/
import DDS.Proofs.GenSketch2
import DDS.Proofs.GenSketchRun
import DDS.Props.C13
import DDS.Props.C12

namespace DDS.Props.GenSketchProps

open DDS DDS.GoSem DDS.Gen.Sketch DDS.GenSketch

/-! ### transport -/

/-- a refusal of the model is the generated code returning the unchanged receiver and `g` -/
theorem step_refused {env : MapEnv} {s : Sketch} {m : Option (Except SkErr Sketch)}
    {r : DDSketch MapEnv Store × GoErr} {e : SkErr} {g : GoErr}
    (h : StepRel env s m r) (hm : m = some (.error e)) (hg : goErr? e = some g) :
    r = (toGen env s, g) := by
  obtain ⟨g', hg', hr⟩ := h.error hm
  rwa [Option.some.inj (hg.symm.trans hg')]

theorem xstep_refused {env : MapEnv} {x : XSketch} {m : Option (Except SkErr XSketch)}
    {r : DDSketchWithExactSummaryStatistics MapEnv Store × GoErr} {e : SkErr} {g : GoErr}
    (h : XStepRel env x m r) (hm : m = some (.error e)) (hg : goErr? e = some g) :
    r = (toGenX env x, g) := by
  obtain ⟨g', hg', hr⟩ := h.error hm
  rwa [Option.some.inj (hg.symm.trans hg')]

theorem q_refused {m : Except SkErr F64} {r : F64 × GoErr} {e : SkErr} {g : GoErr}
    (h : QRel m r) (hm : m = .error e) (hg : goErr? e = some g) : r = (F64.nan, g) := by
  obtain ⟨g', hg', hr⟩ := h.error hm
  rwa [Option.some.inj (hg.symm.trans hg')]

/-! ### C13: `AddWithCount` refusals -/

/-- a negative count is refused before the value is looked at; the receiver is unchanged -/
theorem add_negative_count (env : MapEnv) (s : Sketch) (v c : F64)
    (hc : F64.lt c (.fin 0) = true) :
    DDSketch.AddWithCount (toGen env s) v c = (toGen env s, ErrNegativeCount) :=
  step_refused (AddWithCount_rel env s v c) (C13.add_negative_count env s v c _ hc) rfl

theorem add_nan (env : MapEnv) (s : Sketch) (c : F64) (hc : F64.lt c (.fin 0) = false) :
    DDSketch.AddWithCount (toGen env s) .nan c = (toGen env s, ErrUntrackableNaN) :=
  step_refused (AddWithCount_rel env s .nan c) (C13.add_nan env s c _ hc) rfl

theorem add_too_high (env : MapEnv) (s : Sketch) (v c : F64)
    (hc : F64.lt c (.fin 0) = false)
    (h1 : F64.gt v env.minIndexable = true) (h2 : F64.gt v env.maxIndexable = true) :
    DDSketch.AddWithCount (toGen env s) v c = (toGen env s, ErrUntrackableTooHigh) :=
  step_refused (AddWithCount_rel env s v c) (C13.add_too_high env s v c _ hc h1 h2) rfl

theorem add_too_low (env : MapEnv) (s : Sketch) (v c : F64)
    (hc : F64.lt c (.fin 0) = false)
    (h0 : F64.gt v env.minIndexable = false)
    (h1 : F64.lt v (F64.neg env.minIndexable) = true)
    (h2 : F64.lt v (F64.neg env.maxIndexable) = true) :
    DDSketch.AddWithCount (toGen env s) v c = (toGen env s, ErrUntrackableTooLow) :=
  step_refused (AddWithCount_rel env s v c) (C13.add_too_low env s v c _ hc h0 h1 h2) rfl

theorem add_too_low' (env : MapEnv) (s : Sketch) (v c : F64) (mn : Rat)
    (hmin : env.minIndexable = .fin mn) (hmn : 0 ≤ mn)
    (hc : F64.lt c (.fin 0) = false)
    (h1 : F64.lt v (F64.neg env.minIndexable) = true)
    (h2 : F64.lt v (F64.neg env.maxIndexable) = true) :
    DDSketch.AddWithCount (toGen env s) v c = (toGen env s, ErrUntrackableTooLow) :=
  step_refused (AddWithCount_rel env s v c) (C13.add_too_low' env s v c _ mn hmin hmn hc h1 h2) rfl

/-- `+Inf` is refused as too high whenever the bounds of the mapping are finite -/
theorem add_pos_inf (env : MapEnv) (s : Sketch) (c : F64) (mn mx : Rat)
    (hmin : env.minIndexable = .fin mn) (hmax : env.maxIndexable = .fin mx)
    (hc : F64.lt c (.fin 0) = false) :
    DDSketch.AddWithCount (toGen env s) .pinf c = (toGen env s, ErrUntrackableTooHigh) :=
  step_refused (AddWithCount_rel env s .pinf c) (C13.add_pos_inf env s c _ mn mx hmin hmax hc) rfl

/-- `-Inf` is refused as too low whenever the bounds of the mapping are finite -/
theorem add_neg_inf (env : MapEnv) (s : Sketch) (c : F64) (mn mx : Rat)
    (hmin : env.minIndexable = .fin mn) (hmax : env.maxIndexable = .fin mx)
    (hc : F64.lt c (.fin 0) = false) :
    DDSketch.AddWithCount (toGen env s) .ninf c = (toGen env s, ErrUntrackableTooLow) :=
  step_refused (AddWithCount_rel env s .ninf c) (C13.add_neg_inf env s c _ mn mx hmin hmax hc) rfl

theorem add_nan_unit (env : MapEnv) (s : Sketch) :
    DDSketch.Add (toGen env s) .nan = (toGen env s, ErrUntrackableNaN) := by
  rw [GenPagSketch.Add_eq_AddWithCount]; exact add_nan env s (.fin 1) (by decide)

/-! ### C13: acceptance on spec stores -/

/-- the acceptance row of the table: a finite value with `|v| ≤ maxIndexable` and a finite count
    `≥ 0` is accepted by the generated code, error nil, exactly one component updated -/
theorem add_accepts (env : MapEnv) (m : Option MapId) (cp cn : Content) (z : F64)
    (vq cq : Rat) (mn mx : Rat)
    (hmin : env.minIndexable = .fin mn) (hmax : env.maxIndexable = .fin mx)
    (hmn : 0 ≤ mn) (hc : 0 ≤ cq) (hv : rabs vq ≤ mx) :
    DDSketch.AddWithCount (toGen env (Sketch.spec m cp cn z)) (.fin vq) (.fin cq) =
      (toGen env (
        if mn < vq then Sketch.spec m (cp.add (env.index (.fin vq)) cq) cn z
        else if vq < -mn then Sketch.spec m cp (cn.add (env.index (.fin (-vq))) cq) z
        else Sketch.spec m cp cn (F64.add z (.fin cq))), GoErr.nil) := by
  rw [(AddWithCount_rel env (Sketch.spec m cp cn z) (.fin vq) (.fin cq)).ok
    (C13.add_accepts env m cp cn z vq cq _ mn mx hmin hmax hmn hc hv)]
  by_cases h1 : mn < vq
  · simp [h1, goIdx, hmin, F64.lt]
  · by_cases h2 : vq < -mn
    · simp [h1, h2, goIdx, hmin, F64.lt, F64.neg]
    · simp [h1, h2]

/-! ### C13: `GetValueAtQuantile` -/

theorem quantile_rejects (env : MapEnv) (s : Sketch) (q : F64)
    (h : (F64.le (.fin 0) q && F64.le q (.fin 1)) = false) :
    DDSketch.GetValueAtQuantile (toGen env s) q = (F64.nan, errBadQuantile) :=
  q_refused (GetValueAtQuantile_rel env s q) (C13.quantile_rejects env s q h) rfl

theorem quantile_nan (env : MapEnv) (s : Sketch) :
    DDSketch.GetValueAtQuantile (toGen env s) .nan = (F64.nan, errBadQuantile) :=
  q_refused (GetValueAtQuantile_rel env s .nan) (C13.quantile_nan env s) rfl

theorem quantile_negative (env : MapEnv) (s : Sketch) (q : Rat) (hq : q < 0) :
    DDSketch.GetValueAtQuantile (toGen env s) (.fin q) = (F64.nan, errBadQuantile) :=
  q_refused (GetValueAtQuantile_rel env s (.fin q)) (C13.quantile_negative env s q hq) rfl

theorem quantile_above_one (env : MapEnv) (s : Sketch) (q : Rat) (hq : 1 < q) :
    DDSketch.GetValueAtQuantile (toGen env s) (.fin q) = (F64.nan, errBadQuantile) :=
  q_refused (GetValueAtQuantile_rel env s (.fin q)) (C13.quantile_above_one env s q hq) rfl

theorem quantile_empty (env : MapEnv) (s : Sketch) (q : F64)
    (hq : (F64.le (.fin 0) q && F64.le q (.fin 1)) = true) (he : s.getCount = .fin 0) :
    DDSketch.GetValueAtQuantile (toGen env s) q = (F64.nan, errEmptySketch) :=
  q_refused (GetValueAtQuantile_rel env s q) (C13.quantile_empty env s q hq he) rfl

theorem quantile_ok (env : MapEnv) (s : Sketch) (q : F64)
    (hq : (F64.le (.fin 0) q && F64.le q (.fin 1)) = true)
    (hne : F64.eq s.getCount (.fin 0) = false) :
    ∃ v, DDSketch.GetValueAtQuantile (toGen env s) q = (v, GoErr.nil) := by
  obtain ⟨v, hv⟩ := C13.quantile_ok env s q hq hne
  exact ⟨v, (GetValueAtQuantile_rel env s q).ok hv⟩

theorem quantile_nil_iff (env : MapEnv) (s : Sketch) (q : F64) :
    (DDSketch.GetValueAtQuantile (toGen env s) q).2 = GoErr.nil ↔
      ((F64.le (.fin 0) q && F64.le q (.fin 1)) = true ∧ F64.eq s.getCount (.fin 0) = false) := by
  rw [(GetValueAtQuantile_rel env s q).nil_iff]
  constructor
  · rintro ⟨v, hv⟩
    by_cases hq : (F64.le (.fin 0) q && F64.le q (.fin 1)) = true
    · refine ⟨hq, ?_⟩
      cases hc : F64.eq s.getCount (.fin 0) with
      | false => rfl
      | true =>
        simp [Sketch.quantile, hq, hc] at hv
    · rw [C13.quantile_rejects env s q (by simpa using hq)] at hv
      cases hv
  · rintro ⟨hq, hne⟩
    exact C13.quantile_ok env s q hq hne

/-! ### C13: `Reweight`, `MergeWith` -/

theorem reweight_rejects (env : MapEnv) (s : Sketch) (w : F64) (h : F64.le w (.fin 0) = true) :
    DDSketch.Reweight (toGen env s) w = (toGen env s, errReweight) :=
  step_refused (Reweight_rel env s w) (C13.reweight_rejects s w h) rfl

theorem reweight_one (env : MapEnv) (s : Sketch) :
    DDSketch.Reweight (toGen env s) (.fin 1) = (toGen env s, GoErr.nil) :=
  (Reweight_rel env s (.fin 1)).ok (C13.reweight_one s)

theorem merge_rejects (env env' : MapEnv) (s o : Sketch)
    (hs : s.mapping = some env.id) (ho : o.mapping = some env'.id)
    (h : Sketch.mappingEquals s.mapping o.mapping = false) :
    DDSketch.MergeWith (toGen env s) (toGen env' o) = (toGen env s, errMismatch) :=
  step_refused (MergeWith_rel env env' s o hs ho) (C13.merge_rejects s o h) rfl

/-- different kinds of mapping never merge -/
theorem merge_rejects_kind (g o : DDSketch MapEnv Store)
    (hk : g.IndexMapping.id.kind ≠ o.IndexMapping.id.kind) :
    DDSketch.MergeWith g o = (g, errMismatch) :=
  step_refused (MergeWith_rel_gen g o) (C13.merge_rejects_kind (ofGen g) (ofGen o) _ _ rfl rfl hk) rfl

/-- on spec sketches with equal mappings the merge is the pointwise sum -/
theorem merge_accepts_spec (env env' : MapEnv) (cp cn cp' cn' : Content) (z z' : F64)
    (h : env.id.equals env'.id = true) :
    DDSketch.MergeWith (toGen env (Sketch.spec (some env.id) cp cn z))
        (toGen env' (Sketch.spec (some env'.id) cp' cn' z')) =
      (toGen env (Sketch.spec (some env.id) (cp.merge cp') (cn.merge cn') (F64.add z z')),
        GoErr.nil) :=
  (MergeWith_rel env env' _ _ rfl rfl).ok
    (C13.merge_accepts_spec (some env.id) (some env'.id) cp cn cp' cn' z z' h)

/-! ### C13: the exact-summary variant validates first -/

theorem exact_add_validates_first (env : MapEnv) (x : XSketch) (v c : F64) (e : SkErr) (g : GoErr)
    (h : x.sk.addWithCount env v c (goIdx env v) = some (.error e)) (hg : goErr? e = some g) :
    DDSketchWithExactSummaryStatistics.AddWithCount (toGenX env x) v c = (toGenX env x, g) := by
  have hr := XAddWithCount_rel_go env x v c
  have hm : xAddWithCountGo env x v c (goIdx env v) = some (.error e) := by
    simp [xAddWithCountGo, h]
  exact xstep_refused hr hm hg

/-- a NaN with a zero count: the summary is NOT touched and the error is the plain sketch's -/
theorem exact_add_zero_weight_nan (env : MapEnv) (x : XSketch) :
    DDSketchWithExactSummaryStatistics.AddWithCount (toGenX env x) .nan (.fin 0) =
      (toGenX env x, ErrUntrackableNaN) :=
  exact_add_validates_first env x .nan (.fin 0) .nan _
    (C13.add_nan env x.sk (.fin 0) _ (by decide)) rfl

theorem exact_add_negative_count (env : MapEnv) (x : XSketch) (v c : F64)
    (hc : F64.lt c (.fin 0) = true) :
    DDSketchWithExactSummaryStatistics.AddWithCount (toGenX env x) v c =
      (toGenX env x, ErrNegativeCount) :=
  exact_add_validates_first env x v c .negativeCount _
    (C13.add_negative_count env x.sk v c _ hc) rfl

/-- a zero count is a no-op on a sketch whose zero count is a float64 (model theorem
    `exact_add_zero_weight_noop`) -/
theorem exact_add_zero_weight_noop (env : MapEnv) (x : XSketch) (v : F64) (sk : Sketch)
    (hz : ∀ q, x.sk.zero = .fin q → F64.isRep q = true)
    (h : x.sk.addWithCount env v (.fin 0) (goIdx env v) = some (.ok sk)) :
    DDSketchWithExactSummaryStatistics.AddWithCount (toGenX env x) v (.fin 0) =
      (toGenX env x, GoErr.nil) :=
  (XAddWithCount_rel env x v (.fin 0) fun _ => add_zero_of_rep _ hz).ok
    (C13.exact_add_zero_weight_noop env x v _ sk h)

theorem exact_add_accepted (env : MapEnv) (x : XSketch) (v c : F64) (sk : Sketch)
    (h : x.sk.addWithCount env v c (goIdx env v) = some (.ok sk))
    (hc : F64.eq c (.fin 0) = false) :
    DDSketchWithExactSummaryStatistics.AddWithCount (toGenX env x) v c =
      (toGenX env { sk := sk, st := x.st.add v c }, GoErr.nil) :=
  (XAddWithCount_rel_nonzero env x v c hc).ok (C13.exact_add_accepted env x v c _ sk h hc)

/-! ### C12: `GetCount`, `IsEmpty` on any sketch refining canonical contents -/

theorem count_eq_total (env : MapEnv) (s : Sketch) (cp cn : Content) (zq : Rat)
    (hr : s.Refines cp cn) (hzero : s.zero = .fin zq)
    (hx : F64.add (F64.add (.fin zq) (.fin cp.total)) (.fin cn.total) =
      .fin (zq + cp.total + cn.total)) :
    DDSketch.GetCount (toGen env s) = .fin (zq + cp.total + cn.total) := by
  rw [GetCount_eq, Sketch.getCount_congr hr, hzero]
  exact C12.count_eq_total s.mapping cp cn zq hx

/-- `IsEmpty()` of the generated code says exactly that the (real) total weight is zero -/
theorem isEmpty_iff_count_zero (env : MapEnv) (s : Sketch) (cp cn : Content) (zq : Rat)
    (hr : s.Refines cp cn) (hzero : s.zero = .fin zq)
    (hcp : cp.WF) (hcn : cn.WF) (hz : 0 ≤ zq) :
    DDSketch.IsEmpty (toGen env s) = true ↔ zq + cp.total + cn.total = 0 := by
  rw [IsEmpty_eq, Sketch.isEmpty_congr hr, hzero]
  exact C12.isEmpty_iff_count_zero s.mapping cp cn zq hcp hcn hz

/-- … and with exact sums, that `GetCount()` of the generated code is zero -/
theorem isEmpty_iff_getCount_zero (env : MapEnv) (s : Sketch) (cp cn : Content) (zq : Rat)
    (hr : s.Refines cp cn) (hzero : s.zero = .fin zq)
    (hcp : cp.WF) (hcn : cn.WF) (hz : 0 ≤ zq)
    (hx : F64.add (F64.add (.fin zq) (.fin cp.total)) (.fin cn.total) =
      .fin (zq + cp.total + cn.total)) :
    DDSketch.IsEmpty (toGen env s) = true ↔ DDSketch.GetCount (toGen env s) = .fin 0 := by
  rw [isEmpty_iff_count_zero env s cp cn zq hr hzero hcp hcn hz,
    count_eq_total env s cp cn zq hr hzero hx]
  constructor
  · intro h; rw [h]
  · intro h; exact F64.fin.inj h

/-! ### directly on the generated code, for ANY mapping and store implementation -/

section generic
variable {M S : Type} [MapI M] [StoreI S] [Inhabited M] [Inhabited S]

/-- every path through `AddWithCount`: a nil error, or one of the four documented errors together with the
    receiver as it was -/
theorem AddWithCount_outcome (g : DDSketch M S) (v c : F64) :
    (DDSketch.AddWithCount g v c).2 = GoErr.nil ∨
      ∃ e ∈ [ErrNegativeCount, ErrUntrackableTooHigh, ErrUntrackableTooLow, ErrUntrackableNaN],
        DDSketch.AddWithCount g v c = (g, e) := by
  unfold DDSketch.AddWithCount
  cases F64.lt c (.fin 0)
  case true => exact .inr ⟨_, by simp, rfl⟩
  cases F64.lt (MapI.MinIndexableValue g.IndexMapping) v
  case true =>
    cases F64.lt (MapI.MaxIndexableValue g.IndexMapping) v
    case true => exact .inr ⟨_, by simp, rfl⟩
    exact .inl rfl
  cases F64.lt v (F64.neg (MapI.MinIndexableValue g.IndexMapping))
  case true =>
    cases F64.lt v (F64.neg (MapI.MaxIndexableValue g.IndexMapping))
    case true => exact .inr ⟨_, by simp, rfl⟩
    exact .inl rfl
  cases F64.isNaN v
  case true => exact .inr ⟨_, by simp, rfl⟩
  exact .inl rfl

/-- frame condition of `AddWithCount`: a non-nil error comes with the receiver unchanged -/
theorem AddWithCount_frame (g : DDSketch M S) (v c : F64)
    (h : (DDSketch.AddWithCount g v c).2 ≠ GoErr.nil) : (DDSketch.AddWithCount g v c).1 = g := by
  obtain h' | ⟨e, _, h'⟩ := AddWithCount_outcome g v c
  · exact absurd h' h
  · rw [h']

theorem AddWithCount_err_cases (g : DDSketch M S) (v c : F64) :
    (DDSketch.AddWithCount g v c).2 = GoErr.nil ∨
    (DDSketch.AddWithCount g v c).2 = ErrNegativeCount ∨
    (DDSketch.AddWithCount g v c).2 = ErrUntrackableTooHigh ∨
    (DDSketch.AddWithCount g v c).2 = ErrUntrackableTooLow ∨
    (DDSketch.AddWithCount g v c).2 = ErrUntrackableNaN := by
  obtain h' | ⟨e, he, h'⟩ := AddWithCount_outcome g v c
  · exact .inl h'
  · rw [h']
    exact .inr (by simpa using he)

theorem AddWithCount_negative_generic (g : DDSketch M S) (v c : F64)
    (hc : F64.lt c (.fin 0) = true) : DDSketch.AddWithCount g v c = (g, ErrNegativeCount) := by
  unfold DDSketch.AddWithCount
  rw [if_pos hc]

end generic

end DDS.Props.GenSketchProps
