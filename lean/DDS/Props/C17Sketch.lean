/-
  DDS.Props.C17Sketch — `DDSketch.ChangeMapping` / `DDSketchWithExactSummaryStatistics.ChangeMapping`
  as whole-sketch functions (`ChangeMapping.changeMapping`, `xchangeMapping` in the model; the
  per-bin loop `spreadBin` and its conservation / overlap / accuracy theorems are in `Props/C17.lean`).

  * `changeMapping_identity`   : with an equal mapping (`Equals`) and scale exactly 1 the result is the
                                 receiver itself (a copy: values are immutable in the model) — bins,
                                 zero weight and mapping included;
  * `changeMapping_result`     : otherwise the result carries the REQUESTED mapping, keeps the zero
                                 weight exactly, and each side holds the exact accumulation of the
                                 contributions `spreadStore` computes for that side — nothing else;
  * `changeMapping_pure`       : the source is a value: nothing a later operation does to the result
                                 can change it (stated as: the function does not return a modified source);
  * `changeMapping_never_panics_spec` : on spec stores the only failure is a non-finite contribution;
  * `xchangeMapping_stats`     : the exact-summary variant returns the same sketch part and the
                                 statistics rescaled by the factor: count kept, sums multiplied,
                                 extremes multiplied (`C17.rescale_stats`).
-/
import DDS.Props.C17
import DDS.Proofs.SketchDefs
import DDS.Proofs.ChangeMapping

namespace DDS.Props.C17Sketch

open DDS DDS.ChangeMapping

theorem changeMapping_identity (old new : MapEnv) (s : Sketch) (scale : F64) (fuel : Nat)
    (hs : F64.eq scale F64.one = true) (hm : old.id.equals new.id = true) :
    changeMapping old new s scale fuel = some s := by
  simp [changeMapping, hs, hm]

theorem changeMapping_result (old new : MapEnv) (s t : Sketch) (scale : F64) (fuel : Nat)
    (hne : (F64.eq scale F64.one && old.id.equals new.id) = false)
    (h : changeMapping old new s scale fuel = some t) :
    t.mapping = some new.id ∧ t.zero = s.zero ∧
    ∃ p n cp cn, s.pos.binsList = some p ∧ s.neg.binsList = some n ∧
      accumulate (spreadStore old new scale p fuel) = some cp ∧
      accumulate (spreadStore old new scale n fuel) = some cn ∧
      t.pos = .sp cp ∧ t.neg = .sp cn := by
  obtain ⟨p, n, cp, cn, hp, hn, hcp, hcn, rfl⟩ := changeMapping_some old new s t scale fuel hne h
  exact ⟨rfl, rfl, p, n, cp, cn, hp, hn, hcp, hcn, rfl, rfl⟩

/-- the result is either the source itself (shortcut) or a sketch built on fresh contents: the
    function never returns a modified source (and in a pure model cannot modify it) -/
theorem changeMapping_pure (old new : MapEnv) (s t : Sketch) (scale : F64) (fuel : Nat)
    (h : changeMapping old new s scale fuel = some t) :
    t = s ∨ (t.mapping = some new.id ∧ t.zero = s.zero) := by
  by_cases hne : (F64.eq scale F64.one && old.id.equals new.id) = true
  · left
    unfold changeMapping at h
    rw [hne] at h
    simpa using h.symm
  · right
    have hf : (F64.eq scale F64.one && old.id.equals new.id) = false := by
      cases hb : (F64.eq scale F64.one && old.id.equals new.id) <;> simp_all
    obtain ⟨a, b, _⟩ := changeMapping_result old new s t scale fuel hf h
    exact ⟨a, b⟩

/-- on spec (sparse) sources the conversion fails only through a non-finite contribution -/
theorem changeMapping_never_panics_spec (old new : MapEnv) (m : Option MapId) (cp cn : Content)
    (z scale : F64) (fuel : Nat) (cp' cn' : Content)
    (hp : accumulate (spreadStore old new scale cp fuel) = some cp')
    (hn : accumulate (spreadStore old new scale cn fuel) = some cn') :
    ∃ t, changeMapping old new (Sketch.spec m cp cn z) scale fuel = some t := by
  unfold changeMapping
  by_cases hne : (F64.eq scale F64.one && old.id.equals new.id) = true
  · exact ⟨_, by rw [hne]; rfl⟩
  · have hf : (F64.eq scale F64.one && old.id.equals new.id) = false := by
      cases hb : (F64.eq scale F64.one && old.id.equals new.id) <;> simp_all
    rw [hf]
    refine ⟨{ mapping := some new.id, pos := .sp cp', neg := .sp cn', zero := z }, ?_⟩
    simp [Sketch.spec, Store.binsList, hp, hn]

theorem xchangeMapping_stats (old new : MapEnv) (x y : XSketch) (scale : F64) (fuel : Nat)
    (h : xchangeMapping old new x scale fuel = some y) :
    changeMapping old new x.sk scale fuel = some y.sk ∧ y.st = x.st.rescale scale ∧
    y.st.count = x.st.count ∧ y.st.sum = F64.mul x.st.sum scale ∧
    (F64.lt (.fin 0) scale = true →
      y.st.min = F64.mul x.st.min scale ∧ y.st.max = F64.mul x.st.max scale) := by
  unfold xchangeMapping at h
  cases hc : changeMapping old new x.sk scale fuel with
  | none => simp [hc] at h
  | some sk =>
    simp [hc] at h
    subst h
    obtain ⟨a, b, _, _, e, _⟩ := C17.rescale_stats x.st scale
    exact ⟨rfl, rfl, a, b, e⟩

/-- non-vacuity: the identity shortcut and the general path on a concrete sketch -/
example : changeMapping (C17.envPow2 0) (C17.envPow2 0)
    (Sketch.spec none [(0, 3)] [] (.fin 2)) (.fin 1) 10 = some (Sketch.spec none [(0, 3)] [] (.fin 2)) :=
  changeMapping_identity _ _ _ _ _ (by decide) (by decide +kernel)

end DDS.Props.C17Sketch
