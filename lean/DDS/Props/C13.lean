/-
  DDS.Props.C13 — the documented decision table of the sketch API, stated outright over the IEEE
  classes (`F64`: finite / +inf / −inf / NaN), for EVERY sketch state and EVERY store kind.

  * `AddWithCount(value, count)`:
      count < 0                       ↦ refused (`negativeCount`), whatever the value
      value NaN                       ↦ refused (`nan`)
      value >  maxIndexable           ↦ refused (`tooHigh`)   (+inf included)
      value < −maxIndexable           ↦ refused (`tooLow`)    (−inf included)
      finite |value| ≤ maxIndexable, finite count ≥ 0 ↦ accepted; exactly one of pos / neg / zero
                                        is updated and the other two components are unchanged
  * `GetValueAtQuantile(q)`: refused (`badQuantile`) unless `0 ≤ q ≤ 1` (NaN, ±inf, negatives, > 1
      are refused); refused (`empty`) on a sketch of count 0; a value otherwise
  * `Reweight(w)` with `w ≤ 0` refused; `MergeWith` with a different mapping refused
  * the exact-summary variant validates first (also for a zero count) and a zero count is a no-op.

  Core Lean only.
-/
import DDS.Proofs.SketchDefs
import DDS.Proofs.F64Cmp

namespace DDS.Props.C13

open DDS

theorem gt_nan_left (x : F64) : F64.gt .nan x = false := F64.lt_nan_right x

/-! ### `AddWithCount`: refusals (any sketch, any store kind, any environment) -/

/-- a negative count is refused before the value is looked at (NaN, ±inf values included) -/
theorem add_negative_count (env : MapEnv) (s : Sketch) (v c : F64) (idx : Int)
    (hc : F64.lt c (.fin 0) = true) :
    Sketch.addWithCount env s v c idx = some (.error .negativeCount) := by
  simp [Sketch.addWithCount, hc]

/-- a NaN value is refused (with any count that is not negative: zero, positive, +inf, NaN) -/
theorem add_nan (env : MapEnv) (s : Sketch) (c : F64) (idx : Int)
    (hc : F64.lt c (.fin 0) = false) :
    Sketch.addWithCount env s .nan c idx = some (.error .nan) := by
  simp [Sketch.addWithCount, hc, F64.gt, F64.lt_nan_right, F64.lt_nan_left, F64.isNaN]

theorem add_too_high (env : MapEnv) (s : Sketch) (v c : F64) (idx : Int)
    (hc : F64.lt c (.fin 0) = false)
    (h1 : F64.gt v env.minIndexable = true) (h2 : F64.gt v env.maxIndexable = true) :
    Sketch.addWithCount env s v c idx = some (.error .tooHigh) := by
  simp [Sketch.addWithCount, hc, h1, h2]

/-- symmetric refusal; `h0` says the value was not routed to the positive side (automatic when
    `minIndexable ≥ 0`, see `add_too_low'`) -/
theorem add_too_low (env : MapEnv) (s : Sketch) (v c : F64) (idx : Int)
    (hc : F64.lt c (.fin 0) = false)
    (h0 : F64.gt v env.minIndexable = false)
    (h1 : F64.lt v (F64.neg env.minIndexable) = true)
    (h2 : F64.lt v (F64.neg env.maxIndexable) = true) :
    Sketch.addWithCount env s v c idx = some (.error .tooLow) := by
  simp [Sketch.addWithCount, hc, h0, h1, h2]

/-- with a non-negative finite `minIndexable`, `v < −min` excludes `v > min` -/
theorem not_gt_of_lt_neg (v : F64) (mn : Rat) (hmn : 0 ≤ mn)
    (h1 : F64.lt v (F64.neg (.fin mn)) = true) : F64.gt v (.fin mn) = false := by
  cases v with
  | fin q =>
    have : q < -mn := of_decide_eq_true h1
    exact decide_eq_false (by grind)
  | pinf => cases h1
  | ninf => rfl
  | nan => rfl

theorem add_too_low' (env : MapEnv) (s : Sketch) (v c : F64) (idx : Int) (mn : Rat)
    (hmin : env.minIndexable = .fin mn) (hmn : 0 ≤ mn)
    (hc : F64.lt c (.fin 0) = false)
    (h1 : F64.lt v (F64.neg env.minIndexable) = true)
    (h2 : F64.lt v (F64.neg env.maxIndexable) = true) :
    Sketch.addWithCount env s v c idx = some (.error .tooLow) := by
  apply add_too_low env s v c idx hc _ h1 h2
  rw [hmin] at h1 ⊢
  exact not_gt_of_lt_neg v mn hmn h1

/-- `+inf` is refused as too high whenever the bounds of the mapping are finite -/
theorem add_pos_inf (env : MapEnv) (s : Sketch) (c : F64) (idx : Int) (mn mx : Rat)
    (hmin : env.minIndexable = .fin mn) (hmax : env.maxIndexable = .fin mx)
    (hc : F64.lt c (.fin 0) = false) :
    Sketch.addWithCount env s .pinf c idx = some (.error .tooHigh) := by
  apply add_too_high env s .pinf c idx hc
  · rw [hmin]; rfl
  · rw [hmax]; rfl

/-- `−inf` is refused as too low whenever the bounds of the mapping are finite -/
theorem add_neg_inf (env : MapEnv) (s : Sketch) (c : F64) (idx : Int) (mn mx : Rat)
    (hmin : env.minIndexable = .fin mn) (hmax : env.maxIndexable = .fin mx)
    (hc : F64.lt c (.fin 0) = false) :
    Sketch.addWithCount env s .ninf c idx = some (.error .tooLow) := by
  apply add_too_low env s .ninf c idx hc
  · rw [hmin]; rfl
  · rw [hmin]; rfl
  · rw [hmax]; rfl

/-- the refusal `AddWithCount` answers with, if any: the cascade of `Sketch.addWithCount` with its
    accepting branches cut off. It looks at the count, the value and the bounds only. -/
def refusal (env : MapEnv) (v c : F64) : Option SkErr :=
  if F64.lt c (.fin 0) then some .negativeCount
  else if F64.gt v env.minIndexable then
    if F64.gt v env.maxIndexable then some .tooHigh else none
  else if F64.lt v (F64.neg env.minIndexable) then
    if F64.lt v (F64.neg env.maxIndexable) then some .tooLow else none
  else if v.isNaN then some .nan
  else none

theorem add_error_iff (env : MapEnv) (s : Sketch) (v c : F64) (idx : Int) (e : SkErr) :
    Sketch.addWithCount env s v c idx = some (.error e) ↔ refusal env v c = some e := by
  -- the comparison with the error goes into the branches of both cascades, which then agree
  simp only [Sketch.addWithCount, refusal, apply_ite (· = some (Except.error e)),
    apply_ite (· = some e)]
  simp [Option.bind_eq_some_iff]

/-- every refusal of `AddWithCount` is one of the four documented ones -/
theorem add_error_cases (env : MapEnv) (s : Sketch) (v c : F64) (idx : Int) (e : SkErr)
    (h : Sketch.addWithCount env s v c idx = some (.error e)) :
    e = .negativeCount ∨ e = .tooHigh ∨ e = .tooLow ∨ e = .nan := by
  rw [add_error_iff, refusal] at h
  grind

/-- a refusal never depends on the state of the sketch -/
theorem add_error_state_independent (env : MapEnv) (s s' : Sketch) (v c : F64) (idx : Int)
    (e : SkErr) (h : Sketch.addWithCount env s v c idx = some (.error e)) :
    Sketch.addWithCount env s' v c idx = some (.error e) ∨
      Sketch.addWithCount env s' v c idx = none :=
  .inl ((add_error_iff env s' v c idx e).2 ((add_error_iff env s v c idx e).1 h))

/-! ### `AddWithCount`: acceptance -/

/-- the three accepting branches of the cascade, for any value and count -/
theorem add_pos_branch (env : MapEnv) (s : Sketch) (v c : F64) (idx : Int)
    (hc : F64.lt c (.fin 0) = false)
    (h1 : F64.gt v env.minIndexable = true) (h2 : F64.gt v env.maxIndexable = false) :
    Sketch.addWithCount env s v c idx =
      (Sketch.ratOf? c).bind fun w => (s.pos.addWithCount idx w).bind fun p =>
        some (.ok { s with pos := p }) := by
  simp [Sketch.addWithCount, hc, h1, h2]

theorem add_neg_branch (env : MapEnv) (s : Sketch) (v c : F64) (idx : Int)
    (hc : F64.lt c (.fin 0) = false) (h0 : F64.gt v env.minIndexable = false)
    (h1 : F64.lt v (F64.neg env.minIndexable) = true)
    (h2 : F64.lt v (F64.neg env.maxIndexable) = false) :
    Sketch.addWithCount env s v c idx =
      (Sketch.ratOf? c).bind fun w => (s.neg.addWithCount idx w).bind fun n =>
        some (.ok { s with neg := n }) := by
  simp [Sketch.addWithCount, hc, h0, h1, h2]

theorem add_zero_branch (env : MapEnv) (s : Sketch) (v c : F64) (idx : Int)
    (hc : F64.lt c (.fin 0) = false) (h0 : F64.gt v env.minIndexable = false)
    (h1 : F64.lt v (F64.neg env.minIndexable) = false) (hn : v.isNaN = false) :
    Sketch.addWithCount env s v c idx =
      (Sketch.ratOf? c).bind fun _ => some (.ok { s with zero := F64.add s.zero c }) := by
  simp [Sketch.addWithCount, hc, h0, h1, hn]

/-- finite value above `minIndexable` and not above `maxIndexable`: the positive store gets the
    weight at the supplied index, nothing else changes -/
theorem add_accepts_pos (env : MapEnv) (s : Sketch) (cp : Content) (vq cq : Rat) (idx : Int)
    (mn mx : Rat) (hmin : env.minIndexable = .fin mn) (hmax : env.maxIndexable = .fin mx)
    (hs : s.pos = .sp cp) (hc : 0 ≤ cq) (hv1 : mn < vq) (hv2 : vq ≤ mx) :
    Sketch.addWithCount env s (.fin vq) (.fin cq) idx =
      some (.ok { s with pos := .sp (cp.add idx cq) }) := by
  rw [add_pos_branch env s (.fin vq) (.fin cq) idx (decide_eq_false (Rat.not_lt.2 hc))
    (hmin ▸ decide_eq_true hv1) (hmax ▸ decide_eq_false (Rat.not_lt.2 hv2)),
    hs]
  rfl

/-- finite value below `−minIndexable` and not below `−maxIndexable`: the negative store gets the
    weight at the supplied index, nothing else changes -/
theorem add_accepts_neg (env : MapEnv) (s : Sketch) (cn : Content) (vq cq : Rat) (idx : Int)
    (mn mx : Rat) (hmin : env.minIndexable = .fin mn) (hmax : env.maxIndexable = .fin mx)
    (hmn : 0 ≤ mn)
    (hs : s.neg = .sp cn) (hc : 0 ≤ cq) (hv1 : vq < -mn) (hv2 : -mx ≤ vq) :
    Sketch.addWithCount env s (.fin vq) (.fin cq) idx =
      some (.ok { s with neg := .sp (cn.add idx cq) }) := by
  have h1 : F64.lt (.fin vq) (F64.neg (.fin mn)) = true := decide_eq_true hv1
  rw [add_neg_branch env s (.fin vq) (.fin cq) idx (decide_eq_false (Rat.not_lt.2 hc))
    (hmin ▸ not_gt_of_lt_neg _ mn hmn h1) (hmin ▸ h1)
    (hmax ▸ decide_eq_false (Rat.not_lt.2 hv2)), hs]
  rfl

/-- finite value of magnitude at most `minIndexable`: the zero bucket gets the weight (float
    addition), the stores are untouched — for every store kind -/
theorem add_accepts_zero (env : MapEnv) (s : Sketch) (vq cq : Rat) (idx : Int)
    (mn : Rat) (hmin : env.minIndexable = .fin mn)
    (hc : 0 ≤ cq) (hv1 : -mn ≤ vq) (hv2 : vq ≤ mn) :
    Sketch.addWithCount env s (.fin vq) (.fin cq) idx =
      some (.ok { s with zero := F64.add s.zero (.fin cq) }) := by
  rw [add_zero_branch env s (.fin vq) (.fin cq) idx (decide_eq_false (Rat.not_lt.2 hc))
    (hmin ▸ decide_eq_false (Rat.not_lt.2 hv2))
    (hmin ▸ decide_eq_false (Rat.not_lt.2 hv1)) rfl]
  rfl

/-- the acceptance row of the table in one statement, on a spec sketch: a finite value with
    `|v| ≤ maxIndexable` and a finite count `≥ 0` is accepted, and the new state is the old one with
    exactly one component updated -/
theorem add_accepts (env : MapEnv) (m : Option MapId) (cp cn : Content) (z : F64)
    (vq cq : Rat) (idx : Int) (mn mx : Rat)
    (hmin : env.minIndexable = .fin mn) (hmax : env.maxIndexable = .fin mx)
    (hmn : 0 ≤ mn) (hc : 0 ≤ cq) (hv : rabs vq ≤ mx) :
    Sketch.addWithCount env (Sketch.spec m cp cn z) (.fin vq) (.fin cq) idx =
      some (.ok (
        if mn < vq then Sketch.spec m (cp.add idx cq) cn z
        else if vq < -mn then Sketch.spec m cp (cn.add idx cq) z
        else Sketch.spec m cp cn (F64.add z (.fin cq)))) := by
  have hv' : -mx ≤ vq ∧ vq ≤ mx := by unfold rabs at hv; split at hv <;> grind
  by_cases h1 : mn < vq
  · rw [if_pos h1]
    exact add_accepts_pos env _ cp vq cq idx mn mx hmin hmax rfl hc h1 hv'.2
  · rw [if_neg h1]
    by_cases h2 : vq < -mn
    · rw [if_pos h2]
      exact add_accepts_neg env _ cn vq cq idx mn mx hmin hmax hmn rfl hc h2 hv'.1
    · rw [if_neg h2]
      exact add_accepts_zero env _ vq cq idx mn hmin hc (Rat.not_lt.1 h2) (Rat.not_lt.1 h1)

theorem add_accepts_ok (env : MapEnv) (m : Option MapId) (cp cn : Content) (z : F64)
    (vq cq : Rat) (idx : Int) (mn mx : Rat)
    (hmin : env.minIndexable = .fin mn) (hmax : env.maxIndexable = .fin mx)
    (hmn : 0 ≤ mn) (hc : 0 ≤ cq) (hv : rabs vq ≤ mx) :
    ∃ s', Sketch.addWithCount env (Sketch.spec m cp cn z) (.fin vq) (.fin cq) idx = some (.ok s') :=
  ⟨_, add_accepts env m cp cn z vq cq idx mn mx hmin hmax hmn hc hv⟩

/-- a zero count is accepted like any other (the stores drop nothing and gain nothing) -/
theorem add_zero_count_noop_spec (env : MapEnv) (m : Option MapId) (cp cn : Content) (zq : Rat)
    (vq : Rat) (idx : Int) (mn mx : Rat)
    (hmin : env.minIndexable = .fin mn) (hmax : env.maxIndexable = .fin mx)
    (hmn : 0 ≤ mn) (hv : rabs vq ≤ mx) (hz : F64.isRep zq = true) :
    Sketch.addWithCount env (Sketch.spec m cp cn (.fin zq)) (.fin vq) (.fin 0) idx =
      some (.ok (Sketch.spec m cp cn (.fin zq))) := by
  have hz' : F64.add (.fin zq) (.fin 0) = .fin zq := by
    show F64.roundF64 (zq + 0) = .fin zq
    rw [Rat.add_zero]
    exact eq_of_beq hz
  rw [add_accepts env m cp cn (.fin zq) vq 0 idx mn mx hmin hmax hmn (Rat.le_refl) hv]
  simp only [Content.add_zero_weight, hz', ite_self]

/-! ### `GetValueAtQuantile` -/

theorem quantile_rejects (env : MapEnv) (s : Sketch) (q : F64)
    (h : (F64.le (.fin 0) q && F64.le q (.fin 1)) = false) :
    Sketch.quantile env s q = .error .badQuantile := by
  simp [Sketch.quantile, h]

theorem quantile_nan (env : MapEnv) (s : Sketch) : Sketch.quantile env s .nan = .error .badQuantile :=
  quantile_rejects env s .nan rfl

theorem quantile_pinf (env : MapEnv) (s : Sketch) : Sketch.quantile env s .pinf = .error .badQuantile :=
  quantile_rejects env s .pinf rfl

theorem quantile_ninf (env : MapEnv) (s : Sketch) : Sketch.quantile env s .ninf = .error .badQuantile :=
  quantile_rejects env s .ninf rfl

theorem quantile_negative (env : MapEnv) (s : Sketch) (q : Rat) (hq : q < 0) :
    Sketch.quantile env s (.fin q) = .error .badQuantile :=
  quantile_rejects env s _ (by rw [F64.le_fin, decide_eq_false (Rat.not_le.2 hq)]; rfl)

theorem quantile_above_one (env : MapEnv) (s : Sketch) (q : Rat) (hq : 1 < q) :
    Sketch.quantile env s (.fin q) = .error .badQuantile :=
  quantile_rejects env s _
    (by rw [F64.le_fin, F64.le_fin, decide_eq_false (Rat.not_le.2 hq), Bool.and_false])

/-- the valid quantiles are exactly the finite ones in `[0, 1]` -/
theorem quantile_valid_iff (q : F64) :
    (F64.le (.fin 0) q && F64.le q (.fin 1)) = true ↔ ∃ r : Rat, q = .fin r ∧ 0 ≤ r ∧ r ≤ 1 := by
  cases q with
  | fin r =>
    simp only [F64.le_fin, Bool.and_eq_true, decide_eq_true_eq, F64.fin.injEq, exists_eq_left']
  | _ => exact ⟨fun h => (by cases h), fun ⟨r, h, _⟩ => (by cases h)⟩

theorem quantile_empty (env : MapEnv) (s : Sketch) (q : F64)
    (hq : (F64.le (.fin 0) q && F64.le q (.fin 1)) = true) (he : s.getCount = .fin 0) :
    Sketch.quantile env s q = .error .empty := by
  simp [Sketch.quantile, hq, he, F64.eq]

theorem quantile_ok (env : MapEnv) (s : Sketch) (q : F64)
    (hq : (F64.le (.fin 0) q && F64.le q (.fin 1)) = true)
    (hne : F64.eq s.getCount (.fin 0) = false) :
    ∃ v, Sketch.quantile env s q = .ok v := by
  -- past the two tests every branch is an `.ok`
  simp only [Sketch.quantile, hq, hne, Bool.not_true, Bool.false_eq_true, if_false,
    ← apply_ite Except.ok]
  exact ⟨_, rfl⟩

/-- the only refusals of `GetValueAtQuantile` are the two documented ones -/
theorem quantile_error_cases (env : MapEnv) (s : Sketch) (q : F64) (e : SkErr)
    (h : Sketch.quantile env s q = .error e) : e = .badQuantile ∨ e = .empty := by
  by_cases hq : (F64.le (.fin 0) q && F64.le q (.fin 1)) = true
  · by_cases hc : F64.eq s.getCount (.fin 0) = true
    · right
      simp [Sketch.quantile, hq, hc] at h
      exact h.symm
    · obtain ⟨v, hv⟩ := quantile_ok env s q hq (by simpa using hc)
      rw [hv] at h; cases h
  · left
    rw [quantile_rejects env s q (by simpa using hq)] at h
    cases h; rfl

/-- `GetValuesAtQuantiles` refuses as soon as one quantile is invalid -/
theorem quantiles_rejects (env : MapEnv) (s : Sketch) (qs : List F64) (q : F64) (hmem : q ∈ qs)
    (h : (F64.le (.fin 0) q && F64.le q (.fin 1)) = false)
    (hne : F64.eq s.getCount (.fin 0) = false) :
    Sketch.quantiles env s qs = .error .badQuantile := by
  unfold Sketch.quantiles
  induction qs with
  | nil => simp at hmem
  | cons a rest ih =>
    rw [List.mapM_cons]
    by_cases ha : (F64.le (.fin 0) a && F64.le a (.fin 1)) = true
    · obtain ⟨v, hv⟩ := quantile_ok env s a ha hne
      rcases List.mem_cons.1 hmem with rfl | hm
      · rw [h] at ha; cases ha
      · rw [hv, ih hm]; rfl
    · rw [quantile_rejects env s a (by simpa using ha)]; rfl

/-! ### `Reweight`, `MergeWith` -/

theorem reweight_rejects (s : Sketch) (w : F64) (h : F64.le w (.fin 0) = true) :
    s.reweight w = some (.error .nonPositiveFactor) := by
  simp [Sketch.reweight, h]

/-- a NaN factor is outside the model (Go: stores panic / propagate NaN); it is not accepted -/
theorem reweight_nan (s : Sketch) : s.reweight .nan = none := rfl

theorem reweight_one (s : Sketch) : s.reweight (.fin 1) = some (.ok s) := rfl

theorem merge_rejects (s o : Sketch) (h : Sketch.mappingEquals s.mapping o.mapping = false) :
    s.mergeWith o = some (.error .mismatch) := by
  simp [Sketch.mergeWith, h]

/-- different kinds of mapping never merge -/
theorem merge_rejects_kind (s o : Sketch) (a b : MapId) (ha : s.mapping = some a)
    (hb : o.mapping = some b) (hk : a.kind ≠ b.kind) :
    s.mergeWith o = some (.error .mismatch) := by
  apply merge_rejects
  simp [Sketch.mappingEquals, ha, hb, MapId.equals, hk]

/-- on spec sketches with equal mappings the merge is the pointwise sum -/
theorem merge_accepts_spec (m m' : Option MapId) (cp cn cp' cn' : Content) (z z' : F64)
    (h : Sketch.mappingEquals m m' = true) :
    (Sketch.spec m cp cn z).mergeWith (Sketch.spec m' cp' cn' z') =
      some (.ok (Sketch.spec m (cp.merge cp') (cn.merge cn') (F64.add z z'))) := by
  simp [Sketch.mergeWith, Sketch.spec, h, Store.mergeWith, Store.binsList]

/-! ### the variant with exact summary statistics -/

theorem exact_add_validates_first (env : MapEnv) (x : XSketch) (v c : F64) (idx : Int) (e : SkErr)
    (h : x.sk.addWithCount env v c idx = some (.error e)) :
    XSketch.addWithCount env x v c idx = some (.error e) := by
  simp [XSketch.addWithCount, h]

theorem exact_add_zero_weight_noop (env : MapEnv) (x : XSketch) (v : F64) (idx : Int) (sk : Sketch)
    (h : x.sk.addWithCount env v (.fin 0) idx = some (.ok sk)) :
    XSketch.addWithCount env x v (.fin 0) idx = some (.ok x) := by
  simp [XSketch.addWithCount, h, F64.eq]

/-- the zero-count corollaries of the refusals: the summary is NOT touched and the error is the
    plain sketch's -/
theorem exact_add_zero_weight_nan (env : MapEnv) (x : XSketch) (idx : Int) :
    XSketch.addWithCount env x .nan (.fin 0) idx = some (.error .nan) :=
  exact_add_validates_first env x .nan (.fin 0) idx .nan (add_nan env x.sk (.fin 0) idx (by decide))

theorem exact_add_accepted (env : MapEnv) (x : XSketch) (v c : F64) (idx : Int) (sk : Sketch)
    (h : x.sk.addWithCount env v c idx = some (.ok sk)) (hc : F64.eq c (.fin 0) = false) :
    XSketch.addWithCount env x v c idx = some (.ok { sk := sk, st := x.st.add v c }) := by
  simp [XSketch.addWithCount, h, hc]

/-! ### the hypotheses are satisfiable: a concrete environment and sketch -/

/-- a toy environment: bounds `1/1000` and `1000`, representative of bin `i` is `i + 1` for `i ≥ 0` -/
def envEx : MapEnv :=
  { id := { kind := .log, gamma := .fin 2, indexOffset := .fin 0 }
    minIndexable := .fin (1 / 1000)
    maxIndexable := .fin 1000
    relAcc := .fin (1 / 3)
    value := fun i => .fin ((i.toNat : Rat) + 1)
    lowerBound := fun i => .fin (i.toNat : Rat)
    index := fun _ => 0 }

def skEx : Sketch := Sketch.spec (some envEx.id) [(0, 2), (3, 1)] [(1, 1)] (.fin 1)

/-- the acceptance row on `skEx` -/
theorem skEx_add (vq cq : Rat) (idx : Int) (hc : 0 ≤ cq) (hv : rabs vq ≤ 1000) :
    Sketch.addWithCount envEx skEx (.fin vq) (.fin cq) idx = some (.ok (
      if 1 / 1000 < vq then
        Sketch.spec (some envEx.id) (Content.add [(0, 2), (3, 1)] idx cq) [(1, 1)] (.fin 1)
      else if vq < -(1 / 1000) then
        Sketch.spec (some envEx.id) [(0, 2), (3, 1)] (Content.add [(1, 1)] idx cq) (.fin 1)
      else Sketch.spec (some envEx.id) [(0, 2), (3, 1)] [(1, 1)] (F64.add (.fin 1) (.fin cq)))) :=
  add_accepts envEx _ _ _ _ vq cq idx (1 / 1000) 1000 rfl rfl (by decide +kernel) hc hv

example : Sketch.addWithCount envEx skEx (.fin 5) (.fin (-1)) 2 = some (.error .negativeCount) :=
  add_negative_count envEx skEx _ _ 2 (by decide +kernel)
example : Sketch.addWithCount envEx skEx .nan (.fin (-1)) 2 = some (.error .negativeCount) :=
  add_negative_count envEx skEx _ _ 2 (by decide +kernel)
example : Sketch.addWithCount envEx skEx .nan (.fin 1) 2 = some (.error .nan) :=
  add_nan envEx skEx _ 2 (by decide +kernel)
example : Sketch.addWithCount envEx skEx .nan .nan 2 = some (.error .nan) :=
  add_nan envEx skEx _ 2 (by decide +kernel)
example : Sketch.addWithCount envEx skEx (.fin 1001) (.fin 1) 2 = some (.error .tooHigh) :=
  add_too_high envEx skEx _ _ 2 (by decide +kernel) (by decide +kernel) (by decide +kernel)
example : Sketch.addWithCount envEx skEx (.fin (-1001)) (.fin 1) 2 = some (.error .tooLow) :=
  add_too_low envEx skEx _ _ 2 (by decide +kernel) (by decide +kernel) (by decide +kernel) (by decide +kernel)
example : Sketch.addWithCount envEx skEx .pinf (.fin 1) 2 = some (.error .tooHigh) :=
  add_pos_inf envEx skEx _ 2 _ _ rfl rfl (by decide +kernel)
example : Sketch.addWithCount envEx skEx .ninf (.fin 1) 2 = some (.error .tooLow) :=
  add_neg_inf envEx skEx _ 2 _ _ rfl rfl (by decide +kernel)
example : Sketch.addWithCount envEx skEx (.fin 5) (.fin 1) 2 =
    some (.ok (Sketch.spec (some envEx.id) [(0, 2), (2, 1), (3, 1)] [(1, 1)] (.fin 1))) := by
  rw [skEx_add 5 1 2 (by decide +kernel) (by decide +kernel), if_pos (by decide +kernel)]
  rfl
example : Sketch.addWithCount envEx skEx (.fin (-5)) (.fin 1) 1 =
    some (.ok (Sketch.spec (some envEx.id) [(0, 2), (3, 1)] [(1, 2)] (.fin 1))) := by
  have h : Content.add [(1, 1)] 1 1 = [(1, 2)] := by decide +kernel
  rw [skEx_add (-5) 1 1 (by decide +kernel) (by decide +kernel), if_neg (by decide +kernel),
    if_pos (by decide +kernel), h]
example : Sketch.addWithCount envEx skEx (.fin (1 / 2000)) (.fin 1) 7 =
    some (.ok (Sketch.spec (some envEx.id) [(0, 2), (3, 1)] [(1, 1)] (F64.add (.fin 1) (.fin 1)))) := by
  rw [skEx_add (1 / 2000) 1 7 (by decide +kernel) (by decide +kernel), if_neg (by decide +kernel),
    if_neg (by decide +kernel)]
example : Sketch.quantile envEx skEx (.fin (3 / 2)) = .error .badQuantile :=
  quantile_rejects envEx skEx _ (by decide +kernel)
example : Sketch.quantile envEx (Sketch.new (some envEx.id) .sparse) (.fin (1 / 2)) = .error .empty :=
  quantile_empty envEx _ _ (by decide +kernel) (by decide +kernel)
example : Sketch.quantile envEx (Sketch.new (some envEx.id) .dense) (.fin (1 / 2)) = .error .empty :=
  quantile_empty envEx _ _ (by decide +kernel) (by decide +kernel)
example : skEx.reweight (.fin 0) = some (.error .nonPositiveFactor) :=
  reweight_rejects skEx _ (by decide +kernel)
example : skEx.reweight .ninf = some (.error .nonPositiveFactor) :=
  reweight_rejects skEx _ (by decide +kernel)
example : skEx.mergeWith (Sketch.new none .sparse) = some (.error .mismatch) :=
  merge_rejects skEx _ (by decide +kernel)
example : XSketch.addWithCount envEx { sk := skEx, st := Summary.new } .nan (.fin 0) 0 =
    some (.error .nan) := exact_add_zero_weight_nan envEx _ 0

end DDS.Props.C13
