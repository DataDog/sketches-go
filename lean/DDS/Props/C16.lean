/-
  DDS.Props.C16 — reweighting a sketch ≡ having added every input with its weight multiplied.

  On spec sketches, for `0 < w`:  `reweight w (addAll l) = addAll (l.map (v, c) ↦ (v, c * w))`
  as equality of the positive store, the negative store, the zero weight and the mapping.  The two
  contents agree unconditionally (rational arithmetic); the zero bucket is a float, so the
  statement assumes its arithmetic is exact on both sides (`ExactSums`, see C02).
  `Summary.reweight` multiplies count and the three sums, and keeps min / max when `w ≠ 0`.
-/
import DDS.Props.C02

namespace DDS.Props.C16
open DDS DDS.Sketch DDS.Props.C02

/-! ## spec sketches -/

/-- every weight multiplied by `w` -/
def scaleInputs (w : Rat) (l : List (Rat × Rat)) : List (Rat × Rat) := l.map (fun p => (p.1, p.2 * w))

section
variable (env : MapEnv) (mn mx : Rat)

theorem posPart_scaleInputs (w : Rat) (l : List (Rat × Rat)) :
    posPart env mn (scaleInputs w l) = Content.scale (posPart env mn l) w := by
  simp [Sketch.posPart, Sketch.keyOf, scaleInputs, Content.scale, List.filter_map, Function.comp_def]

theorem negPart_scaleInputs (w : Rat) (l : List (Rat × Rat)) :
    negPart env mn (scaleInputs w l) = Content.scale (negPart env mn l) w := by
  simp [Sketch.negPart, Sketch.keyOf, scaleInputs, Content.scale, List.filter_map, Function.comp_def]

theorem zeroPart_scaleInputs (w : Rat) (l : List (Rat × Rat)) :
    zeroPart mn (scaleInputs w l) = (zeroPart mn l).map (· * w) := by
  simp [Sketch.zeroPart, scaleInputs, List.filter_map, Function.comp_def]

theorem sum_map_mul (ws : List Rat) (w : Rat) : (ws.map (· * w)).sum = ws.sum * w := by
  induction ws with
  | nil => simp
  | cons a ws ih => simp [ih]; ring

theorem accepted_scaleInputs {w : Rat} (hw : 0 < w) {l : List (Rat × Rat)} (h : Accepted mx l) :
    Accepted mx (scaleInputs w l) := by
  intro p hp
  simp only [scaleInputs, List.mem_map] at hp
  obtain ⟨q, hq, rfl⟩ := hp
  exact ⟨(h q hq).1, mul_nonneg (h q hq).2 hw.le⟩

/-- canonicalisation commutes with scaling -/
theorem canon_scale (m : List (Int × Rat)) (hm : ∀ p ∈ m, 0 ≤ p.2) (w : Rat) (hw : 0 < w) :
    Content.merge [] (Content.scale m w) = Content.scale (Content.merge [] m) w := by
  have hm' : ∀ p ∈ Content.scale m w, 0 ≤ p.2 := by
    intro q hq
    obtain ⟨p, hp, rfl⟩ := Content.mem_scale hq
    exact mul_nonneg (hm p hp) hw.le
  apply Content.ext _ _ (Content.wf_merge_of_nonneg [] _ Content.wf_nil hm')
    (Content.wf_scale _ w (Content.wf_merge_of_nonneg [] _ Content.wf_nil hm) hw)
  intro j
  simp only [Content.lookup_merge, Content.lookup_scale, Content.lookup_nil]
  ring

/-- the closed forms: reweighting the target of `l` gives the target of the scaled inputs -/
theorem reweight_target (l : List (Rat × Rat)) (hacc : Accepted mx l) (w : Rat) (hw : 0 < w)
    (hrep : F64.isRep ((zeroPart mn l).sum * w) = true) :
    (target env mn l).reweight (.fin w) = some (.ok (target env mn (scaleInputs w l))) := by
  by_cases hw1 : w = 1
  · subst hw1
    have : scaleInputs 1 l = l := by simp [scaleInputs]
    rw [this]
    exact reweight_spec_one _ _ _ _
  · unfold target
    rw [reweight_spec _ _ _ _ w hw hw1, posPart_scaleInputs, negPart_scaleInputs,
      zeroPart_scaleInputs, sum_map_mul,
      canon_scale _ (posPart_nonneg env mn l (fun p hp => (hacc p hp).2)) w hw,
      canon_scale _ (negPart_nonneg env mn l (fun p hp => (hacc p hp).2)) w hw,
      F64.mul_exact _ _ hrep]

/-- **Reweight ≡ scaled adds.** -/
theorem reweight_addAll (hmn : env.minIndexable = .fin mn) (hmx : env.maxIndexable = .fin mx)
    (hmn0 : 0 ≤ mn) (l : List (Rat × Rat)) (w : Rat) (hw : 0 < w)
    (hacc : ∀ p ∈ l, rabs p.1 ≤ mx ∧ 0 ≤ p.2)
    (hexact : ExactSums (zeroPart mn l)) (hexact' : ExactSums (zeroPart mn (scaleInputs w l))) :
    ∃ s r s', Sketch.addAll env (Sketch.new (some env.id) .sparse) l = some s ∧
      s.reweight (.fin w) = some (.ok r) ∧
      Sketch.addAll env (Sketch.new (some env.id) .sparse) (scaleInputs w l) = some s' ∧
      r.pos = s'.pos ∧ r.neg = s'.neg ∧ r.zero = s'.zero ∧ r.mapping = s'.mapping := by
  have hrep : F64.isRep ((zeroPart mn l).sum * w) = true := by
    have := hexact'.whole
    rwa [zeroPart_scaleInputs, sum_map_mul] at this
  exact ⟨_, _, _, addAll_new env mn mx hmn hmx hmn0 l hacc hexact,
    reweight_target env mn mx l hacc w hw hrep,
    addAll_new env mn mx hmn hmx hmn0 _ (accepted_scaleInputs mx hw hacc) hexact',
    rfl, rfl, rfl, rfl⟩

/-- the store contents agree without any exactness hypothesis (the weights in the stores are
    rationals): reweighting any spec sketch scales both canonical contents -/
theorem reweight_contents (m : Option MapId) (a b : Content) (z : F64) (w : Rat) (hw : 0 < w) :
    ∃ r, (spec m a b z).reweight (.fin w) = some (.ok r) ∧
      r.pos = .sp (a.scale w) ∧ r.neg = .sp (b.scale w) ∧ r.mapping = m := by
  by_cases hw1 : w = 1
  · subst hw1
    rw [Content.scale_one, Content.scale_one]
    exact ⟨_, reweight_spec_one m a b z, rfl, rfl, rfl⟩
  · exact ⟨_, reweight_spec m a b z w hw hw1, rfl, rfl, rfl⟩

end

/-! ## the exact summary statistics -/

theorem summary_reweight_count (st : Summary) (f : F64) :
    (st.reweight f).count = F64.mul st.count f := by
  unfold Summary.reweight; split <;> rfl

theorem summary_reweight_sum (st : Summary) (f : F64) :
    (st.reweight f).sum = F64.mul st.sum f ∧
      (st.reweight f).sumCompensation = F64.mul st.sumCompensation f ∧
      (st.reweight f).simpleSum = F64.mul st.simpleSum f := by
  unfold Summary.reweight; split <;> exact ⟨rfl, rfl, rfl⟩

/-- min and max are kept by every factor that does not compare equal to zero -/
theorem summary_reweight_minmax (st : Summary) (f : F64) (hf : F64.eq f (.fin 0) = false) :
    (st.reweight f).min = st.min ∧ (st.reweight f).max = st.max := by
  unfold Summary.reweight; simp [hf]

theorem summary_reweight_minmax_fin (st : Summary) (w : Rat) (hw : w ≠ 0) :
    (st.reweight (.fin w)).min = st.min ∧ (st.reweight (.fin w)).max = st.max :=
  summary_reweight_minmax st _ (by simp [F64.eq, hw])

/-- a zero factor resets min and max to the empty values -/
theorem summary_reweight_zero (st : Summary) :
    (st.reweight (.fin 0)).min = .pinf ∧ (st.reweight (.fin 0)).max = .ninf := by
  unfold Summary.reweight; simp [F64.eq]

/-- the exact-summary sketch reweights its statistics with the same factor -/
theorem xsketch_reweight (x x' : XSketch) (w : F64) (h : x.reweight w = some (.ok x')) :
    x.sk.reweight w = some (.ok x'.sk) ∧ x'.st = x.st.reweight w := by
  unfold XSketch.reweight at h
  split at h
  · simp at h
  · simp at h
  · rename_i sk hsk
    simp only [Option.some.injEq, Except.ok.injEq] at h
    subst h
    exact ⟨hsk, rfl⟩

/-! ## the hypotheses are satisfiable -/

theorem demo_acc' : ∀ p ∈ demoTree.flat, rabs p.1 ≤ 1000 ∧ 0 ≤ p.2 := demo_acc

theorem demo_exact3 : ExactSums (zeroPart (1 / 1000) (scaleInputs 3 demoTree.flat)) := by
  rw [zeroPart_scaleInputs, demo_zero]
  apply exactSums_of_nat
  · intro w hw
    simp at hw
    rcases hw with rfl | rfl
    · exact ⟨3, by norm_num⟩
    · exact ⟨6, by norm_num⟩
  · norm_num

example : ∃ s r s', Sketch.addAll demoEnv (Sketch.new (some demoEnv.id) .sparse) demoTree.flat = some s ∧
    s.reweight (.fin 3) = some (.ok r) ∧
    Sketch.addAll demoEnv (Sketch.new (some demoEnv.id) .sparse) (scaleInputs 3 demoTree.flat) = some s' ∧
    r.pos = s'.pos ∧ r.neg = s'.neg ∧ r.zero = s'.zero ∧ r.mapping = s'.mapping :=
  reweight_addAll demoEnv (1 / 1000) 1000 rfl rfl (by norm_num) _ 3 (by norm_num) demo_acc
    demo_exact demo_exact3

example : ((Summary.new.add (.fin 2) (.fin 1)).reweight (.fin 3)).min = (Summary.new.add (.fin 2) (.fin 1)).min ∧
    ((Summary.new.add (.fin 2) (.fin 1)).reweight (.fin 3)).max = (Summary.new.add (.fin 2) (.fin 1)).max :=
  summary_reweight_minmax_fin _ 3 (by norm_num)

example : ∃ x', (XSketch.new none .sparse).reweight (.fin 3) = some (.ok x') ∧
    x'.st = (XSketch.new none .sparse).st.reweight (.fin 3) := by
  have h := reweight_spec none [] [] (.fin 0) 3 (by norm_num) (by norm_num)
  have h' : (XSketch.new none .sparse).sk.reweight (.fin 3) = _ := h
  refine ⟨_, by simp only [XSketch.reweight, h']; rfl, rfl⟩

example : ∃ r, (spec none [(1, 2)] [(3, 1)] (.fin 5)).reweight (.fin (1 / 2)) = some (.ok r) ∧
    r.pos = .sp (Content.scale [(1, 2)] (1 / 2)) ∧ r.neg = .sp (Content.scale [(3, 1)] (1 / 2)) ∧
    r.mapping = none :=
  reweight_contents none _ _ _ (1 / 2) (by norm_num)

end DDS.Props.C16
