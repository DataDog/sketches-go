/-
  DDS.Props.C06GenRoundTrip — C06 (decode ∘ encode) for the DEFAULT sketch on fully REGENERATED code: the regenerated
  `DDSketch.Encode` over the regenerated buffered-paginated stores (`GPS grow`), then the regenerated
  `DecodeDDSketch` with the provider `NewBufferedPaginatedStore` on the appended bytes.

  `decode_encode_regenerated_of_goodRun` — for every regenerated default sketch `a` (mapping object a `MapEnv`) whose
  two stores are images `toGen s cap` of model stores satisfying the encoder's range condition `RoundTrip.PagOK`
  (invariant, buffer shorter than `2^64`, varfloat-exact counts `WOK`), with a finite `WOK` zero count and a mapping
  identity that survives its bit patterns (`MapOK`; `MapFinite` when the mapping block is written), every prefix
  `buf`, `9 ≤ fuel`:
     `Encode fuel a buf om = .ok (a', buf ++ out)` and, for every `fuel' ≥ len(out) + 9`, IF the decoder run over the
     regenerated stores meets its side conditions on `out` (`GoodRun DecodeOK`, see `GenPagSketch3`), THEN
     `DecodeDDSketch fuel' out NewBufferedPaginatedStore a.IndexMapping = .ok (r, nil)`, the decoded mapping object has
     the identity of the original, and `r` (with the original mapping OBJECT put back — the `MapI MapEnv` glue
     decodes the identity only, its oracle functions are defaults) answers `GetCount`, `IsEmpty`, `GetZeroCount`,
     `GetValueAtQuantile q` (all `q`), `GetMinValue`, `GetMaxValue` like `a`.
  The hypotheses are those of the model theorem chained with (`RoundTrip.encode_ok`, `Lift.encodesTo_decode_new`)
  plus `GImg` (the record is an image) — and `GoodRun`, which is NOT discharged here (see MISSING below).
  `encode_regenerated_blocks` — the encode half alone (no `GoodRun`): the appended bytes are exactly the bytes of the
  model's block list for the image sketch.

  MISSING for the unconditional `decode_encode_regenerated`: `GoodRun DecodeOK` for `out = bn (encBlocks bl)`,
  `bl = zeroBlocks z ++ mapBlocks m om ++ pagBlocks sp .pos ++ pagBlocks sn .neg` (`sp`, `sn` the compacted images):
  by induction on the block list, carrying a `SkSim` partner (the remaining bytes after a store block are known
  through `sim_decode` and `Sketch.decodeStore_encPayload` of `Proofs/Wire.lean`: `gps_decode_encPayload`; the step
  lemmas `goodRun_zero`, `goodRun_mapping`, `goodRun_bins_pos/_neg`, `goodRun_nil` and the block-level
  `decodeOK_deltas`, `decodeOK_contiguous` are in `Proofs/GenPagSketch4-6`), with, per store block:
    * deltas block (`Sketch.deltasFrom0 buffer`): `CapOK` (the store is still `NewBufferedPaginatedStore`:
      `capOK_new`; the deltas block of a side is the first block of that side), `len(buffer) < 2^63`, the running sums
      (= the buffer entries) int32 (`PStore.Inv`);
    * contiguous block of a page: `2·32 ≤ 3·len + 51`, indexes `index(page, 0) + j` int32, counts
      `decVarfloat64 (encVarfloatBits (vfBits c)) = .fin c` with `0 ≤ c` (`WOK`).
-/
import DDS.Proofs.GenPagSketch4

namespace DDS.Props.C06GenRoundTrip

open DDS DDS.GoSem DDS.PStore DDS.GenPag DDS.GenPagSketch DDS.Gen.Sketch DDS.Gen.Paginated DDS.Gen.Encoding
open DDS.GenEncoding DDS.RoundTrip

variable {grow : Int → Int → Int}

/-- **the encode half**: the regenerated `Encode` of a regenerated default sketch appends exactly the bytes of the
    blocks the model's `Sketch.encode` writes for the image sketch; the receiver stays related to a model sketch -/
theorem encode_regenerated_blocks (a : DDSketch MapEnv (GPS grow))
    (hp : GImg a.positiveValueStore) (hn : GImg a.negativeValueStore)
    (hpp : PagOK (ofGen a.positiveValueStore.g)) (hpn : PagOK (ofGen a.negativeValueStore.g))
    (z : Rat) (hz : a.zeroCount = .fin z) (om : Bool) (fuel : Nat) (hf : 9 ≤ fuel) (buf : List (BitVec 8)) :
    ∃ (a' : DDSketch MapEnv (GPS grow)) (s' : Sketch) (bl : List Block),
      DDSketch.Encode fuel a buf om = .ok (a', buf ++ bn (Wire.encBlocks bl)) ∧
      SkSim a' (GenSketch.toGen a.IndexMapping s') ∧
      EncodesTo (GenSketch.ofGen (imageOf a)) (content (ofGen a.positiveValueStore.g))
        (content (ofGen a.negativeValueStore.g)) a.IndexMapping.id z om s' bl :=
  Encode_blocks a hp hn hpp hpn z hz om fuel hf buf

/-- **C06 on fully regenerated code, conditional on the decoder's side conditions** (`GoodRun DecodeOK` on the bytes
    written) -/
theorem decode_encode_regenerated_of_goodRun (a : DDSketch MapEnv (GPS grow))
    (hp : GImg a.positiveValueStore) (hn : GImg a.negativeValueStore)
    (hpp : PagOK (ofGen a.positiveValueStore.g)) (hpn : PagOK (ofGen a.negativeValueStore.g))
    (z : Rat) (hz : a.zeroCount = .fin z) (hzw : WOK z) (om : Bool)
    (hmk : MapOK a.IndexMapping.id) (hmf : om = false → MapFinite a.IndexMapping.id)
    (fuel : Nat) (hf : 9 ≤ fuel) (buf : List (BitVec 8)) :
    ∃ (a' : DDSketch MapEnv (GPS grow)) (out : List (BitVec 8)),
      DDSketch.Encode fuel a buf om = .ok (a', buf ++ out) ∧
      ∀ fuel', out.length + 9 ≤ fuel' →
        GoodRun DecodeOK (DDSketch.DecodeAndMergeWith.lit1 (M := MapEnv) (S := Store) fuel') fuel' out
          (NewDDSketch a.IndexMapping (⟨NewBufferedPaginatedStore⟩ : GPS grow) ⟨NewBufferedPaginatedStore⟩) →
        ∃ r : DDSketch MapEnv (GPS grow),
          Gen.SketchIter.DecodeDDSketch fuel' out (fun _ => .ok (⟨NewBufferedPaginatedStore⟩ : GPS grow))
            a.IndexMapping = .ok (r, GoErr.nil) ∧
          r.IndexMapping.id = a.IndexMapping.id ∧
          SameAnswers { r with IndexMapping := a.IndexMapping } a := by
  obtain ⟨a', s', bl, h1, _, hE⟩ := Encode_blocks a hp hn hpp hpn z hz om fuel hf buf
  refine ⟨a', _, h1, fun fuel' hf' hg => ?_⟩
  obtain ⟨r, r1, r2, _, r4⟩ := decode_of_encodesTo a hp hn hpp.inv hpn.inv z hz hzw om hmk hmf s' bl hE fuel' hf' hg
  exact ⟨r, r1, r2, r4⟩

end DDS.Props.C06GenRoundTrip
