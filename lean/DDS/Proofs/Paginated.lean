/-
  DDS.Proofs.Paginated — refinement proofs for the `BufferedPaginatedStore` model
  (`DDS.Model.Paginated`).  Core Lean only (`omega` for page arithmetic, `grind` for `Rat`).

  Content is observed pointwise through
    `wt s i = line s i + (s.buffer.count i : Rat)`,
  `line s i` being the page-line value at `i` (0 when the page does not exist).

  * Lists first, no store in sight.  The runs of the sorted buffer are the canonical content of its entries
    (`castRuns_runs`) and the merged iteration is the spec merge of the page lines into them
    (`mergeIter_eq_merge`); the rank search meets lines and buffered entries in the order of their stable merge
    (`interleave`, `firstExceeding_eq_interleave`) and finds the same key because the spec search depends only
    on the cumulative weights (`Content.firstExceeding_congr`).
  * What holds of every store.  An index is a page index and a line index (`index_eq_iff`).  The page table is
    read through `pageAt : page index ↦ page`, and each write is described by what it does to that function
    (`pageAt_setSlot`, `pageAt_padLeft`, `pageAt_padRight`, `pageAt_map`).  What the steps of the operations
    leave alone, again with no invariant, is in `DDS.Proofs.PagSteps`.
  * `Inv` is the invariant, a condition on each `pageAt q` separately (`GoodPage`, `Inv.goodPage`,
    `Inv.of_goodPages`).  `range` records that the page table stays far inside int64 (no wrap-around of the Go
    arithmetic `minPageIndex+len(pages)` outside the sentinel state); `pageRange`/`bufRange` record that all
    weight sits on int32 indexes.  It holds of `PStore.new` (`inv_new`) and is preserved by `page`, `addAtPage`,
    `compact`, `clear`, `reweight`, `sortRead`, by `addUnit` and `addWithCount` for EVERY value of the
    compaction bit (`*_ok` / `*_spec`, each with what the operation does to `wt`), hence by every operation
    history (`run_content`, `run_ok`).  `mergeSame_ok`, `mergeBins_ok` and `reweight_ok` speak of the model's
    `mergeSame`, `mergeBins` and `reweight`, whose adds all carry the bit `true`; the same-kind merge under any
    bit stream is `DDS.GenPag.mergeSameBits_ok`.
    No state satisfying `Inv` makes the model panic or misplace weight.
  * The listed page lines are the cells of the page table (`mem_pageLines`, no invariant), sorted by index
    under `Inv` (`pageLines_pairwise`), so the weight listed at an index is its line (`lookup_pageLines`).
  * The scans of `minIndex?`/`maxIndex?` return the extreme index of positive weight (`ScanRes`,
    `minIndex_spec`, `maxIndex_spec`) and do not see the order of the buffer (`minIndex?_perm_buffer`,
    `maxIndex?_perm_buffer`).
  * The observers (`binsList`, `totalCount`, `isEmpty`, `minIndex?`, `maxIndex?`, `keyAtRank`) are those
    of the canonical `content` of the store, which holds the weights `wt` (`lookup_content`) and is the only
    canonical content that does (`content_eq_of_lookup`); the model's `abs` is that content (`abs_eq_content`).
  * Users need not see `wt`: every operation is restated for `content` (`add_content`, `addUnit_content`,
    `compact_content`, `clear_content`, `reweight_content`, `mergeSame_content`, `mergeBins_content`,
    `sortRead_content`; from any pointwise relation by `content_congr`, `content_add_of_wt`,
    `content_merge_of_wt`, `content_of_wt`), and so are the histories (`step_content`, `run_content`).  A fold
    of adds is followed there, step by step (`foldlM_sim`): the fallback merge is `Content.merge`
    (`mergeBins_content`, whence `mergeBins_ok` and, `reweight` re-adding the buffer by it, `reweight_ok`).
-/
import DDS.Model.Paginated
import DDS.Proofs.Bins

namespace DDS
namespace PStore

/-! ## the buffer: its sorted copy; occurrences counted as weights -/

theorem sortInts_perm (l : List Int) : (sortInts l).Perm l := List.mergeSort_perm l _

theorem sortInts_sorted (l : List Int) : (sortInts l).Pairwise (· ≤ ·) := by
  have := List.pairwise_mergeSort (le := fun (a b : Int) => decide (a ≤ b))
    (by intro a b c; simp only [decide_eq_true_eq]; omega)
    (by intro a b; simp only [Bool.or_eq_true, decide_eq_true_eq]; omega) l
  unfold sortInts
  simpa using this

theorem count_sortInts (l : List Int) (j : Int) : (sortInts l).count j = l.count j :=
  (sortInts_perm l).count_eq j

theorem length_sortInts (l : List Int) : (sortInts l).length = l.length :=
  (sortInts_perm l).length_eq

theorem mem_sortInts (l : List Int) (j : Int) : j ∈ sortInts l ↔ j ∈ l :=
  (sortInts_perm l).mem_iff

theorem natCast_zero : ((0 : Nat) : Rat) = 0 := rfl

theorem count_cons_cast (x : Int) (xs : List Int) (j : Int) :
    ((x :: xs).count j : Rat) = (if j = x then 1 else 0) + (xs.count j : Rat) := by
  rw [List.count_cons, Rat.natCast_add, Rat.add_comm]
  by_cases hj : j = x
  · rw [if_pos hj, if_pos (by rw [hj]; exact beq_self_eq_true x)]; rfl
  · rw [if_neg hj, if_neg (by rw [beq_iff_eq]; exact fun e => hj e.symm)]; rfl

theorem lookup_map_const (l : List Int) (w : Rat) (j : Int) :
    Content.lookup (l.map (fun i => (i, w))) j = (l.count j : Rat) * w := by
  induction l with
  | nil => rw [List.map_nil, Content.lookup_nil, List.count_nil, natCast_zero, Rat.zero_mul]
  | cons x xs ih =>
    rw [List.map_cons, Content.lookup_cons, ih, count_cons_cast, Rat.add_mul]
    by_cases hj : j = x
    · rw [if_pos hj, if_pos hj.symm, Rat.one_mul]
    · rw [if_neg hj, if_neg (fun e => hj e.symm), Rat.zero_mul, Rat.zero_add]

/-! ## the merged iteration: page lines and buffer runs as one canonical content -/

section Iter
open Content

def castRuns (rs : List (Int × Nat)) : Content := rs.map (fun r => (r.1, (r.2 : Rat)))

@[simp] theorem castRuns_nil : castRuns [] = [] := rfl

@[simp] theorem castRuns_cons (r : Int × Nat) (rs : List (Int × Nat)) :
    castRuns (r :: rs) = (r.1, (r.2 : Rat)) :: castRuns rs := rfl

theorem castRuns_append (a b : List (Int × Nat)) : castRuns (a ++ b) = castRuns a ++ castRuns b :=
  List.map_append

theorem mem_castRuns {rs : List (Int × Nat)} {p : Int × Rat} (hp : p ∈ castRuns rs) :
    ∃ r ∈ rs, p = (r.1, (r.2 : Rat)) := by
  obtain ⟨r, hr, rfl⟩ := List.mem_map.1 hp
  exact ⟨r, hr, rfl⟩

/-- buffered entries as unit-weight bins -/
def units (l : List Int) : Content := l.map (fun x => (x, (1 : Rat)))

@[simp] theorem units_nil : units [] = [] := rfl
@[simp] theorem units_cons (x : Int) (l : List Int) : units (x :: l) = (x, 1) :: units l := rfl

theorem mem_units {l : List Int} {p : Int × Rat} (hp : p ∈ units l) : p.1 ∈ l ∧ p.2 = 1 := by
  obtain ⟨x, hx, rfl⟩ := List.mem_map.1 hp
  exact ⟨hx, rfl⟩

theorem units_nonneg (l : List Int) : ∀ p ∈ units l, 0 ≤ p.2 := fun p hp => by
  rw [(mem_units hp).2]; decide

theorem wsum_units (P : Int → Bool) (l : List Int) : wsum P (units l) = (l.countP P : Rat) := by
  induction l with
  | nil => rfl
  | cons x xs ih =>
    rw [units_cons, wsum_cons, ih, List.countP_cons, Rat.natCast_add, Rat.add_comm]
    split <;> rfl

theorem total_units (l : List Int) : total (units l) = (l.length : Rat) := by
  rw [total_eq_wsum, wsum_units, List.countP_true]

@[simp] theorem runs_nil : runs [] = [] := rfl

theorem runs_cons (x : Int) (xs : List Int) :
    runs (x :: xs) =
      match runs xs with
      | (y, n) :: more => if x = y then (y, n + 1) :: more else (x, 1) :: (y, n) :: more
      | [] => [(x, 1)] := by
  rw [runs]
  cases runs xs with
  | nil => rfl
  | cons p t => obtain ⟨y, n⟩ := p; rfl

theorem runs_head? (l : List Int) : (runs l).head?.map (·.1) = l.head? := by
  cases l with
  | nil => rfl
  | cons x xs =>
    rw [runs_cons]
    cases runs xs with
    | nil => rfl
    | cons p t =>
      obtain ⟨y, n⟩ := p
      by_cases hxy : x = y
      · simp [hxy]
      · simp [hxy]

theorem castRuns_runs (l : List Int) (h : l.Pairwise (· ≤ ·)) : castRuns (runs l) = ofList (units l) := by
  induction l with
  | nil => rfl
  | cons x xs ih =>
    obtain ⟨hx, hxs⟩ := List.pairwise_cons.1 h
    rw [units_cons, ofList_cons, ← ih hxs, runs_cons]
    have hh := runs_head? xs
    cases hr : runs xs with
    | nil => rfl
    | cons r more =>
      obtain ⟨y, n⟩ := r
      rw [hr] at hh
      have hy : x ≤ y := hx y (List.mem_of_mem_head? hh.symm)
      simp only []
      by_cases hxy : x = y
      · have : (n : Rat) + 1 ≠ 0 := by have : (0 : Rat) ≤ (n : Rat) := Rat.natCast_nonneg; grind
        rw [if_pos hxy, castRuns_cons, castRuns_cons, add_cons, if_neg (by decide),
          if_neg (by simp only []; omega), if_pos hxy, if_neg this, Rat.natCast_add]
        rfl
      · rw [if_neg hxy, castRuns_cons, castRuns_cons, add_cons, if_neg (by decide),
          if_pos (by simp only []; omega)]
        rfl

theorem wf_runs (l : List Int) (h : l.Pairwise (· ≤ ·)) : WF (castRuns (runs l)) :=
  castRuns_runs l h ▸ wf_ofList _ (units_nonneg l)

theorem wsum_runs (P : Int → Bool) (l : List Int) (h : l.Pairwise (· ≤ ·)) :
    wsum P (castRuns (runs l)) = (l.countP P : Rat) := by
  rw [castRuns_runs l h, wsum_ofList, wsum_units]

theorem lookup_runs (l : List Int) (h : l.Pairwise (· ≤ ·)) (j : Int) :
    Content.lookup (castRuns (runs l)) j = (l.count j : Rat) := by
  rw [lookup_eq_wsum, wsum_runs _ l h, List.count_eq_countP]
  congr 2

theorem total_runs (l : List Int) (h : l.Pairwise (· ≤ ·)) :
    Content.total (castRuns (runs l)) = (l.length : Rat) := by
  rw [total_eq_wsum, wsum_runs _ l h, List.countP_true]

@[simp] theorem mergeIter_nil (rs : List (Int × Nat)) : mergeIter [] rs = castRuns rs := by
  rw [mergeIter]; rfl

theorem mergeIter_cons_zero (idx : Int) (c : Rat) (more : List (Int × Rat)) (rs : List (Int × Nat))
    (hc : c = 0) : mergeIter ((idx, c) :: more) rs = mergeIter more rs := by
  rw [mergeIter, if_pos hc]

/-- a non-zero line `(idx, c)`: the runs below `idx` pass, a run on `idx` itself is absorbed, the rest
    is merged with the remaining lines -/
theorem mergeIter_cons (idx : Int) (c : Rat) (more : List (Int × Rat)) (rs : List (Int × Nat))
    (hc : c ≠ 0) :
    ∃ w after, mergeIter ((idx, c) :: more) rs =
        castRuns (rs.takeWhile (fun r => decide (r.1 < idx))) ++ (idx, w) :: mergeIter more after ∧
      ((∃ n : Nat, rs.dropWhile (fun r => decide (r.1 < idx)) = (idx, n) :: after ∧ w = c + (n : Rat)) ∨
        (rs.dropWhile (fun r => decide (r.1 < idx)) = after ∧ w = c ∧ ∀ r ∈ after.head?, r.1 ≠ idx)) := by
  rw [mergeIter, if_neg hc]
  simp only []
  cases hd : rs.dropWhile (fun r => decide (r.1 < idx)) with
  | nil => exact ⟨c, [], rfl, Or.inr ⟨rfl, rfl, fun r hr => nomatch hr⟩⟩
  | cons r t =>
    obtain ⟨y, n⟩ := r
    by_cases hy : y = idx
    · subst hy
      exact ⟨c + (n : Rat), t, by simp only [if_true]; rfl, Or.inl ⟨n, rfl, rfl⟩⟩
    · exact ⟨c, (y, n) :: t, by simp only [if_neg hy]; rfl,
        Or.inr ⟨rfl, rfl, fun r hr => by cases hr; exact hy⟩⟩

theorem wsum_mergeIter (P : Int → Bool) (lines : List (Int × Rat)) (rs : List (Int × Nat)) :
    wsum P (mergeIter lines rs) = wsum P lines + wsum P (castRuns rs) := by
  induction lines generalizing rs with
  | nil => rw [mergeIter_nil, wsum_nil, Rat.zero_add]
  | cons p more ih =>
    obtain ⟨idx, c⟩ := p
    by_cases hc : c = 0
    · rw [mergeIter_cons_zero _ _ _ _ hc, ih, wsum_cons, hc, ite_self, Rat.zero_add]
    · obtain ⟨w, after, he, hcase⟩ := mergeIter_cons idx c more rs hc
      rw [he, wsum_append, wsum_cons, ih, wsum_cons]
      conv => rhs; rw [← List.takeWhile_append_dropWhile (p := fun r => decide (r.1 < idx)) (l := rs),
        castRuns_append, wsum_append]
      rcases hcase with ⟨n, hd, hw⟩ | ⟨hd, hw, _⟩
      · rw [hd, hw, castRuns_cons, wsum_cons]
        split <;> grind
      · rw [hd, hw]
        grind

theorem lookup_mergeIter (lines : List (Int × Rat)) (rs : List (Int × Nat)) (j : Int) :
    Content.lookup (mergeIter lines rs) j = Content.lookup lines j + Content.lookup (castRuns rs) j := by
  simp only [lookup_eq_wsum, wsum_mergeIter]

theorem total_mergeIter (lines : List (Int × Rat)) (rs : List (Int × Nat)) :
    Content.total (mergeIter lines rs) = Content.total lines + Content.total (castRuns rs) := by
  simp only [total_eq_wsum, wsum_mergeIter]

theorem cumul_mergeIter (lines : List (Int × Rat)) (rs : List (Int × Nat)) (k : Int) :
    cumul (mergeIter lines rs) k = cumul lines k + cumul (castRuns rs) k := by
  simp only [cumul_eq_wsum, wsum_mergeIter]

theorem mem_takeWhile_imp' {α : Type} {p : α → Bool} {l : List α} {x : α}
    (hx : x ∈ l.takeWhile p) : p x = true :=
  List.all_eq_true.1 List.all_takeWhile x hx

theorem dropWhile_head_not {α : Type} {p : α → Bool} {l : List α} {y : α} {t : List α}
    (h : l.dropWhile p = y :: t) : p y = false := by
  have := List.head?_dropWhile_not p l
  rwa [h] at this

theorem mergeIter_eq_merge (lines : List (Int × Rat)) (rs : List (Int × Nat))
    (hl : lines.Pairwise (fun a b => a.1 < b.1)) (hnn : ∀ p ∈ lines, 0 ≤ p.2) :
    mergeIter lines rs = Content.merge (castRuns rs) lines := by
  induction lines generalizing rs with
  | nil => rw [mergeIter_nil]; rfl
  | cons q more ih =>
    obtain ⟨idx, c⟩ := q
    obtain ⟨hidx, hmore⟩ := List.pairwise_cons.1 hl
    have hnn' : ∀ p ∈ more, 0 ≤ p.2 := fun p hp => hnn p (List.mem_cons_of_mem _ hp)
    rw [merge_cons]
    by_cases hc : c = 0
    · rw [mergeIter_cons_zero _ _ _ _ hc, ih rs hmore hnn', hc, add_zero_weight]
    · have hcpos : 0 < c := Rat.lt_iff_le_and_ne.2 ⟨hnn (idx, c) (List.mem_cons_self ..), Ne.symm hc⟩
      obtain ⟨w, after, he, hcase⟩ := mergeIter_cons idx c more rs hc
      have hpre : ∀ p ∈ castRuns (rs.takeWhile fun r => decide (r.1 < idx)), p.1 < idx := fun p hp => by
        obtain ⟨r, hr, rfl⟩ := mem_castRuns hp
        simpa using mem_takeWhile_imp' hr
      -- adding the line to the runs: the runs below `idx` pass, a run on `idx` absorbs it
      have hadd : add (castRuns rs) idx c =
          castRuns (rs.takeWhile fun r => decide (r.1 < idx)) ++ (idx, w) :: castRuns after := by
        conv => lhs; rw [← List.takeWhile_append_dropWhile (p := fun r => decide (r.1 < idx)) (l := rs),
          castRuns_append, add_append_of_lt _ _ _ _ hpre]
        congr 1
        rcases hcase with ⟨n, hd, hw⟩ | ⟨hd, hw, hne⟩
        · have : (n : Rat) + c ≠ 0 := by have : (0 : Rat) ≤ (n : Rat) := Rat.natCast_nonneg; grind
          rw [hd, hw, castRuns_cons, add_cons, if_neg hc, if_neg (Int.lt_irrefl _), if_pos rfl, if_neg this,
            Rat.add_comm]
        · rw [hd, hw]
          cases after with
          | nil => rw [castRuns_nil, add_nil, if_neg hc]
          | cons r t =>
            have hnot := dropWhile_head_not hd
            simp only [decide_eq_false_iff_not] at hnot
            have := hne r rfl
            rw [castRuns_cons, add_cons, if_neg hc, if_pos (by omega)]
      rw [he, ih after hmore hnn', hadd, List.append_cons, List.append_cons _ _ (castRuns after),
        merge_append_of_lt]
      intro p hp q hq
      rcases List.mem_append.1 hp with hp | hp
      · exact Int.lt_trans (hpre p hp) (hidx q hq)
      · rw [List.mem_singleton.1 hp]; exact hidx q hq

theorem wf_mergeIter (lines : List (Int × Rat)) (rs : List (Int × Nat))
    (hl : lines.Pairwise (fun a b => a.1 < b.1)) (hnn : ∀ p ∈ lines, 0 ≤ p.2) (hr : WF (castRuns rs)) :
    Content.WF (mergeIter lines rs) := by
  rw [mergeIter_eq_merge lines rs hl hnn]
  exact wf_merge_of_nonneg _ _ hr hnn

/-! ## the page-store rank search as a spec search over the stable merge of lines and buffered entries -/

/-- the order in which the rank search meets page lines (zero lines included) and buffered entries: a line
    comes before the buffered entries of its own index -/
def interleave (lines : List (Int × Rat)) (buf : List Int) : Content :=
  List.merge lines (units buf) fun a b => decide (a.1 ≤ b.1)

theorem interleave_cons (idx : Int) (c : Rat) (more : List (Int × Rat)) (buf : List Int) :
    interleave ((idx, c) :: more) buf =
      units (buf.takeWhile (fun x => decide (x < idx))) ++
        (idx, c) :: interleave more (buf.dropWhile (fun x => decide (x < idx))) := by
  unfold interleave
  induction buf with
  | nil => simp
  | cons x xs ih =>
    rw [units_cons, List.cons_merge_cons]
    by_cases hx : x < idx
    · rw [if_neg (by simpa using hx), ih, List.takeWhile_cons_of_pos (by simpa using hx),
        List.dropWhile_cons_of_pos (by simpa using hx)]
      rfl
    · rw [if_pos (by simpa using hx), List.takeWhile_cons_of_neg (by simpa using hx),
        List.dropWhile_cons_of_neg (by simpa using hx)]
      rfl

theorem rest_eq (rank : Rat) (buf : List Int) (acc : Rat) :
    firstExceeding.rest rank buf acc = Content.firstExceeding (units buf) acc rank := by
  induction buf generalizing acc with
  | nil => rfl
  | cons x xs ih => rw [firstExceeding.rest, units_cons, firstExceeding_cons, ih]

theorem drain_eq (rank : Rat) (idx : Int) (buf : List Int) (acc : Rat) (fuel : Nat)
    (hf : buf.length ≤ fuel) :
    (firstExceeding.drain rank idx buf acc fuel).1 =
        Content.firstExceeding (units (buf.takeWhile (fun x => decide (x < idx)))) acc rank ∧
      ((firstExceeding.drain rank idx buf acc fuel).1 = none →
        (firstExceeding.drain rank idx buf acc fuel).2.1 = buf.dropWhile (fun x => decide (x < idx)) ∧
        (firstExceeding.drain rank idx buf acc fuel).2.2 =
          acc + total (units (buf.takeWhile (fun x => decide (x < idx))))) := by
  induction buf generalizing acc fuel with
  | nil => cases fuel <;> exact ⟨rfl, fun _ => ⟨rfl, (Rat.add_zero _).symm⟩⟩
  | cons x xs ih =>
    cases fuel with
    | zero => cases hf
    | succ f =>
      rw [firstExceeding.drain]
      by_cases hx : x < idx
      · rw [if_pos hx, List.takeWhile_cons_of_pos (by simpa using hx),
          List.dropWhile_cons_of_pos (by simpa using hx), units_cons, firstExceeding_cons, total_cons]
        by_cases hr : rank < acc + 1
        · rw [if_pos hr, if_pos hr]; exact ⟨rfl, fun hn => nomatch hn⟩
        · rw [if_neg hr, if_neg hr, ← Rat.add_assoc]
          exact ih (acc + 1) f (Nat.le_of_succ_le_succ hf)
      · rw [if_neg hx, List.takeWhile_cons_of_neg (by simpa using hx),
          List.dropWhile_cons_of_neg (by simpa using hx)]
        exact ⟨rfl, fun _ => ⟨rfl, (Rat.add_zero _).symm⟩⟩

theorem firstExceeding_eq_interleave (lines : List (Int × Rat)) (buf : List Int) (acc rank : Rat) :
    firstExceeding lines buf acc rank = Content.firstExceeding (interleave lines buf) acc rank := by
  induction lines generalizing buf acc with
  | nil => rw [firstExceeding, rest_eq, interleave, List.nil_merge]
  | cons p more ih =>
    obtain ⟨idx, c⟩ := p
    rw [firstExceeding, interleave_cons, firstExceeding_append, firstExceeding_cons]
    obtain ⟨h1, h2⟩ := drain_eq rank idx buf acc buf.length (Nat.le_refl _)
    generalize firstExceeding.drain rank idx buf acc buf.length = d at h1 h2
    obtain ⟨o, b', a'⟩ := d
    simp only at h1 h2
    rw [← h1]
    cases o with
    | some k => rfl
    | none =>
      obtain ⟨h3, h4⟩ := h2 rfl
      subst h3 h4
      simp only
      rw [ih]

/-- the page-store rank search (interleaving page lines with the sorted buffer, one buffered entry at
    a time, zero lines included) finds the same key as the spec search over the merged canonical bins:
    both lists are sorted merges of the lines and the buffered entries, so they have the same cumulative
    weights -/
theorem firstExceeding_eq (lines : List (Int × Rat)) (buf : List Int) (acc rank : Rat)
    (hl : lines.Pairwise (fun a b => a.1 < b.1)) (hnn : ∀ p ∈ lines, 0 ≤ p.2)
    (hb : buf.Pairwise (· ≤ ·)) (hacc : acc ≤ rank) :
    firstExceeding lines buf acc rank =
      Content.firstExceeding (mergeIter lines (runs buf)) acc rank := by
  rw [firstExceeding_eq_interleave]
  have hwf := (wf_iff _).1 (wf_mergeIter lines (runs buf) hl hnn (wf_runs buf hb))
  have hs := List.pairwise_merge (le := fun (a b : Int × Rat) => decide (a.1 ≤ b.1))
    (fun a b c => by simp only [decide_eq_true_eq]; omega)
    (fun a b => by simp only [Bool.or_eq_true, decide_eq_true_eq]; omega) lines (units buf)
    (hl.imp fun h => decide_eq_true (Int.le_of_lt h)) (List.pairwise_map.2 (hb.imp fun h => decide_eq_true h))
  apply firstExceeding_congr _ _ (hs.imp of_decide_eq_true)
    (fun p hp => (List.mem_merge.1 hp).elim (hnn p) (units_nonneg buf p))
    (hwf.1.imp Int.le_of_lt) (fun p hp => Rat.le_of_lt (hwf.2 p hp)) _ acc rank hacc
  intro k
  rw [cumul_eq_wsum, cumul_eq_wsum, wsum_perm _ (List.merge_perm_append ..), wsum_append,
    wsum_mergeIter, wsum_runs _ buf hb, wsum_units]

end Iter

/-! ## what holds of every store

### an index is a page index and a line index -/

theorem pageLen_pos (s : PStore) : 0 < s.pageLen := Nat.pow_pos (by decide)

/-- page index and line index are quotient and remainder of the index by the page length -/
theorem index_eq_iff (s : PStore) (p : Int) (l : Nat) (hl : l < s.pageLen) (i : Int) :
    s.index p l = i ↔ s.pageIndex i = p ∧ s.lineIndex i = l := by
  have hn : (0 : Int) < s.pageLen := Int.natCast_pos.2 s.pageLen_pos
  have hu := Int.ediv_emod_unique (a := i) (r := l) (q := p) hn
  unfold index pageIndex lineIndex
  rw [Int.mul_comm, Int.add_comm]
  constructor
  · intro h
    obtain ⟨h1, h2⟩ := hu.2 ⟨h, Int.natCast_nonneg l, Int.ofNat_lt.2 hl⟩
    exact ⟨h1, by rw [h2, Int.toNat_natCast]⟩
  · rintro ⟨h1, h2⟩
    exact (hu.1 ⟨h1, by rw [← h2, Int.toNat_of_nonneg (Int.emod_nonneg i (Int.ne_of_gt hn))]⟩).1

theorem lineIndex_lt_pageLen (s : PStore) (i : Int) : s.lineIndex i < s.pageLen := by
  have hn : (0 : Int) < s.pageLen := Int.natCast_pos.2 s.pageLen_pos
  have := Int.emod_lt_of_pos i hn
  have := Int.emod_nonneg i (Int.ne_of_gt hn)
  unfold lineIndex; omega

theorem index_page_line (s : PStore) (i : Int) : s.index (s.pageIndex i) (s.lineIndex i) = i :=
  (index_eq_iff s _ _ (lineIndex_lt_pageLen s i) i).2 ⟨rfl, rfl⟩

theorem index_pageIndex_lineIndex (s : PStore) (_hL : s.pageLen = 32) (i : Int) :
    s.index (s.pageIndex i) (s.lineIndex i) = i :=
  index_page_line s i

theorem pageIndex_index (s : PStore) (p : Int) (l : Nat) (hl : l < s.pageLen) :
    s.pageIndex (s.index p l) = p :=
  ((index_eq_iff s p l hl _).1 rfl).1

theorem lineIndex_index (s : PStore) (p : Int) (l : Nat) (hl : l < s.pageLen) :
    s.lineIndex (s.index p l) = l :=
  ((index_eq_iff s p l hl _).1 rfl).2

theorem pageLen_congr {s s' : PStore} (h : s'.pageLenLog2 = s.pageLenLog2) : s'.pageLen = s.pageLen := by
  simp [pageLen, h]

theorem pageIndex_congr {s s' : PStore} (h : s'.pageLenLog2 = s.pageLenLog2) (i : Int) :
    s'.pageIndex i = s.pageIndex i := by simp [pageIndex, pageLen_congr h]

theorem lineIndex_congr {s s' : PStore} (h : s'.pageLenLog2 = s.pageLenLog2) (i : Int) :
    s'.lineIndex i = s.lineIndex i := by simp [lineIndex, pageLen_congr h]

theorem index_congr {s s' : PStore} (h : s'.pageLenLog2 = s.pageLenLog2) (p : Int) (l : Nat) :
    s'.index p l = s.index p l := by simp [index, pageLen_congr h]

/-! ### arrays read with a default -/

theorem getD_replicate_empty (n k : Nat) : (Array.replicate n (#[] : Array Rat)).getD k #[] = #[] := by
  simp only [Array.getD_eq_getD_getElem?, Array.getElem?_replicate]; split <;> rfl

theorem getD_append_replicate_left (n : Nat) (a : Array (Array Rat)) (k : Nat) :
    (Array.replicate n #[] ++ a).getD k #[] = if k < n then #[] else a.getD (k - n) #[] := by
  simp only [Array.getD_eq_getD_getElem?, Array.getElem?_append, Array.size_replicate, Array.getElem?_replicate]
  split <;> simp

theorem getD_pages_oob (a : Array (Array Rat)) (k : Nat) (h : a.size ≤ k) : a.getD k #[] = #[] := by
  rw [Array.getD_eq_getD_getElem?, Array.getElem?_eq_none h]; rfl

theorem getD_append_replicate_right (a : Array (Array Rat)) (n k : Nat) :
    (a ++ Array.replicate n #[]).getD k #[] = a.getD k #[] := by
  simp only [Array.getD_eq_getD_getElem?, Array.getElem?_append, Array.getElem?_replicate]
  split
  · rfl
  · rw [Array.getElem?_eq_none (by omega)]; split <;> rfl

theorem getD_setIfInBounds {α} (a : Array α) (k j : Nat) (v d : α) :
    (a.setIfInBounds k v).getD j d = if j = k ∧ k < a.size then v else a.getD j d := by
  simp only [Array.getD_eq_getD_getElem?, Array.getElem?_setIfInBounds]
  by_cases h : k = j
  · subst h; by_cases h2 : k < a.size <;> simp [h2]
  · have : ¬ (j = k ∧ k < a.size) := by omega
    simp [h, this]

theorem empty_getD (l : Nat) : (#[] : Array Rat).getD l 0 = 0 := by simp

theorem getD_of_lt (a : Array Rat) (l : Nat) (h : l < a.size) : a.getD l 0 = a[l] := by
  simp [Array.getD_eq_getD_getElem?, h]

theorem getD_of_ge (a : Array Rat) (l : Nat) (h : ¬ l < a.size) : a.getD l 0 = 0 := by
  have : a.size ≤ l := by omega
  simp [Array.getD_eq_getD_getElem?, this]

theorem getD_map_const_empty (a : Array (Array Rat)) (k : Nat) :
    (a.map (fun _ => (#[] : Array Rat))).getD k #[] = #[] := by
  simp only [Array.getD_eq_getD_getElem?, Array.getElem?_map]
  cases a[k]? <;> rfl

theorem getD_map_map (a : Array (Array Rat)) (f : Array Rat → Array Rat) (hf : f #[] = #[]) (k : Nat) :
    (a.map f).getD k #[] = f (a.getD k #[]) := by
  simp only [Array.getD_eq_getD_getElem?, Array.getElem?_map]
  cases a[k]? <;> simp [hf]

theorem getD_map_mul (a : Array Rat) (w : Rat) (l : Nat) :
    (a.map (· * w)).getD l 0 = a.getD l 0 * w := by
  simp only [Array.getD_eq_getD_getElem?, Array.getElem?_map]
  cases a[l]? <;> simp

/-! ### slots; `pageAt`, the page table as a function of the page index, and what each write does to it -/

theorem slot?_eq_some (s : PStore) (p : Int) (k : Nat) :
    s.slot? p = some k ↔
      s.minPageIndex ≤ p ∧ p < s.minPageIndex + (s.pages.size : Int) ∧ k = (p - s.minPageIndex).toNat := by
  unfold slot?
  split
  · simp only [Option.some.injEq]; omega
  · simp only [reduceCtorEq, false_iff]; omega

theorem slot?_eq_none (s : PStore) (p : Int) :
    s.slot? p = none ↔ ¬ (s.minPageIndex ≤ p ∧ p < s.minPageIndex + (s.pages.size : Int)) := by
  unfold slot?
  split <;> simp <;> omega

theorem slot?_lt (s : PStore) (p : Int) (k : Nat) (h : s.slot? p = some k) : k < s.pages.size := by
  rw [slot?_eq_some] at h; omega

theorem slot?_eq_some_iff (s : PStore) (p : Int) (k : Nat) :
    s.slot? p = some k ↔ k < s.pages.size ∧ p = s.minPageIndex + (k : Int) := by
  rw [slot?_eq_some]; omega

theorem slot?_setSlot (s : PStore) (k : Nat) (pg : Array Rat) (q : Int) :
    slot? { s with pages := s.pages.setIfInBounds k pg } q = s.slot? q := by
  unfold slot?; simp only [Array.size_setIfInBounds]

/-- the page holding page index `p` (`#[]` when outside the page table or not materialised) -/
def pageAt (s : PStore) (p : Int) : Array Rat :=
  match s.slot? p with
  | some k => s.pages.getD k #[]
  | none => #[]

theorem pageAt_def (s : PStore) (p : Int) :
    s.pageAt p = if s.minPageIndex ≤ p ∧ p < s.minPageIndex + (s.pages.size : Int)
      then s.pages.getD (p - s.minPageIndex).toNat #[] else #[] := by
  unfold pageAt slot?
  by_cases h : p ≥ s.minPageIndex ∧ p < s.minPageIndex + (s.pages.size : Int)
  · rw [if_pos h, if_pos h]
  · rw [if_neg h, if_neg h]

theorem pageAt_of_slot (s : PStore) (p : Int) (k : Nat) (h : s.slot? p = some k) :
    s.pageAt p = s.pages.getD k #[] := by
  unfold pageAt; rw [h]

theorem pageAt_of_allEmpty (s : PStore) (h : ∀ k, (s.pages.getD k #[]).size = 0) (q : Int) :
    s.pageAt q = #[] := by
  rw [pageAt_def]; split
  · exact Array.eq_empty_of_size_eq_zero (h _)
  · rfl

theorem pageAt_add (s : PStore) (k : Nat) : s.pageAt (s.minPageIndex + (k : Int)) = s.pages.getD k #[] := by
  rw [pageAt_def]; split
  · congr 1; omega
  · exact (getD_pages_oob _ _ (by omega)).symm

theorem pageAt_slot_add (s : PStore) (k : Nat) (hk : k < s.pages.size) :
    s.pageAt (s.minPageIndex + (k : Int)) = s.pages.getD k #[] :=
  pageAt_add s k

theorem pageAt_of_lt (s : PStore) (q : Int) (h : q < s.minPageIndex) : s.pageAt q = #[] := by
  rw [pageAt_def, if_neg (by omega)]

theorem pageAt_setSlot (s : PStore) (p : Int) (k : Nat) (hk : s.slot? p = some k) (pg : Array Rat)
    (q : Int) :
    pageAt { s with pages := s.pages.setIfInBounds k pg } q = if q = p then pg else s.pageAt q := by
  have hk' := (slot?_eq_some_iff s p k).1 hk
  unfold pageAt
  rw [slot?_setSlot]
  cases hq : s.slot? q with
  | none => rw [if_neg (fun e => by rw [e, hk] at hq; cases hq)]
  | some j =>
    have hq' := (slot?_eq_some_iff s q j).1 hq
    simp only [getD_setIfInBounds]
    by_cases e : q = p
    · rw [e, hk] at hq
      rw [if_pos e, if_pos ⟨(Option.some.inj hq).symm, hk'.1⟩]
    · rw [if_neg e, if_neg (fun hjk => e (by rw [hq'.2, hk'.2, hjk.1]))]

theorem pageAt_padRight (s : PStore) (b : Nat) (q : Int) :
    pageAt { s with pages := s.pages ++ Array.replicate b #[] } q = s.pageAt q := by
  by_cases hq : q < s.minPageIndex
  · rw [pageAt_of_lt s q hq]; exact pageAt_of_lt _ q hq
  · obtain ⟨k, hk⟩ := Int.eq_ofNat_of_zero_le (Int.sub_nonneg.2 (Int.not_lt.1 hq))
    obtain rfl : q = s.minPageIndex + (k : Int) := by omega
    exact (pageAt_add _ k).trans ((getD_append_replicate_right ..).trans (pageAt_add s k).symm)

theorem pageAt_padLeft (s : PStore) (a : Nat) (q : Int) :
    pageAt { s with pages := Array.replicate a #[] ++ s.pages,
                    minPageIndex := s.minPageIndex - (a : Int) } q = s.pageAt q := by
  by_cases hq : q < s.minPageIndex - (a : Int)
  · rw [pageAt_of_lt s q (by omega)]; exact pageAt_of_lt _ q hq
  · obtain ⟨k, hk⟩ := Int.eq_ofNat_of_zero_le (Int.sub_nonneg.2 (Int.not_lt.1 hq))
    obtain rfl : q = s.minPageIndex - (a : Int) + (k : Int) := by omega
    refine (pageAt_add _ k).trans ?_
    show (Array.replicate a #[] ++ s.pages).getD k #[] = _
    rw [getD_append_replicate_left]; split
    · exact (pageAt_of_lt s _ (by omega)).symm
    · rw [show s.minPageIndex - (a : Int) + (k : Int) = s.minPageIndex + ((k - a : Nat) : Int) by omega,
        pageAt_add]

theorem pageAt_map (s : PStore) (f : Array Rat → Array Rat) (hf : f #[] = #[]) (b : List Int) (q : Int) :
    pageAt { s with buffer := b, pages := s.pages.map f } q = f (s.pageAt q) := by
  unfold pageAt
  rw [show slot? { s with buffer := b, pages := s.pages.map f } q = s.slot? q by
    unfold slot?; simp only [Array.size_map]]
  cases s.slot? q with
  | none => exact hf.symm
  | some k => exact getD_map_map _ f hf k

/-! ### `line` and `wt` -/

/-- the page-line value at index `i` (0 if the page does not exist) -/
def line (s : PStore) (i : Int) : Rat := (s.pageAt (s.pageIndex i)).getD (s.lineIndex i) 0

theorem line_of_slot (s : PStore) (j : Int) (k : Nat) (hp : s.pageIndex j = s.minPageIndex + (k : Int)) :
    s.line j = (s.pages.getD k #[]).getD (s.lineIndex j) 0 := by
  unfold line; rw [hp, pageAt_add]

theorem slot_of_line_pos (s : PStore) (j : Int) (hj : 0 < s.line j) :
    ∃ k, k < s.pages.size ∧ s.pageIndex j = s.minPageIndex + (k : Int) := by
  unfold line pageAt at hj
  cases hs : s.slot? (s.pageIndex j) with
  | none => rw [hs, empty_getD] at hj; exact absurd hj Rat.lt_irrefl
  | some k => exact ⟨k, (slot?_eq_some_iff ..).1 hs⟩

theorem line_congr {s s' : PStore} (hl : s'.pageLenLog2 = s.pageLenLog2)
    (hpa : ∀ q l, (s'.pageAt q).getD l 0 = (s.pageAt q).getD l 0) (i : Int) : s'.line i = s.line i := by
  unfold line; rw [pageIndex_congr hl, lineIndex_congr hl, hpa]

/-- weight held at index `i`: its page line + number of occurrences in the buffer -/
def wt (s : PStore) (i : Int) : Rat := s.line i + (s.buffer.count i : Rat)

theorem wt_of_line (s s' : PStore) (hb : s'.buffer = s.buffer) (hl : ∀ i, s'.line i = s.line i) (i : Int) :
    s'.wt i = s.wt i := by
  unfold wt; rw [hb, hl]

theorem wt_append_buffer (s : PStore) (i j : Int) :
    wt { s with buffer := s.buffer ++ [i] } j = wt s j + if j = i then 1 else 0 := by
  show s.line j + ((s.buffer ++ [i]).count j : Rat) = s.line j + (s.buffer.count j : Rat) + _
  rw [List.count_append, Rat.natCast_add, count_cons_cast, List.count_nil, natCast_zero, Rat.add_zero,
    Rat.add_assoc]

/-! ## the invariant -/

/-- page indexes of int32 indexes: `[-2^26, 2^26)` -/
def PageIdx32 (p : Int) : Prop := -67108864 ≤ p ∧ p < 67108864

def Idx32 (i : Int) : Prop := minInt32 ≤ i ∧ i ≤ maxInt32

/-- The invariant.  Pages are addressed by slot (`s.pages.getD k #[]`, `#[]` outside the table);
    the membership forms `∀ pg ∈ s.pages, …` are `Inv.pageSizes_mem`, `Inv.sentinel_mem`,
    `Inv.nonneg_mem`.  `range` uses the constants `4·2^26+64`, `-(3·2^26+32)`, `3·2^26+33`, an
    inductive envelope of the page table under clear/re-centre/extend cycles with int32 indexes. -/
structure Inv (s : PStore) : Prop where
  log2      : s.pageLenLog2 = Consts.defaultPageLenLog2
  pageSizes : ∀ k, (s.pages.getD k #[]).size = 0 ∨ (s.pages.getD k #[]).size = s.pageLen
  sentinel  : s.minPageIndex = maxInt → ∀ k, (s.pages.getD k #[]).size = 0
  nonneg    : ∀ k l, 0 ≤ (s.pages.getD k #[]).getD l 0
  /-- the page table stays far inside the int64 range (no wrap-around in the Go arithmetic) -/
  range     : (s.pages.size : Int) ≤ 268435520 ∧
              (s.minPageIndex ≠ maxInt →
                -201326624 ≤ s.minPageIndex ∧ s.minPageIndex + (s.pages.size : Int) ≤ 201326625)
  /-- materialised pages sit on page indexes of int32 indexes -/
  pageRange : ∀ k, (s.pages.getD k #[]).size ≠ 0 → PageIdx32 (s.minPageIndex + (k : Int))
  bufRange  : ∀ x ∈ s.buffer, Idx32 x

theorem Inv.pageLen_eq {s : PStore} (h : Inv s) : s.pageLen = 32 := by
  simp [pageLen, h.log2, Consts.defaultPageLenLog2]

theorem Inv.log2_eq {s s' : PStore} (h : Inv s) (h' : Inv s') : s'.pageLenLog2 = s.pageLenLog2 :=
  h'.log2.trans h.log2.symm

theorem inv_with_buffer (s : PStore) (h : Inv s) (b : List Int) (t : Nat) (hb : ∀ x ∈ b, Idx32 x) :
    Inv { s with buffer := b, trigger := t } :=
  ⟨h.log2, h.pageSizes, h.sentinel, h.nonneg, h.range, h.pageRange, hb⟩

theorem inv_append_buffer (s : PStore) (h : Inv s) (i : Int) (hi : Idx32 i) :
    Inv { s with buffer := s.buffer ++ [i] } :=
  inv_with_buffer s h _ _ fun x hx => by
    rcases List.mem_append.1 hx with h1 | h1
    · exact h.bufRange x h1
    · rw [List.mem_singleton.1 h1]; exact hi

/-! ### index arithmetic at page length 32 -/

/-- an index in terms of its page and line, as linear facts for `omega` -/
theorem Inv.split {s : PStore} (h : Inv s) (i : Int) :
    i = s.pageIndex i * 32 + (s.lineIndex i : Int) ∧ s.lineIndex i < 32 := by
  have h1 := index_page_line s i
  have h2 := lineIndex_lt_pageLen s i
  rw [index, h.pageLen_eq] at h1
  rw [h.pageLen_eq] at h2
  exact ⟨h1.symm, h2⟩

/-- indexes are ordered as their (page, line) pairs -/
theorem Inv.le_of_lex {s : PStore} (h : Inv s) (i j : Int) (hp : s.pageIndex i ≤ s.pageIndex j)
    (hl : s.pageIndex i = s.pageIndex j → s.lineIndex i ≤ s.lineIndex j) : i ≤ j := by
  have := h.split i
  have := h.split j
  omega

theorem Inv.index_le {s : PStore} (h : Inv s) (p : Int) (l : Nat) (hl : l < 32) (j : Int)
    (hp : p ≤ s.pageIndex j) (hlj : s.pageIndex j = p → l ≤ s.lineIndex j) : s.index p l ≤ j := by
  have hl' : l < s.pageLen := by rw [h.pageLen_eq]; exact hl
  apply h.le_of_lex <;>
    rw [pageIndex_index s p l hl']
  · exact hp
  · rw [lineIndex_index s p l hl']; exact fun e => hlj e.symm

theorem Inv.le_index {s : PStore} (h : Inv s) (p : Int) (l : Nat) (hl : l < 32) (j : Int)
    (hp : s.pageIndex j ≤ p) (hlj : s.pageIndex j = p → s.lineIndex j ≤ l) : j ≤ s.index p l := by
  have hl' : l < s.pageLen := by rw [h.pageLen_eq]; exact hl
  apply h.le_of_lex <;>
    rw [pageIndex_index s p l hl']
  · exact hp
  · rw [lineIndex_index s p l hl']; exact hlj

theorem index_lt_index (s : PStore) (hL : s.pageLen = 32) (p p' : Int) (l l' : Nat)
    (hl : l < 32) (h : p < p' ∨ (p = p' ∧ l < l')) : s.index p l < s.index p' l' := by
  simp only [index, hL]; omega

theorem Inv.line_index {s : PStore} (h : Inv s) (k : Nat) (l : Nat) (hl : l < 32) :
    s.line (s.index (s.minPageIndex + (k : Int)) l) = (s.pages.getD k #[]).getD l 0 := by
  have hl' : l < s.pageLen := by rw [h.pageLen_eq]; exact hl
  unfold line
  rw [pageIndex_index s _ l hl', lineIndex_index s _ l hl', pageAt_add]

theorem pageIdx32_of_idx32 (s : PStore) (hL : s.pageLen = 32) (i : Int) (hi : Idx32 i) :
    PageIdx32 (s.pageIndex i) := by
  simp only [Idx32, minInt32, maxInt32, PageIdx32, pageIndex, hL] at *; omega

theorem idx32_of_pageIdx32 (s : PStore) (hL : s.pageLen = 32) (i : Int) (hp : PageIdx32 (s.pageIndex i)) :
    Idx32 i := by
  simp only [Idx32, minInt32, maxInt32, PageIdx32, pageIndex, hL] at *; omega

/-! ### the invariant, page by page -/

/-- what the invariant asks of the page at page index `q` -/
def GoodPage (q : Int) (pg : Array Rat) : Prop :=
  (pg.size = 0 ∨ pg.size = 32 ∧ PageIdx32 q) ∧ ∀ l, 0 ≤ pg.getD l 0

theorem goodPage_empty (q : Int) : GoodPage q #[] := ⟨Or.inl rfl, fun l => by rw [empty_getD]; exact Rat.le_refl⟩

theorem GoodPage.set {q : Int} {pg : Array Rat} (hg : GoodPage q pg) (l : Nat) (v : Rat) (hv : 0 ≤ v) :
    GoodPage q (pg.setIfInBounds l v) := by
  refine ⟨by rw [Array.size_setIfInBounds]; exact hg.1, fun m => ?_⟩
  rw [getD_setIfInBounds]; split
  · exact hv
  · exact hg.2 m

theorem Inv.goodSlot {s : PStore} (h : Inv s) (k : Nat) :
    GoodPage (s.minPageIndex + (k : Int)) (s.pages.getD k #[]) := by
  refine ⟨?_, h.nonneg k⟩
  rcases h.pageSizes k with h0 | h0
  · exact Or.inl h0
  · exact Or.inr ⟨h0.trans h.pageLen_eq, h.pageRange k (by rw [h0, h.pageLen_eq]; decide)⟩

theorem Inv.goodPage {s : PStore} (h : Inv s) (q : Int) : GoodPage q (s.pageAt q) := by
  unfold pageAt
  cases hq : s.slot? q with
  | none => exact goodPage_empty q
  | some k => rw [((slot?_eq_some_iff s q k).1 hq).2]; exact h.goodSlot k

theorem Inv.of_goodPages {s : PStore} (hlog : s.pageLenLog2 = Consts.defaultPageLenLog2)
    (hpg : ∀ q, GoodPage q (s.pageAt q))
    (hrange : (s.pages.size : Int) ≤ 268435520 ∧
              (s.minPageIndex ≠ maxInt →
                -201326624 ≤ s.minPageIndex ∧ s.minPageIndex + (s.pages.size : Int) ≤ 201326625))
    (hbuf : ∀ x ∈ s.buffer, Idx32 x) : Inv s := by
  have hL : s.pageLen = 32 := by simp [pageLen, hlog, Consts.defaultPageLenLog2]
  have key : ∀ k : Nat, GoodPage (s.minPageIndex + (k : Int)) (s.pages.getD k #[]) :=
    fun k => pageAt_add s k ▸ hpg _
  refine ⟨hlog, fun k => ?_, fun hm k => ?_, fun k => (key k).2, hrange, fun k hne => ?_, hbuf⟩
  · rcases (key k).1 with h0 | h0
    · exact Or.inl h0
    · exact Or.inr (h0.1.trans hL.symm)
  · rcases (key k).1 with h0 | h0
    · exact h0
    · have := h0.2; simp only [PageIdx32, hm, maxInt] at this; omega
  · rcases (key k).1 with h0 | h0
    · exact absurd h0 hne
    · exact h0.2

theorem Inv.setSlot {s : PStore} (h : Inv s) (p : Int) (k : Nat) (hk : s.slot? p = some k)
    (pg : Array Rat) (hpg : GoodPage p pg) : Inv { s with pages := s.pages.setIfInBounds k pg } := by
  refine Inv.of_goodPages h.log2 (fun q => ?_) (by simpa using h.range) h.bufRange
  rw [pageAt_setSlot s p k hk]; split
  · rename_i e; rw [e]; exact hpg
  · exact h.goodPage q

theorem Inv.of_pageAt_eq {s s' : PStore} (h : Inv s) (hlog : s'.pageLenLog2 = s.pageLenLog2)
    (hbuf : s'.buffer = s.buffer) (hpa : ∀ q, s'.pageAt q = s.pageAt q)
    (hrange : (s'.pages.size : Int) ≤ 268435520 ∧ -201326624 ≤ s'.minPageIndex ∧
      s'.minPageIndex + (s'.pages.size : Int) ≤ 201326625) : Inv s' :=
  Inv.of_goodPages (hlog.trans h.log2) (fun q => by rw [hpa q]; exact h.goodPage q)
    ⟨hrange.1, fun _ => hrange.2⟩ (by rw [hbuf]; exact h.bufRange)

/-! ### the invariant in membership form -/

theorem mem_pages_toList (s : PStore) (pg : Array Rat) (hpg : pg ∈ s.pages.toList) :
    ∃ k, k < s.pages.size ∧ pg = s.pages.getD k #[] := by
  obtain ⟨i, hi, rfl⟩ := List.getElem_of_mem hpg
  simp only [Array.length_toList] at hi
  exact ⟨i, hi, by simp [Array.getD_eq_getD_getElem?, hi]⟩

theorem mem_pages_getD (s : PStore) (pg : Array Rat) (hpg : pg ∈ s.pages) :
    ∃ k, k < s.pages.size ∧ pg = s.pages.getD k #[] :=
  mem_pages_toList s pg (by simpa using hpg)

theorem pages_size_le (s : PStore) (h : Inv s) : ∀ pg ∈ s.pages.toList, pg.size ≤ 32 := by
  intro pg hpg
  obtain ⟨k, _, rfl⟩ := mem_pages_toList s pg hpg
  have := h.pageSizes k
  rw [h.pageLen_eq] at this
  omega

theorem Inv.pageSizes_mem {s : PStore} (h : Inv s) : ∀ pg ∈ s.pages, pg.size = 0 ∨ pg.size = s.pageLen := by
  intro pg hpg
  obtain ⟨k, _, rfl⟩ := mem_pages_getD s pg hpg
  exact h.pageSizes k

theorem Inv.sentinel_mem {s : PStore} (h : Inv s) (hs : s.minPageIndex = maxInt) :
    ∀ pg ∈ s.pages, pg.size = 0 := by
  intro pg hpg
  obtain ⟨k, _, rfl⟩ := mem_pages_getD s pg hpg
  exact h.sentinel hs k

theorem Inv.nonneg_mem {s : PStore} (h : Inv s) : ∀ pg ∈ s.pages, ∀ c ∈ pg, 0 ≤ c := by
  intro pg hpg c hc
  obtain ⟨k, _, rfl⟩ := mem_pages_getD s pg hpg
  obtain ⟨l, hl, rfl⟩ := Array.getElem_of_mem hc
  have := h.nonneg k l
  rw [getD_of_lt _ _ hl] at this
  exact this

/-! ### lines and weights under the invariant -/

theorem line_nonneg (s : PStore) (h : Inv s) (j : Int) : 0 ≤ s.line j := (h.goodPage _).2 _

theorem wt_pos_iff (s : PStore) (h : Inv s) (j : Int) :
    0 < s.wt j ↔ (0 < s.line j ∨ j ∈ s.buffer) := by
  have h0 := line_nonneg s h j
  have hc : (0 : Rat) ≤ (s.buffer.count j : Rat) := Rat.natCast_nonneg
  unfold wt
  constructor
  · intro hw
    by_cases hm : j ∈ s.buffer
    · exact Or.inr hm
    · rw [List.count_eq_zero_of_not_mem hm, natCast_zero, Rat.add_zero] at hw
      exact Or.inl hw
  · rintro (hw | hw)
    · grind
    · have := Rat.natCast_pos.mpr (List.count_pos_iff.mpr hw); grind

theorem wt_eq_zero (s : PStore) (h : Inv s) (j : Int) (hl : s.line j ≤ 0) (hb : j ∉ s.buffer) :
    s.wt j = 0 := by
  unfold wt
  rw [List.count_eq_zero_of_not_mem hb, natCast_zero, Rat.add_zero]
  exact Rat.le_antisymm hl (line_nonneg s h j)

theorem Inv.idx32_of_wt_pos {s : PStore} (h : Inv s) (j : Int) (hj : 0 < wt s j) : Idx32 j := by
  rcases (wt_pos_iff s h j).1 hj with hl | hb
  · obtain ⟨k, hk, hp⟩ := slot_of_line_pos s j hl
    have hne : (s.pages.getD k #[]).size ≠ 0 := by
      intro h0
      rw [line_of_slot s j k hp, Array.eq_empty_of_size_eq_zero h0] at hl
      simp at hl
    have := h.pageRange k hne
    rw [← hp] at this
    exact idx32_of_pageIdx32 s h.pageLen_eq j this
  · exact h.bufRange j hb

/-! ### the new store -/

theorem pageAt_new (q : Int) : PStore.new.pageAt q = #[] :=
  pageAt_of_allEmpty _ (fun k => by simp [PStore.new]) q

theorem inv_new : Inv PStore.new :=
  Inv.of_goodPages rfl (fun q => by rw [pageAt_new]; exact goodPage_empty q)
    ⟨by decide, fun hc => absurd rfl hc⟩ (fun x hx => nomatch hx)

theorem wt_new (j : Int) : wt PStore.new j = 0 := by
  unfold wt line
  rw [pageAt_new, empty_getD]
  exact Rat.add_zero _

/-! ## `page`: materialising a slot, extending and re-centring the table -/

theorem zeroPage_size (s : PStore) : s.zeroPage.size = s.pageLen := by simp [zeroPage]

theorem zeroPage_getD (s : PStore) (l : Nat) : s.zeroPage.getD l 0 = 0 := by
  simp only [zeroPage, Array.getD_eq_getD_getElem?, Array.getElem?_replicate]; split <;> rfl

theorem materialize_spec (s : PStore) (h : Inv s) (p : Int) (hp : PageIdx32 p) (k : Nat)
    (hk : s.slot? p = some k) :
    Inv (s.materialize k) ∧ (s.materialize k).buffer = s.buffer ∧
      (s.materialize k).slot? p = some k ∧ ((s.materialize k).pageAt p).size = 32 ∧
      ∀ i, (s.materialize k).line i = s.line i := by
  have hg := h.goodPage p
  rw [pageAt_of_slot s p k hk] at hg
  unfold materialize
  split
  · rename_i he
    have hpa := pageAt_setSlot s p k hk s.zeroPage
    refine ⟨h.setSlot p k hk _ ⟨Or.inr ⟨(zeroPage_size s).trans h.pageLen_eq, hp⟩, fun l => ?_⟩, rfl,
      (slot?_setSlot ..).trans hk, ?_, line_congr rfl fun q l => ?_⟩
    · rw [zeroPage_getD]; exact Rat.le_refl
    · rw [hpa, if_pos rfl, zeroPage_size, h.pageLen_eq]
    · rw [hpa]; split
      · rename_i e
        rw [zeroPage_getD, e, pageAt_of_slot s p k hk, Array.eq_empty_of_size_eq_zero he, empty_getD]
      · rfl
  · rename_i he
    refine ⟨h, rfl, hk, ?_, fun i => rfl⟩
    rw [pageAt_of_slot s p k hk]
    rcases hg.1 with h0 | h0
    · exact absurd h0 he
    · exact h0.1

theorem newPagesLen_bounds (r : Int) : r ≤ newPagesLen r ∧ newPagesLen r ≤ r + 7 := by
  unfold newPagesLen; omega

/-- the page-table extension performed by `page` when the slot is outside the table -/
def extend (s : PStore) (p : Int) : Option PStore :=
  if p < s.minPageIndex then
    if s.minPageIndex = maxInt then
      let s := if s.pages.size = 0 then { s with pages := Array.replicate (newPagesLen 1).toNat #[] } else s
      some { s with minPageIndex := p - Int.tdiv (s.pages.size : Int) 2 }
    else
      let newLen := newPagesLen (s.minPageIndex - p + 1 + (s.pages.size : Int))
      let addedLen := newLen - (s.pages.size : Int)
      if addedLen < 0 then none
      else some { s with pages := Array.replicate addedLen.toNat #[] ++ s.pages,
                         minPageIndex := s.minPageIndex - addedLen }
  else
    let added := newPagesLen (p - s.minPageIndex + 1) - (s.pages.size : Int)
    if added < 0 then none else some { s with pages := s.pages ++ Array.replicate added.toNat #[] }

theorem page_of_slot_none (s : PStore) (p : Int) (h : s.slot? p = none) :
    s.page p true = match extend s p with
      | none => none
      | some s =>
        let k := p - s.minPageIndex
        if 0 ≤ k ∧ k < (s.pages.size : Int) then some (s.materialize k.toNat, some k.toNat) else none := by
  unfold page; rw [h]; rfl

theorem page_of_slot_some (s : PStore) (p : Int) (k : Nat) (h : s.slot? p = some k) (ensure : Bool) :
    s.page p ensure = some (if ensure then s.materialize k else s,
      if ((if ensure then s.materialize k else s).pages.getD k #[]).size = 0 then none else some k) := by
  unfold page; rw [h]

/-- a table of `n` empty slots re-centred on page `p` -/
theorem recentre_range (p : Int) (n : Nat) (hp : PageIdx32 p) (h1 : 1 ≤ n) (hn : (n : Int) ≤ 268435520) :
    -201326624 ≤ p - Int.tdiv n 2 ∧ p - Int.tdiv n 2 + n ≤ 201326625 ∧
      p - Int.tdiv n 2 ≤ p ∧ p < p - Int.tdiv n 2 + n := by
  rw [Int.tdiv_eq_ediv_of_nonneg (Int.natCast_nonneg n)]
  unfold PageIdx32 at hp; omega

/-- `extend` succeeds, moves no page, and brings `p` inside the table; this is where the constants of
    `Inv.range` come from -/
theorem extend_spec (s : PStore) (h : Inv s) (p : Int) (hp : PageIdx32 p) (hs : s.slot? p = none) :
    ∃ s₁, extend s p = some s₁ ∧ Inv s₁ ∧ s₁.buffer = s.buffer ∧ (∀ q, s₁.pageAt q = s.pageAt q) ∧
      s₁.minPageIndex ≤ p ∧ p < s₁.minPageIndex + (s₁.pages.size : Int) := by
  rw [slot?_eq_none] at hs
  have hr := h.range
  have hp' := hp
  unfold PageIdx32 at hp'
  unfold extend
  by_cases hlt : p < s.minPageIndex
  · rw [if_pos hlt]
    by_cases hsen : s.minPageIndex = maxInt
    · -- sentinel state: every page is empty, before and after
      rw [if_pos hsen]
      have hall := h.sentinel hsen
      have fin : ∀ s' : PStore, s'.buffer = s.buffer → s'.pageLenLog2 = s.pageLenLog2 →
          (∀ k, (s'.pages.getD k #[]).size = 0) → 1 ≤ s'.pages.size → (s'.pages.size : Int) ≤ 268435520 →
          ∃ s₁, some { s' with minPageIndex := p - Int.tdiv (s'.pages.size : Int) 2 } = some s₁ ∧ Inv s₁ ∧
            s₁.buffer = s.buffer ∧ (∀ q, s₁.pageAt q = s.pageAt q) ∧
            s₁.minPageIndex ≤ p ∧ p < s₁.minPageIndex + (s₁.pages.size : Int) := by
        intro s' hb hl he h1 hn
        obtain ⟨r1, r2, r3, r4⟩ := recentre_range p s'.pages.size hp h1 hn
        generalize p - Int.tdiv (s'.pages.size : Int) 2 = m at *
        have hpa : ∀ q, pageAt { s' with minPageIndex := m } q = s.pageAt q := fun q =>
          (pageAt_of_allEmpty { s' with minPageIndex := m } he q).trans (pageAt_of_allEmpty s hall q).symm
        exact ⟨_, rfl, h.of_pageAt_eq hl hb hpa ⟨hn, r1, r2⟩, hb, hpa, r3, r4⟩
      by_cases hz : s.pages.size = 0
      · simp only [if_pos hz]
        exact fin { s with pages := Array.replicate (newPagesLen 1).toNat #[] } rfl rfl (fun k => by show ((Array.replicate _ _).getD k #[]).size = 0; rw [getD_replicate_empty]; rfl)
          (by rw [Array.size_replicate]; decide) (by rw [Array.size_replicate]; decide)
      · simp only [if_neg hz]
        exact fin s rfl rfl hall (by omega) hr.1
    · rw [if_neg hsen]
      have hb := newPagesLen_bounds (s.minPageIndex - p + 1 + (s.pages.size : Int))
      have hr2 := hr.2 hsen
      simp only []
      generalize hA : newPagesLen (s.minPageIndex - p + 1 + (s.pages.size : Int)) - (s.pages.size : Int) = A
      have key : 0 ≤ A ∧ A + s.pages.size ≤ 268435520 ∧ -201326624 ≤ s.minPageIndex - A ∧
          s.minPageIndex - A + (A + s.pages.size) ≤ 201326625 ∧ s.minPageIndex - A ≤ p ∧
          p < s.minPageIndex - A + (A + s.pages.size) := by omega
      obtain ⟨a, rfl⟩ := Int.eq_ofNat_of_zero_le key.1
      simp only [Int.toNat_natCast]
      rw [if_neg (Int.not_lt.2 key.1)]
      refine ⟨_, rfl, h.of_pageAt_eq rfl rfl (pageAt_padLeft s a) ?_, rfl, pageAt_padLeft s a, ?_, ?_⟩ <;>
        simp only [Array.size_append, Array.size_replicate, Int.natCast_add]
      · exact ⟨key.2.1, key.2.2.1, key.2.2.2.1⟩
      · exact key.2.2.2.2.1
      · exact key.2.2.2.2.2
  · rw [if_neg hlt]
    have hb := newPagesLen_bounds (p - s.minPageIndex + 1)
    have hr2 := hr.2 (by unfold maxInt; omega)
    simp only []
    generalize hA : newPagesLen (p - s.minPageIndex + 1) - (s.pages.size : Int) = A
    have key : 0 ≤ A ∧ s.pages.size + A ≤ 268435520 ∧ 
          s.minPageIndex + (s.pages.size + A) ≤ 201326625 ∧ p < s.minPageIndex + (s.pages.size + A) := by omega
    obtain ⟨a, rfl⟩ := Int.eq_ofNat_of_zero_le key.1
    rw [if_neg (Int.not_lt.2 key.1)]
    refine ⟨_, rfl, h.of_pageAt_eq rfl rfl (pageAt_padRight s _) ?_, rfl, pageAt_padRight s _, ?_, ?_⟩ <;>
      simp only [Array.size_append, Array.size_replicate, Int.natCast_add, Int.toNat_natCast]
    · exact ⟨key.2.1, hr2.1, key.2.2.1⟩
    · exact Int.not_lt.1 hlt
    · exact key.2.2.2

/-- `page` at the level of lines: succeeds, moves no weight; a returned slot is the slot of `p` and holds
    a full-size page; with `ensureExists` a slot is returned -/
theorem page_line (s : PStore) (h : Inv s) (p : Int) (hp : PageIdx32 p) (ensure : Bool) :
    ∃ s' k?, s.page p ensure = some (s', k?) ∧ Inv s' ∧ s'.buffer = s.buffer ∧
      (∀ i, s'.line i = s.line i) ∧
      (∀ k, k? = some k → s'.slot? p = some k ∧ (s'.pageAt p).size = 32) ∧
      (ensure = true → k?.isSome = true) := by
  cases hs : s.slot? p with
  | some k =>
    have key : ∀ s₁ : PStore, Inv s₁ → s₁.slot? p = some k → (ensure = true → (s₁.pageAt p).size = 32) →
        (∀ k', (if (s₁.pages.getD k #[]).size = 0 then none else some k) = some k' →
          s₁.slot? p = some k' ∧ (s₁.pageAt p).size = 32) ∧
        (ensure = true → (if (s₁.pages.getD k #[]).size = 0 then none else some k).isSome = true) := by
      intro s₁ h₁ hk he
      rw [← pageAt_of_slot s₁ p k hk]
      constructor
      · intro k' hk'
        split at hk'
        · cases hk'
        · rename_i hne
          cases hk'
          rcases (h₁.goodPage p).1 with h0 | h0
          · exact absurd h0 hne
          · exact ⟨hk, h0.1⟩
      · intro ht
        rw [if_neg (by rw [he ht]; decide)]; rfl
    rw [page_of_slot_some s p k hs]
    cases ensure with
    | false =>
      obtain ⟨k1, k2⟩ := key s h hs (fun e => by cases e)
      rw [if_neg Bool.false_ne_true]
      exact ⟨_, _, rfl, h, rfl, fun i => rfl, k1, k2⟩
    | true =>
      obtain ⟨hI, hb, hsl, hsz, hln⟩ := materialize_spec s h p hp k hs
      obtain ⟨k1, k2⟩ := key _ hI hsl (fun _ => hsz)
      rw [if_pos rfl]
      exact ⟨_, _, rfl, hI, hb, hln, k1, k2⟩
  | none =>
    cases ensure with
    | false =>
      refine ⟨s, none, ?_, h, rfl, fun i => rfl, fun k hk => (by cases hk), fun e => (by cases e)⟩
      unfold page; rw [hs]; rfl
    | true =>
      obtain ⟨s₁, he, hI₁, hb₁, hpa₁, hlo, hhi⟩ := extend_spec s h p hp hs
      have hs₁ : s₁.slot? p = some (p - s₁.minPageIndex).toNat := (slot?_eq_some ..).2 ⟨hlo, hhi, rfl⟩
      obtain ⟨hI, hb, hsl, hsz, hln⟩ := materialize_spec s₁ hI₁ p hp _ hs₁
      refine ⟨_, some (p - s₁.minPageIndex).toNat, ?_, hI, hb.trans hb₁, fun i => ?_, fun k hk => ?_, fun _ => rfl⟩
      · rw [page_of_slot_none s p hs, he]
        simp only []
        rw [if_pos (by omega)]
      · rw [hln, line_congr (h.log2_eq hI₁) (fun q l => by rw [hpa₁])]
      · cases hk; exact ⟨hsl, hsz⟩

/-- `page`: succeeds, keeps the invariant and every weight; with `ensureExists` the returned slot
    addresses a full-size page. -/
theorem page_spec (s : PStore) (h : Inv s) (p : Int) (hp : PageIdx32 p) (ensure : Bool) :
    ∃ s' k?, s.page p ensure = some (s', k?) ∧ Inv s' ∧ (∀ i, wt s' i = wt s i) ∧
      (ensure = true → ∃ k, k? = some k ∧ s'.slot? p = some k ∧
        (s'.pages.getD k #[]).size = s'.pageLen) := by
  obtain ⟨s', k?, h1, h2, hb, hln, hk, he⟩ := page_line s h p hp ensure
  refine ⟨s', k?, h1, h2, wt_of_line s s' hb hln, fun e => ?_⟩
  cases k? with
  | none => cases he e
  | some k =>
    obtain ⟨hsl, hsz⟩ := hk k rfl
    exact ⟨k, rfl, hsl, by rw [← pageAt_of_slot s' p k hsl, hsz, h2.pageLen_eq]⟩

/-! ## adding: on a page line, through the buffer, compaction -/

theorem addAtPage_line (s : PStore) (h : Inv s) (p : Int) (k : Nat) (hk : s.slot? p = some k)
    (hne : (s.pageAt p).size ≠ 0) (l : Nat) (hl : l < 32) (c : Rat) (hc : 0 ≤ c) :
    ∃ s', s.addAtPage k l c = some s' ∧ Inv s' ∧ s'.buffer = s.buffer ∧ (∀ q, s'.slot? q = s.slot? q) ∧
      (∀ q, (s'.pageAt q).size = (s.pageAt q).size) ∧
      ∀ j, s'.line j = s.line j + if j = s.index p l then c else 0 := by
  have hg := h.goodPage p
  have hsz : (s.pageAt p).size = 32 := by
    rcases hg.1 with h0 | h0
    · exact absurd h0 hne
    · exact h0.1
  rw [pageAt_of_slot s p k hk] at hg hsz
  have hpa := pageAt_setSlot s p k hk
    ((s.pages.getD k #[]).setIfInBounds l ((s.pages.getD k #[]).getD l 0 + c))
  refine ⟨_, ?_, h.setSlot p k hk _ (hg.set l _ (Rat.add_nonneg (hg.2 l) hc)), rfl,
    fun q => slot?_setSlot .., fun q => ?_, fun j => ?_⟩
  · unfold addAtPage
    simp only []
    rw [if_pos ⟨slot?_lt s p k hk, by omega⟩]
  · rw [hpa]; split
    · rename_i e; rw [e, Array.size_setIfInBounds, pageAt_of_slot s p k hk]
    · rfl
  · unfold line
    show (pageAt _ (s.pageIndex j)).getD (s.lineIndex j) 0 = _
    have hj := index_eq_iff s p l (by rw [h.pageLen_eq]; exact hl) j
    rw [hpa]
    by_cases hp : s.pageIndex j = p
    · rw [if_pos hp, getD_setIfInBounds, hp, pageAt_of_slot s p k hk]
      by_cases hli : s.lineIndex j = l
      · rw [if_pos ⟨hli, by omega⟩, if_pos (hj.2 ⟨hp, hli⟩).symm, hli]
      · rw [if_neg (fun e => hli e.1), if_neg (fun e => hli (hj.1 e.symm).2), Rat.add_zero]
    · rw [if_neg hp, if_neg (fun e => hp (hj.1 e.symm).1), Rat.add_zero]

/-- `addAtPage` on the slot of a materialised page: exactly one line changes, by `c` -/
theorem addAtPage_spec (s : PStore) (h : Inv s) (i : Int) (k : Nat)
    (hk : s.slot? (s.pageIndex i) = some k) (hne : (s.pages.getD k #[]).size ≠ 0)
    (c : Rat) (hc : 0 ≤ c) :
    ∃ s', s.addAtPage k (s.lineIndex i) c = some s' ∧ Inv s' ∧
      ∀ j, wt s' j = wt s j + if j = i then c else 0 := by
  rw [← pageAt_of_slot s _ k hk] at hne
  obtain ⟨s', h1, h2, hb, _, _, hline⟩ :=
    addAtPage_line s h _ k hk hne _ (h.split i).2 c hc
  refine ⟨s', h1, h2, fun j => ?_⟩
  rw [index_page_line] at hline
  unfold wt; rw [hb, hline]; simp only [Rat.add_comm, Rat.add_left_comm]

theorem spanPage_cons_pos (s : PStore) (p x : Int) (xs : List Int) (h : s.pageIndex x = p) :
    s.spanPage p (x :: xs) = (x :: (s.spanPage p xs).1, (s.spanPage p xs).2) := by
  rw [spanPage, if_pos h]

theorem spanPage_cons_neg (s : PStore) (p x : Int) (xs : List Int) (h : ¬ s.pageIndex x = p) :
    s.spanPage p (x :: xs) = ([], x :: xs) := by
  rw [spanPage, if_neg h]

theorem spanPage_append (s : PStore) (p : Int) (l : List Int) :
    (spanPage s p l).1 ++ (spanPage s p l).2 = l := by
  induction l with
  | nil => simp [spanPage]
  | cons x xs ih =>
    unfold spanPage
    split
    · simp only [List.cons_append, ih]
    · simp

theorem spanPage_fst_page (s : PStore) (p : Int) (l : List Int) :
    ∀ x ∈ (spanPage s p l).1, s.pageIndex x = p := by
  induction l with
  | nil => simp [spanPage]
  | cons x xs ih =>
    unfold spanPage
    split
    · rename_i hx
      intro y hy
      rcases List.mem_cons.1 hy with rfl | hy
      · exact hx
      · exact ih y hy
    · simp

theorem spanPage_snd_length (s : PStore) (x : Int) (xs : List Int) :
    (spanPage s (s.pageIndex x) (x :: xs)).2.length ≤ xs.length := by
  unfold spanPage
  rw [if_pos rfl]
  exact spanPage_length s _ xs

theorem foldAdd_spec (grp : List Int) (s : PStore) (h : Inv s) (p : Int) (k : Nat)
    (hk : s.slot? p = some k) (hne : (s.pageAt p).size ≠ 0) (hg : ∀ x ∈ grp, s.pageIndex x = p) :
    ∃ s', grp.foldlM (fun acc i => addAtPage acc k (acc.lineIndex i) 1) s = some s' ∧ Inv s' ∧
      ∀ j, s'.line j = s.line j + (grp.count j : Rat) := by
  induction grp generalizing s with
  | nil => exact ⟨s, rfl, h, fun j => (Rat.add_zero _).symm⟩
  | cons x xs ih =>
    obtain ⟨s₁, h1, hI₁, _, hsl₁, hsz₁, hline₁⟩ :=
      addAtPage_line s h p k hk hne _ (h.split x).2 1 (by decide)
    rw [← hg x (List.mem_cons_self ..), index_page_line] at hline₁
    obtain ⟨s', h2, hI, hline⟩ := ih s₁ hI₁ ((hsl₁ p).trans hk) (by rw [hsz₁]; exact hne)
      (fun y hy => by rw [pageIndex_congr (h.log2_eq hI₁)]; exact hg y (List.mem_cons_of_mem _ hy))
    refine ⟨s', ?_, hI, fun j => ?_⟩
    · simp only [List.foldlM_cons, h1]; exact h2
    · rw [hline, hline₁, count_cons_cast, Rat.add_assoc]

/-- the loop of `compact`: every entry ends on its page line or among the kept ones -/
theorem compactLoop_spec (fuel : Nat) : ∀ (l kept : List Int) (s : PStore), Inv s →
    (∀ x ∈ l, Idx32 x) → l.length < fuel →
    ∃ s' kept', compactLoop s fuel l kept = some (s', kept') ∧ Inv s' ∧
      (∀ j, s'.line j + (kept'.count j : Rat) = s.line j + (l.count j : Rat) + (kept.count j : Rat)) ∧
      (∀ x ∈ kept', x ∈ l ∨ x ∈ kept) := by
  induction fuel with
  | zero => intro l kept s _ _ hlen; omega
  | succ fuel ih =>
    intro l kept s h hl hlen
    cases l with
    | nil =>
      refine ⟨s, kept.reverse, by simp [compactLoop], h, fun j => ?_, fun x hx => Or.inr (List.mem_reverse.1 hx)⟩
      rw [List.count_reverse, List.count_nil, natCast_zero, Rat.add_zero]
    | cons x xs =>
      rcases hsp : spanPage s (s.pageIndex x) (x :: xs) with ⟨grp, rest⟩
      have happ := spanPage_append s (s.pageIndex x) (x :: xs)
      have hpg := spanPage_fst_page s (s.pageIndex x) (x :: xs)
      have hrl := spanPage_snd_length s x xs
      rw [hsp] at happ hpg hrl
      simp only [] at happ hpg hrl
      have hcount : ∀ j, ((x :: xs).count j : Rat) = (grp.count j : Rat) + (rest.count j : Rat) := by
        intro j; rw [← happ, List.count_append, Rat.natCast_add]
      have hmem : ∀ y, y ∈ grp ∨ y ∈ rest → y ∈ x :: xs := by
        intro y hy; rw [← happ]; exact List.mem_append.2 hy
      obtain ⟨s₁, k?, hpage, hI₁, _, hline₁, hk₁, _⟩ :=
        page_line s h (s.pageIndex x) (pageIdx32_of_idx32 s h.pageLen_eq x (hl x (List.mem_cons_self ..)))
          (decide (grp.length * 64 ≥ s.pageLen * 64))
      have hl' : ∀ y ∈ rest, Idx32 y := fun y hy => hl y (hmem y (Or.inr hy))
      have hlen' : rest.length < fuel := by simp only [List.length_cons] at hlen; omega
      rw [compactLoop]
      simp only [hsp, hpage]
      cases k? with
      | some k =>
        obtain ⟨hsl, hsz⟩ := hk₁ k rfl
        obtain ⟨s₂, hfold, hI₂, hline₂⟩ := foldAdd_spec grp s₁ hI₁ (s.pageIndex x) k hsl
          (by rw [hsz]; decide) (fun y hy => by rw [pageIndex_congr (h.log2_eq hI₁)]; exact hpg y hy)
        simp only [hfold]
        obtain ⟨s', kept', h1, hI, hcnt, hm⟩ := ih rest kept s₂ hI₂ hl' hlen'
        refine ⟨s', kept', h1, hI, fun j => ?_, fun y hy => ?_⟩
        · rw [hcnt, hline₂, hline₁, hcount]; simp only [Rat.add_assoc]
        · rcases hm y hy with h3 | h3
          · exact Or.inl (hmem y (Or.inr h3))
          · exact Or.inr h3
      | none =>
        simp only []
        obtain ⟨s', kept', h1, hI, hcnt, hm⟩ := ih rest (grp.reverse ++ kept) s₁ hI₁ hl' hlen'
        refine ⟨s', kept', h1, hI, fun j => ?_, fun y hy => ?_⟩
        · rw [hcnt, hline₁, hcount, List.count_append, List.count_reverse, Rat.natCast_add]
          simp only [Rat.add_assoc, Rat.add_comm]
        · rcases hm y hy with h3 | h3
          · exact Or.inl (hmem y (Or.inr h3))
          · rcases List.mem_append.1 h3 with h4 | h4
            · exact Or.inl (hmem y (Or.inl (List.mem_reverse.1 h4)))
            · exact Or.inr h4

/-- compaction never drops or duplicates an index -/
theorem compact_ok (s : PStore) (h : Inv s) :
    ∃ s', s.compact = some s' ∧ Inv s' ∧ ∀ i, wt s' i = wt s i := by
  obtain ⟨s₁, kept, h1, hI, hcnt, hm⟩ :=
    compactLoop_spec ((sortInts s.buffer).length + 1) (sortInts s.buffer) [] s h
      (fun x hx => h.bufRange x ((mem_sortInts _ _).1 hx)) (Nat.lt_succ_self _)
  have hm' : ∀ x ∈ kept, x ∈ s.buffer := fun x hx =>
    (mem_sortInts _ _).1 ((hm x hx).resolve_right List.not_mem_nil)
  refine ⟨{ s₁ with buffer := kept, trigger := kept.length + s₁.pageLen }, ?_,
    inv_with_buffer s₁ hI kept _ (fun x hx => h.bufRange x (hm' x hx)), fun i => ?_⟩
  · unfold compact
    simp only [h1, Option.bind_eq_bind, Option.bind_some, Option.pure_def]
  · exact (hcnt i).trans (by rw [count_sortInts, List.count_nil, natCast_zero, Rat.add_zero]; rfl)

theorem addUnit_ok (s : PStore) (h : Inv s) (i : Int) (hi : Idx32 i) (b : Bool) :
    ∃ s', s.addUnit i b = some s' ∧ Inv s' ∧ ∀ j, wt s' j = wt s j + if j = i then 1 else 0 := by
  -- the buffered path: compaction, if it runs, changes no weight
  have buffered : ∃ s', (do
        let s ← if b = true ∧ s.buffer.length ≥ s.trigger then s.compact else pure s
        pure { s with buffer := s.buffer ++ [i] }) = some s' ∧ Inv s' ∧
      ∀ j, wt s' j = wt s j + if j = i then 1 else 0 := by
    by_cases hc : (b = true ∧ s.buffer.length ≥ s.trigger)
    · obtain ⟨s₁, h1, hI, h3⟩ := compact_ok s h
      exact ⟨_, by simp [hc, h1], inv_append_buffer s₁ hI i hi, fun j => by rw [wt_append_buffer, h3]⟩
    · exact ⟨_, by simp [hc], inv_append_buffer s h i hi, fun j => wt_append_buffer s i j⟩
  unfold addUnit
  cases hs : s.slot? (s.pageIndex i) with
  | none => exact buffered
  | some k =>
    simp only []
    by_cases hpos : (s.pages.getD k #[]).size > 0
    · rw [if_pos hpos]
      exact addAtPage_spec s h i k hs (by omega) 1 (by decide)
    · rw [if_neg hpos]
      exact buffered

theorem addWithCount_ok (s : PStore) (h : Inv s) (i : Int) (hi : Idx32 i) (w : Rat) (hw : 0 ≤ w)
    (b : Bool) :
    ∃ s', s.addWithCount i w b = some s' ∧ Inv s' ∧
      ∀ j, wt s' j = wt s j + if j = i then w else 0 := by
  unfold addWithCount
  split
  · rename_i h0
    exact ⟨s, rfl, h, fun j => by rw [h0, ite_self, Rat.add_zero]⟩
  · split
    · rename_i h1
      rw [h1]; exact addUnit_ok s h i hi b
    · obtain ⟨s₁, k?, hpage, hI₁, hwt₁, hk₁⟩ :=
        page_spec s h (s.pageIndex i) (pageIdx32_of_idx32 s h.pageLen_eq i hi) true
      obtain ⟨k, rfl, hslot, hsz⟩ := hk₁ rfl
      rw [← pageIndex_congr (h.log2_eq hI₁)] at hslot
      obtain ⟨s', h1, hI, hwt⟩ := addAtPage_spec s₁ hI₁ i k hslot
        (by rw [hsz, hI₁.pageLen_eq]; decide) w hw
      refine ⟨s', ?_, hI, fun j => by rw [hwt, hwt₁]⟩
      simp only [hpage, Option.bind_eq_bind, Option.bind_some]
      exact h1

theorem foldAddUnit_ok (l : List Int) (hl : ∀ x ∈ l, Idx32 x) (s : PStore) (h : Inv s) :
    ∃ s', l.foldlM (fun acc i => acc.addUnit i true) s = some s' ∧ Inv s' ∧
      ∀ j, wt s' j = wt s j + (l.count j : Rat) := by
  induction l generalizing s with
  | nil => exact ⟨s, rfl, h, fun j => (Rat.add_zero _).symm⟩
  | cons x xs ih =>
    obtain ⟨s₁, h1, hI₁, hw₁⟩ := addUnit_ok s h x (hl x (List.mem_cons_self ..)) true
    obtain ⟨s', h2, hI, hw⟩ := ih (fun y hy => hl y (List.mem_cons_of_mem _ hy)) s₁ hI₁
    refine ⟨s', ?_, hI, fun j => by rw [hw, hw₁, count_cons_cast, Rat.add_assoc]⟩
    simp only [List.foldlM_cons, h1]; exact h2

/-! ## `Clear`, reads that sort the buffer -/

/-- `Clear`: retained page slots are emptied; the stale trigger is harmless -/
theorem clear_spec (s : PStore) (h : Inv s) : Inv s.clear ∧ ∀ j, wt s.clear j = 0 := by
  have hpa : ∀ q, s.clear.pageAt q = #[] := pageAt_of_allEmpty _ fun k => by
    show ((s.pages.map _).getD k #[]).size = 0
    rw [getD_map_const_empty]; rfl
  refine ⟨Inv.of_goodPages h.log2 (fun q => by rw [hpa]; exact goodPage_empty q)
    ⟨?_, fun hc => absurd rfl hc⟩ (fun x hx => nomatch hx), fun j => ?_⟩
  · have := h.range.1
    simpa [clear] using this
  · unfold wt line
    rw [hpa, empty_getD]
    exact Rat.add_zero _

/-- a read that sorts the buffer in place (`Bins`, `ForEach`, `KeyAtRank`, serialisation) -/
def sortRead (s : PStore) : PStore := { s with buffer := sortInts s.buffer }

theorem sortRead_spec (s : PStore) (h : Inv s) : Inv s.sortRead ∧ ∀ j, wt s.sortRead j = wt s j :=
  ⟨inv_with_buffer s h _ s.trigger (fun x hx => h.bufRange x ((mem_sortInts _ _).1 hx)),
    fun j => congrArg (fun n : Nat => s.line j + (n : Rat)) (count_sortInts s.buffer j)⟩

/-! ## the lines of pages, listed -/

/-- the lines of one page, from line number `m` on -/
def linesOf (s : PStore) (p : Int) (ys : List Rat) (m : Nat) : List (Int × Rat) :=
  (ys.zipIdx m).map fun (c, l) => (s.index p l, c)

/-- the lines of a list of pages, the first one sitting at offset `n` -/
def linesFrom (s : PStore) (xs : List (Array Rat)) (n : Nat) : List (Int × Rat) :=
  (xs.zipIdx n).flatMap fun (pg, off) => linesOf s (s.minPageIndex + (off : Int)) pg.toList 0

theorem pageLines_eq (s : PStore) : s.pageLines = linesFrom s s.pages.toList 0 := rfl

theorem linesOf_nil (s : PStore) (p : Int) (m : Nat) : linesOf s p [] m = [] := rfl

theorem linesOf_cons (s : PStore) (p : Int) (y : Rat) (ys : List Rat) (m : Nat) :
    linesOf s p (y :: ys) m = (s.index p m, y) :: linesOf s p ys (m + 1) := by
  simp [linesOf, List.zipIdx_cons]

theorem linesFrom_nil (s : PStore) (n : Nat) : linesFrom s [] n = [] := rfl

theorem linesFrom_cons (s : PStore) (pg : Array Rat) (xs : List (Array Rat)) (n : Nat) :
    linesFrom s (pg :: xs) n =
      linesOf s (s.minPageIndex + (n : Int)) pg.toList 0 ++ linesFrom s xs (n + 1) := by
  simp [linesFrom, List.zipIdx_cons]

theorem mem_linesOf (s : PStore) (p : Int) (ys : List Rat) (m : Nat) (q : Int × Rat)
    (hq : q ∈ linesOf s p ys m) :
    ∃ l, m ≤ l ∧ l < m + ys.length ∧ q.1 = s.index p l ∧ q.2 ∈ ys := by
  obtain ⟨⟨c, l⟩, hcl, rfl⟩ := List.mem_map.1 hq
  obtain ⟨h1, h2, h3⟩ := List.mem_zipIdx hcl
  exact ⟨l, h1, h2, rfl, h3 ▸ List.getElem_mem _⟩

theorem linesOf_pairwise (s : PStore) (hL : s.pageLen = 32) (p : Int) (ys : List Rat) (m : Nat)
    (hm : m + ys.length ≤ 32) : (linesOf s p ys m).Pairwise (fun a b => a.1 < b.1) := by
  induction ys generalizing m with
  | nil => simp [linesOf_nil]
  | cons y ys ih =>
    simp only [List.length_cons] at hm
    rw [linesOf_cons, List.pairwise_cons]
    refine ⟨?_, ih (m + 1) (by omega)⟩
    intro q hq
    obtain ⟨l, h1, h2, h3, _⟩ := mem_linesOf s p ys (m + 1) q hq
    rw [h3]
    exact index_lt_index s hL p p m l (by omega) (Or.inr ⟨rfl, by omega⟩)

theorem total_linesOf (s : PStore) (p : Int) (ys : List Rat) (m : Nat) (a : Rat) :
    ys.foldl (· + ·) a = a + Content.total (linesOf s p ys m) := by
  induction ys generalizing m a with
  | nil => simp [linesOf_nil, Rat.add_zero]
  | cons y ys ih =>
    rw [linesOf_cons, List.foldl_cons, ih (m + 1), Content.total_cons, Rat.add_assoc]

theorem mem_linesFrom (s : PStore) (xs : List (Array Rat)) (n : Nat) (q : Int × Rat)
    (hq : q ∈ linesFrom s xs n) :
    ∃ off l pg, n ≤ off ∧ pg ∈ xs ∧ l < pg.size ∧ q.1 = s.index (s.minPageIndex + (off : Int)) l ∧
      q.2 ∈ pg.toList := by
  obtain ⟨⟨pg, off⟩, hpo, hq⟩ := List.mem_flatMap.1 hq
  obtain ⟨h1, _, h3⟩ := List.mem_zipIdx hpo
  obtain ⟨l, _, h5, h6, h7⟩ := mem_linesOf s _ _ 0 q hq
  exact ⟨off, l, pg, h1, h3 ▸ List.getElem_mem _, by simpa using h5, h6, h7⟩

theorem linesFrom_pairwise (s : PStore) (hL : s.pageLen = 32) (xs : List (Array Rat)) (n : Nat)
    (hsz : ∀ pg ∈ xs, pg.size ≤ 32) : (linesFrom s xs n).Pairwise (fun a b => a.1 < b.1) := by
  induction xs generalizing n with
  | nil => simp [linesFrom_nil]
  | cons pg xs ih =>
    have h0 := hsz pg (List.mem_cons_self ..)
    have hsz' : ∀ pg ∈ xs, pg.size ≤ 32 := fun p hp => hsz p (List.mem_cons_of_mem _ hp)
    rw [linesFrom_cons, List.pairwise_append]
    refine ⟨linesOf_pairwise s hL _ _ 0 (by simpa using h0), ih (n + 1) hsz', ?_⟩
    intro a ha b hb
    obtain ⟨l, _, h2, h3, _⟩ := mem_linesOf s _ _ 0 a ha
    obtain ⟨off, l', pg', h1', _, _, h4', _⟩ := mem_linesFrom s xs (n + 1) b hb
    rw [h3, h4']
    simp only [Array.length_toList] at h2
    exact index_lt_index s hL _ _ l l' (by omega) (Or.inl (by omega))

theorem total_linesFrom (s : PStore) (xs : List (Array Rat)) (n : Nat) (a : Rat) :
    xs.foldl (fun acc pg => pg.foldl (· + ·) acc) a = a + Content.total (linesFrom s xs n) := by
  induction xs generalizing n a with
  | nil => simp [linesFrom_nil, Rat.add_zero]
  | cons pg xs ih =>
    rw [linesFrom_cons, List.foldl_cons, ih (n + 1), Content.total_append, ← Array.foldl_toList,
      total_linesOf s (s.minPageIndex + (n : Int)) pg.toList 0, Rat.add_assoc]

theorem pageLines_pairwise (s : PStore) (h : Inv s) :
    s.pageLines.Pairwise (fun a b => a.1 < b.1) :=
  linesFrom_pairwise s h.pageLen_eq _ 0 (pages_size_le s h)

theorem mem_pageLines {s : PStore} {q : Int × Rat} :
    q ∈ s.pageLines ↔ ∃ k l, l < (s.pages.getD k #[]).size ∧
      q = (s.index (s.minPageIndex + (k : Int)) l, (s.pages.getD k #[]).getD l 0) := by
  simp only [pageLines, List.mem_flatMap, List.mem_map, Prod.exists, List.mk_mem_zipIdx_iff_getElem?,
    Array.getElem?_toList]
  constructor
  · rintro ⟨pg, k, hk, c, l, hl, rfl⟩
    have hl' := (Array.getElem?_eq_some_iff.1 hl).1
    exact ⟨k, l, by simpa [Array.getD_eq_getD_getElem?, hk] using hl',
      by simp [Array.getD_eq_getD_getElem?, hk, hl]⟩
  · rintro ⟨k, l, hl, rfl⟩
    have hk : k < s.pages.size := Nat.not_le.1 fun hge => by rw [getD_pages_oob _ _ hge] at hl; cases hl
    have hl' : l < s.pages[k].size := by simpa [Array.getD_eq_getD_getElem?, hk] using hl
    exact ⟨_, k, Array.getElem?_eq_getElem hk, _, l, Array.getElem?_eq_getElem hl',
      by simp [Array.getD_eq_getD_getElem?, hk, hl']⟩

theorem pageLines_nonneg (s : PStore) (h : Inv s) : ∀ q ∈ s.pageLines, 0 ≤ q.2 := by
  intro q hq
  obtain ⟨k, l, _, rfl⟩ := mem_pageLines.1 hq
  exact h.nonneg k l

/-- the page lines are sorted by index, so the weight listed at `j` is its cell, if it has one -/
theorem lookup_pageLines (s : PStore) (h : Inv s) (j : Int) : Content.lookup s.pageLines j = s.line j := by
  by_cases hc : ∃ k : Nat, s.pageIndex j = s.minPageIndex + (k : Int) ∧ s.lineIndex j < (s.pages.getD k #[]).size
  · obtain ⟨k, hp, hl⟩ := hc
    have := Content.lookup_of_mem_sorted _ ((Content.sorted_iff_pairwise _).2 (pageLines_pairwise s h)) _
      (mem_pageLines.2 ⟨k, _, hl, rfl⟩)
    rwa [← hp, index_page_line, ← line_of_slot s j k hp] at this
  · -- no cell at `j`: no listed line has this index, and the line reads 0
    have hno : ∀ q ∈ s.pageLines, q.1 ≠ j := fun q hq e => by
      obtain ⟨k, l, hl, rfl⟩ := mem_pageLines.1 hq
      have hl' : l < s.pageLen := by rcases h.pageSizes k with h0 | h0 <;> omega
      obtain ⟨e1, e2⟩ := (index_eq_iff s _ l hl' j).1 e
      exact hc ⟨k, e1, e2 ▸ hl⟩
    rw [Content.lookup_eq_zero_of_not_mem _ _ hno]
    refine (Rat.le_antisymm (Rat.not_lt.1 fun hpos => ?_) (line_nonneg s h j)).symm
    obtain ⟨k, _, hp⟩ := slot_of_line_pos s j hpos
    rw [line_of_slot s j k hp] at hpos
    exact hc ⟨k, hp, Nat.not_le.1 fun hge => by rw [getD_of_ge _ _ (by omega)] at hpos; exact Rat.lt_irrefl hpos⟩

/-! ## same-kind `MergeWith`: page by page, then the buffer -/

theorem foldAddLines_spec (xs : List Rat) : ∀ (n : Nat) (s : PStore), Inv s → ∀ (p : Int) (k : Nat),
    s.slot? p = some k → (s.pageAt p).size ≠ 0 → (∀ c ∈ xs, 0 ≤ c) → n + xs.length ≤ 32 →
    ∃ s', (xs.zipIdx n).foldlM (fun (a : PStore) (cl : Rat × Nat) => addAtPage a k cl.2 cl.1) s = some s' ∧
      Inv s' ∧ s'.buffer = s.buffer ∧ ∀ j, s'.line j = s.line j + Content.lookup (linesOf s p xs n) j := by
  induction xs with
  | nil => exact fun n s h p k _ _ _ _ => ⟨s, rfl, h, rfl, fun j => (Rat.add_zero _).symm⟩
  | cons x xs ih =>
    intro n s h p k hk hne hx hn
    simp only [List.length_cons] at hn
    obtain ⟨s₁, h1, hI₁, hb₁, hsl₁, hsz₁, hline₁⟩ :=
      addAtPage_line s h p k hk hne n (by omega) x (hx x (List.mem_cons_self ..))
    obtain ⟨s', h2, hI, hb, hline⟩ := ih (n + 1) s₁ hI₁ p k ((hsl₁ p).trans hk)
      (by rw [hsz₁]; exact hne) (fun c hc => hx c (List.mem_cons_of_mem _ hc)) (by omega)
    refine ⟨s', ?_, hI, hb.trans hb₁, fun j => ?_⟩
    · simp only [List.zipIdx_cons, List.foldlM_cons, h1]; exact h2
    · rw [hline, hline₁, linesOf_cons, Content.lookup_cons, Rat.add_assoc,
        show linesOf s₁ p xs (n + 1) = linesOf s p xs (n + 1) by
          unfold linesOf; simp only [index_congr (h.log2_eq hI₁)]]
      simp only [eq_comm]

/-- loop body of the page-merging phase of `mergeSame` -/
def mergePageBody (om : Int) (acc : PStore) (pgoff : Array Rat × Nat) : Option PStore := do
  let (pg, off) := pgoff
  if pg.size = 0 then pure acc
  else
    let (acc, k?) ← acc.page (om + (off : Int)) true
    let k ← k?
    (pg.toList.zipIdx).foldlM (fun (a : PStore) (cl : Rat × Nat) => addAtPage a k cl.2 cl.1) acc

theorem mergeSame_eq (s o : PStore) :
    s.mergeSame o = (do
      let s ← (o.pages.toList.zipIdx).foldlM (mergePageBody o.minPageIndex) s
      o.buffer.foldlM (fun acc i => acc.addUnit i true) s) := rfl

theorem foldMergePages_lines (o : PStore) (xs : List (Array Rat)) : ∀ (n : Nat) (s : PStore), Inv s →
    o.pageLenLog2 = s.pageLenLog2 →
    (∀ m : Nat, GoodPage (o.minPageIndex + (n : Int) + (m : Int)) (xs.getD m #[])) →
    ∃ s', (xs.zipIdx n).foldlM (mergePageBody o.minPageIndex) s = some s' ∧ Inv s' ∧ s'.buffer = s.buffer ∧
      ∀ j, s'.line j = s.line j + Content.lookup (linesFrom o xs n) j := by
  induction xs with
  | nil => exact fun n s h _ _ => ⟨s, rfl, h, rfl, fun j => (Rat.add_zero _).symm⟩
  | cons pg xs ih =>
    intro n s h hlog hgood
    obtain ⟨hsz0, hnn0⟩ : GoodPage (o.minPageIndex + (n : Int)) pg := by
      simpa using hgood 0
    have hgood' : ∀ m : Nat, GoodPage (o.minPageIndex + ((n + 1 : Nat) : Int) + (m : Int)) (xs.getD m #[]) :=
      fun m => by
        have : GoodPage _ (xs.getD m #[]) := hgood (m + 1)
        rwa [show o.minPageIndex + (n : Int) + ((m + 1 : Nat) : Int) =
          o.minPageIndex + ((n + 1 : Nat) : Int) + (m : Int) by omega] at this
    simp only [List.zipIdx_cons, List.foldlM_cons, linesFrom_cons, Content.lookup_append]
    rcases hsz0 with hz | ⟨h32, hp32⟩
    · obtain ⟨s', h2, hI, hb, hline⟩ := ih (n + 1) s h hlog hgood'
      refine ⟨s', ?_, hI, hb, fun j => ?_⟩
      · rw [show mergePageBody o.minPageIndex s (pg, n) = some s by simp [mergePageBody, hz]]; exact h2
      · rw [hline, show pg = #[] from Array.eq_empty_of_size_eq_zero hz]
        exact congrArg (s.line j + ·) (Rat.zero_add _).symm
    · obtain ⟨s₁, k?, hpage, hI₁, hb₁, hline₁, hk₁, hsome⟩ :=
        page_line s h (o.minPageIndex + (n : Int)) hp32 true
      cases k? with
      | none => cases hsome rfl
      | some k =>
        obtain ⟨hsl, hsz⟩ := hk₁ k rfl
        obtain ⟨s₂, hfold, hI₂, hb₂, hline₂⟩ := foldAddLines_spec pg.toList 0 s₁ hI₁ _ k hsl
          (by rw [hsz]; decide)
          (fun c hc => by
            obtain ⟨i, hi, rfl⟩ := List.getElem_of_mem hc
            simpa [Array.getD_eq_getD_getElem?, Array.length_toList ▸ hi] using hnn0 i)
          (by simp [h32])
        obtain ⟨s', h2, hI, hb, hline⟩ := ih (n + 1) s₂ hI₂ (hlog.trans (h.log2_eq hI₂).symm) hgood'
        refine ⟨s', ?_, hI, hb.trans (hb₂.trans hb₁), fun j => ?_⟩
        · rw [show mergePageBody o.minPageIndex s (pg, n) = some s₂ by
            simp only [mergePageBody, show ¬ pg.size = 0 by omega, if_false, hpage, Option.bind_eq_bind,
              Option.bind_some, hfold]]
          exact h2
        · rw [hline, hline₂, hline₁, Rat.add_assoc,
            show linesOf s₁ (o.minPageIndex + (n : Int)) pg.toList 0 =
              linesOf o (o.minPageIndex + (n : Int)) pg.toList 0 by
                unfold linesOf; simp only [index_congr (hlog.trans (h.log2_eq hI₁).symm)]]

/-- same-kind fast path of `MergeWith`: pointwise sum -/
theorem mergeSame_ok (s o : PStore) (hs : Inv s) (ho : Inv o) :
    ∃ s', s.mergeSame o = some s' ∧ Inv s' ∧ ∀ j, wt s' j = wt s j + wt o j := by
  obtain ⟨s₁, h1, hI₁, hb₁, hline₁⟩ := foldMergePages_lines o o.pages.toList 0 s hs (ho.log2_eq hs).symm
    (fun m => by simpa using ho.goodSlot m)
  obtain ⟨s', h2, hI, hwt⟩ := foldAddUnit_ok o.buffer ho.bufRange s₁ hI₁
  refine ⟨s', ?_, hI, fun j => ?_⟩
  · rw [mergeSame_eq]
    simp only [h1, Option.bind_eq_bind, Option.bind_some]
    exact h2
  · rw [hwt]
    unfold wt
    rw [hb₁, hline₁, ← pageLines_eq, lookup_pageLines o ho]
    simp only [Rat.add_assoc, Rat.add_comm, Rat.add_left_comm]

/-! ## `MinIndex` / `MaxIndex`: buffer extreme, then the page scan with early exits -/

/-- the model's buffer extremes are the core ones, whose lemmas apply -/
theorem listMin?_eq (l : List Int) : listMin? l = l.min? := by cases l <;> rfl

theorem listMax?_eq (l : List Int) : listMax? l = l.max? := by cases l <;> rfl

theorem scan_listMin_none (l : List Int) (h : listMin? l = none) : l = [] :=
  List.min?_eq_none_iff.1 (listMin?_eq l ▸ h)

theorem scan_listMin_some (l : List Int) (m : Int) (h : listMin? l = some m) :
    m ∈ l ∧ ∀ x ∈ l, m ≤ x :=
  List.min?_eq_some_iff.1 (listMin?_eq l ▸ h)

theorem scan_listMax_none (l : List Int) (h : listMax? l = none) : l = [] :=
  List.max?_eq_none_iff.1 (listMax?_eq l ▸ h)

theorem scan_listMax_some (l : List Int) (m : Int) (h : listMax? l = some m) :
    m ∈ l ∧ ∀ x ∈ l, x ≤ m :=
  List.max?_eq_some_iff.1 (listMax?_eq l ▸ h)

/-- an extremum characterised by membership and an antisymmetric comparison does not depend on the
    order of the list -/
theorem extremum?_perm (f : List Int → Option Int) (le : Int → Int → Prop)
    (hanti : ∀ a b, le a b → le b a → a = b) (hnone : ∀ l, f l = none → l = [])
    (hsome : ∀ l m, f l = some m → m ∈ l ∧ ∀ y ∈ l, le m y) {l₁ l₂ : List Int} (h : l₁.Perm l₂) :
    f l₁ = f l₂ := by
  cases h1 : f l₁ with
  | none =>
    rw [hnone l₁ h1] at h
    rw [← h1, hnone l₁ h1, h.nil_eq]
  | some m =>
    cases h2 : f l₂ with
    | none =>
      rw [hnone l₂ h2] at h
      rw [← h1, h.eq_nil, ← h2, hnone l₂ h2]
    | some m' =>
      obtain ⟨a1, a2⟩ := hsome l₁ m h1
      obtain ⟨b1, b2⟩ := hsome l₂ m' h2
      exact congrArg some (hanti _ _ (a2 m' (h.mem_iff.2 b1)) (b2 m (h.mem_iff.1 a1)))

theorem listMin?_perm {l₁ l₂ : List Int} (h : l₁.Perm l₂) : listMin? l₁ = listMin? l₂ :=
  extremum?_perm _ (· ≤ ·) (fun _ _ => Int.le_antisymm) scan_listMin_none scan_listMin_some h

theorem listMax?_perm {l₁ l₂ : List Int} (h : l₁.Perm l₂) : listMax? l₁ = listMax? l₂ :=
  extremum?_perm _ (fun a b => b ≤ a) (fun _ _ h h' => Int.le_antisymm h' h) scan_listMax_none
    scan_listMax_some h

/-! The page scans of `minIndex?`/`maxIndex?` do not read the buffer, and the buffer enters only through
its extremum: the two observers do not see the order in which the buffer is kept. -/

theorem minScan_buffer (s : PStore) (b : List Int) (bmin : Option Int) (offs : List Nat) :
    minIndex?.scan { s with buffer := b } bmin offs = minIndex?.scan s bmin offs := by
  induction offs with
  | nil => rfl
  | cons off rest ih =>
    unfold minIndex?.scan
    rw [ih]
    rfl

theorem maxScan_buffer (s : PStore) (b : List Int) (bmax : Option Int) (offs : List Nat) :
    maxIndex?.scan { s with buffer := b } bmax offs = maxIndex?.scan s bmax offs := by
  induction offs with
  | nil => rfl
  | cons off rest ih =>
    unfold maxIndex?.scan
    rw [ih]
    rfl

theorem minIndex?_perm_buffer (s : PStore) (b : List Int) (h : s.buffer.Perm b) :
    ({ s with buffer := b } : PStore).minIndex? = s.minIndex? := by
  unfold minIndex?
  rw [minScan_buffer]
  show minIndex?.scan s (listMin? b) _ = _
  rw [← listMin?_perm h]

theorem maxIndex?_perm_buffer (s : PStore) (b : List Int) (h : s.buffer.Perm b) :
    ({ s with buffer := b } : PStore).maxIndex? = s.maxIndex? := by
  unfold maxIndex?
  rw [maxScan_buffer]
  show maxIndex?.scan s (listMax? b) _ = _
  rw [← listMax?_perm h]

theorem scan_find_range_some (n l : Nat) (f : Nat → Bool) (h : (List.range n).find? f = some l) :
    f l = true ∧ l < n ∧ ∀ l', l' < l → f l' = false := by
  rw [List.find?_range_eq_some] at h
  exact ⟨h.1, List.mem_range.1 h.2.1, fun l' hl' => by simpa using h.2.2 l' hl'⟩

theorem scan_find_range_none (n : Nat) (f : Nat → Bool) (h : (List.range n).find? f = none) :
    ∀ l, l < n → f l = false := by
  rw [List.find?_eq_none] at h
  exact fun l hl => by simpa using h l (List.mem_range.2 hl)

theorem scan_find_rev_some (n l : Nat) (g : Nat → Bool) (h : (List.range n).reverse.find? g = some l) :
    g l = true ∧ l < n ∧ ∀ l', l < l' → l' < n → g l' = false := by
  induction n with
  | zero => cases h
  | succ n ih =>
    rw [List.range_succ, List.reverse_append, List.reverse_singleton, List.singleton_append,
      List.find?_cons] at h
    cases hg : g n with
    | true =>
      rw [hg] at h
      cases h
      exact ⟨hg, Nat.lt_succ_self _, fun l' h1 h2 => by omega⟩
    | false =>
      rw [hg] at h
      obtain ⟨h1, h2, h3⟩ := ih h
      refine ⟨h1, Nat.lt_succ_of_lt h2, fun l' hl1 hl2 => ?_⟩
      by_cases hn : l' = n
      · rw [hn]; exact hg
      · exact h3 l' hl1 (by omega)

theorem scan_find_rev_none (n : Nat) (g : Nat → Bool) (h : (List.range n).reverse.find? g = none) :
    ∀ l, l < n → g l = false := by
  rw [List.find?_eq_none] at h
  exact fun l hl => by simpa using h l (List.mem_reverse.2 (List.mem_range.2 hl))

/-- what a scan must return: nothing for a store without weight, otherwise the extreme index, for the order
    `le`, among the positive lines and the buffered indexes -/
inductive ScanRes (s : PStore) (le : Int → Int → Prop) : Option Int → Prop
  | none : s.buffer = [] → (∀ j, s.line j ≤ 0) → ScanRes s le none
  | some (k : Int) : (0 < s.line k ∨ k ∈ s.buffer) →
      (∀ j, (0 < s.line j ∨ j ∈ s.buffer) → le k j) → ScanRes s le (some k)

theorem ScanRes.spec {s : PStore} (h : Inv s) {le : Int → Int → Prop} {r : Option Int} :
    ScanRes s le r →
    match r with
    | .none => ∀ j, wt s j = 0
    | .some k => 0 < wt s k ∧ ∀ j, 0 < wt s j → le k j := by
  intro hr
  cases hr with
  | none hb hl => exact fun j => wt_eq_zero s h j (hl j) (by rw [hb]; exact List.not_mem_nil)
  | some k hk hle => exact ⟨(wt_pos_iff s h k).2 hk, fun j hj => hle j ((wt_pos_iff s h j).1 hj)⟩

section scan
variable (s : PStore) (h : Inv s) (le : Int → Int → Prop) (b : Option Int)
  (hbn : b = none → s.buffer = [])
  (hbs : ∀ m, b = some m → m ∈ s.buffer ∧ ∀ x ∈ s.buffer, le m x)
include hbn hbs

/-- the buffer extreme `b` is the answer once it dominates every positive line -/
theorem scan_of_buffer (H : ∀ j, 0 < s.line j → ∃ m, b = some m ∧ le m j) : ScanRes s le b := by
  cases b with
  | none => exact .none (hbn rfl) fun j => Rat.not_lt.1 fun hj => by obtain ⟨m, hm, _⟩ := H j hj; cases hm
  | some m =>
    obtain ⟨hm1, hm2⟩ := hbs m rfl
    refine .some m (Or.inr hm1) fun j hj => ?_
    rcases hj with hj | hj
    · obtain ⟨m', hm', hle⟩ := H j hj; cases hm'; exact hle
    · exact hm2 j hj

/-- a positive line `k` is the answer when it dominates the buffer extreme and every positive line either
    directly or through the buffer extreme -/
theorem scan_of_line (htrans : ∀ a b c, le a b → le b c → le a c) (k : Int) (hk : 0 < s.line k)
    (hb : ∀ m, b = some m → le k m)
    (H : ∀ j, 0 < s.line j → le k j ∨ ∃ m, b = some m ∧ le m j) : ScanRes s le (some k) := by
  refine .some k (Or.inl hk) fun j hj => ?_
  rcases hj with hj | hj
  · rcases H j hj with hle | ⟨m, hm, hle⟩
    · exact hle
    · exact htrans _ _ _ (hb m hm) hle
  · cases hb' : b with
    | none => rw [hbn hb'] at hj; cases hj
    | some m => exact htrans _ _ _ (hb m hb') ((hbs m hb').2 j hj)

end scan

section minScan
variable (s : PStore) (h : Inv s) (b : Option Int) (hbn : b = none → s.buffer = [])
  (hbs : ∀ m, b = some m → m ∈ s.buffer ∧ ∀ x ∈ s.buffer, m ≤ x)
include h

/-- a page scanned up to `lineEnd` without finding a positive line: either the whole page, or the page of
    the buffer minimum up to its line; what it holds is not below that minimum -/
theorem scan_min_cont (a lineEnd : Nat)
    (hcase : lineEnd = 32 ∨
      ∃ m, b = some m ∧ s.pageIndex m = s.minPageIndex + (a : Int) ∧ s.lineIndex m = lineEnd)
    (hnone : ∀ l, l < lineEnd → ¬ (s.pages.getD a #[]).getD l 0 > 0)
    (j : Int) (hp : s.pageIndex j = s.minPageIndex + (a : Int)) (hj : 0 < s.line j) :
    ∃ m, b = some m ∧ m ≤ j := by
  rw [line_of_slot s j a hp] at hj
  have hge : lineEnd ≤ s.lineIndex j := Nat.not_lt.1 fun hc => hnone _ hc hj
  rcases hcase with h32 | ⟨m, hm, hpm, hlm⟩
  · have := (h.split j).2; omega
  · exact ⟨m, hm, h.le_of_lex m j (by rw [hpm, hp]; exact Int.le_refl _) (fun _ => by rw [hlm]; exact hge)⟩

include hbn hbs

/-- one page of the scan: the whole page when it lies before the page of the buffer minimum, that page up to
    the line of the minimum when it is its page, nothing when it lies after it -/
theorem scan_min_step (a : Nat) (rest : List Nat)
    (H : ∀ j, 0 < s.line j → s.pageIndex j < s.minPageIndex + (a : Int) → ∃ m, b = some m ∧ m ≤ j)
    (next : (∀ j, s.pageIndex j = s.minPageIndex + (a : Int) → 0 < s.line j → ∃ m, b = some m ∧ m ≤ j) →
      ScanRes s (· ≤ ·) (minIndex?.scan s b rest)) :
    ScanRes s (· ≤ ·) (minIndex?.scan s b (a :: rest)) := by
  -- `lineEnd` is 32, or the line of the buffer minimum on this page
  have notfound : ∀ lineEnd : Nat, (lineEnd = 32 ∨
        ∃ m, b = some m ∧ s.pageIndex m = s.minPageIndex + (a : Int) ∧ s.lineIndex m = lineEnd) →
      (∀ l, l < lineEnd → ¬ (s.pages.getD a #[]).getD l 0 > 0) →
      ScanRes s (· ≤ ·) (minIndex?.scan s b rest) :=
    fun lineEnd hcase hnone => next (scan_min_cont s h b a lineEnd hcase hnone)
  have found : ∀ lineEnd l : Nat, lineEnd ≤ 32 →
      (lineEnd = 32 ∧ (∀ m, b = some m → s.minPageIndex + (a : Int) < s.pageIndex m) ∨
        ∃ m, b = some m ∧ s.pageIndex m = s.minPageIndex + (a : Int) ∧ s.lineIndex m = lineEnd) →
      (List.range lineEnd).find? (fun l => (s.pages.getD a #[]).getD l 0 > 0) = some l →
      ScanRes s (· ≤ ·) (some (s.index (s.minPageIndex + (a : Int)) l)) := by
    intro lineEnd l hle hcase hf
    obtain ⟨hf1, hf2, hf3⟩ := scan_find_range_some _ _ _ hf
    simp only [decide_eq_true_eq, decide_eq_false_iff_not] at hf1 hf3
    have hl : l < 32 := by omega
    refine scan_of_line s _ b hbn hbs (fun _ _ _ => Int.le_trans) _
      (by rw [h.line_index a l hl]; exact hf1) (fun m hm => ?_) fun j hj => ?_
    · rcases hcase with ⟨_, hlt⟩ | ⟨m', hm', hpm, hlm⟩
      · exact h.index_le _ l hl m (Int.le_of_lt (hlt m hm)) fun e => absurd e (Int.ne_of_gt (hlt m hm))
      · cases hm.symm.trans hm'
        exact h.index_le _ l hl m (Int.le_of_eq hpm.symm) fun _ => by omega
    · by_cases hp1 : s.pageIndex j < s.minPageIndex + (a : Int)
      · exact Or.inr (H j hj hp1)
      · exact Or.inl (h.index_le _ l hl j (Int.not_lt.1 hp1) fun hp2 => Nat.not_lt.1 fun hc =>
          hf3 _ hc (by rw [← line_of_slot s j a hp2]; exact hj))
  have empty : (s.pages.getD a #[]).size = 0 → ScanRes s (· ≤ ·) (minIndex?.scan s b rest) := fun he =>
    notfound 32 (Or.inl rfl) fun l _ => by rw [Array.eq_empty_of_size_eq_zero he, empty_getD]; exact Rat.lt_irrefl
  have none? : ∀ lineEnd : Nat, (List.range lineEnd).find? (fun l => (s.pages.getD a #[]).getD l 0 > 0) = none →
      ∀ l, l < lineEnd → ¬ (s.pages.getD a #[]).getD l 0 > 0 := fun lineEnd hf l hl => by
    simpa using scan_find_range_none _ _ hf l hl
  simp only [minIndex?.scan]
  cases b with
  | none =>
    simp only [Bool.not_true, Bool.false_eq_true, if_false]
    by_cases he : (s.pages.getD a #[]).size = 0
    · rw [if_pos he]; exact empty he
    · rw [if_neg he, h.pageLen_eq]
      split
      · exact found 32 _ (Nat.le_refl _) (Or.inl ⟨rfl, fun m hm => nomatch hm⟩) ‹_›
      · exact notfound 32 (Or.inl rfl) (none? _ ‹_›)
  | some m =>
    by_cases hc : s.minPageIndex + (a : Int) ≤ s.pageIndex m
    · simp only [hc, decide_true, Bool.not_true, Bool.false_eq_true, if_false]
      by_cases he : (s.pages.getD a #[]).size = 0
      · rw [if_pos he]; exact empty he
      · rw [if_neg he, h.pageLen_eq]
        by_cases e : s.minPageIndex + (a : Int) = s.pageIndex m
        · rw [if_pos e]
          split
          · exact found _ _ (Nat.le_of_lt (h.split m).2) (Or.inr ⟨m, rfl, e.symm, rfl⟩) ‹_›
          · exact notfound _ (Or.inr ⟨m, rfl, e.symm, rfl⟩) (none? _ ‹_›)
        · rw [if_neg e]
          split
          · exact found 32 _ (Nat.le_refl _) (Or.inl ⟨rfl, fun m' hm' => by cases hm'; omega⟩) ‹_›
          · exact notfound 32 (Or.inl rfl) (none? _ ‹_›)
    · -- a buffered index lies on an earlier page: early exit
      simp only [hc, decide_false, Bool.not_false, if_true]
      exact scan_of_buffer s _ _ hbn hbs fun j hj =>
        if hp : s.pageIndex j < s.minPageIndex + (a : Int) then H j hj hp
        else
          have hlt' := Int.lt_of_lt_of_le (Int.not_le.1 hc) (Int.not_lt.1 hp)
          ⟨m, rfl, h.le_of_lex m j (Int.le_of_lt hlt') fun e => absurd e (Int.ne_of_lt hlt')⟩

theorem scan_min_loop : ∀ (n a : Nat), a + n = s.pages.size →
    (∀ j, 0 < s.line j → s.pageIndex j < s.minPageIndex + (a : Int) → ∃ m, b = some m ∧ m ≤ j) →
    ScanRes s (· ≤ ·) (minIndex?.scan s b (List.range' a n)) := by
  intro n
  induction n with
  | zero =>
    intro a ha H
    exact scan_of_buffer s _ b hbn hbs fun j hj => by
      obtain ⟨k, hk, hp⟩ := slot_of_line_pos s j hj
      exact H j hj (by omega)
  | succ n ih =>
    intro a ha H
    rw [List.range'_succ]
    exact scan_min_step s h b hbn hbs a _ H fun H2 => ih (a + 1) (by omega) fun j hj hp =>
      if hpe : s.pageIndex j = s.minPageIndex + (a : Int) then H2 j hpe hj else H j hj (by omega)

end minScan

theorem scan_min_res (s : PStore) (h : Inv s) : ScanRes s (· ≤ ·) s.minIndex? := by
  unfold minIndex?
  rw [List.range_eq_range']
  exact scan_min_loop s h _ (scan_listMin_none _) (scan_listMin_some _) s.pages.size 0 (by omega)
    fun j hj hp => by
      obtain ⟨k, hk, hp'⟩ := slot_of_line_pos s j hj
      omega

/-- `MinIndex()`: the buffer scan + the page scan with its early exits return the least index of
    positive weight (`none` iff the store is empty) -/
theorem minIndex_spec (s : PStore) (h : Inv s) :
    match s.minIndex? with
    | none => ∀ j, wt s j = 0
    | some k => 0 < wt s k ∧ ∀ j, 0 < wt s j → k ≤ j := by
  have hr := ScanRes.spec h (scan_min_res s h)
  cases hm : s.minIndex? <;> rw [hm] at hr <;> exact hr

section maxScan
variable (s : PStore) (h : Inv s) (b : Option Int) (hbn : b = none → s.buffer = [])
  (hbs : ∀ m, b = some m → m ∈ s.buffer ∧ ∀ x ∈ s.buffer, x ≤ m)
include h

/-- a page scanned down to `lineStart` without finding a positive line: either the whole page, or the page
    of the buffer maximum down to its line; what it holds is not above that maximum -/
theorem scan_max_cont (a lineStart : Nat)
    (hcase : lineStart = 0 ∨
      ∃ m, b = some m ∧ s.pageIndex m = s.minPageIndex + (a : Int) ∧ s.lineIndex m = lineStart)
    (hnone : ∀ l, lineStart ≤ l → ¬ (s.pages.getD a #[]).getD l 0 > 0)
    (j : Int) (hp : s.pageIndex j = s.minPageIndex + (a : Int)) (hj : 0 < s.line j) :
    ∃ m, b = some m ∧ j ≤ m := by
  rw [line_of_slot s j a hp] at hj
  have hlt : s.lineIndex j < lineStart := Nat.not_le.1 fun hc => hnone _ hc hj
  rcases hcase with h0 | ⟨m, hm, hpm, hlm⟩
  · omega
  · exact ⟨m, hm, h.le_of_lex j m (by rw [hpm, hp]; exact Int.le_refl _)
      (fun _ => by rw [hlm]; exact Nat.le_of_lt hlt)⟩

include hbn hbs

/-- one page of the scan: the whole page when it lies after the page of the buffer maximum, that page down
    to the line of the maximum when it is its page, nothing when it lies before it -/
theorem scan_max_step (a : Nat) (rest : List Nat)
    (H : ∀ j, 0 < s.line j → s.minPageIndex + (a : Int) < s.pageIndex j → ∃ m, b = some m ∧ j ≤ m)
    (next : (∀ j, s.pageIndex j = s.minPageIndex + (a : Int) → 0 < s.line j → ∃ m, b = some m ∧ j ≤ m) →
      ScanRes s (fun k j => j ≤ k) (maxIndex?.scan s b rest)) :
    ScanRes s (fun k j => j ≤ k) (maxIndex?.scan s b (a :: rest)) := by
  -- `lineStart` is 0, or the line of the buffer maximum on this page
  have notfound : ∀ lineStart : Nat, (lineStart = 0 ∨
        ∃ m, b = some m ∧ s.pageIndex m = s.minPageIndex + (a : Int) ∧ s.lineIndex m = lineStart) →
      (∀ l, lineStart ≤ l → ¬ (s.pages.getD a #[]).getD l 0 > 0) →
      ScanRes s (fun k j => j ≤ k) (maxIndex?.scan s b rest) :=
    fun lineStart hcase hnone => next (scan_max_cont s h b a lineStart hcase hnone)
  have empty : (s.pages.getD a #[]).size = 0 → ScanRes s (fun k j => j ≤ k) (maxIndex?.scan s b rest) :=
    fun he => notfound 0 (Or.inl rfl) fun l _ => by
      rw [Array.eq_empty_of_size_eq_zero he, empty_getD]; exact Rat.lt_irrefl
  -- a positive line at or above `lineStart` satisfies the filter and lies inside the full page
  have hg : (s.pages.getD a #[]).size ≠ 0 → ∀ lineStart l : Nat, lineStart ≤ l →
      (s.pages.getD a #[]).getD l 0 > 0 → l < (s.pages.getD a #[]).size ∧
        decide (decide (l ≥ lineStart) = true ∧ decide ((s.pages.getD a #[]).getD l 0 > 0) = true) = true := by
    intro he lineStart l h1 h2
    refine ⟨Nat.not_le.1 fun hc => ?_, decide_eq_true ⟨decide_eq_true h1, decide_eq_true h2⟩⟩
    rw [Array.getD_eq_getD_getElem?, Array.getElem?_eq_none hc] at h2
    exact Rat.lt_irrefl h2
  have found : (s.pages.getD a #[]).size ≠ 0 → ∀ lineStart l : Nat,
      (lineStart = 0 ∧ (∀ m, b = some m → s.pageIndex m < s.minPageIndex + (a : Int)) ∨
        ∃ m, b = some m ∧ s.pageIndex m = s.minPageIndex + (a : Int) ∧ s.lineIndex m = lineStart) →
      ((List.range (s.pages.getD a #[]).size).reverse.filter fun l => l ≥ lineStart).find?
        (fun l => (s.pages.getD a #[]).getD l 0 > 0) = some l →
      ScanRes s (fun k j => j ≤ k) (some (s.index (s.minPageIndex + (a : Int)) l)) := by
    intro he lineStart l hcase hf
    have hsz : (s.pages.getD a #[]).size = 32 := by
      rcases (h.goodSlot a).1 with h0 | h0
      · exact absurd h0 he
      · exact h0.1
    rw [List.find?_filter] at hf
    obtain ⟨hf1, hl, hf3⟩ := scan_find_rev_some _ _ _ hf
    simp only [decide_eq_true_eq] at hf1
    rw [hsz] at hl
    refine scan_of_line s _ b hbn hbs (fun _ _ _ h1 h2 => Int.le_trans h2 h1) _
      (by rw [h.line_index a l hl]; exact hf1.2) (fun m hm => ?_) fun j hj => ?_
    · rcases hcase with ⟨_, hlt⟩ | ⟨m', hm', hpm, hlm⟩
      · exact h.le_index _ l hl m (Int.le_of_lt (hlt m hm)) fun e => absurd e (Int.ne_of_lt (hlt m hm))
      · cases hm.symm.trans hm'
        exact h.le_index _ l hl m (Int.le_of_eq hpm) fun _ => by rw [hlm]; exact hf1.1
    · by_cases hp1 : s.minPageIndex + (a : Int) < s.pageIndex j
      · exact Or.inr (H j hj hp1)
      · refine Or.inl (h.le_index _ l hl j (Int.not_lt.1 hp1) fun hp2 => Nat.not_lt.1 fun hc => ?_)
        rw [line_of_slot s j a hp2] at hj
        obtain ⟨h32, hgl⟩ := hg he lineStart _ (by omega) hj
        exact Bool.false_ne_true ((hf3 _ hc h32).symm.trans hgl)
  have none? : (s.pages.getD a #[]).size ≠ 0 → ∀ lineStart : Nat,
      ((List.range (s.pages.getD a #[]).size).reverse.filter fun l => l ≥ lineStart).find?
        (fun l => (s.pages.getD a #[]).getD l 0 > 0) = none →
      ∀ l, lineStart ≤ l → ¬ (s.pages.getD a #[]).getD l 0 > 0 := by
    intro he lineStart hf l hl hpos
    rw [List.find?_filter] at hf
    obtain ⟨h32, hgl⟩ := hg he lineStart l hl hpos
    exact Bool.false_ne_true ((scan_find_rev_none _ _ hf l h32).symm.trans hgl)
  simp only [maxIndex?.scan]
  cases b with
  | none =>
    simp only [Bool.not_true, Bool.false_eq_true, if_false]
    by_cases he : (s.pages.getD a #[]).size = 0
    · rw [if_pos he]; exact empty he
    · rw [if_neg he]
      split
      · exact found he 0 _ (Or.inl ⟨rfl, fun m hm => nomatch hm⟩) ‹_›
      · exact notfound 0 (Or.inl rfl) (none? he _ ‹_›)
  | some m =>
    by_cases hc : s.minPageIndex + (a : Int) ≥ s.pageIndex m
    · simp only [hc, decide_true, Bool.not_true, Bool.false_eq_true, if_false]
      by_cases he : (s.pages.getD a #[]).size = 0
      · rw [if_pos he]; exact empty he
      · rw [if_neg he]
        by_cases e : s.minPageIndex + (a : Int) = s.pageIndex m
        · simp only [if_pos e]
          split
          · exact found he _ _ (Or.inr ⟨m, rfl, e.symm, rfl⟩) ‹_›
          · exact notfound _ (Or.inr ⟨m, rfl, e.symm, rfl⟩) (none? he _ ‹_›)
        · simp only [if_neg e]
          split
          · exact found he 0 _ (Or.inl ⟨rfl, fun m' hm' => by cases hm'; omega⟩) ‹_›
          · exact notfound 0 (Or.inl rfl) (none? he _ ‹_›)
    · -- a buffered index lies on a later page: early exit
      simp only [hc, decide_false, Bool.not_false, if_true]
      exact scan_of_buffer s _ _ hbn hbs fun j hj =>
        if hp : s.minPageIndex + (a : Int) < s.pageIndex j then H j hj hp
        else
          have hlt' := Int.lt_of_le_of_lt (Int.not_lt.1 hp) (Int.not_le.1 hc)
          ⟨m, rfl, h.le_of_lex j m (Int.le_of_lt hlt') fun e => absurd e (Int.ne_of_lt hlt')⟩

theorem scan_max_loop : ∀ (a : Nat), a ≤ s.pages.size →
    (∀ j, 0 < s.line j → s.minPageIndex + (a : Int) ≤ s.pageIndex j → ∃ m, b = some m ∧ j ≤ m) →
    ScanRes s (fun k j => j ≤ k) (maxIndex?.scan s b (List.range a).reverse) := by
  intro a
  induction a with
  | zero =>
    intro _ H
    exact scan_of_buffer s _ b hbn hbs fun j hj => by
      obtain ⟨k, hk, hp⟩ := slot_of_line_pos s j hj
      exact H j hj (by omega)
  | succ a ih =>
    intro ha H
    rw [List.range_succ, List.reverse_append, List.reverse_singleton, List.singleton_append]
    exact scan_max_step s h b hbn hbs a _ (fun j hj hp => H j hj (by omega)) fun H2 =>
      ih (by omega) fun j hj hp =>
        if hpe : s.pageIndex j = s.minPageIndex + (a : Int) then H2 j hpe hj else H j hj (by omega)

end maxScan

theorem scan_max_res (s : PStore) (h : Inv s) : ScanRes s (fun k j => j ≤ k) s.maxIndex? := by
  unfold maxIndex?
  exact scan_max_loop s h _ (scan_listMax_none _) (scan_listMax_some _) s.pages.size (Nat.le_refl _)
    fun j hj hp => by
      obtain ⟨k, hk, hp'⟩ := slot_of_line_pos s j hj
      omega

theorem maxIndex_spec (s : PStore) (h : Inv s) :
    match s.maxIndex? with
    | none => ∀ j, wt s j = 0
    | some k => 0 < wt s k ∧ ∀ j, 0 < wt s j → j ≤ k := by
  have hr := ScanRes.spec h (scan_max_res s h)
  cases hm : s.maxIndex? <;> rw [hm] at hr <;> exact hr

/-! ## the content of a store; the observers are those of the content -/

/-- the abstract content of a store: its merged iteration -/
def content (s : PStore) : Content := s.binsList

theorem content_wf (s : PStore) (h : Inv s) : (content s).WF :=
  wf_mergeIter _ _ (pageLines_pairwise s h) (pageLines_nonneg s h) (wf_runs _ (sortInts_sorted _))

theorem lookup_content (s : PStore) (h : Inv s) (j : Int) : (content s).lookup j = wt s j := by
  unfold content binsList
  rw [lookup_mergeIter, lookup_pageLines s h, lookup_runs _ (sortInts_sorted _), count_sortInts]; rfl

theorem wt_nonneg (s : PStore) (h : Inv s) (j : Int) : 0 ≤ wt s j := by
  rw [← lookup_content s h]; exact Content.lookup_nonneg _ (content_wf s h).nonneg j

/-- the merged iteration enumerates each non-empty index exactly once, in increasing order -/
theorem binsList_spec (s : PStore) (h : Inv s) :
    let l := s.binsList
    (∀ p ∈ l, 0 < p.2 ∧ wt s p.1 = p.2) ∧ (∀ j, 0 < wt s j → (j, wt s j) ∈ l) ∧
      l.Pairwise (fun a b => a.1 < b.1) := by
  have hwf := content_wf s h
  refine ⟨?_, ?_, (Content.sorted_iff_pairwise _).1 hwf.1⟩
  · intro p hp
    refine ⟨hwf.2 p hp, ?_⟩
    rw [← lookup_content s h]; exact Content.lookup_of_mem_sorted _ hwf.1 p hp
  · intro j hj
    rw [← lookup_content s h] at hj
    obtain ⟨w, hw⟩ := (Content.lookup_pos_iff _ hwf j).1 hj
    have := Content.lookup_of_mem_sorted _ hwf.1 _ hw
    simp only at this
    rw [← lookup_content s h, this]; exact hw

/-- a store is known by its weights -/
theorem content_eq_of_lookup (s : PStore) (h : Inv s) (c : Content) (hc : c.WF)
    (hl : ∀ j, wt s j = c.lookup j) : content s = c :=
  Content.ext _ _ (content_wf s h) hc (fun j => by rw [lookup_content s h, hl])

theorem content_eq_nil_iff (s : PStore) (h : Inv s) : content s = [] ↔ ∀ j, wt s j = 0 := by
  constructor
  · intro hc j; rw [← lookup_content s h, hc]; rfl
  · intro hz
    exact content_eq_of_lookup s h [] Content.wf_nil (fun j => by rw [hz]; rfl)

theorem content_new : content PStore.new = [] := (content_eq_nil_iff _ inv_new).2 wt_new

/-! ### observer by observer -/

theorem totalCount_eq_lines (s : PStore) :
    s.totalCount = (s.buffer.length : Rat) + Content.total s.pageLines := by
  unfold totalCount
  rw [← Array.foldl_toList, total_linesFrom s _ 0]; rfl

theorem totalCount_eq (s : PStore) (_h : Inv s) : s.totalCount = (content s).total := by
  rw [totalCount_eq_lines]
  show _ = Content.total (mergeIter s.pageLines (runs (sortInts s.buffer)))
  rw [total_mergeIter, total_runs _ (sortInts_sorted _), length_sortInts, Rat.add_comm]

theorem isEmpty_iff (s : PStore) (h : Inv s) : s.isEmpty = true ↔ ∀ j, wt s j = 0 := by
  unfold isEmpty
  simp only [Bool.and_eq_true, List.isEmpty_iff, Array.all_eq_true', Bool.not_eq_true',
    decide_eq_false_iff_not]
  constructor
  · rintro ⟨hb, hp⟩ j
    refine wt_eq_zero s h j (Rat.not_lt.1 fun hpos => ?_) (by rw [hb]; exact List.not_mem_nil)
    obtain ⟨k, hk, hpk⟩ := slot_of_line_pos s j hpos
    rw [line_of_slot s j k hpk] at hpos
    by_cases hlt : s.lineIndex j < (s.pages.getD k #[]).size
    · rw [getD_of_lt _ _ hlt] at hpos
      exact hp _ (by simp [Array.getD_eq_getD_getElem?, hk]) _ (Array.getElem_mem hlt) hpos
    · rw [getD_of_ge _ _ hlt] at hpos; exact Rat.lt_irrefl hpos
  · intro hz
    have hzero : ∀ j, ¬ 0 < s.wt j := fun j hj => by rw [hz] at hj; exact Rat.lt_irrefl hj
    refine ⟨List.eq_nil_iff_forall_not_mem.2 fun x hx => hzero x ((wt_pos_iff s h x).2 (Or.inr hx)),
      fun pg hpg c hc hpos => ?_⟩
    obtain ⟨k, hk, rfl⟩ := mem_pages_getD s pg hpg
    obtain ⟨l, hl, rfl⟩ := Array.getElem_of_mem hc
    have hl32 : l < 32 := by
      rcases (h.goodSlot k).1 with h0 | h0 <;> omega
    refine hzero (s.index (s.minPageIndex + (k : Int)) l) ((wt_pos_iff s h _).2 (Or.inl ?_))
    rw [h.line_index k l hl32, getD_of_lt _ _ hl]; exact hpos

theorem isEmpty_eq (s : PStore) (h : Inv s) : s.isEmpty = (content s).isEmpty := by
  have h1 := isEmpty_iff s h
  have h2 := content_eq_nil_iff s h
  cases hc : content s with
  | nil =>
    rw [hc] at h2
    rw [h1.2 (h2.1 rfl)]; rfl
  | cons p rest =>
    rw [hc] at h2
    cases he : s.isEmpty with
    | false => rfl
    | true => exact absurd (h2.2 (h1.1 he)) (by simp)

theorem content_extreme (s : PStore) (h : Inv s) (le : Int → Int → Prop) (k : Int)
    (hk : 0 < wt s k) (hle : ∀ j, 0 < wt s j → le k j) :
    (∃ w, (k, w) ∈ content s) ∧ ∀ p ∈ content s, le k p.1 := by
  have hwf := content_wf s h
  rw [← lookup_content s h] at hk
  refine ⟨(Content.lookup_pos_iff _ hwf k).1 hk, fun p hp => hle _ ?_⟩
  rw [← lookup_content s h, Content.lookup_of_mem_sorted _ hwf.1 p hp]
  exact hwf.2 p hp

theorem minIndex?_eq (s : PStore) (h : Inv s) : s.minIndex? = (content s).minIndex? := by
  have hspec := minIndex_spec s h
  cases hm : s.minIndex? with
  | none =>
    rw [hm] at hspec
    rw [(content_eq_nil_iff s h).2 hspec]; rfl
  | some k =>
    rw [hm] at hspec
    obtain ⟨h1, h2⟩ := content_extreme s h (· ≤ ·) k hspec.1 hspec.2
    exact (Content.minIndex?_eq_of _ (content_wf s h).1 k h1 h2).symm

theorem maxIndex?_eq (s : PStore) (h : Inv s) : s.maxIndex? = (content s).maxIndex? := by
  have hspec := maxIndex_spec s h
  cases hm : s.maxIndex? with
  | none =>
    rw [hm] at hspec
    rw [(content_eq_nil_iff s h).2 hspec]; rfl
  | some k =>
    rw [hm] at hspec
    obtain ⟨h1, h2⟩ := content_extreme s h (fun k j => j ≤ k) k hspec.1 hspec.2
    exact (Content.maxIndex?_eq_of _ (content_wf s h).1 k h1 h2).symm

/-- `KeyAtRank` (the interleaved rank search, then the `MaxIndex` fallback) agrees with the spec -/
theorem keyAtRank_spec (s : PStore) (h : Inv s) (r : Rat) :
    s.keyAtRank r = (content s).keyAtRank r := by
  unfold keyAtRank Content.keyAtRank
  have hr : (0 : Rat) ≤ (if r < 0 then 0 else r) := by split <;> grind
  simp only []
  rw [firstExceeding_eq _ _ 0 _ (pageLines_pairwise s h) (pageLines_nonneg s h) (sortInts_sorted _) hr,
    maxIndex?_eq s h]
  rfl

/-! ### the model's `abs` -/

theorem abs_eq_merge (s : PStore) :
    s.abs = (Content.merge [] s.pageLines).merge (s.buffer.map (fun i => (i, (1 : Rat)))) := by
  unfold abs Content.merge
  rw [List.foldl_map]

/-- the model's fold-based abstraction `abs` is the merged iteration -/
theorem abs_eq_content (s : PStore) (h : Inv s) : s.abs = content s := by
  have habs := abs_eq_merge s
  symm
  apply content_eq_of_lookup s h
  · rw [habs]
    apply Content.wf_merge_of_nonneg
    · exact Content.wf_merge_of_nonneg _ _ Content.wf_nil (pageLines_nonneg s h)
    · intro p hp
      obtain ⟨i, _, rfl⟩ := List.mem_map.1 hp
      show (0 : Rat) ≤ 1
      decide
  · intro j
    rw [habs, Content.lookup_merge, Content.lookup_merge, lookup_pageLines s h, lookup_map_const]
    unfold wt
    simp only [Content.lookup_nil, Rat.zero_add, Rat.mul_one]

/-! ## the operations at the level of contents -/

/-- from weights to content: an operation that ends with the weights `f` ends with the canonical content
    that has these weights -/
theorem content_of_wt {r : Option PStore} {f : Int → Rat} (c : Content) (hc : c.WF)
    (hf : ∀ j, c.lookup j = f j) (h : ∃ s', r = some s' ∧ Inv s' ∧ ∀ j, wt s' j = f j) :
    ∃ s', r = some s' ∧ Inv s' ∧ content s' = c := by
  obtain ⟨s', h1, h2, h3⟩ := h
  exact ⟨s', h1, h2, content_eq_of_lookup s' h2 c hc fun j => (h3 j).trans (hf j).symm⟩

theorem content_congr {s s' : PStore} (h : Inv s) (h' : Inv s') (hw : ∀ j, wt s' j = wt s j) :
    content s' = content s :=
  content_eq_of_lookup s' h' _ (content_wf s h) fun j => (hw j).trans (lookup_content s h j).symm

theorem content_add_of_wt {s s' : PStore} (h : Inv s) (h' : Inv s') (i : Int) (w : Rat) (hw : 0 ≤ w)
    (hwt : ∀ j, wt s' j = wt s j + if j = i then w else 0) : content s' = (content s).add i w :=
  content_eq_of_lookup s' h' _ (Content.wf_add _ i w (content_wf s h) hw) fun j => by
    rw [hwt, Content.lookup_add, lookup_content s h]

theorem content_merge_of_wt {s o s' : PStore} (hs : Inv s) (ho : Inv o) (h' : Inv s')
    (hwt : ∀ j, wt s' j = wt s j + wt o j) : content s' = (content s).merge (content o) :=
  content_eq_of_lookup s' h' _ (Content.wf_merge _ _ (content_wf s hs) (content_wf o ho)) fun j => by
    rw [hwt, Content.lookup_merge, lookup_content s hs, lookup_content o ho]

theorem add_content (s : PStore) (h : Inv s) (i : Int) (hi : Idx32 i) (w : Rat) (hw : 0 ≤ w) (b : Bool) :
    ∃ s', s.addWithCount i w b = some s' ∧ Inv s' ∧ content s' = (content s).add i w := by
  obtain ⟨s', h1, h2, h3⟩ := addWithCount_ok s h i hi w hw b
  exact ⟨s', h1, h2, content_add_of_wt h h2 i w hw h3⟩

theorem addUnit_content (s : PStore) (h : Inv s) (i : Int) (hi : Idx32 i) (b : Bool) :
    ∃ s', s.addUnit i b = some s' ∧ Inv s' ∧ content s' = (content s).add i 1 := by
  obtain ⟨s', h1, h2, h3⟩ := addUnit_ok s h i hi b
  exact ⟨s', h1, h2, content_add_of_wt h h2 i 1 (by decide) h3⟩

theorem mergeBins_content (s : PStore) (h : Inv s) (l : List (Int × Rat))
    (hl : ∀ p ∈ l, Idx32 p.1 ∧ 0 ≤ p.2) :
    ∃ s', s.mergeBins l = some s' ∧ Inv s' ∧ content s' = (content s).merge l :=
  foldlM_sim (R := fun s c => Inv s ∧ content s = c) l
    (fun p hp s _ ⟨h, hc⟩ => hc ▸ add_content s h p.1 (hl p hp).1 p.2 (hl p hp).2 true) ⟨h, rfl⟩

/-- fallback merge: `other.ForEach(s.AddWithCount)` -/
theorem mergeBins_ok (s : PStore) (h : Inv s) (l : List (Int × Rat))
    (hl : ∀ p ∈ l, Idx32 p.1 ∧ 0 ≤ p.2) :
    ∃ s', s.mergeBins l = some s' ∧ Inv s' ∧ ∀ j, wt s' j = wt s j + Content.lookup l j := by
  obtain ⟨s', h1, h2, h3⟩ := mergeBins_content s h l hl
  exact ⟨s', h1, h2, fun j => by rw [← lookup_content s' h2, h3, Content.lookup_merge, lookup_content s h]⟩

/-- `Reweight` (`w > 0`): every weight scales; buffered unit entries are re-added with weight `w` -/
theorem reweight_ok (s : PStore) (h : Inv s) (w : Rat) (hw : 0 < w) :
    ∃ s', s.reweight w = some s' ∧ Inv s' ∧ ∀ j, wt s' j = wt s j * w := by
  let s₀ : PStore := { s with buffer := [], pages := s.pages.map (fun pg => pg.map (· * w)) }
  have hpa : ∀ q, s₀.pageAt q = (s.pageAt q).map (· * w) :=
    pageAt_map s (fun pg => pg.map (· * w)) (by simp) []
  have hI₀ : Inv s₀ := by
    refine Inv.of_goodPages h.log2 (fun q => ?_) (by simpa [s₀] using h.range) (fun x hx => nomatch hx)
    obtain ⟨h1, h2⟩ := h.goodPage q
    rw [hpa]
    exact ⟨by rw [Array.size_map]; exact h1,
      fun l => by rw [getD_map_mul]; exact Rat.mul_nonneg (h2 l) (Rat.le_of_lt hw)⟩
  have hline₀ : ∀ j, s₀.line j = s.line j * w := fun j => by
    unfold line
    show (s₀.pageAt (s.pageIndex j)).getD (s.lineIndex j) 0 = _
    rw [hpa, getD_map_mul]
  have hfold : s.reweight w = s₀.mergeBins (s.buffer.map (fun i => (i, w))) := by
    unfold reweight mergeBins
    rw [List.foldlM_map]
  obtain ⟨s', h1, hI, hwt⟩ := mergeBins_ok s₀ hI₀ (s.buffer.map (fun i => (i, w))) (by
    intro p hp
    obtain ⟨i, hi, rfl⟩ := List.mem_map.1 hp
    exact ⟨h.bufRange i hi, Rat.le_of_lt hw⟩)
  refine ⟨s', hfold.trans h1, hI, fun j => ?_⟩
  rw [hwt, lookup_map_const]
  unfold wt
  rw [hline₀, Rat.add_mul]
  show s.line j * w + (([] : List Int).count j : Rat) + _ = _
  rw [List.count_nil, natCast_zero, Rat.add_zero]

/-- compaction (whenever the allocator triggers it) is invisible -/
theorem compact_content (s : PStore) (h : Inv s) :
    ∃ s', s.compact = some s' ∧ Inv s' ∧ content s' = content s := by
  obtain ⟨s', h1, h2, h3⟩ := compact_ok s h
  exact ⟨s', h1, h2, content_congr h h2 h3⟩

theorem clear_content (s : PStore) (h : Inv s) : Inv s.clear ∧ content s.clear = [] :=
  ⟨(clear_spec s h).1, (content_eq_nil_iff _ (clear_spec s h).1).2 (clear_spec s h).2⟩

theorem reweight_content (s : PStore) (h : Inv s) (w : Rat) (hw : 0 < w) :
    ∃ s', s.reweight w = some s' ∧ Inv s' ∧ content s' = (content s).scale w :=
  content_of_wt _ (Content.wf_scale _ w (content_wf s h) hw)
    (fun j => by rw [Content.lookup_scale, lookup_content s h]) (reweight_ok s h w hw)

theorem mergeSame_content (s o : PStore) (hs : Inv s) (ho : Inv o) :
    ∃ s', s.mergeSame o = some s' ∧ Inv s' ∧ content s' = (content s).merge (content o) := by
  obtain ⟨s', h1, h2, h3⟩ := mergeSame_ok s o hs ho
  exact ⟨s', h1, h2, content_merge_of_wt hs ho h2 h3⟩

theorem sortRead_content (s : PStore) (h : Inv s) : Inv s.sortRead ∧ content s.sortRead = content s :=
  ⟨(sortRead_spec s h).1, content_congr h (sortRead_spec s h).1 (sortRead_spec s h).2⟩

/-! ## histories at the level of contents -/

/-- operations of a history; `add` carries the allocator's compaction bit -/
inductive Op where
  | add (i : Int) (w : Rat) (compactBit : Bool)
  | clear
  | reweight (w : Rat)
  | sortRead

/-- admissible arguments: int32 indexes, weights `≥ 0`, reweighting factors `> 0` -/
def Op.ok : Op → Prop
  | .add i w _ => Idx32 i ∧ 0 ≤ w
  | .clear => True
  | .reweight w => 0 < w
  | .sortRead => True

def step (s : PStore) : Op → Option PStore
  | .add i w b => s.addWithCount i w b
  | .clear => some s.clear
  | .reweight w => s.reweight w
  | .sortRead => some s.sortRead

def run (s : PStore) (ops : List Op) : Option PStore := ops.foldlM step s

/-- the spec-level effect of an operation on the content -/
def specStep (c : Content) : Op → Content
  | .add i w _ => c.add i w
  | .clear => []
  | .reweight w => c.scale w
  | .sortRead => c

def specRun (c : Content) (ops : List Op) : Content := ops.foldl specStep c

theorem step_content (s : PStore) (h : Inv s) (op : Op) (hop : op.ok) :
    ∃ s', step s op = some s' ∧ Inv s' ∧ content s' = specStep (content s) op := by
  cases op with
  | add i w b => exact add_content s h i hop.1 w hop.2 b
  | clear => exact ⟨_, rfl, clear_content s h⟩
  | reweight w => exact reweight_content s h w hop
  | sortRead => exact ⟨_, rfl, sortRead_content s h⟩

theorem run_content (ops : List Op) (hops : ∀ op ∈ ops, op.ok) (s : PStore) (h : Inv s) :
    ∃ s', run s ops = some s' ∧ Inv s' ∧ content s' = specRun (content s) ops :=
  foldlM_sim (R := fun s c => Inv s ∧ content s = c) ops
    (fun op hop s _ ⟨h, hc⟩ => hc ▸ step_content s h op (hops op hop)) ⟨h, rfl⟩

/-- every history of admissible operations (arbitrary compaction bits) from `PStore.new` succeeds,
    keeps `Inv`, and holds pointwise the weights of the spec content accumulated by the same ops -/
theorem run_ok (ops : List Op) (hops : ∀ op ∈ ops, op.ok) :
    ∃ s, run PStore.new ops = some s ∧ Inv s ∧ ∀ j, wt s j = (specRun [] ops).lookup j := by
  obtain ⟨s, h1, h2, h3⟩ := run_content ops hops PStore.new inv_new
  exact ⟨s, h1, h2, fun j => by rw [← lookup_content s h2, h3, content_new]⟩

end PStore
end DDS
