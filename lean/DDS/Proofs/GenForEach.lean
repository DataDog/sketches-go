/-
  DDS.Proofs.GenForEach — the REGENERATED state-passing `ForEach` of the three stores
  (`DDS/Generated/CodeDenseIter.lean`, `CodeSparseIter.lean`, `CodePaginatedIter.lean`; the translator's convention:
  `ForEach {σ} fuel … (st : σ) (f : σ → Int → Rat → Res (σ × Bool)) : Res (σ × …)`, the state is threaded through every
  call of `f`, a visitor answering `true` stops the iteration) is the stop-aware left fold `visitS` of the visitor
  over the hand model's list of bins.

  `visitS f st l`: call `f st i c` on each bin `(i, c)` of `l` in order, threading the state; stop with the state the
  visitor returned as soon as it answers `true`; `.panic` / `.nofuel` of the visitor propagate (`visitS_cons`).

  1. DENSE (`DDS.Gen.DenseIter.DenseStore.ForEach`, model `DStore`, embedding `GenDense.toGen`)
     * `dense_forEach_eq_walk` (every store, no hypothesis but fuel): `ForEach fuel (toGen s) st f
         = denseWalk s f st (idxRange s.minIndex s.maxIndex)` — the checked walk over the window (out-of-range read =
       panic, non-positive counts skipped); fuel `denseFuel s = (maxIndex - minIndex + 1).toNat + 1`.
       `dense_forEach_gen`: the same for every generated store `g` through `ofGen`.
     * `dense_forEach_eq_visitS` (MAIN): `s.binsList = some bins → ForEach fuel (toGen s) st f = visitS f st bins`;
       `dense_forEach_inv`: under `DStore.Inv s` such a `bins` exists.
     * `dense_forEach_panic`: `s.binsList = none`, visitor total and never stopping ⇒ `.panic` (as the model);
       both from `denseWalk_spec`, the walk against the fold that defines `binsList`.
     * DIFFERENCE (not reachable under `Inv`): the model's `binsList` is all-or-nothing, the generated loop is lazy:
       `lazyEx_binsList` / `lazyEx_forEach` — window leaving the array, `binsList = none`, yet a visitor that stops
       on the first bin gets `.ok`.
  2. PAGINATED (`DDS.Gen.PaginatedIter.BufferedPaginatedStore.ForEach`, model `PStore`, embedding `GenPag.toGen s cap`)
     * `pag_forEach_eq_visitS` (MAIN; every store, capacity, visitor; NO invariant):
         `ForEach fuel (toGen s cap) st f = (visitS f st s.binsList).bind (fun st' => .ok (st', toGen s.sortRead cap))`
       when `GenPag.forEachFuel s = s.buffer.length + 1 ≤ fuel`.  The loops are analysed in `GenPagIter`
       (`GenPag.forEachS_eq_visitSR`), where the callback version of `ForEach` is obtained from this one at `σ = Unit`.
  3. SPARSE (`DDS.Gen.SparseIter.SparseStore.ForEach`)
     * `sparse_forEach_eq_visitS` (every store, every oracle, ANY fuel — the loop is structural):
         `ForEach fuel ord g st f = visitS f st (mrange ord g.counts)`.
     * `sparse_forEach_model`: `RepS g c`, `ord.Lawful` ⇒ `… = visitS f st (mrange ord c) ∧ (mrange ord c).Perm c`;
       `sparse_forEach_ascending`: with `MapOrder.ascending` the list is the model's content `c` itself.
  COROLLARIES (generic: `visitS_collect`, `visitS_logStop`, `visitS_total`, `visitS_pred`; per store `*_forEach_collect`,
  `*_forEach_logStop`):
     (a) the collecting visitor `collect = fun acc i c => .ok (acc ++ [(i, c)], false)` ends with `acc ++ bins`;
     (b) `logStop p = fun acc i c => .ok (acc ++ [(i, c)], p i c)` (records every call, stops at the first bin satisfying
         `p`) ends with `acc ++ uptoFirst p bins`: the visitor is called exactly on the bins up to and including the
         first one satisfying `p` — iteration stops as soon as asked.
  No disagreement between generated code and model on reachable stores.
-/
import DDS.Generated.CodeDenseIter
import DDS.Generated.CodeSparseIter
import DDS.Generated.CodePaginatedIter
import DDS.Proofs.GenDenseBase
import DDS.Proofs.GenSparse
import DDS.Proofs.GenPagIter

namespace DDS.GenForEach

open DDS DDS.GoSem

/-! ## the walker -/

/-- the stop-aware left fold of a state-passing visitor over a list of bins -/
def visitS {σ : Type} (f : σ → Int → Rat → Res (σ × Bool)) : σ → List (Int × Rat) → Res σ
  | st, [] => .ok st
  | st, (i, c) :: rest => (f st i c).bind (fun r => if r.2 then .ok r.1 else visitS f r.1 rest)

theorem visitS_nil {σ : Type} (f : σ → Int → Rat → Res (σ × Bool)) (st : σ) : visitS f st [] = .ok st := rfl

theorem visitS_cons {σ : Type} (f : σ → Int → Rat → Res (σ × Bool)) (st : σ) (i : Int) (c : Rat)
    (rest : List (Int × Rat)) :
    visitS f st ((i, c) :: rest) =
      match f st i c with
      | .ok (st', true) => .ok st'
      | .ok (st', false) => visitS f st' rest
      | .panic => .panic
      | .nofuel => .nofuel := by
  simp only [visitS]
  cases f st i c with
  | ok r =>
    obtain ⟨st', b⟩ := r
    cases b <;> rfl
  | panic => rfl
  | nofuel => rfl

/-! ## corollaries about particular visitors (any list of bins) -/

/-- the prefix of `l` up to and including the first bin on which `p` answers `true` -/
def uptoFirst (p : Int → Rat → Bool) (l : List (Int × Rat)) : List (Int × Rat) :=
  l.takeWhile (fun x => !p x.1 x.2) ++ (l.dropWhile (fun x => !p x.1 x.2)).take 1

theorem uptoFirst_nil (p : Int → Rat → Bool) : uptoFirst p [] = [] := rfl

theorem uptoFirst_cons (p : Int → Rat → Bool) (i : Int) (c : Rat) (rest : List (Int × Rat)) :
    uptoFirst p ((i, c) :: rest) = (i, c) :: (if p i c then [] else uptoFirst p rest) :=
  GenPag.uptoFirst_cons p i c rest

theorem uptoFirst_false (l : List (Int × Rat)) : uptoFirst (fun _ _ => false) l = l :=
  GenPag.uptoFirst_false l

/-- the collecting visitor (what `ToProto`-style closures and the `MergeWith` fallbacks are): never stops -/
def collect : List (Int × Rat) → Int → Rat → Res (List (Int × Rat) × Bool) :=
  fun acc i c => .ok (acc ++ [(i, c)], false)

/-- a visitor that records every call it receives and asks to stop at the first bin satisfying `p` -/
def logStop (p : Int → Rat → Bool) : List (Int × Rat) → Int → Rat → Res (List (Int × Rat) × Bool) :=
  fun acc i c => .ok (acc ++ [(i, c)], p i c)

/-- (b) the calls received are exactly the bins up to and including the first one satisfying `p` -/
theorem visitS_logStop (p : Int → Rat → Bool) (l : List (Int × Rat)) : ∀ acc : List (Int × Rat),
    visitS (logStop p) acc l = .ok (acc ++ uptoFirst p l) := by
  induction l with
  | nil => intro acc; simp [visitS, uptoFirst_nil]
  | cons x rest ih =>
    intro acc
    obtain ⟨i, c⟩ := x
    rw [uptoFirst_cons]
    simp only [visitS, logStop, Res.bind_ok]
    cases hp : p i c with
    | true => simp
    | false =>
      have := ih (acc ++ [(i, c)])
      simp [this]

/-- (a) the collecting visitor ends with exactly the list of bins appended to its state -/
theorem visitS_collect (l : List (Int × Rat)) (acc : List (Int × Rat)) :
    visitS collect acc l = .ok (acc ++ l) := by
  have h := visitS_logStop (fun _ _ => false) l acc
  rw [uptoFirst_false] at h
  exact h

/-- a visitor that never stops and never fails is the plain left fold -/
theorem visitS_total {σ : Type} (step : σ → Int → Rat → σ) (l : List (Int × Rat)) : ∀ st : σ,
    visitS (fun st i c => .ok (step st i c, false)) st l = .ok (l.foldl (fun st x => step st x.1 x.2) st) := by
  induction l with
  | nil => intro st; rfl
  | cons x rest ih =>
    intro st
    obtain ⟨i, c⟩ := x
    simp only [visitS, Res.bind_ok, List.foldl_cons]
    exact ih _

/-- a stop predicate on the bin alone with a pure state update: the fold over `uptoFirst p l` -/
theorem visitS_pred {σ : Type} (step : σ → Int → Rat → σ) (p : Int → Rat → Bool) (l : List (Int × Rat)) :
    ∀ st : σ,
    visitS (fun st i c => .ok (step st i c, p i c)) st l
      = .ok ((uptoFirst p l).foldl (fun st x => step st x.1 x.2) st) := by
  induction l with
  | nil => intro st; rfl
  | cons x rest ih =>
    intro st
    obtain ⟨i, c⟩ := x
    rw [uptoFirst_cons]
    simp only [visitS, Res.bind_ok, List.foldl_cons]
    cases hp : p i c with
    | true => simp
    | false => simpa using ih _

/-! ## 1. the dense store -/

section Dense
open DDS.DStore DDS.GenDense
open DDS.Gen.DenseIter

/-- the walk over the window as the generated code does it: checked read, skip non-positive counts -/
def denseWalk {σ : Type} (s : DStore) (f : σ → Int → Rat → Res (σ × Bool)) : σ → List Int → Res σ
  | st, [] => .ok st
  | st, idx :: rest =>
    match rd s.bins (idx - s.offset) with
    | none => .panic
    | some c =>
      if 0 < c then (f st idx c).bind (fun r => if r.2 then .ok r.1 else denseWalk s f r.1 rest)
      else denseWalk s f st rest

/-- fuel: one iteration per index of the window, one more to see the end -/
def denseFuel (s : DStore) : Nat := (s.maxIndex - s.minIndex + 1).toNat + 1

theorem dense_loop1 {σ : Type} (s : DStore) (f : σ → Int → Rat → Res (σ × Bool)) :
    ∀ (n : Nat) (fuel : Nat) (lo : Int) (st : σ), n = (s.maxIndex - lo + 1).toNat → n + 1 ≤ fuel →
      Loop.elim (DenseStore.ForEach.loop1 (GenDense.toGen s) f fuel st lo) (fun x => .ok x.1)
        = denseWalk s f st (irange lo n) := by
  intro n
  induction n with
  | zero =>
    intro fuel lo st hn hf
    obtain ⟨fuel, rfl⟩ := Nat.exists_eq_add_one_of_ne_zero (Nat.ne_of_gt hf)
    rw [DenseStore.ForEach.loop1, if_neg (by rw [decide_eq_true_eq]; show ¬ lo ≤ s.maxIndex; omega)]
    rfl
  | succ n ih =>
    intro fuel lo st hn hf
    obtain ⟨fuel, rfl⟩ := Nat.exists_eq_add_one_of_ne_zero (Nat.ne_of_gt (Nat.lt_of_lt_of_le (Nat.succ_pos _) hf))
    have hle : lo ≤ (GenDense.toGen s).maxIndex ∧ n = (s.maxIndex - (lo + 1) + 1).toNat := by
      show lo ≤ s.maxIndex ∧ _; omega
    rw [DenseStore.ForEach.loop1, if_pos (decide_eq_true hle.1), irange_succ_left]
    simp only [toGen_bins, toGen_offset, idx_toList, denseWalk]
    cases hrd : rd s.bins (lo - s.offset) with
    | none => rfl
    | some c =>
      simp only [optL_some, decide_eq_true_eq]
      by_cases hc : 0 < c
      · rw [if_pos hc, if_pos hc]
        cases f st lo c with
        | ok r =>
          obtain ⟨st', b⟩ := r
          cases b with
          | true => rfl
          | false => exact ih fuel (lo + 1) st' hle.2 (Nat.le_of_succ_le_succ hf)
        | panic => rfl
        | nofuel => rfl
      · rw [if_neg hc, if_neg hc]
        exact ih fuel (lo + 1) st hle.2 (Nat.le_of_succ_le_succ hf)

/-- MAIN (dense, every store): `ForEach` is the checked walk over the window `minIndex … maxIndex` -/
theorem dense_forEach_eq_walk {σ : Type} (s : DStore) (st : σ) (f : σ → Int → Rat → Res (σ × Bool)) (fuel : Nat)
    (hf : denseFuel s ≤ fuel) :
    DenseStore.ForEach fuel (GenDense.toGen s) st f = denseWalk s f st (idxRange s.minIndex s.maxIndex) := by
  unfold DenseStore.ForEach
  rw [idxRange_eq]
  exact dense_loop1 s f _ fuel s.minIndex st rfl hf

/-- every generated `DenseStore` (not only images of model stores): the same equation through `ofGen` -/
theorem dense_forEach_gen {σ : Type} (g : GS) (st : σ) (f : σ → Int → Rat → Res (σ × Bool)) (fuel : Nat)
    (hf : denseFuel (ofGen g) ≤ fuel) :
    DenseStore.ForEach fuel g st f = denseWalk (ofGen g) f st (idxRange g.minIndex g.maxIndex) := by
  have h := dense_forEach_eq_walk (ofGen g) st f fuel hf
  rw [toGen_ofGen] at h
  exact h

/-- the walk against the model's all-or-nothing list (`G` is the body of its fold): the fold of the visitor over it
    when it exists; when it does not, a visitor that never stops and never fails reaches the bad index -/
theorem denseWalk_spec {σ : Type} (s : DStore) (f : σ → Int → Rat → Res (σ × Bool))
    (G : Int → List (Int × Rat) → Option (List (Int × Rat)))
    (hG : ∀ idx acc, G idx acc = (rd s.bins (idx - s.offset)).bind fun c => some (if c > 0 then (idx, c) :: acc else acc)) :
    ∀ (l : List Int) (st : σ),
    match l.foldrM G [] with
    | some bins => denseWalk s f st l = visitS f st bins
    | none => (∀ st i c, ∃ st', f st i c = .ok (st', false)) → denseWalk s f st l = .panic := by
  intro l
  induction l with
  | nil => intro st; rfl
  | cons idx rest ih =>
    intro st
    rw [List.foldrM_cons, denseWalk]
    cases hrd : rd s.bins (idx - s.offset) with
    | none =>
      cases rest.foldrM G [] with
      | none => exact fun _ => rfl
      | some acc => rw [Option.bind_eq_bind, Option.bind_some, hG, hrd]; exact fun _ => rfl
    | some c =>
      dsimp only
      cases hacc : rest.foldrM G [] with
      | none =>
        intro htot
        rw [hacc] at ih
        by_cases hc : 0 < c
        · obtain ⟨st', hst'⟩ := htot st idx c
          rw [if_pos hc, hst']
          exact ih st' htot
        · rw [if_neg hc]
          exact ih st htot
      | some acc =>
        rw [hacc] at ih
        rw [Option.bind_eq_bind, Option.bind_some, hG, hrd, Option.bind_some]
        by_cases hc : 0 < c
        · simp only [if_pos hc, gt_iff_lt, visitS, ih]
        · simp only [if_neg hc, gt_iff_lt]
          exact ih st

theorem denseWalk_binsList {σ : Type} (s : DStore) (f : σ → Int → Rat → Res (σ × Bool)) (st : σ) :
    match s.binsList with
    | some bins => denseWalk s f st (idxRange s.minIndex s.maxIndex) = visitS f st bins
    | none => (∀ st i c, ∃ st', f st i c = .ok (st', false)) →
        denseWalk s f st (idxRange s.minIndex s.maxIndex) = .panic :=
  denseWalk_spec s f _ (fun _ _ => rfl) _ st

/-- MAIN (dense): the regenerated stateful `ForEach` is the stop-aware fold over the model's `binsList` -/
theorem dense_forEach_eq_visitS {σ : Type} (s : DStore) (bins : List (Int × Rat)) (hb : s.binsList = some bins)
    (st : σ) (f : σ → Int → Rat → Res (σ × Bool)) (fuel : Nat) (hf : denseFuel s ≤ fuel) :
    DenseStore.ForEach fuel (GenDense.toGen s) st f = visitS f st bins := by
  rw [dense_forEach_eq_walk s st f fuel hf]
  have h := denseWalk_binsList s f st
  rwa [hb] at h

/-- the invariant of the dense store makes `binsList` succeed: the equation holds for every reachable store -/
theorem dense_forEach_inv {σ : Type} (s : DStore) (h : DStore.Inv s)
    (st : σ) (f : σ → Int → Rat → Res (σ × Bool)) (fuel : Nat) (hf : denseFuel s ≤ fuel) :
    ∃ bins, s.binsList = some bins ∧ DenseStore.ForEach fuel (GenDense.toGen s) st f = visitS f st bins := by
  obtain ⟨l, hl, _⟩ := DStore.binsList_spec s h
  exact ⟨l, hl, dense_forEach_eq_visitS s l hl st f fuel hf⟩

/-- the model's `binsList` fails (an index of the window lies outside the array, impossible under `Inv`): a visitor
    that never stops and never fails reaches the bad index, `ForEach` panics like the model -/
theorem dense_forEach_panic {σ : Type} (s : DStore) (hb : s.binsList = none) (st : σ)
    (f : σ → Int → Rat → Res (σ × Bool)) (htot : ∀ st i c, ∃ st', f st i c = .ok (st', false))
    (fuel : Nat) (hf : denseFuel s ≤ fuel) :
    DenseStore.ForEach fuel (GenDense.toGen s) st f = .panic := by
  rw [dense_forEach_eq_walk s st f fuel hf]
  have h := denseWalk_binsList s f st
  rw [hb] at h
  exact h htot

/-- … but the generated iteration is LAZY where the model's list is all-or-nothing: on a store whose window leaves
    the array (`binsList = none`), a visitor that stops before the bad index gets its answer.  (Not reachable: `Inv`
    keeps the window inside the array.) -/
def lazyEx : DStore :=
  { kind := .plain, bins := #[1], count := 1, offset := 0, minIndex := 0, maxIndex := 1, isCollapsed := false }

theorem lazyEx_binsList : lazyEx.binsList = none := by decide

theorem lazyEx_forEach :
    DenseStore.ForEach 3 (GenDense.toGen lazyEx) ([] : List (Int × Rat)) (logStop (fun _ _ => true))
      = .ok [(0, 1)] := by
  rw [dense_forEach_eq_walk lazyEx _ _ 3 (by decide)]
  have h0 : rd lazyEx.bins (0 - lazyEx.offset) = some 1 := by decide
  have hr : idxRange lazyEx.minIndex lazyEx.maxIndex = [0, 1] := by decide
  rw [hr]
  simp only [denseWalk, h0]
  rw [if_pos (by decide)]
  rfl

/-- (a) dense: the collecting visitor ends with exactly the model's bins -/
theorem dense_forEach_collect (s : DStore) (bins : List (Int × Rat)) (hb : s.binsList = some bins)
    (acc : List (Int × Rat)) (fuel : Nat) (hf : denseFuel s ≤ fuel) :
    DenseStore.ForEach fuel (GenDense.toGen s) acc collect = .ok (acc ++ bins) := by
  rw [dense_forEach_eq_visitS s bins hb acc collect fuel hf, visitS_collect]

/-- (b) dense: a visitor that stops at the first bin satisfying `p` is called exactly on the bins up to and
    including that one -/
theorem dense_forEach_logStop (s : DStore) (bins : List (Int × Rat)) (hb : s.binsList = some bins)
    (p : Int → Rat → Bool) (acc : List (Int × Rat)) (fuel : Nat) (hf : denseFuel s ≤ fuel) :
    DenseStore.ForEach fuel (GenDense.toGen s) acc (logStop p) = .ok (acc ++ uptoFirst p bins) := by
  rw [dense_forEach_eq_visitS s bins hb acc (logStop p) fuel hf, visitS_logStop]

end Dense

/-! ## 2. the paginated store -/

section Pag
open DDS.GenPag
open DDS.Gen.PaginatedIter

/-- with the same wrapper at the end, `visitSR` is `visitS` followed by the wrapper -/
theorem visitSR_eq_visitS {σ ρ : Type} (f : σ → Int → Rat → Res (σ × Bool)) (mk : σ → ρ)
    (l : List (Int × Rat)) : ∀ st : σ,
    visitSR f mk st l (fun st' => .ok (mk st')) = (visitS f st l).bind (fun st' => .ok (mk st')) := by
  induction l with
  | nil => intro st; rfl
  | cons p l ih =>
    intro st
    obtain ⟨i, c⟩ := p
    simp only [visitSR, visitS]
    cases f st i c with
    | ok r =>
      obtain ⟨st', b⟩ := r
      cases b with
      | false => exact ih st'
      | true => rfl
    | panic => rfl
    | nofuel => rfl

/-- MAIN (paginated, every store, capacity, visitor; no invariant): the regenerated stateful `ForEach` is the
    stop-aware fold over the model's `binsList`, and returns the store with its buffer sorted -/
theorem pag_forEach_eq_visitS {σ : Type} (s : PStore) (cap : Int) (st : σ) (f : σ → Int → Rat → Res (σ × Bool))
    (fuel : Nat) (hf : forEachFuel s ≤ fuel) :
    BufferedPaginatedStore.ForEach fuel (toGen s cap) st f
      = (visitS f st s.binsList).bind (fun st' => .ok (st', toGen s.sortRead cap)) := by
  rw [forEachS_eq_visitSR f s cap st fuel hf]
  exact visitSR_eq_visitS f (fun x => (x, toGen s.sortRead cap)) _ st

/-- (a) paginated: the collecting visitor ends with exactly the model's `binsList` -/
theorem pag_forEach_collect (s : PStore) (cap : Int) (acc : List (Int × Rat)) (fuel : Nat)
    (hf : forEachFuel s ≤ fuel) :
    BufferedPaginatedStore.ForEach fuel (toGen s cap) acc collect
      = .ok (acc ++ s.binsList, toGen s.sortRead cap) := by
  rw [pag_forEach_eq_visitS s cap acc collect fuel hf, visitS_collect]
  rfl

/-- (b) paginated: a visitor that stops at the first bin satisfying `p` is called exactly on the bins up to and
    including that one -/
theorem pag_forEach_logStop (s : PStore) (cap : Int) (p : Int → Rat → Bool) (acc : List (Int × Rat)) (fuel : Nat)
    (hf : forEachFuel s ≤ fuel) :
    BufferedPaginatedStore.ForEach fuel (toGen s cap) acc (logStop p)
      = .ok (acc ++ uptoFirst p s.binsList, toGen s.sortRead cap) := by
  rw [pag_forEach_eq_visitS s cap acc (logStop p) fuel hf, visitS_logStop]
  rfl

end Pag

/-! ## 3. the sparse store -/

section Sparse
open DDS.GenSparse
open DDS.Gen.Sparse DDS.Gen.SparseIter

theorem sparse_loop1 {σ : Type} (f : σ → Int → Rat → Res (σ × Bool)) : ∀ (l : List (Int × Rat)) (st : σ),
    Loop.elim (SparseStore.ForEach.loop1 f l st) (fun st' => .ok st') = visitS f st l := by
  intro l
  induction l with
  | nil => intro st; rfl
  | cons p l ih =>
    intro st
    obtain ⟨i, c⟩ := p
    unfold SparseStore.ForEach.loop1
    simp only [visitS]
    cases f st i c with
    | ok r =>
      obtain ⟨st', b⟩ := r
      cases b with
      | true => rfl
      | false => exact ih st'
    | panic => rfl
    | nofuel => rfl

/-- MAIN (sparse, every store, every oracle, any fuel): `ForEach` is the fold over the entries in the order the
    oracle enumerates the map -/
theorem sparse_forEach_eq_visitS {σ : Type} (fuel : Nat) (ord : MapOrder) (g : SparseStore) (st : σ)
    (f : σ → Int → Rat → Res (σ × Bool)) :
    SparseStore.ForEach fuel ord g st f = visitS f st (mrange ord g.counts) := by
  unfold SparseStore.ForEach
  exact sparse_loop1 f _ st

/-- against the model content `c`: for a lawful oracle the enumerated bins are a permutation of the model's bins -/
theorem sparse_forEach_model {σ : Type} {g : SparseStore} {c : Content} (h : RepS g c) (fuel : Nat)
    (ord : MapOrder) (hl : ord.Lawful) (st : σ) (f : σ → Int → Rat → Res (σ × Bool)) :
    SparseStore.ForEach fuel ord g st f = visitS f st (mrange ord c) ∧ (mrange ord c).Perm c := by
  refine ⟨?_, mrange_perm ord hl c h.2⟩
  rw [sparse_forEach_eq_visitS, h.1]

/-- with the ascending oracle the bins are the model's list itself -/
theorem sparse_forEach_ascending {σ : Type} {g : SparseStore} {c : Content} (h : RepS g c) (fuel : Nat)
    (st : σ) (f : σ → Int → Rat → Res (σ × Bool)) :
    SparseStore.ForEach fuel MapOrder.ascending g st f = visitS f st c := by
  rw [sparse_forEach_eq_visitS, h.1, mrange_ascending c h.2]

/-- (a) sparse: the collecting visitor ends with the entries in the oracle's order, a permutation of the content -/
theorem sparse_forEach_collect {g : SparseStore} {c : Content} (h : RepS g c) (fuel : Nat)
    (ord : MapOrder) (hl : ord.Lawful) (acc : List (Int × Rat)) :
    SparseStore.ForEach fuel ord g acc collect = .ok (acc ++ mrange ord c) ∧ (mrange ord c).Perm c := by
  refine ⟨?_, mrange_perm ord hl c h.2⟩
  rw [sparse_forEach_eq_visitS, h.1, visitS_collect]

/-- (b) sparse: a visitor that stops at the first entry satisfying `p` is called exactly on the entries up to and
    including that one (in the oracle's order) -/
theorem sparse_forEach_logStop (fuel : Nat) (ord : MapOrder) (g : SparseStore) (p : Int → Rat → Bool)
    (acc : List (Int × Rat)) :
    SparseStore.ForEach fuel ord g acc (logStop p) = .ok (acc ++ uptoFirst p (mrange ord g.counts)) := by
  rw [sparse_forEach_eq_visitS, visitS_logStop]

end Sparse

end DDS.GenForEach
