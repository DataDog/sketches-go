/-
  DDS.Proofs.Extremes — what the clauses of property C12 about `GetMinValue`, `GetMaxValue`,
  `GetSum` rest on (the statements for the reader, and the sketch-level proofs, are in
  `DDS.Props.C12x`).

  * A. minimum / maximum index and emptiness of a unit-weight content
  * B. `getMin` / `getMax` of the sketch built by unit adds: the bin representative of the true
       extreme (`getMin_core`; `getMax_core` is the minimum of the mirrored sketch, as everywhere:
       `getMax_eq_neg_getMin`)
  * C. the exact (rational) approximate sum `approxSumQ` and its accuracy (`approxSumQ_units`,
       `sum_err`); the float fold of `GetSum()` under `SumExact` (`getSum_of_exact`)
  * D. every non-collapsing store kind observes like the spec sketch (`obs_eq_spec`)
  * E. collapsing stores: extreme indexes of `specLow` / `specHigh` (the clamped extremes of C05),
       what `getMin` / `getMax` report on them, and which inputs leave a side or the zero bucket
       non-empty
-/
import DDS.Props.Lift
import DDS.Props.C12

set_option linter.unusedVariables false
set_option linter.unusedSectionVars false

namespace DDS.Extremes

open DDS Content DDS.Lift

/-! ## A. extreme indexes and emptiness of a unit-weight content -/

theorem maxIndex_unitsOf (I : List Int) (k : Int) (hk : k ∈ I) (hub : ∀ i ∈ I, i ≤ k) :
    (unitsOf I).maxIndex? = some k :=
  maxIndex?_eq_of _ (wf_unitsOf I).1 k (key_mem_unitsOf hk) (fun p hp => hub _ (mem_unitsOf hp))

theorem minIndex_unitsOf (I : List Int) (k : Int) (hk : k ∈ I) (hlb : ∀ i ∈ I, k ≤ i) :
    (unitsOf I).minIndex? = some k :=
  minIndex?_eq_of _ (wf_unitsOf I).1 k (key_mem_unitsOf hk) (fun p hp => hlb _ (mem_unitsOf hp))

theorem maxIndex_units_sorted (f : Rat → Int) (L : List Rat) (hs : (L.map f).Pairwise (· ≤ ·))
    (h : 0 < L.length) : (unitsOf (L.map f)).maxIndex? = some (f L[L.length - 1]) := by
  apply maxIndex_unitsOf _ _ (List.mem_map_of_mem (List.getElem_mem _))
  intro i hi
  obtain ⟨x, hx, rfl⟩ := List.mem_map.1 hi
  exact pairwise_last (R := fun a b => f a ≤ f b) (fun _ => le_rfl) (List.pairwise_map.1 hs) h x hx

theorem minIndex_units_sorted (f : Rat → Int) (L : List Rat) (hs : (L.map f).Pairwise (· ≤ ·))
    (h : 0 < L.length) : (unitsOf (L.map f)).minIndex? = some (f L[0]) := by
  apply minIndex_unitsOf _ _ (List.mem_map_of_mem (List.getElem_mem _))
  intro i hi
  obtain ⟨x, hx, rfl⟩ := List.mem_map.1 hi
  exact pairwise_first (R := fun a b => f a ≤ f b) (fun _ => le_rfl) (List.pairwise_map.1 hs) h x hx

theorem isEmpty_unitsOf_map (f : Rat → Int) (L : List Rat) :
    (unitsOf (L.map f)).isEmpty = L.isEmpty := by
  cases L with
  | nil => rfl
  | cons x xs =>
    have hne : unitsOf ((x :: xs).map f) ≠ [] := unitsOf_ne_nil (by simp)
    cases hc : unitsOf ((x :: xs).map f) with
    | nil => exact absurd hc hne
    | cons p r => rfl

/-! ## B. `getMin` / `getMax` after unit adds -/

/-- the bin representative is an odd function of the value -/
theorem binRep_odd (env : MapEnv) (y : Rat) : binRep env (-y) = F64.neg (binRep env y) := by
  rcases lt_trichotomy y 0 with h | rfl | h
  · have := binRep_neg env (x := -y) (by linarith)
    rw [neg_neg] at this
    rw [binRep_pos env (by linarith), idxOf_neg, this, F64.neg_neg, idxOf_neg]
  · rw [neg_zero, binRep_zero]; rfl
  · rw [binRep_neg env h, binRep_pos env h]

section core
variable (env : MapEnv) (α mn mx : Rat) (C : Contract env α mn mx)
include C

/-- **core (minimum)**: on the sketch holding the unit contents of the sorted magnitudes `M`
    (negative side), `z` zeros and the sorted positives `P`, `GetMinValue` is the bin
    representative of the first element of the ground truth -/
theorem getMin_core (m : Option MapId) (P M : List Rat) (z : Nat)
    (hP : P.Pairwise (· ≤ ·)) (hM : M.Pairwise (· ≤ ·))
    (hPr : ∀ x ∈ P, mn < x ∧ x ≤ mx) (hMr : ∀ x ∈ M, mn < x ∧ x ≤ mx)
    (hn1 : 1 ≤ M.length + z + P.length) :
    (Sketch.spec m (unitsOf (P.map (idxOf env))) (unitsOf (M.map (idxOf env)))
        (.fin (z : Rat))).getMin env
      = .ok (binRep env ((threeWay M z P)[0]!)) := by
  have hmn := C.minPos
  rw [getMin_sp, isEmpty_unitsOf_map, F64.gt_fin]
  rcases eq_or_ne M [] with rfl | hM0
  · rw [if_neg (by simp)]
    by_cases hz : 0 < z
    · rw [if_pos (decide_eq_true (by exact_mod_cast hz)),
        threeWay_get_zero [] z P 0 (by simp) (by simpa using hz), binRep_zero]
    · obtain rfl : z = 0 := by omega
      have hPl : 0 < P.length := by simp at hn1; omega
      rw [if_neg (by simp), minIndex_units_sorted _ P (idx_pairwise env α mn mx C P hP hPr) hPl]
      have := threeWay_get_pos [] 0 P 0 hPl
      simp only [List.length_nil, Nat.add_zero] at this
      rw [this, binRep_pos env (by linarith [(hPr _ (List.getElem_mem hPl)).1])]
  · have hMl : 0 < M.length := List.length_pos_iff.2 hM0
    rw [if_pos (by simp [hM0]),
      maxIndex_units_sorted _ M (idx_pairwise env α mn mx C M hM hMr) hMl,
      threeWay_get_neg M z P 0 (M.length - 1) (by omega),
      binRep_neg env (by linarith [(hMr _ (List.getElem_mem (show M.length - 1 < M.length by omega))).1])]

/-- **core (maximum)**: the minimum of the mirrored sketch (`getMax_eq_neg_getMin`), whose ground
    truth is the negated, reversed one -/
theorem getMax_core (m : Option MapId) (P M : List Rat) (z : Nat)
    (hP : P.Pairwise (· ≤ ·)) (hM : M.Pairwise (· ≤ ·))
    (hPr : ∀ x ∈ P, mn < x ∧ x ≤ mx) (hMr : ∀ x ∈ M, mn < x ∧ x ≤ mx)
    (hn1 : 1 ≤ M.length + z + P.length) :
    (Sketch.spec m (unitsOf (P.map (idxOf env))) (unitsOf (M.map (idxOf env)))
        (.fin (z : Rat))).getMax env
      = .ok (binRep env ((threeWay M z P)[M.length + z + P.length - 1]!)) := by
  have hl := length_threeWay M z P
  rw [getMax_eq_neg_getMin, getMin_core env α mn mx C m M P z hM hP hMr hPr (by omega),
    threeWay_mirror, getElem!_pos _ 0 (by simp; omega), List.getElem_reverse, List.getElem_map,
    binRep_odd, getElem!_pos _ _ (by omega)]
  simp only [List.length_map, hl, Nat.sub_zero, Except.map, F64.neg_neg]

end core

/-! ## C. the approximate sum -/

def ratOfF : F64 → Rat
  | .fin r => r
  | _ => 0

theorem ratOfF_value (env : MapEnv) (k : Int) : ratOfF (env.value k) = valQ env k := by
  unfold ratOfF valQ; cases env.value k <;> rfl

theorem ratOfF_neg (x : F64) : ratOfF (F64.neg x) = -ratOfF x := by
  cases x <;> simp [ratOfF, F64.neg]

def approxSumL (l : List (F64 × Rat)) : Rat := (l.map (fun p => ratOfF p.1 * p.2)).sum

theorem approxSumL_append (l₁ l₂ : List (F64 × Rat)) :
    approxSumL (l₁ ++ l₂) = approxSumL l₁ + approxSumL l₂ := by
  simp [approxSumL]

def fsumC (f : Int → Rat) (c : List (Int × Rat)) : Rat := (c.map (fun b => f b.1 * b.2)).sum

@[simp] theorem fsumC_nil (f : Int → Rat) : fsumC f [] = 0 := rfl
@[simp] theorem fsumC_cons (f : Int → Rat) (p : Int × Rat) (c : List (Int × Rat)) :
    fsumC f (p :: c) = f p.1 * p.2 + fsumC f c := by
  simp [fsumC]

theorem fsumC_add (f : Int → Rat) (c : Content) (i : Int) (w : Rat) :
    fsumC f (c.add i w) = fsumC f c + f i * w := by
  induction c with
  | nil =>
    rw [add_nil]
    split
    · rename_i h; rw [h]; simp
    · simp
  | cons p rest ih =>
    rw [add_cons]
    split
    · rename_i h; rw [h]; simp
    · split
      · simp only [fsumC_cons]; ring
      · split
        · rename_i h
          split
          · rename_i h0
            simp only [fsumC_cons]
            have : f p.1 * p.2 + f i * w = f p.1 * (p.2 + w) := by rw [h]; ring
            rw [h0] at this
            linarith
          · simp only [fsumC_cons]; rw [h]; ring
        · simp only [fsumC_cons, ih]; ring

theorem fsumC_merge (f : Int → Rat) (a : Content) (b : List (Int × Rat)) :
    fsumC f (a.merge b) = fsumC f a + fsumC f b := by
  induction b generalizing a with
  | nil => simp
  | cons p b ih => rw [merge_cons, ih, fsumC_add, fsumC_cons]; ring

theorem fsumC_unitPairs (f : Int → Rat) (I : List Int) : fsumC f (unitPairs I) = (I.map f).sum := by
  induction I with
  | nil => rfl
  | cons i I ih => simp only [unitPairs_cons, fsumC_cons, ih, List.map_cons, List.sum_cons]; ring

theorem fsumC_unitsOf (f : Int → Rat) (I : List Int) : fsumC f (unitsOf I) = (I.map f).sum := by
  unfold unitsOf
  rw [fsumC_merge, fsumC_unitPairs]; simp

theorem approxSumL_pos (env : MapEnv) (c : Content) :
    approxSumL (c.map (fun b => (env.value b.1, b.2))) = fsumC (valQ env) c := by
  induction c with
  | nil => rfl
  | cons p c ih =>
    simp only [approxSumL, List.map_cons, List.sum_cons, fsumC_cons, ratOfF_value] at ih ⊢
    rw [ih]

theorem approxSumL_neg (env : MapEnv) (c : Content) :
    approxSumL (c.map (fun b => (F64.neg (env.value b.1), b.2))) = -fsumC (valQ env) c := by
  induction c with
  | nil => simp [approxSumL]
  | cons p c ih =>
    simp only [approxSumL, List.map_cons, List.sum_cons, fsumC_cons, ratOfF_value, ratOfF_neg] at ih ⊢
    rw [ih]; ring

/-- **the exact (rational) version of `GetSum()`**: the same sum over the same enumeration,
    without rounding (`none` only if `ForEach` panics) -/
def approxSumQ (env : MapEnv) (s : Sketch) : Option Rat := (s.forEachList env).map approxSumL

/-- on a spec sketch: the zero bucket contributes 0, positive bins `r_k · w_k`, negative bins
    `−r_k · w_k` -/
theorem approxSumQ_spec (env : MapEnv) (m : Option MapId) (cp cn : Content) (zq : Rat) :
    approxSumQ env (Sketch.spec m cp cn (.fin zq)) =
      some (fsumC (valQ env) cp - fsumC (valQ env) cn) := by
  unfold approxSumQ
  rw [Props.C12.forEachList_spec]
  simp only [Option.map_some, approxSumL_append, approxSumL_pos, approxSumL_neg]
  congr 1
  have : approxSumL (if zq = 0 then [] else [(F64.fin 0, zq)]) = 0 := by
    split <;> simp [approxSumL, ratOfF]
  rw [this]; ring

theorem approxSumQ_congr (env : MapEnv) {s : Sketch} {cp cn : Content} (h : s.Refines cp cn) :
    approxSumQ env s = approxSumQ env (Sketch.spec s.mapping cp cn s.zero) := by
  unfold approxSumQ
  rw [Sketch.forEachList_congr env h]

/-- the signed representative of the bin of a (zero-collapsed) value, as a rational -/
def repQ (env : MapEnv) (y : Rat) : Rat :=
  if 0 < y then valQ env (idxOf env y)
  else if y < 0 then -(valQ env (idxOf env y))
  else 0

theorem binRep_eq_repQ {env : MapEnv} {α mn mx : Rat} (C : Contract env α mn mx) (y : Rat) :
    binRep env y = .fin (repQ env y) := by
  unfold binRep repQ
  split
  · exact value_eq C _
  · split
    · rw [value_eq C]; rfl
    · rfl

theorem repQ_acc {env : MapEnv} {α mn mx : Rat} (C : Contract env α mn mx) (y : Rat)
    (hy : y = 0 ∨ (mn < rabs y ∧ rabs y ≤ mx)) : rabs (repQ env y - y) ≤ α * rabs y := by
  obtain ⟨a, ha, hacc⟩ := binRep_acc env α mn mx C y hy
  rw [binRep_eq_repQ C] at ha
  cases ha
  exact hacc

theorem sum_map_neg_rep (env : MapEnv) (L : List Rat) (h : ∀ x ∈ L, 0 < x) :
    (L.map (fun x => repQ env (-x))).sum = -((L.map (idxOf env)).map (valQ env)).sum := by
  induction L with
  | nil => simp
  | cons x L ih =>
    have hx := h x (List.mem_cons_self ..)
    have e : repQ env (-x) = -(valQ env (idxOf env x)) := by
      unfold repQ
      rw [if_neg (by linarith), if_pos (by linarith), idxOf_neg]
    simp only [List.map_cons, List.sum_cons, e,
      ih (fun y hy => h y (List.mem_cons_of_mem _ hy))]
    ring

theorem sum_map_pos_rep (env : MapEnv) (L : List Rat) (h : ∀ x ∈ L, 0 < x) :
    (L.map (repQ env)).sum = ((L.map (idxOf env)).map (valQ env)).sum := by
  induction L with
  | nil => simp
  | cons x L ih =>
    have hx := h x (List.mem_cons_self ..)
    have e : repQ env x = valQ env (idxOf env x) := by
      unfold repQ; rw [if_pos hx]
    simp only [List.map_cons, List.sum_cons, e,
      ih (fun y hy => h y (List.mem_cons_of_mem _ hy))]

theorem sum_replicate_rep (env : MapEnv) (z : Nat) :
    ((List.replicate z (0 : Rat)).map (repQ env)).sum = 0 := by
  have : repQ env 0 = 0 := by simp [repQ]
  induction z with
  | zero => rfl
  | succ z ih => simp only [List.replicate_succ, List.map_cons, List.sum_cons, this, ih]; ring

theorem sum_rep_threeWay (env : MapEnv) (M P : List Rat) (z : Nat)
    (hM : ∀ x ∈ M, 0 < x) (hP : ∀ x ∈ P, 0 < x) :
    ((threeWay M z P).map (repQ env)).sum =
      fsumC (valQ env) (unitsOf (P.map (idxOf env))) -
        fsumC (valQ env) (unitsOf (M.map (idxOf env))) := by
  unfold threeWay
  rw [List.map_append, List.map_append, List.sum_append, List.sum_append, List.map_map,
    sum_replicate_rep, sum_map_pos_rep env P hP, fsumC_unitsOf, fsumC_unitsOf]
  have h1 : (List.map (repQ env ∘ fun x => -x) M.reverse).sum =
      (M.reverse.map (fun x => repQ env (-x))).sum := rfl
  rw [h1, sum_map_neg_rep env M.reverse (fun x hx => hM x (List.mem_reverse.1 hx)),
    List.map_reverse, List.map_reverse, List.sum_reverse]
  ring

/-- the exact approximate sum after unit adds: the sum of the signed bin representatives of the
    inputs -/
theorem approxSumQ_units (env : MapEnv) (α mn mx : Rat) (C : Contract env α mn mx)
    (xs : List Rat) (hx : ∀ x ∈ xs, rabs x ≤ mx) (hn : xs.length ≤ 2 ^ 53) (s : Sketch)
    (hs : Sketch.addAll env (Sketch.new (some env.id) .sparse) (xs.map (fun x => (x, 1))) = some s) :
    approxSumQ env s = some (((sortedInputs mn xs).map (repQ env)).sum) := by
  have hmn := C.minPos
  have hst := addAll_state env α mn mx C xs hx hn s hs
  subst hst
  rw [sortedInputs_split mn hmn xs, sum_rep_threeWay env _ _ _
    (fun x h => by linarith [(Msorted_range mn mx xs hx x h).1])
    (fun x h => by linarith [(Psorted_range mn mx xs hx x h).1])]
  exact approxSumQ_spec env (some env.id) _ _ _

/-- per-element relative accuracy adds up: the error of a sum is at most `α · Σ |x|` -/
theorem sum_err (g : Rat → Rat) (α : Rat) (l : List Rat)
    (h : ∀ y ∈ l, rabs (g y - y) ≤ α * rabs y) :
    rabs ((l.map g).sum - l.sum) ≤ α * (l.map rabs).sum := by
  induction l with
  | nil => simp [rabs]
  | cons x l ih =>
    have h1 := h x (List.mem_cons_self ..)
    have h2 := ih (fun y hy => h y (List.mem_cons_of_mem _ hy))
    simp only [List.map_cons, List.sum_cons]
    rw [rabs_eq_abs] at h1 h2 ⊢
    have e : g x + (l.map g).sum - (x + l.sum) = (g x - x) + ((l.map g).sum - l.sum) := by ring
    rw [e]
    have := abs_add_le (g x - x) ((l.map g).sum - l.sum)
    rw [mul_add]
    linarith

theorem sum_rabs_nonneg (l : List Rat) (h : ∀ y ∈ l, 0 ≤ y) : (l.map rabs).sum = rabs l.sum := by
  rw [List.map_congr_left fun y hy => (rabs_eq_abs y).trans (abs_of_nonneg (h y hy)), List.map_id',
    rabs_eq_abs, abs_of_nonneg (List.sum_nonneg h)]

theorem sum_rabs_nonpos (l : List Rat) (h : ∀ y ∈ l, y ≤ 0) : (l.map rabs).sum = rabs l.sum := by
  have hs : 0 ≤ -l.sum := by
    rw [List.sum_neg]
    exact List.sum_nonneg fun y hy => by
      obtain ⟨x, hx, rfl⟩ := List.mem_map.1 hy
      exact neg_nonneg.2 (h x hx)
  rw [List.map_congr_left fun y hy => (rabs_eq_abs y).trans (abs_of_nonpos (h y hy)),
    ← List.sum_neg, rabs_eq_abs, abs_of_nonpos (neg_nonneg.1 hs)]

/-! ### the float fold of `GetSum()` -/

/-- **exactness hypothesis of `GetSum()`**: every enumerated value is finite, every product
    `value · weight` is a float, and so is every partial sum (the sum over each prefix of the
    enumeration) -/
structure SumExact (l : List (F64 × Rat)) : Prop where
  prod : ∀ p ∈ l, ∃ r, p.1 = .fin r ∧ F64.roundF64 (r * p.2) = .fin (r * p.2)
  psum : ∀ k ≤ l.length, F64.roundF64 (approxSumL (l.take k)) = .fin (approxSumL (l.take k))

/-- the fold `sum += value * count` of `GetSum()` -/
def sumFold (acc : F64) (l : List (F64 × Rat)) : F64 :=
  l.foldl (fun acc p => F64.add acc (F64.mul p.1 (.fin p.2))) acc

theorem getSum_eq_fold (env : MapEnv) (s : Sketch) :
    s.getSum env = (s.forEachList env).map (sumFold (.fin 0)) := by
  unfold Sketch.getSum sumFold
  cases s.forEachList env <;> rfl

theorem sumFold_exact (pre l : List (F64 × Rat))
    (hprod : ∀ p ∈ l, ∃ r, p.1 = .fin r ∧ F64.roundF64 (r * p.2) = .fin (r * p.2))
    (hpart : ∀ k ≤ l.length,
      F64.roundF64 (approxSumL (pre ++ l.take k)) = .fin (approxSumL (pre ++ l.take k))) :
    sumFold (.fin (approxSumL pre)) l = .fin (approxSumL (pre ++ l)) := by
  induction l generalizing pre with
  | nil => simp [sumFold]
  | cons p l ih =>
    obtain ⟨r, hr, hp⟩ := hprod p (List.mem_cons_self ..)
    have h1 := hpart 1 (by simp)
    have e1 : approxSumL (pre ++ [p]) = approxSumL pre + r * p.2 := by
      rw [approxSumL_append]; simp [approxSumL, hr, ratOfF]
    simp only [List.take_succ_cons, List.take_zero] at h1
    have step : F64.add (.fin (approxSumL pre)) (F64.mul p.1 (.fin p.2)) =
        .fin (approxSumL (pre ++ [p])) := by
      rw [hr]
      show F64.add _ (F64.roundF64 (r * p.2)) = _
      rw [hp]
      show F64.roundF64 (approxSumL pre + r * p.2) = _
      rw [← e1]; exact h1
    have := ih (pre ++ [p]) (fun q hq => hprod q (List.mem_cons_of_mem _ hq)) (by
      intro k hk
      have := hpart (k + 1) (by simp; omega)
      simpa [List.take_succ_cons, List.append_assoc] using this)
    show sumFold (F64.add (.fin (approxSumL pre)) (F64.mul p.1 (.fin p.2))) l = _
    rw [step, this, List.append_assoc]
    rfl

/-- **the float `GetSum()` is the exact approximate sum when nothing is rounded** -/
theorem getSum_of_exact (env : MapEnv) (s : Sketch) (l : List (F64 × Rat))
    (hl : s.forEachList env = some l) (hE : SumExact l) :
    s.getSum env = some (.fin (approxSumL l)) ∧ approxSumQ env s = some (approxSumL l) := by
  constructor
  · rw [getSum_eq_fold, hl, Option.map_some]
    have := sumFold_exact [] l hE.prod (by simpa using hE.psum)
    simpa [approxSumL] using this
  · unfold approxSumQ; rw [hl]; rfl

/-! ## D. every store kind -/

/-- the sketch built by unit adds on stores of a non-collapsing kind observes like the spec sketch
    built from the same values (no bound on the number of values) -/
theorem obs_eq_spec (k : StoreKind) (hk : Plain k)
    (env : MapEnv) (α mn mx : Rat) (C : Contract env α mn mx)
    (xs : List Rat) (hx : ∀ x ∈ xs, rabs x ≤ mx)
    (hx32 : ∀ x ∈ xs, mn < rabs x → I32 (env.index (.fin (rabs x)))) (s : Sketch)
    (hs : Sketch.addAll env (Sketch.new (some env.id) k) (xs.map (fun x => (x, 1))) = some s) :
    ∃ s₀, Sketch.addAll env (Sketch.new (some env.id) .sparse) (xs.map (fun x => (x, 1))) = some s₀ ∧
      s.getMin env = s₀.getMin env ∧ s.getMax env = s₀.getMax env ∧
      s.forEachList env = s₀.forEachList env ∧ s.getSum env = s₀.getSum env ∧
      approxSumQ env s = approxSumQ env s₀ := by
  obtain ⟨s', s₀, h1, h2, G, h4⟩ := Props.Lift.addAll_any_store k hk env α mn mx C xs hx hx32
  rw [hs] at h1
  cases h1
  refine ⟨s₀, h2, ?_⟩
  rw [← h4]
  have R := G.refines
  exact ⟨Sketch.getMin_congr env R, Sketch.getMax_congr env R, Sketch.forEachList_congr env R,
    Sketch.getSum_congr env R, approxSumQ_congr env R⟩

/-! ## E. collapsing stores: the clamped extremes -/

/-- **the clamped minimum of C05**: the minimum index of a lowest-collapsing content is
    `max(minIndex, maxIndex − N + 1)` -/
theorem minIndex_specLow (N : Nat) (c : Content) (h : c.WF) (mn mx : Int)
    (hmn : c.minIndex? = some mn) (hmx : c.maxIndex? = some mx) :
    (specLow N c).minIndex? = some (max mn (mx - (N : Int) + 1)) := by
  rw [specLow_of_max N c mx hmx]
  exact Content.minIndex_foldLow c h _ mn hmn

/-- **the clamped maximum of C05**: the maximum index of a highest-collapsing content is
    `min(maxIndex, minIndex + N − 1)` -/
theorem maxIndex_specHigh (N : Nat) (c : Content) (h : c.WF) (mn mx : Int)
    (hmn : c.minIndex? = some mn) (hmx : c.maxIndex? = some mx) :
    (specHigh N c).maxIndex? = some (min mx (mn + (N : Int) - 1)) := by
  rw [specHigh_of_min N c mn hmn]
  exact Content.maxIndex_foldHigh c h _ mx hmx

section collapsed
variable (env : MapEnv) (N : Nat) (hN : 1 ≤ N) (m : Option MapId) (cp cn : Content) (z : F64)
  (hcp : cp.WF) (hcn : cn.WF)
include hN hcp hcn

/-- `GetMinValue` on lowest-collapsing contents: unchanged when there is a negative value or a
    zero; otherwise the representative of the clamped minimum bin `max(min, max − N + 1)` -/
theorem getMin_specLow :
    (Sketch.spec m (specLow N cp) (specLow N cn) z).getMin env =
      if (!cn.isEmpty || F64.gt z (.fin 0)) = true then (Sketch.spec m cp cn z).getMin env
      else match cp.minIndex?, cp.maxIndex? with
        | some a, some b => .ok (env.value (max a (b - (N : Int) + 1)))
        | _, _ => .error .empty := by
  rw [getMin_sp, getMin_sp, isEmpty_specLow N cn hcn, maxIndex?_specLow N hN cn hcn]
  by_cases h1 : (!cn.isEmpty) = true
  · simp only [h1, Bool.true_or, if_true]
  · simp only [h1, Bool.false_or, Bool.false_eq_true, if_false]
    by_cases h2 : F64.gt z (.fin 0) = true
    · simp only [h2, if_true]
    · simp only [h2, Bool.false_eq_true, if_false]
      cases hmn : cp.minIndex? with
      | none => rw [minIndex?_eq_none.1 hmn]; rfl
      | some a =>
        have hne : cp ≠ [] := by intro h; rw [h] at hmn; cases hmn
        obtain ⟨b, hb⟩ := maxIndex?_isSome cp hne
        rw [minIndex_specLow N cp hcp a b hmn hb, hb]

/-- `GetMaxValue` on lowest-collapsing contents: unchanged when there is a positive value or a
    zero; otherwise (negative values only) minus the representative of the clamped bin -/
theorem getMax_specLow :
    (Sketch.spec m (specLow N cp) (specLow N cn) z).getMax env =
      if (!cp.isEmpty || F64.gt z (.fin 0)) = true then (Sketch.spec m cp cn z).getMax env
      else match cn.minIndex?, cn.maxIndex? with
        | some a, some b => .ok (F64.neg (env.value (max a (b - (N : Int) + 1))))
        | _, _ => .error .empty := by
  rw [getMax_eq_neg_getMin, getMax_eq_neg_getMin, getMin_specLow env N hN m cn cp z hcn hcp]
  by_cases h : (!cp.isEmpty || F64.gt z (.fin 0)) = true
  · rw [if_pos h, if_pos h]
  · rw [if_neg h, if_neg h]
    cases cn.minIndex? <;> cases cn.maxIndex? <;> rfl

/-- `GetMinValue` on highest-collapsing contents: with negative values, minus the representative
    of the clamped bin `min(max, min + N − 1)`; otherwise unchanged -/
theorem getMin_specHigh :
    (Sketch.spec m (specHigh N cp) (specHigh N cn) z).getMin env =
      if (!cn.isEmpty) = true then
        match cn.minIndex?, cn.maxIndex? with
        | some a, some b => .ok (F64.neg (env.value (min b (a + (N : Int) - 1))))
        | _, _ => .ok (F64.neg (env.value 0))
      else (Sketch.spec m cp cn z).getMin env := by
  rw [getMin_sp, getMin_sp, isEmpty_specHigh N cn hcn, minIndex?_specHigh N hN cp hcp]
  by_cases h1 : (!cn.isEmpty) = true
  · simp only [h1, if_true]
    have hne : cn ≠ [] := by
      intro h; rw [h] at h1; simp [Content.isEmpty] at h1
    obtain ⟨b, hb⟩ := maxIndex?_isSome cn hne
    cases hmn : cn.minIndex? with
    | none => exact absurd (minIndex?_eq_none.1 hmn) hne
    | some a => rw [maxIndex_specHigh N cn hcn a b hmn hb, hb]
  · simp only [h1, Bool.false_eq_true, if_false]

/-- `GetMaxValue` on highest-collapsing contents: with positive values, the representative of the
    clamped bin `min(max, min + N − 1)`; otherwise unchanged -/
theorem getMax_specHigh :
    (Sketch.spec m (specHigh N cp) (specHigh N cn) z).getMax env =
      if (!cp.isEmpty) = true then
        match cp.minIndex?, cp.maxIndex? with
        | some a, some b => .ok (env.value (min b (a + (N : Int) - 1)))
        | _, _ => .ok (env.value 0)
      else (Sketch.spec m cp cn z).getMax env := by
  rw [getMax_eq_neg_getMin, getMax_eq_neg_getMin, getMin_specHigh env N hN m cn cp z hcn hcp]
  by_cases h : (!cp.isEmpty) = true
  · rw [if_pos h, if_pos h]
    cases cp.minIndex? <;> cases cp.maxIndex? <;> simp only [Except.map, F64.neg_neg]
  · rw [if_neg h, if_neg h]

end collapsed

/-! ### which inputs leave a store or the zero bucket non-empty -/

theorem neg_or_zero_of (env : MapEnv) (mn : Rat) (xs : List Rat) (h : ∃ x ∈ xs, x ≤ mn) :
    (!(unitsOf ((Msorted mn xs).map (idxOf env))).isEmpty ||
      F64.gt (.fin (zeroCnt mn xs : Rat)) (.fin 0)) = true := by
  obtain ⟨x, hx, hle⟩ := h
  by_cases hneg : -mn ≤ x
  · rw [zeroCnt_gt x hx (rabs_le_iff.2 ⟨hneg, hle⟩), Bool.or_true]
  · have : Msorted mn xs ≠ [] := fun hc => hneg (Msorted_eq_nil.1 hc x hx)
    rw [isEmpty_unitsOf_map, List.isEmpty_eq_false_iff.2 this]; rfl

theorem pos_or_zero_of (env : MapEnv) (mn : Rat) (xs : List Rat) (h : ∃ x ∈ xs, -mn ≤ x) :
    (!(unitsOf ((Psorted mn xs).map (idxOf env))).isEmpty ||
      F64.gt (.fin (zeroCnt mn xs : Rat)) (.fin 0)) = true := by
  obtain ⟨x, hx, hle⟩ := h
  by_cases hpos : x ≤ mn
  · rw [zeroCnt_gt x hx (rabs_le_iff.2 ⟨hle, hpos⟩), Bool.or_true]
  · have : Psorted mn xs ≠ [] := fun hc => hpos (Psorted_eq_nil.1 hc x hx)
    rw [isEmpty_unitsOf_map, List.isEmpty_eq_false_iff.2 this]; rfl

end DDS.Extremes
