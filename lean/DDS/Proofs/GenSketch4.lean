/-
  DDS.Proofs.GenSketch4 — the REGENERATED sketch-level ENCODERS (`DDSketch.Encode`,
  `DDSketchWithExactSummaryStatistics.Encode` of `DDS/Generated/CodeSketch.lean`, translated from
  `/repo/ddsketch/ddsketch.go:373` and `:720` on every run) against the hand-written model
  `Sketch.encode` / `XSketch.encode` (`DDS/Model/Sketch.lean`) and the wire grammar `Wire.encBlocks`.

  1. normal forms of the two generated functions, for ANY instances `[MapI M] [StoreI S]`
     (`Encode_nf`, `XEncode_nf`): optional blocks (`optBlock`: a flag byte, then a varfloat64 or a
     float64LE; the four statistics blocks together are `encStats`), then the pure tail `encTail`
     (mapping, positive store, negative store).
  2. `Encode_rel` / `Encode_rel_gen`, `XEncode_rel` / `XEncode_rel_gen`: with the model's instances
     (`MapI MapEnv`, `StoreI Store` of `DDS/Proofs/GenSketch.lean`), `9 ≤ fuel`:
        `s.encode om = some (s', blocks)` →
        `DDSketch.Encode fuel (toGen env s) b om = .ok (toGen env s', b ++ bn (Wire.encBlocks blocks))`.
     * the MAPPING: the generated structure always holds a mapping object, so (unless
       `omitIndexMapping`) it always writes a mapping block; the model writes none when
       `s.mapping = none`.  `Encode_rel` therefore asks `om = false → s.mapping = some env.id`
       (nothing is asked when the mapping is omitted).  `Encode_rel_gen` is the unconditional form:
       the generated encoder on `toGen env s` is the model's encoder on `s` WITH its mapping set to
       `some env.id`.
     * `none` (a model store operation panics, i.e. `Sketch.encodeStore` of one of the two stores is
       `none`): NOTHING is claimed by `Encode_rel`.  (The `StoreI Store` instance then leaves store and
       buffer unchanged; `Encode_model_total` records that with the model's instances the generated
       encoder never panics and never runs out of fuel.)
     * the EXACT variant: the generated code tests `count != 0`, `sum != 0`, `min != +Inf`,
       `max != -Inf` with `F64.ne`, in the order count, sum, min, max, and so does
       `XSketch.encode`; they agree on EVERY value of the statistics (NaN: `ne` is true, the block is
       written by both; the model's `F64` has a single zero, so `-0` is not a separate input) — no
       disagreement was found.
  3. `Encode_appends` / `XEncode_appends` — C06 clause "encoding only appends to the caller's buffer",
     on the generated code alone, for ANY instances whose `Encode` methods only append
     (`MapAppends M`, `StoreAppends S`), for ANY fuel: whenever the generated encoder returns `.ok`,
     the returned buffer is `b ++ out`; the returned sketch has the same mapping object and zero
     count (and, for the exact variant, the same statistics).  `Encode_ok` / `XEncode_ok`: with
     `9 ≤ fuel` it does return `.ok` (neither panic nor out of fuel).

  Corollaries with the model's C06 theorems: `DDS/Props/C06GenSketch.lean`.
-/
import DDS.Proofs.GenSketch2
import DDS.Proofs.GenDenseEncode
import DDS.Proofs.RoundTrip

namespace DDS.GenSketch

open DDS DDS.GoSem DDS.Gen.Sketch DDS.Gen.Encoding DDS.GenEncoding DDS.Codec

/-! ### small facts -/

theorem encBlocks_bytes (bl : List Block) (h : ∀ b ∈ bl, b.WF) : ∀ x ∈ Wire.encBlocks bl, x < 256 := by
  intro x hx
  obtain ⟨b, hb, hx⟩ := List.mem_flatMap.1 hx
  exact Wire.encBlock_bytes b (h b hb) x hx

theorem nb_bn_encBlocks (bl : List Block) (h : ∀ b ∈ bl, b.WF) :
    nb (bn (Wire.encBlocks bl)) = Wire.encBlocks bl :=
  nb_bn _ (encBlocks_bytes bl h)

/-! ### 1. normal forms of the generated encoders (any instances) -/

/-- an optional block: `if c { b = EncodeFlag(b, f); b = enc(b) }` -/
def optBlock (c : Bool) (f : Gen.Encoding.Flag) (enc : List (BitVec 8) → Res (List (BitVec 8))) (b : List (BitVec 8)) :
    Res (List (BitVec 8)) :=
  if c then enc (EncodeFlag b f) else .ok b

/-- the four optional statistics blocks of the exact variant, in the order of ddsketch.go:720 -/
def encStats (fuel : Nat) (st : Gen.Stat.SummaryStatistics) (b : List (BitVec 8)) : Res (List (BitVec 8)) :=
  Res.bind (optBlock (F64.ne (Gen.Stat.SummaryStatistics.Count st) (F64.fin 0)) FlagCount
    (EncodeVarfloat64 fuel · (Gen.Stat.SummaryStatistics.Count st)) b) fun b =>
  Res.bind (optBlock (F64.ne (Gen.Stat.SummaryStatistics.Sum st) (F64.fin 0)) FlagSum
    (EncodeFloat64LE fuel · (Gen.Stat.SummaryStatistics.Sum st)) b) fun b =>
  Res.bind (optBlock (F64.ne (Gen.Stat.SummaryStatistics.Min st) F64.pinf) FlagMin
    (EncodeFloat64LE fuel · (Gen.Stat.SummaryStatistics.Min st)) b)
  (optBlock (F64.ne (Gen.Stat.SummaryStatistics.Max st) F64.ninf) FlagMax
    (EncodeFloat64LE fuel · (Gen.Stat.SummaryStatistics.Max st)))

section Generic
variable {M S : Type} [MapI M] [StoreI S] [Inhabited M] [Inhabited S]

/-- what `DDSketch.Encode` does after the zero-count block: mapping (unless omitted), positive store,
    negative store -/
def encTail (s : DDSketch M S) (b : List (BitVec 8)) (om : Bool) : DDSketch M S × List (BitVec 8) :=
  let b2 := if om then b else MapI.Encode s.IndexMapping b
  let p := StoreI.Encode s.positiveValueStore b2 FlagTypePositiveStore
  let n := StoreI.Encode s.negativeValueStore p.2 FlagTypeNegativeStore
  ({ s with positiveValueStore := p.1, negativeValueStore := n.1 }, n.2)

theorem Encode_nf (fuel : Nat) (s : DDSketch M S) (b : List (BitVec 8)) (om : Bool) :
    DDSketch.Encode fuel s b om =
      Res.bind (optBlock (F64.ne s.zeroCount (F64.fin 0)) FlagZeroCountVarFloat
        (EncodeVarfloat64 fuel · s.zeroCount) b) (fun b1 => .ok (encTail s b1 om)) := by
  unfold DDSketch.Encode optBlock
  simp only [Res.bind_ok_right]
  congr 1
  funext b1
  cases om <;> rfl

theorem XEncode_nf (fuel : Nat) (s : DDSketchWithExactSummaryStatistics M S) (b : List (BitVec 8))
    (om : Bool) :
    DDSketchWithExactSummaryStatistics.Encode fuel s b om =
      Res.bind (encStats fuel s.summaryStatistics b) (fun b =>
      Res.bind (DDSketch.Encode fuel s.DDSketch b om) (fun r =>
        .ok ({ s with DDSketch := r.1 }, r.2))) := by
  unfold DDSketchWithExactSummaryStatistics.Encode encStats optBlock
  simp only [Res.bind_ok_right, Res.bind_assoc, GenStat.inf_pos, GenStat.inf_neg]

end Generic

/-! ### the optional blocks against the model's bytes -/

/-- when the codec appends `payload` and the model's block is the flag byte followed by `payload`, the optional
    block appends the bytes of the model's optional block -/
theorem optBlock_eq (c : Bool) (f : Gen.Encoding.Flag) (enc : List (BitVec 8) → Res (List (BitVec 8))) (blk : Block)
    (payload : Bytes) (henc : ∀ b, enc b = .ok (b ++ bn payload))
    (hblk : Wire.encBlock blk = f.byte.toNat :: payload) (b : List (BitVec 8)) :
    optBlock c f enc b = .ok (b ++ bn (Wire.encBlocks (if c then [blk] else []))) := by
  cases c with
  | false => simp [optBlock, Wire.encBlocks_nil, bn]
  | true =>
    rw [optBlock, if_pos rfl, henc, if_pos rfl, Wire.encBlocks_cons, Wire.encBlocks_nil, List.append_nil, hblk]
    exact congrArg Res.ok (GenDenseEncode.block_bytes b f.byte _ rfl _)

theorem encStats_eq (fuel : Nat) (hf : 9 ≤ fuel) (st : Gen.Stat.SummaryStatistics) (b : List (BitVec 8)) :
    encStats fuel st b = .ok (b ++ bn (Wire.encBlocks (RoundTrip.statBlocks (GenStat.toModel st)))) := by
  unfold encStats RoundTrip.statBlocks
  rw [GenStat.count_eq, GenStat.sum_eq, GenStat.min_eq, GenStat.max_eq,
    optBlock_eq _ _ _ (.count (Sketch.vfBitsF (GenStat.toModel st).count)) _
      (GenDenseEncode.EncodeVarfloat64_eq fuel hf · _) (by rw [FlagCount_byte]; rfl), Res.bind_ok,
    optBlock_eq _ _ _ (.sum (GenStat.toModel st).getSum.toBits.toNat) _
      (GenEncoding.EncodeFloat64LE_eq fuel · _) (by rw [FlagSum_byte]; rfl), Res.bind_ok,
    optBlock_eq _ _ _ (.min (GenStat.toModel st).min.toBits.toNat) _
      (GenEncoding.EncodeFloat64LE_eq fuel · _) (by rw [FlagMin_byte]; rfl), Res.bind_ok,
    optBlock_eq _ _ _ (.max (GenStat.toModel st).max.toBits.toNat) _
      (GenEncoding.EncodeFloat64LE_eq fuel · _) (by rw [FlagMax_byte]; rfl)]
  simp only [Wire.encBlocks_append, bn_append, List.append_assoc]

/-- the block the model writes for the zero count -/
def zeroBlocks (z : F64) : List Block :=
  if F64.ne z (.fin 0) then [.zeroCount (Sketch.vfBitsF z)] else []

theorem optZero_eq (fuel : Nat) (hf : 9 ≤ fuel) (z : F64) (b : List (BitVec 8)) :
    optBlock (F64.ne z (F64.fin 0)) FlagZeroCountVarFloat (EncodeVarfloat64 fuel · z) b =
      .ok (b ++ bn (Wire.encBlocks (zeroBlocks z))) :=
  optBlock_eq _ _ _ (.zeroCount (Sketch.vfBitsF z)) _ (GenDenseEncode.EncodeVarfloat64_eq fuel hf · _)
    (by rw [FlagZeroCountVarFloat_byte]; rfl) b

/-! ### 2. the generated encoders against the model -/

theorem map_encode (e : MapEnv) (b : List (BitVec 8)) :
    MapI.Encode e b = b ++ bn (Wire.encBlock e.id.toBlock) := rfl

theorem store_encode (st st' : Store) (bl : List Block) (b : List (BitVec 8)) (t : FlagType)
    (h : Sketch.encodeStore st (flagSide t) = some (st', bl)) :
    StoreI.Encode st b t = (st', b ++ bn (Wire.encBlocks bl)) := by
  show storeEncode st b t = _
  rw [storeEncode, h]
  rfl

/-- the block the model writes for the mapping -/
def mappingBlocks (m : Option MapId) (om : Bool) : List Block :=
  if om then [] else match m with
    | some id => [id.toBlock]
    | none => []

theorem encode_some (s : Sketch) (om : Bool) (s' : Sketch) (blocks : List Block)
    (h : s.encode om = some (s', blocks)) :
    ∃ p pb n nbl, Sketch.encodeStore s.pos .pos = some (p, pb) ∧
      Sketch.encodeStore s.neg .neg = some (n, nbl) ∧
      s' = { s with pos := p, neg := n } ∧
      blocks = zeroBlocks s.zero ++ mappingBlocks s.mapping om ++ pb ++ nbl := by
  unfold Sketch.encode at h
  cases hp : Sketch.encodeStore s.pos .pos with
  | none => rw [hp] at h; cases h
  | some rp =>
    cases hn : Sketch.encodeStore s.neg .neg with
    | none => rw [hp, hn] at h; cases h
    | some rn =>
      rw [hp, hn] at h
      cases h
      exact ⟨_, _, _, _, rfl, rfl, rfl, rfl⟩

/-- **`DDSketch.Encode` is the model's `Sketch.encode`**: where the model encodes (`some`), the
    regenerated code returns the model's sketch and appends the bytes of the model's blocks.
    The mapping object is the sketch's mapping unless the mapping block is omitted anyway. -/
theorem Encode_rel (fuel : Nat) (hf : 9 ≤ fuel) (env : MapEnv) (s : Sketch)
    (b : List (BitVec 8)) (om : Bool) (hm : om = false → s.mapping = some env.id)
    (s' : Sketch) (blocks : List Block) (h : s.encode om = some (s', blocks)) :
    DDSketch.Encode fuel (toGen env s) b om =
      .ok (toGen env s', b ++ bn (Wire.encBlocks blocks)) := by
  obtain ⟨p, pb, n, nbl, hp, hn, rfl, rfl⟩ := encode_some _ _ _ _ h
  have : mappingBlocks s.mapping om = mappingBlocks (some env.id) om := by
    cases om with
    | true => rfl
    | false => rw [hm rfl]
  rw [this, Encode_nf, optZero_eq fuel hf, Res.bind_ok]
  unfold encTail
  dsimp only
  rw [toGen_pos, toGen_neg, toGen_mapping, map_encode, store_encode _ _ _ _ FlagTypePositiveStore hp,
    store_encode _ _ _ _ FlagTypeNegativeStore hn]
  cases om <;> simp [mappingBlocks, toGen, Wire.encBlocks_append, Wire.encBlocks_cons, bn_append]

/-- **`DDSketch.Encode`, unconditional form.**  The generated structure always carries a mapping
    object: the regenerated encoder on `toGen env s` is the model's encoder on `s` with its mapping
    set to `some env.id`. -/
theorem Encode_rel_gen (fuel : Nat) (hf : 9 ≤ fuel) (env : MapEnv) (s : Sketch) (b : List (BitVec 8))
    (om : Bool) (s' : Sketch) (blocks : List Block)
    (h : ({ s with mapping := some env.id } : Sketch).encode om = some (s', blocks)) :
    DDSketch.Encode fuel (toGen env s) b om =
      .ok (toGen env s', b ++ bn (Wire.encBlocks blocks)) :=
  Encode_rel fuel hf env { s with mapping := some env.id } b om (fun _ => rfl) s' blocks h

/-- the returned sketch: only the stores may have been reorganised -/
theorem Encode_rel_frame (s : Sketch) (om : Bool) (s' : Sketch) (blocks : List Block)
    (h : s.encode om = some (s', blocks)) : s'.mapping = s.mapping ∧ s'.zero = s.zero := by
  obtain ⟨p, pb, n, nbl, _, _, rfl, _⟩ := encode_some _ _ _ _ h
  exact ⟨rfl, rfl⟩

/-! #### the exact-summary variant -/

/-- **`DDSketchWithExactSummaryStatistics.Encode` is the model's `XSketch.encode`**: the statistics
    blocks (count as varfloat64 when `≠ 0`, sum / min / max as float64LE when `≠ 0` / `≠ +Inf` /
    `≠ −Inf`, in that order) are written under exactly the same conditions, with the same bytes, for
    EVERY value of the statistics; then comes what the plain encoder writes. -/
theorem XEncode_rel (fuel : Nat) (hf : 9 ≤ fuel) (env : MapEnv) (x : XSketch)
    (b : List (BitVec 8)) (om : Bool) (hm : om = false → x.sk.mapping = some env.id)
    (x' : XSketch) (blocks : List Block) (h : x.encode om = some (x', blocks)) :
    DDSketchWithExactSummaryStatistics.Encode fuel (toGenX env x) b om =
      .ok (toGenX env x', b ++ bn (Wire.encBlocks blocks)) := by
  rw [RoundTrip.xencode_eq] at h
  obtain ⟨⟨sk', bl⟩, he, h⟩ := Option.map_eq_some_iff.1 h
  cases h
  rw [XEncode_nf, encStats_eq fuel hf, Res.bind_ok, toGenX_sk, Encode_rel fuel hf env x.sk _ om hm sk' bl he,
    Res.bind_ok, toGenX_st, GenStat.toModel_ofModel, Wire.encBlocks_append, bn_append, List.append_assoc]
  rfl

theorem XEncode_rel_gen (fuel : Nat) (hf : 9 ≤ fuel) (env : MapEnv) (x : XSketch)
    (b : List (BitVec 8)) (om : Bool) (x' : XSketch) (blocks : List Block)
    (h : ({ x with sk := { x.sk with mapping := some env.id } } : XSketch).encode om
      = some (x', blocks)) :
    DDSketchWithExactSummaryStatistics.Encode fuel (toGenX env x) b om =
      .ok (toGenX env x', b ++ bn (Wire.encBlocks blocks)) :=
  XEncode_rel fuel hf env { x with sk := { x.sk with mapping := some env.id } } b om (fun _ => rfl) x' blocks h

/-! ### 3. encoding only appends — on the generated code alone

#### the codecs only append, for ANY fuel -/

/-- a function on buffers that, when it returns, has only appended -/
def Appends (enc : List (BitVec 8) → Res (List (BitVec 8))) : Prop :=
  ∀ b b', enc b = .ok b' → ∃ out, b' = b ++ out

theorem Appends.bind {f g : List (BitVec 8) → Res (List (BitVec 8))} (hf : Appends f) (hg : Appends g) :
    Appends (fun b => Res.bind (f b) g) := by
  intro b b' h
  obtain ⟨b1, h1, h2⟩ := Res.bind_eq_ok h
  obtain ⟨o1, rfl⟩ := hf b b1 h1
  obtain ⟨o2, rfl⟩ := hg _ b' h2
  exact ⟨o1 ++ o2, List.append_assoc b o1 o2⟩

theorem optBlock_appends (c : Bool) (f : Gen.Encoding.Flag) {enc : List (BitVec 8) → Res (List (BitVec 8))}
    (henc : Appends enc) : Appends (optBlock c f enc) := by
  intro b b' h
  cases c with
  | false => exact ⟨[], by cases h; simp⟩
  | true =>
    obtain ⟨out, rfl⟩ := henc _ b' h
    exact ⟨f.byte :: out, by simp [EncodeFlag]⟩

theorem encVarfloat64_loop_appends (k : BitVec 64 × List (BitVec 8) × Int → Res (List (BitVec 8)))
    (hk : ∀ x b i b', k (x, b, i) = .ok b' → ∃ out, b' = b ++ out) :
    ∀ (fuel : Nat) (x : BitVec 64) (b : List (BitVec 8)) (i : Int) (b' : List (BitVec 8)),
      Loop.elim (EncodeVarfloat64.loop1 fuel x b i) k = .ok b' → ∃ out, b' = b ++ out := by
  intro fuel
  induction fuel with
  | zero => intro x b i b' h; cases h
  | succ fuel ih =>
    intro x b i b'
    unfold EncodeVarfloat64.loop1
    dsimp only
    cases decide (i < 8)
    case false => exact hk x b i b'
    cases x <<< 7 == 0#64
    case true => intro h; cases h; exact ⟨_, rfl⟩
    intro h
    obtain ⟨out, rfl⟩ := ih _ _ _ _ h
    exact ⟨[_] ++ out, List.append_assoc _ _ _⟩

theorem EncodeVarfloat64_appends (fuel : Nat) (v : F64) : Appends (EncodeVarfloat64 fuel · v) :=
  fun b b' h => encVarfloat64_loop_appends _ (fun _ _ _ _ h => ⟨_, (Res.ok.inj h).symm⟩) fuel _ b 0 b' h

theorem EncodeFloat64LE_appends (fuel : Nat) (v : F64) : Appends (EncodeFloat64LE fuel · v) :=
  fun b _ h => ⟨_, (Res.ok.inj ((GenEncoding.EncodeFloat64LE_eq fuel b v).symm.trans h)).symm⟩

theorem encStats_appends (fuel : Nat) (st : Gen.Stat.SummaryStatistics) : Appends (encStats fuel st) :=
  (optBlock_appends _ _ (EncodeVarfloat64_appends fuel _)).bind
    ((optBlock_appends _ _ (EncodeFloat64LE_appends fuel _)).bind
      ((optBlock_appends _ _ (EncodeFloat64LE_appends fuel _)).bind
        (optBlock_appends _ _ (EncodeFloat64LE_appends fuel _))))

/-! #### `Encode` only appends, for any instances -/

section Generic
variable {M S : Type} [MapI M] [StoreI S] [Inhabited M] [Inhabited S]

/-- the mapping's `Encode` only appends to the caller's buffer -/
def MapAppends (M : Type) [MapI M] : Prop :=
  ∀ (m : M) (b : List (BitVec 8)), ∃ out, MapI.Encode m b = b ++ out

/-- the store's `Encode` only appends to the caller's buffer -/
def StoreAppends (S : Type) [StoreI S] : Prop :=
  ∀ (st : S) (b : List (BitVec 8)) (t : FlagType), ∃ out, (StoreI.Encode st b t).2 = b ++ out

omit [Inhabited M] [Inhabited S] in
theorem encTail_appends (hM : MapAppends M) (hS : StoreAppends S) (s : DDSketch M S)
    (b : List (BitVec 8)) (om : Bool) :
    (∃ out, (encTail s b om).2 = b ++ out) ∧
      (encTail s b om).1.IndexMapping = s.IndexMapping ∧
      (encTail s b om).1.zeroCount = s.zeroCount := by
  refine ⟨?_, rfl, rfl⟩
  obtain ⟨o2, h2⟩ : ∃ o2, (if om = true then b else MapI.Encode s.IndexMapping b) = b ++ o2 := by
    cases om with
    | false => exact hM s.IndexMapping b
    | true => exact ⟨[], (List.append_nil b).symm⟩
  obtain ⟨o3, h3⟩ := hS s.positiveValueStore (b ++ o2) FlagTypePositiveStore
  obtain ⟨o4, h4⟩ := hS s.negativeValueStore (b ++ o2 ++ o3) FlagTypeNegativeStore
  unfold encTail
  dsimp only
  rw [h2, h3, h4]
  exact ⟨o2 ++ (o3 ++ o4), by simp only [List.append_assoc]⟩

/-- **C06 "encoding only appends to the caller's buffer"**, on the regenerated `DDSketch.Encode`, for
    ANY mapping and store implementations whose own `Encode` only appends, ANY fuel: a returned
    buffer is the caller's buffer followed by new bytes; the returned sketch has the same mapping
    object and zero count. -/
theorem Encode_appends (hM : MapAppends M) (hS : StoreAppends S) (fuel : Nat) (s : DDSketch M S)
    (b : List (BitVec 8)) (om : Bool) (r : DDSketch M S × List (BitVec 8))
    (h : DDSketch.Encode fuel s b om = .ok r) :
    (∃ out, r.2 = b ++ out) ∧ r.1.IndexMapping = s.IndexMapping ∧ r.1.zeroCount = s.zeroCount := by
  rw [Encode_nf] at h
  obtain ⟨b1, h1, h2⟩ := Res.bind_eq_ok h
  cases h2
  obtain ⟨o1, rfl⟩ := optBlock_appends _ _ (EncodeVarfloat64_appends fuel _) b b1 h1
  obtain ⟨⟨o2, ho⟩, hm, hz⟩ := encTail_appends hM hS s (b ++ o1) om
  exact ⟨⟨o1 ++ o2, by rw [ho, List.append_assoc]⟩, hm, hz⟩

/-- with `9 ≤ fuel` the regenerated encoder does return: no panic, no fuel exhaustion -/
theorem Encode_ok (hM : MapAppends M) (hS : StoreAppends S) (fuel : Nat) (hf : 9 ≤ fuel)
    (s : DDSketch M S) (b : List (BitVec 8)) (om : Bool) :
    ∃ s' out, DDSketch.Encode fuel s b om = .ok (s', b ++ out) ∧
      s'.IndexMapping = s.IndexMapping ∧ s'.zeroCount = s.zeroCount := by
  obtain ⟨r, hr⟩ : ∃ r, DDSketch.Encode fuel s b om = .ok r := by
    rw [Encode_nf, optZero_eq fuel hf, Res.bind_ok]
    exact ⟨_, rfl⟩
  obtain ⟨⟨out, ho⟩, hm, hz⟩ := Encode_appends hM hS fuel s b om r hr
  exact ⟨r.1, out, by rw [hr, ← ho], hm, hz⟩

/-- the same for the exact-summary variant: the statistics blocks and then the plain `Encode`; the
    statistics themselves are returned unchanged -/
theorem XEncode_appends (hM : MapAppends M) (hS : StoreAppends S) (fuel : Nat)
    (s : DDSketchWithExactSummaryStatistics M S) (b : List (BitVec 8)) (om : Bool)
    (r : DDSketchWithExactSummaryStatistics M S × List (BitVec 8))
    (h : DDSketchWithExactSummaryStatistics.Encode fuel s b om = .ok r) :
    (∃ out, r.2 = b ++ out) ∧ r.1.summaryStatistics = s.summaryStatistics ∧
      r.1.DDSketch.IndexMapping = s.DDSketch.IndexMapping ∧
      r.1.DDSketch.zeroCount = s.DDSketch.zeroCount := by
  rw [XEncode_nf] at h
  obtain ⟨b1, h1, h⟩ := Res.bind_eq_ok h
  obtain ⟨q, h2, h⟩ := Res.bind_eq_ok h
  cases h
  obtain ⟨o1, rfl⟩ := encStats_appends fuel _ b b1 h1
  obtain ⟨⟨o2, ho⟩, hm, hz⟩ := Encode_appends hM hS fuel _ _ om q h2
  exact ⟨⟨o1 ++ o2, by rw [ho, List.append_assoc]⟩, rfl, hm, hz⟩

theorem XEncode_ok (hM : MapAppends M) (hS : StoreAppends S) (fuel : Nat) (hf : 9 ≤ fuel)
    (s : DDSketchWithExactSummaryStatistics M S) (b : List (BitVec 8)) (om : Bool) :
    ∃ s' out, DDSketchWithExactSummaryStatistics.Encode fuel s b om = .ok (s', b ++ out) ∧
      s'.summaryStatistics = s.summaryStatistics := by
  obtain ⟨r, hr⟩ : ∃ r, DDSketchWithExactSummaryStatistics.Encode fuel s b om = .ok r := by
    rw [XEncode_nf, encStats_eq fuel hf, Res.bind_ok]
    obtain ⟨s', out, h, _⟩ := Encode_ok hM hS fuel hf s.DDSketch (b ++ bn _) om
    rw [h]
    exact ⟨_, rfl⟩
  obtain ⟨⟨out, ho⟩, hst, _⟩ := XEncode_appends hM hS fuel s b om r hr
  exact ⟨r.1, out, by rw [hr, ← ho], hst⟩

end Generic

/-! #### the model's instances only append -/

theorem mapEnv_appends : MapAppends MapEnv := fun _ _ => ⟨_, rfl⟩

theorem store_appends : StoreAppends Store := by
  intro st b t
  show ∃ out, (storeEncode st b t).2 = b ++ out
  unfold storeEncode
  cases Sketch.encodeStore st (flagSide t) with
  | none => exact ⟨[], (List.append_nil b).symm⟩
  | some r => exact ⟨_, rfl⟩

/-- with the model's instances the regenerated encoder never panics and never runs out of fuel
    (`9 ≤ fuel`), whether or not the model's store operations do -/
theorem Encode_model_total (fuel : Nat) (hf : 9 ≤ fuel) (env : MapEnv) (s : Sketch)
    (b : List (BitVec 8)) (om : Bool) :
    ∃ g out, DDSketch.Encode fuel (toGen env s) b om = .ok (g, b ++ out) := by
  obtain ⟨g, out, h, _⟩ := Encode_ok mapEnv_appends store_appends fuel hf (toGen env s) b om
  exact ⟨g, out, h⟩

end DDS.GenSketch
