/-
  DDS.Proofs.Rebin — lemmas for property C17 (`ChangeMapping`): re-binning a histogram from one
  bin grid onto another.

  Part A: the transcribed float loop `ChangeMapping.spreadBin` for ALL floats (sign of the weights,
          real overlap of the visited bins), argued on the order `F64.leX` of the non-NaN floats:
          `fminG`/`fmaxG`, one iteration (`iter`), then the loop.
  Part B: the ideal re-binning over a linear ordered field.  The proportion `prop` that a source bin
          gives to a target bin is an increment of the uniform CDF `ucdf` of the source bin, so sums
          over a range of target bins telescope; hence conservation, the identity, and for a finite
          histogram the cumulated target weights (`rebin_cdf`), quantiles and their accuracy.
  Part C: `spreadBin` under exact float operations = the ideal re-binning; conservation.
  Last:   `Summary.rescale` field by field.
-/
import DDS.Proofs.Num
import DDS.Model.ChangeMapping
import Mathlib.Algebra.BigOperators.Intervals
import Mathlib.Algebra.BigOperators.Ring.Finset
import Mathlib.Data.Int.Interval
import Mathlib.Data.Int.SuccPred
import Mathlib.Data.Int.LeastGreatest
import Mathlib.Data.Int.Log
import Mathlib.Algebra.Order.Interval.Finset.SuccPred
import Mathlib.Algebra.Order.Field.Basic
import Mathlib.Algebra.Order.BigOperators.Group.List
import Mathlib.Tactic.Linarith
import Mathlib.Tactic.Ring
import Mathlib.Tactic.FieldSimp
import Mathlib.Tactic.Positivity
import Mathlib.Tactic.NormNum
import Mathlib.Tactic.IntervalCases

set_option linter.unusedVariables false
set_option linter.unusedSectionVars false
set_option linter.unnecessarySeqFocus false

namespace DDS
namespace Rebin

open ChangeMapping

/-! ## Part A — the float loop, for all floats -/

/-! ### `fminG` / `fmaxG` -/

theorem fminG_isNaN (a b : F64) : (fminG a b).isNaN = (a.isNaN || b.isNaN) := by
  unfold fminG
  cases ha : a.isNaN <;> cases hb : b.isNaN <;>
    simp only [Bool.or_self, Bool.or_true, Bool.or_false, Bool.false_eq_true, if_false, if_true] <;>
    first | rfl | (split <;> assumption)

theorem fmaxG_isNaN (a b : F64) : (fmaxG a b).isNaN = (a.isNaN || b.isNaN) := by
  unfold fmaxG
  cases ha : a.isNaN <;> cases hb : b.isNaN <;>
    simp only [Bool.or_self, Bool.or_true, Bool.or_false, Bool.false_eq_true, if_false, if_true] <;>
    first | rfl | (split <;> assumption)

open F64 in
theorem fminG_leX (a b : F64) : fminG a b = .nan ∨ (leX (fminG a b) a ∧ leX (fminG a b) b) := by
  cases ha : a.isNaN
  · cases hb : b.isNaN
    · right
      have e : fminG a b = if F64.lt b a then b else a := by unfold fminG; rw [ha, hb]; rfl
      rw [e]
      rcases lt_cases hb ha with ⟨e', h, -⟩ | ⟨e', h⟩ <;> rw [e']
      · exact ⟨h, leX_refl hb⟩
      · exact ⟨leX_refl ha, h⟩
    · exact .inl (eq_nan_of_isNaN (by rw [fminG_isNaN, hb, Bool.or_true]))
  · exact .inl (eq_nan_of_isNaN (by rw [fminG_isNaN, ha, Bool.true_or]))

open F64 in
theorem fmaxG_leX (a b : F64) : fmaxG a b = .nan ∨ (leX a (fmaxG a b) ∧ leX b (fmaxG a b)) := by
  cases ha : a.isNaN
  · cases hb : b.isNaN
    · right
      have e : fmaxG a b = if F64.lt a b then b else a := by unfold fmaxG; rw [ha, hb]; rfl
      rw [e]
      rcases lt_cases ha hb with ⟨e', h, -⟩ | ⟨e', h⟩ <;> rw [e']
      · exact ⟨h, leX_refl hb⟩
      · exact ⟨leX_refl ha, h⟩
    · exact .inl (eq_nan_of_isNaN (by rw [fmaxG_isNaN, hb, Bool.or_true]))
  · exact .inl (eq_nan_of_isNaN (by rw [fmaxG_isNaN, ha, Bool.true_or]))

theorem fminG_fin_fin (x y : ℚ) : fminG (.fin x) (.fin y) = .fin (min x y) := by
  unfold fminG
  simp only [F64.isNaN, Bool.or_self, Bool.false_eq_true, if_false, F64.lt, decide_eq_true_eq]
  split_ifs with h
  · rw [min_eq_right h.le]
  · rw [min_eq_left (not_lt.mp h)]

theorem fmaxG_fin_fin (x y : ℚ) : fmaxG (.fin x) (.fin y) = .fin (max x y) := by
  unfold fmaxG
  simp only [F64.isNaN, Bool.or_self, Bool.false_eq_true, if_false, F64.lt, decide_eq_true_eq]
  split_ifs with h
  · rw [max_eq_right h.le]
  · rw [max_eq_left (not_lt.mp h)]

/-! ### one iteration of the loop -/

open F64 in
/-- One iteration, for ALL floats.  If the intersection `X = min(oh, ih) − max(ol, il)` is not `≤ 0`
    then it is NaN, or the two bins really overlap (`il < oh`: otherwise `min ≤ oh ≤ il ≤ max` and
    `X ≤ 0`), `X` is positive, and `X` is at most the size `ih − il` (subtraction is monotone)
    unless the size is NaN. -/
theorem iter (oh ih ol il : F64)
    (hle : F64.le (F64.sub (fminG oh ih) (fmaxG ol il)) (.fin 0) = false) :
    F64.sub (fminG oh ih) (fmaxG ol il) = .nan ∨
      (F64.lt il oh = true ∧ ¬ leX (F64.sub (fminG oh ih) (fmaxG ol il)) (.fin 0) ∧
        (F64.sub ih il = .nan ∨ leX (F64.sub (fminG oh ih) (fmaxG ol il)) (F64.sub ih il))) := by
  have hpos : ¬ leX (F64.sub (fminG oh ih) (fmaxG ol il)) (.fin 0) := fun h => by
    rw [le_iff_leX.mpr h] at hle; cases hle
  rcases fminG_leX oh ih with e | ⟨h1, h2⟩
  · exact .inl (by rw [e, sub_nan_left])
  rcases fmaxG_leX ol il with e | ⟨h3, h4⟩
  · exact .inl (by rw [e, sub_nan_right])
  by_cases hn : F64.sub (fminG oh ih) (fmaxG ol il) = .nan
  · exact .inl hn
  refine .inr ⟨?_, hpos, ?_⟩
  · refine lt_of_not_leX (not_nan_of_leX h4).1 (not_nan_of_leX h1).2 fun hc => ?_
    exact (sub_leX_zero (leX_trans h1 (leX_trans hc h4))).elim hn hpos
  · rcases sub_leX h2 h4 with e | e | e
    · exact absurd e hn
    · exact .inl e
    · exact .inr e

open F64 in
/-- the weight of a visited bin is NaN or not negative: the proportion is NaN or in `[0, 1]` -/
theorem weight_cases (oh ih ol il count : F64)
    (hle : F64.le (F64.sub (fminG oh ih) (fmaxG ol il)) (.fin 0) = false)
    (hc : F64.lt count (.fin 0) = false) :
    F64.mul (F64.div (F64.sub (fminG oh ih) (fmaxG ol il)) (F64.sub ih il)) count = .nan ∨
      leX (.fin 0)
        (F64.mul (F64.div (F64.sub (fminG oh ih) (fmaxG ol il)) (F64.sub ih il)) count) := by
  rcases iter oh ih ol il hle with e | ⟨-, hpos, e | hXS⟩
  · exact .inl (by rw [e, div_nan_left, mul_nan_left])
  · exact .inl (by rw [e, div_nan_right, mul_nan_left])
  · rcases leX_of_lt_eq_false hc with h | h | h
    · exact .inl (by rw [eq_nan_of_isNaN h, mul_nan_right])
    · cases h
    · rcases div_unit hpos hXS with e | ⟨q, e, hq0, -⟩ <;> rw [e]
      · exact .inl (mul_nan_left _)
      · exact mul_nonneg_leX hq0 h

/-! ### the whole loop, ALL floats -/

/-- the float intersection length of target bin `j` with `[inLow, inHigh)` as the loop computes it -/
def fInter (new : MapEnv) (inLow inHigh : F64) (j : Int) : F64 :=
  F64.sub (fminG (new.lowerBound (j + 1)) inHigh) (fmaxG (new.lowerBound j) inLow)

/-- the float weight the loop gives to target bin `j` -/
def fWeight (new : MapEnv) (inLow inHigh count : F64) (j : Int) : F64 :=
  F64.mul (F64.div (fInter new inLow inHigh j) (F64.sub inHigh inLow)) count

/-- structure of the output of the loop, for all floats and any oracle -/
theorem spreadBin_mem (new : MapEnv) (inLow inHigh count : F64) :
    ∀ (fuel : Nat) (j0 : Int) (j : Int) (w : F64),
      (j, w) ∈ spreadBin new inLow inHigh count fuel j0 →
      j0 ≤ j ∧ j < j0 + fuel ∧ F64.lt (new.lowerBound j) inHigh = true ∧
        F64.le (fInter new inLow inHigh j) (.fin 0) = false ∧
        w = fWeight new inLow inHigh count j := by
  intro fuel
  induction fuel with
  | zero => intro j0 j w h; simp [spreadBin] at h
  | succ n ih =>
    intro j0 j w h
    rw [spreadBin] at h
    split at h
    · rename_i hlt
      simp only at h
      split at h
      · obtain ⟨h1, h2, h3⟩ := ih _ _ _ h
        exact ⟨by omega, by push_cast; omega, h3⟩
      · rename_i hle
        rcases List.mem_cons.mp h with h | h
        · obtain ⟨rfl, rfl⟩ := Prod.mk.inj h
          refine ⟨le_rfl, by push_cast; omega, hlt, ?_, rfl⟩
          simpa [fInter] using hle
        · obtain ⟨h1, h2, h3⟩ := ih _ _ _ h
          exact ⟨by omega, by push_cast; omega, h3⟩
    · simp at h

/-- **never a bin of negative weight** — for ALL floats (NaN and infinities included), any oracle
    `new`, any `count` that is not negative: no weight produced by the loop is `< 0`. -/
theorem spreadBin_weights_not_neg (new : MapEnv) (inLow inHigh count : F64)
    (hc : F64.lt count (.fin 0) = false) (fuel : Nat) (j0 j : Int) (w : F64)
    (hmem : (j, w) ∈ spreadBin new inLow inHigh count fuel j0) :
    F64.lt w (.fin 0) = false := by
  obtain ⟨_, _, _, hle, rfl⟩ := spreadBin_mem new inLow inHigh count fuel j0 j w hmem
  rcases weight_cases _ _ _ _ count hle hc with e | e
  · unfold fWeight fInter; rw [e]; rfl
  · exact F64.lt_eq_false_of_leX e

/-- **only to overlapping bins** — for ALL floats: every index `j` produced has
    `lowerBound j < inHigh`, and `inLow < lowerBound (j+1)` unless the weight is NaN. -/
theorem spreadBin_indexes_overlap (new : MapEnv) (inLow inHigh count : F64)
    (fuel : Nat) (j0 j : Int) (w : F64)
    (hmem : (j, w) ∈ spreadBin new inLow inHigh count fuel j0) :
    F64.lt (new.lowerBound j) inHigh = true ∧
      (w = .nan ∨ F64.lt inLow (new.lowerBound (j + 1)) = true) := by
  obtain ⟨_, _, hlt, hle, rfl⟩ := spreadBin_mem new inLow inHigh count fuel j0 j w hmem
  refine ⟨hlt, ?_⟩
  rcases iter _ _ _ _ hle with e | ⟨h, -⟩
  · left; unfold fWeight fInter; rw [e, F64.div_nan_left, F64.mul_nan_left]
  · exact .inr h

/-! ### finite inputs -/

open F64 in
/-- the finite form of one visited bin: the weight is `fl(fl(x / s) · c)` with `0 < x ≤ s` -/
theorem spreadBin_mem_fin (new : MapEnv) (a b s c : Rat)
    (hnan : ∀ j, (new.lowerBound j).isNaN = false)
    (hs : F64.sub (.fin b) (.fin a) = .fin s)
    (fuel : Nat) (j0 j : Int) (w : F64)
    (hmem : (j, w) ∈ spreadBin new (.fin a) (.fin b) (.fin c) fuel j0) :
    ∃ x, fInter new (.fin a) (.fin b) j = .fin x ∧ 0 < x ∧ x ≤ s ∧
      0 ≤ F64.rv (x / s) ∧ F64.rv (x / s) ≤ 1 ∧
      w = F64.roundF64 (F64.rv (x / s) * c) ∧
      F64.lt (.fin a) (new.lowerBound (j + 1)) = true := by
  obtain ⟨_, _, hlt, hle, rfl⟩ := spreadBin_mem new _ _ _ fuel j0 j w hmem
  unfold fWeight
  unfold fInter at hle ⊢
  rcases iter _ _ _ _ hle with e | ⟨hov, hpos, hXS⟩
  · -- no NaN among the four bounds: the minimum is `≤ b`, the maximum `≥ a`, so their difference
    -- is a rounding or `−∞`
    exfalso
    rcases fminG_leX (new.lowerBound (j + 1)) (.fin b) with e1 | ⟨-, h2⟩
    · have := fminG_isNaN (new.lowerBound (j + 1)) (.fin b); rw [e1, hnan] at this; cases this
    rcases fmaxG_leX (new.lowerBound j) (.fin a) with e1 | ⟨-, h4⟩
    · have := fmaxG_isNaN (new.lowerBound j) (.fin a); rw [e1, hnan] at this; cases this
    generalize fminG (new.lowerBound (j + 1)) (.fin b) = H at *
    generalize fmaxG (new.lowerBound j) (.fin a) = L at *
    cases H <;> cases L <;> first | exact h2.elim | exact h4.elim | cases e | skip
    rw [sub_fin] at e
    rcases round_cases _ with ⟨e', -⟩ | ⟨e', -⟩ | ⟨e', -⟩ <;> rw [e'] at e <;> cases e
  rw [hs] at hXS ⊢
  rcases hXS with e | hXS
  · cases e
  generalize F64.sub (fminG (new.lowerBound (j + 1)) (.fin b)) (fmaxG (new.lowerBound j) (.fin a)) = X at *
  cases X with
  | fin x =>
    have hx0 : 0 < x := not_le.mp hpos
    obtain ⟨e, q0, q1⟩ := div_fin_unit hx0 hXS
    refine ⟨x, rfl, hx0, hXS, q0, q1, ?_, hov⟩
    rw [e]
    rfl
  | pinf => exact hXS.elim
  | ninf => exact absurd True.intro hpos
  | nan => exact hXS.elim

/-! ## Part B — the ideal re-binning over a linear ordered field -/

section Ideal

variable {K : Type*} [Field K] [LinearOrder K] [IsStrictOrderedRing K]

/-! ### one source bin `[lo, hi)` -/

/-- `x` clamped to `[lo, hi]` -/
def clamp (lo hi x : K) : K := max lo (min x hi)

theorem clamp_mem {lo hi : K} (h : lo ≤ hi) (x : K) : lo ≤ clamp lo hi x ∧ clamp lo hi x ≤ hi :=
  ⟨le_max_left _ _, max_le h (min_le_right _ _)⟩

theorem clamp_of_le {lo hi x : K} (h : lo ≤ hi) (hx : x ≤ lo) : clamp lo hi x = lo := by
  unfold clamp; rw [min_eq_left (le_trans hx h), max_eq_left hx]

theorem clamp_of_ge {lo hi x : K} (h : lo ≤ hi) (hx : hi ≤ x) : clamp lo hi x = hi := by
  unfold clamp; rw [min_eq_right hx, max_eq_right h]

theorem clamp_mono (lo hi : K) {x y : K} (hxy : x ≤ y) : clamp lo hi x ≤ clamp lo hi y :=
  max_le_max le_rfl (min_le_min hxy le_rfl)

/-- CDF of the uniform distribution on `[lo, hi)`: the weight of a source bin is assumed to be
    uniformly spread inside the bin -/
def ucdf (lo hi x : K) : K := (clamp lo hi x - lo) / (hi - lo)

theorem ucdf_nonneg {lo hi : K} (h : lo < hi) (x : K) : 0 ≤ ucdf lo hi x :=
  div_nonneg (sub_nonneg.mpr (clamp_mem h.le x).1) (sub_nonneg.mpr h.le)

theorem ucdf_le_one {lo hi : K} (h : lo < hi) (x : K) : ucdf lo hi x ≤ 1 :=
  (div_le_one (sub_pos.mpr h)).mpr (sub_le_sub_right (clamp_mem h.le x).2 lo)

theorem ucdf_of_le {lo hi x : K} (h : lo < hi) (hx : x ≤ lo) : ucdf lo hi x = 0 := by
  unfold ucdf; rw [clamp_of_le h.le hx, sub_self, zero_div]

theorem ucdf_of_ge {lo hi x : K} (h : lo < hi) (hx : hi ≤ x) : ucdf lo hi x = 1 := by
  unfold ucdf; rw [clamp_of_ge h.le hx, div_self (sub_pos.mpr h).ne']

theorem ucdf_mono {lo hi : K} (h : lo < hi) {x y : K} (hxy : x ≤ y) :
    ucdf lo hi x ≤ ucdf lo hi y := by
  unfold ucdf
  exact div_le_div_of_nonneg_right (sub_le_sub_right (clamp_mono lo hi hxy) lo)
    (sub_pos.mpr h).le

theorem ucdf_of_mem {lo hi x : K} (h1 : lo ≤ x) (h2 : x ≤ hi) :
    ucdf lo hi x = (x - lo) / (hi - lo) := by
  unfold ucdf clamp; rw [min_eq_left h2, max_eq_right h1]

/-- ideal proportion of the source bin `[lo, hi)` that goes to the target bin
    `[b₂ j, b₂ (j+1))` -/
def prop (b₂ : ℤ → K) (lo hi : K) (j : ℤ) : K :=
  max 0 (min (b₂ (j + 1)) hi - max (b₂ j) lo) / (hi - lo)

/-- the overlap length is the increment of the clamp -/
theorem overlap_eq_clamp_sub {lo hi A B : K} (h : lo < hi) (hAB : A ≤ B) :
    max 0 (min B hi - max A lo) = clamp lo hi B - clamp lo hi A := by
  unfold clamp
  rcases le_total B lo with h1 | h1
  · rw [min_eq_left (le_trans h1 h.le), max_eq_left h1, min_eq_left (le_trans (le_trans hAB h1) h.le),
      max_eq_left (le_trans hAB h1), sub_self, max_eq_left]
    exact sub_nonpos.mpr (h1.trans (le_max_right _ _))
  · rcases le_total hi A with h2 | h2
    · rw [min_eq_right h2, min_eq_right (le_trans h2 hAB), sub_self, max_eq_left]
      exact sub_nonpos.mpr (h2.trans (le_max_left _ _))
    · rw [min_eq_left h2, max_comm lo A, max_eq_right (show lo ≤ min B hi from le_min h1 h.le),
        max_eq_right]
      exact sub_nonneg.mpr (max_le (le_min hAB h2) (le_min h1 h.le))

theorem prop_eq_ucdf_sub {b₂ : ℤ → K} {lo hi : K} (h : lo < hi) {j : ℤ}
    (hb : b₂ j ≤ b₂ (j + 1)) :
    prop b₂ lo hi j = ucdf lo hi (b₂ (j + 1)) - ucdf lo hi (b₂ j) := by
  unfold prop ucdf
  rw [overlap_eq_clamp_sub h hb, ← sub_div, sub_sub_sub_cancel_right]

theorem prop_nonneg (b₂ : ℤ → K) {lo hi : K} (h : lo < hi) (j : ℤ) : 0 ≤ prop b₂ lo hi j :=
  div_nonneg (le_max_left _ _) (sub_pos.mpr h).le

theorem prop_pos_iff (b₂ : ℤ → K) {lo hi : K} (h : lo < hi) (j : ℤ) :
    0 < prop b₂ lo hi j ↔ max (b₂ j) lo < min (b₂ (j + 1)) hi := by
  unfold prop
  rw [div_pos_iff_of_pos_right (sub_pos.mpr h), lt_max_iff]
  simp

/-- weight only goes to overlapping bins: the proportion is positive iff the open intervals
    `(b₂ j, b₂ (j+1))` and `(lo, hi)` intersect -/
theorem prop_pos_iff_overlap (b₂ : ℤ → K) {lo hi : K} (h : lo < hi) (j : ℤ) :
    0 < prop b₂ lo hi j ↔ ∃ x, (b₂ j < x ∧ x < b₂ (j + 1)) ∧ (lo < x ∧ x < hi) := by
  rw [prop_pos_iff b₂ h]
  constructor
  · intro hlt
    obtain ⟨x, h1, h2⟩ := exists_between hlt
    exact ⟨x, ⟨(max_lt_iff.1 h1).1, (lt_min_iff.1 h2).1⟩, (max_lt_iff.1 h1).2, (lt_min_iff.1 h2).2⟩
  · rintro ⟨x, ⟨h1, h2⟩, h3, h4⟩
    exact (max_lt h1 h3).trans (lt_min h2 h4)

theorem prop_pos_iff_lt (b₂ : ℤ → K) {lo hi : K} (h : lo < hi) (j : ℤ)
    (hb : b₂ j < b₂ (j + 1)) :
    0 < prop b₂ lo hi j ↔ b₂ j < hi ∧ lo < b₂ (j + 1) := by
  rw [prop_pos_iff b₂ h, max_lt_iff, lt_min_iff, lt_min_iff]
  constructor
  · rintro ⟨⟨_, h2⟩, h3, _⟩; exact ⟨h2, h3⟩
  · rintro ⟨h1, h2⟩; exact ⟨⟨hb, h1⟩, h2, h⟩

theorem prop_eq_zero_of_le (b₂ : ℤ → K) {lo hi : K} (h : lo < hi) (j : ℤ)
    (hj : b₂ (j + 1) ≤ lo ∨ hi ≤ b₂ j) : prop b₂ lo hi j = 0 := by
  have h0 := prop_nonneg b₂ h j
  by_contra hne
  have hpos : 0 < prop b₂ lo hi j := lt_of_le_of_ne h0 (Ne.symm hne)
  rw [prop_pos_iff b₂ h, max_lt_iff, lt_min_iff, lt_min_iff] at hpos
  rcases hj with hj | hj
  · exact absurd hpos.2.1 (not_lt.mpr hj)
  · exact absurd hpos.1.2 (not_lt.mpr hj)

/-! ### telescoping sums over integer intervals -/

theorem sum_Ico_telescope (f : ℤ → K) {m n : ℤ} (h : m ≤ n) :
    ∑ j ∈ Finset.Ico m n, (f (j + 1) - f j) = f n - f m := by
  induction n, h using Int.leInduction with
  | base => simp
  | succ n hmn ih =>
    rw [← Finset.insert_Ico_right_eq_Ico_add_one hmn, Finset.sum_insert (by simp), ih]
    ring

theorem prop_sum_Ico {b₂ : ℤ → K} (hb : Monotone b₂) {lo hi : K} (h : lo < hi) {m n : ℤ}
    (hmn : m ≤ n) :
    ∑ j ∈ Finset.Ico m n, prop b₂ lo hi j = ucdf lo hi (b₂ n) - ucdf lo hi (b₂ m) := by
  rw [← sum_Ico_telescope (fun j => ucdf lo hi (b₂ j)) hmn]
  exact Finset.sum_congr rfl fun j _ => prop_eq_ucdf_sub h (hb (lt_add_one j).le)

/-- **conservation for one source bin**: the proportions over the target bins `m..J`, where bin
    `m` starts at or below `lo` and bin `J` ends at or above `hi`, add up to `1` -/
theorem prop_sum_eq_one {b₂ : ℤ → K} (hb : Monotone b₂) {lo hi : K} (h : lo < hi) {m J : ℤ}
    (hm : b₂ m ≤ lo) (hJ : hi ≤ b₂ (J + 1)) :
    ∑ j ∈ Finset.Icc m J, prop b₂ lo hi j = 1 := by
  have hmJ : m ≤ J + 1 :=
    not_lt.mp fun hc => absurd h (not_lt.mpr (hJ.trans ((hb hc.le).trans hm)))
  rw [← Finset.Ico_add_one_right_eq_Icc, prop_sum_Ico hb h hmJ, ucdf_of_ge h hJ, ucdf_of_le h hm,
    sub_zero]

/-! ### grids -/

/-- a bin grid: strictly increasing positive bounds `b` (bin `i` is `[b i, b (i+1))`) and an index
    function consistent with them -/
structure Grid (K : Type*) [Field K] [LinearOrder K] [IsStrictOrderedRing K] where
  b : ℤ → K
  idx : K → ℤ
  strictMono : StrictMono b
  pos : ∀ i, 0 < b i
  idx_le : ∀ v, 0 < v → b (idx v) ≤ v
  lt_idx_succ : ∀ v, 0 < v → v < b (idx v + 1)

/-- conservation for one source bin, in terms of a grid: the loop starts at `idx lo` and visits
    exactly the bins `j ≥ idx lo` with `b j < hi`; their proportions add up to `1` -/
theorem Grid.prop_sum_eq_one (G : Grid K) {lo hi : K} (hlo : 0 < lo) (h : lo < hi) {J : ℤ}
    (hJ : hi ≤ G.b (J + 1)) :
    ∑ j ∈ Finset.Icc (G.idx lo) J, prop G.b lo hi j = 1 :=
  Rebin.prop_sum_eq_one G.strictMono.monotone h (G.idx_le lo hlo) hJ

/-! ### re-binning a finite histogram -/

/-- scaled bounds of source bin `i` -/
def sLo (b₁ : ℤ → K) (scale : K) (i : ℤ) : K := b₁ i * scale
def sHi (b₁ : ℤ → K) (scale : K) (i : ℤ) : K := b₁ (i + 1) * scale

theorem sLo_lt_sHi {b₁ : ℤ → K} (hb₁ : StrictMono b₁) {scale : K} (hs : 0 < scale) (i : ℤ) :
    sLo b₁ scale i < sHi b₁ scale i :=
  mul_lt_mul_of_pos_right (hb₁ (lt_add_one i)) hs

theorem sHi_le_sLo {b₁ : ℤ → K} (hb₁ : StrictMono b₁) {scale : K} (hs : 0 < scale) {i k : ℤ}
    (hik : i < k) : sHi b₁ scale i ≤ sLo b₁ scale k :=
  mul_le_mul_of_nonneg_right (hb₁.monotone (by omega)) hs.le

/-- total weight of a histogram given as a list of `(index, weight)` -/
def total (src : List (ℤ × K)) : K := (src.map Prod.snd).sum

@[simp] theorem total_nil : total ([] : List (ℤ × K)) = 0 := rfl
@[simp] theorem total_cons (p : ℤ × K) (t : List (ℤ × K)) : total (p :: t) = p.2 + total t := by
  simp [total]
theorem total_append (l t : List (ℤ × K)) : total (l ++ t) = total l + total t := by
  simp [total]

/-- the ideal re-binned histogram: weight of target bin `j` -/
def rebin (b₁ b₂ : ℤ → K) (scale : K) (src : List (ℤ × K)) (j : ℤ) : K :=
  (src.map fun p => prop b₂ (sLo b₁ scale p.1) (sHi b₁ scale p.1) j * p.2).sum

@[simp] theorem rebin_nil (b₁ b₂ : ℤ → K) (scale : K) (j : ℤ) : rebin b₁ b₂ scale [] j = 0 := rfl
@[simp] theorem rebin_cons (b₁ b₂ : ℤ → K) (scale : K) (p : ℤ × K) (t : List (ℤ × K)) (j : ℤ) :
    rebin b₁ b₂ scale (p :: t) j =
      prop b₂ (sLo b₁ scale p.1) (sHi b₁ scale p.1) j * p.2 + rebin b₁ b₂ scale t j := by
  simp [rebin]

theorem rebin_nonneg {b₁ b₂ : ℤ → K} (hb₁ : StrictMono b₁) {scale : K} (hs : 0 < scale)
    {src : List (ℤ × K)} (hc : ∀ p ∈ src, 0 ≤ p.2) (j : ℤ) : 0 ≤ rebin b₁ b₂ scale src j :=
  List.sum_nonneg fun _ hx => by
    obtain ⟨p, hp, rfl⟩ := List.mem_map.1 hx
    exact mul_nonneg (prop_nonneg b₂ (sLo_lt_sHi hb₁ hs p.1) j) (hc p hp)

/-- the piecewise-linear CDF of the scaled source (weight uniformly spread inside each bin) -/
def srcCdf (b₁ : ℤ → K) (scale : K) (src : List (ℤ × K)) (x : K) : K :=
  (src.map fun p => p.2 * ucdf (sLo b₁ scale p.1) (sHi b₁ scale p.1) x).sum

@[simp] theorem srcCdf_nil (b₁ : ℤ → K) (scale : K) (x : K) : srcCdf b₁ scale [] x = 0 := rfl
@[simp] theorem srcCdf_cons (b₁ : ℤ → K) (scale : K) (p : ℤ × K) (t : List (ℤ × K)) (x : K) :
    srcCdf b₁ scale (p :: t) x =
      p.2 * ucdf (sLo b₁ scale p.1) (sHi b₁ scale p.1) x + srcCdf b₁ scale t x := by
  simp [srcCdf]
theorem srcCdf_append (b₁ : ℤ → K) (scale : K) (l t : List (ℤ × K)) (x : K) :
    srcCdf b₁ scale (l ++ t) x = srcCdf b₁ scale l x + srcCdf b₁ scale t x := by
  simp [srcCdf]

theorem srcCdf_eq_zero {b₁ : ℤ → K} (hb₁ : StrictMono b₁) {scale : K} (hs : 0 < scale)
    {src : List (ℤ × K)} {x : K} (hx : ∀ p ∈ src, x ≤ sLo b₁ scale p.1) :
    srcCdf b₁ scale src x = 0 :=
  List.sum_eq_zero fun _ hy => by
    obtain ⟨p, hp, rfl⟩ := List.mem_map.1 hy
    rw [ucdf_of_le (sLo_lt_sHi hb₁ hs p.1) (hx p hp), mul_zero]

theorem srcCdf_eq_total {b₁ : ℤ → K} (hb₁ : StrictMono b₁) {scale : K} (hs : 0 < scale)
    {src : List (ℤ × K)} {x : K} (hx : ∀ p ∈ src, sHi b₁ scale p.1 ≤ x) :
    srcCdf b₁ scale src x = total src :=
  congrArg List.sum <| List.map_congr_left fun p hp => by
    rw [ucdf_of_ge (sLo_lt_sHi hb₁ hs p.1) (hx p hp), mul_one]

theorem srcCdf_nonneg {b₁ : ℤ → K} (hb₁ : StrictMono b₁) {scale : K} (hs : 0 < scale)
    {src : List (ℤ × K)} (hc : ∀ p ∈ src, 0 ≤ p.2) (x : K) : 0 ≤ srcCdf b₁ scale src x :=
  List.sum_nonneg fun _ hy => by
    obtain ⟨p, hp, rfl⟩ := List.mem_map.1 hy
    exact mul_nonneg (hc p hp) (ucdf_nonneg (sLo_lt_sHi hb₁ hs p.1) x)

theorem srcCdf_le_total {b₁ : ℤ → K} (hb₁ : StrictMono b₁) {scale : K} (hs : 0 < scale)
    {src : List (ℤ × K)} (hc : ∀ p ∈ src, 0 ≤ p.2) (x : K) :
    srcCdf b₁ scale src x ≤ total src :=
  List.sum_le_sum fun p hp => mul_le_of_le_one_right (hc p hp) (ucdf_le_one (sLo_lt_sHi hb₁ hs p.1) x)

theorem srcCdf_mono {b₁ : ℤ → K} (hb₁ : StrictMono b₁) {scale : K} (hs : 0 < scale)
    {src : List (ℤ × K)} (hc : ∀ p ∈ src, 0 ≤ p.2) {x y : K} (hxy : x ≤ y) :
    srcCdf b₁ scale src x ≤ srcCdf b₁ scale src y :=
  List.sum_le_sum fun p hp =>
    mul_le_mul_of_nonneg_left (ucdf_mono (sLo_lt_sHi hb₁ hs p.1) hxy) (hc p hp)

/-- partial sums of the target = increments of the source CDF -/
theorem rebin_sum_Ico {b₁ b₂ : ℤ → K} (hb₁ : StrictMono b₁) (hb₂ : Monotone b₂) {scale : K}
    (hs : 0 < scale) (src : List (ℤ × K)) {m n : ℤ} (hmn : m ≤ n) :
    ∑ j ∈ Finset.Ico m n, rebin b₁ b₂ scale src j =
      srcCdf b₁ scale src (b₂ n) - srcCdf b₁ scale src (b₂ m) := by
  induction src with
  | nil => simp
  | cons p t ih =>
    simp only [rebin_cons, srcCdf_cons, Finset.sum_add_distrib, ih, ← Finset.sum_mul]
    rw [prop_sum_Ico hb₂ (sLo_lt_sHi hb₁ hs p.1) hmn]
    ring

/-- **the key lemma for quantiles**: the cumulated target weight below the bin edge `b₂ j`
    is the piecewise-linear source CDF at that edge -/
theorem rebin_cdf {b₁ b₂ : ℤ → K} (hb₁ : StrictMono b₁) (hb₂ : Monotone b₂) {scale : K}
    (hs : 0 < scale) (src : List (ℤ × K)) {m j : ℤ}
    (hm : ∀ p ∈ src, b₂ m ≤ sLo b₁ scale p.1) (hmj : m ≤ j) :
    ∑ k ∈ Finset.Ico m j, rebin b₁ b₂ scale src k = srcCdf b₁ scale src (b₂ j) := by
  rw [rebin_sum_Ico hb₁ hb₂ hs src hmj, srcCdf_eq_zero hb₁ hs hm, sub_zero]

/-- **conservation**: the total weight of the target equals the total weight of the source -/
theorem rebin_total {b₁ b₂ : ℤ → K} (hb₁ : StrictMono b₁) (hb₂ : Monotone b₂) {scale : K}
    (hs : 0 < scale) (src : List (ℤ × K)) {m J : ℤ} (hmJ : m ≤ J + 1)
    (hm : ∀ p ∈ src, b₂ m ≤ sLo b₁ scale p.1) (hJ : ∀ p ∈ src, sHi b₁ scale p.1 ≤ b₂ (J + 1)) :
    ∑ j ∈ Finset.Icc m J, rebin b₁ b₂ scale src j = total src := by
  rw [← Finset.Ico_add_one_right_eq_Icc, rebin_cdf hb₁ hb₂ hs src hm hmJ,
    srcCdf_eq_total hb₁ hs hJ]

/-! ### identity -/

theorem prop_self {b : ℤ → K} (hb : StrictMono b) (i j : ℤ) :
    prop b (b i) (b (i + 1)) j = if j = i then 1 else 0 := by
  have h : b i < b (i + 1) := hb (lt_add_one i)
  split_ifs with hji
  · subst hji
    unfold prop
    rw [min_self, max_self, max_eq_right (sub_pos.mpr h).le, div_self (sub_pos.mpr h).ne']
  · apply prop_eq_zero_of_le b h
    rcases lt_or_gt_of_ne hji with hlt | hgt
    · left; exact hb.monotone (by omega)
    · right; exact hb.monotone (by omega)

/-- weight of bin `j` in a histogram given as a list -/
def weightAt (src : List (ℤ × K)) (j : ℤ) : K := (src.map fun p => if p.1 = j then p.2 else 0).sum

/-- **identity**: re-binning onto the same grid with scale `1` returns the source histogram -/
theorem identity_rebin {b : ℤ → K} (hb : StrictMono b) (src : List (ℤ × K)) (j : ℤ) :
    rebin b b 1 src j = weightAt src j := by
  unfold rebin weightAt sLo sHi
  congr 1
  apply List.map_congr_left
  intro p _
  rw [mul_one, mul_one, prop_self hb]
  by_cases h : p.1 = j
  · rw [if_pos h.symm, if_pos h, one_mul]
  · rw [if_neg (fun e => h e.symm), if_neg h, zero_mul]

/-! ### quantiles -/

/-- the first bin of a list whose cumulated weight exceeds `r` -/
theorem exists_first_exceed (l : List (ℤ × K)) (r : K) (h0 : 0 ≤ r) (hr : r < total l) :
    ∃ pre x post, l = pre ++ x :: post ∧ total pre ≤ r ∧ r < total pre + x.2 := by
  induction l generalizing r with
  | nil => exact absurd hr (not_lt.mpr h0)
  | cons x t ih =>
    rcases lt_or_ge r x.2 with hx | hx
    · exact ⟨[], x, t, rfl, h0, by rwa [total_nil, zero_add]⟩
    · rw [total_cons] at hr
      obtain ⟨pre, y, post, e, h1, h2⟩ := ih (r - x.2) (sub_nonneg.mpr hx) (sub_lt_iff_lt_add'.mpr hr)
      refine ⟨x :: pre, y, post, by rw [e]; rfl, ?_, ?_⟩
      · rw [total_cons]; exact le_sub_iff_add_le'.mp h1
      · rw [total_cons, add_assoc]; exact sub_lt_iff_lt_add'.mp h2

/-- bracket of the source CDF by the cumulated weights around one source bin of a sorted list -/
theorem srcCdf_ge_of_sHi_le {b₁ : ℤ → K} (hb₁ : StrictMono b₁) {scale : K} (hs : 0 < scale)
    {pre post : List (ℤ × K)} {p : ℤ × K}
    (hsorted : (pre ++ p :: post).Pairwise (fun u v => u.1 < v.1))
    (hc : ∀ q ∈ pre ++ p :: post, 0 ≤ q.2) {x : K} (hx : sHi b₁ scale p.1 ≤ x) :
    total pre + p.2 ≤ srcCdf b₁ scale (pre ++ p :: post) x := by
  rw [List.pairwise_append] at hsorted
  obtain ⟨_, hpp, hcross⟩ := hsorted
  rw [srcCdf_append, srcCdf_cons]
  have h1 : srcCdf b₁ scale pre x = total pre := by
    apply srcCdf_eq_total hb₁ hs
    intro q hq
    have : q.1 < p.1 := hcross q hq p (List.mem_cons_self ..)
    exact le_trans (le_trans (sHi_le_sLo hb₁ hs this) (sLo_lt_sHi hb₁ hs p.1).le) hx
  have h2 : 0 ≤ srcCdf b₁ scale post x :=
    srcCdf_nonneg hb₁ hs (fun q hq => hc q (by simp [hq])) x
  rw [h1, ucdf_of_ge (sLo_lt_sHi hb₁ hs p.1) hx, mul_one, ← add_assoc]
  exact le_add_of_nonneg_right h2

theorem srcCdf_le_of_le_sLo {b₁ : ℤ → K} (hb₁ : StrictMono b₁) {scale : K} (hs : 0 < scale)
    {pre post : List (ℤ × K)} {p : ℤ × K}
    (hsorted : (pre ++ p :: post).Pairwise (fun u v => u.1 < v.1))
    (hc : ∀ q ∈ pre ++ p :: post, 0 ≤ q.2) {x : K} (hx : x ≤ sLo b₁ scale p.1) :
    srcCdf b₁ scale (pre ++ p :: post) x ≤ total pre := by
  rw [List.pairwise_append, List.pairwise_cons] at hsorted
  obtain ⟨_, ⟨hpost, _⟩, _⟩ := hsorted
  rw [srcCdf_append, srcCdf_cons]
  have h1 : srcCdf b₁ scale pre x ≤ total pre :=
    srcCdf_le_total hb₁ hs (fun q hq => hc q (by simp [hq])) x
  have h2 : srcCdf b₁ scale post x = 0 := by
    apply srcCdf_eq_zero hb₁ hs
    intro q hq
    exact le_trans hx (le_trans (sLo_lt_sHi hb₁ hs p.1).le (sHi_le_sLo hb₁ hs (hpost q hq)))
  rw [h2, ucdf_of_le (sLo_lt_sHi hb₁ hs p.1) hx, mul_zero, add_zero, add_zero]
  exact h1

/-- the source bin that answers rank `r` overlaps any interval `(x, y)` on which the source CDF
    crosses `r` -/
theorem srcCdf_bracket {b₁ : ℤ → K} (hb₁ : StrictMono b₁) {scale : K} (hs : 0 < scale)
    {src : List (ℤ × K)} (hsorted : src.Pairwise (fun u v => u.1 < v.1))
    (hc : ∀ q ∈ src, 0 ≤ q.2) {r x y : K} (h0 : 0 ≤ r)
    (hx : srcCdf b₁ scale src x ≤ r) (hy : r < srcCdf b₁ scale src y) :
    ∃ pre p post, src = pre ++ p :: post ∧ total pre ≤ r ∧ r < total pre + p.2 ∧
      x < sHi b₁ scale p.1 ∧ sLo b₁ scale p.1 < y := by
  have hr : r < total src := lt_of_lt_of_le hy (srcCdf_le_total hb₁ hs hc y)
  obtain ⟨pre, p, post, rfl, h1, h2⟩ := exists_first_exceed src r h0 hr
  refine ⟨pre, p, post, rfl, h1, h2, lt_of_not_ge fun hcon => ?_, lt_of_not_ge fun hcon => ?_⟩
  · exact (h2.trans_le (srcCdf_ge_of_sHi_le hb₁ hs hsorted hc hcon)).not_ge hx
  · exact (hy.trans_le (srcCdf_le_of_le_sLo hb₁ hs hsorted hc hcon)).not_ge h1

/-- **quantile bin**: if target bin `j` is the first whose cumulated weight exceeds `r`, then the
    source bin `i` that answers rank `r` (`C_{i-1} ≤ r < C_i`) overlaps target bin `j` -/
theorem rebin_quantile_bin {b₁ b₂ : ℤ → K} (hb₁ : StrictMono b₁) (hb₂ : Monotone b₂) {scale : K}
    (hs : 0 < scale) {src : List (ℤ × K)} (hsorted : src.Pairwise (fun u v => u.1 < v.1))
    (hc : ∀ q ∈ src, 0 ≤ q.2) {m j : ℤ} (hm : ∀ p ∈ src, b₂ m ≤ sLo b₁ scale p.1) (hmj : m ≤ j)
    {r : K} (h0 : 0 ≤ r)
    (hbelow : ∑ k ∈ Finset.Ico m j, rebin b₁ b₂ scale src k ≤ r)
    (habove : r < ∑ k ∈ Finset.Icc m j, rebin b₁ b₂ scale src k) :
    ∃ pre p post, src = pre ++ p :: post ∧ total pre ≤ r ∧ r < total pre + p.2 ∧
      b₂ j < sHi b₁ scale p.1 ∧ sLo b₁ scale p.1 < b₂ (j + 1) := by
  rw [rebin_cdf hb₁ hb₂ hs src hm hmj] at hbelow
  rw [← Finset.Ico_add_one_right_eq_Icc, rebin_cdf hb₁ hb₂ hs src hm (by omega)] at habove
  exact srcCdf_bracket hb₁ hs hsorted hc h0 hbelow habove

/-! ### accuracy across two overlapping bins -/

/-- two overlapping intervals `[A, A']`, `[B, B']` of ratios at most `ρ₁`, `ρ₂`: a point of the second
    is below `ρ₁ ρ₂` times a point of the first -/
theorem lt_mul_of_overlap {A A' B B' ρ₁ ρ₂ x y : K} (hρ₁0 : 0 < ρ₁) (hρ₂0 : 0 < ρ₂)
    (hρ₁ : A' ≤ ρ₁ * A) (hρ₂ : B' ≤ ρ₂ * B) (hov : B < A') (hx : A ≤ x) (hy : y ≤ B') :
    y < ρ₁ * ρ₂ * x :=
  calc y ≤ ρ₂ * B := hy.trans hρ₂
    _ < ρ₂ * A' := mul_lt_mul_of_pos_left hov hρ₂0
    _ ≤ ρ₂ * (ρ₁ * x) :=
        mul_le_mul_of_nonneg_left (hρ₁.trans (mul_le_mul_of_nonneg_left hx hρ₁0.le)) hρ₂0.le
    _ = ρ₁ * ρ₂ * x := by rw [← mul_assoc, mul_comm ρ₂]

/-- **combined accuracy**: representatives of two overlapping bins are within the product of the
    two grid ratios -/
theorem overlap_accuracy {b₁ b₂ : ℤ → K} {scale ρ₁ ρ₂ : K} (hs : 0 < scale)
    {i j : ℤ} (hb₁ : 0 < b₁ i) (hb₂ : 0 < b₂ j)
    (hρ₁ : b₁ (i + 1) ≤ ρ₁ * b₁ i) (hρ₂ : b₂ (j + 1) ≤ ρ₂ * b₂ j)
    (hov1 : b₂ j < sHi b₁ scale i) (hov2 : sLo b₁ scale i < b₂ (j + 1))
    {rep₁ rep₂ : K} (h1 : b₁ i ≤ rep₁) (h1' : rep₁ ≤ b₁ (i + 1))
    (h2 : b₂ j ≤ rep₂) (h2' : rep₂ ≤ b₂ (j + 1)) :
    rep₂ < ρ₁ * ρ₂ * (scale * rep₁) ∧ scale * rep₁ < ρ₁ * ρ₂ * rep₂ := by
  have hlo : 0 < sLo b₁ scale i := mul_pos hb₁ hs
  have hρ₁0 : 0 < ρ₁ := pos_of_mul_pos_left ((hb₁.trans_le (h1.trans h1')).trans_le hρ₁) hb₁.le
  have hρ₂0 : 0 < ρ₂ := pos_of_mul_pos_left ((hlo.trans hov2).trans_le hρ₂) hb₂.le
  have hρ : sHi b₁ scale i ≤ ρ₁ * sLo b₁ scale i :=
    (mul_le_mul_of_nonneg_right hρ₁ hs.le).trans_eq (mul_assoc _ _ _)
  rw [mul_comm scale]
  refine ⟨lt_mul_of_overlap hρ₁0 hρ₂0 hρ hρ₂ hov1 (mul_le_mul_of_nonneg_right h1 hs.le) h2', ?_⟩
  rw [mul_comm ρ₁]
  exact lt_mul_of_overlap hρ₂0 hρ₁0 hρ₂ hρ hov2 h2 (mul_le_mul_of_nonneg_right h1' hs.le)

/-- **quantile accuracy (`ρ` form)**: the value the re-binned histogram answers for rank `r`
    (a representative of the first target bin whose cumulated weight exceeds `r`) and the scaled
    value the source answers for the same rank are within the factor `ρ₁ ρ₂` of each other -/
theorem rebin_quantile_accuracy {b₁ b₂ : ℤ → K} (hb₁ : StrictMono b₁) (hb₂ : Monotone b₂)
    (hpos₁ : ∀ i, 0 < b₁ i) (hpos₂ : ∀ j, 0 < b₂ j) {scale ρ₁ ρ₂ : K} (hs : 0 < scale)
    (hρ₁ : ∀ i, b₁ (i + 1) ≤ ρ₁ * b₁ i) (hρ₂ : ∀ j, b₂ (j + 1) ≤ ρ₂ * b₂ j)
    {rep₁ rep₂ : ℤ → K}
    (hrep₁ : ∀ i, b₁ i ≤ rep₁ i ∧ rep₁ i ≤ b₁ (i + 1))
    (hrep₂ : ∀ j, b₂ j ≤ rep₂ j ∧ rep₂ j ≤ b₂ (j + 1))
    {src : List (ℤ × K)} (hsorted : src.Pairwise (fun u v => u.1 < v.1))
    (hc : ∀ q ∈ src, 0 ≤ q.2) {m j : ℤ} (hm : ∀ p ∈ src, b₂ m ≤ sLo b₁ scale p.1) (hmj : m ≤ j)
    {r : K} (h0 : 0 ≤ r)
    (hbelow : ∑ k ∈ Finset.Ico m j, rebin b₁ b₂ scale src k ≤ r)
    (habove : r < ∑ k ∈ Finset.Icc m j, rebin b₁ b₂ scale src k) :
    ∃ pre p post, src = pre ++ p :: post ∧ total pre ≤ r ∧ r < total pre + p.2 ∧
      1 / (ρ₁ * ρ₂) < rep₂ j / (scale * rep₁ p.1) ∧ rep₂ j / (scale * rep₁ p.1) < ρ₁ * ρ₂ := by
  obtain ⟨pre, p, post, e, h1, h2, hov1, hov2⟩ :=
    rebin_quantile_bin hb₁ hb₂ hs hsorted hc hm hmj h0 hbelow habove
  refine ⟨pre, p, post, e, h1, h2, ?_⟩
  obtain ⟨g1, g2⟩ := overlap_accuracy hs (hpos₁ p.1) (hpos₂ j) (hρ₁ p.1) (hρ₂ j) hov1 hov2
    (hrep₁ p.1).1 (hrep₁ p.1).2 (hrep₂ j).1 (hrep₂ j).2
  have hden : 0 < scale * rep₁ p.1 := mul_pos hs (lt_of_lt_of_le (hpos₁ p.1) (hrep₁ p.1).1)
  have hρ : 0 < ρ₁ * ρ₂ :=
    pos_of_mul_pos_left (((hpos₂ j).trans_le (hrep₂ j).1).trans g1) hden.le
  constructor
  · rw [div_lt_div_iff₀ hρ hden, one_mul, mul_comm (rep₂ j)]; exact g2
  · rw [div_lt_iff₀ hden]; exact g1

/-- relative accuracy `α` at `x`, in multiplicative form -/
theorem mul_le_and_le_mul_of_abs_sub_le {r x α : K} (h : |r - x| ≤ α * x) :
    (1 - α) * x ≤ r ∧ r ≤ (1 + α) * x := by
  obtain ⟨h1, h2⟩ := abs_le.1 h
  rw [one_sub_mul, one_add_mul, add_comm]
  exact ⟨sub_le_iff_le_add.2 (neg_le_sub_iff_le_add.1 h1), sub_le_iff_le_add.1 h2⟩

/-- two representatives of one and the same point `x`, one at most `(1 + α₁) x`, the other at least
    `(1 - α₂) x` -/
theorem mul_le_mul_of_common_point {α₁ α₂ r₁ r₂ x : K} (hα₁ : 0 ≤ 1 + α₁) (hα₂ : 0 ≤ 1 - α₂)
    (h1 : r₁ ≤ (1 + α₁) * x) (h2 : (1 - α₂) * x ≤ r₂) : (1 - α₂) * r₁ ≤ (1 + α₁) * r₂ :=
  calc (1 - α₂) * r₁ ≤ (1 - α₂) * ((1 + α₁) * x) := mul_le_mul_of_nonneg_left h1 hα₂
    _ = (1 + α₁) * ((1 - α₂) * x) := mul_left_comm _ _ _
    _ ≤ (1 + α₁) * r₂ := mul_le_mul_of_nonneg_left h2 hα₁

/-- **combined accuracy, `α` form**: if the representative of source bin `i` is `α₁`-accurate for
    the points inside the bin and the representative of target bin `j` is `α₂`-accurate, and the
    scaled source bin overlaps the target bin, then
    `(1-α₂)/(1+α₁) ≤ rep₂ / (scale·rep₁) ≤ (1+α₂)/(1-α₁)` (stated without division): both are
    accurate for a common point `v * scale` of the two bins -/
theorem overlap_accuracy_alpha {b₁ b₂ : ℤ → K} {scale α₁ α₂ : K} (hs : 0 < scale) {i j : ℤ}
    (hb₁ : b₁ i < b₁ (i + 1)) (hb₂ : b₂ j < b₂ (j + 1))
    (hα₁ : 0 ≤ α₁) (hα₁' : α₁ ≤ 1) (hα₂ : 0 ≤ α₂) (hα₂' : α₂ ≤ 1) {rep₁ rep₂ : K}
    (hacc₁ : ∀ v, b₁ i < v → v < b₁ (i + 1) → |rep₁ - v| ≤ α₁ * v)
    (hacc₂ : ∀ v, b₂ j < v → v < b₂ (j + 1) → |rep₂ - v| ≤ α₂ * v)
    (hov1 : b₂ j < sHi b₁ scale i) (hov2 : sLo b₁ scale i < b₂ (j + 1)) :
    (1 - α₂) * (scale * rep₁) ≤ (1 + α₁) * rep₂ ∧
      (1 - α₁) * rep₂ ≤ (1 + α₂) * (scale * rep₁) := by
  have hlh : sLo b₁ scale i < sHi b₁ scale i := mul_lt_mul_of_pos_right hb₁ hs
  obtain ⟨x, ⟨hx1, hx2⟩, hx3, hx4⟩ :=
    (prop_pos_iff_overlap b₂ hlh j).1 ((prop_pos_iff_lt b₂ hlh j hb₂).2 ⟨hov1, hov2⟩)
  obtain ⟨v, rfl⟩ : ∃ v, x = scale * v := ⟨x / scale, (mul_div_cancel₀ x hs.ne').symm⟩
  rw [sLo, mul_comm (b₁ i)] at hx3
  rw [sHi, mul_comm (b₁ (i + 1))] at hx4
  obtain ⟨a2, a1⟩ := mul_le_and_le_mul_of_abs_sub_le
    (hacc₁ v (lt_of_mul_lt_mul_left hx3 hs.le) (lt_of_mul_lt_mul_left hx4 hs.le))
  obtain ⟨b2, b1⟩ := mul_le_and_le_mul_of_abs_sub_le (hacc₂ _ hx1 hx2)
  exact ⟨mul_le_mul_of_common_point (add_nonneg zero_le_one hα₁) (sub_nonneg.2 hα₂')
      ((mul_le_mul_of_nonneg_left a1 hs.le).trans_eq (mul_left_comm _ _ _)) b2,
    mul_le_mul_of_common_point (add_nonneg zero_le_one hα₂) (sub_nonneg.2 hα₁') b1
      ((mul_left_comm _ _ _).trans_le (mul_le_mul_of_nonneg_left a2 hs.le))⟩

end Ideal

/-! ### a concrete family of grids over `ℚ`: powers of a natural number -/

/-- the grid `b i = n ^ i` with `idx = ⌊log_n ·⌋` -/
def natGrid (n : ℕ) (hn : 1 < n) : Grid ℚ where
  b := fun i => (n : ℚ) ^ i
  idx := fun v => Int.log n v
  strictMono := zpow_right_strictMono₀ (by exact_mod_cast hn)
  pos := fun i => zpow_pos (by exact_mod_cast (by omega : 0 < n)) i
  idx_le := fun v hv => Int.zpow_log_le_self hn hv
  lt_idx_succ := fun v _ => Int.lt_zpow_succ_log_self hn v

theorem natGrid_unbounded (n : ℕ) (hn : 1 < n) (x : ℚ) : ∃ J, x ≤ (natGrid n hn).b (J + 1) :=
  ⟨Int.log n x, (Int.lt_zpow_succ_log_self hn x).le⟩

/-! ## Part C — the float loop under exact operations is the ideal re-binning -/

/-- the float operation producing the exact result `x` is exact -/
def Exact (x : ℚ) : Prop := F64.roundF64 x = .fin x

/-- the target bins visited from `j0` up to the last bin `J` that starts below `inHigh` -/
def visited (j0 J : ℤ) : List ℤ := (List.range (J + 1 - j0).toNat).map fun (k : ℕ) => j0 + (k : ℤ)

theorem visited_of_gt {j0 J : ℤ} (h : J < j0) : visited j0 J = [] := by
  unfold visited
  rw [show (J + 1 - j0).toNat = 0 by omega]; rfl

theorem visited_cons {j0 J : ℤ} (h : j0 ≤ J) : visited j0 J = j0 :: visited (j0 + 1) J := by
  unfold visited
  obtain ⟨n, hn⟩ : ∃ n : ℕ, (J + 1 - j0).toNat = n + 1 := ⟨(J - j0).toNat, by omega⟩
  rw [hn, show (J + 1 - (j0 + 1)).toNat = n by omega, List.range_succ_eq_map, List.map_cons,
    List.map_map]
  refine congrArg₂ _ (by simp) (List.map_congr_left fun k _ => ?_)
  simp only [Function.comp_apply, Nat.succ_eq_add_one]
  push_cast; ring

theorem mem_visited {j0 J j : ℤ} : j ∈ visited j0 J ↔ j0 ≤ j ∧ j ≤ J := by
  unfold visited
  simp only [List.mem_map, List.mem_range]
  constructor
  · rintro ⟨k, hk, rfl⟩; omega
  · rintro ⟨h1, h2⟩; exact ⟨(j - j0).toNat, by omega, by omega⟩

/-- **`spreadBin` = ideal proportions** when every float operation of the loop is exact, the oracle
    bounds are finite and strictly increasing, and `fuel` covers the visited range `j0..J`. -/
theorem spreadBin_spec (new : MapEnv) (b : ℤ → ℚ) (hlb : ∀ j, new.lowerBound j = .fin (b j))
    (hb : StrictMono b) {lo hi c : ℚ} (h : lo < hi) {J : ℤ}
    (hJ1 : ∀ j, j ≤ J → b j < hi) (hJ2 : hi ≤ b (J + 1))
    (hsize : Exact (hi - lo)) {m : ℤ}
    (hinter : ∀ j, m ≤ j → j ≤ J → Exact (min (b (j + 1)) hi - max (b j) lo))
    (hdiv : ∀ j, m ≤ j → j ≤ J → 0 < prop b lo hi j → Exact (prop b lo hi j))
    (hmul : ∀ j, m ≤ j → j ≤ J → 0 < prop b lo hi j → Exact (prop b lo hi j * c)) :
    ∀ (fuel : ℕ) (j0 : ℤ), m ≤ j0 → j0 ≤ J + 1 → (J + 1 - j0).toNat ≤ fuel →
      spreadBin new (.fin lo) (.fin hi) (.fin c) fuel j0 =
        (visited j0 J).filterMap fun j =>
          if 0 < prop b lo hi j then some (j, F64.fin (prop b lo hi j * c)) else none := by
  intro fuel
  induction fuel with
  | zero =>
    intro j0 hm0 h1 h2
    rw [visited_of_gt (by omega)]; rfl
  | succ n ih =>
    intro j0 hm0 h1 h2
    rw [spreadBin]
    by_cases hj : j0 ≤ J
    · have hguard : F64.lt (new.lowerBound j0) (.fin hi) = true := by
        rw [hlb]; simpa [F64.lt] using hJ1 j0 hj
      rw [if_pos hguard, visited_cons hj, List.filterMap_cons]
      simp only
      rw [hlb j0, hlb (j0 + 1), fmaxG_fin_fin, fminG_fin_fin, F64.sub_fin, hinter j0 hm0 hj]
      have hsz : 0 < hi - lo := sub_pos.mpr h
      have hprop : prop b lo hi j0 = max 0 (min (b (j0 + 1)) hi - max (b j0) lo) / (hi - lo) := rfl
      by_cases hx : min (b (j0 + 1)) hi - max (b j0) lo ≤ 0
      · have hle : F64.le (.fin (min (b (j0 + 1)) hi - max (b j0) lo)) (.fin 0) = true := by
          simp only [F64.le, F64.lt, F64.eq, Bool.or_eq_true, decide_eq_true_eq, beq_iff_eq]
          exact hx.lt_or_eq
        have hp0 : ¬ 0 < prop b lo hi j0 := by
          rw [hprop, max_eq_left hx, zero_div]; exact lt_irrefl 0
        rw [if_pos hle, if_neg hp0]
        exact ih (j0 + 1) (by omega) (by omega) (by omega)
      · have hx' := not_le.mp hx
        have hle : ¬ F64.le (.fin (min (b (j0 + 1)) hi - max (b j0) lo)) (.fin 0) = true := by
          simp only [F64.le, F64.lt, F64.eq, Bool.or_eq_true, decide_eq_true_eq, beq_iff_eq]
          rintro (h' | h') <;> linarith
        have hpe : prop b lo hi j0 = (min (b (j0 + 1)) hi - max (b j0) lo) / (hi - lo) := by
          rw [hprop, max_eq_right hx'.le]
        have hp0 : 0 < prop b lo hi j0 := by rw [hpe]; exact div_pos hx' hsz
        rw [if_neg hle, if_pos hp0, F64.sub_fin, hsize]
        have hdv : F64.div (.fin (min (b (j0 + 1)) hi - max (b j0) lo)) (.fin (hi - lo))
            = .fin (prop b lo hi j0) := by
          show (if hi - lo = 0 then F64.nan else _) = _
          rw [if_neg hsz.ne', ← hpe]; exact hdiv j0 hm0 hj hp0
        have hml : F64.mul (.fin (prop b lo hi j0)) (.fin c) = .fin (prop b lo hi j0 * c) :=
          hmul j0 hm0 hj hp0
        rw [hdv, hml, ih (j0 + 1) (by omega) (by omega) (by omega)]
    · have hj' : j0 = J + 1 := by omega
      have hguard : ¬ F64.lt (new.lowerBound j0) (.fin hi) = true := by
        rw [hlb, hj']; simpa [F64.lt] using hJ2
      rw [if_neg hguard, visited_of_gt (by omega)]; rfl

/-! ### conservation -/

theorem visited_sum_prop {b : ℤ → ℚ} (hb : Monotone b) {lo hi : ℚ} (h : lo < hi) {j0 J : ℤ}
    (hj : j0 ≤ J + 1) :
    ((visited j0 J).map (prop b lo hi)).sum = ucdf lo hi (b (J + 1)) - ucdf lo hi (b j0) := by
  have hnd : (visited j0 J).Nodup := List.nodup_range.map fun a b e => by simpa using e
  rw [← List.sum_toFinset _ hnd, ← prop_sum_Ico hb h hj]
  refine Finset.sum_congr (Finset.ext fun j => ?_) fun _ _ => rfl
  rw [List.mem_toFinset, mem_visited, Finset.mem_Ico, Int.lt_add_one_iff]

/-- the rational value of a finite float (0 otherwise) -/
def ratOfF : F64 → ℚ
  | .fin q => q
  | _ => 0

theorem filterMap_weights_sum (f : ℤ → ℚ) (hf : ∀ j, 0 ≤ f j) (c : ℚ) (l : List ℤ) :
    ((l.filterMap fun j => if 0 < f j then some (j, F64.fin (f j * c)) else none).map
        fun p => ratOfF p.2).sum = (l.map f).sum * c := by
  induction l with
  | nil => simp
  | cons j t ih =>
    by_cases hj : 0 < f j
    · have e : (fun j => if 0 < f j then some (j, F64.fin (f j * c)) else none) j
          = some (j, F64.fin (f j * c)) := if_pos hj
      rw [List.filterMap_cons_some (f := fun j => if 0 < f j then some (j, F64.fin (f j * c)) else none) (l := t) e, List.map_cons, List.sum_cons, ih, List.map_cons,
        List.sum_cons]
      show f j * c + _ = _
      ring
    · have e : (fun j => if 0 < f j then some (j, F64.fin (f j * c)) else none) j = none :=
        if_neg hj
      have : f j = 0 := le_antisymm (not_lt.mp hj) (hf j)
      rw [List.filterMap_cons_none (f := fun j => if 0 < f j then some (j, F64.fin (f j * c)) else none) (l := t) e, ih, List.map_cons, List.sum_cons, this]
      ring

/-- per-bin conservation lifts to the whole store -/
theorem spreadStore_total (old new : MapEnv) (scale : F64) (bins : List (Int × Rat)) (fuel : ℕ)
    (hbin : ∀ p ∈ bins,
      ((spreadBin new (F64.mul (old.lowerBound p.1) scale) (F64.mul (old.lowerBound (p.1 + 1)) scale)
          (.fin p.2) fuel (new.index (F64.mul (old.lowerBound p.1) scale))).map
        fun q => ratOfF q.2).sum = p.2) :
    ((spreadStore old new scale bins fuel).map fun q => ratOfF q.2).sum
      = (bins.map Prod.snd).sum := by
  unfold spreadStore
  induction bins with
  | nil => simp
  | cons p t ih =>
    rw [List.flatMap_cons, List.map_append, List.sum_append, List.map_cons, List.sum_cons,
      ih fun q hq => hbin q (List.mem_cons_of_mem _ hq)]
    congr 1
    exact hbin p (List.mem_cons_self ..)

/-! ## `Summary.rescale` -/

theorem rescale_count (s : Summary) (f : F64) : (s.rescale f).count = s.count := by
  unfold Summary.rescale
  simp only
  split_ifs <;> rfl

theorem rescale_sum (s : Summary) (f : F64) :
    (s.rescale f).sum = F64.mul s.sum f ∧
      (s.rescale f).sumCompensation = F64.mul s.sumCompensation f ∧
      (s.rescale f).simpleSum = F64.mul s.simpleSum f := by
  unfold Summary.rescale
  simp only
  split_ifs <;> exact ⟨rfl, rfl, rfl⟩

theorem rescale_pos (s : Summary) (f : F64) (hf : F64.lt (.fin 0) f = true) :
    (s.rescale f).min = F64.mul s.min f ∧ (s.rescale f).max = F64.mul s.max f := by
  unfold Summary.rescale
  simp only
  rw [if_pos hf]
  exact ⟨rfl, rfl⟩

theorem rescale_neg (s : Summary) (f : F64) (hf : F64.lt f (.fin 0) = true) :
    (s.rescale f).min = F64.mul s.max f ∧ (s.rescale f).max = F64.mul s.min f := by
  unfold Summary.rescale
  simp only
  rw [if_neg (by rw [F64.lt_asymm' hf]; simp), if_pos hf]
  exact ⟨rfl, rfl⟩

end Rebin
end DDS
