/-
  DDS.Proofs.GenStat — the REGENERATED `stat.SummaryStatistics` (`DDS/Generated/CodeStat.lean`,
  translated from `/repo/ddsketch/stat/summary.go` on every run) equals the HAND-WRITTEN model
  `DDS.Summary` (`DDS/Model/Summary.lean`), function by function, for all inputs.

  `toModel` / `ofModel` are the field-by-field bijection between the two structures; every
  generated function commutes with it.  Hence every theorem about `DDS.Summary`
  (`DDS/Proofs/Summary.lean`, `DDS/Props/C10.lean`) is a theorem about the generated code
  (`DDS/Props/C10Gen.lean` restates the main ones).

  The only place where the two differ in *meaning* is `s.MergeWith(s)` (argument aliases the
  receiver): see the section "self merge" at the end.

  Core Lean only.
-/
import DDS.Generated.CodeStat
import DDS.Model.Summary
import DDS.Proofs.F64Cmp

namespace DDS.GenStat

open DDS DDS.GoSem DDS.Gen.Stat

/-! ### the bijection -/

def toModel (s : SummaryStatistics) : Summary :=
  { count := s.count, sum := s.sum, sumCompensation := s.sumCompensation,
    simpleSum := s.simpleSum, min := s.min, max := s.max }

def ofModel (m : Summary) : SummaryStatistics :=
  { count := m.count, sum := m.sum, sumCompensation := m.sumCompensation,
    simpleSum := m.simpleSum, min := m.min, max := m.max }

@[simp] theorem ofModel_toModel (s : SummaryStatistics) : ofModel (toModel s) = s := rfl
@[simp] theorem toModel_ofModel (m : Summary) : toModel (ofModel m) = m := rfl

theorem toModel_injective {a b : SummaryStatistics} (h : toModel a = toModel b) : a = b := by
  have := congrArg ofModel h
  simpa using this

theorem ofModel_injective {a b : Summary} (h : ofModel a = ofModel b) : a = b := by
  have := congrArg toModel h
  simpa using this

theorem toModel_eq_iff (s : SummaryStatistics) (m : Summary) : toModel s = m ↔ s = ofModel m :=
  ⟨fun h => by rw [← h]; rfl, fun h => by rw [h]; rfl⟩

@[simp] theorem toModel_count (s : SummaryStatistics) : (toModel s).count = s.count := rfl
@[simp] theorem toModel_sum (s : SummaryStatistics) : (toModel s).sum = s.sum := rfl
@[simp] theorem toModel_sumCompensation (s : SummaryStatistics) :
    (toModel s).sumCompensation = s.sumCompensation := rfl
@[simp] theorem toModel_simpleSum (s : SummaryStatistics) : (toModel s).simpleSum = s.simpleSum := rfl
@[simp] theorem toModel_min (s : SummaryStatistics) : (toModel s).min = s.min := rfl
@[simp] theorem toModel_max (s : SummaryStatistics) : (toModel s).max = s.max := rfl

theorem toModel_ite (c : Prop) [Decidable c] (a b : SummaryStatistics) :
    toModel (if c then a else b) = if c then toModel a else toModel b := by
  split <;> rfl

/-! ### small facts about the Go-semantics prelude -/

theorem inf_pos : GoSem.inf (1 : Int) = F64.pinf := by decide
theorem inf_neg : GoSem.inf (-1 : Int) = F64.ninf := by decide

theorem isInf_zero (x : F64) : GoSem.isInf x (0 : Int) = (x == F64.pinf || x == F64.ninf) := by
  unfold GoSem.isInf
  simp

theorem eq_pinf (x : F64) : F64.eq x F64.pinf = (x == F64.pinf) := by
  cases x <;> simp [F64.eq]

theorem eq_ninf (x : F64) : F64.eq x F64.ninf = (x == F64.ninf) := by
  cases x <;> simp [F64.eq]

theorem ne_pinf (x : F64) : F64.ne x F64.pinf = (x != F64.pinf) := by
  unfold F64.ne; rw [eq_pinf]; rfl

theorem ne_ninf (x : F64) : F64.ne x F64.ninf = (x != F64.ninf) := by
  unfold F64.ne; rw [eq_ninf]; rfl

/-! ### constructors -/

theorem new_eq : toModel NewSummaryStatistics = Summary.new := by
  unfold NewSummaryStatistics Summary.new toModel
  simp only [inf_pos, inf_neg]

/-- `NewSummaryStatisticsFromData`: the generated function and the model take the same branch.
    Error ≠ nil exactly when the model returns `none`; otherwise the structures correspond. -/
theorem fromData_eq (count sum min max : F64) :
    match Summary.fromData count sum min max with
    | none => (NewSummaryStatisticsFromData count sum min max).2 ≠ GoErr.nil
    | some m => toModel (NewSummaryStatisticsFromData count sum min max).1 = m ∧
                (NewSummaryStatisticsFromData count sum min max).2 = GoErr.nil := by
  unfold NewSummaryStatisticsFromData Summary.fromData
  simp only [inf_pos, inf_neg, ne_pinf, ne_ninf, F64.ge, F64.gt]
  by_cases h1 : F64.le (.fin 0) count = true
  · by_cases h2 : (F64.lt (.fin 0) count && F64.lt max min) = true
    · simp [h1, h2]
    · by_cases h3 : (F64.eq count (.fin 0) && (min != .pinf || max != .ninf)) = true
      · simp [h1, h2, h3]
      · simp [h1, h2, h3, toModel]
  · simp [h1]

theorem fromData_none_iff (count sum min max : F64) :
    Summary.fromData count sum min max = none ↔
      (NewSummaryStatisticsFromData count sum min max).2 ≠ GoErr.nil := by
  have h := fromData_eq count sum min max
  cases hm : Summary.fromData count sum min max with
  | none => rw [hm] at h; exact ⟨fun _ => h, fun _ => rfl⟩
  | some m =>
    rw [hm] at h
    exact ⟨fun e => (by cases e), fun e => absurd h.2 e⟩

theorem fromData_some (count sum min max : F64) (m : Summary)
    (hm : Summary.fromData count sum min max = some m) :
    NewSummaryStatisticsFromData count sum min max = (ofModel m, GoErr.nil) := by
  have h := fromData_eq count sum min max
  rw [hm] at h
  have h1 := (toModel_eq_iff _ _).mp h.1
  exact Prod.ext h1 h.2

theorem fromData_of_nil (count sum min max : F64)
    (h : (NewSummaryStatisticsFromData count sum min max).2 = GoErr.nil) :
    Summary.fromData count sum min max =
      some (toModel (NewSummaryStatisticsFromData count sum min max).1) := by
  have h' := fromData_eq count sum min max
  cases hm : Summary.fromData count sum min max with
  | none => rw [hm] at h'; exact absurd h h'
  | some m => rw [hm] at h'; rw [h'.1]

/-! ### getters -/

theorem count_eq (s : SummaryStatistics) : SummaryStatistics.Count s = (toModel s).count := rfl
theorem min_eq (s : SummaryStatistics) : SummaryStatistics.Min s = (toModel s).min := rfl
theorem max_eq (s : SummaryStatistics) : SummaryStatistics.Max s = (toModel s).max := rfl

theorem sum_eq (s : SummaryStatistics) : SummaryStatistics.Sum s = (toModel s).getSum := by
  unfold SummaryStatistics.Sum Summary.getSum
  simp only [isInf_zero, toModel_sum, toModel_sumCompensation, toModel_simpleSum]
  rfl

/-! ### updates

  Proof pattern: open the structure, case on the Boolean conditions the code tests, and let `simp`
  evaluate both sides. -/

theorem sumWithCompensation_eq (s : SummaryStatistics) (v : F64) :
    toModel (SummaryStatistics.sumWithCompensation s v) = (toModel s).sumWithCompensation v := rfl

theorem addToCount_eq (s : SummaryStatistics) (a : F64) :
    toModel (SummaryStatistics.AddToCount s a) = (toModel s).addToCount a := rfl

theorem addToSum_eq (s : SummaryStatistics) (a : F64) :
    toModel (SummaryStatistics.AddToSum s a) = (toModel s).addToSum a := rfl

theorem add_eq (s : SummaryStatistics) (v c : F64) :
    toModel (SummaryStatistics.Add s v c) = (toModel s).add v c := by
  cases s with | mk cn sm sc ss mn mx
  cases h1 : F64.lt v mn <;> cases h2 : F64.lt mx v <;>
  simp [SummaryStatistics.Add, SummaryStatistics.AddToCount, SummaryStatistics.AddToSum,
    SummaryStatistics.sumWithCompensation, Summary.add, Summary.addToCount, Summary.addToSum,
    Summary.sumWithCompensation, toModel, h1, h2]

theorem mergeWith_eq (s o : SummaryStatistics) :
    toModel (SummaryStatistics.MergeWith s o) = (toModel s).mergeWith (toModel o) := by
  cases s with | mk cn sm sc ss mn mx
  cases o with | mk cn' sm' sc' ss' mn' mx'
  cases h1 : F64.lt mn' mn <;> cases h2 : F64.lt mx mx' <;>
  simp [SummaryStatistics.MergeWith, SummaryStatistics.sumWithCompensation, Summary.mergeWith,
    Summary.sumWithCompensation, toModel, h1, h2]

theorem reweight_eq (s : SummaryStatistics) (f : F64) :
    toModel (SummaryStatistics.Reweight s f) = (toModel s).reweight f := by
  cases s with | mk cn sm sc ss mn mx
  cases h1 : F64.eq f (.fin 0) <;>
  simp [SummaryStatistics.Reweight, Summary.reweight, toModel, h1, inf_pos, inf_neg]

theorem rescale_eq (s : SummaryStatistics) (f : F64) :
    toModel (SummaryStatistics.Rescale s f) = (toModel s).rescale f := by
  cases s with | mk cn sm sc ss mn mx
  cases h1 : F64.lt (.fin 0) f <;> cases h2 : F64.lt f (.fin 0) <;> cases h3 : F64.ne cn (.fin 0) <;>
  simp [SummaryStatistics.Rescale, Summary.rescale, toModel, h1, h2, h3]

theorem clear_eq (s : SummaryStatistics) :
    toModel (SummaryStatistics.Clear s) = (toModel s).clear := by
  unfold SummaryStatistics.Clear Summary.clear Summary.new toModel
  simp only [inf_pos, inf_neg]

theorem copy_eq (s : SummaryStatistics) : SummaryStatistics.Copy s = s := rfl

theorem copy_toModel (s : SummaryStatistics) : toModel (SummaryStatistics.Copy s) = toModel s := rfl

/-! ### the same equations read from the model side (`ofModel`) -/

theorem add_ofModel (m : Summary) (v c : F64) :
    SummaryStatistics.Add (ofModel m) v c = ofModel (m.add v c) :=
  toModel_injective (by rw [add_eq]; rfl)

theorem mergeWith_ofModel (m o : Summary) :
    SummaryStatistics.MergeWith (ofModel m) (ofModel o) = ofModel (m.mergeWith o) :=
  toModel_injective (by rw [mergeWith_eq]; rfl)

theorem reweight_ofModel (m : Summary) (f : F64) :
    SummaryStatistics.Reweight (ofModel m) f = ofModel (m.reweight f) :=
  toModel_injective (by rw [reweight_eq]; rfl)

theorem rescale_ofModel (m : Summary) (f : F64) :
    SummaryStatistics.Rescale (ofModel m) f = ofModel (m.rescale f) :=
  toModel_injective (by rw [rescale_eq]; rfl)

/-! ### folds -/

def genAddAllF (s : SummaryStatistics) (l : List (F64 × F64)) : SummaryStatistics :=
  l.foldl (fun s p => SummaryStatistics.Add s p.1 p.2) s

theorem genAddAllF_eq (s : SummaryStatistics) (l : List (F64 × F64)) :
    toModel (genAddAllF s l) = l.foldl (fun s p => s.add p.1 p.2) (toModel s) := by
  unfold genAddAllF
  induction l generalizing s with
  | nil => rfl
  | cons p r ih => simp only [List.foldl_cons]; rw [ih, add_eq]

def genAddAll (s : SummaryStatistics) (l : List (Rat × Rat)) : SummaryStatistics :=
  l.foldl (fun s p => SummaryStatistics.Add s (.fin p.1) (.fin p.2)) s

theorem genAddAll_eq (s : SummaryStatistics) (l : List (Rat × Rat)) :
    toModel (genAddAll s l) = l.foldl (fun s p => s.add (.fin p.1) (.fin p.2)) (toModel s) := by
  unfold genAddAll
  induction l generalizing s with
  | nil => rfl
  | cons p r ih => simp only [List.foldl_cons]; rw [ih, add_eq]

/-! ### self merge

  In Go, `s.MergeWith(s)` passes the receiver as the argument: `o` ALIASES `s`, so
  `o.sumCompensation` in the second `sumWithCompensation` call is read AFTER the first call has
  overwritten it.  The model has a separate definition `Summary.mergeWithSelf` for that.  The
  generated `MergeWith s o` is a pure function of two values (`GoSem`: "aliasing is not modelled"),
  so `MergeWith s s` is `Summary.mergeWith m m`, which reads the OLD compensation in the second
  call.  Precisely:

  * `mergeWith_self_eq`     : `toModel (MergeWith s s) = (toModel s).mergeWith (toModel s)`;
  * `mergeWith_self_fields` : it agrees with `mergeWithSelf` on count, simpleSum, min, max;
  * `mergeWith_self_ne`     : it does NOT agree on (sum, sumCompensation) in general — concrete
     input sum = 1, sumCompensation = 2^-60: the aliased Go code ends with compensation 0,
     the functional reading with −2^-60;
  * `genMergeWithSelf_eq`   : the aliased behaviour written with the generated pieces
     (`sumWithCompensation` called on the CURRENT state) is `mergeWithSelf`;
  * `mergeWith_self_agree`  : both agree whenever the first compensated addition leaves the
     compensation unchanged (in particular for every exact summary, compensation 0, with exact sum
     — the case of `C10`).

  So the functional translation of `MergeWith` is NOT evidence for `mergeWithSelf`; that definition
  stays tied to the Go source only through the differential tests of C10Self. -/

theorem mergeWith_self_eq (s : SummaryStatistics) :
    toModel (SummaryStatistics.MergeWith s s) = (toModel s).mergeWith (toModel s) :=
  mergeWith_eq s s

theorem mergeWith_self_fields (m : Summary) :
    (m.mergeWith m).count = m.mergeWithSelf.count ∧
    (m.mergeWith m).simpleSum = m.mergeWithSelf.simpleSum ∧
    (m.mergeWith m).min = m.mergeWithSelf.min ∧
    (m.mergeWith m).max = m.mergeWithSelf.max := by
  cases m
  simp [Summary.mergeWith, Summary.mergeWithSelf, Summary.sumWithCompensation, F64.lt_irrefl']

/-- the witness: sum 1, compensation 2^-60 -/
def selfWitness : SummaryStatistics :=
  { count := .fin 1, sum := .fin 1, sumCompensation := .fin (1 / 1152921504606846976),
    simpleSum := .fin 1, min := .fin 1, max := .fin 1 }

theorem mergeWith_self_ne :
    (toModel (SummaryStatistics.MergeWith selfWitness selfWitness)).sumCompensation
        = .fin (-1 / 1152921504606846976) ∧
    (toModel selfWitness).mergeWithSelf.sumCompensation = .fin 0 ∧
    toModel (SummaryStatistics.MergeWith selfWitness selfWitness)
        ≠ (toModel selfWitness).mergeWithSelf := by
  have h1 : (toModel (SummaryStatistics.MergeWith selfWitness selfWitness)).sumCompensation
      = .fin (-1 / 1152921504606846976) := by decide +kernel
  have h2 : (toModel selfWitness).mergeWithSelf.sumCompensation = .fin 0 := by decide +kernel
  exact ⟨h1, h2, fun h => by rw [h, h2] at h1; exact absurd h1 (by decide +kernel)⟩

/-- `s.MergeWith(s)` with the aliasing made explicit, from the generated pieces: each read of
    `o.f` is a read of the CURRENT receiver -/
def genMergeWithSelf (s : SummaryStatistics) : SummaryStatistics :=
  let s := { s with count := F64.add s.count s.count }
  let s := SummaryStatistics.sumWithCompensation s s.sum
  let s := SummaryStatistics.sumWithCompensation s s.sumCompensation
  let s := { s with simpleSum := F64.add s.simpleSum s.simpleSum }
  let s := if F64.lt s.min s.min then { s with min := s.min } else s
  let s := if F64.lt s.max s.max then { s with max := s.max } else s
  s

theorem genMergeWithSelf_eq (s : SummaryStatistics) :
    toModel (genMergeWithSelf s) = (toModel s).mergeWithSelf := by
  unfold genMergeWithSelf Summary.mergeWithSelf
  simp only [F64.lt_irrefl', Bool.false_eq_true, if_false]
  rfl

theorem mergeWith_self_agree (m : Summary)
    (h : (m.sumWithCompensation m.sum).sumCompensation = m.sumCompensation) :
    m.mergeWith m = m.mergeWithSelf := by
  cases m with | mk cn sm sc ss mn mx
  simp only [Summary.sumWithCompensation] at h
  simp [Summary.mergeWith, Summary.mergeWithSelf, Summary.sumWithCompensation, F64.lt_irrefl', h]

example : ((toModel NewSummaryStatistics).sumWithCompensation (toModel NewSummaryStatistics).sum).sumCompensation
    = (toModel NewSummaryStatistics).sumCompensation := by decide +kernel

end DDS.GenStat
