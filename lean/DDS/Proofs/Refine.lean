/-
  DDS.Proofs.Refine — stores refine contents (`Store.Refines` of `DDS.Proofs.SketchDefs`).

  * two stores refining the same content cannot be told apart by any observer of `Refines`
    (`refines_obs_eq`), and a store refines one content only (`refines_unique`);
  * the sparse store IS a content (`refines_sparse`, `sp_add`), and a merge by `ForEach` into it adds
    the contents (`merge_into_sparse`);
  * a dense store of any of the three kinds whose window is tight refines the content read off its
    weights (`DStore.Core.refines`); for the plain kind: from the invariant `DStore.Inv`
    (+ `Bounded32`) of `DDS.Proofs.Dense` to `Refines` (`refines_dense`), kept by `AddWithCount`
    with the spec step `Content.add` (`dense_add`);
  * the buffered-paginated store refines the content of its buffer and pages under `PStore.Inv`
    (`refines_pag`, from the observer theorems of `DDS.Proofs.Paginated`).

  Core Lean only.
-/
import DDS.Proofs.SketchDefs
import DDS.Proofs.Dense
import DDS.Proofs.Paginated

namespace DDS

open DStore (rsum wt Inv Bounded32 GrowthOK)

namespace Store

/-! ### a store refines one content, which determines every observer -/

theorem refines_obs_eq (a b : Store) (c : Content) (ha : a.Refines c) (hb : b.Refines c) :
    a.totalCount = b.totalCount ∧ a.isEmpty = b.isEmpty ∧ a.minIndex? = b.minIndex? ∧
      a.maxIndex? = b.maxIndex? ∧ a.binsList = b.binsList ∧
      (c ≠ [] → ∀ r, a.keyAtRank r = b.keyAtRank r) :=
  ⟨ha.total.trans hb.total.symm, ha.empty.trans hb.empty.symm, ha.min.trans hb.min.symm,
    ha.max.trans hb.max.symm, ha.bins.trans hb.bins.symm,
    fun hne r => (ha.kar hne r).trans (hb.kar hne r).symm⟩

theorem refines_unique (a : Store) (c c' : Content) (h : a.Refines c) (h' : a.Refines c') :
    c = c' := by
  have := h.bins.symm.trans h'.bins
  exact Option.some.inj this

/-! ### the sparse store -/

/-- Go's sparse `KeyAtRank` does not clamp negative ranks; on canonical contents (positive
    weights) that makes no difference -/
theorem sp_keyAtRank (c : Content) (h : c.WF) (r : Rat) :
    (Store.sp c).keyAtRank r = c.keyAtRank r := by
  show (match c.firstExceeding 0 r with
        | some k => k
        | none => (c.maxIndex?).getD 0) = _
  unfold Content.keyAtRank
  by_cases hr : r < 0
  · rw [if_pos hr]
    cases c with
    | nil => rfl
    | cons p rest =>
      -- both scans stop at the first entry
      have hp : (0 : Rat) < 0 + p.2 := (Rat.zero_add p.2).symm ▸ h.2 p (List.mem_cons_self ..)
      rw [Content.firstExceeding_cons, Content.firstExceeding_cons, if_pos hp,
        if_pos (Std.lt_of_lt_of_le hr (Rat.le_of_lt hp))]
  · rw [if_neg hr]; rfl

theorem refines_sparse (c : Content) (h : c.WF) : (Store.sp c).Refines c where
  wf := h
  total := rfl
  empty := rfl
  min := rfl
  max := rfl
  bins := rfl
  kar := fun _ r => sp_keyAtRank c h r

theorem refines_new_sparse : (Store.new .sparse).Refines [] :=
  refines_sparse [] Content.wf_nil

theorem sp_add (c : Content) (h : c.WF) (i : Int) (w : Rat) (hw : 0 ≤ w) :
    (Store.sp c).addWithCount i w = some (.sp (c.add i w)) ∧
      (Store.sp (c.add i w)).Refines (c.add i w) :=
  ⟨rfl, refines_sparse _ (Content.wf_add c i w h hw)⟩

theorem sp_refines_eq {c c' : Content} (h : (Store.sp c).Refines c') : c = c' :=
  Option.some.inj h.bins

/-- merging any store into the sparse one goes through `ForEach`: contents add up -/
theorem merge_into_sparse (c : Content) (_hc : c.WF) (o : Store) (co : Content)
    (ho : o.Refines co) : (Store.sp c).mergeWith o = some (.sp (c.merge co)) := by
  simp [Store.mergeWith, ho.bins]

theorem merge_into_sparse_refines (c : Content) (hc : c.WF) (o : Store) (co : Content)
    (ho : o.Refines co) :
    ∃ st, (Store.sp c).mergeWith o = some st ∧ st.Refines (c.merge co) :=
  ⟨_, merge_into_sparse c hc o co ho, refines_sparse _ (Content.wf_merge c co hc ho.wf)⟩

theorem sp_clear (c : Content) : (Store.sp c).clear = .sp [] ∧ (Store.sp c).clear.Refines [] :=
  ⟨rfl, refines_sparse [] Content.wf_nil⟩

theorem sp_reweight (c : Content) (h : c.WF) (w : Rat) (hw : 0 < w) :
    ∃ st, (Store.sp c).reweight w = some (.ok st) ∧ st.Refines (c.scale w) := by
  unfold Store.reweight
  rw [if_neg (by grind)]
  by_cases h1 : w = 1
  · rw [if_pos h1]
    exact ⟨_, rfl, by rw [h1, Content.scale_one]; exact refines_sparse c h⟩
  · rw [if_neg h1]
    exact ⟨_, rfl, refines_sparse _ (Content.wf_scale c w h hw)⟩

end Store

/-! ### the dense stores -/

/-- EVERY observer of the `store.Store` interface, for the three dense kinds at once: a store whose
    window is tight observes like its content -/
theorem DStore.Core.refines {s : DStore} (h : DStore.Core s) (ht : DStore.Tight32 s) :
    (Store.d s).Refines (DStore.content s) := by
  by_cases h0 : s.count = 0
  · have he := (DStore.isEmpty_iff_count s).2 h0
    rw [h.content_empty h0]
    exact ⟨Content.wf_nil, h0, he, by simp [Store.minIndex?, DStore.minIndex?, he],
      by simp [Store.maxIndex?, DStore.maxIndex?, he],
      h.content_empty h0 ▸ h.content_spec.1, fun hne => absurd rfl hne⟩
  · obtain ⟨hmax, hmin⟩ := h.content_extremes ht h0
    exact ⟨h.content_wf, h.total, h.isEmpty, (DStore.minIndex?_of_count_ne h0).trans hmin.symm,
      (DStore.maxIndex?_of_count_ne h0).trans hmax.symm, h.content_spec.1,
      fun _ r => DStore.keyAtRank_eq_content_gen s _ h.content_wf h.lookup_content h.countEq
        hmax r⟩

namespace Store

theorem refines_dense (s : DStore) (h : Inv s) (hb : Bounded32 s) :
    ∃ c, (Store.d s).Refines c ∧ ∀ j, c.lookup j = wt s j :=
  ⟨_, h.core.refines (h.tight32 hb), h.core.lookup_content⟩

theorem refines_new_dense : (Store.new .dense).Refines [] :=
  (DStore.core_new .plain).content_empty rfl ▸
    (DStore.core_new .plain).refines (DStore.tight32_new _)

/-- dense (plain) store: `AddWithCount` does not panic, keeps invariant and bound, and is the spec
    step on the refined content -/
theorem dense_add (hG : GrowthOK) (s : DStore) (h : Inv s) (hb : Bounded32 s) (c : Content)
    (hc : (Store.d s).Refines c) (i : Int) (hi : minInt32 ≤ i ∧ i ≤ maxInt32) (w : Rat)
    (hw : 0 ≤ w) :
    ∃ s', (Store.d s).addWithCount i w = some (.d s') ∧ Inv s' ∧ Bounded32 s' ∧
      (Store.d s').Refines (c.add i w) := by
  obtain ⟨s', h1, h2, h3, _⟩ := DStore.addWithCount_ok hG s h i w hw
    (h.core.spanOK (h.tight32 hb) i i hi hi)
  have hb' := DStore.addWithCount_bounded32 hG s h hb i w hw hi s' h1
  refine ⟨s', by simp [Store.addWithCount, h1], h2, hb', ?_⟩
  obtain rfl : DStore.content s = c := refines_unique _ _ _ (h.core.refines (h.tight32 hb)) hc
  rw [← h2.core.content_eq _ (Content.wf_add _ i w hc.wf hw) fun j => by
    rw [h3, Content.lookup_add, h.core.lookup_content]]
  exact h2.core.refines (h2.tight32 hb')

/-- merging any store into a dense (plain) one, by the `ForEach` fallback or the same-type fast
    path, is covered by `mergeBins_ok` (`DDS.Proofs.DenseKinds`) and `mergeSame_ok`
    (`DDS.Proofs.Dense`); with a sparse receiver the two routes coincide with the spec `Content.merge` -/
theorem merge_sparse_dense (c : Content) (hc : c.WF) (s : DStore) (h : Inv s) (hb : Bounded32 s) :
    ∃ co, (Store.d s).Refines co ∧ (Store.sp c).mergeWith (.d s) = some (.sp (c.merge co)) := by
  obtain ⟨co, hco, _⟩ := refines_dense s h hb
  exact ⟨co, hco, merge_into_sparse c hc _ co hco⟩

/-! ### the buffered-paginated store -/

theorem refines_pag (s : PStore) (h : PStore.Inv s) : (Store.pg s).Refines (PStore.content s) where
  wf := PStore.content_wf s h
  total := PStore.totalCount_eq s h
  empty := PStore.isEmpty_eq s h
  min := PStore.minIndex?_eq s h
  max := PStore.maxIndex?_eq s h
  bins := rfl
  kar := fun _ r => PStore.keyAtRank_spec s h r

end Store
end DDS
