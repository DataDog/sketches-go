/-
  DDS.Proofs.GenSketch3 — the BATCH QUANTILE METHODS of the regenerated sketch code
  (`DDS/Generated/CodeSketch.lean`): `DDSketch.GetValuesAtQuantiles` (ddsketch.go:199) and
  `DDSketchWithExactSummaryStatistics.GetValuesAtQuantiles` (ddsketch.go:642), both translated with
  their `for` loops (`….loop1`: structural recursion over the ranged slice with an index counter,
  writing `values[i]` through `GoSem.set`).

  * generic part (ANY `[MapI M] [StoreI S]`): the loops are computed in closed form (`goBatch`, the
    first refused quantile wins; `goClamp` entry by entry), with the loop invariant
    "`values` is the `i` entries already written followed by one entry per remaining iteration"
    (`loop1_eq`, `Xloop1_eq`) — so the writes `values[i] = …` are always in range and
    the generated functions never return `.panic` / `.nofuel`, whatever the fuel
    (`GetValuesAtQuantiles_eq`, `XGetValuesAtQuantiles_eq`, `GetValuesAtQuantiles_total`,
    `XGetValuesAtQuantiles_total`);
  * `batch_eq_singles`, `Xbatch_eq_singles`: every entry of a successful batch answer is the answer
    of the single query (the C12 clause "the batch quantile query equals the single queries"), on the
    generated code alone;
  * `GetValuesAtQuantiles_rel`: against the model's `Sketch.quantiles env s qs`
    (`= qs.mapM (Sketch.quantile env s)`): the same list with a nil error, or the empty (Go: nil)
    slice with the error of the FIRST refused quantile;
  * `XGetValuesAtQuantiles_rel`: the exact-summary variant against `qs.mapM (XSketch.quantile env x)`
    (the model has no batch function of its own for that variant): each entry clamped as
    `XSketch.clampTo` clamps; on a refusal Go returns `(nil, err)` and the clamping loop runs over the
    empty slice.

  No disagreement between generated code and model was found for these two methods.

  Core Lean only.
-/
import DDS.Proofs.GenSketch2
import DDS.Proofs.GoSemLemmas

namespace DDS.GenSketch

open DDS DDS.GoSem DDS.Gen.Sketch

/-! ## generic part: any mapping, any store -/

section generic

variable {M S : Type} [MapI M] [StoreI S] [Inhabited M] [Inhabited S]

/-- what the loop of `DDSketch.GetValuesAtQuantiles` computes: the single answers in order; the
    first non-nil error stops the loop -/
def goBatch (g : DDSketch M S) : List F64 → Except GoErr (List F64)
  | [] => .ok []
  | q :: rest =>
    if ((DDSketch.GetValueAtQuantile g q).2 != GoErr.nil) then
      .error (DDSketch.GetValueAtQuantile g q).2
    else
      match goBatch g rest with
      | .ok vs => .ok ((DDSketch.GetValueAtQuantile g q).1 :: vs)
      | .error e => .error e

/-- what a finished batch loop says about the single queries: on success one answer per quantile, each the single
    query's, with a nil error; on a refusal the (non-nil) error is that of the first refused quantile -/
theorem goBatch_spec (g : DDSketch M S) (qs : List F64) :
    match goBatch g qs with
    | .ok vs => vs.length = qs.length ∧
        ∀ (i : Nat) (hi : i < qs.length) (hv : i < vs.length),
          DDSketch.GetValueAtQuantile g qs[i] = (vs[i], GoErr.nil)
    | .error e => e ≠ GoErr.nil ∧ ∃ (i : Nat) (hi : i < qs.length),
        (DDSketch.GetValueAtQuantile g qs[i]).2 = e ∧
        ∀ (j : Nat) (hj : j < qs.length), j < i → (DDSketch.GetValueAtQuantile g qs[j]).2 = GoErr.nil := by
  induction qs with
  | nil => exact ⟨rfl, fun i hi => absurd hi (by simp)⟩
  | cons q rest ih =>
    unfold goBatch
    cases he : (DDSketch.GetValueAtQuantile g q).2 != GoErr.nil
    case true => exact ⟨by simpa using he, 0, Nat.zero_lt_succ _, rfl, fun j _ hj => absurd hj (Nat.not_lt_zero j)⟩
    have hq : (DDSketch.GetValueAtQuantile g q).2 = GoErr.nil := by simpa using he
    revert ih
    cases goBatch g rest with
    | ok ws =>
      intro ⟨hl, hall⟩
      refine ⟨by simp [hl], fun i hi hv => ?_⟩
      cases i with
      | zero => exact Prod.ext rfl hq
      | succ j => exact hall j (Nat.lt_of_succ_lt_succ hi) (Nat.lt_of_succ_lt_succ hv)
    | error e =>
      intro ⟨hne, i, hi, h1, h2⟩
      refine ⟨hne, i + 1, Nat.succ_lt_succ hi, h1, fun j hj hji => ?_⟩
      cases j with
      | zero => exact hq
      | succ k => exact h2 k (Nat.lt_of_succ_lt_succ hj) (Nat.lt_of_succ_lt_succ hji)

/-- THE LOOP INVARIANT of `GetValuesAtQuantiles`: entering an iteration, `values` is the entries already written
    (`pre`, as many as the counter says) followed by one entry per remaining quantile; so `values[i] = val` is in
    range, and the loop leaves `pre` alone and fills in the rest — or returns `(nil, err)` at the first refused
    quantile -/
theorem loop1_eq (g : DDSketch M S) (qs : List F64) :
    ∀ (pre suf : List F64), suf.length = qs.length →
      DDSketch.GetValuesAtQuantiles.loop1 g qs (GoSem.len pre) (pre ++ suf) =
        match goBatch g qs with
        | .ok vs => .done (pre ++ vs)
        | .error e => .ret ([], e) := by
  induction qs with
  | nil =>
    intro pre suf h
    rw [List.eq_nil_of_length_eq_zero h]
    rfl
  | cons q rest ih =>
    intro pre suf h
    obtain ⟨a, suf, rfl⟩ := List.exists_cons_of_length_eq_add_one h
    unfold DDSketch.GetValuesAtQuantiles.loop1 goBatch
    rcases DDSketch.GetValueAtQuantile g q with ⟨val, err⟩
    dsimp only
    cases err != GoErr.nil
    case true => rfl
    have := ih (pre ++ [val]) suf (by simpa using h)
    simp only [len_snoc, List.append_assoc, List.singleton_append] at this
    rw [set_len_append, optL_some, this]
    cases goBatch g rest <;> rfl

theorem GetValuesAtQuantiles_eq (fuel : Nat) (g : DDSketch M S) (qs : List F64) :
    DDSketch.GetValuesAtQuantiles fuel g qs =
      match goBatch g qs with
      | .ok vs => .ok (vs, GoErr.nil)
      | .error e => .ok ([], e) := by
  unfold DDSketch.GetValuesAtQuantiles
  have h : DDSketch.GetValuesAtQuantiles.loop1 g qs 0 (List.replicate (GoSem.len qs).toNat (F64.fin 0)) = _ :=
    loop1_eq g qs [] _ (by simp [GoSem.len])
  simp only [h]
  cases goBatch g qs <;> rfl

theorem GetValuesAtQuantiles_total (fuel : Nat) (g : DDSketch M S) (qs : List F64) :
    ∃ r, DDSketch.GetValuesAtQuantiles fuel g qs = .ok r := by
  rw [GetValuesAtQuantiles_eq]
  cases goBatch g qs <;> exact ⟨_, rfl⟩

/-- the fuel argument is irrelevant (the loop is a structural recursion over the slice) -/
theorem GetValuesAtQuantiles_fuel (f f' : Nat) (g : DDSketch M S) (qs : List F64) :
    DDSketch.GetValuesAtQuantiles f g qs = DDSketch.GetValuesAtQuantiles f' g qs := by
  rw [GetValuesAtQuantiles_eq, GetValuesAtQuantiles_eq]

/-- C12, "the batch quantile query equals the single queries", on the generated code alone: a batch
    answer with a nil error has one entry per quantile, and entry `i` is the single query's answer
    (which has a nil error too) -/
theorem batch_eq_singles (fuel : Nat) (g : DDSketch M S) (qs vs : List F64)
    (h : DDSketch.GetValuesAtQuantiles fuel g qs = .ok (vs, GoErr.nil)) :
    vs.length = qs.length ∧
      ∀ (i : Nat) (hi : i < qs.length) (hv : i < vs.length),
        DDSketch.GetValueAtQuantile g qs[i] = (vs[i], GoErr.nil) := by
  have hs := goBatch_spec g qs
  rw [GetValuesAtQuantiles_eq] at h
  cases hb : goBatch g qs with
  | ok ws => rw [hb] at h hs; cases h; exact hs
  | error e => rw [hb] at h hs; cases h; exact absurd rfl hs.1

/-- … and conversely a refused batch answer is the empty (nil) slice with the error of a single
    query, namely the first refused one: all the earlier ones are accepted -/
theorem batch_error_single (fuel : Nat) (g : DDSketch M S) (qs vs : List F64) (e : GoErr)
    (h : DDSketch.GetValuesAtQuantiles fuel g qs = .ok (vs, e)) (he : e ≠ GoErr.nil) :
    vs = [] ∧ ∃ (i : Nat) (hi : i < qs.length),
      (DDSketch.GetValueAtQuantile g qs[i]).2 = e ∧
      ∀ (j : Nat) (hj : j < qs.length), j < i → (DDSketch.GetValueAtQuantile g qs[j]).2 = GoErr.nil := by
  have hs := goBatch_spec g qs
  rw [GetValuesAtQuantiles_eq] at h
  cases hb : goBatch g qs with
  | ok ws => rw [hb] at h; cases h; exact absurd rfl he
  | error e' => rw [hb] at h hs; cases h; exact ⟨rfl, hs.2⟩

/-! ### the exact-summary variant, generic part -/

/-- THE LOOP INVARIANT of the clamping loop (`for i := range values`): entering an iteration, `values` is the
    entries already clamped (`pre`, as many as the counter says) followed by one entry per remaining iteration; the
    reads and writes of `values[i]` are in range; each iteration leaves `goClamp` of the entry in its place -/
theorem Xloop1_eq (mn mx : F64) (l : List F64) :
    ∀ (pre suf : List F64), suf.length = l.length →
      DDSketchWithExactSummaryStatistics.GetValuesAtQuantiles.loop1 (M := M) (S := S) mn mx l
          (GoSem.len pre) (pre ++ suf) =
        .done (pre ++ suf.map (goClamp mn mx)) := by
  induction l with
  | nil =>
    intro pre suf h
    rw [List.eq_nil_of_length_eq_zero h]
    rfl
  | cons _ rest ih =>
    intro pre suf h
    obtain ⟨a, suf, rfl⟩ := List.exists_cons_of_length_eq_add_one h
    have := ih (pre ++ [goClamp mn mx a]) suf (by simpa using h)
    simp only [len_snoc, List.append_assoc, List.singleton_append] at this
    unfold DDSketchWithExactSummaryStatistics.GetValuesAtQuantiles.loop1
    simp only [idx_len_append, set_len_append, optL_some]
    rw [List.map_cons, ← this]
    unfold goClamp
    cases F64.lt a mn
    case true => rfl
    cases F64.lt mx a <;> rfl

theorem XGetValuesAtQuantiles_eq (fuel : Nat) (g : DDSketchWithExactSummaryStatistics M S)
    (qs : List F64) :
    DDSketchWithExactSummaryStatistics.GetValuesAtQuantiles fuel g qs =
      match goBatch g.DDSketch qs with
      | .ok vs => .ok (vs.map (goClamp (DDS.Gen.Stat.SummaryStatistics.Min g.summaryStatistics)
            (DDS.Gen.Stat.SummaryStatistics.Max g.summaryStatistics)), GoErr.nil)
      | .error e => .ok ([], e) := by
  unfold DDSketchWithExactSummaryStatistics.GetValuesAtQuantiles
  have h : ∀ (mn mx : F64) (vs : List F64),
      DDSketchWithExactSummaryStatistics.GetValuesAtQuantiles.loop1 (M := M) (S := S) mn mx vs 0 vs = _ :=
    fun mn mx vs => Xloop1_eq mn mx vs [] vs rfl
  simp only [GetValuesAtQuantiles_eq, h]
  cases goBatch g.DDSketch qs <;> rfl

theorem XGetValuesAtQuantiles_total (fuel : Nat) (g : DDSketchWithExactSummaryStatistics M S)
    (qs : List F64) :
    ∃ r, DDSketchWithExactSummaryStatistics.GetValuesAtQuantiles fuel g qs = .ok r := by
  rw [XGetValuesAtQuantiles_eq]
  cases goBatch g.DDSketch qs <;> exact ⟨_, rfl⟩

theorem XGetValuesAtQuantiles_fuel (f f' : Nat) (g : DDSketchWithExactSummaryStatistics M S)
    (qs : List F64) :
    DDSketchWithExactSummaryStatistics.GetValuesAtQuantiles f g qs =
      DDSketchWithExactSummaryStatistics.GetValuesAtQuantiles f' g qs := by
  rw [XGetValuesAtQuantiles_eq, XGetValuesAtQuantiles_eq]

/-- C12 for the exact variant, on the generated code alone: a batch answer with a nil error has one
    entry per quantile, and entry `i` is the (clamped) single query's answer -/
theorem Xbatch_eq_singles (fuel : Nat) (g : DDSketchWithExactSummaryStatistics M S)
    (qs vs : List F64)
    (h : DDSketchWithExactSummaryStatistics.GetValuesAtQuantiles fuel g qs = .ok (vs, GoErr.nil)) :
    vs.length = qs.length ∧
      ∀ (i : Nat) (hi : i < qs.length) (hv : i < vs.length),
        DDSketchWithExactSummaryStatistics.GetValueAtQuantile g qs[i] = (vs[i], GoErr.nil) := by
  have hs := goBatch_spec g.DDSketch qs
  rw [XGetValuesAtQuantiles_eq] at h
  cases hb : goBatch g.DDSketch qs with
  | error e => rw [hb] at h hs; cases h; exact absurd rfl hs.1
  | ok ws =>
    rw [hb] at h hs
    cases h
    refine ⟨by simp [hs.1], fun i hi hv => ?_⟩
    rw [XGetValueAtQuantile_eq, hs.2 i hi (by simpa using hv), List.getElem_map]

end generic

/-! ## against the hand-written model -/

theorem mapM_map_except {α β γ ε} (f : α → Except ε β) (c : β → γ) (l : List α) :
    l.mapM (fun a => Except.map c (f a)) = Except.map (List.map c) (l.mapM f) := by
  induction l with
  | nil => rfl
  | cons a t ih =>
    rw [List.mapM_cons, List.mapM_cons, ih]
    cases f a with
    | error e => rfl
    | ok v => cases List.mapM f t <;> rfl

theorem goBatch_rel (env : MapEnv) (s : Sketch) (qs : List F64) :
    match s.quantiles env qs with
    | .ok vs => goBatch (toGen env s) qs = .ok vs
    | .error e => ∃ g, goErr? e = some g ∧ goBatch (toGen env s) qs = .error g := by
  unfold Sketch.quantiles
  induction qs with
  | nil => rfl
  | cons q rest ih =>
    have h := GetValueAtQuantile_rel env s q
    rw [List.mapM_cons]
    unfold goBatch
    cases hm : s.quantile env q with
    | error e =>
      obtain ⟨g, hg, hr⟩ := h.error hm
      rw [hr, if_pos (by simpa using goErr?_ne_nil hg)]
      exact ⟨g, hg, rfl⟩
    | ok v =>
      rw [h.ok hm]
      revert ih
      cases List.mapM (Sketch.quantile env s) rest with
      | error e => exact fun ⟨g, hg, hb⟩ => ⟨g, hg, by rw [hb]; rfl⟩
      | ok vs => exact fun hb => by rw [hb]; rfl

theorem GetValuesAtQuantiles_rel (fuel : Nat) (env : MapEnv) (s : Sketch) (qs : List F64) :
    match s.quantiles env qs with
    | .ok vs => DDSketch.GetValuesAtQuantiles fuel (toGen env s) qs = .ok (vs, GoErr.nil)
    | .error e => ∃ g, goErr? e = some g ∧
        DDSketch.GetValuesAtQuantiles fuel (toGen env s) qs = .ok ([], g) := by
  have h := goBatch_rel env s qs
  rw [GetValuesAtQuantiles_eq]
  revert h
  cases s.quantiles env qs with
  | error e => exact fun ⟨g, hg, hb⟩ => ⟨g, hg, by rw [hb]⟩
  | ok vs => exact fun hb => by rw [hb]

theorem GetValuesAtQuantiles_ok (fuel : Nat) (env : MapEnv) (s : Sketch) (qs vs : List F64)
    (h : s.quantiles env qs = .ok vs) :
    DDSketch.GetValuesAtQuantiles fuel (toGen env s) qs = .ok (vs, GoErr.nil) := by
  have h' := GetValuesAtQuantiles_rel fuel env s qs
  rwa [h] at h'

theorem GetValuesAtQuantiles_error (fuel : Nat) (env : MapEnv) (s : Sketch) (qs : List F64)
    (e : SkErr) (h : s.quantiles env qs = .error e) :
    ∃ g, goErr? e = some g ∧
      DDSketch.GetValuesAtQuantiles fuel (toGen env s) qs = .ok ([], g) := by
  have h' := GetValuesAtQuantiles_rel fuel env s qs
  rwa [h] at h'

theorem xquantiles_eq (env : MapEnv) (x : XSketch) (qs : List F64) :
    qs.mapM (x.quantile env) = Except.map (List.map x.clampTo) (x.sk.quantiles env qs) :=
  mapM_map_except (Sketch.quantile env x.sk) x.clampTo qs

theorem XGetValuesAtQuantiles_rel (fuel : Nat) (env : MapEnv) (x : XSketch) (qs : List F64) :
    match qs.mapM (x.quantile env) with
    | .ok vs => DDSketchWithExactSummaryStatistics.GetValuesAtQuantiles fuel (toGenX env x) qs =
        .ok (vs, GoErr.nil)
    | .error e => ∃ g, goErr? e = some g ∧
        DDSketchWithExactSummaryStatistics.GetValuesAtQuantiles fuel (toGenX env x) qs = .ok ([], g) := by
  have h := goBatch_rel env x.sk qs
  rw [xquantiles_eq, XGetValuesAtQuantiles_eq, toGenX_sk]
  revert h
  cases x.sk.quantiles env qs with
  | error e => exact fun ⟨g, hg, hb⟩ => ⟨g, hg, by rw [hb]⟩
  | ok vs => exact fun hb => by rw [hb]; rfl

theorem XGetValuesAtQuantiles_ok (fuel : Nat) (env : MapEnv) (x : XSketch) (qs vs : List F64)
    (h : qs.mapM (x.quantile env) = .ok vs) :
    DDSketchWithExactSummaryStatistics.GetValuesAtQuantiles fuel (toGenX env x) qs =
      .ok (vs, GoErr.nil) := by
  have h' := XGetValuesAtQuantiles_rel fuel env x qs
  rwa [h] at h'

theorem XGetValuesAtQuantiles_error (fuel : Nat) (env : MapEnv) (x : XSketch) (qs : List F64)
    (e : SkErr) (h : qs.mapM (x.quantile env) = .error e) :
    ∃ g, goErr? e = some g ∧
      DDSketchWithExactSummaryStatistics.GetValuesAtQuantiles fuel (toGenX env x) qs = .ok ([], g) := by
  have h' := XGetValuesAtQuantiles_rel fuel env x qs
  rwa [h] at h'

theorem XGetValuesAtQuantiles_clamped (fuel : Nat) (env : MapEnv) (x : XSketch) (qs vs : List F64)
    (h : x.sk.quantiles env qs = .ok vs) :
    DDSketchWithExactSummaryStatistics.GetValuesAtQuantiles fuel (toGenX env x) qs =
      .ok (vs.map x.clampTo, GoErr.nil) :=
  XGetValuesAtQuantiles_ok fuel env x qs _ (by rw [xquantiles_eq, h]; rfl)

end DDS.GenSketch
