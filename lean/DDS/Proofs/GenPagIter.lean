/-
  DDS.Proofs.GenPagIter — the REGENERATED `BufferedPaginatedStore.ForEach` (callback form in
  `DDS/Generated/CodePaginated.lean`, state-passing form in `CodePaginatedIter.lean`) and same-kind `MergeWith`
  against the hand model `DDS.PStore` (`binsList`, `mergeSame`).

  ForEach.  The state-passing `ForEach fuel s st f` threads `σ` through a visitor `f : σ → Int → Rat → Res (σ × Bool)`
  and returns the last state and the (buffer-sorted) store; the callback form takes `f : Int → Rat → Res Bool` and
  returns only the store.  `visitSR f mk st l k` walks a list of bins with such a visitor (stop with `mk st` when asked
  to, go on with `k` at the end); `visit f g l` is the walker of the callback form: call `f` on each bin in order, stop
  with `.ok g` at the first `.ok true`, propagate `.panic`/`.nofuel` of `f`, `.ok g` at the end.
    * `forEachS_eq_visitSR`: for EVERY store, capacity, visitor and state, the state-passing `ForEach` is the walk over
      `s.binsList` when `forEachFuel s ≤ fuel`, `forEachFuel s = s.buffer.length + 1` (the page loops are structural;
      only the run scanners `loop5/loop6/loop1/loop2` consume fuel, and they walk the buffer once).  No store invariant
      is needed: the loop invariant is `buffer = pre ++ b` (the consumed prefix and the rest), `bufferPos = len pre`, and
      the model walks `runs b`; the first run of `x :: xs` is `x :: xs.takeWhile (· == x)` (`runs_span`), which is where the
      run scanner stops (`fe_loop6_run`); sortedness of the buffer is not used.  One equation per loop for one iteration
      (`fe_loop5_step`, `fe_loop1_step`); each loop is then described together with what follows it
      (`(loop …).elim K`): the walk over the bins it hands out, continued by `K` at the position and runs it leaves —
      so the page loops are the model's `mergeIter` line by line, with `loop1` as the last continuation.
    * the callback form is the state-passing one at `σ = Unit` (`forEach_sim`: loop by loop, `Loop.map` forgets the unit
      state), whence `forEach_eq_visit` (MAIN):
        `ForEach fuel (toGen s cap) f = visit f (toGen s.sortRead cap) s.binsList`.
    * calls made (`visitTrace f l` = arguments of the calls of the walk): `forEach_congr_trace` (values of `f`
      outside the trace are irrelevant), `forEach_panic_of_mem_trace` (a panic planted on a bin of the trace is hit),
      `visitTrace_pred`/`forEach_pred` (for a total predicate the trace is `uptoFirst p binsList` = the bins up to
      and including the first `true`), `forEach_all` (never stopping: all bins, result = store with sorted buffer).

  MergeWith.
    * `mergeWith_fallback`: `pageLenLog2` differ ⇒ the generated function returns the oracle `mergeFallback s o`.
    * the model generalised: `mergeSameBits s o bits` = page phase of `mergeSame` (`mergePages`), then
      `addUnitsBits` (fold of `addUnit` with the compaction bits `bits`; missing bits are `true`), so that
      `mergeSameBits s o [] = s.mergeSame o` (`mergeSameBits_nil`): the hand model ALWAYS compacts, the generated
      code compacts when `len(buffer) = cap(buffer)`.
    * `mergeWith_same` (MAIN, first half): under `PageSpec`, `AddSpec af`, for EVERY `s o cap cap' grow`, with
      `s.pageLenLog2 = o.pageLenLog2` and `mergeFuel af s o ≤ fuel`:
        `∃ bits, bits.length = o.buffer.length ∧ ROk (MergeWith fuel grow mf (toGen s cap) (toGen o cap')) (mergeSameBits s o bits)`
      (panic ↔ `none`, no `nofuel`).  No invariant.  The page phase is an equation (`mw_loop2`, `mw_loop3`:
      `loop2/loop3 = fold of mergePageBody / addAtPage`).
      `mergeFuel af s o = max ((s.minPageIndex - o.minPageIndex + 9).toNat + 2) (addsFuel af s1 o.buffer)`, `s1` the
      store after the page phase: `page` clears a left extension at most once (afterwards `minPageIndex ≤` the
      page asked for); `addsFuel` is the largest `af` over the stores reachable by the adds under any bits.
    * `mergeSameBits_ok`, `mergeWith_same_content` (second half): for `Inv s`, `Inv o` (the invariant contains "all
      indexes int32") the generated merge returns `.ok g'` with `Rel g' s'`, `Inv s'`,
      `content s' = (content s).merge (content o)`, the same for `abs`, and `wt s' j = wt s j + wt o j`.

  Generated code and model do not disagree (the only difference is the compaction schedule of the buffer phase of
  `mergeSame`, which is why that result is stated through the bits / through `content`).
-/
import DDS.Generated.CodePaginatedIter
import DDS.Proofs.GenPagBase

namespace DDS.GenPag

open DDS DDS.GoSem DDS.GenDense
open DDS.Gen.Paginated
open DDS.PStore (castRuns runs mergeIter linesOf linesFrom)

/-! # `ForEach` -/

/-! ## the walker -/

/-- walk a list of bins calling `f`; stop at the first `true`; then continue with `r` -/
def visitR (f : Int → Rat → Res Bool) (g : GP) : List (Int × Rat) → Res GP → Res GP
  | [], r => r
  | (i, c) :: rest, r => (f i c).bind (fun b => if b then .ok g else visitR f g rest r)

/-- `ForEach` as the model sees it: `f` is called on each bin in order until it answers `true` -/
def visit (f : Int → Rat → Res Bool) (g : GP) (l : List (Int × Rat)) : Res GP := visitR f g l (.ok g)

/-- the propagation of a failing callback: the first bin where `f` does not answer `.ok false` decides -/
theorem visit_cons (f : Int → Rat → Res Bool) (g : GP) (i : Int) (c : Rat) (rest : List (Int × Rat)) :
    visit f g ((i, c) :: rest) =
      match f i c with
      | .ok true => .ok g
      | .ok false => visit f g rest
      | .panic => .panic
      | .nofuel => .nofuel := by
  unfold visit
  simp only [visitR]
  cases f i c with
  | ok b => cases b <;> rfl
  | panic => rfl
  | nofuel => rfl

theorem visit_nil (f : Int → Rat → Res Bool) (g : GP) : visit f g [] = .ok g := rfl

section
variable {σ ρ : Type} (f : σ → Int → Rat → Res (σ × Bool)) (mk : σ → ρ)

/-- the state-passing walker: the visitor threads `σ`; it stops with `mk st` when asked to, and goes on with `k` at
    the end of the list -/
def visitSR : σ → List (Int × Rat) → (σ → Res ρ) → Res ρ
  | st, [], k => k st
  | st, (i, c) :: rest, k => (f st i c).bind (fun r => if r.2 then .ok (mk r.1) else visitSR r.1 rest k)

theorem visitSR_append (a b : List (Int × Rat)) (k : σ → Res ρ) : ∀ st : σ,
    visitSR f mk st (a ++ b) k = visitSR f mk st a (fun st' => visitSR f mk st' b k) := by
  induction a with
  | nil => intro st; rfl
  | cons p a ih =>
    intro st
    obtain ⟨i, c⟩ := p
    simp only [List.cons_append, visitSR, ih]

end

/-! ## runs of the buffer -/

/-- the list a run-length encoding denotes -/
def expand (rs : List (Int × Nat)) : List Int := rs.flatMap (fun r => List.replicate r.2 r.1)

@[simp] theorem expand_nil : expand [] = [] := rfl

/-- `runs` by spans: the first run is the maximal prefix of entries equal to the first one -/
theorem runs_span : ∀ (xs : List Int) (x : Int),
    runs (x :: xs) = (x, (xs.takeWhile (· == x)).length + 1) :: runs (xs.dropWhile (· == x)) := by
  intro xs
  induction xs with
  | nil => intro x; rfl
  | cons y ys ih =>
    intro x
    rw [PStore.runs_cons, ih y]
    dsimp only
    by_cases h : x = y
    · subst h
      rw [if_pos rfl, List.takeWhile_cons_of_pos (p := (· == x)) (beq_self_eq_true x),
        List.dropWhile_cons_of_pos (p := (· == x)) (beq_self_eq_true x), List.length_cons]
    · have hb : ¬ (y == x) = true := by rwa [beq_iff_eq, eq_comm]
      rw [if_neg h, List.takeWhile_cons_of_neg (p := (· == x)) hb, List.dropWhile_cons_of_neg (p := (· == x)) hb, ih y]
      rfl

/-! ## one page line against the runs: the pieces of `mergeIter` -/

/-- runs strictly before `idx` -/
def takeLt (idx : Int) (rs : List (Int × Nat)) : List (Int × Nat) := rs.takeWhile (fun r => decide (r.1 < idx))
/-- runs left once the line `idx` has been emitted -/
def afterRest (idx : Int) (rs : List (Int × Nat)) : List (Int × Nat) :=
  match rs.dropWhile (fun r => decide (r.1 < idx)) with
  | (y, n) :: after' => if y = idx then after' else (y, n) :: after'
  | [] => []
/-- buffer entries merged into the line `idx` -/
def mergedN (idx : Int) (rs : List (Int × Nat)) : Nat :=
  match rs.dropWhile (fun r => decide (r.1 < idx)) with
  | (y, n) :: _ => if y = idx then n else 0
  | [] => 0

theorem pieces_lt (idx y : Int) (n : Nat) (more : List (Int × Nat)) (h : y < idx) :
    takeLt idx ((y, n) :: more) = (y, n) :: takeLt idx more ∧
    afterRest idx ((y, n) :: more) = afterRest idx more ∧
    mergedN idx ((y, n) :: more) = mergedN idx more := by
  simp [takeLt, afterRest, mergedN, h]

theorem pieces_eq (idx : Int) (n : Nat) (more : List (Int × Nat)) :
    takeLt idx ((idx, n) :: more) = [] ∧
    afterRest idx ((idx, n) :: more) = more ∧
    mergedN idx ((idx, n) :: more) = n := by
  simp [takeLt, afterRest, mergedN]

theorem pieces_gt (idx y : Int) (n : Nat) (more : List (Int × Nat)) (h : idx < y) :
    takeLt idx ((y, n) :: more) = [] ∧
    afterRest idx ((y, n) :: more) = (y, n) :: more ∧
    mergedN idx ((y, n) :: more) = 0 := by
  have h1 : ¬ y < idx := by omega
  have h2 : ¬ y = idx := by omega
  simp [takeLt, afterRest, mergedN, h1, h2]

theorem mergeIter_cons_nz (idx : Int) (c : Rat) (more : List (Int × Rat)) (rs : List (Int × Nat)) (hc : c ≠ 0) :
    mergeIter ((idx, c) :: more) rs =
      castRuns (takeLt idx rs) ++ (idx, c + (mergedN idx rs : Rat)) :: mergeIter more (afterRest idx rs) := by
  rw [mergeIter, if_neg hc]
  simp only [takeLt, afterRest, mergedN]
  cases hd : List.dropWhile (fun r => decide (r.1 < idx)) rs with
  | nil => simp [castRuns]
  | cons r t =>
    obtain ⟨y, n⟩ := r
    by_cases h : y = idx <;> simp [h, castRuns]

/-! ## the state-passing `ForEach` (`CodePaginatedIter`) -/

/-- fuel that `ForEach` needs: the run scanners walk the buffer once (the page loops are structural) -/
def forEachFuel (s : PStore) : Nat := s.buffer.length + 1

/-- the bound is a function of the store, hence satisfiable -/
theorem forEachFuel_sat (s : PStore) : ∃ fuel, forEachFuel s ≤ fuel := ⟨_, Nat.le_refl _⟩

theorem fe_sortBuffer_toGen (s : PStore) (cap : Int) :
    BufferedPaginatedStore.sortBuffer (toGen s cap) = toGen s.sortRead cap := rfl

section StatePassing
open DDS.Gen
variable {σ : Type} (g : GP) (f : σ → Int → Rat → Res (σ × Bool))

/-- the run scanner: the run of `x`s begins at `len pre`, the scanner stands behind `mid` and stops at the end of the run -/
theorem fe_loop6_run (pre : List Int) (x : Int) : ∀ (l mid : List Int) (fuel : Nat),
    g.buffer = pre ++ x :: (mid ++ l) → (l.takeWhile (· == x)).length < fuel →
    PaginatedIter.BufferedPaginatedStore.ForEach.loop6 (σ := σ) g (GoSem.len pre) fuel (GoSem.len (pre ++ x :: mid))
      = .done (GoSem.len (pre ++ x :: (mid ++ l.takeWhile (· == x)))) := by
  intro l
  induction l with
  | nil =>
    intro mid fuel hB hf
    obtain ⟨fuel, rfl⟩ := Nat.exists_eq_add_one_of_ne_zero (Nat.ne_of_gt hf)
    rw [List.append_nil] at hB
    rw [PaginatedIter.BufferedPaginatedStore.ForEach.loop6, hB,
      if_neg (by rw [decide_eq_true_eq]; exact Int.lt_irrefl _), List.takeWhile_nil, List.append_nil]
  | cons y l ih =>
    intro mid fuel hB hf
    have hB' : g.buffer = (pre ++ x :: mid) ++ y :: l := by rw [hB, List.append_assoc, List.cons_append]
    rw [show mid ++ y :: l = (mid ++ [y]) ++ l by rw [List.append_assoc, List.singleton_append]] at hB
    by_cases hy : (y == x) = true
    · rw [List.takeWhile_cons_of_pos (p := (· == x)) hy] at hf ⊢
      obtain ⟨fuel, rfl⟩ := Nat.exists_eq_add_one_of_ne_zero (Nat.ne_of_gt (Nat.zero_lt_of_lt hf))
      rw [PaginatedIter.BufferedPaginatedStore.ForEach.loop6, hB',
        if_pos (decide_eq_true (len_lt_append_cons _ y l)), idx_len_append, optL_some, ← hB', hB, idx_len_append,
        optL_some, if_pos hy, ← len_snoc _ y, List.append_assoc pre, List.cons_append,
        ih (mid ++ [y]) fuel hB (Nat.lt_of_succ_lt_succ hf), List.append_assoc, List.singleton_append]
    · obtain ⟨fuel, rfl⟩ := Nat.exists_eq_add_one_of_ne_zero (Nat.ne_of_gt (Nat.zero_lt_of_lt hf))
      rw [List.takeWhile_cons_of_neg (p := (· == x)) hy, List.append_nil,
        PaginatedIter.BufferedPaginatedStore.ForEach.loop6, hB',
        if_pos (decide_eq_true (len_lt_append_cons _ y l)), idx_len_append, optL_some, ← hB', hB, idx_len_append,
        optL_some, if_neg hy]

/-- one iteration of `loop5` at the run of `x`s that begins the rest `x :: xs` of the buffer -/
theorem fe_loop5_step (index : Int) {pre : List Int} {x : Int} {xs : List Int} (hB : g.buffer = pre ++ x :: xs)
    {fuel : Nat} (hf : (xs.takeWhile (· == x)).length < fuel) (st0 : Int) (st : σ) :
    PaginatedIter.BufferedPaginatedStore.ForEach.loop5 g index f (fuel + 1) st0 (GoSem.len pre) st =
      if index < x then .done (GoSem.len pre, GoSem.len pre, st)
      else if x = index then .done (GoSem.len pre, GoSem.len (pre ++ x :: xs.takeWhile (· == x)), st)
      else (f st x ((xs.takeWhile (· == x)).length + 1 : Nat)).bindL (fun r => if r.2 then .ret (r.1, g) else
        PaginatedIter.BufferedPaginatedStore.ForEach.loop5 g index f fuel (GoSem.len pre)
          (GoSem.len (pre ++ x :: xs.takeWhile (· == x))) r.1) := by
  have hs := fe_loop6_run (σ := σ) g pre x xs [] fuel hB hf
  rw [len_snoc, List.nil_append] at hs
  have hlt : ¬ GoSem.len g.buffer ≤ GoSem.len pre := hB ▸ Int.not_le.2 (len_lt_append_cons pre x xs)
  have h0 : GoSem.idx g.buffer (GoSem.len pre) = some x := hB ▸ idx_len_append pre x xs
  rw [PaginatedIter.BufferedPaginatedStore.ForEach.loop5]
  simp only [hlt, decide_false, Bool.false_eq_true, if_false, h0, optL_some, hs, Loop.elimL, decide_eq_true_eq,
    beq_iff_eq, len_append_sub, List.length_cons, Int.cast_natCast]

theorem fe_loop5_nil (index : Int) {pre : List Int} (hB : g.buffer = pre ++ []) (fuel : Nat) (st0 : Int) (st : σ) :
    PaginatedIter.BufferedPaginatedStore.ForEach.loop5 g index f (fuel + 1) st0 (GoSem.len pre) st
      = .done (GoSem.len pre, GoSem.len pre, st) := by
  rw [PaginatedIter.BufferedPaginatedStore.ForEach.loop5]
  exact if_pos (decide_eq_true (by rw [hB, List.append_nil]))

/-- `loop5` followed by `K`: the runs in front of the line `index` are handed out, a run at `index` is merged -/
theorem fe_loop5_spec (index : Int) :
    ∀ (fuel : Nat) (b pre : List Int) (st0 : Int), g.buffer = pre ++ b → b.length < fuel →
      ∃ (pre' b' : List Int) (st1 : Int), g.buffer = pre' ++ b' ∧ runs b' = afterRest index (runs b) ∧
        GoSem.len pre' - st1 = (mergedN index (runs b) : Int) ∧
        ∀ (K : Int × Int × σ → Res (σ × GP)) (st : σ),
          (PaginatedIter.BufferedPaginatedStore.ForEach.loop5 g index f fuel st0 (GoSem.len pre) st).elim K
            = visitSR f (fun x => (x, g)) st (castRuns (takeLt index (runs b)))
                (fun st' => K (st1, GoSem.len pre', st')) := by
  intro fuel
  induction fuel with
  | zero => intro b pre st0 hB hf; cases hf
  | succ fuel ih =>
    intro b pre st0 hB hf
    cases b with
    | nil => exact ⟨pre, [], GoSem.len pre, hB, rfl, Int.sub_self _, fun K st => by rw [fe_loop5_nil g f index hB]; rfl⟩
    | cons x xs =>
      -- the run of `x`s is `x :: xs.takeWhile (· == x)`; behind it the buffer goes on with `xs.dropWhile (· == x)`
      have hxf := Nat.lt_of_succ_lt_succ hf
      have hstep := fe_loop5_step g f index hB (Nat.lt_of_le_of_lt (List.takeWhile_sublist _).length_le hxf) st0
      have hB' : g.buffer = (pre ++ x :: xs.takeWhile (· == x)) ++ xs.dropWhile (· == x) := by
        rw [hB, List.append_assoc, List.cons_append, List.takeWhile_append_dropWhile]
      rw [runs_span]
      by_cases hlt : index < x
      · obtain ⟨e1, e2, e3⟩ := pieces_gt index x ((xs.takeWhile (· == x)).length + 1) (runs (xs.dropWhile (· == x))) hlt
        refine ⟨pre, x :: xs, GoSem.len pre, hB, by rw [e2, runs_span], by rw [e3]; exact Int.sub_self _, fun K st => ?_⟩
        rw [hstep, if_pos hlt, e1]
        rfl
      · by_cases heq : x = index
        · subst heq
          obtain ⟨e1, e2, e3⟩ := pieces_eq x ((xs.takeWhile (· == x)).length + 1) (runs (xs.dropWhile (· == x)))
          refine ⟨_, _, GoSem.len pre, hB', e2.symm, by rw [e3, len_append_sub]; rfl, fun K st => ?_⟩
          rw [hstep, if_neg hlt, if_pos rfl, e1]
          rfl
        · obtain ⟨e1, e2, e3⟩ := pieces_lt index x ((xs.takeWhile (· == x)).length + 1) (runs (xs.dropWhile (· == x)))
            (Int.lt_iff_le_and_ne.2 ⟨Int.not_lt.1 hlt, heq⟩)
          obtain ⟨pre', b', st1, h1, h2, h3, h4⟩ := ih (xs.dropWhile (· == x)) _ (GoSem.len pre) hB'
            (Nat.lt_of_le_of_lt (List.dropWhile_sublist _).length_le hxf)
          refine ⟨pre', b', st1, h1, e2.symm ▸ h2, e3.symm ▸ h3, fun K st => ?_⟩
          rw [hstep, if_neg hlt, if_neg heq, e1]
          simp only [castRuns, List.map_cons, visitSR, Loop.elim_bindL, apply_ite (Loop.elim · K), Loop.elim_ret, h4]

theorem fe_loop2_eq_loop6 (st : Int) : ∀ (fuel : Nat) (p : Int),
    PaginatedIter.BufferedPaginatedStore.ForEach.loop2 (σ := σ) g st fuel p
      = PaginatedIter.BufferedPaginatedStore.ForEach.loop6 (σ := σ) g st fuel p := by
  intro fuel
  induction fuel with
  | zero => intro p; rfl
  | succ n ih =>
    intro p
    unfold PaginatedIter.BufferedPaginatedStore.ForEach.loop2 PaginatedIter.BufferedPaginatedStore.ForEach.loop6
    simp only [ih]

theorem fe_loop1_nil (fuel : Nat) (st : σ) :
    PaginatedIter.BufferedPaginatedStore.ForEach.loop1 g f (fuel + 1) (GoSem.len g.buffer) st
      = .done (GoSem.len g.buffer, st) := by
  rw [PaginatedIter.BufferedPaginatedStore.ForEach.loop1]
  exact if_neg (by rw [decide_eq_true_eq]; exact Int.lt_irrefl _)

theorem fe_loop1_step {pre : List Int} {x : Int} {xs : List Int} (hB : g.buffer = pre ++ x :: xs)
    {fuel : Nat} (hf : (xs.takeWhile (· == x)).length < fuel) (st : σ) :
    PaginatedIter.BufferedPaginatedStore.ForEach.loop1 g f (fuel + 1) (GoSem.len pre) st =
      (f st x ((xs.takeWhile (· == x)).length + 1 : Nat)).bindL (fun r => if r.2 then .ret (r.1, g) else
        PaginatedIter.BufferedPaginatedStore.ForEach.loop1 g f fuel (GoSem.len (pre ++ x :: xs.takeWhile (· == x))) r.1) := by
  have hs := fe_loop6_run (σ := σ) g pre x xs [] fuel hB hf
  rw [len_snoc, List.nil_append] at hs
  have hlt : GoSem.len pre < GoSem.len g.buffer := hB ▸ len_lt_append_cons pre x xs
  have h0 : GoSem.idx g.buffer (GoSem.len pre) = some x := hB ▸ idx_len_append pre x xs
  rw [PaginatedIter.BufferedPaginatedStore.ForEach.loop1]
  simp only [hlt, decide_true, if_true, fe_loop2_eq_loop6, hs, Loop.elimL, h0, optL_some, len_append_sub,
    List.length_cons, Int.cast_natCast]

/-- `loop1` followed by `K`: the runs that are left -/
theorem fe_loop1_spec :
    ∀ (fuel : Nat) (b pre : List Int), g.buffer = pre ++ b → b.length < fuel →
      ∀ (K : Int × σ → Res (σ × GP)) (st : σ),
        (PaginatedIter.BufferedPaginatedStore.ForEach.loop1 g f fuel (GoSem.len pre) st).elim K
          = visitSR f (fun x => (x, g)) st (castRuns (runs b)) (fun st' => K (GoSem.len g.buffer, st')) := by
  intro fuel
  induction fuel with
  | zero => intro b pre hB hf; cases hf
  | succ fuel ih =>
    intro b pre hB hf K st
    cases b with
    | nil =>
      rw [List.append_nil] at hB
      subst hB
      exact congrArg (Loop.elim · K) (fe_loop1_nil g f fuel st)
    | cons x xs =>
      have hxf := Nat.lt_of_succ_lt_succ hf
      have hB' : g.buffer = (pre ++ x :: xs.takeWhile (· == x)) ++ xs.dropWhile (· == x) := by
        rw [hB, List.append_assoc, List.cons_append, List.takeWhile_append_dropWhile]
      rw [fe_loop1_step g f hB (Nat.lt_of_le_of_lt (List.takeWhile_sublist _).length_le hxf), runs_span]
      simp only [castRuns, List.map_cons, visitSR, Loop.elim_bindL, apply_ite (Loop.elim · K), Loop.elim_ret,
        ih _ _ hB' (Nat.lt_of_le_of_lt (List.dropWhile_sublist _).length_le hxf)]

/-- one page (`loop4`), followed by `K`: the lines of the page merged with the runs, then what `K` walks -/
theorem fe_loop4_spec (s : PStore) (cap : Int) (off : Int) (fuel : Nat) (hf : s.buffer.length < fuel)
    (more : List (Int × Rat)) (k₀ : σ → Res (σ × GP)) (K : Int × σ → Res (σ × GP))
    (hK : ∀ (pre b : List Int) (st : σ), s.buffer = pre ++ b →
      K (GoSem.len pre, st) = visitSR f (fun x => (x, toGen s cap)) st (mergeIter more (runs b)) k₀) :
    ∀ (ys : List Rat) (m : Nat) (b pre : List Int), s.buffer = pre ++ b →
      ∀ st : σ, (PaginatedIter.BufferedPaginatedStore.ForEach.loop4 fuel (toGen s cap) off f ys (m : Int)
          (GoSem.len pre) st).elim K
        = visitSR f (fun x => (x, toGen s cap)) st
            (mergeIter (linesOf s (s.minPageIndex + off) ys m ++ more) (runs b)) k₀ := by
  intro ys
  induction ys with
  | nil => intro m b pre hB st; exact hK pre b st hB
  | cons y ys ih =>
    intro m b pre hB st
    have hb : (y == (0 : Rat)) = decide (y = 0) := Bool.beq_eq_decide_eq y 0
    rw [PStore.linesOf_cons, List.cons_append, PaginatedIter.BufferedPaginatedStore.ForEach.loop4, hb]
    by_cases hc : y = 0
    · rw [if_pos (decide_eq_true hc), PStore.mergeIter_cons_zero _ _ _ _ hc]
      exact ih (m + 1) b pre hB st
    · obtain ⟨pre1, b1, st1, h1, h2, h3, h4⟩ := fe_loop5_spec (toGen s cap) f (s.index (s.minPageIndex + off) m)
        fuel b pre 0 hB
        (Nat.lt_of_le_of_lt (by rw [hB, List.length_append]; exact Nat.le_add_left _ _) hf)
      have h5 := ih (m + 1) b1 pre1 h1
      rw [if_neg (by rw [decide_eq_false hc]; exact Bool.false_ne_true), mergeIter_cons_nz _ _ _ _ hc, visitSR_append]
      simp only [toGen_minPageIndex, gen_index_nat, Loop.elim_elimL, h4, Loop.elim_bindL,
        apply_ite (Loop.elim · K), Loop.elim_ret, visitSR, h3, ← Int.natCast_add_one, h5, h2, Int.cast_natCast]

/-- the pages (`loop3`), followed by `K`, which walks the runs that are left -/
theorem fe_loop3_spec (s : PStore) (cap : Int) (fuel : Nat) (hf : s.buffer.length < fuel)
    (k₀ : σ → Res (σ × GP)) (K : Int × σ → Res (σ × GP))
    (hK : ∀ (pre b : List Int) (st : σ), s.buffer = pre ++ b →
      K (GoSem.len pre, st) = visitSR f (fun x => (x, toGen s cap)) st (castRuns (runs b)) k₀) :
    ∀ (xs : List (Array Rat)) (n : Nat) (b pre : List Int), s.buffer = pre ++ b →
      ∀ st : σ, (PaginatedIter.BufferedPaginatedStore.ForEach.loop3 fuel (toGen s cap) f (xs.map Array.toList) (n : Int)
          (GoSem.len pre) st).elim K
        = visitSR f (fun x => (x, toGen s cap)) st (mergeIter (linesFrom s xs n) (runs b)) k₀ := by
  intro xs
  induction xs with
  | nil => intro n b pre hB st; exact hK pre b st hB
  | cons pg xs ih =>
    intro n b pre hB st
    rw [List.map_cons, PaginatedIter.BufferedPaginatedStore.ForEach.loop3, Loop.elim_elimL, PStore.linesFrom_cons,
      ← Int.natCast_add_one]
    exact fe_loop4_spec f s cap n fuel hf _ k₀ _ (fun pre' b' st' hB' => ih (n + 1) b' pre' hB' st')
      pg.toList 0 b pre hB st

theorem forEachS_eq_visitSR (s : PStore) (cap : Int) (st : σ)
    (fuel : Nat) (hf : forEachFuel s ≤ fuel) :
    PaginatedIter.BufferedPaginatedStore.ForEach fuel (toGen s cap) st f
      = visitSR f (fun x => (x, toGen s.sortRead cap)) st s.binsList (fun st' => .ok (st', toGen s.sortRead cap)) := by
  have hlen : s.sortRead.buffer.length < fuel := by
    show (PStore.sortInts s.buffer).length < fuel
    rw [PStore.length_sortInts]; exact hf
  refine fe_loop3_spec f s.sortRead cap fuel hlen _ _ (fun pre b st' hB => ?_) s.pages.toList 0
    (PStore.sortInts s.buffer) [] rfl st
  show Loop.elim (PaginatedIter.BufferedPaginatedStore.ForEach.loop1 (toGen s.sortRead cap) f fuel (GoSem.len pre) st') _ = _
  exact fe_loop1_spec (toGen s.sortRead cap) f fuel b pre hB
    (Nat.lt_of_le_of_lt (by rw [hB, List.length_append]; exact Nat.le_add_left _ _) hlen) _ st'

end StatePassing

/-! ## the callback `ForEach` is the state-passing one at `σ = Unit` -/

section Callback
open DDS.Gen

section
variable (g : GP) (f : Int → Rat → Res Bool)

/-- a callback without state as a state-passing visitor -/
def lift : Unit → Int → Rat → Res (Unit × Bool) :=
  fun u i c => (f i c).bind (fun b => .ok (u, b))

theorem bindL_lift {σ ρ : Type} (u : Unit) (i : Int) (c : Rat) (k : Unit × Bool → Loop σ ρ) :
    (lift f u i c).bindL k = (f i c).bindL (fun b => k (u, b)) := by
  unfold lift
  cases f i c <;> rfl

theorem fe_sim_loop6 (st : Int) : ∀ (fuel : Nat) (p : Int),
    Loop.map id Prod.snd (PaginatedIter.BufferedPaginatedStore.ForEach.loop6 (σ := Unit) g st fuel p)
      = BufferedPaginatedStore.ForEach.loop6 g st fuel p := by
  intro fuel
  induction fuel with
  | zero => intro p; rfl
  | succ fuel ih =>
    intro p
    rw [PaginatedIter.BufferedPaginatedStore.ForEach.loop6, BufferedPaginatedStore.ForEach.loop6]
    simp only [apply_ite (Loop.map id Prod.snd), Loop.map_optL, ih, Loop.map_done, id_eq]

theorem fe_sim_loop2 (st : Int) : ∀ (fuel : Nat) (p : Int),
    Loop.map id Prod.snd (PaginatedIter.BufferedPaginatedStore.ForEach.loop2 (σ := Unit) g st fuel p)
      = BufferedPaginatedStore.ForEach.loop2 g st fuel p := by
  intro fuel
  induction fuel with
  | zero => intro p; rfl
  | succ fuel ih =>
    intro p
    rw [PaginatedIter.BufferedPaginatedStore.ForEach.loop2, BufferedPaginatedStore.ForEach.loop2]
    simp only [apply_ite (Loop.map id Prod.snd), Loop.map_optL, ih, Loop.map_done, id_eq]

theorem fe_sim_loop5 (index : Int) : ∀ (fuel : Nat) (a b : Int) (u : Unit),
    Loop.map (fun x => (x.1, x.2.1)) Prod.snd (PaginatedIter.BufferedPaginatedStore.ForEach.loop5 g index (lift f) fuel a b u)
      = BufferedPaginatedStore.ForEach.loop5 g index f fuel a b := by
  intro fuel
  induction fuel with
  | zero => intro a b u; rfl
  | succ fuel ih =>
    intro a b u
    rw [PaginatedIter.BufferedPaginatedStore.ForEach.loop5, BufferedPaginatedStore.ForEach.loop5]
    simp only [apply_ite (Loop.map _ Prod.snd), Loop.map_optL, Loop.map_elimL _ _ id id (fun _ => rfl), id_eq, Loop.map_bindL, bindL_lift, fe_sim_loop6, ih, Loop.map_done, Loop.map_ret]

theorem fe_sim_loop1 : ∀ (fuel : Nat) (p : Int) (u : Unit),
    Loop.map Prod.fst Prod.snd (PaginatedIter.BufferedPaginatedStore.ForEach.loop1 g (lift f) fuel p u)
      = BufferedPaginatedStore.ForEach.loop1 g f fuel p := by
  intro fuel
  induction fuel with
  | zero => intro p u; rfl
  | succ fuel ih =>
    intro p u
    rw [PaginatedIter.BufferedPaginatedStore.ForEach.loop1, BufferedPaginatedStore.ForEach.loop1]
    simp only [apply_ite (Loop.map _ Prod.snd), Loop.map_optL, Loop.map_elimL _ _ id id (fun _ => rfl), id_eq, Loop.map_bindL, bindL_lift, fe_sim_loop2, ih, Loop.map_done, Loop.map_ret]

theorem fe_sim_loop4 (fuel : Nat) (off : Int) (u : Unit) :
    ∀ (ys : List Rat) (li bp : Int),
    Loop.map Prod.fst Prod.snd (PaginatedIter.BufferedPaginatedStore.ForEach.loop4 fuel g off (lift f) ys li bp u)
      = BufferedPaginatedStore.ForEach.loop4 fuel g off f ys li bp := by
  intro ys
  induction ys with
  | nil => intro li bp; rfl
  | cons y ys ih =>
    intro li bp
    rw [PaginatedIter.BufferedPaginatedStore.ForEach.loop4, BufferedPaginatedStore.ForEach.loop4]
    simp only [apply_ite (Loop.map _ Prod.snd), Loop.map_elimL _ _ (fun x : Int × Int × Unit => (x.1, x.2.1)) (fun w => (w.1, w.2, u)) (fun _ => rfl),
      Loop.map_bindL, bindL_lift, fe_sim_loop5, ih, Loop.map_ret]

theorem fe_sim_loop3 (fuel : Nat) (u : Unit) :
    ∀ (xs : List (List Rat)) (off bp : Int),
    Loop.map Prod.fst Prod.snd (PaginatedIter.BufferedPaginatedStore.ForEach.loop3 fuel g (lift f) xs off bp u)
      = BufferedPaginatedStore.ForEach.loop3 fuel g f xs off bp := by
  intro xs
  induction xs with
  | nil => intro off bp; rfl
  | cons pg xs ih =>
    intro off bp
    rw [PaginatedIter.BufferedPaginatedStore.ForEach.loop3, BufferedPaginatedStore.ForEach.loop3]
    simp only [Loop.map_elimL _ _ Prod.fst (fun w => (w, u)) (fun _ => rfl), fe_sim_loop4, ih]

theorem forEach_sim (fuel : Nat) :
    BufferedPaginatedStore.ForEach fuel g f
      = (PaginatedIter.BufferedPaginatedStore.ForEach fuel g () (lift f)).bind (fun r => .ok r.2) := by
  simp only [BufferedPaginatedStore.ForEach, PaginatedIter.BufferedPaginatedStore.ForEach]
  rw [← fe_sim_loop3 _ f fuel ()]
  refine Loop.elim_map _ _ _ _ _ (fun x => ?_)
  rw [← fe_sim_loop1 _ f fuel x.1 x.2]
  exact Loop.elim_map _ _ _ _ _ (fun _ => rfl)

theorem visitSR_lift (u : Unit) : ∀ l : List (Int × Rat),
    (visitSR (lift f) (fun x => (x, g)) u l (fun u' => .ok (u', g))).bind (fun r => .ok r.2) = visit f g l := by
  intro l
  induction l with
  | nil => rfl
  | cons p l ih =>
    obtain ⟨i, c⟩ := p
    unfold visit at ih ⊢
    simp only [visitSR, visitR, lift]
    cases f i c with
    | ok b =>
      cases b with
      | false => exact ih
      | true => rfl
    | panic => rfl
    | nofuel => rfl

end

/-- MAIN (ForEach): the generated iteration is the walk of the model's `binsList` -/
theorem forEach_eq_visit (s : PStore) (cap : Int) (f : Int → Rat → Res Bool) (fuel : Nat)
    (hf : forEachFuel s ≤ fuel) :
    BufferedPaginatedStore.ForEach fuel (toGen s cap) f = visit f (toGen s.sortRead cap) s.binsList := by
  rw [forEach_sim, forEachS_eq_visitSR (lift f) s cap () fuel hf, visitSR_lift]

end Callback

/-! ## which calls `ForEach` makes -/

/-- the arguments of the calls to `f` that the walk makes, in order -/
def visitTrace (f : Int → Rat → Res Bool) : List (Int × Rat) → List (Int × Rat)
  | [] => []
  | (i, c) :: rest => (i, c) :: (match f i c with | .ok false => visitTrace f rest | _ => [])

/-- the prefix of `l` up to and including the first bin on which `p` answers `true` -/
def uptoFirst (p : Int → Rat → Bool) (l : List (Int × Rat)) : List (Int × Rat) :=
  l.takeWhile (fun x => !p x.1 x.2) ++ (l.dropWhile (fun x => !p x.1 x.2)).take 1

theorem uptoFirst_cons (p : Int → Rat → Bool) (i : Int) (c : Rat) (rest : List (Int × Rat)) :
    uptoFirst p ((i, c) :: rest) = (i, c) :: (if p i c then [] else uptoFirst p rest) := by
  unfold uptoFirst
  simp only [List.takeWhile_cons, List.dropWhile_cons]
  cases p i c <;> simp

theorem uptoFirst_false (l : List (Int × Rat)) : uptoFirst (fun _ _ => false) l = l := by
  induction l with
  | nil => rfl
  | cons x rest ih => rw [uptoFirst_cons, ih]; rfl

/-- for a total stop predicate the calls are exactly the bins up to and including the first `true` -/
theorem visitTrace_pred (p : Int → Rat → Bool) (l : List (Int × Rat)) :
    visitTrace (fun i c => .ok (p i c)) l = uptoFirst p l := by
  induction l with
  | nil => rfl
  | cons x rest ih =>
    rw [uptoFirst_cons, visitTrace]
    cases p x.1 x.2 <;> simp only [ih, Bool.false_eq_true, if_false, if_true]

/-- the walk only depends on the values of `f` on its trace … -/
theorem visitR_congr_trace (f f' : Int → Rat → Res Bool) (g : GP) (r : Res GP) (l : List (Int × Rat))
    (h : ∀ x ∈ visitTrace f l, f' x.1 x.2 = f x.1 x.2) :
    visitR f' g l r = visitR f g l r ∧ visitTrace f' l = visitTrace f l := by
  induction l with
  | nil => exact ⟨rfl, rfl⟩
  | cons x rest ih =>
    obtain ⟨i, c⟩ := x
    have h0 : f' i c = f i c := h (i, c) (by simp [visitTrace])
    simp only [visitR, visitTrace, h0]
    cases hfc : f i c with
    | ok b =>
      cases b with
      | false =>
        have := ih (fun x hx => h x (by simp [visitTrace, hfc, hx]))
        simp [this.1, this.2]
      | true => simp
    | panic => simp
    | nofuel => simp

/-- … and every element of the trace is really consulted: a callback that panics there makes the walk panic -/
theorem visitR_panic_of_mem_trace (f f' : Int → Rat → Res Bool) (g : GP) (r : Res GP) (x : Int × Rat)
    (hne : ∀ y : Int × Rat, y ≠ x → f' y.1 y.2 = f y.1 y.2) (hp : f' x.1 x.2 = .panic) (l : List (Int × Rat))
    (hx : x ∈ visitTrace f l) : visitR f' g l r = .panic := by
  induction l with
  | nil => simp [visitTrace] at hx
  | cons y rest ih =>
    obtain ⟨i, c⟩ := y
    by_cases hy : ((i, c) : Int × Rat) = x
    · subst hy
      simp only [visitR]
      simp only [] at hp
      rw [hp]; rfl
    · have h0 : f' i c = f i c := hne (i, c) hy
      simp only [visitTrace, List.mem_cons] at hx
      rcases hx with hx | hx
      · exact absurd hx.symm hy
      · simp only [visitR, h0]
        cases hfc : f i c with
        | ok b =>
          cases b with
          | false => rw [hfc] at hx; exact ih hx
          | true => rw [hfc] at hx; simp at hx
        | panic => rw [hfc] at hx; simp at hx
        | nofuel => rw [hfc] at hx; simp at hx

/-- `ForEach` consults `f` exactly on `visitTrace f s.binsList`: values elsewhere are irrelevant … -/
theorem forEach_congr_trace (s : PStore) (cap : Int) (f f' : Int → Rat → Res Bool) (fuel : Nat)
    (hf : forEachFuel s ≤ fuel) (h : ∀ x ∈ visitTrace f s.binsList, f' x.1 x.2 = f x.1 x.2) :
    BufferedPaginatedStore.ForEach fuel (toGen s cap) f' = BufferedPaginatedStore.ForEach fuel (toGen s cap) f := by
  rw [forEach_eq_visit s cap f fuel hf, forEach_eq_visit s cap f' fuel hf]
  exact (visitR_congr_trace f f' _ _ _ h).1

/-- … and a panic planted at any bin of the trace is hit -/
theorem forEach_panic_of_mem_trace (s : PStore) (cap : Int) (f f' : Int → Rat → Res Bool) (fuel : Nat)
    (hf : forEachFuel s ≤ fuel) (x : Int × Rat) (hx : x ∈ visitTrace f s.binsList)
    (hne : ∀ y : Int × Rat, y ≠ x → f' y.1 y.2 = f y.1 y.2) (hp : f' x.1 x.2 = .panic) :
    BufferedPaginatedStore.ForEach fuel (toGen s cap) f' = .panic := by
  rw [forEach_eq_visit s cap f' fuel hf]
  exact visitR_panic_of_mem_trace f f' _ _ x hne hp _ hx

/-- with a total stop predicate `p`: the result is the sorted store and the calls made are the bins up to and
    including the first one where `p` holds -/
theorem forEach_pred (s : PStore) (cap : Int) (p : Int → Rat → Bool) (fuel : Nat) (hf : forEachFuel s ≤ fuel) :
    BufferedPaginatedStore.ForEach fuel (toGen s cap) (fun i c => .ok (p i c)) = .ok (toGen s.sortRead cap) ∧
    visitTrace (fun i c => .ok (p i c)) s.binsList = uptoFirst p s.binsList := by
  refine ⟨?_, visitTrace_pred p _⟩
  rw [forEach_eq_visit s cap _ fuel hf, visit]
  generalize s.binsList = l
  induction l with
  | nil => rfl
  | cons x rest ih =>
    obtain ⟨i, c⟩ := x
    simp only [visitR, Res.bind_ok]
    cases p i c with
    | false => exact ih
    | true => rfl

/-- a callback that never stops: every bin is visited and the result is the store with its buffer sorted -/
theorem forEach_all (s : PStore) (cap : Int) (fuel : Nat) (hf : forEachFuel s ≤ fuel) :
    BufferedPaginatedStore.ForEach fuel (toGen s cap) (fun _ _ => .ok false)
      = .ok (toGen { s with buffer := PStore.sortInts s.buffer } cap) ∧
    visitTrace (fun _ _ => .ok false) s.binsList = s.binsList := by
  have h := forEach_pred s cap (fun _ _ => false) fuel hf
  exact ⟨h.1, h.2.trans (uptoFirst_false _)⟩

/-! # `MergeWith` -/

/-- another page length: the generated code is the oracle `mergeFallback` (DESIGN §4.2c) -/
theorem mergeWith_fallback (fuel : Nat) (grow : Int → Int → Int) (mf : GP → GP → Res GP) (s o : PStore)
    (cap cap' : Int) (hlog : s.pageLenLog2 ≠ o.pageLenLog2) :
    BufferedPaginatedStore.MergeWith fuel grow mf (toGen s cap) (toGen o cap') = mf (toGen s cap) (toGen o cap') := by
  unfold BufferedPaginatedStore.MergeWith
  have hb : (((s.pageLenLog2 : Nat) : Int) == ((o.pageLenLog2 : Nat) : Int)) = false := by
    simp; omega
  simp only [toGen_pageLenLog2, hb, Bool.and_false, Bool.false_eq_true, if_false]
  cases mf (toGen s cap) (toGen o cap') <;> rfl

/-! ## the model generalised: compaction bits from the evolving capacity -/

/-- fold of `addUnit` with an explicit stream of compaction bits (missing bits are `true`) -/
def addUnitsBits : PStore → List Int → List Bool → Option PStore
  | a, [], _ => some a
  | a, i :: rest, bits => (a.addUnit i (bits.headD true)).bind (fun a' => addUnitsBits a' rest bits.tail)

/-- the page phase of `mergeSame` -/
def mergePages (s o : PStore) : Option PStore :=
  (o.pages.toList.zipIdx).foldlM (PStore.mergePageBody o.minPageIndex) s

/-- `mergeSame` with the compaction bits of the buffer phase as a parameter -/
def mergeSameBits (s o : PStore) (bits : List Bool) : Option PStore :=
  (mergePages s o).bind (fun s1 => addUnitsBits s1 o.buffer bits)

theorem addUnitsBits_nil (l : List Int) : ∀ a : PStore,
    addUnitsBits a l [] = l.foldlM (fun acc i => acc.addUnit i true) a := by
  induction l with
  | nil => intro a; rfl
  | cons i rest ih =>
    intro a
    simp only [addUnitsBits, List.headD_nil, List.tail_nil, List.foldlM_cons]
    cases a.addUnit i true with
    | none => rfl
    | some a' => exact ih a'

/-- the hand model's `mergeSame` is the instance "always compact" -/
theorem mergeSameBits_nil (s o : PStore) : mergeSameBits s o [] = s.mergeSame o := by
  rw [PStore.mergeSame_eq]
  unfold mergeSameBits mergePages
  cases (o.pages.toList.zipIdx).foldlM (PStore.mergePageBody o.minPageIndex) s with
  | none => rfl
  | some s1 => exact addUnitsBits_nil _ _

/-! ## fuel -/

def optFuel (r : Option PStore) (k : PStore → Nat) : Nat :=
  match r with
  | some a => k a
  | none => 0

/-- fuel for the buffer phase: the largest `af` over the stores reachable through any choice of compaction bits -/
def addsFuel (af : PStore → Int → Nat) : PStore → List Int → Nat
  | _, [] => 0
  | a, i :: rest =>
    max (af a i) (max (optFuel (a.addUnit i true) (fun a' => addsFuel af a' rest))
                      (optFuel (a.addUnit i false) (fun a' => addsFuel af a' rest)))

theorem addsFuel_cons {af : PStore → Int → Nat} {a : PStore} {i : Int} {rest : List Int} {fuel : Nat}
    (hf : addsFuel af a (i :: rest) ≤ fuel) :
    af a i ≤ fuel ∧ ∀ bit a1, a.addUnit i bit = some a1 → addsFuel af a1 rest ≤ fuel := by
  unfold addsFuel at hf
  refine ⟨Nat.le_trans (Nat.le_max_left _ _) hf, fun bit a1 hu => ?_⟩
  have e : addsFuel af a1 rest = optFuel (a.addUnit i bit) (fun a' => addsFuel af a' rest) := by rw [hu]; rfl
  rw [e]
  refine Nat.le_trans (Nat.le_trans ?_ (Nat.le_max_right _ _)) hf
  cases bit
  · exact Nat.le_max_right _ _
  · exact Nat.le_max_left _ _

/-- fuel for the same-kind `MergeWith`: `page` may have to clear a left extension down to `o.minPageIndex` once;
    then the `Add`s -/
def mergeFuel (af : PStore → Int → Nat) (s o : PStore) : Nat :=
  max ((s.minPageIndex - o.minPageIndex + 9).toNat + 2)
      (optFuel (mergePages s o) (fun s1 => addsFuel af s1 o.buffer))

theorem pageFuel_le_mergeFuel (af : PStore → Int → Nat) (s o : PStore) (p : Int) (hp : o.minPageIndex ≤ p) :
    pageFuel s p ≤ mergeFuel af s o := by
  refine Nat.le_trans ?_ (Nat.le_max_left _ _)
  unfold pageFuel
  split
  · exact Nat.le_add_left 1 _
  · exact Nat.succ_le_succ (Nat.le_succ_of_le (Int.toNat_le_toNat (by omega)))

theorem mergeFuel_sat (af : PStore → Int → Nat) (s o : PStore) : ∃ fuel, mergeFuel af s o ≤ fuel := ⟨_, Nat.le_refl _⟩

/-! ## `loop3`: add the lines of one page -/

theorem mw_loop3 (cap : Int) (k : Nat) : ∀ (ys : List Rat) (m : Nat) (a : PStore),
    BufferedPaginatedStore.MergeWith.loop3 (k : Int) ys (m : Int) (a.pages.getD k #[]).toList (toGen a cap)
      = match (ys.zipIdx m).foldlM (fun (a : PStore) (cl : Rat × Nat) => PStore.addAtPage a k cl.2 cl.1) a with
        | none => .panic
        | some a' => .done ((a'.pages.getD k #[]).toList, toGen a' cap) := by
  intro ys
  induction ys with
  | nil => intro m a; rfl
  | cons y ys ih =>
    intro m a
    rw [BufferedPaginatedStore.MergeWith.loop3, List.zipIdx_cons, List.foldlM_cons]
    refine (addAtPage_L a cap k m y _).trans ?_
    cases a.addAtPage k m y with
    | none => rfl
    | some a' => exact Int.natCast_add_one m ▸ ih (m + 1) a'

/-! ## `loop2`: the pages of the other store -/

theorem mw_pageFuel_pos (s : PStore) (p : Int) : 0 < pageFuel s p := by
  unfold pageFuel
  split
  · exact Nat.one_pos
  · exact Nat.succ_pos _

theorem mw_loop2 (hpage : PageSpec) (o : PStore) (cap cap' : Int) (fuel : Nat) :
    ∀ (xs : List (Array Rat)) (n : Nat) (a : PStore),
      (∀ p : Int, o.minPageIndex + (n : Int) ≤ p → pageFuel a p ≤ fuel) →
      BufferedPaginatedStore.MergeWith.loop2 fuel (toGen o cap') (xs.map Array.toList) (n : Int) (toGen a cap)
        = match (xs.zipIdx n).foldlM (PStore.mergePageBody o.minPageIndex) a with
          | none => .panic
          | some a' => .done (toGen a' cap) := by
  intro xs
  induction xs with
  | nil => intro n a _; rfl
  | cons pg xs ih =>
    intro n a hfu
    have hfu0 := hfu _ (Int.le_refl _)
    rw [List.map_cons, List.zipIdx_cons, List.foldlM_cons, BufferedPaginatedStore.MergeWith.loop2,
      ← Int.natCast_add_one]
    simp only [PStore.mergePageBody, GoSem.len, Array.length_toList, Int.natCast_eq_zero, beq_iff_eq,
      toGen_minPageIndex]
    by_cases hz : pg.size = 0
    · rw [if_pos hz, if_pos hz]
      exact ih (n + 1) a (fun p hp => hfu p (by omega))
    · rw [if_neg hz, if_neg hz, hpage a cap _ true fuel hfu0]
      cases hpg : a.page (o.minPageIndex + (n : Int)) true with
      | none => rfl
      | some r =>
        obtain ⟨a1, k?⟩ := r
        cases k? with
        | none =>
          obtain ⟨y, ys, hys⟩ : ∃ y ys, pg.toList = y :: ys := by
            cases hl : pg.toList with
            | nil => exact absurd (by rw [← Array.length_toList, hl]; rfl) hz
            | cons y ys => exact ⟨y, ys, rfl⟩
          simp only [toRes_some, Res.bindL_ok, pageOf, hys]
          rfl
        | some k =>
          simp only [toRes_some, Res.bindL_ok, pageOf, toGen_minPageIndex, (PStore.page_slot hpg).2.2,
            Int.natCast_zero.symm ▸ mw_loop3 cap k pg.toList 0 a1, Option.bind_eq_bind, Option.bind_some]
          cases hfold : (pg.toList.zipIdx).foldlM (fun (a : PStore) (cl : Rat × Nat) => PStore.addAtPage a k cl.2 cl.1) a1 with
          | none => rfl
          | some a2 =>
            refine ih (n + 1) a2 (fun p hp => ?_)
            have hk := (PStore.page_slot hpg).2.2
            rw [pageFuel, if_pos (Or.inr (by
              rw [(PStore.foldlM_sameTable (fun _ _ _ => PStore.addAtPage_frame) hfold).minPageIndex]; omega))]
            exact Nat.le_trans (mw_pageFuel_pos a _) hfu0

/-! ## `loop1`: the buffer of the other store through `Add` -/

theorem mw_loop1 {af : PStore → Int → Nat} (hadd : AddSpec af) (grow : Int → Int → Int) (fuel : Nat) :
    ∀ (l : List Int) (a : PStore) (cap : Int), addsFuel af a l ≤ fuel →
      ∃ bits : List Bool, bits.length = l.length ∧
        ROk (Loop.elim (BufferedPaginatedStore.MergeWith.loop1 fuel grow l (toGen a cap)) .ok) (addUnitsBits a l bits) := by
  intro l
  induction l with
  | nil =>
    intro a cap _
    exact ⟨[], rfl, _, rfl, cap, rfl⟩
  | cons i rest ih =>
    intro a cap hf
    obtain ⟨hf1, hf2⟩ := addsFuel_cons hf
    have hspec := hadd a cap grow i fuel hf1
    rw [BufferedPaginatedStore.MergeWith.loop1]
    generalize decide ((a.buffer.length : Int) = cap) = bit at hspec
    cases hu : a.addUnit i bit with
    | none =>
      rw [hu] at hspec
      refine ⟨bit :: List.replicate rest.length true, by simp, ?_⟩
      rw [show BufferedPaginatedStore.Add fuel grow (toGen a cap) i = .panic from hspec, addUnitsBits, List.headD_cons, hu]
      rfl
    | some a1 =>
      rw [hu] at hspec
      obtain ⟨g', hg, c1, rfl⟩ := hspec
      obtain ⟨bits, hlen, hres⟩ := ih a1 c1 (hf2 bit a1 hu)
      refine ⟨bit :: bits, by rw [List.length_cons, hlen, List.length_cons], ?_⟩
      rw [hg, addUnitsBits, List.headD_cons, hu]
      exact hres

/-! ## the same-kind path -/

/-- MAIN (MergeWith, same page length), first half: the generated merge is the model's `mergeSame` with the
    compaction bits of the buffer phase read off the evolving capacity -/
theorem mergeWith_same {af : PStore → Int → Nat} (hpage : PageSpec) (hadd : AddSpec af)
    (grow : Int → Int → Int) (mf : GP → GP → Res GP) (s o : PStore) (cap cap' : Int) (fuel : Nat)
    (hlog : s.pageLenLog2 = o.pageLenLog2) (hf : mergeFuel af s o ≤ fuel) :
    ∃ bits : List Bool, bits.length = o.buffer.length ∧
      ROk (BufferedPaginatedStore.MergeWith fuel grow mf (toGen s cap) (toGen o cap')) (mergeSameBits s o bits) := by
  have h2 : BufferedPaginatedStore.MergeWith.loop2 fuel (toGen o cap') (pagesL o) 0 (toGen s cap)
      = match mergePages s o with
        | none => .panic
        | some a' => .done (toGen a' cap) :=
    mw_loop2 hpage o cap cap' fuel o.pages.toList 0 s
      (fun p hp => Nat.le_trans (pageFuel_le_mergeFuel af s o p (by omega)) hf)
  unfold BufferedPaginatedStore.MergeWith mergeSameBits
  simp only [toGen_pageLenLog2, hlog, beq_self_eq_true, Bool.and_true, if_true, toGen_pages, toGen_buffer, h2]
  cases hmp : mergePages s o with
  | none => exact ⟨List.replicate o.buffer.length true, List.length_replicate, rfl⟩
  | some s1 =>
    exact mw_loop1 hadd grow fuel o.buffer s1 cap
      (Nat.le_trans (by rw [mergeFuel, hmp]; exact Nat.le_max_right _ _) hf)

/-! ## second half: under the invariant the bits are irrelevant -/

open DDS.PStore (Inv wt content Idx32) in
theorem addUnitsBits_ok (l : List Int) (hl : ∀ x ∈ l, Idx32 x) : ∀ (bits : List Bool) (s : PStore), PStore.Inv s →
    ∃ s', addUnitsBits s l bits = some s' ∧ PStore.Inv s' ∧ ∀ j, wt s' j = wt s j + (l.count j : Rat) := by
  induction l with
  | nil => intro bits s h; exact ⟨s, rfl, h, fun j => by rw [List.count_nil, Nat.cast_zero, add_zero]⟩
  | cons x xs ih =>
    intro bits s h
    obtain ⟨s₁, h1, hI₁, hw₁⟩ := PStore.addUnit_ok s h x (hl x (List.mem_cons_self ..)) (bits.headD true)
    obtain ⟨s', h2, hI, hw⟩ := ih (fun y hy => hl y (List.mem_cons_of_mem _ hy)) bits.tail s₁ hI₁
    refine ⟨s', by rw [addUnitsBits, h1]; exact h2, hI, fun j => ?_⟩
    have e : (if (x == j) = true then 1 else 0 : Nat) = if j = x then 1 else 0 := by simp only [beq_iff_eq, @eq_comm _ x j]
    rw [hw, hw₁, List.count_cons, e, Nat.cast_add, Nat.cast_ite, Nat.cast_one, Nat.cast_zero, add_assoc,
      add_comm (if j = x then (1 : Rat) else 0)]

open DDS.PStore (Inv wt content) in
/-- whatever the compaction bits: no panic, invariant kept, pointwise sum of the weights -/
theorem mergeSameBits_ok (s o : PStore) (hs : PStore.Inv s) (ho : PStore.Inv o) (bits : List Bool) :
    ∃ s', mergeSameBits s o bits = some s' ∧ PStore.Inv s' ∧ ∀ j, wt s' j = wt s j + wt o j := by
  -- the page phase keeps the invariant; after it, any two bit streams add the same weights, and `[]` is `mergeSame`
  obtain ⟨s₁, h1, hI₁, _⟩ := PStore.foldMergePages_lines o o.pages.toList 0 s hs (ho.log2_eq hs).symm
    (fun m => by simpa using ho.goodSlot m)
  have hmp : mergePages s o = some s₁ := h1
  obtain ⟨r, hr, _, hwr⟩ := PStore.mergeSame_ok s o hs ho
  obtain ⟨a, ha, _, hwa⟩ := addUnitsBits_ok o.buffer ho.bufRange [] s₁ hI₁
  obtain ⟨s', h2, hI, hw⟩ := addUnitsBits_ok o.buffer ho.bufRange bits s₁ hI₁
  rw [← mergeSameBits_nil, mergeSameBits, hmp, Option.bind_some, ha] at hr
  cases hr
  exact ⟨s', by rw [mergeSameBits, hmp]; exact h2, hI, fun j => by rw [hw, ← hwr j, hwa]⟩

open DDS.PStore (Inv wt content) in
/-- MAIN (MergeWith, same page length), second half: for stores satisfying the invariant (which contains "all
    indexes are int32") the generated merge never panics nor runs out of fuel, and the content of the result is the
    merge of the contents -/
theorem mergeWith_same_content {af : PStore → Int → Nat} (hpage : PageSpec) (hadd : AddSpec af)
    (grow : Int → Int → Int) (mf : GP → GP → Res GP) (s o : PStore) (cap cap' : Int) (fuel : Nat)
    (hs : Inv s) (ho : Inv o) (hf : mergeFuel af s o ≤ fuel) :
    ∃ (g' : GP) (s' : PStore),
      BufferedPaginatedStore.MergeWith fuel grow mf (toGen s cap) (toGen o cap') = .ok g' ∧ Rel g' s' ∧ Inv s' ∧
      content s' = (content s).merge (content o) ∧ s'.abs = (s.abs).merge (o.abs) ∧
      (∀ j, wt s' j = wt s j + wt o j) := by
  obtain ⟨bits, _, hrok⟩ := mergeWith_same hpage hadd grow mf s o cap cap' fuel (by rw [hs.log2, ho.log2]) hf
  obtain ⟨s', h1, hI, hw⟩ := mergeSameBits_ok s o hs ho bits
  rw [h1] at hrok
  obtain ⟨g', hg, hrel⟩ := hrok
  have hc : content s' = (content s).merge (content o) := PStore.content_merge_of_wt hs ho hI hw
  refine ⟨g', s', hg, hrel, hI, hc, ?_, hw⟩
  rw [PStore.abs_eq_content s' hI, PStore.abs_eq_content s hs, PStore.abs_eq_content o ho, hc]

end DDS.GenPag
