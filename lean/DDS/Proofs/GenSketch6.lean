/-
  DDS.Proofs.GenSketch6 — the REGENERATED `changeStoreMapping` / `DDSketch.ChangeMapping`
  (`DDS/Generated/CodeSketch.lean`, translated from `/repo/ddsketch/ddsketch.go:494-527` on every run)
  against the HAND-WRITTEN model `DDS/Model/ChangeMapping.lean` (`spreadBin`, `spreadStore`,
  `accumulate`, `changeMapping`).

  Everything up to `ChangeMapping_eq` is generic: ANY mapping type `M` (`[MapI M]`) whose `LowerBound` /
  `Index` are those of an oracle `MapEnv` (`MapAgrees`, reflexive for `M = MapEnv`), ANY store type `S`
  (`[StoreI S]`): the statements do not depend on what a store is, only on the sequence of
  `AddWithCount` calls it receives (`addAll`).

  FUEL.  The generated inner loop `changeStoreMapping.loop2` and the model's `spreadBin` both count
  loop iterations (one unit per evaluation of the loop condition that is TRUE, plus — in the generated
  code only — one unit for the final evaluation that is FALSE).  `exitIndex new inHigh f j` is the index
  at which the loop condition `newMapping.LowerBound(outIndex) < inHigherBound` first fails, started at
  `j`, if that happens within `f` evaluations.  Then (`cm_loop2_eq`, an EQUATION, no side condition)

      loop2 … f st j = match exitIndex new inHigh f j with
                        | some j' => .done (addAll st (spreadBin new inLow inHigh count f j), j')
                        | none    => .nofuel

  i.e. with the SAME number `f` on both sides: when the generated loop finishes, the model's
  `spreadBin … f …` lists exactly the `AddWithCount` calls made, in order; it finishes iff the
  condition fails at some `j + k`, `k < f` (`exitIndex_eq_some_iff`, `exitIndex_eq_none_iff`; minimal
  fuel `j' - j + 1`); more fuel changes nothing on either side (`exitIndex_mono`,
  `spreadBin_fuel_mono`).  When the generated loop runs out of fuel (`.nofuel`) the model's `spreadBin`
  silently stops after `f` bins: that is the one place the two differ, and it is not a behaviour of the
  Go code (no fuel there).

  No disagreement found between the generated code and the model: `math.Max/Min` (`GoSem.fmax/fmin`)
  are the model's `fmaxG/fminG` (definitionally), `inSize` is `inHigh - inLow` computed once per source
  bin (the model recomputes the same float expression per target bin), the `continue` branch advances
  `outIndex` in both, `proportion*count` is `F64.mul proportion count` in both, the bins are visited in
  `ForEach` order in both.

  Core Lean only.
-/
import DDS.Proofs.GenSketch2
import DDS.Proofs.ChangeMapping

namespace DDS.GenSketch

open DDS DDS.GoSem DDS.Gen.Sketch DDS.ChangeMapping

/-! ### vocabulary -/

def addAll {S : Type} [StoreI S] (st : S) (l : List (Int × F64)) : S :=
  l.foldl (fun st p => StoreI.AddWithCount st p.1 p.2) st

@[simp] theorem addAll_nil {S : Type} [StoreI S] (st : S) : addAll st [] = st := rfl
@[simp] theorem addAll_cons {S : Type} [StoreI S] (st : S) (p : Int × F64) (l : List (Int × F64)) :
    addAll st (p :: l) = addAll (StoreI.AddWithCount st p.1 p.2) l := rfl
theorem addAll_append {S : Type} [StoreI S] (st : S) (l t : List (Int × F64)) :
    addAll st (l ++ t) = addAll (addAll st l) t := by
  simp [addAll, List.foldl_append]

/-- a mapping object of any type `M` behaves like the oracle `e` on the two methods `changeStoreMapping` calls -/
structure MapAgrees {M : Type} [MapI M] (m : M) (e : MapEnv) : Prop where
  lb : ∀ i, MapI.LowerBound m i = e.lowerBound i
  idx : ∀ v, MapI.Index m v = e.index v

theorem MapAgrees.refl (e : MapEnv) : MapAgrees e e := ⟨fun _ => rfl, fun _ => rfl⟩

/-- Go's `math.Max` / `math.Min` as translated are the model's -/
theorem fmaxG_eq_fmax (a b : F64) : fmaxG a b = GoSem.fmax a b := rfl
theorem fminG_eq_fmin (a b : F64) : fminG a b = GoSem.fmin a b := rfl

/-! ### where the inner loop exits -/

/-- where the loop `for outIndex := j; newMapping.LowerBound(outIndex) < inHigh; outIndex++` exits, if it
    does within `f` evaluations of its condition -/
def exitIndex (new : MapEnv) (inHigh : F64) : Nat → Int → Option Int
  | 0, _ => none
  | f + 1, j => if F64.lt (new.lowerBound j) inHigh then exitIndex new inHigh f (j + 1) else some j

theorem exitIndex_eq_some_iff (new : MapEnv) (inHigh : F64) (f : Nat) (j j' : Int) :
    exitIndex new inHigh f j = some j' ↔
      j ≤ j' ∧ j' < j + f ∧ F64.lt (new.lowerBound j') inHigh = false ∧
      ∀ i, j ≤ i → i < j' → F64.lt (new.lowerBound i) inHigh = true := by
  induction f generalizing j with
  | zero =>
    simp only [exitIndex, reduceCtorEq, false_iff]
    intro ⟨h1, h2, _⟩
    omega
  | succ f ih =>
    unfold exitIndex
    by_cases hg : F64.lt (new.lowerBound j) inHigh = true
    · rw [if_pos hg, ih]
      constructor
      · rintro ⟨h1, h2, h3, h4⟩
        refine ⟨by omega, by omega, h3, ?_⟩
        intro i hi1 hi2
        by_cases hij : i = j
        · subst hij; exact hg
        · exact h4 i (by omega) hi2
      · rintro ⟨h1, h2, h3, h4⟩
        have hne : j ≠ j' := by
          intro e; subst e; rw [hg] at h3; cases h3
        exact ⟨by omega, by omega, h3, fun i hi1 hi2 => h4 i (by omega) hi2⟩
    · rw [if_neg hg]
      have hg' : F64.lt (new.lowerBound j) inHigh = false := by simpa using hg
      constructor
      · intro h
        cases h
        exact ⟨by omega, by omega, hg', fun i hi1 hi2 => by omega⟩
      · rintro ⟨h1, h2, h3, h4⟩
        by_cases hij : j = j'
        · rw [hij]
        · have := h4 j (by omega) (by omega)
          rw [hg'] at this; cases this

theorem exitIndex_eq_none_iff (new : MapEnv) (inHigh : F64) (f : Nat) (j : Int) :
    exitIndex new inHigh f j = none ↔
      ∀ i, j ≤ i → i < j + f → F64.lt (new.lowerBound i) inHigh = true := by
  induction f generalizing j with
  | zero =>
    simp only [exitIndex, true_iff]
    intro i h1 h2; omega
  | succ f ih =>
    unfold exitIndex
    by_cases hg : F64.lt (new.lowerBound j) inHigh = true
    · rw [if_pos hg, ih]
      constructor
      · intro h i hi1 hi2
        by_cases hij : i = j
        · subst hij; exact hg
        · exact h i (by omega) (by omega)
      · intro h i hi1 hi2
        exact h i (by omega) (by omega)
    · rw [if_neg hg]
      simp only [reduceCtorEq, false_iff]
      intro h
      exact hg (h j (by omega) (by omega))

theorem exitIndex_isSome_of (new : MapEnv) (inHigh : F64) (f : Nat) (j : Int) (k : Nat) (hk : k < f)
    (hstop : F64.lt (new.lowerBound (j + k)) inHigh = false) :
    (exitIndex new inHigh f j).isSome = true := by
  cases h : exitIndex new inHigh f j with
  | some _ => rfl
  | none =>
    rw [exitIndex_eq_none_iff] at h
    have := h (j + k) (by omega) (by omega)
    rw [hstop] at this; cases this

theorem exitIndex_mono (new : MapEnv) (inHigh : F64) {f f' : Nat} {j j' : Int}
    (h : exitIndex new inHigh f j = some j') (hf : f ≤ f') : exitIndex new inHigh f' j = some j' := by
  rw [exitIndex_eq_some_iff] at h ⊢
  obtain ⟨h1, h2, h3, h4⟩ := h
  exact ⟨h1, by omega, h3, h4⟩

/-- the minimal fuel of the generated loop: one unit per visited bin, one for the failing test -/
theorem exitIndex_min_fuel (new : MapEnv) (inHigh : F64) {f : Nat} {j j' : Int}
    (h : exitIndex new inHigh f j = some j') : (j' - j).toNat + 1 ≤ f ∧
      exitIndex new inHigh ((j' - j).toNat + 1) j = some j' := by
  rw [exitIndex_eq_some_iff] at h ⊢
  obtain ⟨h1, h2, h3, h4⟩ := h
  exact ⟨by omega, h1, by omega, h3, h4⟩

/-- … and once the loop exits within `f`, the model's `spreadBin` does not depend on the fuel beyond `f` -/
theorem spreadBin_fuel_mono (new : MapEnv) (inLow inHigh count : F64) {f : Nat} {j j' : Int}
    (h : exitIndex new inHigh f j = some j') {f' : Nat} (hf : f ≤ f') :
    spreadBin new inLow inHigh count f' j = spreadBin new inLow inHigh count f j := by
  induction f generalizing j f' with
  | zero => simp [exitIndex] at h
  | succ f ih =>
    obtain ⟨g, rfl⟩ : ∃ g, f' = g + 1 := ⟨f' - 1, by omega⟩
    unfold exitIndex at h
    unfold spreadBin
    by_cases hg : F64.lt (new.lowerBound j) inHigh = true
    · rw [if_pos hg] at h
      have := ih h (f' := g) (by omega)
      simp only [hg, if_true, this]
    · simp only [hg]
      rfl

/-! ### the inner loop -/

/-- **the inner loop is `spreadBin`**, for any mapping and store types, all floats, same fuel on both sides -/
theorem cm_loop2_eq {M S : Type} [MapI M] [StoreI S] [Inhabited M] [Inhabited S] (newM : M) (new : MapEnv)
    (hnew : MapAgrees newM new) (inHigh inLow count : F64) (f : Nat) (st : S) (j : Int) :
    changeStoreMapping.loop2 (M := M) (S := S) newM inHigh inLow (F64.sub inHigh inLow) count f st j =
      match exitIndex new inHigh f j with
      | some j' => .done (addAll st (spreadBin new inLow inHigh count f j), j')
      | none => .nofuel := by
  induction f generalizing st j with
  | zero => rfl
  | succ f ih =>
    unfold changeStoreMapping.loop2 exitIndex spreadBin
    simp only [hnew.lb, fmaxG_eq_fmax, fminG_eq_fmin]
    by_cases hg : F64.lt (new.lowerBound j) inHigh = true
    · simp only [hg, if_true]
      by_cases hi : F64.le (F64.sub (GoSem.fmin (new.lowerBound (j + 1)) inHigh)
          (GoSem.fmax (new.lowerBound j) inLow)) (.fin 0) = true
      · simp only [hi, if_true]
        exact ih st (j + 1)
      · simp only [hi, Bool.false_eq_true, if_false]
        rw [ih]
        rfl
    · simp only [hg, Bool.false_eq_true, if_false]
      rfl

/-- if the generated loop finishes (`.done`) on fuel `f`, the model's `spreadBin … f …` lists exactly the
    contributions it added, and it stopped at the first index whose lower bound is not `< inHigh` -/
theorem loop2_done {M S : Type} [MapI M] [StoreI S] [Inhabited M] [Inhabited S] (newM : M) (new : MapEnv)
    (hnew : MapAgrees newM new) (inHigh inLow count : F64) (f : Nat) (st st' : S) (j j' : Int)
    (h : changeStoreMapping.loop2 (M := M) (S := S) newM inHigh inLow (F64.sub inHigh inLow) count f st j
      = .done (st', j')) :
    st' = addAll st (spreadBin new inLow inHigh count f j) ∧
    j ≤ j' ∧ j' < j + f ∧ F64.lt (new.lowerBound j') inHigh = false ∧
    (∀ i, j ≤ i → i < j' → F64.lt (new.lowerBound i) inHigh = true) ∧
    ∀ f', f ≤ f' → spreadBin new inLow inHigh count f' j = spreadBin new inLow inHigh count f j := by
  rw [cm_loop2_eq newM new hnew] at h
  cases he : exitIndex new inHigh f j with
  | none => rw [he] at h; cases h
  | some k =>
    rw [he] at h
    simp only [Loop.done.injEq, Prod.mk.injEq] at h
    obtain ⟨h1, h2⟩ := h
    subst h2
    have := (exitIndex_eq_some_iff new inHigh f j k).1 he
    exact ⟨h1.symm, this.1, this.2.1, this.2.2.1, this.2.2.2,
      fun f' hf => spreadBin_fuel_mono new inLow inHigh count he hf⟩

/-- the loop finishes (`.done`) when the condition fails within the fuel -/
theorem loop2_finishes {M S : Type} [MapI M] [StoreI S] [Inhabited M] [Inhabited S] (newM : M) (new : MapEnv)
    (hnew : MapAgrees newM new) (inHigh inLow count : F64) (f : Nat) (st : S) (j : Int) (k : Nat) (hk : k < f)
    (hstop : F64.lt (new.lowerBound (j + k)) inHigh = false) :
    ∃ j', changeStoreMapping.loop2 (M := M) (S := S) newM inHigh inLow (F64.sub inHigh inLow) count f st j =
      .done (addAll st (spreadBin new inLow inHigh count f j), j') := by
  rw [cm_loop2_eq newM new hnew]
  have := exitIndex_isSome_of new inHigh f j k hk hstop
  cases he : exitIndex new inHigh f j with
  | none => rw [he] at this; cases this
  | some j' => exact ⟨j', rfl⟩

theorem loop2_nofuel {M S : Type} [MapI M] [StoreI S] [Inhabited M] [Inhabited S] (newM : M) (new : MapEnv)
    (hnew : MapAgrees newM new) (inHigh inLow count : F64) (f : Nat) (st : S) (j : Int)
    (hrun : ∀ i, j ≤ i → i < j + f → F64.lt (new.lowerBound i) inHigh = true) :
    changeStoreMapping.loop2 (M := M) (S := S) newM inHigh inLow (F64.sub inHigh inLow) count f st j = .nofuel := by
  rw [cm_loop2_eq newM new hnew, (exitIndex_eq_none_iff new inHigh f j).2 hrun]

/-! ### one store -/

/-- `spreadStore` for float counts (what `ForEach` hands to the callback): the model's `spreadStore` is the
    case of finite counts (`spreadStoreF_fin`) -/
def spreadStoreF (old new : MapEnv) (scale : F64) (bins : List (Int × F64)) (fuel : Nat) : List (Int × F64) :=
  bins.flatMap fun (index, count) =>
    let inLow := F64.mul (old.lowerBound index) scale
    let inHigh := F64.mul (old.lowerBound (index + 1)) scale
    spreadBin new inLow inHigh count fuel (new.index inLow)

theorem spreadStoreF_fin (old new : MapEnv) (scale : F64) (bins : List (Int × Rat)) (fuel : Nat) :
    spreadStoreF old new scale (bins.map fun p => (p.1, F64.fin p.2)) fuel = spreadStore old new scale bins fuel := by
  simp only [spreadStoreF, spreadStore, List.flatMap_map]

/-- every inner loop started for a source bin of `idxs` exits within `fuel` -/
def allExit (old new : MapEnv) (scale : F64) (fuel : Nat) (idxs : List Int) : Bool :=
  idxs.all fun index =>
    (exitIndex new (F64.mul (old.lowerBound (index + 1)) scale) fuel
      (new.index (F64.mul (old.lowerBound index) scale))).isSome

/-- sufficient: `fuel` exceeds the number of target bins below each scaled source bin's upper bound -/
theorem allExit_of (old new : MapEnv) (scale : F64) (fuel : Nat) (idxs : List Int)
    (h : ∀ index ∈ idxs, ∃ k : Nat, k < fuel ∧
      F64.lt (new.lowerBound (new.index (F64.mul (old.lowerBound index) scale) + k))
        (F64.mul (old.lowerBound (index + 1)) scale) = false) :
    allExit old new scale fuel idxs = true := by
  simp only [allExit, List.all_eq_true]
  intro index hmem
  obtain ⟨k, hk, hs⟩ := h index hmem
  exact exitIndex_isSome_of new _ fuel _ k hk hs

/-- the outer loop (over the `ForEach` list): an equation -/
theorem cm_loop1_eq {M S : Type} [MapI M] [StoreI S] [Inhabited M] [Inhabited S] (oldM newM : M)
    (old new : MapEnv) (hold : MapAgrees oldM old) (hnew : MapAgrees newM new) (scale : F64) (fuel : Nat)
    (bins : List (Int × F64)) (st : S) :
    changeStoreMapping.loop1 (M := M) (S := S) fuel oldM scale newM bins st =
      if allExit old new scale fuel (bins.map (·.1)) then
        .done (addAll st (spreadStoreF old new scale bins fuel))
      else .nofuel := by
  induction bins generalizing st with
  | nil => rfl
  | cons b rest ih =>
    obtain ⟨index, count⟩ := b
    unfold changeStoreMapping.loop1
    simp only [hold.lb, hnew.idx]
    rw [cm_loop2_eq newM new hnew]
    simp only [allExit, List.map_cons, List.all_cons]
    cases he : exitIndex new (F64.mul (old.lowerBound (index + 1)) scale) fuel
        (new.index (F64.mul (old.lowerBound index) scale)) with
    | none => simp [Loop.elimL]
    | some j' =>
      simp only [Loop.elimL, Option.isSome_some, Bool.true_and]
      rw [ih]
      simp only [allExit, spreadStoreF, List.flatMap_cons, addAll_append]
      rfl

/-- **`changeStoreMapping`** for any mapping and store types: the target store receives exactly the model's
    contributions, in order, when no inner loop runs out of fuel; otherwise the outcome is `nofuel` -/
theorem changeStoreMapping_eq {M S : Type} [MapI M] [StoreI S] [Inhabited M] [Inhabited S] (oldM newM : M)
    (old new : MapEnv) (hold : MapAgrees oldM old) (hnew : MapAgrees newM new) (scale : F64) (fuel : Nat)
    (oldStore newStore : S) :
    changeStoreMapping fuel oldM newM oldStore newStore scale =
      if allExit old new scale fuel ((StoreI.ForEachList oldStore).map (·.1)) then
        .ok (addAll newStore (spreadStoreF old new scale (StoreI.ForEachList oldStore) fuel))
      else .nofuel := by
  unfold changeStoreMapping
  rw [cm_loop1_eq oldM newM old new hold hnew]
  split <;> rfl

/-! ### the whole sketch -/

/-- **`DDSketch.ChangeMapping`** for any mapping and store types: an equation.  Identity shortcut: the two
    target stores untouched and a `Copy` of the receiver.  Otherwise both sides are re-binned into the
    targets, and the new sketch carries the NEW mapping object, the two targets and the receiver's zero
    count; `nofuel` iff an inner loop does not exit. -/
theorem ChangeMapping_eq {M S : Type} [MapI M] [StoreI S] [Inhabited M] [Inhabited S] (g : DDSketch M S)
    (newM : M) (old new : MapEnv) (hold : MapAgrees g.IndexMapping old) (hnew : MapAgrees newM new)
    (scale : F64) (fuel : Nat) (pos neg : S) :
    DDSketch.ChangeMapping fuel g newM pos neg scale =
      if (F64.eq scale (.fin 1) && MapI.Equals g.IndexMapping newM) = true then
        .ok (pos, neg, DDSketch.Copy g)
      else if (allExit old new scale fuel ((StoreI.ForEachList g.positiveValueStore).map (·.1)) &&
          allExit old new scale fuel ((StoreI.ForEachList g.negativeValueStore).map (·.1))) = true then
        let pos' := addAll pos (spreadStoreF old new scale (StoreI.ForEachList g.positiveValueStore) fuel)
        let neg' := addAll neg (spreadStoreF old new scale (StoreI.ForEachList g.negativeValueStore) fuel)
        .ok (pos', neg', { IndexMapping := newM, positiveValueStore := pos', negativeValueStore := neg',
                           zeroCount := g.zeroCount })
      else .nofuel := by
  unfold DDSketch.ChangeMapping
  by_cases hid : (F64.eq scale (.fin 1) && MapI.Equals g.IndexMapping newM) = true
  · rw [if_pos hid, if_pos hid]
  · rw [if_neg hid, if_neg hid]
    rw [changeStoreMapping_eq g.IndexMapping newM old new hold hnew,
      changeStoreMapping_eq g.IndexMapping newM old new hold hnew]
    by_cases hp : allExit old new scale fuel ((StoreI.ForEachList g.positiveValueStore).map (·.1)) = true
    · by_cases hn : allExit old new scale fuel ((StoreI.ForEachList g.negativeValueStore).map (·.1)) = true
      · simp only [hp, hn, if_true, Res.bind_ok, Bool.and_self, NewDDSketch]
      · simp only [hp, hn, if_true, Res.bind_ok, Bool.and_false, Bool.false_eq_true, if_false,
          Res.bind_nofuel]
    · simp only [hp, Bool.false_eq_true, if_false, Res.bind_nofuel, Bool.false_and]

/-! ### on the model's mapping and stores -/

theorem forEachList_bins (st : Store) (bins : List (Int × Rat)) (hb : st.binsList = some bins) :
    StoreI.ForEachList st = bins.map fun p => (p.1, F64.fin p.2) := by
  show (st.binsList.getD []).map _ = _
  rw [hb]
  rfl

/-! #### sparse targets: `AddWithCount` of finite weights is `Content.add` -/

/-- `Wire.contentOf` from any starting content -/
def contentFrom (c : Content) (l : List (Int × F64)) : Option Content :=
  l.foldlM (fun (acc : Content) p =>
    match p.2 with
    | .fin w => some (acc.add p.1 w)
    | _ => none) c

theorem accumulate_eq_contentFrom (l : List (Int × F64)) : accumulate l = contentFrom [] l := rfl

theorem addAll_sparse (c c' : Content) (l : List (Int × F64)) (h : contentFrom c l = some c') :
    addAll (Store.sp c) l = Store.sp c' := by
  induction l generalizing c with
  | nil =>
    simp only [contentFrom, List.foldlM_nil, Option.pure_def, Option.some.injEq] at h
    subst h; rfl
  | cons p rest ih =>
    obtain ⟨i, w⟩ := p
    simp only [contentFrom, List.foldlM_cons, Option.bind_eq_bind] at h
    cases w with
    | fin q =>
      simp only [Option.bind_some] at h
      rw [addAll_cons]
      have : StoreI.AddWithCount (Store.sp c) i (F64.fin q) = Store.sp (c.add i q) := by
        simp [storeAddF, Sketch.addF, Store.addWithCount]
      rw [this]
      exact ih (c.add i q) h
    | _ => simp at h

theorem addAll_sparse_empty (c' : Content) (l : List (Int × F64)) (h : accumulate l = some c') :
    addAll (Store.sp []) l = Store.sp c' :=
  addAll_sparse [] c' l h

/-! #### `ChangeMapping` against the model's `changeMapping` -/

/-- the identity shortcut, generated code AND model: with scale exactly 1 and an `Equals` mapping both
    return (a copy of) the receiver; the generated code leaves the two target stores untouched -/
theorem ChangeMapping_identity (old new : MapEnv) (s : Sketch) (scale : F64) (fuel : Nat) (pos neg : Store)
    (hs : F64.eq scale F64.one = true) (hm : old.id.equals new.id = true) :
    DDSketch.ChangeMapping fuel (toGen old s) new pos neg scale = .ok (pos, neg, toGen old s) ∧
    changeMapping old new s scale fuel = some s := by
  constructor
  · rw [ChangeMapping_eq (toGen old s) new old new (MapAgrees.refl old) (MapAgrees.refl new)]
    have : (F64.eq scale (.fin 1) && MapI.Equals (toGen old s).IndexMapping new) = true := by
      show (F64.eq scale F64.one && old.id.equals new.id) = true
      rw [hs, hm]; rfl
    rw [if_pos this]
    rfl
  · simp [changeMapping, hs, hm]

/-- the general path on the model's stores, ANY two target stores, an equation: the new sketch carries the new
    mapping and the receiver's zero count, the targets have received exactly `spreadStore`'s contributions of
    the two sides; `nofuel` iff an inner loop does not exit -/
theorem ChangeMapping_bins (old new : MapEnv) (s : Sketch) (scale : F64) (fuel : Nat) (pos neg : Store)
    (p n : List (Int × Rat)) (hp : s.pos.binsList = some p) (hn : s.neg.binsList = some n)
    (hne : (F64.eq scale F64.one && old.id.equals new.id) = false) :
    DDSketch.ChangeMapping fuel (toGen old s) new pos neg scale =
      if (allExit old new scale fuel (p.map (·.1)) && allExit old new scale fuel (n.map (·.1))) = true then
        .ok (addAll pos (spreadStore old new scale p fuel), addAll neg (spreadStore old new scale n fuel),
          toGen new { mapping := some new.id, pos := addAll pos (spreadStore old new scale p fuel),
                      neg := addAll neg (spreadStore old new scale n fuel), zero := s.zero })
      else .nofuel := by
  rw [ChangeMapping_eq (toGen old s) new old new (MapAgrees.refl old) (MapAgrees.refl new),
    show (F64.eq scale (.fin 1) && MapI.Equals (toGen old s).IndexMapping new) = false from hne,
    if_neg Bool.false_ne_true, toGen_pos, toGen_neg, forEachList_bins s.pos p hp, forEachList_bins s.neg n hn,
    spreadStoreF_fin, spreadStoreF_fin, List.map_map, List.map_map]
  rfl

/-- **generated `ChangeMapping` vs the model's `changeMapping`**, general path, EMPTY SPARSE targets (the
    model abstracts the targets as the contents they end up holding): whenever the model answers `some t`
    and no inner loop runs out of fuel, the generated code returns `t`'s two stores and the sketch `t` on
    the new mapping object. -/
theorem ChangeMapping_rel (old new : MapEnv) (s t : Sketch) (scale : F64) (fuel : Nat)
    (p n : List (Int × Rat)) (hp : s.pos.binsList = some p) (hn : s.neg.binsList = some n)
    (hne : (F64.eq scale F64.one && old.id.equals new.id) = false)
    (hexp : allExit old new scale fuel (p.map (·.1)) = true)
    (hexn : allExit old new scale fuel (n.map (·.1)) = true)
    (hm : changeMapping old new s scale fuel = some t) :
    DDSketch.ChangeMapping fuel (toGen old s) new (Store.sp []) (Store.sp []) scale =
      .ok (t.pos, t.neg, toGen new t) := by
  obtain ⟨p', n', cp, cn, hp', hn', hcp, hcn, rfl⟩ := changeMapping_some old new s t scale fuel hne hm
  cases hp.symm.trans hp'
  cases hn.symm.trans hn'
  rw [ChangeMapping_bins old new s scale fuel _ _ p n hp hn hne, hexp, hexn,
    addAll_sparse_empty cp _ hcp, addAll_sparse_empty cn _ hcn]
  rfl

/-- the result read back as a model sketch -/
theorem ChangeMapping_rel_ofGen (old new : MapEnv) (s t : Sketch) (scale : F64) (fuel : Nat)
    (p n : List (Int × Rat)) (hp : s.pos.binsList = some p) (hn : s.neg.binsList = some n)
    (hne : (F64.eq scale F64.one && old.id.equals new.id) = false)
    (hexp : allExit old new scale fuel (p.map (·.1)) = true)
    (hexn : allExit old new scale fuel (n.map (·.1)) = true)
    (hm : changeMapping old new s scale fuel = some t) :
    ∃ r, DDSketch.ChangeMapping fuel (toGen old s) new (Store.sp []) (Store.sp []) scale = .ok r ∧
      ofGen r.2.2 = t ∧ r.1 = t.pos ∧ r.2.1 = t.neg := by
  refine ⟨_, ChangeMapping_rel old new s t scale fuel p n hp hn hne hexp hexn hm, ?_, rfl, rfl⟩
  obtain ⟨_, _, cp, cn, _, _, _, _, rfl⟩ := changeMapping_some old new s t scale fuel hne hm
  rfl

/-- running out of fuel on the general path: the generated code says so; the model does not notice -/
theorem ChangeMapping_nofuel (old new : MapEnv) (s : Sketch) (scale : F64) (fuel : Nat) (pos neg : Store)
    (p n : List (Int × Rat)) (hp : s.pos.binsList = some p) (hn : s.neg.binsList = some n)
    (hne : (F64.eq scale F64.one && old.id.equals new.id) = false)
    (hex : (allExit old new scale fuel (p.map (·.1)) && allExit old new scale fuel (n.map (·.1))) = false) :
    DDSketch.ChangeMapping fuel (toGen old s) new pos neg scale = .nofuel := by
  rw [ChangeMapping_bins old new s scale fuel pos neg p n hp hn hne, hex]
  rfl

end DDS.GenSketch
