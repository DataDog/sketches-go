/-
  DDS.Proofs.Dataset — lemmas about the in-memory ground-truth helper `DDS.Dataset`
  (`dataset/dataset.go`): the invariant, sorting, the float rank, observational equality.
-/
import DDS.Proofs.Num
import DDS.Model.Dataset

set_option linter.unusedVariables false

namespace DDS

theorem pairwise_last {α : Type} {R : α → α → Prop} (hR : ∀ a, R a a) {L : List α}
    (hs : L.Pairwise R) (h : 0 < L.length) : ∀ x ∈ L, R x L[L.length - 1] := by
  intro x hx
  obtain ⟨j, hj, rfl⟩ := List.getElem_of_mem hx
  rcases Nat.lt_or_ge j (L.length - 1) with hlt | hge
  · exact (List.pairwise_iff_getElem.1 hs) j _ hj (by omega) hlt
  · obtain rfl : j = L.length - 1 := by omega
    exact hR _

theorem pairwise_first {α : Type} {R : α → α → Prop} (hR : ∀ a, R a a) {L : List α}
    (hs : L.Pairwise R) (h : 0 < L.length) : ∀ x ∈ L, R L[0] x := by
  intro x hx
  obtain ⟨j, hj, rfl⟩ := List.getElem_of_mem hx
  rcases Nat.eq_zero_or_pos j with rfl | hjp
  · exact hR _
  · exact (List.pairwise_iff_getElem.1 hs) 0 j h hj hjp

namespace Dataset

/-! ## definitions used by the statements -/

/-- `Add` every element of a list to a fresh dataset -/
def ofList (xs : List Rat) : Dataset := xs.foldl Dataset.add Dataset.new

/-- the values in ascending order (what `sort()` leaves in the slice) -/
def sortedVals (l : List Rat) : List Rat := l.mergeSort (fun a b => decide (a ≤ b))

/-- `Count` is the number of values, and the sort flag does not lie -/
def Inv (d : Dataset) : Prop :=
  d.count = .fin (d.values.length : Rat) ∧ (d.sorted = true → d.values.Pairwise (· ≤ ·))

/-- two datasets no sequence of calls can tell apart: same multiset of values, same `Count`,
    honest sort flags -/
def ObsEq (a b : Dataset) : Prop :=
  a.values.Perm b.values ∧ a.count = b.count ∧
    (a.sorted = true → a.values.Pairwise (· ≤ ·)) ∧ (b.sorted = true → b.values.Pairwise (· ≤ ·))

/-- the calls of the API (except `Sum`, which is a float fold in insertion order) -/
inductive Op where
  | add (v : Rat)
  | lower (q : F64)
  | upper (q : F64)
  | min
  | max
  | merge (o : Dataset)

/-- one call: the new state and the answer (if the call has one) -/
def step (d : Dataset) : Op → Dataset × Option QRes
  | .add v => (d.add v, none)
  | .lower q => ((d.lowerQuantile q).1, some (d.lowerQuantile q).2)
  | .upper q => ((d.upperQuantile q).1, some (d.upperQuantile q).2)
  | .min => (d.min.1, some d.min.2)
  | .max => (d.max.1, some d.max.2)
  | .merge o => (d.merge o, none)

/-- a sequence of calls: final state and the answers in order -/
def run (d : Dataset) : List Op → Dataset × List (Option QRes)
  | [] => (d, [])
  | op :: ops => ((run (step d op).1 ops).1, (step d op).2 :: (run (step d op).1 ops).2)

/-- `Count` after `n` increments -/
def addN (c : F64) : Nat → F64
  | 0 => c
  | n + 1 => addN (F64.add c F64.one) n

/-! ## sorting -/

theorem leB_trans (a b c : Rat) :
    decide (a ≤ b) = true → decide (b ≤ c) = true → decide (a ≤ c) = true := by
  simp only [decide_eq_true_eq]; exact le_trans

theorem leB_total (a b : Rat) : (decide (a ≤ b) || decide (b ≤ a)) = true := by
  simp only [Bool.or_eq_true, decide_eq_true_eq]; exact le_total a b

theorem sortedVals_pairwise (l : List Rat) : (sortedVals l).Pairwise (· ≤ ·) := by
  have := List.pairwise_mergeSort (le := fun a b : Rat => decide (a ≤ b)) leB_trans leB_total l
  simpa [sortedVals] using this

theorem sortedVals_perm (l : List Rat) : (sortedVals l).Perm l := List.mergeSort_perm _ _

theorem sortedVals_length (l : List Rat) : (sortedVals l).length = l.length :=
  (sortedVals_perm l).length_eq

theorem sortedVals_of_pairwise {l : List Rat} (h : l.Pairwise (· ≤ ·)) : sortedVals l = l :=
  List.mergeSort_of_pairwise (by simpa using h)

theorem pairwise_perm_eq {l₁ l₂ : List Rat} (h1 : l₁.Pairwise (· ≤ ·)) (h2 : l₂.Pairwise (· ≤ ·))
    (hp : l₁.Perm l₂) : l₁ = l₂ :=
  List.Perm.eq_of_pairwise (fun a b _ _ hab hba => le_antisymm hab hba) h1 h2 hp

theorem sortedVals_congr {l₁ l₂ : List Rat} (hp : l₁.Perm l₂) : sortedVals l₁ = sortedVals l₂ :=
  pairwise_perm_eq (sortedVals_pairwise _) (sortedVals_pairwise _)
    ((sortedVals_perm l₁).trans (hp.trans (sortedVals_perm l₂).symm))

theorem sortedVals_idem (l : List Rat) : sortedVals (sortedVals l) = sortedVals l :=
  sortedVals_of_pairwise (sortedVals_pairwise l)

theorem pairwise_getElem_le {l : List Rat} (h : l.Pairwise (· ≤ ·)) {i j : Nat} (hij : i ≤ j)
    (hj : j < l.length) : l[i]'(by omega) ≤ l[j] := by
  rcases Nat.lt_or_eq_of_le hij with hlt | rfl
  · exact List.pairwise_iff_getElem.mp h i j (by omega) hj hlt
  · exact le_refl _

theorem sort_count (d : Dataset) : d.sort.count = d.count := by
  unfold sort; split <;> rfl

theorem sort_sorted (d : Dataset) : d.sort.sorted = true := by
  unfold sort; split
  · assumption
  · rfl

theorem sort_values (d : Dataset) :
    d.sort.values = if d.sorted then d.values else sortedVals d.values := by
  unfold sort; split <;> rfl

theorem sort_of_sorted {d : Dataset} (h : d.sorted = true) : d.sort = d := by
  unfold sort; rw [if_pos h]

/-- with an honest flag, `sort()` leaves the ascending arrangement of the values -/
theorem sort_values_of_honest {d : Dataset} (h : d.sorted = true → d.values.Pairwise (· ≤ ·)) :
    d.sort.values = sortedVals d.values := by
  rw [sort_values]
  split
  · rename_i hs; exact (sortedVals_of_pairwise (h hs)).symm
  · rfl

theorem sort_eq_of_honest {d : Dataset} (h : d.sorted = true → d.values.Pairwise (· ≤ ·)) :
    d.sort = { values := sortedVals d.values, count := d.count, sorted := true } := by
  have h1 := sort_values_of_honest h
  have h2 := sort_count d
  have h3 := sort_sorted d
  cases hd : d.sort
  simp only [hd] at h1 h2 h3
  subst h1 h2 h3; rfl

theorem sort_values_pairwise (d : Dataset) (h : d.sorted = true → d.values.Pairwise (· ≤ ·)) :
    d.sort.values.Pairwise (· ≤ ·) := by
  rw [sort_values_of_honest h]; exact sortedVals_pairwise _

theorem sort_values_perm (d : Dataset) : d.sort.values.Perm d.values := by
  rw [sort_values]; split
  · exact List.Perm.refl _
  · exact sortedVals_perm _

theorem rank_sort (d : Dataset) (q : F64) : d.sort.rank q = d.rank q := by
  unfold rank; rw [sort_count]

theorem rejects_sort (d : Dataset) (q : F64) : d.sort.rejects q = d.rejects q := by
  unfold rejects; rw [sort_count]

/-! ## the invariant -/

theorem inv_new : Inv new := ⟨rfl, by intro h; cases h⟩

theorem addN_nat (k n : Nat) (h : k + n ≤ 2 ^ 53) :
    addN (.fin (k : Rat)) n = .fin ((k + n : Nat) : Rat) := by
  induction n generalizing k with
  | zero => rfl
  | succ n ih =>
    show addN (F64.add (.fin (k : Rat)) F64.one) n = _
    rw [F64.add_one_nat k (by omega), ih (k + 1) (by omega)]
    congr 2; omega

theorem inv_add {d : Dataset} (h : Inv d) (v : Rat) (hlen : d.values.length + 1 ≤ 2 ^ 53) :
    Inv (d.add v) := by
  refine ⟨?_, by intro hs; cases hs⟩
  show F64.add d.count F64.one = .fin ((d.values ++ [v]).length : Rat)
  rw [h.1, F64.add_one_nat _ hlen]; simp

theorem inv_sort {d : Dataset} (h : Inv d) : Inv d.sort := by
  refine ⟨?_, fun _ => sort_values_pairwise d h.2⟩
  rw [sort_count, h.1, (sort_values_perm d).length_eq]

theorem values_foldl_add (l : List Rat) (d : Dataset) : (l.foldl add d).values = d.values ++ l := by
  induction l generalizing d with
  | nil => simp
  | cons x l ih => rw [List.foldl_cons, ih]; simp [add]

theorem count_foldl_add (l : List Rat) (d : Dataset) :
    (l.foldl add d).count = addN d.count l.length := by
  induction l generalizing d with
  | nil => rfl
  | cons x l ih => rw [List.foldl_cons, ih]; rfl

theorem sorted_foldl_add (l : List Rat) (d : Dataset) (hl : l ≠ []) :
    (l.foldl add d).sorted = false := by
  induction l generalizing d with
  | nil => exact absurd rfl hl
  | cons x l ih =>
    rw [List.foldl_cons]
    by_cases h : l = []
    · subst h; rfl
    · exact ih _ h

theorem inv_foldl_add (l : List Rat) {d : Dataset} (h : Inv d)
    (hlen : d.values.length + l.length ≤ 2 ^ 53) : Inv (l.foldl add d) := by
  induction l generalizing d with
  | nil => exact h
  | cons x l ih =>
    rw [List.foldl_cons]
    simp only [List.length_cons] at hlen
    apply ih (inv_add h x (by omega))
    simp only [add, List.length_append, List.length_cons, List.length_nil]; omega

theorem ofList_values (xs : List Rat) : (ofList xs).values = xs := by
  unfold ofList; rw [values_foldl_add]; rfl

theorem ofList_count (xs : List Rat) : (ofList xs).count = addN (.fin 0) xs.length := by
  unfold ofList; rw [count_foldl_add]; rfl

theorem ofList_sorted (xs : List Rat) : (ofList xs).sorted = false := by
  by_cases h : xs = []
  · subst h; rfl
  · exact sorted_foldl_add xs _ h

theorem inv_ofList (xs : List Rat) (h : xs.length ≤ 2 ^ 53) : Inv (ofList xs) :=
  inv_foldl_add xs inv_new (by simpa [new] using h)

theorem merge_values (d o : Dataset) : (d.merge o).values = d.values ++ o.values :=
  values_foldl_add _ _

theorem inv_merge {d : Dataset} (h : Inv d) (o : Dataset)
    (hlen : d.values.length + o.values.length ≤ 2 ^ 53) : Inv (d.merge o) :=
  inv_foldl_add _ h hlen

/-! ## the guard -/

theorem rejects_fin (d : Dataset) (n : Nat) (hc : d.count = .fin (n : Rat)) (q : Rat) :
    d.rejects (.fin q) = false ↔ 0 ≤ q ∧ q ≤ 1 ∧ 0 < n := by
  show (decide (q < 0) || decide (1 < q) || F64.eq d.count (.fin 0)) = false ↔ _
  rw [hc]
  show (decide (q < 0) || decide (1 < q) || (n : Rat) == 0) = false ↔ _
  rw [Bool.or_eq_false_iff, Bool.or_eq_false_iff, decide_eq_false_iff_not,
    decide_eq_false_iff_not, not_lt, not_lt, beq_eq_false_iff_ne, Nat.cast_ne_zero,
    Nat.pos_iff_ne_zero, and_assoc]

theorem rejects_nonfin (d : Dataset) (q : F64) (hq : ∀ r, q ≠ .fin r) : d.rejects q = true := by
  cases q with
  | fin r => exact absurd rfl (hq r)
  | _ => rfl

/-! ## the two quantile queries as one -/

/-- `LowerQuantile` and `UpperQuantile` differ only in how the float rank becomes an index:
    `idx` is `Rat.floor` for the one and `Rat.ceil` for the other -/
def quantileBy (idx : Rat → Int) (d : Dataset) (q : F64) : Dataset × QRes :=
  if d.rejects q then (d, .nan)
  else
    let d := d.sort
    match d.rank q with
    | .fin r => (d, match at? d.values (idx r) with | some v => .val v | none => .panic)
    | _ => (d, .panic)

theorem lowerQuantile_by (d : Dataset) (q : F64) : d.lowerQuantile q = quantileBy Rat.floor d q :=
  rfl

theorem upperQuantile_by (d : Dataset) (q : F64) : d.upperQuantile q = quantileBy Rat.ceil d q :=
  rfl

section quantileBy
variable (idx : Rat → Int) (d : Dataset) (q : F64)

theorem quantileBy_rejected (h : d.rejects q = true) : quantileBy idx d q = (d, .nan) :=
  if_pos h

theorem quantileBy_of_rank (r : Rat) (hrej : d.rejects q = false) (hr : d.rank q = .fin r) :
    quantileBy idx d q =
      (d.sort, match at? d.sort.values (idx r) with | some v => .val v | none => .panic) := by
  unfold quantileBy
  rw [if_neg (by rw [hrej]; exact Bool.false_ne_true)]
  simp only [rank_sort, hr]

theorem quantileBy_fst (h : d.rejects q = false) : (quantileBy idx d q).1 = d.sort := by
  unfold quantileBy
  rw [if_neg (by rw [h]; exact Bool.false_ne_true)]
  dsimp only
  split <;> rfl

theorem quantileBy_fst_cases : (quantileBy idx d q).1 = d ∨ (quantileBy idx d q).1 = d.sort := by
  cases hrej : d.rejects q with
  | true => left; rw [quantileBy_rejected idx d q hrej]
  | false => right; exact quantileBy_fst idx d q hrej

theorem quantileBy_sort (h : d.rejects q = false) :
    quantileBy idx d q = quantileBy idx d.sort q := by
  have h' : ¬ d.rejects q = true := by rw [h]; exact Bool.false_ne_true
  unfold quantileBy
  rw [if_neg h', if_neg (by rwa [rejects_sort]), sort_of_sorted (sort_sorted d)]

end quantileBy

theorem at?_of_lt (l : List Rat) (i : Int) (h0 : 0 ≤ i) (h1 : i.toNat < l.length) :
    at? l i = some (l[i.toNat]!) := by
  unfold at?
  rw [if_pos h0, List.getElem?_eq_getElem h1, getElem!_pos l _ h1]

theorem quantileBy_val (idx : Rat → Int) (d : Dataset)
    (h : d.sorted = true → d.values.Pairwise (· ≤ ·)) (q : F64) (r : Rat)
    (hrej : d.rejects q = false) (hr : d.rank q = .fin r) (h0 : 0 ≤ idx r)
    (h1 : (idx r).toNat < d.values.length) :
    quantileBy idx d q = (d.sort, .val ((sortedVals d.values)[(idx r).toNat]!)) := by
  rw [quantileBy_of_rank idx d q r hrej hr, sort_values_of_honest h,
    at?_of_lt _ _ h0 (by rwa [sortedVals_length])]

/-! ## the float rank -/

theorem rank_eq_mul (d : Dataset) (n : Nat) (hc : d.count = .fin (n : Rat)) (hlen : n ≤ 2 ^ 53)
    (q : F64) : d.rank q = F64.mul q (.fin ((n : Rat) - 1)) := by
  unfold rank; rw [hc, F64.sub_one_nat n hlen]

/-- `q * (Count - 1)` in float arithmetic lies between the neighbouring integers of the exact
    product -/
theorem rank_spec (d : Dataset) (n : Nat) (hc : d.count = .fin (n : Rat)) (hn : 0 < n)
    (hlen : n ≤ 2 ^ 53) (q : Rat) (hq0 : 0 ≤ q) (hq1 : q ≤ 1) :
    ∃ r : Rat, d.rank (.fin q) = .fin r ∧
      ((⌊q * ((n : Rat) - 1)⌋ : Int) : Rat) ≤ r ∧ r ≤ ((⌈q * ((n : Rat) - 1)⌉ : Int) : Rat) := by
  rw [rank_eq_mul d n hc hlen]
  obtain ⟨r, hr, -, h⟩ := F64.mul_pred_between q n hq0 hq1 hn hlen
  exact ⟨r, hr, h⟩

theorem eq_or_eq_of_between {x y z : Int} (h1 : x ≤ y) (h2 : y ≤ z) (h3 : z ≤ x + 1) :
    y = x ∨ y = z := by omega

/-- floor and ceiling of a number squeezed between `⌊t⌋` and `⌈t⌉`, `0 ≤ t ≤ n - 1` -/
theorem squeeze_floor_ceil (t r : Rat) (n : Nat) (ht0 : 0 ≤ t) (htn : t ≤ (n : Rat) - 1)
    (h1 : ((⌊t⌋ : Int) : Rat) ≤ r) (h2 : r ≤ ((⌈t⌉ : Int) : Rat)) :
    0 ≤ ⌊r⌋ ∧ ⌊r⌋ ≤ ⌈r⌉ ∧ ⌈r⌉.toNat < n ∧ (⌊r⌋ = ⌊t⌋ ∨ ⌊r⌋ = ⌈t⌉) ∧ (⌈r⌉ = ⌊t⌋ ∨ ⌈r⌉ = ⌈t⌉) := by
  have a1 : ⌊t⌋ ≤ ⌊r⌋ := Int.le_floor.mpr h1
  have a2 : ⌊r⌋ ≤ ⌈t⌉ := Int.cast_le.mp ((Int.floor_le r).trans h2)
  have a3 : ⌈t⌉ ≤ ⌊t⌋ + 1 := Int.ceil_le_floor_add_one t
  have a4 : ⌊t⌋ ≤ ⌈r⌉ := Int.cast_le.mp (h1.trans (Int.le_ceil r))
  have a5 : ⌈r⌉ ≤ ⌈t⌉ := Int.ceil_le.mpr h2
  have a7 : ⌈t⌉ + 1 ≤ (n : Int) := Int.ceil_add_one t ▸
    Int.ceil_le.mpr ((le_sub_iff_add_le.mp htn).trans_eq (Int.cast_natCast n).symm)
  have a6 : 0 ≤ ⌊t⌋ := Int.floor_nonneg.mpr ht0
  exact ⟨a6.trans a1, Int.floor_le_ceil r, by omega,
    eq_or_eq_of_between a1 a2 a3, eq_or_eq_of_between a4 a5 a3⟩

/-- both quantile queries, with the float rank `r` made explicit: `r` lies between the neighbouring
    integers of the exact product `t = q·(n−1)`, so its floor and ceiling are inside the slice and
    each is the floor or the ceiling of `t` -/
theorem quantile_core (d : Dataset) (h : Inv d) (hn : 0 < d.values.length)
    (hlen : d.values.length ≤ 2 ^ 53) (q : Rat) (hq0 : 0 ≤ q) (hq1 : q ≤ 1)
    (t : Rat) (ht : t = q * ((d.values.length : Rat) - 1)) :
    ∃ r : Rat, d.rank (.fin q) = .fin r ∧ ((⌊t⌋ : Int) : Rat) ≤ r ∧ r ≤ ((⌈t⌉ : Int) : Rat) ∧
      0 ≤ ⌊r⌋ ∧ ⌊r⌋ ≤ ⌈r⌉ ∧ ⌈r⌉.toNat < d.values.length ∧
      (⌊r⌋ = ⌊t⌋ ∨ ⌊r⌋ = ⌈t⌉) ∧ (⌈r⌉ = ⌊t⌋ ∨ ⌈r⌉ = ⌈t⌉) ∧
      d.lowerQuantile (.fin q) = (d.sort, .val ((sortedVals d.values)[⌊r⌋.toNat]!)) ∧
      d.upperQuantile (.fin q) = (d.sort, .val ((sortedVals d.values)[⌈r⌉.toNat]!)) := by
  subst ht
  obtain ⟨r, hr, h1, h2⟩ := rank_spec d _ h.1 hn hlen q hq0 hq1
  have hnr : (0 : Rat) ≤ (d.values.length : Rat) - 1 := sub_nonneg.2 (Nat.one_le_cast.2 hn)
  obtain ⟨b1, b2, b3, b4, b5⟩ := squeeze_floor_ceil _ r _ (mul_nonneg hq0 hnr)
    (mul_le_of_le_one_left hnr hq1) h1 h2
  have hrej : d.rejects (.fin q) = false := (rejects_fin d _ h.1 q).mpr ⟨hq0, hq1, hn⟩
  refine ⟨r, hr, h1, h2, b1, b2, b3, b4, b5,
    quantileBy_val Rat.floor d h.2 _ r hrej hr b1 ((Int.toNat_le_toNat b2).trans_lt b3), ?_⟩
  rw [← F64.rat_ceil_eq] at b2 b3 ⊢
  exact quantileBy_val Rat.ceil d h.2 _ r hrej hr (b1.trans b2) b3

/-! ## minimum and maximum -/

theorem min_eq (d : Dataset) :
    d.min = (d.sort, match d.sort.values.head? with | some v => .val v | none => .panic) := rfl

theorem max_eq (d : Dataset) :
    d.max = (d.sort, match d.sort.values.getLast? with | some v => .val v | none => .panic) := rfl

theorem min_core (d : Dataset) (h : d.sorted = true → d.values.Pairwise (· ≤ ·))
    (hn : 0 < d.values.length) :
    ∃ m, d.min = (d.sort, .val m) ∧ m ∈ d.values ∧ ∀ x ∈ d.values, m ≤ x := by
  have hp := sortedVals_perm d.values
  have hl : 0 < (sortedVals d.values).length := by rwa [sortedVals_length]
  refine ⟨(sortedVals d.values)[0], ?_, hp.mem_iff.mp (List.getElem_mem hl), fun x hx =>
    pairwise_first le_refl (sortedVals_pairwise _) hl x (hp.mem_iff.mpr hx)⟩
  rw [min_eq, sort_values_of_honest h, List.head?_eq_getElem?, List.getElem?_eq_getElem hl]

theorem max_core (d : Dataset) (h : d.sorted = true → d.values.Pairwise (· ≤ ·))
    (hn : 0 < d.values.length) :
    ∃ m, d.max = (d.sort, .val m) ∧ m ∈ d.values ∧ ∀ x ∈ d.values, x ≤ m := by
  have hp := sortedVals_perm d.values
  have hl : 0 < (sortedVals d.values).length := by rwa [sortedVals_length]
  refine ⟨(sortedVals d.values)[(sortedVals d.values).length - 1], ?_,
    hp.mem_iff.mp (List.getElem_mem _), fun x hx =>
    pairwise_last le_refl (sortedVals_pairwise _) hl x (hp.mem_iff.mpr hx)⟩
  rw [max_eq, sort_values_of_honest h, List.getLast?_eq_getElem?,
    List.getElem?_eq_getElem (Nat.sub_lt hl Nat.one_pos)]

theorem min_empty (d : Dataset) (h : d.values = []) : d.min.2 = .panic := by
  rw [min_eq]
  have : d.sort.values = [] := List.Perm.eq_nil (h ▸ sort_values_perm d)
  rw [this]; rfl

theorem max_empty (d : Dataset) (h : d.values = []) : d.max.2 = .panic := by
  rw [max_eq]
  have : d.sort.values = [] := List.Perm.eq_nil (h ▸ sort_values_perm d)
  rw [this]; rfl

/-! ## observational equality -/

theorem ObsEq.refl' {d : Dataset} (h : d.sorted = true → d.values.Pairwise (· ≤ ·)) : ObsEq d d :=
  ⟨List.Perm.refl _, rfl, h, h⟩

theorem ObsEq.symm {a b : Dataset} (h : ObsEq a b) : ObsEq b a :=
  ⟨h.1.symm, h.2.1.symm, h.2.2.2, h.2.2.1⟩

theorem ObsEq.trans {a b c : Dataset} (h1 : ObsEq a b) (h2 : ObsEq b c) : ObsEq a c :=
  ⟨h1.1.trans h2.1, h1.2.1.trans h2.2.1, h1.2.2.1, h2.2.2.2⟩

theorem ObsEq.sort_eq {a b : Dataset} (h : ObsEq a b) : a.sort = b.sort := by
  rw [sort_eq_of_honest h.2.2.1, sort_eq_of_honest h.2.2.2, sortedVals_congr h.1, h.2.1]

theorem obsEq_sort_self (d : Dataset) (h : d.sorted = true → d.values.Pairwise (· ≤ ·)) :
    ObsEq d.sort d.sort :=
  ObsEq.refl' (fun _ => sort_values_pairwise d h)

theorem ObsEq.sort_left {d : Dataset} (h : d.sorted = true → d.values.Pairwise (· ≤ ·)) :
    ObsEq d.sort d :=
  ⟨sort_values_perm d, sort_count d, fun _ => sort_values_pairwise d h, h⟩

theorem ObsEq.rejects_eq {a b : Dataset} (h : ObsEq a b) (q : F64) : a.rejects q = b.rejects q := by
  unfold rejects; rw [h.2.1]

theorem ObsEq.quantileBy {a b : Dataset} (h : ObsEq a b) (idx : Rat → Int) (q : F64) :
    (quantileBy idx a q).2 = (quantileBy idx b q).2 ∧
      ObsEq (quantileBy idx a q).1 (quantileBy idx b q).1 := by
  have hr := h.rejects_eq q
  cases hrej : a.rejects q with
  | true =>
    rw [quantileBy_rejected idx a q hrej, quantileBy_rejected idx b q (hr ▸ hrej)]
    exact ⟨rfl, h⟩
  | false =>
    -- both queries are the same query on the same sorted dataset
    have : Dataset.quantileBy idx a q = Dataset.quantileBy idx b q := by
      rw [quantileBy_sort idx a q hrej, quantileBy_sort idx b q (hr ▸ hrej), h.sort_eq]
    rw [← this, quantileBy_fst idx a q hrej]
    exact ⟨rfl, obsEq_sort_self a h.2.2.1⟩

theorem ObsEq.lower {a b : Dataset} (h : ObsEq a b) (q : F64) :
    (a.lowerQuantile q).2 = (b.lowerQuantile q).2 ∧
      ObsEq (a.lowerQuantile q).1 (b.lowerQuantile q).1 :=
  h.quantileBy Rat.floor q

theorem ObsEq.upper {a b : Dataset} (h : ObsEq a b) (q : F64) :
    (a.upperQuantile q).2 = (b.upperQuantile q).2 ∧
      ObsEq (a.upperQuantile q).1 (b.upperQuantile q).1 :=
  h.quantileBy Rat.ceil q

theorem ObsEq.min {a b : Dataset} (h : ObsEq a b) :
    a.min.2 = b.min.2 ∧ ObsEq a.min.1 b.min.1 := by
  rw [min_eq, min_eq, ← h.sort_eq]
  exact ⟨rfl, obsEq_sort_self a h.2.2.1⟩

theorem ObsEq.max {a b : Dataset} (h : ObsEq a b) :
    a.max.2 = b.max.2 ∧ ObsEq a.max.1 b.max.1 := by
  rw [max_eq, max_eq, ← h.sort_eq]
  exact ⟨rfl, obsEq_sort_self a h.2.2.1⟩

theorem ObsEq.add {a b : Dataset} (h : ObsEq a b) (v : Rat) : ObsEq (a.add v) (b.add v) := by
  refine ⟨?_, ?_, ?_, ?_⟩
  · show (a.values ++ [v]).Perm (b.values ++ [v])
    exact h.1.append_right _
  · show F64.add a.count F64.one = F64.add b.count F64.one
    rw [h.2.1]
  · intro hs; cases hs
  · intro hs; cases hs

theorem ObsEq.foldl_add {a b : Dataset} (h : ObsEq a b) (l : List Rat) :
    ObsEq (l.foldl Dataset.add a) (l.foldl Dataset.add b) := by
  induction l generalizing a b with
  | nil => exact h
  | cons x l ih => exact ih (h.add x)

theorem ObsEq.merge {a b : Dataset} (h : ObsEq a b) (o : Dataset) :
    ObsEq (a.merge o) (b.merge o) := h.foldl_add _

theorem ObsEq.step {a b : Dataset} (h : ObsEq a b) (op : Op) :
    (Dataset.step a op).2 = (Dataset.step b op).2 ∧ ObsEq (Dataset.step a op).1 (Dataset.step b op).1 := by
  cases op with
  | add v => exact ⟨rfl, h.add v⟩
  | lower q => exact ⟨congrArg some (h.lower q).1, (h.lower q).2⟩
  | upper q => exact ⟨congrArg some (h.upper q).1, (h.upper q).2⟩
  | min => exact ⟨congrArg some h.min.1, h.min.2⟩
  | max => exact ⟨congrArg some h.max.1, h.max.2⟩
  | merge o => exact ⟨rfl, h.merge o⟩

theorem ObsEq.run {a b : Dataset} (h : ObsEq a b) (ops : List Op) :
    (Dataset.run a ops).2 = (Dataset.run b ops).2 ∧ ObsEq (Dataset.run a ops).1 (Dataset.run b ops).1 := by
  induction ops generalizing a b with
  | nil => exact ⟨rfl, h⟩
  | cons op ops ih =>
    obtain ⟨h1, h2⟩ := h.step op
    obtain ⟨h3, h4⟩ := ih h2
    refine ⟨?_, h4⟩
    show (Dataset.step a op).2 :: _ = (Dataset.step b op).2 :: _
    rw [h1, h3]

theorem obsEq_ofList {xs ys : List Rat} (h : xs.Perm ys) : ObsEq (ofList xs) (ofList ys) := by
  refine ⟨?_, ?_, ?_, ?_⟩
  · rw [ofList_values, ofList_values]; exact h
  · rw [ofList_count, ofList_count, h.length_eq]
  · rw [ofList_sorted]; intro hs; cases hs
  · rw [ofList_sorted]; intro hs; cases hs

/-! ## what a query leaves behind -/

theorem inv_quantileBy (idx : Rat → Int) {d : Dataset} (h : Inv d) (q : F64) :
    Inv (quantileBy idx d q).1 := by
  rcases quantileBy_fst_cases idx d q with e | e <;> rw [e]
  exacts [h, inv_sort h]

theorem obsEq_quantileBy (idx : Rat → Int) {d : Dataset}
    (h : d.sorted = true → d.values.Pairwise (· ≤ ·)) (q : F64) :
    ObsEq (quantileBy idx d q).1 d := by
  rcases quantileBy_fst_cases idx d q with e | e <;> rw [e]
  exacts [ObsEq.refl' h, ObsEq.sort_left h]

/-- an addition after a query leaves what it leaves without the query: `Add` resets the flag -/
theorem obsEq_add_of_query {d d' : Dataset} (v : Rat) (hd' : d' = d ∨ d' = d.sort) :
    ObsEq (d'.add v) (d.add v) := by
  refine ⟨?_, ?_, nofun, nofun⟩
  · show (d'.values ++ [v]).Perm (d.values ++ [v])
    apply List.Perm.append_right
    rcases hd' with e | e <;> rw [e]
    exact sort_values_perm d
  · show F64.add d'.count F64.one = F64.add d.count F64.one
    rcases hd' with e | e <;> rw [e]
    rw [sort_count]

/-! ## evaluating on concrete data (the kernel does not unfold `mergeSort`) -/

theorem sortedVals_eq_of {l s : List Rat} (hs : s.Pairwise (· ≤ ·)) (hp : s.Perm l) :
    sortedVals l = s :=
  pairwise_perm_eq (sortedVals_pairwise l) hs ((sortedVals_perm l).trans hp.symm)

theorem quantileBy_eval (idx : Rat → Int) (d : Dataset)
    (h : d.sorted = true → d.values.Pairwise (· ≤ ·)) (s : List Rat) (hs : sortedVals d.values = s)
    (q : F64) (r v : Rat) (hrej : d.rejects q = false) (hr : d.rank q = .fin r)
    (hv : at? s (idx r) = some v) : (quantileBy idx d q).2 = .val v := by
  rw [quantileBy_of_rank idx d q r hrej hr, sort_values_of_honest h, hs, hv]

theorem upperQuantile_eval (d : Dataset) (h : d.sorted = true → d.values.Pairwise (· ≤ ·))
    (s : List Rat) (hs : s.Pairwise (· ≤ ·)) (hp : s.Perm d.values) (q : F64) (r v : Rat)
    (hrej : d.rejects q = false) (hr : d.rank q = .fin r) (hv : at? s r.ceil = some v) :
    (d.upperQuantile q).2 = .val v :=
  quantileBy_eval Rat.ceil d h s (sortedVals_eq_of hs hp) q r v hrej hr hv

end Dataset
end DDS
