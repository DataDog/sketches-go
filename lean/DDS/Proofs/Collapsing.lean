/-
  DDS.Proofs.Collapsing — refinement proofs for the lowest-collapsing dense store
  (`kind = .low N` : `CollapsingLowestDenseStore`); `kind = .high N` is the mirror image, in
  `DDS.Proofs.CollapsingHigh`, section for section and lemma for lemma; what the two share
  (`sumRange`, `Coll N`, `Relaid`) is in `DDS.Proofs.CollapsingBase`.  What holds of a dense store of any kind (`Core`,
  `Tight32`, `cum`, `content`, the merge and reweighting loops) is in `DDS.Proofs.Dense`.

  `InvLow N s` is `s.kind = .low N ∧ Coll N s` (`invLow_iff`), `InvHigh N s` the same with
  `.high N`: what does not look at the direction (`clear`, `reweight`) is proved of `Coll N`.

  The lowest-collapsing store keeps at most `N` bins `[e, mx]`, `e = mx - N + 1`: whatever lies
  below `e` is added to the bin `e`.  What that does to the weights is said through the content:
  the store holds `content s` moved along `Content.lowMap e` (`Content.foldLow`).  The pointwise
  form `foldW f c e` (`c` the mass moved to `e`, recognised through `eq_foldW`) serves the
  transcription of `collapseLow` only and is tied to `foldLow` by `Content.lookup_foldLow`.
  `extendRange`/`normalize` turn a store `s` into `t` with `ExtLow N s t mn mx` (same content,
  folded, in the window for `[mn, mx]`).  From there on nothing looks at the direction: `ExtLow`
  is `Relaid N s t φ mn mx` for `φ = lowMap e` (`ExtLow.relaid`), that is `Relaid0` of
  `DDS.Proofs.Dense` with the two facts about the bin limit; `Relaid0.add` and `Relaid0.merge` add
  weights at the array positions of `φ k` and end in `Holds s' φ m mn mx` (`s'` holds the exact
  content `m` moved along `φ`), from which tightness and the content equation follow for any
  monotone `φ` (`Holds.spec`); `Relaid.coll_of_core` carries the bin limit over.

  `hG : GrowthOK` (the float computation of `getNewLength` covers spans below `2^33`) is proved
  in `DDS.Proofs.Growth`; since it only covers bounded spans, every theorem about an operation
  that may grow the array carries a span hypothesis `SpanOK` or the int32 hypotheses
  (`Tight32` + int32 index) from which it follows (`Core.spanOK`).
-/
import DDS.Proofs.CollapsingBase

namespace DDS
namespace DStore

/-! ## folding a weight function at an index -/

/-- the weight function after folding everything below `e` into `e`; `c` is the folded mass
    `Σ_{k ≤ e} f k` -/
def foldW (f : Int → Rat) (c : Rat) (e : Int) (j : Int) : Rat :=
  if j < e then 0 else if j = e then c else f j

theorem foldW_lt {f : Int → Rat} {c : Rat} {e j : Int} (h : j < e) : foldW f c e j = 0 := if_pos h

theorem foldW_self (f : Int → Rat) (c : Rat) (e : Int) : foldW f c e e = c := by
  unfold foldW
  rw [if_neg (Int.lt_irrefl e), if_pos rfl]

theorem foldW_gt {f : Int → Rat} {c : Rat} {e j : Int} (h : e < j) : foldW f c e j = f j := by
  unfold foldW
  rw [if_neg (by omega), if_neg (by omega)]

theorem eq_foldW {g f : Int → Rat} {c : Rat} {e : Int} (h1 : ∀ j, j < e → g j = 0) (h2 : g e = c)
    (h3 : ∀ j, e < j → g j = f j) (j : Int) : g j = foldW f c e j := by
  rcases Int.lt_trichotomy j e with h | h | h
  · rw [foldW_lt h, h1 j h]
  · rw [h, foldW_self, h2]
  · rw [foldW_gt h, h3 j h]

theorem foldW_congr {f g : Int → Rat} (h : ∀ j, f j = g j) (c : Rat) (e j : Int) :
    foldW f c e j = foldW g c e j := by
  rw [show f = g from funext h]

theorem foldW_out {f : Int → Rat} {c : Rat} {e mn mx : Int}
    (hf : ∀ j, (j < mn ∨ mx < j) → f j = 0) (hc : e < mn → c = 0) (he : e ≤ mx) (j : Int)
    (hj : j < max mn e ∨ mx < j) : foldW f c e j = 0 := by
  rcases Int.lt_trichotomy j e with h | h | h
  · exact foldW_lt h
  · rw [h, foldW_self]; exact hc (by omega)
  · rw [foldW_gt h]; exact hf j (by omega)

theorem foldW_cum_of_le (s : DStore) (m : Int) (hz : ∀ j, j < m → wt s j = 0) (e : Int) (he : e ≤ m)
    (j : Int) : foldW (wt s) (cum s e) e j = wt s j :=
  (eq_foldW (fun j hj => hz j (by omega)) (cum_eq_wt_of_le s m hz e he).symm (fun _ _ => rfl) j).symm

theorem foldW_cum_out (s : DStore) {mn mx : Int} (hz : ∀ j, (j < mn ∨ mx < j) → wt s j = 0)
    {e : Int} (he : e ≤ mx) (j : Int) (hj : j < max mn e ∨ mx < j) :
    foldW (wt s) (cum s e) e j = 0 :=
  foldW_out hz (cum_zero_of_lt s mn (fun k hk => hz k (Or.inl hk)) e) he j hj

/-! ## `collapseLow` -/

theorem collapseLow_spec (t : DStore) (nm : Int) (hz : ZeroOut t)
    (hmm : t.minIndex ≤ t.maxIndex) (hlo : t.offset ≤ t.minIndex)
    (hhi : t.maxIndex < t.offset + t.len) (hcnt : t.count = t.bins.toList.sum)
    (hfit : t.maxIndex - t.len + 1 ≤ nm) :
    ∃ nb, t.collapseLow nm = some { t with bins := nb, offset := nm, minIndex := nm } ∧
      nb.size = t.bins.size ∧ ∀ j, at0 nb (j - nm) = foldW (wt t) (cum t nm) nm j := by
  have hlen : t.len = (t.bins.size : Int) := rfl
  have hzlo : ∀ j, j < t.minIndex → wt t j = 0 := fun j hj => hz j (Or.inl hj)
  have hzhi : ∀ j, t.maxIndex < j → wt t j = 0 := fun j hj => hz j (Or.inr hj)
  unfold collapseLow
  by_cases h1 : nm ≥ t.maxIndex
  · -- everything in one bucket
    obtain ⟨b, hb, hsz, hat⟩ := setAt_eq (Array.replicate t.bins.size 0) 0 t.count
      (by simp only [Array.size_replicate]; omega)
    refine ⟨b, ?_, by rw [hsz]; simp, ?_⟩
    · simp only [if_pos h1, Option.bind_eq_bind, hb, Option.bind_some, Option.pure_def]
    · refine eq_foldW (fun j hj => ?_) ?_ (fun j hj => ?_)
      · rw [hat, if_neg (by omega), at0_replicate_zero]
      · rw [hat, if_pos (by omega), hcnt, cum_eq_total t t.maxIndex hzhi nm h1]
      · rw [hat, if_neg (by omega), at0_replicate_zero, hzhi j (by omega)]
  · rw [if_neg h1]
    have hoff : t.offset - (t.offset - nm) = nm := by omega
    by_cases h2 : t.offset - nm < 0
    · -- the mass below `nm` is summed, zeroed and added at `nm`; then the window moves down
      have hr : nm - 1 < t.minIndex ∨ (t.offset ≤ t.minIndex ∧ nm - 1 < t.offset + t.len) :=
        Or.inr ⟨hlo, by omega⟩
      rw [if_pos h2, sumRange_spec t t.minIndex (nm - 1) hr, ← cum_eq_from t t.minIndex hzlo]
      obtain ⟨nb1, hr1, hsz1, hw1⟩ := resetBins_spec t t.minIndex (nm - 1) hr
      obtain ⟨b, hb, hszb, hatb⟩ := addAt_eq nb1 (nm - t.offset) (cum t (nm - 1)) (by rw [hsz1]; omega)
      simp only [hr1, Option.bind_eq_bind, Option.bind_some, hb]
      have hwt2 : ∀ j, wt ({ t with bins := b, minIndex := nm } : DStore) j
          = foldW (wt t) (cum t nm) nm j := by
        refine eq_foldW (fun j hj => ?_) ?_ (fun j hj => ?_)
        · show at0 b (j - t.offset) = 0
          rw [hatb, hw1, if_neg (show ¬ j - t.offset = nm - t.offset by omega), Rat.add_zero]
          split
          · rfl
          · exact hzlo j (by omega)
        · show at0 b (nm - t.offset) = _
          rw [hatb, hw1, if_neg (show ¬ (t.minIndex ≤ nm ∧ nm ≤ nm - 1) by omega), if_pos rfl,
            cum_step' t nm, Rat.add_comm]
        · show at0 b (j - t.offset) = _
          rw [hatb, hw1, if_neg (show ¬ (t.minIndex ≤ j ∧ j ≤ nm - 1) by omega),
            if_neg (show ¬ j - t.offset = nm - t.offset by omega), Rat.add_zero]
      have hz2 : ZeroOut ({ t with bins := b, minIndex := nm } : DStore) := by
        intro j hj
        have hj' : j < nm ∨ t.maxIndex < j := hj
        rw [hwt2]
        exact foldW_cum_out t hz (show nm ≤ t.maxIndex by omega) j (by omega)
      obtain ⟨nb, hsc, hsznb, hwnb⟩ := shiftCounts_spec
        ({ t with bins := b, minIndex := nm } : DStore) (t.offset - nm) hz2
        (show nm ≤ t.maxIndex by omega) (show t.offset ≤ nm by omega)
        (show t.maxIndex < t.offset + (b.size : Int) by rw [hszb, hsz1]; omega)
        (show 0 ≤ nm - t.offset + (t.offset - nm) by omega)
        (show t.maxIndex - t.offset + (t.offset - nm) < (b.size : Int) by rw [hszb, hsz1]; omega)
      refine ⟨nb, ?_, by rw [hsznb]; show b.size = _; rw [hszb, hsz1], fun j => ?_⟩
      · rw [hsc]
        simp only [hoff]
      · have := hwnb j
        simp only [hoff] at this
        rw [this, hwt2]
    · obtain ⟨nb, hsc, hsznb, hwnb⟩ := shiftCounts_spec t (t.offset - nm) hz hmm hlo hhi
        (by omega) (by omega)
      refine ⟨nb, ?_, hsznb, fun j => ?_⟩
      · rw [if_neg h2, hsc]
        simp only [Option.bind_eq_bind, Option.bind_some, Option.pure_def, hoff]
      · have := hwnb j
        simp only [hoff] at this
        rw [this, foldW_cum_of_le t t.minIndex hzlo nm (by omega)]

end DStore

/-! ## `Content.foldLow`, pointwise -/

namespace Content

theorem lookup_foldLow (m : Content) (e j : Int) :
    (foldLow m e).lookup j = DStore.foldW m.lookup (m.cumul e) e j := by
  unfold foldLow DStore.foldW
  rw [lookup_eq_wsum, wsum_relabel]
  by_cases h1 : j < e
  · rw [if_pos h1, ← wsum_false m]
    apply wsum_congr
    intro i
    simp only [decide_eq_false_iff_not]
    split <;> omega
  · rw [if_neg h1]
    by_cases h2 : j = e
    · rw [if_pos h2, cumul_eq_wsum]
      apply wsum_congr
      intro i
      simp only [decide_eq_decide]
      split <;> omega
    · rw [if_neg h2, lookup_eq_wsum]
      apply wsum_congr
      intro i
      simp only [decide_eq_decide]
      split <;> omega

end Content

namespace DStore

/-! ## the invariant of the lowest-collapsing store -/

/-- Invariant of `CollapsingLowestDenseStore` with limit `N`.  No assumption on the range of
    the indexes (tightness of `minIndex`/`maxIndex` is kept separately, see `Tight32`). -/
structure InvLow (N : Nat) (s : DStore) : Prop where
  kind    : s.kind = .low N
  hN      : 1 ≤ N
  nonneg  : ∀ j, 0 ≤ at0 s.bins j
  countEq : s.count = s.bins.toList.sum
  empty   : s.count = 0 → s.bins.size = 0 ∧ s.minIndex = maxInt32 ∧ s.maxIndex = minInt32 ∧
              s.isCollapsed = false
  window  : s.count ≠ 0 → s.offset ≤ s.minIndex ∧ s.minIndex ≤ s.maxIndex ∧
              s.maxIndex < s.offset + s.len
  outside : ∀ i, (i < s.minIndex ∨ s.maxIndex < i) → wt s i = 0
  lenLe   : s.bins.size ≤ N
  collapsed : s.isCollapsed = true →
              s.offset = s.minIndex ∧ s.bins.size = N ∧ s.maxIndex - s.minIndex + 1 = N

theorem InvLow.core {N : Nat} {s : DStore} (h : InvLow N s) : Core s :=
  ⟨h.nonneg, h.countEq, fun h0 => let ⟨a, b, c, _⟩ := h.empty h0; ⟨a, b, c⟩, h.window, h.outside⟩

theorem invLow_iff {N : Nat} {s : DStore} : InvLow N s ↔ s.kind = .low N ∧ Coll N s :=
  ⟨fun h => ⟨h.kind, h.core, h.hN, fun h0 => (h.empty h0).2.2.2, h.lenLe, h.collapsed⟩,
    fun ⟨k, c⟩ => ⟨k, c.hN, c.nonneg, c.countEq,
      fun h0 => let ⟨a, b, d⟩ := c.empty h0; ⟨a, b, d, c.fresh h0⟩,
      c.window, c.outside, c.lenLe, c.collapsed⟩⟩

theorem InvLow.coll {N : Nat} {s : DStore} (h : InvLow N s) : Coll N s := (invLow_iff.1 h).2

theorem invLow_new (N : Nat) (hN : 1 ≤ N) : InvLow N (DStore.new (.low N)) :=
  invLow_iff.2 ⟨rfl, coll_of_no_bins hN rfl rfl rfl rfl rfl⟩

theorem Core.lookup_foldLow_self {s : DStore} (h : Core s) (e : Int)
    (he : s.count ≠ 0 → e ≤ s.minIndex) (j : Int) :
    wt s j = (Content.foldLow (content s) e).lookup j := by
  rw [Content.foldLow_eq_relabel, Content.relabel_eq_self _ _ h.content_wf fun p hp => by
    have hk := h.key_in_window hp
    have := he (h.count_ne_zero (by omega))
    rw [Content.lowMap_eq_max]; omega]
  exact (h.lookup_content j).symm

/-! ## `adjust` and `extendRange` of the lowest-collapsing store -/

/-- what `extendRange` (or doing nothing) establishes: the window `[max mn e, mx]` with
    `e = mx - N + 1`, the content folded at `e` -/
structure ExtLow (N : Nat) (s t : DStore) (mn mx : Int) : Prop where
  kind  : t.kind = .low N
  count : t.count = s.count
  maxI  : t.maxIndex = mx
  minI  : t.minIndex = max mn (mx - N + 1)
  off   : t.offset ≤ t.minIndex
  hi    : t.maxIndex < t.offset + t.len
  lenLe : t.bins.size ≤ N
  coll  : t.isCollapsed = true →
            t.offset = t.minIndex ∧ t.bins.size = N ∧ t.maxIndex - t.minIndex + 1 = N
  collOf : mn < mx - N + 1 → t.isCollapsed = true
  wtEq  : ∀ j, wt t j = (Content.foldLow (content s) (mx - N + 1)).lookup j

theorem ExtLow.self {N : Nat} {s : DStore} (h : InvLow N s) (h0 : s.count ≠ 0) :
    ExtLow N s s s.minIndex s.maxIndex := by
  obtain ⟨w1, w2, w3⟩ := h.window h0
  have hsp := h.core.span_le h.lenLe h0
  exact
    { kind := h.kind, count := rfl, maxI := rfl, minI := by omega, off := w1, hi := w3
      lenLe := h.lenLe, coll := h.collapsed, collOf := fun hc => by omega
      wtEq := h.core.lookup_foldLow_self _ (fun _ => by omega) }

/-- `adjust t nMin nMax` on a state `t` holding the weights of `s` in a window inside `[nMin, nMax]`
    (`t` is `s`, or `s` with a longer array, or the freshly allocated array of an empty `s`).
    The result is an extension of `s` to `[mn, nMax]` for any `mn` that gives the same lower end,
    `nMin` itself in particular. -/
theorem low_adjust_spec (N : Nat) (s t : DStore) (nMin nMax mn K : Int) (x : Handed s t K)
    (hk : t.kind = .low N) (hs : Core s) (hlen : K ≤ N) (hsub : nMin ≤ t.minIndex ∧ t.maxIndex ≤ nMax)
    (hbig : nMax - nMin + 1 > K → K = N)
    (hcol : t.isCollapsed = true → K = N ∧ N ≤ nMax - nMin + 1)
    (hmn : nMin = mn ∨ (mn < nMin ∧ nMin = nMax - N + 1)) (hcf : mn < nMin → t.isCollapsed = true) :
    ∃ t', t.adjust nMin nMax = some t' ∧ ExtLow N s t' mn nMax := by
  have hz := x.zeroOut
  have hcnt := x.countEq hs
  obtain ⟨hc, hw, -, hmm, hlo, hK, hhi⟩ := x
  subst hK
  have hlen' : t.len = (t.bins.size : Int) := rfl
  have hzlo : ∀ j, j < t.minIndex → wt t j = 0 := fun j hj => hz j (Or.inl hj)
  have hfold : ∀ j, foldW (wt t) (cum t (nMax - N + 1)) (nMax - N + 1) j
      = (Content.foldLow (content s) (nMax - N + 1)).lookup j := fun j => by
    rw [Content.lookup_foldLow, cumul_eq_cum s _ hs.content_wf hs.lookup_content, cum_congr s t hw]
    exact foldW_congr (fun k => (hw k).trans (hs.lookup_content k).symm) ..
  unfold adjust
  simp only [hk]
  by_cases hgt : nMax - nMin + 1 > t.len
  · have hN' := hbig hgt
    obtain ⟨nb, hcl, hsz, hwn⟩ := collapseLow_spec t (nMax - t.len + 1) hz hmm hlo hhi hcnt (by omega)
    rw [if_pos hgt, hcl]
    refine ⟨_, rfl, ?_⟩
    exact
      { kind := hk, count := hc, maxI := rfl
        minI := show nMax - t.len + 1 = _ by omega
        off := Int.le_refl _
        hi := show nMax < nMax - t.len + 1 + (nb.size : Int) by rw [hsz]; omega
        lenLe := show nb.size ≤ N by omega
        coll := fun _ => ⟨rfl, show nb.size = N by omega, show nMax - (nMax - t.len + 1) + 1 = N by omega⟩
        collOf := fun _ => rfl
        wtEq := fun j => by
          show at0 nb (j - (nMax - t.len + 1)) = _
          rw [hwn, hN', hfold] }
  · obtain ⟨nb, off', hcc, hsz, h1, h2, hwn⟩ :=
      centerCounts_spec t nMin nMax hz hmm hlo hhi (by omega) hsub
    rw [if_neg hgt, hcc]
    refine ⟨_, rfl, ?_⟩
    exact
      { kind := hk, count := hc, maxI := rfl
        minI := show nMin = _ by omega
        off := h1
        hi := show nMax < off' + (nb.size : Int) by rw [hsz]; exact h2
        lenLe := show nb.size ≤ N by omega
        coll := fun hcc => by
          have := hcol hcc
          exact ⟨show off' = nMin by omega, show nb.size = N by omega, show nMax - nMin + 1 = N by omega⟩
        collOf := fun hlt => hcf (by omega)
        wtEq := fun j => by
          show at0 nb (j - off') = _
          rw [hwn, ← hfold, foldW_cum_of_le t t.minIndex hzlo _ (by omega)] }

theorem low_extendRange_spec (hG : GrowthOK) (N : Nat) (s : DStore) (h : InvLow N s) (a b : Int)
    (hab : a ≤ b) (hspan : SpanOK s a b) :
    ∃ t, s.extendRange a b = some t ∧ ExtLow N s t (min a s.minIndex) (max b s.maxIndex) := by
  have hN := h.hN
  have hmn : min a s.minIndex ≤ s.minIndex := Int.min_le_right ..
  have hmx : s.maxIndex ≤ max b s.maxIndex := Int.le_max_right ..
  have hle : min a s.minIndex ≤ max b s.maxIndex :=
    Int.le_trans (Int.min_le_left ..) (Int.le_trans hab (Int.le_max_left ..))
  obtain ⟨L, hL, hLN, hLge⟩ := getNewLength_coll hG s N (.inl h.kind) _ _ hle hspan
  simp only [extendRange]
  -- the new bounds get names before any arithmetic: `omega` splits on every `min`/`max` in sight
  generalize min a s.minIndex = mn at *
  generalize max b s.maxIndex = mx at *
  clear hspan hab
  have hls : s.len = (s.bins.size : Int) := rfl
  by_cases h0 : s.count = 0
  · obtain ⟨-, -, -, hcol⟩ := h.empty h0
    rw [if_pos h0, hL]
    simp only [Option.bind_eq_bind, Option.bind_some]
    rw [grow_spec s L (by omega)]
    simp only [Option.bind_some, h.kind]
    -- the freshly allocated state handed to `adjust`, for either value of `wide`
    have key : ∀ (nm : Int) (c : Bool), mx - nm + 1 ≤ L → (nm = mn ∨ (mn < nm ∧ nm = mx - N + 1)) →
        (c = true → L = N ∧ N ≤ mx - nm + 1) → (mn < nm → c = true) →
        ∃ t, DStore.adjust { s with
            kind := .low N, bins := s.bins ++ Array.replicate L.toNat 0, offset := nm, minIndex := nm,
            maxIndex := mx, isCollapsed := c } nm mx = some t ∧ ExtLow N s t mn mx := by
      intro nm c hfit hnm hc1 hc2
      exact low_adjust_spec N s _ nm mx mn L
        (Handed.fresh h.core h0 (by omega) _ nm mx c (by omega) (by omega)) rfl h.core hLN
        ⟨Int.le_refl nm, Int.le_refl mx⟩ (fun hh => absurd hfit (by omega)) hc1 hnm hc2
    by_cases hwide : mx - mn + 1 > L
    · simp only [hwide, if_true]
      exact key (mx - L + 1) true (by omega) (Or.inr (by omega)) (fun _ => by omega) (fun _ => rfl)
    · simp only [hwide, if_false]
      exact key mn s.isCollapsed (by omega) (Or.inl rfl) (fun hc => by rw [hcol] at hc; cases hc)
        (fun hlt => absurd hlt (Int.lt_irrefl mn))
  · obtain ⟨w1, w2, w3⟩ := h.window h0
    have hsp := h.core.span_le h.lenLe h0
    have hlenLe := h.lenLe
    rw [if_neg h0]
    by_cases hin : mn ≥ s.offset ∧ mx < s.offset + s.len
    · rw [if_pos hin]
      refine ⟨_, rfl, ?_⟩
      exact
        { kind := h.kind, count := rfl, maxI := rfl
          minI := show mn = _ by omega
          off := hin.1, hi := hin.2, lenLe := h.lenLe
          coll := fun hc => by
            have := h.collapsed hc
            show s.offset = mn ∧ s.bins.size = N ∧ mx - mn + 1 = N
            omega
          collOf := fun hlt => by omega
          wtEq := h.core.lookup_foldLow_self _ (fun _ => by omega) }
    · rw [if_neg hin, hL]
      simp only [Option.bind_eq_bind, Option.bind_some]
      have hcoll : s.isCollapsed = true → s.len = N ∧ N ≤ mx - mn + 1 := fun hc => by
        have := h.collapsed hc; omega
      by_cases hgt : L > s.len
      · rw [if_pos hgt, grow_spec s _ (by omega)]
        simp only [Option.bind_some]
        exact low_adjust_spec N s _ mn mx mn _ (Handed.grown h.core h0 (by omega)) h.kind h.core
          (by omega) ⟨hmn, hmx⟩ (fun hh => by have := hLge.resolve_left (by omega); omega)
          (fun hc => by have := hcoll hc; omega) (Or.inl rfl)
          (fun hlt => absurd hlt (Int.lt_irrefl mn))
      · rw [if_neg hgt]
        simp only [Option.pure_def, Option.bind_some]
        exact low_adjust_spec N s s mn mx mn _ (Handed.self h.core h0) h.kind h.core (by omega)
          ⟨hmn, hmx⟩ (by omega) hcoll (Or.inl rfl) (fun hlt => absurd hlt (Int.lt_irrefl mn))

/-! ## consequences of `ExtLow` -/

/-- an index of the range `[mn, mx]` that lies below the window lies below the folding index,
    which is where the window and the array start -/
theorem ExtLow.below {N : Nat} {s t : DStore} {mn mx : Int} (x : ExtLow N s t mn mx) (k : Int)
    (h1 : mn ≤ k) (h2 : k < t.minIndex) : k < mx - N + 1 ∧ t.offset = mx - N + 1 := by
  have hmi := x.minI
  have := (x.coll (x.collOf (by omega))).1
  omega

theorem ExtLow.relaid {N : Nat} {s t : DStore} {mn mx : Int} (x : ExtLow N s t mn mx)
    (h : InvLow N s) : Relaid N s t (Content.lowMap (mx - N + 1)) mn mx :=
  have hN := h.hN
  ⟨⟨x.kind.trans h.kind.symm, x.count, x.minI.trans (by rw [Content.lowMap_eq_max]),
    x.maxI.trans (by rw [Content.lowMap_eq_max]; omega), x.off, x.hi, x.wtEq⟩, x.lenLe, x.coll⟩

/-! ## `normalize` / `addWithCount` of the lowest-collapsing store -/

theorem low_normalize_spec (hG : GrowthOK) (N : Nat) (s : DStore) (h : InvLow N s) (i : Int)
    (hsp : SpanOK s i i) :
    ∃ t, s.normalize i = some (t, max i (max i s.maxIndex - N + 1) - t.offset) ∧
      ExtLow N s t (min i s.minIndex) (max i s.maxIndex) := by
  have hN := h.hN
  unfold normalize
  simp only [h.kind]
  by_cases h1 : i < s.minIndex
  · rw [if_pos h1, Int.min_eq_left (Int.le_of_lt h1)]
    by_cases hc : s.isCollapsed = true
    · obtain ⟨c1, c2, c3⟩ := h.collapsed hc
      have x := ExtLow.self h (h.core.count_ne_zero (by omega))
      rw [if_pos hc, Int.max_eq_right (show i ≤ s.maxIndex by omega),
        Int.max_eq_right (show i ≤ s.maxIndex - N + 1 by omega)]
      exact ⟨s, by congr 2; omega, { x with minI := by omega, collOf := fun _ => hc }⟩
    · obtain ⟨t, ht, x⟩ := low_extendRange_spec hG N s h i i (Int.le_refl _) hsp
      rw [Int.min_eq_left (Int.le_of_lt h1)] at x
      rw [if_neg hc, ht]
      simp only [Option.bind_eq_bind, Option.bind_some, Option.pure_def]
      refine ⟨t, ?_, x⟩
      by_cases htc : t.isCollapsed = true
      · rw [if_pos htc, ← x.minI, (x.coll htc).1, Int.sub_self]
      · rw [if_neg htc, Int.max_eq_left (Int.not_lt.1 (fun hh => htc (x.collOf hh)))]
  · rw [if_neg h1, Int.min_eq_right (Int.not_lt.1 h1)]
    by_cases h2 : i > s.maxIndex
    · obtain ⟨t, ht, x⟩ := low_extendRange_spec hG N s h i i (Int.le_refl _) hsp
      rw [Int.min_eq_right (Int.not_lt.1 h1), Int.max_eq_left (Int.le_of_lt h2)] at x
      rw [if_pos h2, ht, Int.max_eq_left (Int.le_of_lt h2), Int.max_eq_left (show i - N + 1 ≤ i by omega)]
      exact ⟨t, rfl, x⟩
    · have h0 := h.core.count_ne_zero (by omega)
      have hsp := h.core.span_le h.lenLe h0
      rw [if_neg h2, Int.max_eq_right (Int.not_lt.1 h2),
        Int.max_eq_left (show s.maxIndex - N + 1 ≤ i by omega)]
      exact ⟨s, rfl, ExtLow.self h h0⟩

/-- no panic, invariant kept, weight conserved, and the new store holds "exact add, then fold at
    `max − N + 1`" — for any `Int` index within a span of `2^33` (`hsp`; automatic for int32
    indexes, `Core.spanOK`) -/
theorem low_addWithCount_full (hG : GrowthOK) (N : Nat) (s : DStore) (h : InvLow N s) (i : Int)
    (w : Rat) (hw : 0 ≤ w) (hsp : SpanOK s i i) :
    ∃ s', s.addWithCount i w = some s' ∧ InvLow N s' ∧ s'.count = s.count + w ∧ (w = 0 → s' = s) ∧
      (w ≠ 0 → Holds s' (Content.lowMap (max i s.maxIndex - N + 1)) ((content s).add i w)
        (min i s.minIndex) (max i s.maxIndex)) := by
  unfold addWithCount
  by_cases hw0 : w = 0
  · rw [if_pos hw0]
    exact ⟨s, rfl, h, by rw [hw0, Rat.add_zero], fun _ => rfl, fun hne => absurd hw0 hne⟩
  · obtain ⟨t, hn, x⟩ := low_normalize_spec hG N s h i hsp
    have hwpos : 0 < w := Rat.lt_of_le_of_ne hw (Ne.symm hw0)
    obtain ⟨nb, hadd, hsz, hc, hh⟩ := (x.relaid h).add h.core (Content.lowMap_mono _)
      (Int.min_le_right ..) (Int.le_max_right ..) i ⟨Int.min_le_left .., Int.le_max_left ..⟩ w hwpos
    rw [Content.lowMap_eq_max] at hadd
    rw [if_neg hw0, hn]
    simp only [Option.bind_eq_bind, Option.bind_some, hadd, Option.pure_def]
    exact ⟨_, rfl, invLow_iff.2 ⟨x.kind, (x.relaid h).coll_of_core h.coll hsz hc hwpos⟩,
      congrArg (· + w) x.count, fun h0 => absurd h0 hw0, fun _ => hh⟩

/-! ## `mergeSame` of the lowest-collapsing store -/

/-- the merge loop on an extended receiver `s1`: the weights of `o`, folded, are added -/
theorem low_mergeSame_cont (N M : Nat) (s o s1 : DStore) (hs : InvLow N s) (ho : InvLow M o)
    (h0 : o.count ≠ 0) (mn mx : Int) (hmn : mn ≤ s.minIndex) (hmx : s.maxIndex ≤ mx)
    (hmno : mn ≤ o.minIndex) (hmxo : o.maxIndex ≤ mx) (x : ExtLow N s s1 mn mx) :
    ∃ s', mergeFold s1 o = some s' ∧
      InvLow N s' ∧ s'.count = s.count + o.count ∧
      Holds s' (Content.lowMap (mx - N + 1)) ((content s).merge (content o)) mn mx := by
  have hmi := x.minI
  -- an index below the window goes to position 0, where the folding index sits
  obtain ⟨nb, hb, hsz, hc, hh⟩ := (x.relaid hs).merge hs.core (Content.lowMap_mono _) hmn hmx
    ho.core h0 hmno hmxo fun k h1 h2 => by
      rw [Content.lowMap_eq_max, mergeCell_low x.kind]
      by_cases hk : k < s1.minIndex
      · obtain ⟨hke, hoe⟩ := x.below k (by omega) hk
        rw [if_pos hk]; omega
      · rw [if_neg hk]; omega
  exact ⟨_, hb, invLow_iff.2 ⟨x.kind, (x.relaid hs).coll_of_core hs.coll hsz hc
    (Rat.lt_of_le_of_ne ho.core.count_nonneg (Ne.symm h0))⟩, congrArg (· + o.count) x.count, hh⟩

/-- EVERY same-kind merge is safe — whatever the two limits `N`, `M`, the widths and the emptiness
    of the two stores — keeps the invariant, conserves the weight, and the new store holds
    "exact pointwise sum, then fold at `max − N + 1`" (any `Int` indexes within a span of
    `2^33`, `hsp`; automatic under `Tight32`) -/
theorem low_mergeSame_full (hG : GrowthOK) (N M : Nat) (s o : DStore) (hs : InvLow N s)
    (ho : InvLow M o) (hsp : SpanOK s o.minIndex o.maxIndex) :
    ∃ s', s.mergeSame o = some s' ∧ InvLow N s' ∧ s'.count = s.count + o.count ∧
      (o.count = 0 → s' = s) ∧
      (o.count ≠ 0 → Holds s' (Content.lowMap (max o.maxIndex s.maxIndex - N + 1))
        ((content s).merge (content o)) (min o.minIndex s.minIndex) (max o.maxIndex s.maxIndex)) := by
  by_cases he : o.isEmpty = true
  · have h0 := (isEmpty_iff_count o).1 he
    exact ⟨s, by rw [mergeSame, if_pos he], hs, by rw [h0, Rat.add_zero], fun _ => rfl, fun hne => absurd h0 hne⟩
  · have h0 : o.count ≠ 0 := fun h0 => he ((isEmpty_iff_count o).2 h0)
    have ow2 := (ho.window h0).2.1
    obtain ⟨s', k1, k2, k3, k4⟩ := mergeSame_of_fold he
      (fun _ => low_extendRange_spec hG N s hs o.minIndex o.maxIndex ow2 hsp)
      (fun hc => by
        have x := ExtLow.self hs (hs.core.count_ne_zero (by omega))
        rwa [← Int.min_eq_right (show s.minIndex ≤ o.minIndex by omega),
          ← Int.max_eq_right (show o.maxIndex ≤ s.maxIndex by omega)] at x)
      fun s1 => low_mergeSame_cont N M s o s1 hs ho h0 _ _ (Int.min_le_right ..)
        (Int.le_max_right ..) (Int.min_le_left ..) (Int.le_max_left ..)
    exact ⟨s', k1, k2, k3, fun h => absurd h h0, fun _ => k4⟩

/-! ## `clear` -/

theorem invLow_clear (N : Nat) (s : DStore) (h : InvLow N s) : InvLow N s.clear :=
  invLow_iff.2 ⟨h.kind, coll_of_no_bins h.hN rfl rfl rfl rfl rfl⟩

theorem low_clear_spec (N : Nat) (s : DStore) (h : InvLow N s) :
    InvLow N s.clear ∧ s.clear.count = 0 ∧ (∀ j, wt s.clear j = 0) ∧ Tight32 s.clear :=
  ⟨invLow_clear N s h, rfl, (core_clear s).wt_zero_of_empty rfl, tight32_clear s⟩

/-! ## the main theorems at the level of contents (int32 indexes) -/

theorem low_content_fixed (N : Nat) (s : DStore) (h : InvLow N s) (ht : Tight32 s) :
    Content.specLow N (content s) = content s := by
  by_cases h0 : s.count = 0
  · rw [h.core.content_empty h0]; rfl
  · have hsp := h.core.span_le h.lenLe h0
    rw [Content.specLow_of_max N _ _ (h.core.content_extremes ht h0).1, Content.foldLow_eq_relabel]
    exact Content.relabel_eq_self _ _ h.core.content_wf fun p hp => by
      have := h.core.key_in_window hp
      rw [Content.lowMap_eq_max]; omega

theorem low_reweight_ok (N : Nat) (s : DStore) (h : InvLow N s) (ht : Tight32 s) (w : Rat)
    (hw : 0 < w) :
    ∃ s', s.reweight w = some s' ∧ InvLow N s' ∧ Tight32 s' ∧ s'.count = s.count * w ∧
      content s' = (content s).scale w := by
  obtain ⟨s', h1, hc, hk, hwt, hcnt, hmi, hma⟩ := h.coll.reweight w hw
  obtain ⟨t, e⟩ := h.core.reweight_content hc.toCore ht hw hwt hcnt hmi hma
  exact ⟨s', h1, invLow_iff.2 ⟨hk.trans h.kind, hc⟩, t, hcnt, e⟩

/-- rank lookup (same statement as for the plain store): the first index whose cumulative
    weight exceeds `max r 0`, else `maxIndex` -/
theorem low_keyAtRank_spec (N : Nat) (s : DStore) (h : InvLow N s) (r : Rat) :
    let k := s.keyAtRank r
    let r' := if r < 0 then 0 else r
    (r' < cum s k ∧ ∀ j, j < k → cum s j ≤ r') ∨ (s.count ≤ r' ∧ k = s.maxIndex) :=
  keyAtRank_spec_gen s h.countEq r

/-! ## discrepancy for indexes below the int32 range

`NewCollapsingLowestDenseStore(N)` starts from the sentinel `maxIndex = MinInt32`.  Adding an
index `i < MinInt32` to an empty store leaves `maxIndex = MinInt32` (a bin that holds nothing),
so the store folds at `MinInt32 − N + 1` instead of `i − N + 1`: with `N = 3`, the weight added at
`MinInt32 − 5` is stored at `MinInt32 − 2`, whereas `specLow 3` keeps it at `MinInt32 − 5`.
The general relation `low_addWithCount_full` (fold at `s'.maxIndex − N + 1`) still holds; the
`specLow` relation needs `MinInt32 ≤ i` (`KInv.add`). -/
theorem low_below_int32_discrepancy (hG : GrowthOK) :
    ∃ s', (DStore.new (.low 3)).addWithCount (minInt32 - 5) 1 = some s' ∧
      s'.maxIndex = minInt32 ∧ wt s' (minInt32 - 5) = 0 ∧ wt s' (minInt32 - 2) = 1 ∧
      (Content.specLow 3 ((content (DStore.new (.low 3))).add (minInt32 - 5) 1)).lookup
        (minInt32 - 5) = 1 := by
  obtain ⟨s', h1, _, _, _, h4⟩ := low_addWithCount_full hG 3 (DStore.new (.low 3))
    (invLow_new 3 (by omega)) (minInt32 - 5) 1 (by decide) (by unfold SpanOK; decide)
  have hf := h4 (by decide)
  have hc : content (DStore.new (.low 3)) = [] := (core_new _).content_empty rfl
  have hadd : Content.add [] (minInt32 - 5) 1 = [(minInt32 - 5, 1)] := by
    rw [Content.add_nil, if_neg (by decide)]
  have hmax : max (minInt32 - 5) (DStore.new (.low 3)).maxIndex = minInt32 := by
    simp only [DStore.new, minInt32]; omega
  rw [hmax, hc, hadd] at hf
  -- the single bin, moved along `lowMap e`, sits at `max i e`
  have hw : ∀ j, wt s' j
      = if max (minInt32 - 5) (minInt32 - ((3 : Nat) : Int) + 1) = j then 1 else 0 := fun j => by
    rw [hf.wtEq, Content.lookup_eq_wsum, Content.wsum_relabel, Content.wsum_cons, Content.wsum_nil,
      Rat.add_zero, Content.lowMap_eq_max]
    exact ite_iff decide_eq_true_iff _ _
  refine ⟨s', h1, hf.maxI.trans (by rw [Content.lowMap_eq_max]; simp only [minInt32]; omega), ?_, ?_,
    ?_⟩
  · rw [hw, if_neg (by simp only [minInt32]; omega)]
  · rw [hw, if_pos (by simp only [minInt32]; omega)]
  · rw [hc, hadd, Content.specLow_of_max 3 _ (minInt32 - 5) (by simp), Content.lookup_foldLow]
    unfold foldW
    rw [if_neg (by simp only [minInt32]; omega), if_neg (by simp only [minInt32]; omega)]
    simp only [Content.lookup_cons, Content.lookup_nil]
    grind

end DStore
end DDS
