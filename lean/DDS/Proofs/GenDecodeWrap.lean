/-
  DDS.Proofs.GenDecodeWrap — the REGENERATED per-store decode wrappers and the sparse store's `MergeWith`, against
  the hand-written model.

    DDS/Generated/CodeDenseDecode.lean    `DenseStore / CollapsingLowestDenseStore / CollapsingHighestDenseStore
                                           .DecodeAndMergeWith`   (each: `return DecodeAndMergeWith(s, b, mode)`)
    DDS/Generated/CodeSparseDecode.lean   `SparseStore.DecodeAndMergeWith`                     (the same)
    DDS/Generated/CodeSparseMerge.lean    `SparseStore.MergeWith(store Store)`, argument of any type `[StoreI S]`

  A. FACTORISATION (`decode_factor`).  For EVERY implementation `S` of `store.Store`, every receiver, input,
     layout and fuel:  `store.DecodeAndMergeWith fuel s b sf = rmap (replay s ·) (decodeCalls fuel b sf)` — the
     generic decoder computes a list of calls (`Add(i)` / `AddWithCount(i, c)`) from the bytes alone (the decoder
     run on the recording store `Log`), then runs them on the receiver.  It is the instance "replay on `s`" of
     `decode_natural`: a map between two implementations that commutes with `Add` and `AddWithCount` commutes
     with the decoder (three loop lemmas by induction on the fuel; the control flow never looks at the store).
  B. PARAMETRICITY (`decode_param_on`, `decode_param`).  A relation kept by the calls of a class `P` is kept by
     the decoder when the calls of the input are in `P`: same outcome (`.ok/.panic/.nofuel`), same bytes left,
     same error, related receivers (`ResRel`).  Any fuel.
  C. Against `Sketch.decodeStore` for any implementation related to the model's stores (`decode_model_ok`,
     `decode_model_error`), from `GenStoreDecode.DecodeAndMergeWith_ok/_error` and `decode_unknown`: fuel
     `len(b) + 9`, `NoWrap` (no index leaves int64) for the success half only.
  D. THE FOUR WRAPPERS.  The wrappers take instance binders (`[StoreI DenseStore]` …) that the proof side must
     supply; every theorem is stated for EVERY instance `I` whose `AddWithCount` / `Add` run the regenerated
     functions with a fuel computed from the receiver (`DenseAdds`, `LowAdds`, `HighAdds`, `SparseAdds`: panicking
     call or non-finite float = receiver unchanged, the conventions of `instance : StoreI Store`); the other two
     dense-family binders of `CodeDenseDecode` are unused and arbitrary.  Such instances exist: `denseI`
     (`GenDenseSketch.gdStoreI` carried to the raw structure), `lowI`, `highI`, `sparseI`.
       dense      `dense_decode_sim`  (every input, fuel: wrapper on `toGen d` ~ generic decoder on `.d d`, relation
                  `DRel` = image of a plain model store), `dense_decode_ok` (model `some (.ok (st', rest))` ⟹
                  `st' = .d d'`, plain, wrapper `= .ok (toGen d', bn rest, nil)`), `dense_decode_error`.
       lowest     `low_decode_sim / _ok / _error`    (`toLow n`, kind `.low n`; fuel of the adds `len(bins)+n+2`)
       highest    `high_decode_sim / _ok / _error`   (`toHigh n`, kind `.high n`; fuel `extendFuel` at the index)
       sparse     `sparse_decode_sim / _ok` under `NonnegCall` for the calls of the input (every finite weight
                  `≥ 0`: the sparse store's contract, `GenSparse` — a negative weight can leave a phantom zero
                  entry); `sparse_decode_error` unconditional.  No order oracle is involved (adds only).
     Fuel: the decoder's own loops need `len(b) + 9`; the store calls take their fuel from the instance.
  E. `SparseStore.MergeWith`.  The Go method has NO same-kind fast path (`store.ForEach(func … s.AddWithCount …)`),
     so there is no type assertion to translate: the regenerated function is the loop over `StoreI.ForEachList`.
       `sparse_mergeWith_fold`   any `S`, any receiver, finite bins `l`: `= .ok (addAll g l)` (any fuel)
       `sparse_mergeWith_any`    `Rep g c`, weights `≥ 0`: `= .ok ⟨c.merge l⟩` — the model's fold of `Content.add`
       `sparse_mergeWith_model`  argument any model `Store`: `(Store.sp c).mergeWith o = some (.sp g'.counts)`
       `sparse_mergeWith_perm`, `sparse_mergeWith_sparse`   the enumeration order is irrelevant (any lawful `ord`)
       `sparse_mergeWith_dense`  argument = regenerated dense store (the paginated one, `sparse_mergeWith_pag`, is
                                 stated in `DDS.Proofs.GenSparseSketch`, after both instances)
       `sparse_mergeWith_nonfinite`  a non-finite weight in the enumeration: `.panic` (translation artefact: the
                                 weight is read as a rational; Go would store the Inf/NaN) — outside the model.
  F. kernel-checked runs of the four concrete instances.

  DISAGREEMENTS: none new.  Inherited: the int64 wrap of the running index (`GenStoreDecode.wrap_counterexample`,
  excluded by `NoWrap`), negative weights in the sparse store, non-finite weights (`.panic` in E, ignored in D).
-/
import DDS.Generated.CodeDenseDecode
import DDS.Generated.CodeSparseDecode
import DDS.Generated.CodeSparseMerge
import DDS.Proofs.GenStoreDecode
import DDS.Proofs.GenDenseSketch
import DDS.Proofs.GenCollapsingLow
import DDS.Proofs.GenCollapsingHigh
import DDS.Proofs.GenSparse

set_option linter.unusedVariables false

namespace DDS.GenDecodeWrap

open DDS DDS.GoSem DDS.Gen.StoreDecode DDS.Gen.Encoding

/-! ## A. the generic decoder factors through the list of its calls on the store

  `Call`, `applyCall`, `replay` are defined at the head of `DDS/Proofs/GenStoreDecode.lean`, whose `decode_run` says
  which calls these are (fuel `len(b) + 9`); the statements here hold for every fuel. -/

/-- the recording store: the calls received so far, oldest first -/
structure Log where
  calls : List Call

/-- the recording implementation of `store.Store`: `Add` / `AddWithCount` append the call; the other methods
    (never called by the decoder) are inert -/
@[reducible] def logI : StoreI Log where
  Add l i := ⟨l.calls ++ [(i, none)]⟩
  AddWithCount l i c := ⟨l.calls ++ [(i, some c)]⟩
  Copy l := l
  Clear l := l
  IsEmpty _ := true
  MaxIndex _ := (0, GoErr.nil)
  MinIndex _ := (0, GoErr.nil)
  TotalCount _ := .fin 0
  KeyAtRank _ _ := 0
  MergeWith l _ := l
  Reweight l _ := (l, GoErr.nil)
  Encode l b _ := (l, b)
  ForEachList _ := []
  DecodeAndMergeWith l b _ := (l, b, GoErr.nil)

section factor
variable {S : Type} [StoreI S]

def rmap {α β : Type} (f : α → β) : Res α → Res β
  | .ok a => .ok (f a)
  | .panic => .panic
  | .nofuel => .nofuel

/-- the calls the decoder makes on its receiver for the input `b` and layout `sf` (with the bytes left and the
    error): the decoder run on the recording store -/
def decodeCalls (fuel : Nat) (b : List (BitVec 8)) (sf : SubFlag) : Res (Log × List (BitVec 8) × GoErr) :=
  @DecodeAndMergeWith Log logI fuel ⟨[]⟩ b sf

/-! The decoder is natural in the store: a map `h` between two implementations that commutes with `Add` and
    `AddWithCount` commutes with the decoder.  Both sides of each equation are unfolded and `Loop.map` / `rmap` pushed to
    the leaves, where the induction hypothesis or `h`'s equations close it. -/

section maps
variable {α β γ σ σ' ρ ρ' : Type} (f : σ → σ') (g : ρ → ρ')

theorem rmap_ok (a : ρ) : rmap g (.ok a) = .ok (g a) := rfl

theorem rmap_bind (r : Res α) (k : α → Res ρ) : rmap g (Res.bind r k) = Res.bind r (fun x => rmap g (k x)) := by
  cases r <;> rfl

/-- `Loop.elim` with the returned value mapped: the common form of `Loop.elim (Loop.map f g L) k` and
    `rmap g (Loop.elim L k)` -/
def relim (L : Loop σ ρ) (k : σ → Res ρ') : Res ρ' :=
  Loop.elim (Loop.map id g L) k

theorem elim_lmap (L : Loop σ ρ) (k : σ' → Res ρ') : Loop.elim (Loop.map f g L) k = relim g L (fun x => k (f x)) := by
  cases L <;> rfl

theorem rmap_elim (L : Loop σ ρ) (k : σ → Res ρ) : rmap g (Loop.elim L k) = relim g L (fun x => rmap g (k x)) := by
  cases L <;> rfl

end maps

section natural
variable {S₁ S₂ : Type} [StoreI S₁] [StoreI S₂] (h : S₁ → S₂)

theorem loop1_natural (hA : ∀ s i c, StoreI.AddWithCount (h s) i c = h (StoreI.AddWithCount s i c))
    (numBins : BitVec 64) (fuel : Nat) : ∀ (b : List (BitVec 8)) (index : BitVec 64) (s : S₁) (i : BitVec 64),
    DecodeAndMergeWith.loop1 numBins fuel b index (h s) i
      = Loop.map (fun p => (p.1, p.2.1, h p.2.2.1, p.2.2.2)) (fun p => (h p.1, p.2))
          (DecodeAndMergeWith.loop1 numBins fuel b index s i) := by
  induction fuel with
  | zero => intros; rfl
  | succ fuel ih =>
    intros
    simp only [DecodeAndMergeWith.loop1, apply_ite (Loop.map _ _), Loop.map_bindL, Loop.map_done, Loop.map_ret, hA, ih]

theorem loop2_natural (hAdd : ∀ s i, StoreI.Add (h s) i = h (StoreI.Add s i))
    (numBins : BitVec 64) (fuel : Nat) : ∀ (b : List (BitVec 8)) (index : BitVec 64) (s : S₁) (i : BitVec 64),
    DecodeAndMergeWith.loop2 numBins fuel b index (h s) i
      = Loop.map (fun p => (p.1, p.2.1, h p.2.2.1, p.2.2.2)) (fun p => (h p.1, p.2))
          (DecodeAndMergeWith.loop2 numBins fuel b index s i) := by
  induction fuel with
  | zero => intros; rfl
  | succ fuel ih =>
    intros
    simp only [DecodeAndMergeWith.loop2, apply_ite (Loop.map _ _), Loop.map_bindL, Loop.map_done, Loop.map_ret, hAdd, ih]

theorem loop3_natural (hA : ∀ s i c, StoreI.AddWithCount (h s) i c = h (StoreI.AddWithCount s i c))
    (numBins indexDelta : BitVec 64) (fuel : Nat) : ∀ (b : List (BitVec 8)) (s : S₁) (index i : BitVec 64),
    DecodeAndMergeWith.loop3 numBins indexDelta fuel b (h s) index i
      = Loop.map (fun p => (p.1, h p.2.1, p.2.2)) (fun p => (h p.1, p.2))
          (DecodeAndMergeWith.loop3 numBins indexDelta fuel b s index i) := by
  induction fuel with
  | zero => intros; rfl
  | succ fuel ih =>
    intros
    simp only [DecodeAndMergeWith.loop3, apply_ite (Loop.map _ _), Loop.map_bindL, Loop.map_done, Loop.map_ret, hA, ih]

theorem decode_natural (hA : ∀ s i c, StoreI.AddWithCount (h s) i c = h (StoreI.AddWithCount s i c))
    (hAdd : ∀ s i, StoreI.Add (h s) i = h (StoreI.Add s i)) (fuel : Nat) (s : S₁) (b : List (BitVec 8))
    (sf : SubFlag) :
    DecodeAndMergeWith fuel (h s) b sf
      = rmap (fun p : S₁ × List (BitVec 8) × GoErr => (h p.1, p.2)) (DecodeAndMergeWith fuel s b sf) := by
  simp only [DecodeAndMergeWith, apply_ite (rmap _), rmap_bind, rmap_elim, rmap_ok, elim_lmap, loop1_natural h hA,
    loop2_natural h hAdd, loop3_natural h hA]

end natural

/-- **factorisation**: for every implementation `S` of `store.Store`, every receiver, input, layout and fuel,
    the generic decoder is "compute the calls from the bytes alone, then run them on the receiver" -/
theorem decode_factor (fuel : Nat) (s : S) (b : List (BitVec 8)) (sf : SubFlag) :
    DecodeAndMergeWith fuel s b sf
      = rmap (fun p : Log × List (BitVec 8) × GoErr => (replay s p.1.calls, p.2)) (decodeCalls fuel b sf) :=
  @decode_natural Log S logI _ (fun l => replay s l.calls) (fun l i c => (replay_snoc s l.calls (i, some c)).symm)
    (fun l i => (replay_snoc s l.calls (i, none)).symm) fuel ⟨[]⟩ b sf

end factor

/-! ## B. parametricity of the generic decoder in the store implementation -/

/-- two outcomes of the decoder agree: the same control outcome, the same bytes left, the same error, and the
    receivers are related -/
def ResRel {S₁ S₂ : Type} (R : S₁ → S₂ → Prop) :
    Res (S₁ × List (BitVec 8) × GoErr) → Res (S₂ × List (BitVec 8) × GoErr) → Prop
  | .ok p, .ok q => R p.1 q.1 ∧ p.2 = q.2
  | .panic, .panic => True
  | .nofuel, .nofuel => True
  | _, _ => False

theorem ResRel.of_ok {S₁ S₂ : Type} {R : S₁ → S₂ → Prop} {r₁ : Res (S₁ × List (BitVec 8) × GoErr)}
    {r₂ : Res (S₂ × List (BitVec 8) × GoErr)} (h : ResRel R r₁ r₂) {st' : S₂} {b' : List (BitVec 8)} {e : GoErr}
    (h2 : r₂ = .ok (st', b', e)) : ∃ x', R x' st' ∧ r₁ = .ok (x', b', e) := by
  subst h2
  cases r₁ with
  | ok p =>
    obtain ⟨x', p2⟩ := p
    obtain ⟨hr, he⟩ := h
    simp only at hr he
    subst he
    exact ⟨x', hr, rfl⟩
  | panic => exact h.elim
  | nofuel => exact h.elim

section param
variable {S₁ S₂ : Type} [StoreI S₁] [StoreI S₂]

theorem replay_rel (R : S₁ → S₂ → Prop) (P : Call → Prop)
    (hstep : ∀ x st c, R x st → P c → R (applyCall x c) (applyCall st c)) :
    ∀ (l : List Call) (x : S₁) (st : S₂), R x st → (∀ c ∈ l, P c) → R (replay x l) (replay st l) := by
  intro l
  induction l with
  | nil => intro x st h _; exact h
  | cons c rest ih =>
    intro x st h hP
    rw [replay_cons, replay_cons]
    exact ih _ _ (hstep x st c h (hP c (List.mem_cons_self ..))) (fun c' hc' => hP c' (List.mem_cons_of_mem _ hc'))

/-- **parametricity, restricted to a class `P` of calls**: if the relation `R` is kept by every call in `P`
    and the calls the bytes give rise to are all in `P`, the two runs agree — any fuel, any input -/
theorem decode_param_on (R : S₁ → S₂ → Prop) (P : Call → Prop)
    (hstep : ∀ x st c, R x st → P c → R (applyCall x c) (applyCall st c))
    (fuel : Nat) (x : S₁) (st : S₂) (b : List (BitVec 8)) (sf : SubFlag) (h : R x st)
    (hP : ∀ l b' e, decodeCalls fuel b sf = .ok (l, b', e) → ∀ c ∈ l.calls, P c) :
    ResRel R (DecodeAndMergeWith fuel x b sf) (DecodeAndMergeWith fuel st b sf) := by
  rw [decode_factor fuel x, decode_factor fuel st]
  cases hc : decodeCalls fuel b sf with
  | panic => trivial
  | nofuel => trivial
  | ok p =>
    obtain ⟨l, b', e⟩ := p
    exact ⟨replay_rel R P hstep l.calls x st h (hP l b' e hc), rfl⟩

/-- **parametricity**: a relation kept by `AddWithCount` (every index, every float) and `Add` (every index) is
    kept by the decoder, with the same bytes left and the same error — any fuel, any input -/
theorem decode_param (R : S₁ → S₂ → Prop)
    (hA : ∀ x st, R x st → ∀ i c, R (StoreI.AddWithCount x i c) (StoreI.AddWithCount st i c))
    (hAdd : ∀ x st, R x st → ∀ i, R (StoreI.Add x i) (StoreI.Add st i))
    (fuel : Nat) (x : S₁) (st : S₂) (b : List (BitVec 8)) (sf : SubFlag) (h : R x st) :
    ResRel R (DecodeAndMergeWith fuel x b sf) (DecodeAndMergeWith fuel st b sf) :=
  decode_param_on R (fun _ => True)
    (fun x st c h _ => by
      obtain ⟨i, oc⟩ := c
      cases oc with
      | some c => exact hA x st h i c
      | none => exact hAdd x st h i)
    fuel x st b sf h (fun _ _ _ _ _ _ => trivial)

end param

/-! ## C. against the model's `Sketch.decodeStore`, for any implementation related to the model's stores -/

section model
open DDS.GenStoreDecode DDS.GenEncoding DDS.Sketch DDS.Codec
variable {S₁ : Type} [StoreI S₁]

/-- success of the model ⟹ the implementation returns a receiver related to the model's result, the model's
    remaining bytes and a nil error (fuel `len(b) + 9`; `NoWrap`: no index leaves the int64 range, see
    `GenStoreDecode.wrap_counterexample`) -/
theorem decode_model_ok (R : S₁ → Store → Prop) (P : Call → Prop)
    (hstep : ∀ x st c, R x st → P c → R (applyCall x c) (applyCall st c))
    (x : S₁) (st st' : Store) (h : R x st) (sub : Nat) (b : List (BitVec 8)) (rest : Bytes) (fuel : Nat)
    (hf : b.length + 9 ≤ fuel) (hw : NoWrap sub (nb b))
    (hP : ∀ l b' e, decodeCalls fuel b (subflag sub) = .ok (l, b', e) → ∀ c ∈ l.calls, P c)
    (hm : decodeStore st sub (nb b) = some (.ok (st', rest))) :
    ∃ x', R x' st' ∧ DecodeAndMergeWith fuel x b (subflag sub) = .ok (x', bn rest, GoErr.nil) :=
  (decode_param_on R P hstep fuel x st b (subflag sub) h hP).of_ok
    (DecodeAndMergeWith_ok st st' sub b rest fuel hf hw hm)

/-- refusal of the model ⟹ the implementation returns normally with the error of the same class: `io.EOF`
    (truncated input; the receiver has absorbed the bins read before the cut) or "unknown bin encoding"
    (receiver and input untouched).  No hypothesis on indexes. -/
theorem decode_model_error (R : S₁ → Store → Prop) (P : Call → Prop)
    (hstep : ∀ x st c, R x st → P c → R (applyCall x c) (applyCall st c))
    (x : S₁) (st : Store) (h : R x st) (sub : Nat) (hsub : sub < 64) (b : List (BitVec 8)) (e : SkErr)
    (fuel : Nat) (hf : b.length + 9 ≤ fuel)
    (hP : ∀ l b' e, decodeCalls fuel b (subflag sub) = .ok (l, b', e) → ∀ c ∈ l.calls, P c)
    (hm : decodeStore st sub (nb b) = some (.error e)) :
    (KnownSub sub ∧ e = .eof ∧ ∃ x' b', DecodeAndMergeWith fuel x b (subflag sub) = .ok (x', b', GoErr.eof)) ∨
    (¬ KnownSub sub ∧ e = .unknownBinEncoding ∧
      DecodeAndMergeWith fuel x b (subflag sub) = .ok (x, b, GoErr.named "unknown bin encoding")) := by
  rcases DecodeAndMergeWith_error st sub hsub b e fuel hf hm with ⟨hk, he, s', b', hr⟩ | ⟨hk, he, _⟩
  · obtain ⟨x', _, hx⟩ := (decode_param_on R P hstep fuel x st b (subflag sub) h hP).of_ok hr
    exact Or.inl ⟨hk, he, x', b', hx⟩
  · exact Or.inr ⟨hk, he, decode_unknown x sub hsub hk b fuel⟩

end model

/-! ## D.1 `DenseStore.DecodeAndMergeWith` -/

section dense
open DDS.GenStoreDecode DDS.GenEncoding DDS.Sketch DDS.Codec DDS.GenDense DDS.GenDenseSketch
open DDS.GenPagSketch (okOr okOr_ok)

/-- the decode wrappers add nothing to the generic decoder -/
theorem DenseStore_wrapper_eq (I : StoreI GS) (IL : StoreI GLow) (IH : StoreI GHigh) (fuel : Nat) (s : GS)
    (b : List (BitVec 8)) (sf : SubFlag) :
    @Gen.DenseDecode.DenseStore.DecodeAndMergeWith I IL IH fuel s b sf
      = @DecodeAndMergeWith GS I fuel s b sf :=
  Res.bind_ok_right _

/-- what the theorems need of the `StoreI` instance handed to the wrapper: its `AddWithCount` / `Add` run the
    regenerated `DenseStore.AddWithCount` / `Add` with the fuel `extendFuel` of the state (a panicking call or a
    non-finite float leaves the receiver as it was — the conventions of `GenDenseSketch.gdStoreI`) -/
structure DenseAdds (I : StoreI GS) : Prop where
  addWithCount : ∀ g i c, I.AddWithCount g i c = (gAddWithCount ⟨g⟩ i c).g
  add : ∀ g i, I.Add g i = (gAdd ⟨g⟩ i).g

/-- `GenDenseSketch.gdStoreI` carried from the wrapper type `GDS` to the regenerated structure itself -/
@[reducible] def denseI : StoreI GS where
  Add g i := (gAdd ⟨g⟩ i).g
  AddWithCount g i c := (gAddWithCount ⟨g⟩ i c).g
  Copy g := (gCopy ⟨g⟩).g
  Clear g := (gClear ⟨g⟩).g
  IsEmpty g := gIsEmpty ⟨g⟩
  MaxIndex g := gMaxIndex ⟨g⟩
  MinIndex g := gMinIndex ⟨g⟩
  TotalCount g := gTotalCount ⟨g⟩
  KeyAtRank g r := gKeyAtRank ⟨g⟩ r
  MergeWith g o := (gMergeWith ⟨g⟩ ⟨o⟩).g
  Reweight g w := ((gReweight ⟨g⟩ w).1.g, (gReweight ⟨g⟩ w).2)
  Encode g b t := ((gEncode ⟨g⟩ b t).1.g, (gEncode ⟨g⟩ b t).2)
  ForEachList g := gForEachList ⟨g⟩
  DecodeAndMergeWith g b sf := ((gDecode ⟨g⟩ b sf).1.g, (gDecode ⟨g⟩ b sf).2)

theorem denseI_adds : DenseAdds denseI := ⟨fun _ _ _ => rfl, fun _ _ => rfl⟩

/-- the regenerated store is the image of the plain dense model store -/
def DRel (g : GS) (st : Store) : Prop := ∃ d : DStore, g = toGen d ∧ st = .d d ∧ d.kind = .plain

theorem drel_iff (g : GS) (st : Store) : DRel g st ↔ DSim ⟨g⟩ st := Iff.rfl

theorem drel_step (I : StoreI GS) (hI : DenseAdds I) (g : GS) (st : Store) (c : Call) (h : DRel g st) :
    DRel (@applyCall GS I g c) (applyCall st c) := by
  obtain ⟨i, oc⟩ := c
  cases oc with
  | some c =>
    show DRel (I.AddWithCount g i c) _
    rw [hI.addWithCount]
    exact dsim_addWithCount (x := ⟨g⟩) h i c
  | none =>
    show DRel (I.Add g i) _
    rw [hI.add]
    exact dsim_add (x := ⟨g⟩) h i

/-- **parametricity for the dense store**: the wrapper on the image of a plain dense model store `d` and the
    generic decoder on the model store (`instance : StoreI Store`) agree — same outcome, same bytes, same error,
    the receiver the image of the model's — for EVERY input, layout and fuel -/
theorem dense_decode_sim (I : StoreI GS) (hI : DenseAdds I) (IL : StoreI GLow) (IH : StoreI GHigh)
    (d : DStore) (hk : d.kind = .plain) (fuel : Nat) (b : List (BitVec 8)) (sf : SubFlag) :
    ResRel DRel (@Gen.DenseDecode.DenseStore.DecodeAndMergeWith I IL IH fuel (toGen d) b sf)
      (DecodeAndMergeWith fuel (Store.d d) b sf) := by
  rw [DenseStore_wrapper_eq]
  exact @decode_param_on GS Store I _ DRel (fun _ => True) (fun x st c h _ => drel_step I hI x st c h)
    fuel (toGen d) (.d d) b sf ⟨d, rfl, rfl, hk⟩ (fun _ _ _ _ _ _ => trivial)

/-- **success**: where the model decodes `(st', rest)` (no index leaving int64), the model's result is a plain
    dense store `d'` and the wrapper returns its image, the remaining bytes, nil -/
theorem dense_decode_ok (I : StoreI GS) (hI : DenseAdds I) (IL : StoreI GLow) (IH : StoreI GHigh)
    (d : DStore) (hk : d.kind = .plain) (st' : Store) (sub : Nat) (b : List (BitVec 8)) (rest : Bytes)
    (fuel : Nat) (hf : b.length + 9 ≤ fuel) (hw : NoWrap sub (nb b))
    (hm : decodeStore (.d d) sub (nb b) = some (.ok (st', rest))) :
    ∃ d', st' = .d d' ∧ d'.kind = .plain ∧
      @Gen.DenseDecode.DenseStore.DecodeAndMergeWith I IL IH fuel (toGen d) b (subflag sub)
        = .ok (toGen d', bn rest, GoErr.nil) := by
  obtain ⟨x', ⟨d', rfl, rfl, hk'⟩, hx⟩ := (dense_decode_sim I hI IL IH d hk fuel b (subflag sub)).of_ok
    (DecodeAndMergeWith_ok (.d d) st' sub b rest fuel hf hw hm)
  exact ⟨d', rfl, hk', hx⟩

/-- **refusal**: `io.EOF` or "unknown bin encoding" (receiver and input untouched), as the model -/
theorem dense_decode_error (I : StoreI GS) (hI : DenseAdds I) (IL : StoreI GLow) (IH : StoreI GHigh)
    (d : DStore) (hk : d.kind = .plain) (sub : Nat) (hsub : sub < 64) (b : List (BitVec 8)) (e : SkErr)
    (fuel : Nat) (hf : b.length + 9 ≤ fuel) (hm : decodeStore (.d d) sub (nb b) = some (.error e)) :
    (KnownSub sub ∧ e = .eof ∧ ∃ g' b',
      @Gen.DenseDecode.DenseStore.DecodeAndMergeWith I IL IH fuel (toGen d) b (subflag sub)
        = .ok (g', b', GoErr.eof)) ∨
    (¬ KnownSub sub ∧ e = .unknownBinEncoding ∧
      @Gen.DenseDecode.DenseStore.DecodeAndMergeWith I IL IH fuel (toGen d) b (subflag sub)
        = .ok (toGen d, b, GoErr.named "unknown bin encoding")) := by
  rw [DenseStore_wrapper_eq]
  exact @decode_model_error GS I DRel (fun _ => True) (fun x st c h _ => drel_step I hI x st c h)
    (toGen d) (.d d) ⟨d, rfl, rfl, hk⟩ sub hsub b e fuel hf (fun _ _ _ _ _ _ => trivial) hm

end dense

/-! ## D.2 the two collapsing stores: the step they share, then `CollapsingLowestDenseStore.DecodeAndMergeWith` -/

open DDS.GenDenseSketch (ImgRel)

section collapsing
open DDS.GenPagSketch (okOr)
open DDS.GenDense (toRes)

variable {G : Type} {img : DStore → G} {k : DKind}

/-- a regenerated add that follows the model's `addWithCount` (which keeps the kind, `GenDense.addWithCount_kind`):
    with "a panic leaves the receiver as it was" on both sides, the result is again an image -/
theorem ImgRel.add {d : DStore} (hk : d.kind = k) (i : Int) (w : Rat) {r : Res G}
    (hr : r = toRes img (d.addWithCount i w)) :
    ImgRel img k (okOr r (img d)) (((Store.d d).addWithCount i w).getD (.d d)) := by
  subst hr
  rw [GenDenseSketch.okOr_toRes]
  exact ImgRel.getD hk _ fun d' => GenDense.addWithCount_kind d d' i w

/-- one call of the decoder keeps the image relation, for an instance whose `AddWithCount` does so on finite
    weights and ignores the others, and whose `Add` does so -/
theorem ImgRel.step (I : StoreI G)
    (hA : ∀ d, d.kind = k → ∀ i w,
      ImgRel img k (I.AddWithCount (img d) i (.fin w)) (((Store.d d).addWithCount i w).getD (.d d)))
    (hN : ∀ g i c, ratOfF64 c = none → I.AddWithCount g i c = g)
    (hAdd : ∀ d, d.kind = k → ∀ i, ImgRel img k (I.Add (img d) i) (((Store.d d).addWithCount i 1).getD (.d d)))
    (g : G) (st : Store) (c : Call) (h : ImgRel img k g st) :
    ImgRel img k (@applyCall G I g c) (applyCall st c) := by
  obtain ⟨d, rfl, rfl, hk⟩ := id h
  obtain ⟨i, oc⟩ := c
  cases oc with
  | none => exact hAdd d hk i
  | some c =>
    show ImgRel img k (I.AddWithCount (img d) i c) _
    cases c with
    | fin w => exact hA d hk i w
    | pinf => rw [hN _ i _ rfl]; exact h
    | ninf => rw [hN _ i _ rfl]; exact h
    | nan => rw [hN _ i _ rfl]; exact h

end collapsing

section low
open DDS.GenStoreDecode DDS.GenEncoding DDS.Sketch DDS.Codec DDS.GenDense
open DDS.GenPagSketch (okOr okOr_ok)

theorem CollapsingLowestDenseStore_wrapper_eq (I : StoreI GS) (IL : StoreI GLow) (IH : StoreI GHigh) (fuel : Nat) (s : GLow)
    (b : List (BitVec 8)) (sf : SubFlag) :
    @Gen.DenseDecode.CollapsingLowestDenseStore.DecodeAndMergeWith I IL IH fuel s b sf
      = @DecodeAndMergeWith GLow IL fuel s b sf :=
  Res.bind_ok_right _

/-- the regenerated `AddWithCount` with a fuel computed from the receiver (`len(bins) + maxNumBins + 2`, the bound `GenLow.lowFuel`); a panicking call
    or a non-finite float leaves the receiver as it was -/
def lowAddWithCount (g : GLow) (i : Int) (c : F64) : GLow :=
  match ratOfF64 c with
  | some w => okOr (Gen.Dense.CollapsingLowestDenseStore.AddWithCount (g.DenseStore.bins.length + g.maxNumBins.toNat + 2) g i w) g
  | none => g

def lowAdd (g : GLow) (i : Int) : GLow :=
  okOr (Gen.Dense.CollapsingLowestDenseStore.Add (g.DenseStore.bins.length + g.maxNumBins.toNat + 2) g i) g

/-- what the theorems need of the `StoreI` instance handed to the wrapper -/
structure LowAdds (I : StoreI GLow) : Prop where
  addWithCount : ∀ g i c, I.AddWithCount g i c = lowAddWithCount g i c
  add : ∀ g i, I.Add g i = lowAdd g i

/-- an instance meeting `LowAdds` exists (the methods the decoder does not call are inert here) -/
@[reducible] def lowI : StoreI GLow where
  Add := lowAdd
  AddWithCount := lowAddWithCount
  Copy g := g
  Clear g := g
  IsEmpty g := Gen.Dense.DenseStore.IsEmpty g.DenseStore
  MaxIndex g := Gen.Dense.DenseStore.MaxIndex g.DenseStore
  MinIndex g := Gen.Dense.DenseStore.MinIndex g.DenseStore
  TotalCount g := .fin (Gen.Dense.DenseStore.TotalCount g.DenseStore)
  KeyAtRank _ _ := 0
  MergeWith g _ := g
  Reweight g _ := (g, GoErr.nil)
  Encode g b _ := (g, b)
  ForEachList _ := []
  DecodeAndMergeWith g b _ := (g, b, GoErr.nil)

theorem lowI_adds : LowAdds lowI := ⟨fun _ _ _ => rfl, fun _ _ => rfl⟩

theorem low_step (I : StoreI GLow) (hI : LowAdds I) (n : Nat) (g : GLow) (st : Store) (c : Call) :
    ImgRel (toLow (n : Int)) (.low n) g st →
      ImgRel (toLow (n : Int)) (.low n) (@applyCall GLow I g c) (applyCall st c) :=
  ImgRel.step I
    (fun d hk i w => by
      rw [hI.addWithCount]
      exact ImgRel.add hk i w (GenLow.addWithCount_rel _ n d i w hk (Nat.le_refl _)))
    (fun g i c hc => by rw [hI.addWithCount, lowAddWithCount, hc])
    (fun d hk i => by
      rw [hI.add]
      exact ImgRel.add hk i 1 (GenLow.add_rel _ n d i hk (Nat.le_refl _)))
    g st c

theorem low_decode_sim (I : StoreI GS) (IL : StoreI GLow) (IH : StoreI GHigh) (hI : LowAdds IL)
    (n : Nat) (d : DStore) (hk : d.kind = .low n) (fuel : Nat) (b : List (BitVec 8)) (sf : SubFlag) :
    ResRel (ImgRel (toLow (n : Int)) (.low n)) (@Gen.DenseDecode.CollapsingLowestDenseStore.DecodeAndMergeWith I IL IH fuel (toLow (n : Int) d) b sf)
      (DecodeAndMergeWith fuel (Store.d d) b sf) := by
  rw [CollapsingLowestDenseStore_wrapper_eq]
  exact @decode_param_on GLow Store IL _ _ (fun _ => True)
    (fun x st c h _ => low_step IL hI n x st c h)
    fuel (toLow (n : Int) d) (.d d) b sf ⟨d, rfl, rfl, hk⟩ (fun _ _ _ _ _ _ => trivial)

theorem low_decode_ok (I : StoreI GS) (IL : StoreI GLow) (IH : StoreI GHigh) (hI : LowAdds IL)
    (n : Nat) (d : DStore) (hk : d.kind = .low n) (st' : Store) (sub : Nat) (b : List (BitVec 8)) (rest : Bytes)
    (fuel : Nat) (hf : b.length + 9 ≤ fuel) (hw : NoWrap sub (nb b))
    (hm : decodeStore (.d d) sub (nb b) = some (.ok (st', rest))) :
    ∃ d', st' = .d d' ∧ d'.kind = .low n ∧
      @Gen.DenseDecode.CollapsingLowestDenseStore.DecodeAndMergeWith I IL IH fuel (toLow (n : Int) d) b (subflag sub)
        = .ok (toLow (n : Int) d', bn rest, GoErr.nil) := by
  obtain ⟨x', ⟨d', rfl, rfl, hk'⟩, hx⟩ := (low_decode_sim I IL IH hI n d hk fuel b (subflag sub)).of_ok
    (DecodeAndMergeWith_ok (.d d) st' sub b rest fuel hf hw hm)
  exact ⟨d', rfl, hk', hx⟩

theorem low_decode_error (I : StoreI GS) (IL : StoreI GLow) (IH : StoreI GHigh) (hI : LowAdds IL)
    (n : Nat) (d : DStore) (hk : d.kind = .low n) (sub : Nat) (hsub : sub < 64) (b : List (BitVec 8)) (e : SkErr)
    (fuel : Nat) (hf : b.length + 9 ≤ fuel) (hm : decodeStore (.d d) sub (nb b) = some (.error e)) :
    (KnownSub sub ∧ e = .eof ∧ ∃ g' b',
      @Gen.DenseDecode.CollapsingLowestDenseStore.DecodeAndMergeWith I IL IH fuel (toLow (n : Int) d) b (subflag sub)
        = .ok (g', b', GoErr.eof)) ∨
    (¬ KnownSub sub ∧ e = .unknownBinEncoding ∧
      @Gen.DenseDecode.CollapsingLowestDenseStore.DecodeAndMergeWith I IL IH fuel (toLow (n : Int) d) b (subflag sub)
        = .ok (toLow (n : Int) d, b, GoErr.named "unknown bin encoding")) := by
  rw [CollapsingLowestDenseStore_wrapper_eq]
  exact @decode_model_error GLow IL _ (fun _ => True)
    (fun x st c h _ => low_step IL hI n x st c h)
    (toLow (n : Int) d) (.d d) ⟨d, rfl, rfl, hk⟩ sub hsub b e fuel hf (fun _ _ _ _ _ _ => trivial) hm

end low

/-! ## D.3 `CollapsingHighestDenseStore.DecodeAndMergeWith` -/

section high
open DDS.GenStoreDecode DDS.GenEncoding DDS.Sketch DDS.Codec DDS.GenDense
open DDS.GenPagSketch (okOr okOr_ok)

theorem CollapsingHighestDenseStore_wrapper_eq (I : StoreI GS) (IL : StoreI GLow) (IH : StoreI GHigh) (fuel : Nat) (s : GHigh)
    (b : List (BitVec 8)) (sf : SubFlag) :
    @Gen.DenseDecode.CollapsingHighestDenseStore.DecodeAndMergeWith I IL IH fuel s b sf
      = @DecodeAndMergeWith GHigh IH fuel s b sf :=
  Res.bind_ok_right _

/-- the regenerated `AddWithCount` with a fuel computed from the receiver (`GenDense.extendFuel` at the index); a panicking call
    or a non-finite float leaves the receiver as it was -/
def highAddWithCount (g : GHigh) (i : Int) (c : F64) : GHigh :=
  match ratOfF64 c with
  | some w => okOr (Gen.Dense.CollapsingHighestDenseStore.AddWithCount (extendFuel (ofGen g.DenseStore) i i) g i w) g
  | none => g

def highAdd (g : GHigh) (i : Int) : GHigh :=
  okOr (Gen.Dense.CollapsingHighestDenseStore.Add (extendFuel (ofGen g.DenseStore) i i) g i) g

/-- what the theorems need of the `StoreI` instance handed to the wrapper -/
structure HighAdds (I : StoreI GHigh) : Prop where
  addWithCount : ∀ g i c, I.AddWithCount g i c = highAddWithCount g i c
  add : ∀ g i, I.Add g i = highAdd g i

/-- an instance meeting `HighAdds` exists (the methods the decoder does not call are inert here) -/
@[reducible] def highI : StoreI GHigh where
  Add := highAdd
  AddWithCount := highAddWithCount
  Copy g := g
  Clear g := g
  IsEmpty g := Gen.Dense.DenseStore.IsEmpty g.DenseStore
  MaxIndex g := Gen.Dense.DenseStore.MaxIndex g.DenseStore
  MinIndex g := Gen.Dense.DenseStore.MinIndex g.DenseStore
  TotalCount g := .fin (Gen.Dense.DenseStore.TotalCount g.DenseStore)
  KeyAtRank _ _ := 0
  MergeWith g _ := g
  Reweight g _ := (g, GoErr.nil)
  Encode g b _ := (g, b)
  ForEachList _ := []
  DecodeAndMergeWith g b _ := (g, b, GoErr.nil)

theorem highI_adds : HighAdds highI := ⟨fun _ _ _ => rfl, fun _ _ => rfl⟩

theorem high_step (I : StoreI GHigh) (hI : HighAdds I) (n : Nat) (g : GHigh) (st : Store) (c : Call) :
    ImgRel (toHigh (n : Int)) (.high n) g st →
      ImgRel (toHigh (n : Int)) (.high n) (@applyCall GHigh I g c) (applyCall st c) :=
  ImgRel.step I
    (fun d hk i w => by
      rw [hI.addWithCount]
      exact ImgRel.add hk i w (GenHigh.addWithCount_rel _ n d i w hk (Nat.le_refl _)))
    (fun g i c hc => by rw [hI.addWithCount, highAddWithCount, hc])
    (fun d hk i => by
      rw [hI.add]
      exact ImgRel.add hk i 1 (GenHigh.add_rel _ n d i hk (Nat.le_refl _)))
    g st c

theorem high_decode_sim (I : StoreI GS) (IL : StoreI GLow) (IH : StoreI GHigh) (hI : HighAdds IH)
    (n : Nat) (d : DStore) (hk : d.kind = .high n) (fuel : Nat) (b : List (BitVec 8)) (sf : SubFlag) :
    ResRel (ImgRel (toHigh (n : Int)) (.high n)) (@Gen.DenseDecode.CollapsingHighestDenseStore.DecodeAndMergeWith I IL IH fuel (toHigh (n : Int) d) b sf)
      (DecodeAndMergeWith fuel (Store.d d) b sf) := by
  rw [CollapsingHighestDenseStore_wrapper_eq]
  exact @decode_param_on GHigh Store IH _ _ (fun _ => True)
    (fun x st c h _ => high_step IH hI n x st c h)
    fuel (toHigh (n : Int) d) (.d d) b sf ⟨d, rfl, rfl, hk⟩ (fun _ _ _ _ _ _ => trivial)

theorem high_decode_ok (I : StoreI GS) (IL : StoreI GLow) (IH : StoreI GHigh) (hI : HighAdds IH)
    (n : Nat) (d : DStore) (hk : d.kind = .high n) (st' : Store) (sub : Nat) (b : List (BitVec 8)) (rest : Bytes)
    (fuel : Nat) (hf : b.length + 9 ≤ fuel) (hw : NoWrap sub (nb b))
    (hm : decodeStore (.d d) sub (nb b) = some (.ok (st', rest))) :
    ∃ d', st' = .d d' ∧ d'.kind = .high n ∧
      @Gen.DenseDecode.CollapsingHighestDenseStore.DecodeAndMergeWith I IL IH fuel (toHigh (n : Int) d) b (subflag sub)
        = .ok (toHigh (n : Int) d', bn rest, GoErr.nil) := by
  obtain ⟨x', ⟨d', rfl, rfl, hk'⟩, hx⟩ := (high_decode_sim I IL IH hI n d hk fuel b (subflag sub)).of_ok
    (DecodeAndMergeWith_ok (.d d) st' sub b rest fuel hf hw hm)
  exact ⟨d', rfl, hk', hx⟩

theorem high_decode_error (I : StoreI GS) (IL : StoreI GLow) (IH : StoreI GHigh) (hI : HighAdds IH)
    (n : Nat) (d : DStore) (hk : d.kind = .high n) (sub : Nat) (hsub : sub < 64) (b : List (BitVec 8)) (e : SkErr)
    (fuel : Nat) (hf : b.length + 9 ≤ fuel) (hm : decodeStore (.d d) sub (nb b) = some (.error e)) :
    (KnownSub sub ∧ e = .eof ∧ ∃ g' b',
      @Gen.DenseDecode.CollapsingHighestDenseStore.DecodeAndMergeWith I IL IH fuel (toHigh (n : Int) d) b (subflag sub)
        = .ok (g', b', GoErr.eof)) ∨
    (¬ KnownSub sub ∧ e = .unknownBinEncoding ∧
      @Gen.DenseDecode.CollapsingHighestDenseStore.DecodeAndMergeWith I IL IH fuel (toHigh (n : Int) d) b (subflag sub)
        = .ok (toHigh (n : Int) d, b, GoErr.named "unknown bin encoding")) := by
  rw [CollapsingHighestDenseStore_wrapper_eq]
  exact @decode_model_error GHigh IH _ (fun _ => True)
    (fun x st c h _ => high_step IH hI n x st c h)
    (toHigh (n : Int) d) (.d d) ⟨d, rfl, rfl, hk⟩ sub hsub b e fuel hf (fun _ _ _ _ _ _ => trivial) hm

end high

/-! ## D.4 `SparseStore.DecodeAndMergeWith` -/

section sparseDecode
open DDS.GenStoreDecode DDS.GenEncoding DDS.Sketch DDS.Codec DDS.GenSparse DDS.Gen.Sparse

theorem SparseStore_wrapper_eq (I : StoreI SparseStore) (fuel : Nat) (s : SparseStore)
    (b : List (BitVec 8)) (sf : SubFlag) :
    @Gen.SparseDecode.SparseStore.DecodeAndMergeWith I fuel s b sf = @DecodeAndMergeWith SparseStore I fuel s b sf :=
  Res.bind_ok_right _

/-- the regenerated `AddWithCount` on a `float64` weight (no loop, no fuel, no iteration order: the `ord` oracle
    of `GenSparse` is not involved); a non-finite float leaves the receiver as it was -/
def spAddWithCount (g : SparseStore) (i : Int) (c : F64) : SparseStore :=
  match ratOfF64 c with
  | some w => g.AddWithCount i w
  | none => g

/-- what the theorems need of the `StoreI` instance handed to the wrapper -/
structure SparseAdds (I : StoreI SparseStore) : Prop where
  addWithCount : ∀ g i c, I.AddWithCount g i c = spAddWithCount g i c
  add : ∀ g i, I.Add g i = g.Add i

/-- bins with rational weights, as `ForEach` hands them over (`float64`) -/
def finBins (l : List (Int × Rat)) : List (Int × F64) := l.map (fun p => (p.1, F64.fin p.2))

/-- an instance meeting `SparseAdds` exists (the methods the decoder does not call are inert here) -/
@[reducible] def sparseI : StoreI SparseStore where
  Add g i := g.Add i
  AddWithCount := spAddWithCount
  Copy g := g
  Clear _ := NewSparseStore
  IsEmpty g := g.IsEmpty
  MaxIndex _ := (0, GoErr.nil)
  MinIndex _ := (0, GoErr.nil)
  TotalCount _ := .fin 0
  KeyAtRank _ _ := 0
  MergeWith g _ := g
  Reweight g _ := (g, GoErr.nil)
  Encode g b _ := (g, b)
  ForEachList g := finBins g.counts
  DecodeAndMergeWith g b _ := (g, b, GoErr.nil)

theorem sparseI_adds : SparseAdds sparseI := ⟨fun _ _ _ => rfl, fun _ _ => rfl⟩

/-- the regenerated map holds the canonical content of the model's sparse store -/
def SRel (g : SparseStore) (st : Store) : Prop := ∃ c : Content, Rep g c ∧ st = .sp c

/-- the calls the sparse store's contract covers: finite weights are `≥ 0` (a negative weight can leave a phantom
    zero entry in the Go map, `GenSparse`) -/
def NonnegCall : Call → Prop
  | (_, some (.fin w)) => 0 ≤ w
  | _ => True

theorem srel_step (I : StoreI SparseStore) (hI : SparseAdds I) (g : SparseStore) (st : Store) (c : Call)
    (h : SRel g st) (hc : NonnegCall c) : SRel (@applyCall SparseStore I g c) (applyCall st c) := by
  obtain ⟨ct, hr, rfl⟩ := id h
  obtain ⟨i, oc⟩ := c
  cases oc with
  | some c =>
    show SRel (I.AddWithCount _ i c) _
    rw [hI.addWithCount]
    cases c with
    | fin w => exact ⟨ct.add i w, addWithCount_rep hr i w hc, rfl⟩
    | pinf => exact h
    | ninf => exact h
    | nan => exact h
  | none =>
    show SRel (I.Add _ i) _
    rw [hI.add]
    exact ⟨ct.add i 1, add_rep hr i, rfl⟩

/-- **parametricity for the sparse store**: if every finite weight the bytes carry is `≥ 0`, the wrapper on a map
    holding the canonical content `c` and the generic decoder on the model store `.sp c` agree — every fuel -/
theorem sparse_decode_sim (I : StoreI SparseStore) (hI : SparseAdds I) (g : SparseStore) (c : Content)
    (h : Rep g c) (fuel : Nat) (b : List (BitVec 8)) (sf : SubFlag)
    (hP : ∀ l b' e, decodeCalls fuel b sf = .ok (l, b', e) → ∀ x ∈ l.calls, NonnegCall x) :
    ResRel SRel (@Gen.SparseDecode.SparseStore.DecodeAndMergeWith I fuel g b sf)
      (DecodeAndMergeWith fuel (Store.sp c) b sf) := by
  rw [SparseStore_wrapper_eq]
  exact @decode_param_on SparseStore Store I _ SRel NonnegCall (fun x st c h hc => srel_step I hI x st c h hc)
    fuel g (.sp c) b sf ⟨c, h, rfl⟩ hP

theorem sparse_decode_ok (I : StoreI SparseStore) (hI : SparseAdds I) (g : SparseStore) (c : Content)
    (h : Rep g c) (st' : Store) (sub : Nat) (b : List (BitVec 8)) (rest : Bytes)
    (fuel : Nat) (hf : b.length + 9 ≤ fuel) (hw : NoWrap sub (nb b))
    (hP : ∀ l b' e, decodeCalls fuel b (subflag sub) = .ok (l, b', e) → ∀ x ∈ l.calls, NonnegCall x)
    (hm : decodeStore (.sp c) sub (nb b) = some (.ok (st', rest))) :
    ∃ c', st' = .sp c' ∧ Rep (⟨c'⟩ : SparseStore) c' ∧
      @Gen.SparseDecode.SparseStore.DecodeAndMergeWith I fuel g b (subflag sub) = .ok (⟨c'⟩, bn rest, GoErr.nil) := by
  obtain ⟨x', ⟨c', hr, rfl⟩, hx⟩ := (sparse_decode_sim I hI g c h fuel b (subflag sub) hP).of_ok
    (DecodeAndMergeWith_ok (.sp c) st' sub b rest fuel hf hw hm)
  obtain ⟨cs⟩ := x'
  have : cs = c' := hr.1
  subst this
  exact ⟨cs, rfl, hr, hx⟩

/-- refusal: no condition on the weights (only the outcome is compared) -/
theorem sparse_decode_error (I : StoreI SparseStore) (g : SparseStore) (st : Store) (sub : Nat) (hsub : sub < 64)
    (b : List (BitVec 8)) (e : SkErr) (fuel : Nat) (hf : b.length + 9 ≤ fuel)
    (hm : decodeStore st sub (nb b) = some (.error e)) :
    (KnownSub sub ∧ e = .eof ∧ ∃ g' b',
      @Gen.SparseDecode.SparseStore.DecodeAndMergeWith I fuel g b (subflag sub) = .ok (g', b', GoErr.eof)) ∨
    (¬ KnownSub sub ∧ e = .unknownBinEncoding ∧
      @Gen.SparseDecode.SparseStore.DecodeAndMergeWith I fuel g b (subflag sub)
        = .ok (g, b, GoErr.named "unknown bin encoding")) := by
  rw [SparseStore_wrapper_eq]
  exact @decode_model_error SparseStore I (fun _ _ => True) (fun _ => True) (fun _ _ _ _ _ => trivial)
    g st trivial sub hsub b e fuel hf (fun _ _ _ _ _ _ => trivial) hm

end sparseDecode

/-! ## E. `SparseStore.MergeWith(store Store)` for an argument of ANY store type -/

section sparseMerge
open DDS.GenSparse DDS.Gen.Sparse DDS.Gen.SparseMerge

def addAll (g : SparseStore) (l : List (Int × Rat)) : SparseStore :=
  l.foldl (fun acc p => acc.AddWithCount p.1 p.2) g

theorem merge_loop {S : Type} [StoreI S] : ∀ (l : List (Int × Rat)) (g : SparseStore),
    SparseStore.MergeWith.loop1 (S := S) (finBins l) g = .done (addAll g l) := by
  intro l
  induction l with
  | nil => intro g; rfl
  | cons p rest ih =>
    intro g
    obtain ⟨i, w⟩ := p
    simp only [finBins, List.map_cons, SparseStore.MergeWith.loop1, ratOfF64, optL_some]
    exact ih _

/-- **the fallback loop, exactly**: for every argument type `S`, every argument whose `ForEach` enumerates the
    finite bins `l`, every receiver (no invariant), every fuel (the loop is structural) -/
theorem sparse_mergeWith_fold {S : Type} [StoreI S] (fuel : Nat) (g : SparseStore) (o : S)
    (l : List (Int × Rat)) (hl : StoreI.ForEachList o = finBins l) :
    SparseStore.MergeWith fuel g o = .ok (addAll g l) := by
  unfold SparseStore.MergeWith
  rw [hl, merge_loop]
  rfl

theorem addAll_rep : ∀ (l : List (Int × Rat)) (g : SparseStore) (c : Content), Rep g c → (∀ p ∈ l, 0 ≤ p.2) →
    Rep (addAll g l) (c.merge l) :=
  fun l g c h hl => foldl_addWithCount_rep l hl g c h

/-- **merging from any store kind** (C02 / C04): a receiver holding the canonical content `c` ends holding the
    model's `c.merge l` — the fold of `Content.add` over the argument's bins, which is what `Store.mergeWith`
    does for a sparse receiver — whatever the type of the argument; weights `≥ 0` (the sparse store's contract,
    see `GenSparse`) -/
theorem sparse_mergeWith_any {S : Type} [StoreI S] (fuel : Nat) (g : SparseStore) (c : Content) (h : Rep g c)
    (o : S) (l : List (Int × Rat)) (hl : StoreI.ForEachList o = finBins l) (hpos : ∀ p ∈ l, 0 ≤ p.2) :
    SparseStore.MergeWith fuel g o = .ok ⟨c.merge l⟩ ∧ Rep (⟨c.merge l⟩ : SparseStore) (c.merge l) := by
  have hr := addAll_rep l g c h hpos
  rw [sparse_mergeWith_fold fuel g o l hl]
  have : addAll g l = ⟨c.merge l⟩ := by
    cases hg : addAll g l with
    | mk cs => rw [hg] at hr; rw [← hr.1]
  rw [this] at hr ⊢
  exact ⟨rfl, hr⟩

/-- against the model, argument = any model store (dense, collapsing, sparse, paginated) -/
theorem sparse_mergeWith_model (fuel : Nat) (g : SparseStore) (c : Content) (h : Rep g c) (o : Store)
    (l : List (Int × Rat)) (hl : o.binsList = some l) (hpos : ∀ p ∈ l, 0 ≤ p.2) :
    ∃ g', SparseStore.MergeWith fuel g o = .ok g' ∧ Rep g' (c.merge l) ∧
      (Store.sp c).mergeWith o = some (.sp g'.counts) := by
  have hfe : (StoreI.ForEachList o : List (Int × F64)) = finBins l := by
    show (o.binsList.getD []).map _ = _
    rw [hl]; rfl
  obtain ⟨h1, h2⟩ := sparse_mergeWith_any fuel g c h o l hfe hpos
  refine ⟨_, h1, h2, ?_⟩
  have : (Store.sp c).mergeWith o = o.binsList.bind fun l => some (.sp (c.merge l)) := by cases o <;> rfl
  rw [this, hl]
  rfl

/-- a non-finite weight in the enumeration: the regenerated code stops with `.panic` (the translation reads a
    `float64` weight as a rational; Go would store the `Inf`/`NaN`) — outside the model -/
theorem sparse_mergeWith_nonfinite {S : Type} [StoreI S] (fuel : Nat) (o : S)
    (hx : ∃ p ∈ (StoreI.ForEachList o : List (Int × F64)), ratOfF64 p.2 = none) (g : SparseStore) :
    SparseStore.MergeWith fuel g o = .panic := by
  unfold SparseStore.MergeWith
  have : ∀ (l : List (Int × F64)), (∃ p ∈ l, ratOfF64 p.2 = none) → ∀ g : SparseStore,
      SparseStore.MergeWith.loop1 (S := S) l g = .panic := by
    intro l
    induction l with
    | nil => intro ⟨p, hp, _⟩; cases hp
    | cons q rest ih =>
      intro hx g
      obtain ⟨i, w⟩ := q
      simp only [SparseStore.MergeWith.loop1]
      cases hw : ratOfF64 w with
      | none => rfl
      | some r =>
        simp only [optL_some]
        apply ih
        obtain ⟨p, hp, hn⟩ := hx
        rcases List.mem_cons.1 hp with rfl | hp
        · rw [hw] at hn; cases hn
        · exact ⟨p, hp, hn⟩
  rw [this _ hx]
  rfl

/-! ### the order of the enumeration does not matter; arguments that are regenerated stores -/

/-- the argument may enumerate its bins in any order (Go's `ForEach` over a map has no fixed order) -/
theorem sparse_mergeWith_perm {S : Type} [StoreI S] (fuel : Nat) (g : SparseStore) (c : Content) (h : Rep g c)
    (o : S) (l l' : List (Int × Rat)) (hl : StoreI.ForEachList o = finBins l') (hp : l'.Perm l)
    (hpos : ∀ p ∈ l, 0 ≤ p.2) :
    SparseStore.MergeWith fuel g o = .ok ⟨c.merge l⟩ := by
  rw [(sparse_mergeWith_any fuel g c h o l' hl (fun p hp' => hpos p (hp.mem_iff.1 hp'))).1,
    Content.merge_perm c (Content.nz_of_wf h.2) hp]

/-- sparse into sparse, the argument ranged over in ANY lawful order `ord` (the instance's `ForEachList` being
    the regenerated `range` over the map): the receiver ends with the merge of the two contents -/
theorem sparse_mergeWith_sparse (I : StoreI SparseStore) (ord : MapOrder) (hord : ord.Lawful)
    (hI : ∀ o : SparseStore, I.ForEachList o = finBins (mrange ord o.counts))
    (fuel : Nat) (g : SparseStore) (c : Content) (h : Rep g c) (o : SparseStore) (co : Content) (ho : Rep o co) :
    @SparseStore.MergeWith SparseStore I fuel g o = .ok ⟨c.merge co⟩ := by
  obtain ⟨rfl, hwf⟩ := ho
  exact @sparse_mergeWith_perm SparseStore I fuel g c h o o.counts (mrange ord o.counts) (hI o)
    (mrange_perm ord hord o.counts hwf.1) (fun p hp => Rat.le_of_lt (hwf.2 p hp))

/-- argument = the regenerated dense store (`GenDenseSketch.GDS`, whose `ForEachList` is the model image's bins) -/
theorem sparse_mergeWith_dense (fuel : Nat) (g : SparseStore) (c : Content) (h : Rep g c)
    (x : GenDenseSketch.GDS) (hpos : ∀ p ∈ (GenDense.ofGen x.g).binsList.getD [], 0 ≤ p.2) :
    SparseStore.MergeWith fuel g x = .ok ⟨c.merge ((GenDense.ofGen x.g).binsList.getD [])⟩ :=
  (sparse_mergeWith_any fuel g c h x _ rfl hpos).1

end sparseMerge

/-! ## F. kernel-checked runs (non-vacuity of the instances and hypotheses) -/

section examples
open DDS.Gen.Sparse

def okOf {α : Type} : Res α → Option α
  | .ok a => some a
  | _ => none

/-- layout "index deltas", 2 bins, deltas `+3, +1` (zig-zag `6, 2`), one byte left over: the calls are
    `Add(3)`, `Add(4)` -/
theorem decodeCalls_run : decodeCalls 12 [2#8, 6#8, 2#8, 7#8] BinEncodingIndexDeltas
    = .ok (⟨[(3, none), (4, none)]⟩, [7#8], GoErr.nil) := by rfl

example : decodeCalls 12 [2#8, 6#8, 2#8, 7#8] BinEncodingIndexDeltas
    = .ok (⟨[(3, none), (4, none)]⟩, [7#8], GoErr.nil) := decodeCalls_run

/-- the dense wrapper with `denseI` on `NewDenseStore()`: total 2, window `[3, 4]`, byte `7` left, nil -/
example : (okOf (@Gen.DenseDecode.DenseStore.DecodeAndMergeWith denseI lowI highI 12 Gen.Dense.NewDenseStore
      [2#8, 6#8, 2#8, 7#8] BinEncodingIndexDeltas)).map
        (fun r => (r.1.count, r.1.minIndex, r.1.maxIndex, r.2)) = some (2, 3, 4, [7#8], GoErr.nil) := by
  decide +kernel

/-- the sparse wrapper with `sparseI` on `NewSparseStore()`: the two calls above, replayed -/
example : okOf (@Gen.SparseDecode.SparseStore.DecodeAndMergeWith sparseI 12 NewSparseStore
      [2#8, 6#8, 2#8, 7#8] BinEncodingIndexDeltas) = some (⟨[(3, 1), (4, 1)]⟩, [7#8], GoErr.nil) := by
  rw [SparseStore_wrapper_eq, @decode_factor _ sparseI, decodeCalls_run]
  decide +kernel

/-- `SparseStore.MergeWith` with a regenerated DENSE store as argument (fuel 0: the loop is structural) -/
example : okOf (Gen.SparseMerge.SparseStore.MergeWith 0 (NewSparseStore.AddWithCount 4 2)
      (GenDenseSketch.gAdd (GenDenseSketch.gAdd ⟨Gen.Dense.NewDenseStore⟩ 3) 4))
    = some ⟨[(3, 1), (4, 3)]⟩ := by
  decide +kernel

end examples

end DDS.GenDecodeWrap
