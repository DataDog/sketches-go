/-
  DDS.Proofs.DenseKinds — ONE invariant for the three dense kinds, indexed by the kind.

  `KInv k s`: the store `s` of kind `k` satisfies the invariant of its kind and all its
  indexes are int32 (`Inv` + `Bounded32` for the plain kind, `InvLow N` / `InvHigh N` + `Tight32`
  for the collapsing ones).  The three developments (`DDS.Proofs.Dense`, `DDS.Proofs.Collapsing`,
  `DDS.Proofs.CollapsingHigh`) meet here in one statement per operation: `KInv.add`, `KInv.clear`,
  `KInv.reweight`, `KInv.mergeSame` say that the operation does not panic, keeps `KInv k`, and acts
  on the content like the spec step followed by the clamping rule `k.clamp` of the kind.  What a
  store of kind `k` holds after weights were added is said once, `KInv.spec_of_holds`: the
  collapsing developments end in `Holds s' φ m mn mx` with `φ` the index map `k.clamp.key m` of
  the rule, and tightness and `content s' = k.clamp.apply m` follow for every kind.

  What is generic in the clamping rule is proved once, from these and the laws of `Clamp`
  (`DDS.Proofs.Bins`): the `ForEach` fallback merge (`KInv.mergeBins`) and histories
  (`kinv_history`: the content after a history is the exact content clamped ONCE).  The
  statements for the single kinds (`run_ok`, `mergeBins_ok`, `low_history`, `high_history`, …) are
  their instances.

  Core Lean only; `hG : GrowthOK` is discharged in `DDS.Proofs.Growth`.
-/
import DDS.Proofs.Collapsing
import DDS.Proofs.CollapsingHigh
import DDS.Proofs.Refine

namespace DDS

/-- the clamping rule of a dense kind -/
def DKind.clamp : DKind → Clamp
  | .plain => .none
  | .low n => .low n
  | .high n => .high n

/-- the pairs of kinds for which `MergeWith` takes the same-kind fast path (`Store.mergeWith`) -/
def DKind.same : DKind → DKind → Bool
  | .plain, .plain => true
  | .low _, .low _ => true
  | .high _, .high _ => true
  | _, _ => false

namespace DStore

/-- the invariant of a dense-family store of kind `k` whose indexes are int32 -/
def KInv : DKind → DStore → Prop
  | .plain, s => Inv s ∧ Bounded32 s
  | .low N, s => InvLow N s ∧ Tight32 s
  | .high N, s => InvHigh N s ∧ Tight32 s

namespace KInv
variable {k : DKind} {s : DStore}

theorem kind (h : KInv k s) : s.kind = k := by
  cases k with
  | plain => exact h.1.plain
  | low N => exact h.1.kind
  | high N => exact h.1.kind

theorem core (h : KInv k s) : Core s := by
  cases k with
  | plain => exact h.1.core
  | low N => exact h.1.core
  | high N => exact h.1.core

theorem tight (h : KInv k s) : Tight32 s := by
  cases k with
  | plain => exact h.1.tight32 h.2
  | low N => exact h.2
  | high N => exact h.2

theorem clampOK (h : KInv k s) : k.clamp.OK := by
  cases k with
  | plain => trivial
  | low N => exact h.1.hN
  | high N => exact h.1.hN

/-- EVERY observer, for the three kinds -/
theorem refines (h : KInv k s) : (Store.d s).Refines (content s) := h.core.refines h.tight

theorem fixed (h : KInv k s) : k.clamp.apply (content s) = content s := by
  cases k with
  | plain => rfl
  | low N => exact low_content_fixed N s h.1 h.2
  | high N => exact high_content_fixed N s h.1 h.2

end KInv

theorem kinv_new (k : DKind) (hk : k.clamp.OK) :
    KInv k (DStore.new k) ∧ content (DStore.new k) = [] := by
  refine ⟨?_, (core_new k).content_empty rfl⟩
  cases k with
  | plain => exact ⟨inv_new, bounded32_new⟩
  | low N => exact ⟨invLow_new N hk, tight32_new _⟩
  | high N => exact ⟨invHigh_new N hk, tight32_new _⟩

/-! ## from `Holds` to the content, for every kind -/

/-- What a store of kind `k` holds after weights were added, for the three kinds: `s'` holds the
    exact sum `m` of the good store `s` and a weight function `g` living in `[a, b]` (int32),
    positive at both ends, moved along the index map `φ` of the kind's clamping rule at `m`; then
    `s'` is tight and its content is `m` clamped.  (`hkey`: the maps the three developments work
    with are `Clamp.key`, by `rfl`, `Clamp.key_low`, `Clamp.key_high`.) -/
theorem KInv.spec_of_holds {k : DKind} {s s' : DStore} (h : KInv k s) (h' : Core s')
    {g : Int → Rat} (hg : ∀ j, 0 ≤ g j) {a b : Int} (ha : 0 < g a) (hb : 0 < g b)
    (ha32 : minInt32 ≤ a ∧ a ≤ maxInt32) (hb32 : minInt32 ≤ b ∧ b ≤ maxInt32)
    (hgo : ∀ j, j < a ∨ b < j → g j = 0) {m : Content} (hm : m.WF)
    (hlm : ∀ j, m.lookup j = wt s j + g j) {φ : Int → Int}
    (x : Holds s' φ m (min a s.minIndex) (max b s.maxIndex))
    (hkey : m.minIndex? = some (min a s.minIndex) → m.maxIndex? = some (max b s.maxIndex) →
      k.clamp.key m = φ) :
    Tight32 s' ∧ content s' = k.clamp.apply m := by
  obtain ⟨hmn, hmx⟩ := h.core.sum_extremes h.tight hg ha hb ha32.2 hb32.1 hgo hm hlm
  obtain ⟨⟨w1, _⟩, _, w4⟩ := h.core.window32 h.tight
  obtain rfl := hkey hmn hmx
  have hab : a ≤ b := Int.not_lt.1 fun hlt => Rat.lt_irrefl (hgo a (Or.inr hlt) ▸ ha)
  have k1 := k.clamp.key_mem h.clampOK hmn hmx _ (Int.le_refl _) (by omega)
  have k2 := k.clamp.key_mem h.clampOK hmn hmx _ (by omega) (Int.le_refl _)
  obtain ⟨ht', hc'⟩ := x.spec h' (k.clamp.key_mono m) hm hmn hmx (by omega) (by omega)
  exact ⟨ht', hc'.trans (k.clamp.apply_eq_relabel m hm).symm⟩

/-- `spec_of_holds` for what `addWithCount` leaves: nothing changed for a zero weight, else `s'`
    holds the exact content with the bin added, moved along `φ` -/
theorem KInv.add_of_holds {k : DKind} {s s' : DStore} (h : KInv k s) {i : Int} {w : Rat}
    (hw : 0 ≤ w) (hi : minInt32 ≤ i ∧ i ≤ maxInt32) (h' : Core s') (hz : w = 0 → s' = s)
    {φ : Int → Int}
    (hf : w ≠ 0 → Holds s' φ ((content s).add i w) (min i s.minIndex) (max i s.maxIndex))
    (hkey : ((content s).add i w).minIndex? = some (min i s.minIndex) →
      ((content s).add i w).maxIndex? = some (max i s.maxIndex) →
      k.clamp.key ((content s).add i w) = φ) :
    Tight32 s' ∧ content s' = k.clamp.apply ((content s).add i w) := by
  by_cases hw0 : w = 0
  · rw [hz hw0, hw0, Content.add_zero_weight, h.fixed]
    exact ⟨h.tight, rfl⟩
  · have hgi : 0 < (if i = i then w else 0) := by
      rw [if_pos rfl]; exact Rat.lt_of_le_of_ne hw (Ne.symm hw0)
    exact h.spec_of_holds h' (g := fun j => if j = i then w else 0)
      (fun j => by split; exact hw; exact Rat.le_refl) hgi hgi hi hi (fun j hj => if_neg (by omega))
      (Content.wf_add (content s) i w h.core.content_wf hw)
      (fun j => by rw [Content.lookup_add, h.core.lookup_content]) (hf hw0) hkey

/-- `spec_of_holds` for what `mergeSame` leaves: nothing changed for an empty argument, else `s'`
    holds the exact merged content moved along `φ` -/
theorem KInv.merge_of_holds {k k' : DKind} {s o s' : DStore} (h : KInv k s) (ho : KInv k' o)
    (h' : Core s') (hz : o.count = 0 → s' = s) {φ : Int → Int}
    (hf : o.count ≠ 0 → Holds s' φ ((content s).merge (content o)) (min o.minIndex s.minIndex)
      (max o.maxIndex s.maxIndex))
    (hkey : ((content s).merge (content o)).minIndex? = some (min o.minIndex s.minIndex) →
      ((content s).merge (content o)).maxIndex? = some (max o.maxIndex s.maxIndex) →
      k.clamp.key ((content s).merge (content o)) = φ) :
    Tight32 s' ∧ content s' = k.clamp.apply ((content s).merge (content o)) := by
  by_cases h0 : o.count = 0
  · rw [hz h0, ho.core.content_empty h0, Content.merge_nil_right, h.fixed]
    exact ⟨h.tight, rfl⟩
  · obtain ⟨o1, o2⟩ := ho.core.window32 ho.tight
    exact h.spec_of_holds h' ho.core.wt_nonneg (ho.tight h0).1 (ho.tight h0).2.1 o1 o2
      ho.core.outside (Content.wf_merge _ _ h.core.content_wf ho.core.content_wf)
      (fun j => by rw [Content.lookup_merge, h.core.lookup_content, ho.core.lookup_content])
      (hf h0) hkey

/-! ## the three developments, as one statement per operation -/

theorem KInv.add (hG : GrowthOK) {k : DKind} {s : DStore} (h : KInv k s) (i : Int)
    (hi : minInt32 ≤ i ∧ i ≤ maxInt32) (w : Rat) (hw : 0 ≤ w) :
    ∃ s', s.addWithCount i w = some s' ∧ KInv k s' ∧
      content s' = k.clamp.apply ((content s).add i w) := by
  have hsp := h.core.spanOK h.tight i i hi hi
  cases k with
  | plain =>
    obtain ⟨s', h1, h2, h3, _⟩ := addWithCount_ok hG s h.1 i w hw hsp
    exact ⟨s', h1, ⟨h2, addWithCount_bounded32 hG s h.1 h.2 i w hw hi s' h1⟩,
      h2.core.content_eq ((content s).add i w) (Content.wf_add _ i w h.core.content_wf hw) fun j => by
        rw [h3, Content.lookup_add, h.core.lookup_content]⟩
  | low N =>
    obtain ⟨s', h1, hinv, -, hz, hf⟩ := low_addWithCount_full hG N s h.1 i w hw hsp
    obtain ⟨t', c'⟩ := h.add_of_holds hw hi hinv.core hz hf fun _ hmx => Clamp.key_low hmx
    exact ⟨s', h1, ⟨hinv, t'⟩, c'⟩
  | high N =>
    obtain ⟨s', h1, hinv, -, hz, hf⟩ := high_addWithCount_full hG N s h.1 i w hw hsp
    obtain ⟨t', c'⟩ := h.add_of_holds hw hi hinv.core hz hf fun hmn _ => Clamp.key_high hmn
    exact ⟨s', h1, ⟨hinv, t'⟩, c'⟩

theorem KInv.clear {k : DKind} {s : DStore} (h : KInv k s) :
    KInv k s.clear ∧ content s.clear = [] := by
  refine ⟨?_, (core_clear s).content_empty rfl⟩
  cases k with
  | plain => exact ⟨inv_clear s h.1, clear_bounded32 s⟩
  | low N => exact ⟨invLow_clear N s h.1, tight32_clear s⟩
  | high N => exact ⟨invHigh_clear N s h.1, tight32_clear s⟩

theorem KInv.reweight {k : DKind} {s : DStore} (h : KInv k s) (w : Rat) (hw : 0 < w) :
    ∃ s', s.reweight w = some s' ∧ KInv k s' ∧ content s' = (content s).scale w := by
  cases k with
  | plain =>
    obtain ⟨s', h1, h2, h3, _⟩ := reweight_ok s h.1 w hw
    exact ⟨s', h1, ⟨h2, reweight_bounded32 s h.1 h.2 w hw s' h1⟩,
      h2.core.content_eq ((content s).scale w) (Content.wf_scale _ w h.core.content_wf hw) fun j => by
        rw [h3, Content.lookup_scale, h.core.lookup_content]⟩
  | low N =>
    obtain ⟨s', h1, h2, h3, _, h5⟩ := low_reweight_ok N s h.1 h.2 w hw
    exact ⟨s', h1, ⟨h2, h3⟩, h5⟩
  | high N =>
    obtain ⟨s', h1, h2, h3, _, h5⟩ := high_reweight_ok N s h.1 h.2 w hw
    exact ⟨s', h1, ⟨h2, h3⟩, h5⟩

/-- the same-kind fast path of `MergeWith`, whatever the two bin limits -/
theorem KInv.mergeSame (hG : GrowthOK) {k k' : DKind} {s o : DStore} (h : KInv k s) (ho : KInv k' o)
    (hf : k.same k' = true) :
    ∃ s', s.mergeSame o = some s' ∧ KInv k s' ∧
      content s' = k.clamp.apply ((content s).merge (content o)) ∧
      s'.count = s.count + o.count := by
  have hsp := h.core.spanOK h.tight _ _ (ho.core.window32 ho.tight).1 (ho.core.window32 ho.tight).2
  cases k <;> cases k' <;> try cases hf
  · obtain ⟨s', h1, h2, h3, h4⟩ := mergeSame_ok hG s o h.1 ho.1 hsp
    exact ⟨s', h1, ⟨h2, mergeSame_bounded32 hG s o h.1 ho.1 h.2 ho.2 s' h1⟩,
      h2.core.content_eq ((content s).merge (content o))
        (Content.wf_merge _ _ h.core.content_wf ho.core.content_wf) fun j => by
        rw [h3, Content.lookup_merge, h.core.lookup_content, ho.core.lookup_content], h4⟩
  · obtain ⟨s', h1, hinv, hcnt, hz, hx⟩ := low_mergeSame_full hG _ _ s o h.1 ho.1 hsp
    obtain ⟨t', c'⟩ := h.merge_of_holds ho hinv.core hz hx fun _ hmx => Clamp.key_low hmx
    exact ⟨s', h1, ⟨hinv, t'⟩, c', hcnt⟩
  · obtain ⟨s', h1, hinv, hcnt, hz, hx⟩ := high_mergeSame_full hG _ _ s o h.1 ho.1 hsp
    obtain ⟨t', c'⟩ := h.merge_of_holds ho hinv.core hz hx fun hmn _ => Clamp.key_high hmn
    exact ⟨s', h1, ⟨hinv, t'⟩, c', hcnt⟩

/-! ## generic in the kind: the `ForEach` fallback merge and histories

Both are stated relative to an exact content `E` of which the store holds the clamped form
(`KRel`): clamping at every step is clamping once (`Clamp.apply_add_apply`). -/

/-- the store satisfies the invariant of its kind and holds the clamped form of the canonical content `E` -/
def KRel (k : DKind) (s : DStore) (E : Content) : Prop :=
  KInv k s ∧ E.WF ∧ content s = k.clamp.apply E

theorem KInv.rel {k : DKind} {s : DStore} (h : KInv k s) : KRel k s (content s) :=
  ⟨h, h.core.content_wf, h.fixed.symm⟩

theorem KRel.add (hG : GrowthOK) {k : DKind} {s : DStore} {E : Content} (h : KRel k s E) (i : Int)
    (hi : minInt32 ≤ i ∧ i ≤ maxInt32) (w : Rat) (hw : 0 ≤ w) :
    ∃ s', s.addWithCount i w = some s' ∧ KRel k s' (E.add i w) := by
  obtain ⟨h, hE, hc⟩ := h
  obtain ⟨s', h1, h2, h3⟩ := h.add hG i hi w hw
  exact ⟨s', h1, h2, Content.wf_add E i w hE hw,
    by rw [h3, hc, k.clamp.apply_add_apply h.clampOK E hE i w hw]⟩

theorem KRel.mergeBins (hG : GrowthOK) {k : DKind} (l : List (Int × Rat)) (hl : ∀ p ∈ l, 0 ≤ p.2)
    (hl32 : ∀ p ∈ l, minInt32 ≤ p.1 ∧ p.1 ≤ maxInt32) {s : DStore} {E : Content} (h : KRel k s E) :
    ∃ s', s.mergeBins l = some s' ∧ KRel k s' (E.merge l) :=
  foldlM_sim l (fun p hp _ _ h => h.add hG p.1 (hl32 p hp) p.2 (hl p hp)) h

/-- the fallback merge `other.ForEach(s.AddWithCount)` into a store of any dense kind: the bins
    have int32 indexes (what every store reports) and non-negative weights -/
theorem KInv.mergeBins (hG : GrowthOK) {k : DKind} {s : DStore} (h : KInv k s) (l : List (Int × Rat))
    (hl : ∀ p ∈ l, 0 ≤ p.2) (hl32 : ∀ p ∈ l, minInt32 ≤ p.1 ∧ p.1 ≤ maxInt32) :
    ∃ s', s.mergeBins l = some s' ∧ KInv k s' ∧
      content s' = k.clamp.apply ((content s).merge l) :=
  let ⟨s', h1, h2, _, h3⟩ := h.rel.mergeBins hG l hl hl32
  ⟨s', h1, h2, h3⟩

/-- the count after a merge of bins, read off the content -/
theorem KInv.mergeBins_count {k : DKind} {s s' : DStore} (h : KInv k s) (h' : KInv k s')
    (l : List (Int × Rat)) (hc : content s' = k.clamp.apply ((content s).merge l)) :
    s'.count = s.count + (l.map (·.2)).sum := by
  have t' : s'.count = _ := h'.core.total
  have t : s.count = _ := h.core.total
  rw [t', t, hc, Clamp.total_apply, Content.total_eq_wsum, Content.wsum_merge,
    ← Content.total_eq_wsum, ← Content.total_eq_wsum, Content.total_eq_sum l]

theorem KRel.step (hG : GrowthOK) {k : DKind} {s : DStore} {E : Content} (h : KRel k s E) (op : Op)
    (hop : op.ok32) : ∃ s', applyOp s op = some s' ∧ KRel k s' (specStep E op) := by
  cases op with
  | add i w => exact h.add hG i hop.2 w hop.1
  | clear =>
    exact ⟨s.clear, rfl, h.1.clear.1, Content.wf_nil, h.1.clear.2.trans k.clamp.apply_nil.symm⟩
  | reweight w =>
    obtain ⟨h, hE, hc⟩ := h
    simp only [applyOp, specStep]
    by_cases hw : w ≤ 0 ∨ w = 1
    · rw [if_pos hw, if_pos hw]; exact ⟨s, rfl, h, hE, hc⟩
    · rw [if_neg hw, if_neg hw]
      have hw' : 0 < w := Rat.not_le.1 fun h => hw (Or.inl h)
      obtain ⟨s', h1, h2, h3⟩ := h.reweight w hw'
      exact ⟨s', h1, h2, Content.wf_scale E w hE hw', by rw [h3, hc, k.clamp.apply_scale E hE w hw']⟩

theorem KRel.history (hG : GrowthOK) {k : DKind} (ops : List Op) (hops : ∀ op ∈ ops, op.ok32)
    {s : DStore} {E : Content} (h : KRel k s E) :
    ∃ s', ops.foldlM applyOp s = some s' ∧ KRel k s' (ops.foldl specStep E) :=
  foldlM_sim ops (fun op hop _ _ h => h.step hG op (hops op hop)) h

/-- after ANY history (int32 indexes, non-negative weights) on a fresh store of ANY dense kind: no
    panic, the invariant, and the content is the exact content clamped ONCE -/
theorem kinv_history (hG : GrowthOK) (k : DKind) (hk : k.clamp.OK) (ops : List Op)
    (hops : ∀ op ∈ ops, op.ok32) :
    ∃ s, ops.foldlM applyOp (DStore.new k) = some s ∧ KInv k s ∧
      content s = k.clamp.apply (exactContent ops) :=
  let ⟨s, h1, h2, _, h3⟩ := KRel.history hG ops hops
    ⟨(kinv_new k hk).1, Content.wf_nil, (kinv_new k hk).2.trans k.clamp.apply_nil.symm⟩
  ⟨s, h1, h2, h3⟩

/-! ## the plain kind -/

/-- the fallback merge `other.ForEach(s.AddWithCount)`; the bins have int32 indexes (what
    every store reports) and the receiver holds int32 indexes -/
theorem mergeBins_ok (hG : GrowthOK) (s : DStore) (h : Inv s) (hb : Bounded32 s)
    (l : List (Int × Rat)) (hl : ∀ p ∈ l, 0 ≤ p.2)
    (hl32 : ∀ p ∈ l, minInt32 ≤ p.1 ∧ p.1 ≤ maxInt32) :
    ∃ s', s.mergeBins l = some s' ∧ Inv s' ∧
      (∀ j, wt s' j = wt s j + ((l.filter (fun p => p.1 = j)).map (·.2)).sum) ∧
      s'.count = s.count + (l.map (·.2)).sum ∧ Bounded32 s' := by
  obtain ⟨s', h1, h2, h3⟩ := KInv.mergeBins hG (k := .plain) ⟨h, hb⟩ l hl hl32
  have h3' : content s' = (content s).merge l := h3
  refine ⟨s', h1, h2.1, fun j => ?_, ?_, h2.2⟩
  · rw [← h2.core.lookup_content, h3', Content.lookup_merge, h.core.lookup_content,
      Content.lookup_eq_wsum l j]
    rfl
  · exact KInv.mergeBins_count (k := .plain) ⟨h, hb⟩ h2 l h3

/-- with int32 indexes every operation is safe; int32 indexes are needed for safety itself, not only
    for the exactness of `MinIndex`/`MaxIndex`: see `addWithCount_far_panics` -/
theorem applyOp_ok (hG : GrowthOK) (s : DStore) (h : Inv s) (hb : Bounded32 s) (op : Op)
    (hop : match op with | .add i w => 0 ≤ w ∧ minInt32 ≤ i ∧ i ≤ maxInt32 | _ => True) :
    ∃ s', applyOp s op = some s' ∧ Inv s' :=
  let ⟨s', h1, h2, _⟩ := (KInv.rel (k := .plain) ⟨h, hb⟩).step hG op ((ok32_iff op).2 hop)
  ⟨s', h1, h2.1⟩

/-- every history of adds (int32 indexes, non-negative weights), clears and reweightings
    started from `NewDenseStore()` succeeds, keeps the invariant and the int32 bound, and holds
    the exact content -/
theorem run_ok32 (hG : GrowthOK) (ops : List Op) (hops : ∀ op ∈ ops, op.ok32) :
    ∃ s, ops.foldlM applyOp (DStore.new .plain) = some s ∧ Inv s ∧ Bounded32 s ∧
      content s = exactContent ops :=
  let ⟨s, h1, h2, h3⟩ := kinv_history hG .plain trivial ops hops
  ⟨s, h1, h2.1, h2.2, h3⟩

/-- every history of adds (int32 indexes, non-negative weights), clears and reweightings
    started from `NewDenseStore()` succeeds and keeps the invariant -/
theorem run_ok (hG : GrowthOK) (ops : List Op)
    (hops : ∀ op ∈ ops, match op with
      | .add i w => 0 ≤ w ∧ minInt32 ≤ i ∧ i ≤ maxInt32 | _ => True) :
    ∃ s, ops.foldlM applyOp (DStore.new .plain) = some s ∧ Inv s :=
  let ⟨s, h1, h2, _⟩ := run_ok32 hG ops fun op hop => (ok32_iff op).2 (hops op hop)
  ⟨s, h1, h2⟩

/-! ## the collapsing kinds -/

/-- after ANY history (int32 indexes, non-negative weights) the store does not panic, keeps its
    invariant, and its content is the exact content folded ONCE at `max − N + 1` -/
theorem low_history (hG : GrowthOK) (N : Nat) (hN : 1 ≤ N) (ops : List Op)
    (hops : ∀ op ∈ ops, op.ok32) :
    ∃ s, ops.foldlM applyOp (DStore.new (.low N)) = some s ∧ InvLow N s ∧ Tight32 s ∧
      content s = Content.specLow N (exactContent ops) :=
  let ⟨s, h1, h2, h3⟩ := kinv_history hG (.low N) hN ops hops
  ⟨s, h1, h2.1, h2.2, h3⟩

/-- after ANY history (int32 indexes, non-negative weights) the highest-collapsing store does not
    panic, keeps its invariant, and its content is the exact content folded ONCE at `min + N − 1` -/
theorem high_history (hG : GrowthOK) (N : Nat) (hN : 1 ≤ N) (ops : List Op)
    (hops : ∀ op ∈ ops, op.ok32) :
    ∃ s, ops.foldlM applyOp (DStore.new (.high N)) = some s ∧ InvHigh N s ∧ Tight32 s ∧
      content s = Content.specHigh N (exactContent ops) :=
  let ⟨s, h1, h2, h3⟩ := kinv_history hG (.high N) hN ops hops
  ⟨s, h1, h2.1, h2.2, h3⟩

theorem low_mergeBins_inv (hG : GrowthOK) (N : Nat) (s : DStore) (h : InvLow N s) (ht : Tight32 s)
    (l : List (Int × Rat)) (hl : ∀ p ∈ l, 0 ≤ p.2)
    (hl32 : ∀ p ∈ l, minInt32 ≤ p.1 ∧ p.1 ≤ maxInt32) :
    ∃ s', s.mergeBins l = some s' ∧ InvLow N s' ∧ s'.count = s.count + (l.map (·.2)).sum := by
  obtain ⟨s', h1, h2, h3⟩ := KInv.mergeBins hG (k := .low N) ⟨h, ht⟩ l hl hl32
  exact ⟨s', h1, h2.1, KInv.mergeBins_count (k := .low N) ⟨h, ht⟩ h2 l h3⟩

theorem high_mergeBins_inv (hG : GrowthOK) (N : Nat) (s : DStore) (h : InvHigh N s) (ht : Tight32 s)
    (l : List (Int × Rat)) (hl : ∀ p ∈ l, 0 ≤ p.2)
    (hl32 : ∀ p ∈ l, minInt32 ≤ p.1 ∧ p.1 ≤ maxInt32) :
    ∃ s', s.mergeBins l = some s' ∧ InvHigh N s' ∧ s'.count = s.count + (l.map (·.2)).sum := by
  obtain ⟨s', h1, h2, h3⟩ := KInv.mergeBins hG (k := .high N) ⟨h, ht⟩ l hl hl32
  exact ⟨s', h1, h2.1, KInv.mergeBins_count (k := .high N) ⟨h, ht⟩ h2 l h3⟩

end DStore
end DDS
