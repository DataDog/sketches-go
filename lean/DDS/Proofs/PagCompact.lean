/-
  DDS.Proofs.PagCompact — `PStore.compact` preserves the abstraction.

  The abstraction of a paginated store is determined by the function
      j ↦ (weight the page lines carry at index j) + (number of occurrences of j in the buffer)
  (`lookup_abs`, `abs_ext`), because `abs` is built with `Content.add` and is therefore in weak canonical
  form (`Content.NZ`: increasing keys, non-zero weights — extensional, `Content.ext_nz`, both in
  `DDS.Proofs.Bins`).  The first summand, `plk`, is read off the list of page lines (`linesAt`, `plines`):
  writing a slot changes the lines of that page only (`plk_setSlot`), padding the table with empty pages
  changes nothing (`plk_padLeft`, `plk_padRight`).  So `compact` moves buffered entries into page lines of
  the same index, or keeps them (`compactRun_plk`, along `PStore.CompactRun`); allocating / extending /
  materialising pages moves no weight (`page_spec`).  Only the sentinel convention `PInv` is assumed, not
  `PStore.Inv`: no int32 envelope, partial correctness (if `compact` returns, the abstraction is unchanged).
  Core Lean only.
-/
import DDS.Proofs.PagSteps

namespace DDS
namespace PagCompact
open Content PStore

/-! ## page lines, list level -/

/-- the lines of the page with page index `P`, from line `l0` on (`n` = page length) -/
def linesAt (n : Nat) (P : Int) (pg : List Rat) (l0 : Nat) : List (Int × Rat) :=
  (pg.zipIdx l0).map fun (c, l) => (P * (n : Int) + (l : Int), c)

@[simp] theorem linesAt_nil (n : Nat) (P : Int) (l0 : Nat) : linesAt n P [] l0 = [] := rfl

theorem linesAt_cons (n : Nat) (P : Int) (c : Rat) (pg : List Rat) (l0 : Nat) :
    linesAt n P (c :: pg) l0 = (P * (n : Int) + (l0 : Int), c) :: linesAt n P pg (l0 + 1) := by
  simp [linesAt, List.zipIdx_cons]

theorem linesAt_append (n : Nat) (P : Int) (pg₁ pg₂ : List Rat) (l0 : Nat) :
    linesAt n P (pg₁ ++ pg₂) l0 = linesAt n P pg₁ l0 ++ linesAt n P pg₂ (l0 + pg₁.length) := by
  simp [linesAt, List.zipIdx_append]

theorem lookup_linesAt_set (n : Nat) (P : Int) (pg : List Rat) (l0 line : Nat) (v : Rat)
    (h : line < pg.length) (j : Int) :
    lookup (linesAt n P (pg.set line v) l0) j =
      lookup (linesAt n P pg l0) j +
        (if P * (n : Int) + ((l0 + line : Nat) : Int) = j then v - pg[line] else 0) := by
  have hlen : (pg.take line).length = line := by rw [List.length_take]; omega
  rw [List.set_eq_take_append_cons_drop, if_pos h]
  conv => rhs; lhs; rw [← List.take_append_drop line pg, List.drop_eq_getElem_cons h]
  simp only [linesAt_append, linesAt_cons, Content.lookup_append, lookup_cons, hlen]
  split <;> grind

theorem lookup_linesAt_zeros (n : Nat) (P : Int) (m l0 : Nat) (j : Int) :
    lookup (linesAt n P (List.replicate m 0) l0) j = 0 := by
  apply lookup_all_zero
  intro p hp
  simp only [linesAt, List.mem_map] at hp
  obtain ⟨⟨c, l⟩, hcl, rfl⟩ := hp
  have := (List.mem_zipIdx hcl).2.2
  simp at this
  exact this

/-- the lines of the pages `L`, the first of which sits at slot `k0` (`mp` = `minPageIndex`) -/
def plines (n : Nat) (mp : Int) (L : List (Array Rat)) (k0 : Nat) : List (Int × Rat) :=
  (L.zipIdx k0).flatMap fun (pg, off) => linesAt n (mp + (off : Int)) pg.toList 0

theorem pageLines_eq (s : PStore) : s.pageLines = plines s.pageLen s.minPageIndex s.pages.toList 0 := rfl

@[simp] theorem plines_nil (n : Nat) (mp : Int) (k0 : Nat) : plines n mp [] k0 = [] := rfl

theorem plines_cons (n : Nat) (mp : Int) (pg : Array Rat) (L : List (Array Rat)) (k0 : Nat) :
    plines n mp (pg :: L) k0 = linesAt n (mp + (k0 : Int)) pg.toList 0 ++ plines n mp L (k0 + 1) := by
  simp [plines, List.zipIdx_cons]

theorem plines_append (n : Nat) (mp : Int) (L₁ L₂ : List (Array Rat)) (k0 : Nat) :
    plines n mp (L₁ ++ L₂) k0 = plines n mp L₁ k0 ++ plines n mp L₂ (k0 + L₁.length) := by
  simp [plines, List.zipIdx_append]

theorem plines_shift (n : Nat) (mp : Int) (L : List (Array Rat)) (k0 d : Nat) :
    plines n (mp - (d : Int)) L (k0 + d) = plines n mp L k0 := by
  induction L generalizing k0 with
  | nil => rfl
  | cons pg L ih =>
    rw [plines_cons, plines_cons, show k0 + d + 1 = (k0 + 1) + d by omega, ih]
    congr 2
    omega

theorem plines_all_empty (n : Nat) (mp : Int) (L : List (Array Rat)) (k0 : Nat)
    (h : ∀ pg ∈ L, pg.size = 0) : plines n mp L k0 = [] := by
  induction L generalizing k0 with
  | nil => rfl
  | cons pg L ih =>
    have : pg = #[] := Array.size_eq_zero_iff.1 (h pg (List.mem_cons_self ..))
    subst this
    rw [plines_cons, ih _ (fun q hq => h q (List.mem_cons_of_mem _ hq))]
    rfl

theorem plines_replicate_empty (n : Nat) (mp : Int) (m k0 : Nat) :
    plines n mp (List.replicate m #[]) k0 = [] :=
  plines_all_empty n mp _ k0 (by intro pg hpg; rw [(List.mem_replicate.1 hpg).2]; rfl)

theorem lookup_plines_set (n : Nat) (mp : Int) (L : List (Array Rat)) (k0 k : Nat) (pg' : Array Rat)
    (h : k < L.length) (j : Int) :
    lookup (plines n mp (L.set k pg') k0) j =
      lookup (plines n mp L k0) j
        - lookup (linesAt n (mp + ((k0 + k : Nat) : Int)) L[k].toList 0) j
        + lookup (linesAt n (mp + ((k0 + k : Nat) : Int)) pg'.toList 0) j := by
  have hlen : (L.take k).length = k := by rw [List.length_take]; omega
  rw [List.set_eq_take_append_cons_drop, if_pos h]
  conv => rhs; lhs; lhs; rw [← List.take_append_drop k L, List.drop_eq_getElem_cons h]
  simp only [plines_append, plines_cons, Content.lookup_append, hlen]
  grind

/-! ## the abstraction is known by the weights on the page lines and the occurrences in the buffer -/

/-- weight the page lines carry at index `j` -/
def plk (s : PStore) (j : Int) : Rat := lookup s.pageLines j

theorem nz_abs (s : PStore) : NZ s.abs := by
  rw [abs_eq_merge]; exact nz_merge _ _ (nz_merge _ _ nz_nil)

theorem lookup_abs (s : PStore) (j : Int) : lookup s.abs j = plk s j + (s.buffer.count j : Rat) := by
  rw [abs_eq_merge, lookup_merge, lookup_merge, lookup_nil, lookup_map_const, Rat.mul_one, Rat.zero_add]
  rfl

theorem abs_ext (s t : PStore)
    (h : ∀ j, plk s j + (s.buffer.count j : Rat) = plk t j + (t.buffer.count j : Rat)) :
    s.abs = t.abs :=
  ext_nz _ _ (nz_abs s) (nz_abs t) (fun j => by rw [lookup_abs, lookup_abs, h j])

/-! ## the sentinel convention -/

/-- the invariant `compact` relies on: `minPageIndex = maxInt` is the "no page in use" sentinel -/
structure PInv (s : PStore) : Prop where
  le : s.minPageIndex ≤ maxInt
  sentinel : s.minPageIndex = maxInt → ∀ pg ∈ s.pages, pg.size = 0

theorem pinv_new : PInv PStore.new := ⟨Int.le_refl _, fun _ pg h => by simp [PStore.new] at h⟩

theorem pinv_clear (s : PStore) : PInv s.clear :=
  ⟨Int.le_refl _, fun _ pg h => by
    simp only [PStore.clear, Array.mem_map] at h
    obtain ⟨_, _, rfl⟩ := h
    rfl⟩

theorem pinv_of_lt (s : PStore) (h : s.minPageIndex < maxInt) : PInv s :=
  ⟨Int.le_of_lt h, fun h' => by omega⟩

/-! ## `plk` of a table of empty pages; what writing a slot, padding the table and `addAtPage` do to it -/

theorem plk_all_empty (s : PStore) (h : ∀ pg ∈ s.pages, pg.size = 0) (j : Int) : plk s j = 0 := by
  unfold plk
  rw [pageLines_eq, plines_all_empty _ _ _ _ (fun pg hpg => h pg (Array.mem_def.2 hpg))]
  rfl

theorem getD_toList (a : Array (Array Rat)) (k : Nat) (h : k < a.size) :
    a.getD k #[] = a.toList[k]'(by simpa using h) := by
  rw [Array.getD_eq_getD_getElem?, Array.getElem?_eq_getElem h]
  simp

theorem plk_setSlot (s : PStore) (k : Nat) (hk : k < s.pages.size) (pg' : Array Rat) (j : Int) :
    plk { s with pages := s.pages.setIfInBounds k pg' } j =
      plk s j - lookup (linesAt s.pageLen (s.minPageIndex + (k : Int)) (s.pages.getD k #[]).toList 0) j
        + lookup (linesAt s.pageLen (s.minPageIndex + (k : Int)) pg'.toList 0) j := by
  unfold plk
  rw [pageLines_eq, pageLines_eq]
  show lookup (plines s.pageLen s.minPageIndex (s.pages.setIfInBounds k pg').toList 0) j = _
  rw [Array.toList_setIfInBounds, lookup_plines_set _ _ _ _ _ _ (by simpa using hk), ← getD_toList _ _ hk,
    Nat.zero_add]

theorem plk_padRight (s : PStore) (b : Nat) (j : Int) :
    plk { s with pages := s.pages ++ Array.replicate b #[] } j = plk s j := by
  unfold plk
  rw [pageLines_eq, pageLines_eq]
  simp only [Array.toList_append, Array.toList_replicate, plines_append, plines_replicate_empty,
    List.append_nil]
  rfl

theorem plk_padLeft (s : PStore) (a : Nat) (j : Int) :
    plk { s with pages := Array.replicate a #[] ++ s.pages, minPageIndex := s.minPageIndex - (a : Int) } j
      = plk s j := by
  unfold plk
  rw [pageLines_eq, pageLines_eq]
  simp only [Array.toList_append, Array.toList_replicate, plines_append, plines_replicate_empty,
    List.nil_append, List.length_replicate]
  exact congrArg (lookup · j) (plines_shift s.pageLen s.minPageIndex s.pages.toList 0 a)

theorem materialize_plk (s : PStore) (k : Nat) (j : Int) : plk (s.materialize k) j = plk s j := by
  unfold materialize
  split
  · rename_i hsz
    by_cases hk : k < s.pages.size
    · rw [plk_setSlot s k hk, Array.size_eq_zero_iff.1 hsz,
        show s.zeroPage.toList = List.replicate s.pageLen 0 by simp [zeroPage], lookup_linesAt_zeros,
        Rat.add_zero]
      simp only [linesAt_nil, lookup_nil, Rat.sub_eq_add_neg, Rat.neg_zero, Rat.add_zero]
    · have : s.pages.setIfInBounds k s.zeroPage = s.pages :=
        Array.setIfInBounds_eq_of_size_le (by omega)
      simp only [this]
  · rfl

/-- `pages[k][line] += c` adds `c` at the index of that line -/
theorem addAtPage_plk (s s' : PStore) (k line : Nat) (c : Rat) (h : s.addAtPage k line c = some s') :
    (∀ j, plk s' j = plk s j + (if s.index (s.minPageIndex + (k : Int)) line = j then c else 0)) ∧
      s'.minPageIndex = s.minPageIndex ∧ s'.pageLenLog2 = s.pageLenLog2 := by
  unfold addAtPage at h
  simp only at h
  split at h
  · rename_i hk
    obtain ⟨hk1, hk2⟩ := hk
    cases h
    refine ⟨fun j => ?_, rfl, rfl⟩
    have hl : line < (s.pages.getD k #[]).toList.length := by simpa using hk2
    rw [plk_setSlot s k hk1, Array.toList_setIfInBounds, lookup_linesAt_set _ _ _ _ _ _ hl,
      show (s.pages.getD k #[]).getD line 0 = (s.pages.getD k #[]).toList[line]'hl by
        rw [Array.getD_eq_getD_getElem?, Array.getElem?_eq_getElem hk2]; simp]
    simp only [index, Nat.zero_add]
    grind
  · cases h

/-! ## `page`: allocating, extending and materialising pages moves no weight -/

structure PageOK (s s' : PStore) (p : Int) (k? : Option Nat) : Prop where
  plk : ∀ j, plk s' j = plk s j
  len : s'.pageLenLog2 = s.pageLenLog2
  inv : PInv s'
  slot : ∀ k, k? = some k → s'.minPageIndex + (k : Int) = p

theorem pinv_materialize (s : PStore) (k : Nat) (h : s.minPageIndex < maxInt) :
    PInv (s.materialize k) :=
  pinv_of_lt _ (by rw [(materialize_frame s k).1]; exact h)

theorem extend_plk (s s₂ : PStore) (p : Int) (hinv : PInv s) (hp : p < maxInt)
    (h : extend s p = some s₂) :
    (∀ j, plk s₂ j = plk s j) ∧ s₂.minPageIndex < maxInt := by
  unfold extend at h
  by_cases hlt : p < s.minPageIndex
  · rw [if_pos hlt] at h
    by_cases hsent : s.minPageIndex = maxInt
    · -- the sentinel state: every page is empty, before and after
      rw [if_pos hsent] at h
      have hempty := hinv.sentinel hsent
      have fin : ∀ s' : PStore, (∀ pg ∈ s'.pages, pg.size = 0) →
          some { s' with minPageIndex := p - Int.tdiv (s'.pages.size : Int) 2 } = some s₂ →
          (∀ j, plk s₂ j = plk s j) ∧ s₂.minPageIndex < maxInt := by
        intro s' he h
        cases h
        have : 0 ≤ Int.tdiv (s'.pages.size : Int) 2 := Int.tdiv_nonneg (by omega) (by omega)
        have hm : p - Int.tdiv (s'.pages.size : Int) 2 < maxInt := by omega
        generalize p - Int.tdiv (s'.pages.size : Int) 2 = m at hm
        refine ⟨fun j => ?_, hm⟩
        rw [plk_all_empty s hempty]; exact plk_all_empty { s' with minPageIndex := m } he j
      by_cases hsz : s.pages.size = 0
      · simp only [if_pos hsz] at h
        exact fin { s with pages := Array.replicate (newPagesLen 1).toNat #[] }
          (fun pg hpg => by rw [(Array.mem_replicate.1 hpg).2]; rfl) h
      · simp only [if_neg hsz] at h
        exact fin s hempty h
    · rw [if_neg hsent] at h
      simp only [] at h
      generalize newPagesLen (s.minPageIndex - p + 1 + (s.pages.size : Int)) - (s.pages.size : Int) = A at h
      by_cases hA : A < 0
      · rw [if_pos hA] at h; cases h
      · rw [if_neg hA] at h
        cases h
        obtain ⟨a, rfl⟩ := Int.eq_ofNat_of_zero_le (Int.not_lt.1 hA)
        have := hinv.le
        exact ⟨plk_padLeft s a, by show s.minPageIndex - (a : Int) < maxInt; omega⟩
  · rw [if_neg hlt] at h
    simp only [] at h
    split at h
    · cases h
    · cases h
      exact ⟨plk_padRight s _, by show s.minPageIndex < maxInt; omega⟩

theorem page_spec (s s' : PStore) (p : Int) (ens : Bool) (k? : Option Nat) (hinv : PInv s)
    (hp : p < maxInt) (h : s.page p ens = some (s', k?)) : PageOK s s' p k? := by
  obtain ⟨hlen, _, hslot⟩ := page_frame h
  -- the page length and the slot are `page_frame`; the weights and the sentinel convention, case by case
  suffices key : (∀ j, plk s' j = plk s j) ∧ PInv s' from
    ⟨key.1, hlen, key.2, fun k hk => ((slot?_eq_some_iff ..).1 (hslot k hk).1).2.symm⟩
  cases hs : s.slot? p with
  | some k =>
    rw [page_of_slot_some s p k hs] at h
    obtain ⟨hk, hpk⟩ := (slot?_eq_some_iff s p k).1 hs
    cases ens with
    | true =>
      rw [if_pos rfl] at h
      obtain ⟨rfl, -⟩ := Prod.mk.inj (Option.some.inj h)
      exact ⟨materialize_plk s k, pinv_materialize s k (by omega)⟩
    | false =>
      rw [if_neg Bool.false_ne_true] at h
      obtain ⟨rfl, -⟩ := Prod.mk.inj (Option.some.inj h)
      exact ⟨fun j => rfl, hinv⟩
  | none =>
    cases ens with
    | false =>
      unfold page at h
      rw [hs] at h
      cases h
      exact ⟨fun j => rfl, hinv⟩
    | true =>
      rw [page_of_slot_none s p hs] at h
      cases he : extend s p with
      | none => rw [he] at h; cases h
      | some s₂ =>
        rw [he] at h
        obtain ⟨h1, h3⟩ := extend_plk s s₂ p hinv hp he
        dsimp only at h
        split at h
        · obtain ⟨rfl, -⟩ := Prod.mk.inj (Option.some.inj h)
          exact ⟨fun j => by rw [materialize_plk, h1], pinv_materialize _ _ h3⟩
        · cases h

/-! ## the loop of `compact` -/

theorem lineIndex_congr (s t : PStore) (h : t.pageLenLog2 = s.pageLenLog2) (i : Int) :
    t.lineIndex i = s.lineIndex i := PStore.lineIndex_congr h i

theorem spanPage_congr (s t : PStore) (h : t.pageLenLog2 = s.pageLenLog2) (p : Int) (l : List Int) :
    spanPage t p l = spanPage s p l := by
  induction l with
  | nil => rfl
  | cons x xs ih =>
    unfold spanPage
    rw [PStore.pageIndex_congr h, ih]

theorem addGroup_spec (grp : List Int) (s s'' : PStore) (k : Nat) (p : Int)
    (hslot : s.minPageIndex + (k : Int) = p) (hgrp : ∀ i ∈ grp, s.pageIndex i = p)
    (h : grp.foldlM (fun acc i => addAtPage acc k (acc.lineIndex i) 1) s = some s'') :
    (∀ j, plk s'' j = plk s j + (grp.count j : Rat)) ∧ s''.minPageIndex = s.minPageIndex ∧
      s''.pageLenLog2 = s.pageLenLog2 := by
  induction grp generalizing s with
  | nil =>
    simp only [List.foldlM_nil, Option.pure_def, Option.some.injEq] at h
    subst h
    exact ⟨fun j => (Rat.add_zero _).symm, rfl, rfl⟩
  | cons i grp ih =>
    simp only [List.foldlM_cons, Option.bind_eq_bind, Option.bind_eq_some_iff] at h
    obtain ⟨s1, h1, h2⟩ := h
    obtain ⟨a1, a2, a3⟩ := addAtPage_plk s s1 k (s.lineIndex i) 1 h1
    have hpi : s.pageIndex i = p := hgrp i (List.mem_cons_self ..)
    obtain ⟨b1, b2, b3⟩ := ih s1 (by rw [a2]; exact hslot)
      (fun i' hi' => by rw [PStore.pageIndex_congr a3]; exact hgrp i' (List.mem_cons_of_mem _ hi')) h2
    refine ⟨?_, by rw [b2, a2], by rw [b3, a3]⟩
    intro j
    rw [b1, a1, count_cons_cast, hslot, ← hpi, index_page_line, Rat.add_assoc]
    simp only [eq_comm]

/-- along a run of the loop of `compact`, every entry ends on its page line or among the kept ones -/
theorem compactRun_plk {s s' : PStore} {xs kept out : List Int} (h : CompactRun s xs kept s' out) :
    PInv s → (∀ i ∈ xs, s.pageIndex i < maxInt) →
    ∀ j, plk s' j + (out.count j : Rat) = plk s j + (xs.count j : Rat) + (kept.count j : Rat) := by
  induction h with
  | nil s kept => exact fun _ _ j => by rw [List.count_reverse, List.count_nil, natCast_zero, Rat.add_zero]
  | keep hl hx hgrp hpage _ ih =>
    intro hinv hb j
    subst hl
    obtain ⟨p1, p2, p3, _⟩ := page_spec _ _ _ _ _ hinv (hb _ (List.mem_append_left _ hx)) hpage
    rw [ih p3 (fun i hi => by rw [PStore.pageIndex_congr p2]; exact hb i (List.mem_append_right _ hi)), p1,
      List.count_append, List.count_append, List.count_reverse, Rat.natCast_add, Rat.natCast_add]
    ac_rfl
  | move hl hx hgrp hpage hfold _ ih =>
    intro hinv hb j
    subst hl
    have hp := hb _ (List.mem_append_left _ hx)
    obtain ⟨p1, p2, _, p4⟩ := page_spec _ _ _ _ _ hinv hp hpage
    obtain ⟨q1, q2, q3⟩ := addGroup_spec _ _ _ _ _ (p4 _ rfl)
      (fun i hi => by rw [PStore.pageIndex_congr p2]; exact hgrp i hi) hfold
    -- the table now starts at or below the page of the group, hence below the sentinel
    rw [ih (pinv_of_lt _ (by rw [q2]; have := p4 _ rfl; omega))
      (fun i hi => by rw [PStore.pageIndex_congr (q3.trans p2)]; exact hb i (List.mem_append_right _ hi)),
      q1, p1, List.count_append, Rat.natCast_add]
    simp only [Rat.add_assoc]

/-- **`compact` preserves the abstraction** — when it does not panic, for a store that respects
    the sentinel convention and whose buffered entries lie on pages below the sentinel -/
theorem compact_abs (s s' : PStore) (hinv : PInv s) (hb : ∀ i ∈ s.buffer, s.pageIndex i < maxInt)
    (h : s.compact = some s') : s'.abs = s.abs := by
  obtain ⟨s₁, hrun, hs'⟩ := compact_run h
  have hperm := sortInts_perm s.buffer
  apply abs_ext
  intro j
  have := compactRun_plk hrun hinv (fun i hi => hb i (hperm.mem_iff.1 hi)) j
  rw [hperm.count_eq j, List.count_nil, natCast_zero, Rat.add_zero] at this
  rw [← this, hs']
  rfl

end PagCompact
end DDS
