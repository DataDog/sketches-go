/-
  DDS.Proofs.MappingReal — real-analysis lemmas about `DDS.Model.Mapping` instantiated at ℝ
  (`DDS.Proofs.RealInst`).

  Part 1: a small abstract theory of "interpolated logarithms"
          `v = 2^e (1+s) ↦ e + φ s` (binade decomposition, inverse, monotonicity, and the
          comparison with the true logarithm that yields the relative-accuracy guarantee).
  Part 2: the reading of the model's operations over ℝ; with them the linear and the cubic
          interpolation of the model as instances of Part 1 (Cardano's formula inverts the cubic).
  Part 3: the model's mappings: `approxLog` / `approxInvLog` of each kind are `log` / `exp` or the
          interpolated logarithm of Part 2 and its inverse; then the kind-generic theorems, in the
          groups T1 … T6 of `Props/C03.lean`.
-/
import DDS.Proofs.RealInst
import Mathlib.Analysis.SpecialFunctions.Log.Deriv
import Mathlib.Analysis.Calculus.Deriv.MeanValue
import Mathlib.Analysis.Complex.ExponentialBounds
import Mathlib.Tactic

namespace DDS.RealMap

/-! ## Part 1a: binade decomposition -/

/-- binary exponent of a positive real -/
noncomputable def bexp (v : ℝ) : ℤ := ⌊Real.logb 2 v⌋
/-- significand minus one, in `[0,1)` -/
noncomputable def bsig (v : ℝ) : ℝ := v / (2:ℝ) ^ (bexp v) - 1

lemma two_zpow_pos (n : ℤ) : (0:ℝ) < (2:ℝ) ^ n := zpow_pos (by norm_num) n

lemma bexp_spec {v : ℝ} (hv : 0 < v) :
    (2:ℝ) ^ (bexp v) ≤ v ∧ v < (2:ℝ) ^ (bexp v + 1) := by
  rw [← Real.rpow_intCast, ← Real.rpow_intCast, ← Real.le_logb_iff_rpow_le one_lt_two hv,
    ← Real.logb_lt_iff_lt_rpow one_lt_two hv, Int.cast_add, Int.cast_one]
  exact ⟨Int.floor_le _, Int.lt_floor_add_one _⟩

lemma bsig_nonneg {v : ℝ} (hv : 0 < v) : 0 ≤ bsig v := by
  rw [bsig, sub_nonneg, one_le_div (two_zpow_pos _)]
  exact (bexp_spec hv).1

lemma bsig_lt_one {v : ℝ} (hv : 0 < v) : bsig v < 1 := by
  have h := (bexp_spec hv).2
  rw [zpow_add_one₀ two_ne_zero] at h
  rw [bsig, sub_lt_iff_lt_add, div_lt_iff₀ (two_zpow_pos _)]
  linarith

lemma bsig_mem {v : ℝ} (hv : 0 < v) : bsig v ∈ Set.Icc (0:ℝ) 1 :=
  ⟨bsig_nonneg hv, (bsig_lt_one hv).le⟩

lemma eq_build (v : ℝ) : v = (2:ℝ) ^ (bexp v) * (1 + bsig v) := by
  rw [bsig, add_sub_cancel, mul_div_cancel₀ _ (two_zpow_pos _).ne']

lemma bexp_build (n : ℤ) {u : ℝ} (h0 : 0 ≤ u) (h1 : u < 1) :
    bexp ((2:ℝ) ^ n * (1 + u)) = n := by
  have hp := two_zpow_pos n
  have hpos : 0 < (2:ℝ) ^ n * (1 + u) := mul_pos hp (by linarith)
  rw [bexp, Int.floor_eq_iff, Real.le_logb_iff_rpow_le one_lt_two hpos,
    Real.logb_lt_iff_lt_rpow one_lt_two hpos, Real.rpow_add_one two_ne_zero, Real.rpow_intCast]
  exact ⟨le_mul_of_one_le_right hp.le (by linarith), mul_lt_mul_of_pos_left (by linarith) hp⟩

lemma bsig_build (n : ℤ) {u : ℝ} (h0 : 0 ≤ u) (h1 : u < 1) :
    bsig ((2:ℝ) ^ n * (1 + u)) = u := by
  rw [bsig, bexp_build n h0 h1, mul_div_cancel_left₀ _ (two_zpow_pos n).ne', add_sub_cancel_left]

lemma bexp_mono {v w : ℝ} (hv : 0 < v) (hvw : v ≤ w) : bexp v ≤ bexp w :=
  Int.floor_le_floor (Real.logb_le_logb_of_le one_lt_two hv hvw)

lemma bsig_mono {v w : ℝ} (he : bexp v = bexp w) (hvw : v ≤ w) : bsig v ≤ bsig w := by
  rw [bsig, bsig, he]
  exact sub_le_sub_right (div_le_div_of_nonneg_right hvw (two_zpow_pos _).le) 1

lemma log_eq_build {v : ℝ} (hv : 0 < v) :
    Real.log v = (bexp v : ℝ) * Real.log 2 + Real.log (1 + bsig v) := by
  conv_lhs => rw [eq_build v]
  rw [Real.log_mul (two_zpow_pos _).ne' (by linarith [bsig_nonneg hv]), Real.log_zpow]

/-- A function that reads `e * h 1 + h s` on `2 ^ e * (1 + s)`, with `h` non-decreasing on `[0, 1]`
from `h 0 = 0`, is non-decreasing on the positive reals: inside a binade by `h`, and across
binades because a whole binade adds `h 1`. -/
lemma binade_mono {h : ℝ → ℝ} (hm : MonotoneOn h (Set.Icc 0 1)) (h0 : h 0 = 0) {v w : ℝ}
    (hv : 0 < v) (hvw : v ≤ w) :
    (bexp v : ℝ) * h 1 + h (bsig v) ≤ (bexp w : ℝ) * h 1 + h (bsig w) := by
  have sv := bsig_mem hv
  have sw := bsig_mem (hv.trans_le hvw)
  have z0 : (0:ℝ) ∈ Set.Icc (0:ℝ) 1 := ⟨le_rfl, zero_le_one⟩
  have z1 : (1:ℝ) ∈ Set.Icc (0:ℝ) 1 := ⟨zero_le_one, le_rfl⟩
  rcases (bexp_mono hv hvw).eq_or_lt with he | he
  · rw [he]
    exact (add_le_add_iff_left _).2 (hm sv sw (bsig_mono he hvw))
  · have e1 : (bexp v : ℝ) + 1 ≤ bexp w := by exact_mod_cast he
    have κ0 : 0 ≤ h 1 := h0 ▸ hm z0 z1 zero_le_one
    have a := hm sv z1 sv.2
    have b := hm z0 sw sw.1
    calc (bexp v : ℝ) * h 1 + h (bsig v) ≤ ((bexp v : ℝ) + 1) * h 1 := by
          rw [add_one_mul]; exact (add_le_add_iff_left _).2 a
      _ ≤ (bexp w : ℝ) * h 1 := mul_le_mul_of_nonneg_right e1 κ0
      _ ≤ _ := le_add_of_nonneg_right (h0 ▸ b)

/-! ## Part 1b: interpolated logarithms -/

/-- An interpolation `φ : [0,1] → [0,1]` of `s ↦ log₂ (1+s)` with inverse `ψ`, together with a
constant `c` such that `φ s - c * log (1+s)` is non-decreasing (this is what bounds the
relative width of the bins). -/
structure Interp where
  φ : ℝ → ℝ
  ψ : ℝ → ℝ
  c : ℝ
  φ0 : φ 0 = 0
  φ1 : φ 1 = 1
  φmono : StrictMonoOn φ (Set.Icc 0 1)
  ψmem : ∀ t, 0 ≤ t → t < 1 → 0 ≤ ψ t ∧ ψ t < 1
  φψ : ∀ t, 0 ≤ t → t < 1 → φ (ψ t) = t
  cpos : 0 < c
  hmono : MonotoneOn (fun s => φ s - c * Real.log (1 + s)) (Set.Icc 0 1)

namespace Interp
variable (I : Interp)

/-- the approximate base-2 logarithm -/
noncomputable def aLog (v : ℝ) : ℝ := (bexp v : ℝ) + I.φ (bsig v)
/-- its inverse -/
noncomputable def aInv (x : ℝ) : ℝ := (2:ℝ) ^ ⌊x⌋ * (1 + I.ψ (x - ⌊x⌋))

lemma φ_mem {s : ℝ} (h0 : 0 ≤ s) (h1 : s < 1) : 0 ≤ I.φ s ∧ I.φ s < 1 := by
  constructor
  · rw [← I.φ0]
    exact I.φmono.monotoneOn ⟨le_refl _, zero_le_one⟩ ⟨h0, h1.le⟩ h0
  · rw [← I.φ1]
    exact I.φmono ⟨h0, h1.le⟩ ⟨zero_le_one, le_refl _⟩ h1

lemma ψφ {s : ℝ} (h0 : 0 ≤ s) (h1 : s < 1) : I.ψ (I.φ s) = s := by
  obtain ⟨a, b⟩ := I.φ_mem h0 h1
  obtain ⟨c, d⟩ := I.ψmem _ a b
  exact I.φmono.injOn ⟨c, d.le⟩ ⟨h0, h1.le⟩ (I.φψ _ a b)

lemma floor_aLog {v : ℝ} (hv : 0 < v) : ⌊I.aLog v⌋ = bexp v := by
  obtain ⟨a, b⟩ := I.φ_mem (bsig_nonneg hv) (bsig_lt_one hv)
  rw [Int.floor_eq_iff, aLog]
  exact ⟨le_add_of_nonneg_right a, (add_lt_add_iff_left _).2 b⟩

theorem aInv_aLog {v : ℝ} (hv : 0 < v) : I.aInv (I.aLog v) = v := by
  rw [aInv, I.floor_aLog hv, aLog, add_sub_cancel_left, I.ψφ (bsig_nonneg hv) (bsig_lt_one hv)]
  exact (eq_build v).symm

lemma ψ_fract_mem (x : ℝ) : 0 ≤ I.ψ (x - ⌊x⌋) ∧ I.ψ (x - ⌊x⌋) < 1 :=
  I.ψmem _ (Int.fract_nonneg x) (Int.fract_lt_one x)

theorem aLog_aInv (x : ℝ) : I.aLog (I.aInv x) = x := by
  obtain ⟨a, b⟩ := I.ψ_fract_mem x
  rw [aLog, aInv, bexp_build _ a b, bsig_build _ a b,
    I.φψ (x - ⌊x⌋) (Int.fract_nonneg x) (Int.fract_lt_one x), add_sub_cancel]

theorem aInv_pos (x : ℝ) : 0 < I.aInv x :=
  mul_pos (two_zpow_pos _) (by linarith [(I.ψ_fract_mem x).1])

theorem aLog_mono {v w : ℝ} (hv : 0 < v) (hvw : v ≤ w) : I.aLog v ≤ I.aLog w := by
  have := binade_mono I.φmono.monotoneOn I.φ0 hv hvw
  rwa [I.φ1, mul_one, mul_one] at this

theorem aLog_strictMono {v w : ℝ} (hv : 0 < v) (hvw : v < w) : I.aLog v < I.aLog w :=
  (I.aLog_mono hv hvw.le).lt_of_ne fun e =>
    hvw.ne (by rw [← I.aInv_aLog hv, e, I.aInv_aLog (hv.trans hvw)])

theorem aInv_strictMono {x y : ℝ} (h : x < y) : I.aInv x < I.aInv y := by
  by_contra hc
  have := I.aLog_mono (I.aInv_pos y) (not_lt.1 hc)
  rw [I.aLog_aInv, I.aLog_aInv] at this
  exact not_lt.2 this h

/-- the key comparison with the true logarithm: `aLog - c * log` is non-decreasing -/
theorem gap {v w : ℝ} (hv : 0 < v) (hvw : v ≤ w) :
    I.c * (Real.log w - Real.log v) ≤ I.aLog w - I.aLog v := by
  have := binade_mono I.hmono (by rw [I.φ0, add_zero, Real.log_one, mul_zero, sub_zero]) hv hvw
  rw [I.φ1, one_add_one_eq_two] at this
  rw [log_eq_build hv, log_eq_build (hv.trans_le hvw), aLog, aLog]
  linear_combination this

/-- a step of width `d` in `aLog`-space multiplies the value by at most `exp (d / c)` -/
theorem aInv_add_le (x : ℝ) {d : ℝ} (hd : 0 ≤ d) :
    I.aInv (x + d) ≤ I.aInv x * Real.exp (d / I.c) := by
  have hv := I.aInv_pos x
  have hle : I.aInv x ≤ I.aInv (x + d) := by
    rcases hd.eq_or_lt with h | h
    · rw [← h, add_zero]
    · exact (I.aInv_strictMono (lt_add_of_pos_right x h)).le
  have hg := I.gap hv hle
  rw [I.aLog_aInv, I.aLog_aInv, add_sub_cancel_left, ← le_div_iff₀' I.cpos,
    sub_le_iff_le_add'] at hg
  rw [← Real.exp_log hv, ← Real.exp_add, ← Real.log_le_iff_le_exp (I.aInv_pos _)]
  exact hg

lemma aLog_bounds {v : ℝ} (hv : 0 < v) :
    Real.logb 2 v - 1 < I.aLog v ∧ I.aLog v < Real.logb 2 v + 1 := by
  obtain ⟨a, b⟩ := I.φ_mem (bsig_nonneg hv) (bsig_lt_one hv)
  have h1 : ((bexp v : ℤ) : ℝ) ≤ Real.logb 2 v := Int.floor_le _
  have h2 : Real.logb 2 v < (bexp v : ℝ) + 1 := Int.lt_floor_add_one _
  unfold aLog
  exact ⟨by linarith, by linarith⟩

end Interp

/-- `φ - c log (1 + ·)` is non-decreasing on `[0, 1]` as soon as `c ≤ (1 + s) φ'(s)` there -/
lemma hmono_of_deriv {φ φ' : ℝ → ℝ} {c : ℝ} (hd : ∀ s, HasDerivAt φ (φ' s) s)
    (hc : ∀ s, 0 ≤ s → c ≤ (1 + s) * φ' s) :
    MonotoneOn (fun s => φ s - c * Real.log (1 + s)) (Set.Icc 0 1) := by
  have hd' : ∀ s, 0 ≤ s →
      HasDerivAt (fun s => φ s - c * Real.log (1 + s)) (φ' s - c * (1 / (1 + s))) s := fun s hs =>
    (hd s).sub ((((hasDerivAt_id' s).const_add 1).log (by linarith)).const_mul c)
  refine monotoneOn_of_deriv_nonneg (convex_Icc 0 1)
    (fun s hs => (hd' s hs.1).continuousAt.continuousWithinAt)
    (fun s hs => (hd' s (interior_subset hs).1).differentiableAt.differentiableWithinAt)
    fun s hs => ?_
  have h0 : 0 ≤ s := (interior_subset hs).1
  rw [(hd' s h0).deriv, mul_one_div, sub_nonneg, div_le_iff₀' (by linarith)]
  exact hc s h0

/-! ## Part 2a: the model's operations, read over ℝ -/

open DDS Mapping

section ops
variable (a b : ℝ)
@[simp] lemma add_def : MOps.add a b = a + b := rfl
@[simp] lemma sub_def : MOps.sub a b = a - b := rfl
@[simp] lemma mul_def : MOps.mul a b = a * b := rfl
@[simp] lemma div_def : MOps.div a b = a / b := rfl
@[simp] lemma neg_def : MOps.neg a = -a := rfl
@[simp] lemma ofInt_def (i : ℤ) : (MOps.ofInt i : ℝ) = (i : ℝ) := rfl
@[simp] lemma ofRat_def (q : ℚ) : (MOps.ofRat q : ℝ) = (q : ℝ) := rfl
@[simp] lemma lt_def : (MOps.lt a b : Bool) = decide (a < b) := rfl
@[simp] lemma le_def : (MOps.le a b : Bool) = decide (a ≤ b) := rfl
@[simp] lemma log_def : MOps.log a = Real.log a := rfl
@[simp] lemma exp_def : MOps.exp a = Real.exp a := rfl
@[simp] lemma log2_def : MOps.log2 a = Real.logb 2 a := rfl
@[simp] lemma exp2_def : MOps.exp2 a = (2:ℝ) ^ a := rfl
@[simp] lemma pow_def : MOps.pow a b = a ^ b := rfl
lemma cbrt_def : MOps.cbrt a = if 0 ≤ a then a ^ ((1:ℝ)/3) else -((-a) ^ ((1:ℝ)/3)) := rfl
@[simp] lemma sqrt_def : MOps.sqrt a = Real.sqrt a := rfl
@[simp] lemma floor_def : (MOps.floor a : ℝ) = (⌊a⌋ : ℝ) := rfl
lemma trunc_def : MOps.trunc a = if 0 ≤ a then ⌊a⌋ else ⌈a⌉ := rfl
@[simp] lemma exponentOf_def : (MOps.exponentOf a : ℝ) = (bexp a : ℝ) := rfl
@[simp] lemma significandPlusOne_def : MOps.significandPlusOne a = a / (2:ℝ) ^ (bexp a) := rfl
@[simp] lemma buildFloat_def (e : ℤ) : MOps.buildFloat e a = (2:ℝ) ^ e * a := rfl
@[simp] lemma ln2_def : (MOps.ln2 : ℝ) = Real.log 2 := rfl
@[simp] lemma minNormal_def : (MOps.minNormal : ℝ) = (2:ℝ) ^ (-1022 : ℤ) := rfl
@[simp] lemma expOverflow_def : (MOps.expOverflow : ℝ) = 709.4361393031 := rfl
@[simp] lemma one_def : (Mapping.one : ℝ) = 1 := Int.cast_one
@[simp] lemma two_def : (Mapping.two : ℝ) = 2 := Int.cast_ofNat 2
@[simp] lemma trunc_intCast (n : ℤ) : MOps.trunc (n : ℝ) = n := by
  rw [trunc_def, Int.floor_intCast, Int.ceil_intCast, ite_self]
lemma cA_def : (Mapping.cA : ℝ) = 6 / 35 := by norm_num [Mapping.cA, Consts.cubicA]
lemma cB_def : (Mapping.cB : ℝ) = -3 / 5 := by norm_num [Mapping.cB, Consts.cubicB]
lemma cC_def : (Mapping.cC : ℝ) = 10 / 7 := by norm_num [Mapping.cC, Consts.cubicC]
end ops

/-! ### `goFloor` -/

lemma goFloor_eq (x : ℝ) : Mapping.goFloor x = if 0 ≤ x then ⌊x⌋ else ⌈x⌉ - 1 := by
  unfold Mapping.goFloor
  by_cases h : 0 ≤ x <;> simp [h, trunc_def]

lemma goFloor_le (x : ℝ) : ((Mapping.goFloor x : ℤ) : ℝ) ≤ x := by
  rw [goFloor_eq]; split_ifs with h
  · exact Int.floor_le x
  · push_cast; linarith [Int.ceil_lt_add_one x]

lemma le_goFloor_add_one (x : ℝ) : x ≤ ((Mapping.goFloor x : ℤ) : ℝ) + 1 := by
  rw [goFloor_eq]; split_ifs with h
  · exact (Int.lt_floor_add_one x).le
  · push_cast; linarith [Int.le_ceil x]

lemma goFloor_mono {x y : ℝ} (h : x ≤ y) : Mapping.goFloor x ≤ Mapping.goFloor y := by
  rw [goFloor_eq, goFloor_eq]; split_ifs with hx hy hy
  · exact Int.floor_le_floor h
  · linarith
  · have : ⌈x⌉ ≤ 0 := Int.ceil_le.2 (by push_cast; linarith)
    have : 0 ≤ ⌊y⌋ := Int.floor_nonneg.2 hy
    omega
  · have := Int.ceil_le_ceil h; omega

lemma lt_goFloor {x : ℝ} {n : ℤ} (h : (n : ℝ) < x) : n ≤ Mapping.goFloor x := by
  have := h.trans_le (le_goFloor_add_one x)
  rw [← Int.cast_one, ← Int.cast_add, Int.cast_lt] at this
  exact Int.lt_add_one_iff.1 this

lemma goFloor_lt {x : ℝ} {n : ℤ} (h : x < (n : ℝ)) : Mapping.goFloor x ≤ n :=
  (Int.cast_lt.1 ((goFloor_le x).trans_lt h)).le

/-! ### `fmax` / `fmin` -/

lemma le_fmax_left (a b : ℝ) : a ≤ Mapping.fmax a b := by
  unfold Mapping.fmax; by_cases h : a < b <;> simp [h, le_of_lt]

lemma fmin_le_left (a b : ℝ) : Mapping.fmin a b ≤ a := by
  unfold Mapping.fmin; by_cases h : b < a <;> simp [h, le_of_lt]

lemma fmax_le {a b c : ℝ} (h1 : a ≤ c) (h2 : b ≤ c) : Mapping.fmax a b ≤ c := by
  unfold Mapping.fmax; by_cases h : a < b <;> simp [h, h1, h2]

lemma le_fmin {a b c : ℝ} (h1 : c ≤ a) (h2 : c ≤ b) : c ≤ Mapping.fmin a b := by
  unfold Mapping.fmin; by_cases h : b < a <;> simp [h, h1, h2]

/-! ## Part 2b: the linear interpolation -/

noncomputable def linI : Interp where
  φ := id
  ψ := id
  c := 1
  φ0 := rfl
  φ1 := rfl
  φmono := strictMono_id.strictMonoOn _
  ψmem := fun _ a b => ⟨a, b⟩
  φψ := fun _ _ _ => rfl
  cpos := one_pos
  hmono := hmono_of_deriv (φ' := fun _ => 1) hasDerivAt_id fun s hs => by
    rw [mul_one]; exact le_add_of_nonneg_right hs

/-! ## Part 2c: the cubic interpolation: Cardano's formula inverts the cubic -/

/-- Cardano's substitution: with `3 a x + b = -u` the cubic in `x` is the depressed cubic in `u` -/
lemma cubic_depress (a b c t x : ℝ) :
    27 * a ^ 2 * (((a * x + b) * x + c) * x - t) =
      -((-(3 * a * x + b)) ^ 3 - 3 * (b ^ 2 - 3 * a * c) * (-(3 * a * x + b))
        - (2 * b ^ 3 - 9 * a * b * c - 27 * a ^ 2 * t)) := by ring

lemma cbrt_neg {y : ℝ} (hy : y < 0) : (MOps.cbrt y) ^ 3 = y ∧ MOps.cbrt y < 0 := by
  have h : 0 < -y := neg_pos.2 hy
  have hr : 0 < (-y) ^ ((1:ℝ) / 3) := Real.rpow_pos_of_pos h _
  rw [cbrt_def, if_neg (not_le.2 hy)]
  refine ⟨?_, neg_neg_of_pos hr⟩
  rw [Odd.neg_pow (by decide), ← Real.rpow_natCast, ← Real.rpow_mul h.le]
  norm_num

/-- Cardano's formula, in the case `b² < 3ac` where the discriminant `d₁² - 4 d₀³` is positive
whatever `t` is: the `x` it computes solves `a x³ + b x² + c x = t`. -/
lemma cardano {a b c : ℝ} (ha : a ≠ 0) (hd : b ^ 2 - 3 * a * c < 0) (t : ℝ) {d0 d1 pp x : ℝ}
    (hd0 : d0 = b ^ 2 - 3 * a * c) (hd1 : d1 = 2 * b ^ 3 - 9 * a * b * c - 27 * a ^ 2 * t)
    (hpp : pp = MOps.cbrt ((d1 - Real.sqrt (d1 * d1 - 4 * d0 * d0 * d0)) / 2))
    (hx : x = -((b + pp + d0 / pp) / (3 * a))) :
    ((a * x + b) * x + c) * x = t := by
  rw [← hd0] at hd
  have hc : 4 * d0 * d0 * d0 < 0 :=
    mul_neg_of_pos_of_neg (mul_pos_of_neg_of_neg (mul_neg_of_pos_of_neg four_pos hd) hd) hd
  have hD : 0 < d1 * d1 - 4 * d0 * d0 * d0 := sub_pos.2 (hc.trans_le (mul_self_nonneg d1))
  have r2 := Real.sq_sqrt hD.le
  have hrd : d1 < Real.sqrt (d1 * d1 - 4 * d0 * d0 * d0) :=
    Real.lt_sqrt_of_sq_lt (by rw [sq, lt_sub_iff_add_lt, add_lt_iff_neg_left]; exact hc)
  set y := (d1 - Real.sqrt (d1 * d1 - 4 * d0 * d0 * d0)) / 2 with hy
  have hq : y ^ 2 - d1 * y + d0 ^ 3 = 0 := by
    rw [hy]; linear_combination (1 / 4 : ℝ) * r2
  have y0 : y < 0 := div_neg_of_neg_of_pos (sub_neg.2 hrd) two_pos
  obtain ⟨hp3, hpneg⟩ := cbrt_neg y0
  rw [← hpp] at hp3 hpneg
  have hu : (pp + d0 / pp) ^ 3 - 3 * d0 * (pp + d0 / pp) = d1 :=
    calc (pp + d0 / pp) ^ 3 - 3 * d0 * (pp + d0 / pp)
        = (pp + d0 / pp) ^ 3 - 3 * (pp * (d0 / pp)) * (pp + d0 / pp) := by
          rw [mul_div_cancel₀ _ hpneg.ne]
      _ = pp ^ 3 + (d0 / pp) ^ 3 := by ring
      _ = y + d0 ^ 3 / y := by rw [div_pow, hp3]
      _ = d1 := by rw [← eq_sub_iff_add_eq', div_eq_iff y0.ne]; linear_combination hq
  have h3 : -(3 * a * x + b) = pp + d0 / pp := by
    rw [hx, mul_neg, mul_div_cancel₀ _ (mul_ne_zero three_ne_zero ha)]; ring
  have := cubic_depress a b c t x
  rw [h3, ← hd0, ← hd1, hu, sub_self, neg_zero, mul_eq_zero] at this
  exact sub_eq_zero.1 (this.resolve_left (mul_ne_zero (by norm_num) (pow_ne_zero 2 ha)))

/-- the cubic polynomial of the model, with the model's (generated) coefficients -/
noncomputable def cubφ (s : ℝ) : ℝ :=
  (((Mapping.cA : ℝ) * s + Mapping.cB) * s + Mapping.cC) * s

lemma cubφ_eq (s : ℝ) : cubφ s = ((6 / 35 * s + -3 / 5) * s + 10 / 7) * s := by
  unfold cubφ; rw [cA_def, cB_def, cC_def]

lemma cubφ_zero : cubφ 0 = 0 := mul_zero _

lemma cubφ_one : cubφ 1 = 1 := by rw [cubφ_eq]; norm_num

lemma cubφ_strictMono : StrictMono cubφ := by
  intro a b hab
  have e : cubφ b - cubφ a =
      (b - a) * (3 / 2 * (a - b) ^ 2 + 9 / 2 * (a + b - 7 / 3) ^ 2 + 51 / 2) / 35 := by
    rw [cubφ_eq, cubφ_eq]; ring
  have : 0 < b - a := sub_pos.2 hab
  rw [← sub_pos, e]
  positivity

/-- the significand (plus one) computed by the model's Cardano formula from the fractional
part `t` -/
noncomputable def cubSp1 (t : ℝ) : ℝ :=
  let d0 : ℝ := MOps.ofRat (Consts.cubicB * Consts.cubicB - 3 * Consts.cubicA * Consts.cubicC)
  let k1 : ℝ := MOps.ofRat (2 * Consts.cubicB * Consts.cubicB * Consts.cubicB - 9 * Consts.cubicA * Consts.cubicB * Consts.cubicC)
  let k2 : ℝ := MOps.ofRat (27 * Consts.cubicA * Consts.cubicA)
  let d1 : ℝ := MOps.sub k1 (MOps.mul k2 t)
  let pp : ℝ := MOps.cbrt (MOps.div (MOps.sub d1 (MOps.sqrt (MOps.sub (MOps.mul d1 d1) (MOps.mul (MOps.mul (MOps.mul (MOps.ofInt 4) d0) d0) d0)))) Mapping.two)
  MOps.add (MOps.neg (MOps.div (MOps.add (MOps.add Mapping.cB pp) (MOps.div d0 pp)) (MOps.ofRat (3 * Consts.cubicA)))) Mapping.one

lemma cubSp1_spec (t : ℝ) : cubφ (cubSp1 t - 1) = t := by
  refine cardano (a := Mapping.cA) (b := Mapping.cB) (c := Mapping.cC) ?_ ?_ t
    (d0 := ((Consts.cubicB * Consts.cubicB - 3 * Consts.cubicA * Consts.cubicC : ℚ) : ℝ))
    (d1 := ((2 * Consts.cubicB * Consts.cubicB * Consts.cubicB - 9 * Consts.cubicA * Consts.cubicB * Consts.cubicC : ℚ) : ℝ) - ((27 * Consts.cubicA * Consts.cubicA : ℚ) : ℝ) * t)
    ?_ ?_ rfl ?_
  · rw [cA_def]; norm_num
  · rw [cA_def, cB_def, cC_def]; norm_num
  · simp only [Mapping.cA, Mapping.cB, Mapping.cC, ofRat_def]; push_cast; ring
  · simp only [Mapping.cA, Mapping.cB, Mapping.cC, ofRat_def]; push_cast; ring
  · simp only [cubSp1, add_def, sub_def, mul_def, div_def, neg_def, ofRat_def, ofInt_def, sqrt_def,
      one_def, two_def, Mapping.cA, Mapping.cB, Int.cast_ofNat, Rat.cast_mul, Rat.cast_ofNat,
      add_sub_cancel_right]

noncomputable def cubI : Interp where
  φ := cubφ
  ψ := fun t => cubSp1 t - 1
  c := 10 / 7
  φ0 := cubφ_zero
  φ1 := cubφ_one
  φmono := cubφ_strictMono.strictMonoOn _
  ψmem := fun t a b => by
    rw [← cubφ_strictMono.le_iff_le, ← cubφ_strictMono.lt_iff_lt, cubSp1_spec, cubφ_zero, cubφ_one]
    exact ⟨a, b⟩
  φψ := fun t _ _ => cubSp1_spec t
  cpos := by norm_num
  hmono := by
    refine hmono_of_deriv (φ := cubφ) (φ' := fun s => 18 / 35 * s ^ 2 - 6 / 5 * s + 10 / 7)
      (fun s => ?_) fun s hs => ?_
    · have := ((((hasDerivAt_id' s).const_mul (6 / 35 : ℝ)).add_const (-3 / 5 : ℝ)).mul
        (hasDerivAt_id' s)).add_const (10 / 7 : ℝ) |>.mul (hasDerivAt_id' s)
      refine (this.congr_deriv ?_).congr_of_eventuallyEq (Filter.Eventually.of_forall cubφ_eq)
      simp only [Pi.mul_apply]; ring
    · have : (1 + s) * (18 / 35 * s ^ 2 - 6 / 5 * s + 10 / 7) = 10 / 7 + 2 * s / 35 * (3 * s - 2) ^ 2 := by
        ring
      rw [this]
      exact le_add_of_nonneg_right (by positivity)

/-! ## Part 3: the model's mappings -/

section model
variable (p : Mapping.Params ℝ)

/-! ### `approxLog` and `approxInvLog`, kind by kind -/

/-- over the reals the normalisation of `buildFloat64` never changes the value of a significand `≥ 1` -/
lemma buildFloatN_real (e : ℤ) (s : ℝ) (hs : 1 ≤ s) : Mapping.buildFloatN e s = (2:ℝ) ^ e * s := by
  unfold Mapping.buildFloatN
  by_cases h2 : (2:ℝ) ≤ s
  · simp only [le_def, two_def, h2, decide_true, if_true, buildFloat_def, div_def]
    rw [zpow_add_one₀ (by norm_num : (2:ℝ) ≠ 0)]; ring
  · have h1 : ¬ s < 1 := not_lt.2 hs
    simp [h2, h1]

/-- the common shape of the two interpolated inverses: the significand `1 + ψ t` of the fractional
part `t`, put on the binade of the integer part -/
lemma buildFloatN_aInv (I : Interp) (x : ℝ) :
    Mapping.buildFloatN (MOps.trunc (MOps.floor x)) (1 + I.ψ (x - ⌊x⌋)) = I.aInv x := by
  rw [buildFloatN_real _ _ (le_add_of_nonneg_right (I.ψ_fract_mem x).1), floor_def, trunc_intCast]
  rfl

lemma approxLog_log (hk : p.kind = .log) (v : ℝ) : approxLog p v = Real.log v := by
  simp [approxLog, hk]

lemma approxInvLog_log (hk : p.kind = .log) (x : ℝ) : approxInvLog p x = Real.exp x := by
  simp [approxInvLog, hk]

lemma approxLog_linear (hk : p.kind = .linear) (v : ℝ) : approxLog p v = linI.aLog v := by
  simp [approxLog, hk, Interp.aLog, linI, bsig]; ring

lemma approxInvLog_linear (hk : p.kind = .linear) (x : ℝ) : approxInvLog p x = linI.aInv x := by
  rw [← buildFloatN_aInv]
  simp [approxInvLog, hk, linI, add_comm]

lemma approxLog_cubic (hk : p.kind = .cubic) (v : ℝ) : approxLog p v = cubI.aLog v := by
  simp [approxLog, hk, Interp.aLog, cubI, bsig, cubφ]; ring

lemma approxInvLog_cubic (hk : p.kind = .cubic) (x : ℝ) : approxInvLog p x = cubI.aInv x := by
  rw [← buildFloatN_aInv, show (1:ℝ) + cubI.ψ (x - ⌊x⌋) = cubSp1 (x - ⌊x⌋) from add_sub_cancel _ _]
  simp only [approxInvLog, hk]
  rfl

/-- the interpolation underlying an interpolated kind -/
noncomputable def interpOf : MKind → Interp
  | .cubic => cubI
  | _ => linI

lemma approxLog_interp (hk : p.kind ≠ .log) (v : ℝ) :
    approxLog p v = (interpOf p.kind).aLog v := by
  rcases h : p.kind with _ | _ | _
  · exact absurd h hk
  · exact approxLog_linear p h v
  · exact approxLog_cubic p h v

lemma approxInvLog_interp (hk : p.kind ≠ .log) (x : ℝ) :
    approxInvLog p x = (interpOf p.kind).aInv x := by
  rcases h : p.kind with _ | _ | _
  · exact absurd h hk
  · exact approxInvLog_linear p h x
  · exact approxInvLog_cubic p h x

/-! ### T1: the two approximate logarithms are mutually inverse and increasing -/

theorem approxInvLog_approxLog {v : ℝ} (hv : 0 < v) : approxInvLog p (approxLog p v) = v := by
  by_cases hk : p.kind = .log
  · rw [approxLog_log p hk, approxInvLog_log p hk, Real.exp_log hv]
  · rw [approxLog_interp p hk, approxInvLog_interp p hk, Interp.aInv_aLog _ hv]

theorem approxLog_approxInvLog (x : ℝ) : approxLog p (approxInvLog p x) = x := by
  by_cases hk : p.kind = .log
  · rw [approxInvLog_log p hk, approxLog_log p hk, Real.log_exp]
  · rw [approxInvLog_interp p hk, approxLog_interp p hk, Interp.aLog_aInv]

theorem approxLog_strictMono {v w : ℝ} (hv : 0 < v) (hvw : v < w) :
    approxLog p v < approxLog p w := by
  by_cases hk : p.kind = .log
  · rw [approxLog_log p hk, approxLog_log p hk]; exact Real.log_lt_log hv hvw
  · rw [approxLog_interp p hk, approxLog_interp p hk]; exact Interp.aLog_strictMono _ hv hvw

theorem approxInvLog_pos (x : ℝ) : 0 < approxInvLog p x := by
  by_cases hk : p.kind = .log
  · rw [approxInvLog_log p hk]; exact Real.exp_pos x
  · rw [approxInvLog_interp p hk]; exact Interp.aInv_pos _ x

theorem approxLog_mono {v w : ℝ} (hv : 0 < v) (hvw : v ≤ w) : approxLog p v ≤ approxLog p w := by
  rcases hvw.eq_or_lt with h | h
  · rw [h]
  · exact (approxLog_strictMono p hv h).le

theorem approxInvLog_strictMono {x y : ℝ} (h : x < y) : approxInvLog p x < approxInvLog p y := by
  by_contra hc
  have := approxLog_mono p (approxInvLog_pos p y) (not_lt.1 hc)
  rw [approxLog_approxInvLog, approxLog_approxInvLog] at this
  exact not_lt.2 this h

lemma approxLog_le_iff {v w : ℝ} (hv : 0 < v) (hw : 0 < w) :
    approxLog p v ≤ approxLog p w ↔ v ≤ w :=
  ⟨fun h => not_lt.1 fun hlt => not_lt.2 h (approxLog_strictMono p hw hlt), approxLog_mono p hv⟩

/-! ### the bin width and the multiplier -/

/-- the width of a bin in `approxLog`-space: `1 / multiplier` -/
noncomputable def width : ℝ :=
  match p.kind with
  | .log => Real.log p.gamma
  | _ => Real.logb 2 p.gamma

lemma multiplier_eq : multiplier p = 1 / width p := by
  unfold multiplier width
  rcases p.kind with _ | _ | _ <;> simp

lemma width_pos (hγ : 1 < p.gamma) : 0 < width p := by
  unfold width
  rcases p.kind with _ | _ | _
  · exact Real.log_pos hγ
  · exact Real.logb_pos one_lt_two hγ
  · exact Real.logb_pos one_lt_two hγ

lemma multiplier_pos (hγ : 1 < p.gamma) : 0 < multiplier p := by
  rw [multiplier_eq]; exact one_div_pos.2 (width_pos p hγ)

lemma index_eq (v : ℝ) : index p v = goFloor (approxLog p v / width p + p.indexOffset) := by
  rw [index, multiplier_eq, mul_def, add_def, mul_one_div]

lemma lowerBound_eq (i : ℤ) :
    lowerBound p i = approxInvLog p (((i : ℝ) - p.indexOffset) * width p) := by
  rw [lowerBound, multiplier_eq, div_def, sub_def, ofInt_def, div_div_eq_mul_div, div_one]

/-! ### T2: bin consistency and monotonicity -/

theorem index_mono (hγ : 1 < p.gamma) {v w : ℝ} (hv : 0 < v) (hvw : v ≤ w) :
    index p v ≤ index p w := by
  rw [index_eq, index_eq]
  exact goFloor_mono ((add_le_add_iff_right _).2
    (div_le_div_of_nonneg_right (approxLog_mono p hv hvw) (width_pos p hγ).le))

lemma lowerBound_pos (i : ℤ) : 0 < lowerBound p i := by
  rw [lowerBound_eq]; exact approxInvLog_pos p _

lemma approxLog_lowerBound (i : ℤ) :
    approxLog p (lowerBound p i) = ((i : ℝ) - p.indexOffset) * width p := by
  rw [lowerBound_eq, approxLog_approxInvLog]

theorem lowerBound_le (hγ : 1 < p.gamma) {v : ℝ} (hv : 0 < v) :
    lowerBound p (index p v) ≤ v := by
  rw [← approxLog_le_iff p (lowerBound_pos p _) hv, approxLog_lowerBound,
    ← le_div_iff₀ (width_pos p hγ), sub_le_iff_le_add, index_eq]
  exact goFloor_le _

theorem le_lowerBound_succ (hγ : 1 < p.gamma) {v : ℝ} (hv : 0 < v) :
    v ≤ lowerBound p (index p v + 1) := by
  rw [← approxLog_le_iff p hv (lowerBound_pos p _), approxLog_lowerBound,
    ← div_le_iff₀ (width_pos p hγ), le_sub_iff_add_le, index_eq, Int.cast_add, Int.cast_one]
  exact le_goFloor_add_one _

theorem lowerBound_strictMono (hγ : 1 < p.gamma) {i j : ℤ} (h : i < j) :
    lowerBound p i < lowerBound p j := by
  rw [lowerBound_eq, lowerBound_eq]
  exact approxInvLog_strictMono p (mul_lt_mul_of_pos_right
    ((sub_lt_sub_iff_right _).2 (Int.cast_lt.2 h)) (width_pos p hγ))

/-! ### T3: the accuracy reported is the accuracy requested -/

/-- the ratio `(1+α)/(1-α)` guaranteed by the mapping -/
noncomputable def ratio : ℝ :=
  match p.kind with
  | .log => p.gamma
  | .linear => Real.exp (Real.logb 2 p.gamma)
  | .cubic => Real.exp (7 / 10 * Real.logb 2 p.gamma)

lemma relativeAccuracy_eq : relativeAccuracy p = 1 - 2 / (1 + ratio p) := by
  unfold relativeAccuracy ratio
  rcases p.kind with _ | _ | _ <;> simp

lemma one_lt_ratio (hγ : 1 < p.gamma) : 1 < ratio p := by
  have h2 : 0 < Real.logb 2 p.gamma := Real.logb_pos one_lt_two hγ
  unfold ratio
  rcases p.kind with _ | _ | _
  · exact hγ
  · exact Real.one_lt_exp_iff.2 h2
  · exact Real.one_lt_exp_iff.2 (by positivity)

/-- `α = 1 - 2 / (1 + ρ)` is the solution in `(0, 1)` of `(1 + α) / (1 - α) = ρ`, for `1 < ρ` -/
lemma alpha_of_ratio {ρ : ℝ} (h : 1 < ρ) :
    (0 < 1 - 2 / (1 + ρ) ∧ 1 - 2 / (1 + ρ) < 1) ∧
      (1 + (1 - 2 / (1 + ρ))) / (1 - (1 - 2 / (1 + ρ))) = ρ := by
  have h1 : 0 < 1 + ρ := by linarith
  refine ⟨⟨?_, sub_lt_self _ (by positivity)⟩, ?_⟩
  · rw [sub_pos, div_lt_one h1]; linarith
  · field_simp; ring

theorem relativeAccuracy_pos_lt_one (hγ : 1 < p.gamma) :
    0 < relativeAccuracy p ∧ relativeAccuracy p < 1 := by
  rw [relativeAccuracy_eq]; exact (alpha_of_ratio (one_lt_ratio p hγ)).1

lemma ratio_eq (hγ : 1 < p.gamma) :
    (1 + relativeAccuracy p) / (1 - relativeAccuracy p) = ratio p := by
  rw [relativeAccuracy_eq]; exact (alpha_of_ratio (one_lt_ratio p hγ)).2

/-- `ρ = (1 + a) / (1 - a)` is `> 1` and gives back `a = 1 - 2 / (1 + ρ)`, for `0 < a < 1` -/
lemma ratio_of_alpha {a : ℝ} (h0 : 0 < a) (h1 : a < 1) :
    1 < (1 + a) / (1 - a) ∧ 1 - 2 / (1 + (1 + a) / (1 - a)) = a := by
  have h : 0 < 1 - a := sub_pos.2 h1
  refine ⟨by rw [one_lt_div h]; linarith, ?_⟩
  field_simp; ring

theorem gamma_ofAlpha_gt_one (k : MKind) {a : ℝ} (h0 : 0 < a) (h1 : a < 1) :
    1 < (ofAlpha k a).gamma := by
  have hr := (ratio_of_alpha h0 h1).1
  have l2 : 0 < Real.log 2 := Real.log_pos one_lt_two
  unfold ofAlpha gammaOfAlpha
  rcases k with _ | _ | _ <;> simp
  · exact hr
  · exact Real.one_lt_rpow hr l2
  · exact Real.one_lt_rpow hr (by positivity)

/-- `log₂ (r ^ (x ln 2)) = x ln r`: the exponents the constructors put on `(1 + α) / (1 - α)` -/
lemma logb_two_rpow_mul_log_two {r : ℝ} (hr : 0 < r) (x : ℝ) :
    Real.logb 2 (r ^ (x * Real.log 2)) = x * Real.log r := by
  rw [Real.logb, Real.log_rpow hr, mul_right_comm, mul_div_assoc,
    div_self (Real.log_pos one_lt_two).ne', mul_one]

theorem relativeAccuracy_ofAlpha (k : MKind) {a : ℝ} (h0 : 0 < a) (h1 : a < 1) :
    relativeAccuracy (ofAlpha k a) = a := by
  obtain ⟨hr, ha⟩ := ratio_of_alpha h0 h1
  have hr0 : 0 < (1 + a) / (1 - a) := one_pos.trans hr
  have key : ratio (ofAlpha k a) = (1 + a) / (1 - a) := by
    rcases k with _ | _ | _
    · simp [ratio, ofAlpha, gammaOfAlpha]
    · simp only [ratio, ofAlpha, gammaOfAlpha, pow_def, div_def, add_def, sub_def, one_def, ln2_def]
      rw [← one_mul (Real.log 2), logb_two_rpow_mul_log_two hr0, one_mul, Real.exp_log hr0]
    · simp only [ratio, ofAlpha, gammaOfAlpha, pow_def, div_def, mul_def, add_def, sub_def, one_def,
        ln2_def, ofInt_def, Int.cast_ofNat]
      rw [mul_div_right_comm, logb_two_rpow_mul_log_two hr0, ← mul_assoc]
      norm_num [Real.exp_log hr0]
  rw [relativeAccuracy_eq, key, ha]

/-! ### T4: consecutive bin bounds are within the ratio -/

lemma ratio_interp (hk : p.kind ≠ .log) :
    ratio p = Real.exp (width p / (interpOf p.kind).c) := by
  rcases h : p.kind with _ | _ | _
  · exact absurd h hk
  · simp [ratio, width, h, interpOf, linI]
  · simp only [ratio, width, h, interpOf, cubI]; congr 1; ring

theorem lowerBound_succ_le (hγ : 1 < p.gamma) (i : ℤ) :
    lowerBound p (i + 1) ≤ lowerBound p i * ratio p := by
  have hw := width_pos p hγ
  rw [lowerBound_eq, lowerBound_eq, Int.cast_add, Int.cast_one, add_sub_right_comm, add_one_mul]
  by_cases hk : p.kind = .log
  · rw [approxInvLog_log p hk, approxInvLog_log p hk, Real.exp_add]
    simp only [width, ratio, hk]
    rw [Real.exp_log (one_pos.trans hγ)]
  · rw [approxInvLog_interp p hk, approxInvLog_interp p hk, ratio_interp p hk]
    exact (interpOf p.kind).aInv_add_le _ hw.le

theorem lowerBound_ratio (hγ : 1 < p.gamma) (i : ℤ) :
    lowerBound p (i + 1) ≤
      lowerBound p i * ((1 + relativeAccuracy p) / (1 - relativeAccuracy p)) := by
  rw [ratio_eq p hγ]; exact lowerBound_succ_le p hγ i

/-! ### T5: the accuracy guarantee -/

/-- the representative `L (1 + α)` of a bin `[L, L (1+α)/(1-α)]` is `α`-accurate on the bin -/
lemma abs_rep_sub_le {L v α : ℝ} (h0 : 0 ≤ α) (h1 : α < 1) (hL : L ≤ v)
    (hv : v ≤ L * ((1 + α) / (1 - α))) : |L * (1 + α) - v| ≤ α * v := by
  rw [← mul_div_assoc, le_div_iff₀ (sub_pos.2 h1)] at hv
  have := mul_le_mul_of_nonneg_right hL (add_nonneg zero_le_one h0)
  rw [abs_le]
  constructor <;> linarith

lemma value_eq (i : ℤ) : value p i = lowerBound p i * (1 + relativeAccuracy p) := by
  rw [value, mul_def, add_def, one_def]

theorem accuracy (hγ : 1 < p.gamma) {v : ℝ} (hv : 0 < v) :
    |value p (index p v) - v| ≤ relativeAccuracy p * v := by
  obtain ⟨a0, a1⟩ := relativeAccuracy_pos_lt_one p hγ
  rw [value_eq]
  exact abs_rep_sub_le a0.le a1 (lowerBound_le p hγ hv)
    ((le_lowerBound_succ p hγ hv).trans (lowerBound_ratio p hγ _))

/-! ### T6: indexes fit in 32 bits on the indexable range -/

lemma expLike_log (hk : p.kind = .log) (x : ℝ) : expLike p x = Real.exp x := by
  simp [expLike, hk]

lemma expLike_interp (hk : p.kind ≠ .log) (x : ℝ) : expLike p x = (2:ℝ) ^ x := by
  unfold expLike
  rcases h : p.kind with _ | _ | _
  · exact absurd h hk
  · rfl
  · rfl

/-- `approxLog` is within `1` of the logarithm that `expLike` inverts (and equal to it for the
logarithmic kind) -/
lemma approxLog_bounds {v a b : ℝ} (ha : expLike p a ≤ v) (hb : v ≤ expLike p b) :
    a - 1 < approxLog p v ∧ approxLog p v < b + 1 := by
  by_cases hk : p.kind = .log
  · rw [expLike_log p hk] at ha hb
    have hv : 0 < v := (Real.exp_pos _).trans_le ha
    rw [← Real.le_log_iff_exp_le hv] at ha
    rw [← Real.log_le_iff_le_exp hv] at hb
    rw [approxLog_log p hk]
    exact ⟨by linarith, by linarith⟩
  · rw [expLike_interp p hk] at ha hb
    have hv : 0 < v := (Real.rpow_pos_of_pos two_pos _).trans_le ha
    rw [← Real.le_logb_iff_rpow_le one_lt_two hv] at ha
    rw [← Real.logb_le_iff_le_rpow one_lt_two hv] at hb
    rw [approxLog_interp p hk]
    obtain ⟨g1, g2⟩ := (interpOf p.kind).aLog_bounds hv
    exact ⟨by linarith, by linarith⟩

lemma minIndexable_eq : minIndexable p =
    fmax (expLike p (((-2147483648 : ℝ) - p.indexOffset) * width p + 1))
      ((2:ℝ) ^ (-1022 : ℤ) * adjustedGamma p) := by
  rw [minIndexable, multiplier_eq]; simp

lemma maxIndexable_eq : maxIndexable p =
    fmin (expLike p (((2147483647 : ℝ) - p.indexOffset) * width p - 1))
      (Real.exp 709.4361393031 / (2 * adjustedGamma p) * (adjustedGamma p + 1)) := by
  rw [maxIndexable, multiplier_eq]; simp

theorem index_int32 (hγ : 1 < p.gamma) {v : ℝ} (hmin : minIndexable p ≤ v)
    (hmax : v ≤ maxIndexable p) :
    -2147483648 ≤ index p v ∧ index p v ≤ 2147483647 := by
  have hw := width_pos p hγ
  rw [minIndexable_eq] at hmin
  rw [maxIndexable_eq] at hmax
  obtain ⟨hlo, hhi⟩ := approxLog_bounds p ((le_fmax_left _ _).trans hmin)
    (hmax.trans (fmin_le_left _ _))
  rw [add_sub_cancel_right, ← lt_div_iff₀ hw, sub_lt_iff_lt_add] at hlo
  rw [sub_add_cancel, ← div_lt_iff₀ hw, lt_sub_iff_add_lt] at hhi
  rw [index_eq]
  exact ⟨lt_goFloor (by push_cast; exact hlo), goFloor_lt (by push_cast; exact hhi)⟩

/-! ### satisfiability of the hypotheses of T6 -/

lemma expLike_le_one {x : ℝ} (hx : x ≤ 0) : expLike p x ≤ 1 := by
  by_cases hk : p.kind = .log
  · rw [expLike_log p hk]; exact Real.exp_le_one_iff.2 hx
  · rw [expLike_interp p hk]; exact Real.rpow_le_one_of_one_le_of_nonpos one_le_two hx

lemma one_le_expLike {x : ℝ} (hx : 0 ≤ x) : 1 ≤ expLike p x := by
  by_cases hk : p.kind = .log
  · rw [expLike_log p hk]; exact Real.one_le_exp hx
  · rw [expLike_interp p hk]; exact Real.one_le_rpow one_le_two hx

end model

/-- with `gamma = 2` a bin is at least `1/2` wide, and the adjusted base is at most `4` -/
lemma width_adjustedGamma_two (k : MKind) (off : ℝ) :
    1 / 2 ≤ width ⟨k, 2, off⟩ ∧
      0 < adjustedGamma (⟨k, 2, off⟩ : Params ℝ) ∧ adjustedGamma (⟨k, 2, off⟩ : Params ℝ) ≤ 4 := by
  have l2 : (1:ℝ) / 2 < Real.log 2 := lt_trans (by norm_num) Real.log_two_gt_d9
  have l0 : 0 < Real.log 2 := Real.log_pos one_lt_two
  have hpow : ∀ z : ℝ, z ≤ 2 → 0 < (2:ℝ) ^ z ∧ (2:ℝ) ^ z ≤ 4 := fun z hz =>
    ⟨Real.rpow_pos_of_pos two_pos _, by
      have := Real.rpow_le_rpow_of_exponent_le one_le_two hz
      rwa [Real.rpow_two, show (2:ℝ) ^ 2 = 4 by norm_num] at this⟩
  rcases k with _ | _ | _
  · exact ⟨l2.le, two_pos, by norm_num [adjustedGamma]⟩
  · refine ⟨by norm_num [width], ?_⟩
    simp only [adjustedGamma, pow_def, div_def, one_def, ln2_def]
    exact hpow _ ((div_le_iff₀ l0).2 (by linarith))
  · refine ⟨by norm_num [width], ?_⟩
    simp only [adjustedGamma, pow_def, div_def, mul_def, ofInt_def, ln2_def, Int.cast_ofNat]
    exact hpow _ ((div_le_iff₀ (mul_pos (by norm_num) l0)).2 (by linarith))

/-- the hypotheses of `index_int32` are satisfiable: with `gamma = 2` and offset `0`, the value `1`
is indexable, for every kind -/
lemma one_indexable (k : MKind) :
    minIndexable (⟨k, 2, 0⟩ : Params ℝ) ≤ 1 ∧ 1 ≤ maxIndexable (⟨k, 2, 0⟩ : Params ℝ) := by
  obtain ⟨hw, g0, g4⟩ := width_adjustedGamma_two k 0
  rw [minIndexable_eq, maxIndexable_eq]
  refine ⟨fmax_le (expLike_le_one _ (by linarith)) ?_, le_fmin (one_le_expLike _ (by linarith)) ?_⟩
  · have hmn : (2:ℝ) ^ (-1022 : ℤ) ≤ 1 / 4 :=
      (zpow_le_zpow_right₀ one_le_two (by norm_num : (-1022 : ℤ) ≤ -2)).trans_eq (by norm_num)
    calc (2:ℝ) ^ (-1022 : ℤ) * adjustedGamma _ ≤ 1 / 4 * 4 :=
          mul_le_mul hmn g4 g0.le (by norm_num)
      _ = 1 := by norm_num
  · have hE : (2:ℝ) ≤ Real.exp 709.4361393031 :=
      le_trans (by norm_num) (Real.add_one_le_exp _)
    rw [div_mul_eq_mul_div, le_div_iff₀ (mul_pos two_pos g0), one_mul]
    exact le_trans (by linarith) (mul_le_mul_of_nonneg_right hE (by linarith))

end DDS.RealMap
