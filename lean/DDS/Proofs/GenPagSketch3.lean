/-
  DDS.Proofs.GenPagSketch3 — continuation of `GenPagSketch.lean` / `GenPagSketch2.lean` (same namespace): the
  `DecodeAndMergeWith` method of the `StoreI (GPS grow)` instance (`gDecode`: the regenerated
  `BufferedPaginatedStore.DecodeAndMergeWith`, fallback = the regenerated generic `store.DecodeAndMergeWith` over
  `baseI`) against the same method of `instance : StoreI Store` (`GenSketch.storeDecode`, i.e. the model's
  `Sketch.decodeStore`), and the regenerated sketch decoder (`DDSketch.decodeAndMergeWith` loop) over the two.

  1. `StepRel x st b sub` — what one store block does on a `Sim` pair: THE SAME ERROR; and when that error is nil,
     the same remaining bytes and `Sim`-related receivers.  (On `io.EOF` the Go store keeps the bins read before
     the cut and has consumed input, the model instance returns the unchanged store and input: nothing more can
     be said there, and the sketch decoder returns at once.)  It follows from what the regenerated side does in each
     case of the model's answer on the partner (`stepRel_of_model`).  The two layouts the paginated store decodes
     itself come from `GenPagCodec`: the regenerated decoder on the image of `s` against the model's decoder on ANY
     model store with the invariant and the content of `s` (`DecAgrees`), which is what a `Sim` pair hands over
     (`stepRel_of_agrees`).
       `sim_decode_deltas`      layout `BinEncodingIndexDeltas`.  Hypotheses: `CapOK x.g`
                                (`len(buffer) ≤ max(cap(buffer), trigger)`), announced count `< 2^63`, int32 indexes.
       `sim_decode_contiguous`  layout `BinEncodingContiguousCounts`.  Hypotheses: int32 indexes, counts finite `≥ 0`,
                                and `2·v ≤ 3·len(b) + 51` for the announced count `v` (FUEL, see below).
  2. The fallback of the paginated decoder, and the three layouts in one statement.
       `sim_decode_generic`     every other sub-flag (the generic decoder over `baseI`), through
                                `GenDecodeWrap.decode_model_ok/_error` with `sim_addWithCount` / `sim_add`.
                                Hypotheses: the calls of the input have int32 indexes and finite-or-`≥ 0` counts
                                (`GoodCall`), no index leaves int64 (`NoWrap`), and the model does not panic on
                                the partner store (`decodeStore st sub (nb b) ≠ none`; a non-finite count makes the
                                model say `none` while Go stores nothing — outside the model).
       `DecodeOK`, `sim_decode` the three in one statement.
     FUEL of the instance (`gDecodeFuel`): sufficient for the deltas layout (it contains `deltasFuel` of the actual
     store) and for the generic layout (`≥ len(b) + 9`); for the contiguous layout
     `GenPagCodec.DecodeAndMergeWith_contiguous` asks `pageFuelMax + 2v + 13` for the ANNOUNCED count `v`, the
     instance has `pageFuelMax + 3·len(b) + 64`: enough exactly when `2v ≤ 3·len(b) + 51` — true of every block whose
     `v` counts are present (each takes `≥ 1` byte), false for a header announcing far more bins than bytes follow.
     The bound is a hypothesis of `sim_decode_contiguous`.
     SURPRISE: `Sim` does not record `len(buffer) ≤ cap(buffer)` (true of every Go slice, not of every value of the
     regenerated record), and `GenPagCodec.DecodeAndMergeWith_deltas` is false without `CapOK`; neither the add
     specifications nor the decode theorems expose the capacity of their result, so `CapOK` cannot be propagated:
     it is a hypothesis wherever a deltas block is decoded.  A fresh store satisfies it (`capOK_new`), and so does
     any store with an empty buffer.
  3. SKETCH LEVEL.  `GoodRun fb fuel b a`: the side conditions (`DecodeOK`) at every store block the regenerated
     decoder loop meets when run on the regenerated side (defined by recursion on the fuel, following that run).
     `loop1_param`: `SkSim a a'`, `GoodRun` ⟹ the two runs of `DDSketch.decodeAndMergeWith.loop1` agree (`LoopRel`:
     both `.done` with the same bytes and `SkSim` states; or both `.ret` with the same non-nil error; or both
     `.panic` / `.nofuel`).  The mapping block, the zero-count block and the fallback (exact summary flags) do not
     touch the stores.  `decodeAndMergeWith_param`, `DecodeAndMergeWith_param`: the same for the two entry points
     (same error; when nil, `SkSim` results).
-/
import DDS.Proofs.GenPagSketch2
import DDS.Proofs.GenPagCodec
import DDS.Proofs.GenDecodeWrap
import DDS.Proofs.GenSketch5
import DDS.Generated.CodeSketchIter

namespace DDS.GenPagSketch

open DDS DDS.GoSem DDS.PStore DDS.GenPag DDS.Gen.Paginated DDS.Gen.Encoding DDS.Codec DDS.GenEncoding
open DDS.GenStoreDecode (dTrace storeIndexes NoWrap subflag)

variable {grow : Int → Int → Int}

/-! ### 1. one store block on a `Sim` pair -/

/-- the same error; when it is nil: the same remaining bytes and related receivers -/
def StepRel (x : GPS grow) (st : Store) (b : List (BitVec 8)) (sub : SubFlag) : Prop :=
  (StoreI.DecodeAndMergeWith x b sub).2.2 = (StoreI.DecodeAndMergeWith st b sub).2.2 ∧
  ((StoreI.DecodeAndMergeWith st b sub).2.2 = GoErr.nil →
    (StoreI.DecodeAndMergeWith x b sub).2.1 = (StoreI.DecodeAndMergeWith st b sub).2.1 ∧
    Sim (StoreI.DecodeAndMergeWith x b sub).1 (StoreI.DecodeAndMergeWith st b sub).1)

@[simp] theorem gps_decode (x : GPS grow) (b : List (BitVec 8)) (sub : SubFlag) :
    StoreI.DecodeAndMergeWith x b sub = gDecode x b sub := rfl

/-- `DecodeAndMergeWith` of the model-store instance, by cases on the model's answer -/
theorem store_decode_eq (st : Store) (b : List (BitVec 8)) (sub : SubFlag) :
    (StoreI.DecodeAndMergeWith st b sub : Store × List (BitVec 8) × GoErr) =
      match Sketch.decodeStore st (Wire.flagSub sub.byte.toNat) (nb b) with
      | some (.ok (st', rest)) => (st', bn rest, GoErr.nil)
      | some (.error e) => (st, b, GenSketch.decErr e)
      | none => (st, b, GoErr.nil) := rfl

/-- `gDecode` runs the regenerated paginated decoder with SOME fallback (the regenerated generic decoder over `baseI`,
    irrelevant for the two layouts the paginated store decodes itself) -/
theorem gDecode_eq (x : GPS grow) (b : List (BitVec 8)) (sub : SubFlag) :
    ∃ fb, gDecode x b sub =
      match BufferedPaginatedStore.DecodeAndMergeWith (gDecodeFuel x b) grow fb x.g b sub with
      | .ok (g', b', e) => (⟨g'⟩, b', e)
      | _ => (x, b, GoErr.nil) := ⟨_, rfl⟩

theorem decErr_eof : GenSketch.decErr .eof = GoErr.eof := rfl

/-- the fuel of the instance covers the generic layout (`len(b) + 9`) and, for an announced count `v` with
    `2v ≤ 3·len(b) + 51`, the contiguous layout -/
theorem gDecodeFuel_ge (x : GPS grow) (b : List (BitVec 8)) :
    b.length + 9 ≤ gDecodeFuel x b ∧
      ∀ v, 2 * v ≤ 3 * b.length + 51 → pageFuelMax + 2 * v + 13 ≤ gDecodeFuel x b := by
  unfold gDecodeFuel
  generalize deltasFuel compactFuel grow (ofGen x.g) x.g.bufferCap b = d
  generalize pageFuelMax = p
  -- `omega` proves both, at twenty times the cost
  refine ⟨Nat.le_trans (Nat.add_le_add (Nat.le_mul_of_pos_left _ (by decide)) (by decide : 9 ≤ 64))
    (Nat.add_le_add_right (Nat.le_add_left _ _) _), fun v hv => ?_⟩
  calc p + 2 * v + 13 ≤ p + (3 * b.length + 51) + 13 := Nat.add_le_add_right (Nat.add_le_add_left hv _) _
    _ = p + 3 * b.length + 64 := by rw [← Nat.add_assoc p, Nat.add_assoc (p + 3 * b.length)]
    _ ≤ d + p + 3 * b.length + 64 := Nat.add_le_add_right (Nat.add_le_add_right (Nat.le_add_left _ _) _) _

/-- `StepRel` from what the regenerated side does in each case of the model's answer on the partner -/
theorem stepRel_of_model {x : GPS grow} {st : Store} {b : List (BitVec 8)} {sub : SubFlag} (k : Nat)
    (hk : Wire.flagSub sub.byte.toNat = k)
    (h : match Sketch.decodeStore st k (nb b) with
      | none => False
      | some (.error e) => (gDecode x b sub).2.2 = GenSketch.decErr e
      | some (.ok (st', rest)) => ∃ x', gDecode x b sub = (x', bn rest, GoErr.nil) ∧ Sim x' st') :
    StepRel x st b sub := by
  unfold StepRel
  rw [gps_decode, store_decode_eq, hk]
  generalize Sketch.decodeStore st k (nb b) = m' at h
  match m', h with
  | some (.error e), h => exact ⟨h, fun hn => absurd hn (GenSketch.decErr_ne_nil' e)⟩
  | some (.ok (st', rest)), ⟨x', hx, hs⟩ => rw [hx]; exact ⟨rfl, fun _ => ⟨rfl, hs⟩⟩

/-- the regenerated paginated decoder against the model's on the partner store (`DecAgrees`) -/
theorem stepRel_of_agrees {x : GPS grow} {st : Store} {b : List (BitVec 8)} {sub : SubFlag} (k : Nat)
    (hk : Wire.flagSub sub.byte.toNat = k) {r : Res (GP × List (BitVec 8) × GoErr)}
    (hr : gDecode x b sub = match r with
      | .ok (g', b', e) => (⟨g'⟩, b', e)
      | _ => (x, b, GoErr.nil))
    (hA : DecAgrees r (Sketch.decodeStore st k (nb b))) : StepRel x st b sub := by
  refine stepRel_of_model k hk ?_
  generalize Sketch.decodeStore st k (nb b) = m at hA
  match m, hA with
  | some (.error e), hA =>
    obtain ⟨rfl, g', b', rfl⟩ := hA
    rw [hr]; rfl
  | some (.ok (st', rest)), hA =>
    obtain ⟨s1, cap1, st1, rfl, rfl, hi1, hit1, hc1⟩ := hA
    rw [hr]
    exact ⟨_, rfl, s1, st1, cap1, rfl, rfl, hi1, hit1, hc1⟩

/-- `len(buffer) ≤ max(cap(buffer), trigger)`: true of every Go slice (`len ≤ cap`), not of every record value -/
def CapOK (g : GP) : Prop := (g.buffer.length : Int) ≤ max g.bufferCap g.bufferCompactionTriggerLen

theorem capOK_new : CapOK NewBufferedPaginatedStore :=
  Int.le_trans (by decide : ((0 : Nat) : Int) ≤ 4) (Int.le_max_left ..)

theorem capOK_of_empty (g : GP) (h : g.buffer = []) (ht : 0 ≤ g.bufferCompactionTriggerLen) : CapOK g := by
  unfold CapOK; rw [h]; exact Int.le_trans ht (Int.le_max_right ..)

theorem flagSub_deltas : Wire.flagSub BinEncodingIndexDeltas.byte.toNat = Consts.binEncodingIndexDeltas := by decide
theorem flagSub_cc :
    Wire.flagSub BinEncodingContiguousCounts.byte.toNat = Consts.binEncodingContiguousCounts := by decide

/-- **layout `BinEncodingIndexDeltas`** on a `Sim` pair -/
theorem sim_decode_deltas {x : GPS grow} {st : Store} (h : Sim x st) (b : List (BitVec 8)) (hcap : CapOK x.g)
    (hn : ∀ v rest, decUvarint64 (nb b) = .ok (v, rest) → v < 2 ^ 63)
    (hidx : ∀ u ∈ storeIndexes Consts.binEncodingIndexDeltas (nb b), Idx32 u) :
    StepRel x st b BinEncodingIndexDeltas := by
  obtain ⟨s, s', cap, hx, rfl, hi, hi', hc⟩ := h
  have hcap' : (s.buffer.length : Int) ≤ max cap (s.trigger : Int) := by
    unfold CapOK at hcap; rw [hx] at hcap; exact hcap
  have hf : deltasFuel compactFuel grow s cap b ≤ gDecodeFuel x b := by
    unfold gDecodeFuel; rw [hx, ofGen_toGen, toGen_bufferCap]
    exact Nat.le_add_right_of_le (Nat.le_add_right_of_le (Nat.le_add_right _ _))
  obtain ⟨fb, hfb⟩ := gDecode_eq x b BinEncodingIndexDeltas
  have hA := DecodeAndMergeWith_deltas compactFuel compactSpec grow fb
    (gDecodeFuel x b) s s' cap b hi hi' hc.symm hcap' hn hidx hf
  rw [← hx] at hA
  exact stepRel_of_agrees _ flagSub_deltas hfb hA

/-- **layout `BinEncodingContiguousCounts`** on a `Sim` pair; `2v ≤ 3·len(b) + 51` (`v` the announced number of bins)
    makes the fuel of the instance sufficient -/
theorem sim_decode_contiguous {x : GPS grow} {st : Store} (h : Sim x st) (b : List (BitVec 8))
    (hn : ∀ v r0 start r1 stride r2, decUvarint64 (nb b) = .ok (v, r0) → decVarint64 r0 = .ok (start, r1) →
      decVarint64 r1 = .ok (stride, r2) →
      2 * v ≤ 3 * b.length + 51 ∧ (∀ j : Nat, j < v → Idx32 (start + (j : Int) * stride)) ∧
        (∀ c ∈ ccCounts v r2, NonnegFin c)) :
    StepRel x st b BinEncodingContiguousCounts := by
  obtain ⟨s, s', cap, hx, rfl, hi, hi', hc⟩ := h
  obtain ⟨fb, hfb⟩ := gDecode_eq x b BinEncodingContiguousCounts
  have hA := DecodeAndMergeWith_contiguous_rel page_spec grow fb
    (gDecodeFuel x b) s s' cap b hi hi' hc.symm (Nat.le_trans (Nat.le_add_left 9 _) (gDecodeFuel_ge x b).1)
    (fun v r0 start r1 stride r2 h1 h2 h3 => by
      obtain ⟨a1, a2, a3⟩ := hn v r0 start r1 stride r2 h1 h2 h3
      exact ⟨(gDecodeFuel_ge x b).2 v a1, a2, a3⟩)
  rw [← hx] at hA
  exact stepRel_of_agrees _ flagSub_cc hfb hA

/-! ### 2. the generic layout (the fallback of the paginated decoder), and the three layouts in one statement -/

/-- a call of the generic decoder that keeps `Sim`: int32 index, a finite count is `≥ 0` -/
def GoodCall : GenDecodeWrap.Call → Prop
  | (i, some c) => Idx32 i ∧ ∀ w, c = .fin w → 0 ≤ w
  | (i, none) => Idx32 i

theorem sim_step (x : GPS grow) (st : Store) (c : GenDecodeWrap.Call) (h : Sim x st) (hc : GoodCall c) :
    Sim (@GenDecodeWrap.applyCall (GPS grow) baseI x c) (GenDecodeWrap.applyCall st c) := by
  obtain ⟨i, oc⟩ := c
  cases oc with
  | some c => exact sim_addWithCount h i hc.1 c hc.2
  | none => exact sim_add h i hc

theorem gDecode_fallback (x : GPS grow) (b : List (BitVec 8)) (sub : SubFlag)
    (h1 : (sub == BinEncodingIndexDeltas) = false) (h2 : (sub == BinEncodingContiguousCounts) = false) :
    gDecode x b sub =
      match @Gen.StoreDecode.DecodeAndMergeWith (GPS grow) baseI (gDecodeFuel x b) ⟨x.g⟩ b sub with
      | .ok (y, b', e) => (y, b', e)
      | _ => (x, b, GoErr.nil) := by
  unfold gDecode
  rw [DecodeAndMergeWith_fallback _ _ _ _ _ _ h1 h2]
  cases @Gen.StoreDecode.DecodeAndMergeWith (GPS grow) baseI (gDecodeFuel x b) ⟨x.g⟩ b sub <;> rfl

theorem flagSub_subflag : ∀ k, k < 64 → Wire.flagSub (subflag k).byte.toNat = k := by decide

/-- **every other sub-flag** (layout `IndexDeltasAndCounts`, undefined layouts): the regenerated generic decoder over
    `baseI`.  `hnone`: the model does not panic on the partner store. -/
theorem sim_decode_generic {x : GPS grow} {st : Store} (h : Sim x st) (b : List (BitVec 8)) (k : Nat) (hk : k < 64)
    (h1 : k ≠ Consts.binEncodingIndexDeltas) (h2 : k ≠ Consts.binEncodingContiguousCounts)
    (hP : ∀ l b' e, GenDecodeWrap.decodeCalls (gDecodeFuel x b) b (subflag k) = .ok (l, b', e) →
      ∀ c ∈ l.calls, GoodCall c)
    (hw : NoWrap k (nb b)) (hnone : Sketch.decodeStore st k (nb b) ≠ none) :
    StepRel x st b (subflag k) := by
  obtain ⟨_, e2, e3⟩ := GenStoreDecode.subflag_beq k hk
  have hG := gDecode_fallback x b (subflag k) (e2.trans (decide_eq_false h1)) (e3.trans (decide_eq_false h2))
  have hf := (gDecodeFuel_ge x b).1
  refine stepRel_of_model k (flagSub_subflag k hk) ?_
  rw [hG]
  cases hm : Sketch.decodeStore st k (nb b) with
  | none => exact absurd hm hnone
  | some q =>
    cases q with
    | error e =>
      rcases @GenDecodeWrap.decode_model_error (GPS grow) baseI Sim GoodCall sim_step x st h k hk b e
        (gDecodeFuel x b) hf hP hm with ⟨_, rfl, x', b', hr⟩ | ⟨_, rfl, hr⟩
      · rw [show (⟨x.g⟩ : GPS grow) = x from rfl, hr]; rfl
      · rw [show (⟨x.g⟩ : GPS grow) = x from rfl, hr]; rfl
    | ok p =>
      obtain ⟨x', hs, hr⟩ := @GenDecodeWrap.decode_model_ok (GPS grow) baseI Sim GoodCall sim_step x st p.1 h k b
        p.2 (gDecodeFuel x b) hf hw hP hm
      rw [show (⟨x.g⟩ : GPS grow) = x from rfl, hr]
      exact ⟨x', rfl, hs⟩

/-- the side conditions of one store block, by layout -/
def DecodeOK (x : GPS grow) (b : List (BitVec 8)) (sub : SubFlag) : Prop :=
  (sub = BinEncodingIndexDeltas ∧ CapOK x.g ∧
    (∀ v rest, decUvarint64 (nb b) = .ok (v, rest) → v < 2 ^ 63) ∧
    (∀ u ∈ storeIndexes Consts.binEncodingIndexDeltas (nb b), Idx32 u)) ∨
  (sub = BinEncodingContiguousCounts ∧
    ∀ v r0 start r1 stride r2, decUvarint64 (nb b) = .ok (v, r0) → decVarint64 r0 = .ok (start, r1) →
      decVarint64 r1 = .ok (stride, r2) →
      2 * v ≤ 3 * b.length + 51 ∧ (∀ j : Nat, j < v → Idx32 (start + (j : Int) * stride)) ∧
        (∀ c ∈ ccCounts v r2, NonnegFin c)) ∨
  (∃ k, k < 64 ∧ sub = subflag k ∧ k ≠ Consts.binEncodingIndexDeltas ∧ k ≠ Consts.binEncodingContiguousCounts ∧
    (∀ l b' e, GenDecodeWrap.decodeCalls (gDecodeFuel x b) b (subflag k) = .ok (l, b', e) →
      ∀ c ∈ l.calls, GoodCall c) ∧
    NoWrap k (nb b) ∧ ∀ s', Sketch.decodeStore (.pg s') k (nb b) ≠ none)

/-- **`StoreI.DecodeAndMergeWith` of the `GPS` instance on a `Sim` pair** -/
theorem sim_decode {x : GPS grow} {st : Store} (h : Sim x st) (b : List (BitVec 8)) (sub : SubFlag)
    (hok : DecodeOK x b sub) : StepRel x st b sub := by
  rcases hok with ⟨rfl, h1, h2, h3⟩ | ⟨rfl, h1⟩ | ⟨k, hk, rfl, h1, h2, h3, h4, h5⟩
  · exact sim_decode_deltas h b h1 h2 h3
  · exact sim_decode_contiguous h b h1
  · obtain ⟨p, rfl, _⟩ := sim_model_pg h
    exact sim_decode_generic h b k hk h1 h2 h3 h4 (h5 p)

/-! ### 3. the regenerated sketch decoder over the two store instances -/

section sketchDecode

open DDS.Gen.Sketch

variable {M : Type} [MapI M] [Inhabited M]

/-- the side conditions `OK` hold at every store block the decoder loop meets when run over the regenerated stores
    (by recursion on the fuel, following that run; nothing is asked where the loop stops) -/
def GoodRun (OK : GPS grow → List (BitVec 8) → SubFlag → Prop)
    (fb : List (BitVec 8) → Flag → Res (List (BitVec 8) × GoErr)) :
    Nat → List (BitVec 8) → DDSketch M (GPS grow) → Prop
  | 0, _, _ => True
  | fuel + 1, b, s =>
    ∀ b1 flag, DecodeFlag fuel b = .ok (b1, flag, GoErr.nil) →
      if (Flag.Type flag == FlagTypePositiveStore) then
        OK s.positiveValueStore b1 (Flag.SubFlag flag) ∧
        ∀ t b2, (StoreI.DecodeAndMergeWith s.positiveValueStore b1 (Flag.SubFlag flag) :
            GPS grow × List (BitVec 8) × GoErr) = (t, b2, GoErr.nil) →
          GoodRun OK fb fuel b2 { s with positiveValueStore := t }
      else if (Flag.Type flag == FlagTypeNegativeStore) then
        OK s.negativeValueStore b1 (Flag.SubFlag flag) ∧
        ∀ t b2, (StoreI.DecodeAndMergeWith s.negativeValueStore b1 (Flag.SubFlag flag) :
            GPS grow × List (BitVec 8) × GoErr) = (t, b2, GoErr.nil) →
          GoodRun OK fb fuel b2 { s with negativeValueStore := t }
      else if (Flag.Type flag == FlagTypeIndexMapping) then
        ∀ b2 m, MapI.Decode (M := M) b1 flag = (b2, m, GoErr.nil) →
          GoodRun OK fb fuel b2 { s with IndexMapping := m }
      else if (flag == FlagZeroCountVarFloat) then
        ∀ b2 z, DecodeVarfloat64 fuel b1 = .ok (b2, z, GoErr.nil) →
          GoodRun OK fb fuel b2 { s with zeroCount := F64.add s.zeroCount z }
      else
        ∀ b2, fb b1 flag = .ok (b2, GoErr.nil) → GoodRun OK fb fuel b2 s

/-- two runs of the decoder loop agree -/
def LoopRel (l : Loop (List (BitVec 8) × DDSketch M (GPS grow)) (DDSketch M (GPS grow) × GoErr))
    (l' : Loop (List (BitVec 8) × DDSketch M Store) (DDSketch M Store × GoErr)) : Prop :=
  match l, l' with
  | .done p, .done p' => p.1 = p'.1 ∧ SkSim p.2 p'.2
  | .ret p, .ret p' => p.2 = p'.2 ∧ p.2 ≠ GoErr.nil
  | .panic, .panic => True
  | .nofuel, .nofuel => True
  | _, _ => False

theorem ne_nil_of_bne {e : GoErr} (h : (e != GoErr.nil) = true) : e ≠ GoErr.nil := by simpa using h

section combinators

variable {l₁ l₂ : Loop (List (BitVec 8) × DDSketch M (GPS grow)) (DDSketch M (GPS grow) × GoErr)}
  {l₁' l₂' : Loop (List (BitVec 8) × DDSketch M Store) (DDSketch M Store × GoErr)}

omit [MapI M] [Inhabited M] in
theorem loopRel_ite (c : Bool) (h₁ : c = true → LoopRel l₁ l₁') (h₂ : ¬ c = true → LoopRel l₂ l₂') :
    LoopRel (if c then l₁ else l₂) (if c then l₁' else l₂') := by
  cases c
  · exact h₂ Bool.false_ne_true
  · exact h₁ rfl

omit [MapI M] [Inhabited M] in
/-- the test `if err != nil { return s, err }` on both sides -/
theorem loopRel_err {e e' : GoErr} (he : e = e') {s : DDSketch M (GPS grow)} {s' : DDSketch M Store}
    (h : e' = GoErr.nil → LoopRel l₁ l₁') :
    LoopRel (if e != GoErr.nil then .ret (s, e) else l₁) (if e' != GoErr.nil then .ret (s', e') else l₁') := by
  subst he
  by_cases hn : (e != GoErr.nil) = true
  · rw [if_pos hn, if_pos hn]; exact ⟨rfl, ne_nil_of_bne hn⟩
  · rw [if_neg hn, if_neg hn]; exact h (GoErr.eq_nil_of_not_bne hn)

end combinators

omit [MapI M] [Inhabited M] in
theorem loopRel_bindL {α : Type} (r : Res α)
    {f : α → Loop (List (BitVec 8) × DDSketch M (GPS grow)) (DDSketch M (GPS grow) × GoErr)}
    {f' : α → Loop (List (BitVec 8) × DDSketch M Store) (DDSketch M Store × GoErr)}
    (h : ∀ p, r = .ok p → LoopRel (f p) (f' p)) : LoopRel (Res.bindL r f) (Res.bindL r f') := by
  cases r with
  | ok p => exact h p rfl
  | panic => trivial
  | nofuel => trivial

/-- **the decoder loop, parametricity**: on `SkSim`-related sketches, when every store block met satisfies the side
    conditions `OK` (which give `StepRel`), the loop over the regenerated paginated stores and the loop over the
    model stores end alike -/
theorem loop1_param (OK : GPS grow → List (BitVec 8) → SubFlag → Prop)
    (hOK : ∀ x st b sub, Sim x st → OK x b sub → StepRel x st b sub)
    (fb : List (BitVec 8) → Flag → Res (List (BitVec 8) × GoErr)) :
    ∀ (fuel : Nat) (b : List (BitVec 8)) (a : DDSketch M (GPS grow)) (a' : DDSketch M Store),
      SkSim a a' → GoodRun OK fb fuel b a →
      LoopRel (DDSketch.decodeAndMergeWith.loop1 fb fuel b a) (DDSketch.decodeAndMergeWith.loop1 fb fuel b a') := by
  intro fuel
  induction fuel with
  | zero => intro b a a' _ _; exact trivial
  | succ fuel ih =>
    intro b a a' h hg
    refine loopRel_ite _ (fun _ => loopRel_bindL _ fun p hF => ?_) fun _ => ⟨rfl, h⟩
    obtain ⟨b1, flag, err⟩ := p
    refine loopRel_err rfl fun he => ?_
    subst he
    have hg' := hg b1 flag hF
    refine loopRel_ite _ (fun hp => ?_) fun hp => ?_
    · rw [if_pos hp] at hg'
      obtain ⟨e1, e2⟩ := hOK _ _ b1 _ h.pos hg'.1
      generalize (StoreI.DecodeAndMergeWith a.positiveValueStore b1 _ : GPS grow × _) = r at e1 e2 hg'
      generalize (StoreI.DecodeAndMergeWith a'.positiveValueStore b1 _ : Store × _) = r' at e1 e2
      obtain ⟨t, b2, e⟩ := r
      obtain ⟨t', b2', e'⟩ := r'
      refine loopRel_err e1 fun he => ?_
      cases he
      cases e1
      obtain ⟨rfl, hs⟩ := e2 rfl
      exact ih b2 _ _ ⟨h.map, hs, h.neg, h.zero⟩ (hg'.2 t b2 rfl)
    rw [if_neg hp] at hg'
    refine loopRel_ite _ (fun hq => ?_) fun hq => ?_
    · rw [if_pos hq] at hg'
      obtain ⟨e1, e2⟩ := hOK _ _ b1 _ h.neg hg'.1
      generalize (StoreI.DecodeAndMergeWith a.negativeValueStore b1 _ : GPS grow × _) = r at e1 e2 hg'
      generalize (StoreI.DecodeAndMergeWith a'.negativeValueStore b1 _ : Store × _) = r' at e1 e2
      obtain ⟨t, b2, e⟩ := r
      obtain ⟨t', b2', e'⟩ := r'
      refine loopRel_err e1 fun he => ?_
      cases he
      cases e1
      obtain ⟨rfl, hs⟩ := e2 rfl
      exact ih b2 _ _ ⟨h.map, h.pos, hs, h.zero⟩ (hg'.2 t b2 rfl)
    rw [if_neg hq] at hg'
    refine loopRel_ite _ (fun hm => ?_) fun hm => ?_
    · rw [if_pos hm] at hg'
      generalize MapI.Decode (M := M) b1 flag = r at hg'
      obtain ⟨b2, m, e⟩ := r
      refine loopRel_err rfl fun he => ?_
      subst he
      rw [h.map]
      exact loopRel_ite _ (fun _ => ⟨rfl, nofun⟩) fun _ => ih b2 _ _ ⟨rfl, h.pos, h.neg, h.zero⟩ (hg' b2 m rfl)
    rw [if_neg hm] at hg'
    refine loopRel_ite _ (fun hz => ?_) fun hz => ?_
    · rw [if_pos hz] at hg'
      refine loopRel_bindL _ fun p hV => ?_
      obtain ⟨b2, z, e⟩ := p
      refine loopRel_err rfl fun he => ?_
      subst he
      exact ih b2 _ _ ⟨h.map, h.pos, h.neg, congrArg (F64.add · z) h.zero⟩ (hg' b2 z hV)
    · rw [if_neg hz] at hg'
      refine loopRel_bindL _ fun p hB => ?_
      obtain ⟨b2, e⟩ := p
      refine loopRel_err rfl fun he => ?_
      subst he
      exact ih b2 _ _ h (hg' b2 hB)

/-- two results of a sketch-level decode agree: the same error; when nil, related sketches -/
def SkResRel (r : Res (DDSketch M (GPS grow) × GoErr)) (r' : Res (DDSketch M Store × GoErr)) : Prop :=
  match r, r' with
  | .ok p, .ok p' => p.2 = p'.2 ∧ (p'.2 = GoErr.nil → SkSim p.1 p'.1)
  | .panic, .panic => True
  | .nofuel, .nofuel => True
  | _, _ => False

/-- `DDSketch.decodeAndMergeWith` (the loop, then the "missing index mapping" test) over the two instances -/
theorem decodeAndMergeWith_param (OK : GPS grow → List (BitVec 8) → SubFlag → Prop)
    (hOK : ∀ x st b sub, Sim x st → OK x b sub → StepRel x st b sub)
    (fb : List (BitVec 8) → Gen.Encoding.Flag → Res (List (BitVec 8) × GoErr))
    (fuel : Nat) (b : List (BitVec 8)) {a : DDSketch M (GPS grow)} {a' : DDSketch M Store}
    (h : SkSim a a') (hg : GoodRun OK fb fuel b a) :
    SkResRel (DDSketch.decodeAndMergeWith fuel a b fb) (DDSketch.decodeAndMergeWith fuel a' b fb) := by
  have hL := loop1_param OK hOK fb fuel b a a' h hg
  unfold DDSketch.decodeAndMergeWith
  dsimp only
  generalize DDSketch.decodeAndMergeWith.loop1 fb fuel b a = l at hL
  generalize DDSketch.decodeAndMergeWith.loop1 fb fuel b a' = l' at hL
  -- off the diagonal `LoopRel` is `False`
  cases l <;> cases l' <;> try exact hL.elim
  case done.done p p' =>
    obtain ⟨b1, s1⟩ := p
    obtain ⟨b1', s1'⟩ := p'
    obtain ⟨_, hs⟩ := hL
    show SkResRel (if MapI.isNil s1.IndexMapping then _ else _) (if MapI.isNil s1'.IndexMapping then _ else _)
    rw [hs.map]
    by_cases hn : MapI.isNil s1'.IndexMapping = true
    · rw [if_pos hn, if_pos hn]; exact ⟨rfl, nofun⟩
    · rw [if_neg hn, if_neg hn]; exact ⟨rfl, fun _ => hs⟩
  case ret.ret p p' => exact ⟨hL.1, fun h => absurd (hL.1.trans h) hL.2⟩
  all_goals trivial

/-- the fallback of the plain decoder (exact-summary flags are skipped) does not depend on the store type -/
theorem lit1_eq (fuel : Nat) :
    DDSketch.DecodeAndMergeWith.lit1 (M := M) (S := GPS grow) fuel =
      DDSketch.DecodeAndMergeWith.lit1 (M := M) (S := Store) fuel := rfl

omit [MapI M] [Inhabited M] in
theorem skResRel_bind {r : Res (DDSketch M (GPS grow) × GoErr)} {r' : Res (DDSketch M Store × GoErr)}
    (h : SkResRel r r') :
    SkResRel (Res.bind r (fun p => .ok (p.1, p.2))) (Res.bind r' (fun p => .ok (p.1, p.2))) := by
  cases r <;> cases r' <;> exact h

/-- **`DDSketch.DecodeAndMergeWith` over the two store instances**: the same error; when nil, related sketches -/
theorem DecodeAndMergeWith_param (OK : GPS grow → List (BitVec 8) → SubFlag → Prop)
    (hOK : ∀ x st b sub, Sim x st → OK x b sub → StepRel x st b sub)
    (fuel : Nat) (b : List (BitVec 8)) {a : DDSketch M (GPS grow)} {a' : DDSketch M Store}
    (h : SkSim a a')
    (hg : GoodRun OK (DDSketch.DecodeAndMergeWith.lit1 (M := M) (S := Store) fuel) fuel b a) :
    SkResRel (DDSketch.DecodeAndMergeWith fuel a b) (DDSketch.DecodeAndMergeWith fuel a' b) := by
  unfold DDSketch.DecodeAndMergeWith
  rw [lit1_eq]
  exact skResRel_bind (decodeAndMergeWith_param OK hOK _ fuel b h hg)

/-- **`DecodeDDSketch` with the provider `NewBufferedPaginatedStore`** over the two store instances -/
theorem DecodeDDSketch_param (OK : GPS grow → List (BitVec 8) → SubFlag → Prop)
    (hOK : ∀ x st b sub, Sim x st → OK x b sub → StepRel x st b sub)
    (fuel : Nat) (b : List (BitVec 8)) (m : M)
    (hg : GoodRun OK (DDSketch.DecodeAndMergeWith.lit1 (M := M) (S := Store) fuel) fuel b
      (NewDDSketch m (⟨NewBufferedPaginatedStore⟩ : GPS grow) ⟨NewBufferedPaginatedStore⟩)) :
    SkResRel
      (Gen.SketchIter.DecodeDDSketch fuel b (fun _ => .ok (⟨NewBufferedPaginatedStore⟩ : GPS grow)) m)
      (Gen.SketchIter.DecodeDDSketch fuel b (fun _ => .ok (Store.new .pag)) m) := by
  unfold Gen.SketchIter.DecodeDDSketch
  simp only [Res.bind_ok]
  exact skResRel_bind (DecodeAndMergeWith_param OK hOK fuel b (skSim_new m) hg)

end sketchDecode

end DDS.GenPagSketch
