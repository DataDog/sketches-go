/-
  DDS.Proofs.GoSemLemmas — the lemmas of `DDS.Model.GoSem`, which states only the defining equations of its
  operations: the tests on `GoErr`, the monad laws of `Res` and `Loop` (with `optR`/`optL`, the checks that may panic;
  `Loop.map`, a loop read on other state and result types), positions in a slice (`idx`, `set`, `slice…`, `copyWithin`
  at `len` of a prefix or at a natural number), and `range` over a map with increasing keys (every lawful order visits
  each entry once).  Core Lean only.
-/
import DDS.Model.GoSem

namespace DDS.GoSem

/-! ### `GoErr`: the tests `err != nil` -/

namespace GoErr

theorem nil_bne_nil : (nil != nil) = false := rfl

theorem eof_bne_nil : (eof != nil) = true := rfl

theorem eq_nil_of_not_bne {e : GoErr} (h : ¬ (e != nil) = true) : e = nil := by
  cases e with
  | nil => rfl
  | eof => exact absurd rfl h
  | named s => exact absurd rfl h

end GoErr

/-! ### `Res`, `Loop`, `optR`, `optL` -/

namespace Res
variable {α β γ σ ρ : Type}

/-- `x, err := f(); return x, err` -/
@[simp] theorem bind_ok_right (r : Res α) : (r.bind fun a => .ok a) = r := by
  cases r <;> rfl

theorem bind_assoc (x : Res α) (k : α → Res β) (k' : β → Res γ) :
    (x.bind k).bind k' = x.bind fun a => (k a).bind k' := by
  cases x <;> rfl

theorem bind_congr {x : Res α} {k k' : α → Res β} (h : ∀ a, k a = k' a) : x.bind k = x.bind k' :=
  congrArg x.bind (funext h)

theorem bind_eq_ok {x : Res α} {k : α → Res β} {r : β} (h : x.bind k = .ok r) : ∃ a, x = .ok a ∧ k a = .ok r := by
  cases x with
  | ok a => exact ⟨a, rfl, h⟩
  | panic => cases h
  | nofuel => cases h

theorem bindL_bind (r : Res α) (f : α → Res β) (k : β → Loop σ ρ) :
    (r.bind f).bindL k = r.bindL fun a => (f a).bindL k := by
  cases r <;> rfl

end Res

namespace Loop
variable {σ σ' ρ : Type}

@[simp] theorem elimL_done (s : σ) (k : σ → Loop σ' ρ) : elimL (.done s) k = k s := rfl
@[simp] theorem elimL_ret (r : ρ) (k : σ → Loop σ' ρ) : elimL (.ret r) k = .ret r := rfl
@[simp] theorem elimL_panic (k : σ → Loop σ' ρ) : elimL (.panic : Loop σ ρ) k = .panic := rfl
@[simp] theorem elimL_nofuel (k : σ → Loop σ' ρ) : elimL (.nofuel : Loop σ ρ) k = .nofuel := rfl

theorem elim_elimL (x : Loop σ ρ) (k : σ → Loop σ' ρ) (K : σ' → Res ρ) :
    (x.elimL k).elim K = x.elim fun v => (k v).elim K := by
  cases x <;> rfl

theorem elim_bindL {α : Type} (x : Res α) (k : α → Loop σ ρ) (K : σ → Res ρ) :
    (x.bindL k).elim K = x.bind fun v => (k v).elim K := by
  cases x <;> rfl

def map {σ σ' ρ ρ' : Type} (f : σ → σ') (g : ρ → ρ') : Loop σ ρ → Loop σ' ρ'
  | .done s => .done (f s)
  | .ret r => .ret (g r)
  | .panic => .panic
  | .nofuel => .nofuel

section map
variable {α σ σ' ρ ρ' : Type} (f : σ → σ') (g : ρ → ρ')

theorem map_done (s : σ) : map f g (.done s : Loop σ ρ) = .done (f s) := rfl
theorem map_ret (r : ρ) : map f g (.ret r : Loop σ ρ) = .ret (g r) := rfl

theorem map_bindL (x : Res α) (k : α → Loop σ ρ) : map f g (x.bindL k) = x.bindL fun v => map f g (k v) := by
  cases x <;> rfl

theorem map_optL (x : Option α) (k : α → Loop σ ρ) : map f g (optL x k) = optL x fun v => map f g (k v) := by
  cases x <;> rfl

/-- `p` forgets a component of the inner loop's state, `s` puts it back -/
theorem map_elimL {τ τ' : Type} (p : τ → τ') (s : τ' → τ) (hs : ∀ v, s (p v) = v) (x : Loop τ ρ)
    (k : τ → Loop σ ρ) : map f g (x.elimL k) = (map p g x).elimL fun w => map f g (k (s w)) := by
  cases x with
  | done v => show map f g (k v) = map f g (k (s (p v))); rw [hs]
  | ret r => rfl
  | panic => rfl
  | nofuel => rfl

theorem elim_map (x : Loop σ ρ) (K : σ → Res ρ) (K' : σ' → Res ρ')
    (h : ∀ s, K' (f s) = (K s).bind fun r => .ok (g r)) :
    elim (map f g x) K' = (elim x K).bind fun r => .ok (g r) := by
  cases x with
  | done s => exact h s
  | ret r => rfl
  | panic => rfl
  | nofuel => rfl

end map

end Loop

section opt
variable {α β γ σ ρ : Type}

theorem optR_map (m : Option α) (f : α → β) (k : β → Res γ) : optR (m.map f) k = optR m fun a => k (f a) := by
  cases m <;> rfl

theorem optL_map (m : Option α) (f : α → β) (k : β → Loop σ ρ) : optL (m.map f) k = optL m fun a => k (f a) := by
  cases m <;> rfl

theorem optR_bind (m : Option α) (g : α → Option β) (k : β → Res γ) :
    optR (m.bind g) k = optR m fun a => optR (g a) k := by
  cases m <;> rfl

theorem optL_bind (m : Option α) (g : α → Option β) (k : β → Loop σ ρ) :
    optL (m.bind g) k = optL m fun a => optL (g a) k := by
  cases m <;> rfl

/-- two checks in either order: both panic iff one of them fails -/
theorem optR_comm (A : Option α) (B : Option β) (K : α → β → Res γ) :
    optR A (fun a => optR B (fun b => K a b)) = optR B (fun b => optR A (fun a => K a b)) := by
  cases A <;> cases B <;> rfl

theorem optL_comm (A : Option α) (B : Option β) (K : α → β → Loop σ ρ) :
    optL A (fun a => optL B (fun b => K a b)) = optL B (fun b => optL A (fun a => K a b)) := by
  cases A <;> cases B <;> rfl

theorem elim_optL (m : Option α) (k : α → Loop σ ρ) (K : σ → Res ρ) :
    (optL m k).elim K = optR m fun a => (k a).elim K := by
  cases m <;> rfl

end opt

/-! ### slices

A position in a slice is a natural number, or `len pre` for a prefix `pre`. -/

section slices
universe u
variable {α : Type u}

theorem len_nil : len ([] : List α) = 0 := rfl

theorem len_nonneg (l : List α) : 0 ≤ len l := Int.natCast_nonneg _

theorem len_cons (x : α) (l : List α) : len (x :: l) = len l + 1 := by
  unfold len; rw [List.length_cons, Int.natCast_add]; rfl

theorem len_append (p q : List α) : len (p ++ q) = len p + len q := by
  unfold len; rw [List.length_append, Int.natCast_add]

theorem len_snoc (pre : List α) (x : α) : len (pre ++ [x]) = len pre + 1 := len_append pre [x]

theorem len_append_sub (p q : List α) : len (p ++ q) - len p = (q.length : Int) := by
  rw [len_append, Int.add_comm, Int.add_sub_cancel]; rfl

theorem not_len_lt_append (p q : List α) : ¬ len (p ++ q) < len p := by
  rw [len_append]; exact Int.not_lt.2 (Int.le_add_of_nonneg_right (len_nonneg q))

theorem idx_natCast (l : List α) (k : Nat) : idx l (k : Int) = l[k]? := by
  unfold idx
  rw [if_neg (Int.not_lt.2 (Int.natCast_nonneg k)), Int.toNat_natCast]

theorem idx_eq_none (l : List α) (j : Int) (h : ¬ (0 ≤ j ∧ j < (l.length : Int))) : idx l j = none := by
  unfold idx
  split
  · rfl
  · exact List.getElem?_eq_none (by omega)

theorem set_natCast (l : List α) (k : Nat) (v : α) :
    set l (k : Int) v = if k < l.length then some (l.set k v) else none := by
  unfold set
  rw [Int.toNat_natCast]
  by_cases h : k < l.length
  · rw [if_pos h, if_neg (not_or.2 ⟨Int.not_lt.2 (Int.natCast_nonneg k), Int.not_le.2 (Int.ofNat_lt.2 h)⟩)]
  · rw [if_neg h, if_pos (Or.inr (Int.ofNat_le.2 (Nat.le_of_not_lt h)))]

theorem mkSlice_natCast (n : Nat) (z : α) : mkSlice (n : Int) z = some (List.replicate n z) := by
  unfold mkSlice
  rw [if_neg (Int.not_lt.2 (Int.natCast_nonneg n)), Int.toNat_natCast]

theorem mkSlice_neg (n : Int) (z : α) (h : n < 0) : mkSlice n z = none := if_pos h

theorem sliceFrom_natCast (l : List α) (j : Nat) (h : j ≤ l.length) : sliceFrom l (j : Int) = some (l.drop j) := by
  unfold sliceFrom
  rw [if_neg (by omega), Int.toNat_natCast]

theorem sliceTo_zero (l : List α) : sliceTo l 0 = some [] := by
  unfold sliceTo
  rw [if_neg (not_or.2 ⟨Int.lt_irrefl 0, Int.not_lt.2 (Int.natCast_nonneg _)⟩)]
  rfl

theorem slice_natCast (l : List α) (k n : Nat) :
    slice l (k : Int) ((k + n : Nat) : Int) = if k + n ≤ l.length then some ((l.drop k).take n) else none := by
  unfold slice
  by_cases h : k + n ≤ l.length
  · rw [if_neg (by omega), if_pos h, Int.toNat_natCast, Int.toNat_natCast, List.take_drop]
  · rw [if_pos (Or.inr (Or.inr (Int.ofNat_lt.2 (Nat.lt_of_not_le h)))), if_neg h]

theorem idx_len_append (pre : List α) (x : α) (xs : List α) : idx (pre ++ x :: xs) (len pre) = some x := by
  unfold len
  rw [idx_natCast, List.getElem?_append_right (Nat.le_refl _), Nat.sub_self]
  rfl

theorem set_len_append (pre : List α) (x y : α) (post : List α) :
    set (pre ++ x :: post) (len pre) y = some (pre ++ y :: post) := by
  unfold len
  rw [set_natCast,
    if_pos (by rw [List.length_append, List.length_cons]; exact Nat.lt_add_of_pos_right (Nat.succ_pos _)),
    List.set_append_right _ _ (Nat.le_refl _), Nat.sub_self]
  rfl

theorem sliceTo_len_append (p q : List α) : sliceTo (p ++ q) (len p) = some p := by
  unfold sliceTo
  rw [show ((p ++ q).length : Int) = len (p ++ q) from rfl,
    if_neg (not_or.2 ⟨Int.not_lt.2 (len_nonneg p), not_len_lt_append p q⟩)]
  unfold len
  rw [Int.toNat_natCast, List.take_left' rfl]

theorem slice_group (a g r : List α) : slice (a ++ (g ++ r)) (len a) (len (a ++ g)) = some g := by
  unfold slice
  rw [if_neg (not_or.2 ⟨Int.not_lt.2 (len_nonneg a), not_or.2 ⟨not_len_lt_append a g,
    List.append_assoc a g r ▸ not_len_lt_append (a ++ g) r⟩⟩)]
  unfold len
  rw [Int.toNat_natCast, Int.toNat_natCast, ← List.append_assoc, List.take_left' rfl, List.drop_left]

/-- `copy(x[len a:], x[len (a ++ g):])`: the tail `r` moves over the group `g` -/
theorem copyWithin_group (a g r : List α) :
    copyWithin (a ++ (g ++ r)) (len a) (len (a ++ g)) (len (a ++ (g ++ r)))
      = some (a ++ r ++ (g ++ r).drop r.length) := by
  unfold copyWithin
  rw [show ((a ++ (g ++ r)).length : Int) = len (a ++ (g ++ r)) from rfl,
    if_neg (not_or.2 ⟨Int.not_lt.2 (len_nonneg a), not_or.2 ⟨not_len_lt_append a _, not_or.2
      ⟨Int.not_lt.2 (len_nonneg _), not_or.2 ⟨List.append_assoc a g r ▸ not_len_lt_append (a ++ g) r,
        Int.lt_irrefl _⟩⟩⟩⟩)]
  unfold len
  simp only [Int.toNat_natCast, List.length_append]
  rw [Nat.add_sub_cancel_left, Nat.add_sub_add_left, Nat.add_sub_cancel_left,
    Nat.min_eq_right (Nat.le_add_left _ _), List.take_left, ← List.append_assoc a g r, ← List.length_append,
    List.drop_left, List.take_length, List.append_assoc a g r, ← List.drop_drop, List.drop_left]

/-- `copy(x[n:], x)` on `x = p ++ q` with `len q = n`: `p` moves to the end -/
theorem copyWithin_grow (p q : List α) (n : Nat) (hq : q.length = n) :
    copyWithin (p ++ q) (n : Int) 0 (len (p ++ q)) = some ((p ++ q).take n ++ p) := by
  subst hq
  unfold copyWithin len
  rw [if_neg (by rw [List.length_append]; omega)]
  simp only [Int.toNat_natCast, Int.toNat_zero, List.drop_zero, Nat.sub_zero, List.length_append,
    Nat.add_sub_cancel, Nat.le_add_right, Nat.min_eq_left, List.take_left', List.append_assoc]
  rw [Nat.add_comm, ← List.length_append, List.drop_length, List.append_nil]

/-- `l` after `copy(l[d:], l[p:p+n])`: its length and its entries -/
theorem copyWithin_spec (l : List α) (d p n : Nat) (hd : d + n ≤ l.length) (hp : p + n ≤ l.length) :
    (l.take d ++ (l.drop p).take n ++ l.drop (d + n)).length = l.length ∧
    ∀ k, (l.take d ++ (l.drop p).take n ++ l.drop (d + n))[k]? =
      if d ≤ k ∧ k < d + n then l[p + (k - d)]? else l[k]? := by
  have h1 : (l.take d).length = d := List.length_take_of_le (Nat.le_trans (Nat.le_add_right d n) hd)
  have h2 : ((l.drop p).take n).length = n :=
    List.length_take_of_le (by rw [List.length_drop]; exact Nat.le_sub_of_add_le' hp)
  refine ⟨by rw [List.length_append, List.length_append, h1, h2, List.length_drop, Nat.add_sub_cancel' hd],
    fun k => ?_⟩
  rw [List.append_assoc, List.getElem?_append, h1]
  by_cases hk : k < d
  · rw [if_pos hk, List.getElem?_take_of_lt hk, if_neg fun h => Nat.not_le.2 hk h.1]
  · have hdk := Nat.le_of_not_lt hk
    rw [if_neg hk, List.getElem?_append, h2]
    by_cases hn : k - d < n
    · rw [if_pos hn, List.getElem?_take_of_lt hn, List.getElem?_drop,
        if_pos ⟨hdk, (Nat.sub_lt_iff_lt_add' hdk).1 hn⟩]
    · rw [if_neg hn, List.getElem?_drop, if_neg fun h => hn ((Nat.sub_lt_iff_lt_add' hdk).2 h.2)]
      congr 1
      rw [Nat.add_assoc, Nat.add_sub_cancel' (Nat.le_of_not_lt hn), Nat.add_sub_cancel' hdk]

theorem copySlice_replicate (z : α) (l : List α) : copySlice (List.replicate l.length z) l = l := by
  rw [copySlice, List.length_replicate, List.take_length, List.drop_replicate, Nat.sub_self]
  exact List.append_nil l

/-- a reader at offset `j` of `b` is at the end of `b` … -/
theorem len_le_of_drop_nil (b : List α) (j : Nat) (h : b.drop j = []) : len b ≤ (j : Int) :=
  Int.ofNat_le.mpr (List.drop_eq_nil_iff.mp h)

/-- … or at an element `b[j]`, with `b[j+1:]` the rest -/
theorem idx_drop (b : List α) (j : Nat) (n : α) (tl : List α) (h : b.drop j = n :: tl) :
    ¬ len b ≤ (j : Int) ∧ idx b (j : Int) = some n ∧
      sliceFrom b ((j : Int) + 1) = some (b.drop (j + 1)) ∧ tl = b.drop (j + 1) := by
  have hj : j < b.length := by
    apply Decidable.byContradiction
    intro hc
    rw [List.drop_of_length_le (by omega)] at h
    cases h
  rw [List.drop_eq_getElem_cons hj] at h
  injection h with h1 h2
  refine ⟨by unfold len; omega, ?_, sliceFrom_natCast b (j + 1) hj, h2.symm⟩
  rw [idx_natCast, List.getElem?_eq_getElem hj, h1]

end slices

/-! ### maps: `range` over a map whose keys are strictly increasing -/

section maps
variable {V W : Type}

theorem filterMap_congr {α β : Type} {f g : α → Option β} {l : List α} (h : ∀ x ∈ l, f x = g x) :
    l.filterMap f = l.filterMap g := by
  induction l with
  | nil => rfl
  | cons x l ih =>
    rw [List.filterMap_cons, List.filterMap_cons, h x (List.mem_cons_self ..),
      ih fun y hy => h y (List.mem_cons_of_mem _ hy)]

theorem find_key_of_mem {m : GoMap V} (hs : List.Pairwise (fun a b => a < b) (m.map Prod.fst))
    {p : Int × V} (hp : p ∈ m) : m.find? (fun q => q.1 == p.1) = some p := by
  induction m with
  | nil => cases hp
  | cons q rest ih =>
    rw [List.map_cons, List.pairwise_cons] at hs
    rcases List.mem_cons.1 hp with rfl | hp'
    · exact List.find?_cons_of_pos (beq_self_eq_true _)
    · have hlt : q.1 < p.1 := hs.1 p.1 (List.mem_map_of_mem hp')
      rw [List.find?_cons_of_neg (fun h => Int.lt_irrefl _ (beq_iff_eq.1 h ▸ hlt))]
      exact ih hs.2 hp'

/-- the ascending oracle visits the entries in storage order: every key finds its own entry -/
theorem mrange_ascending_of_sorted (m : GoMap V) (hs : List.Pairwise (fun a b => a < b) (m.map Prod.fst)) :
    mrange MapOrder.ascending m = m := by
  show (m.map Prod.fst).filterMap _ = m
  rw [List.filterMap_map]
  refine (filterMap_congr fun p hp => ?_).trans (List.filterMap_some ..)
  rw [Function.comp, find_key_of_mem hs hp]
  rfl

/-- **order independence**: whatever lawful order the oracle picks, `range` visits every entry exactly once -/
theorem mrange_perm_of_sorted (ord : MapOrder) (hl : ord.Lawful) (m : GoMap V)
    (hs : List.Pairwise (fun a b => a < b) (m.map Prod.fst)) : (mrange ord m).Perm m :=
  ((hl (m.map Prod.fst)).filterMap _).trans (List.Perm.of_eq (mrange_ascending_of_sorted m hs))

theorem mem_mrange (ord : MapOrder) (m : GoMap V) (p : Int × V) (hp : p ∈ mrange ord m) : ∃ q ∈ m, q.2 = p.2 := by
  unfold mrange at hp
  obtain ⟨k, _, hk⟩ := List.mem_filterMap.1 hp
  cases hf : m.find? (fun p => p.1 == k) with
  | none => rw [hf] at hk; cases hk
  | some q =>
    rw [hf] at hk
    simp only [Option.map_some, Option.some.injEq] at hk
    exact ⟨q, List.mem_of_find?_eq_some hf, by rw [← hk]⟩

theorem mrange_map (f : V → W) (ord : MapOrder) (m : GoMap V) :
    mrange ord (m.map (fun p => (p.1, f p.2))) = (mrange ord m).map (fun p => (p.1, f p.2)) := by
  unfold mrange
  rw [List.map_map, List.map_filterMap]
  have : (Prod.fst ∘ fun p : Int × V => (p.1, f p.2)) = Prod.fst := rfl
  rw [this]
  apply filterMap_congr
  intro k _
  rw [List.find?_map]
  have e : ((fun p : Int × W => p.1 == k) ∘ fun p : Int × V => (p.1, f p.2)) = (fun p => p.1 == k) := rfl
  rw [e]
  cases m.find? (fun p : Int × V => p.1 == k) <;> rfl

end maps

end DDS.GoSem
