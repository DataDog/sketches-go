/-
  DDS.Proofs.Codec — the byte-level codecs of `DDS.Model.Codec`: round trips, strict prefixes
  fail with `eof`, bytes consumed, and the size functions against the encoders.  Core Lean only.
-/
import DDS.Model.Codec

namespace DDS
namespace Codec

/-! ### uvarint64 -/

theorem encU_length_pos (f v : Nat) : 1 ≤ (encU f v).length := by
  cases f with
  | zero => simp [encU]
  | succ f => unfold encU; split <;> simp

theorem encU_length_le (f v : Nat) : (encU f v).length ≤ f + 1 := by
  induction f generalizing v with
  | zero => simp [encU]
  | succ f ih =>
    unfold encU; split
    · simp
    · have := ih (v / 128); simp; omega

theorem encU_bytes (f v : Nat) : ∀ b ∈ encU f v, b < 256 := by
  induction f generalizing v with
  | zero => intro b hb; simp [encU] at hb; omega
  | succ f ih =>
    intro b hb
    unfold encU at hb
    split at hb
    · simp at hb; omega
    · simp at hb
      rcases hb with hb | hb
      · omega
      · exact ih _ b hb

/-- Round trip of the uvarint loops, for any fuel, any starting shift and accumulator: `f` bytes
    of 7 bits and a last byte of 8. -/
theorem decU_encU (f v shift acc : Nat) (rest : Bytes) (hv : v < 2 ^ (7 * f + 8)) :
    decU f shift acc (encU f v ++ rest) = .ok (acc + v * 2 ^ shift, rest) := by
  induction f generalizing v shift acc with
  | zero =>
    have : v % 256 = v := Nat.mod_eq_of_lt (by simpa using hv)
    simp [encU, decU, this]
  | succ f ih =>
    unfold encU
    split
    · rename_i h; simp [decU, h]
    · rename_i h
      have hp : 2 ^ (7 * (f + 1) + 8) = 128 * 2 ^ (7 * f + 8) := by
        rw [show 7 * (f + 1) + 8 = 7 + (7 * f + 8) by omega, Nat.pow_add]
      have hq : v / 128 < 2 ^ (7 * f + 8) := by
        rw [hp] at hv; omega
      have hn : ¬ (v % 128 + 128 < 128) := by omega
      simp only [List.cons_append, decU, hn, if_false]
      rw [ih (v / 128) (shift + 7) _ hq]
      have hm : (v % 128 + 128) % 128 = v % 128 := by omega
      have hs : 2 ^ (shift + 7) = 128 * 2 ^ shift := by rw [Nat.pow_add, Nat.mul_comm]
      rw [hm, hs, Nat.add_assoc, ← Nat.mul_assoc, ← Nat.add_mul, Nat.add_comm (v % 128),
        Nat.mul_comm (v / 128), Nat.div_add_mod]

theorem decU_take_encU (f v shift acc k : Nat) (hk : k < (encU f v).length) :
    decU f shift acc ((encU f v).take k) = .error .eof := by
  induction f generalizing v shift acc k with
  | zero =>
    simp [encU] at hk; subst hk; simp [decU]
  | succ f ih =>
    unfold encU at hk ⊢
    split
    · rename_i h; simp [h] at hk; subst hk; simp [decU]
    · rename_i h
      simp [h] at hk
      cases k with
      | zero => simp [decU]
      | succ k =>
        have hn : ¬ (v % 128 + 128 < 128) := by omega
        simp only [List.take_succ_cons, decU, hn, if_false]
        exact ih _ _ _ _ (by omega)

theorem decU_ok (f shift acc : Nat) (bs : Bytes) (v : Nat) (rest : Bytes)
    (h : decU f shift acc bs = .ok (v, rest)) :
    ∃ k, 1 ≤ k ∧ k ≤ f + 1 ∧ rest = bs.drop k := by
  induction f generalizing shift acc bs with
  | zero =>
    cases bs with
    | nil => simp [decU] at h
    | cons n tl =>
      simp [decU] at h
      exact ⟨1, by omega, by omega, by simp [h.2]⟩
  | succ f ih =>
    cases bs with
    | nil => simp [decU] at h
    | cons n tl =>
      simp only [decU] at h
      split at h
      · simp at h
        exact ⟨1, by omega, by omega, by simp [h.2]⟩
      · obtain ⟨k, h1, h2, h3⟩ := ih _ _ _ h
        exact ⟨k + 1, by omega, by omega, by simp [h3]⟩

theorem maxVarLen64_pred : Consts.maxVarLen64 - 1 = 8 := by decide

/-- `decUvarint64` in terms of the loop, on an opaque input (keeps `unfold` from evaluating the
    encoder symbolically); `decVarfloatBits_of_ok` likewise. -/
theorem decUvarint64_of_ok (bs : Bytes) (x : Nat) (rest : Bytes)
    (h : decU 8 0 0 bs = .ok (x, rest)) :
    decUvarint64 bs = .ok (x % W64, rest) := by
  unfold decUvarint64
  rw [maxVarLen64_pred, h]

theorem decUvarint64_of_error (bs : Bytes) (e : DecErr)
    (h : decU 8 0 0 bs = .error e) :
    decUvarint64 bs = .error e := by
  unfold decUvarint64
  rw [maxVarLen64_pred, h]

theorem encUvarint64_eq (v : Nat) : encUvarint64 v = encU 8 v := by
  unfold encUvarint64
  rw [maxVarLen64_pred]

theorem decUvarint64_encUvarint64 (v : Nat) (hv : v < W64) (rest : Bytes) :
    decUvarint64 (encUvarint64 v ++ rest) = .ok (v, rest) := by
  rw [encUvarint64_eq, decUvarint64_of_ok _ _ _ (decU_encU 8 v 0 0 rest hv),
    Nat.zero_add, Nat.pow_zero, Nat.mul_one, Nat.mod_eq_of_lt hv]

theorem decUvarint64_take (v k : Nat) (hk : k < (encUvarint64 v).length) :
    decUvarint64 ((encUvarint64 v).take k) = .error .eof := by
  rw [encUvarint64_eq] at hk ⊢
  exact decUvarint64_of_error _ _ (decU_take_encU _ _ _ _ _ hk)

theorem decUvarint64_ok (bs : Bytes) (v : Nat) (rest : Bytes)
    (h : decUvarint64 bs = .ok (v, rest)) :
    ∃ k, 1 ≤ k ∧ k ≤ 9 ∧ rest = bs.drop k ∧ v < W64 := by
  unfold decUvarint64 at h
  rw [maxVarLen64_pred] at h
  split at h
  · rename_i v' rest' heq
    simp at h
    obtain ⟨k, h1, h2, h3⟩ := decU_ok _ _ _ _ _ _ heq
    refine ⟨k, h1, h2, ?_, ?_⟩
    · rw [← h.2]; exact h3
    · rw [← h.1]; exact Nat.mod_lt _ (by decide)
  · simp at h

/-! ### sizes of uvarint64 -/

/-- The length of an encoding depends only on the bit length of the value. -/
theorem encU_length_congr (f v w : Nat) (h : ∀ n, v < 2 ^ n ↔ w < 2 ^ n) :
    (encU f v).length = (encU f w).length := by
  induction f generalizing v w with
  | zero => simp [encU]
  | succ f ih =>
    have h7 : v < 128 ↔ w < 128 := h 7
    unfold encU
    by_cases hv : v < 128
    · have hw := h7.mp hv
      simp [hv, hw]
    · have hw : ¬ w < 128 := fun hw => hv (h7.mpr hw)
      simp only [hv, hw, if_false, List.length_cons]
      congr 1
      apply ih
      intro n
      have := h (n + 7)
      rw [Nat.pow_add] at this
      have e : (2 : Nat) ^ 7 = 128 := by decide
      rw [e] at this
      rw [Nat.div_lt_iff_lt_mul (by decide), Nat.div_lt_iff_lt_mul (by decide)]
      exact this

theorem allOnes_shift_lt (v n : Nat) (hv0 : v ≠ 0) (hv : v < W64) :
    (W64 - 1) / 2 ^ (63 - v.log2) < 2 ^ n ↔ v < 2 ^ n := by
  have hL : v.log2 < 64 := (Nat.log2_lt hv0).mpr hv
  rw [← Nat.log2_lt hv0, Nat.div_lt_iff_lt_mul (Nat.pow_pos (by decide)), ← Nat.pow_add]
  have h1 : W64 - 1 < 2 ^ (n + (63 - v.log2)) ↔ 2 ^ 64 ≤ 2 ^ (n + (63 - v.log2)) := by
    have : 0 < W64 := by decide
    unfold W64 at *
    omega
  rw [h1, Nat.pow_le_pow_iff_right (by decide)]
  omega

theorem uvarint64Size_eq (v : Nat) (hv : v < W64) :
    uvarint64Size v = (encUvarint64 v).length := by
  unfold uvarint64Size uvarintSizeTable lzcnt64 encUvarint64
  apply encU_length_congr
  intro n
  by_cases h0 : v = 0
  · subst h0
    have : (W64 - 1) / 2 ^ 64 = 0 := by decide
    simp [this]
  · simp only [h0, if_false]
    exact allOnes_shift_lt v n h0 hv

/-! ### zig-zag varint64 -/

theorem unzigzag_zigzag' (v : Int) : unzigzag (zigzag v) = v := by
  unfold unzigzag zigzag
  split <;> split <;> omega

theorem zigzag_unzigzag' (u : Nat) : zigzag (unzigzag u) = u := by
  unfold unzigzag zigzag
  split <;> split <;> omega

theorem zigzag_lt (v : Int) (h1 : -(2:Int)^63 ≤ v) (h2 : v < (2:Int)^63) : zigzag v < W64 := by
  unfold zigzag W64
  split <;> omega

theorem unzigzag_range (u : Nat) (hu : u < W64) :
    -(2:Int)^63 ≤ unzigzag u ∧ unzigzag u < (2:Int)^63 := by
  unfold unzigzag W64 at *
  split <;> omega

theorem decVarint64_encVarint64 (v : Int) (h1 : -(2:Int)^63 ≤ v) (h2 : v < (2:Int)^63)
    (rest : Bytes) : decVarint64 (encVarint64 v ++ rest) = .ok (v, rest) := by
  unfold decVarint64 encVarint64
  rw [decUvarint64_encUvarint64 _ (zigzag_lt v h1 h2)]
  simp [unzigzag_zigzag']

theorem decVarint64_take (v : Int) (k : Nat) (hk : k < (encVarint64 v).length) :
    decVarint64 ((encVarint64 v).take k) = .error .eof := by
  unfold decVarint64 encVarint64
  rw [decUvarint64_take _ k hk]

theorem decVarint64_ok (bs : Bytes) (v : Int) (rest : Bytes)
    (h : decVarint64 bs = .ok (v, rest)) :
    ∃ k, 1 ≤ k ∧ k ≤ 9 ∧ rest = bs.drop k ∧ -(2:Int)^63 ≤ v ∧ v < (2:Int)^63 := by
  unfold decVarint64 at h
  split at h
  · rename_i u rest' heq
    cases h
    obtain ⟨k, h1, h2, h3, hu⟩ := decUvarint64_ok _ _ _ heq
    exact ⟨k, h1, h2, h3, unzigzag_range u hu⟩
  · cases h

theorem decVarint32_encVarint64 (v : Int) (h1 : -(2:Int)^63 ≤ v) (h2 : v < (2:Int)^63)
    (rest : Bytes) :
    decVarint32 (encVarint64 v ++ rest) =
      (if v > 2147483647 ∨ v < -2147483648 then .error .overflow32 else .ok (v, rest)) := by
  unfold decVarint32
  rw [decVarint64_encVarint64 v h1 h2]

/-! ### float64, little endian -/

theorem encF64LE_length (b : Nat) : (encF64LE b).length = 8 := by
  simp [encF64LE]

theorem leValue_digits (b n : Nat) :
    leValue ((List.range n).map (fun i => b / 256 ^ i % 256)) = b % 256 ^ n := by
  induction n generalizing b with
  | zero => simp [leValue, Nat.mod_one]
  | succ n ih =>
    have := ih (b / 256)
    simp only [Nat.div_div_eq_div_mul, ← Nat.pow_succ'] at this
    rw [List.range_succ_eq_map, List.map_cons, List.map_map, leValue, Nat.pow_succ', Nat.mod_mul]
    simp only [Function.comp_def, this, Nat.pow_zero, Nat.div_one]

theorem leValue_encF64LE (b : Nat) (hb : b < W64) : leValue (encF64LE b) = b := by
  rw [encF64LE, leValue_digits]
  exact Nat.mod_eq_of_lt hb

theorem decF64LE_encF64LE (b : Nat) (hb : b < W64) (rest : Bytes) :
    decF64LE (encF64LE b ++ rest) = .ok (b, rest) := by
  have hl := encF64LE_length b
  unfold decF64LE
  rw [List.take_left' hl, List.drop_left' hl, leValue_encF64LE b hb]
  simp [hl]

theorem decF64LE_take (b k : Nat) (hk : k < 8) :
    decF64LE ((encF64LE b).take k) = .error .eof := by
  unfold decF64LE
  have : ((encF64LE b).take k).length < 8 := by
    rw [List.length_take, encF64LE_length]; omega
  rw [if_pos this]

/-! ### varfloat64 -/

theorem vfWord_lt (b : Nat) : vfWord b < W64 := by
  unfold vfWord rotl64 W64 oneBits
  simp only [show Consts.varfloat64Rotate = 6 by decide, Nat.reducePow, Nat.reduceSub]
  omega

theorem rotr64_rotl64_6 (y : Nat) (hy : y < W64) :
    rotr64 (rotl64 y Consts.varfloat64Rotate) Consts.varfloat64Rotate = y := by
  unfold rotl64 rotr64
  unfold W64 at *
  simp only [show Consts.varfloat64Rotate = 6 by decide, Nat.reducePow, Nat.reduceSub]
  -- shifting left by 6 keeps the low 58 bits (`288230376151711744 = 2^58`); the rotation brings the
  -- top 6 back in at the bottom, so rotating right by 6 reassembles `y`
  have h1 : y * 64 % 18446744073709551616 = (y % 288230376151711744) * 64 := by omega
  rw [h1]
  omega

theorem vfUnword_vfWord (b : Nat) (hb : b < W64) : vfUnword (vfWord b) = b := by
  unfold vfUnword vfWord
  rw [rotr64_rotl64_6 _ (Nat.mod_lt _ (by decide))]
  unfold oneBits
  unfold W64 at *
  omega

theorem encVF_length_pos (f x : Nat) : 1 ≤ (encVF f x).length := by
  cases f with
  | zero => simp [encVF]
  | succ f => simp only [encVF]; split <;> simp

theorem encVF_length_le (f x : Nat) : (encVF f x).length ≤ f + 1 := by
  induction f generalizing x with
  | zero => simp [encVF]
  | succ f ih =>
    simp only [encVF]; split
    · simp
    · have := ih ((x * 128) % W64); simp; omega

theorem encVF_bytes (f x : Nat) (hx : x < W64) : ∀ b ∈ encVF f x, b < 256 := by
  induction f generalizing x with
  | zero =>
    intro b hb; unfold W64 at hx; simp [encVF] at hb; omega
  | succ f ih =>
    intro b hb
    simp only [encVF] at hb
    have hn : x / 2 ^ 57 < 128 := by unfold W64 at hx; omega
    split at hb
    · simp at hb; omega
    · simp at hb
      rcases hb with hb | hb
      · omega
      · exact ih _ (Nat.mod_lt _ (by decide)) b hb

/-- Round trip of the varfloat loops.  With `f` continuation bytes left the decoder's shift is
    `7f + 1`, and the low `d = 56 − 7f` bits of the word can no longer be written. -/
theorem decVF_encVF (f d x acc : Nat) (rest : Bytes) (hd : d + 7 * f = 56) (hx : x < W64) :
    decVF f (7 * f + 1) acc (encVF f x ++ rest) = .ok (acc + x / 2 ^ d, rest) := by
  induction f generalizing d x acc with
  | zero => obtain rfl : d = 56 := by omega
            rfl
  | succ f ih =>
    -- `x = n · 2^57 + r`: the byte carries `n`, and `r · 128` is still to be written
    have hn : x / 2 ^ 57 < 128 := Nat.div_lt_of_lt_mul hx
    have hr : x % 2 ^ 57 * 128 < W64 := Nat.mul_lt_mul_of_pos_right (Nat.mod_lt x (by decide)) (by decide)
    have hx' : x * 128 % W64 = x % 2 ^ 57 * 128 := by
      rw [show W64 = 2 ^ 57 * 128 from rfl, Nat.mul_mod_mul_right]
    have hv : x / 2 ^ d = x / 2 ^ 57 * 2 ^ (7 * f + 8) + x % 2 ^ 57 / 2 ^ d := by
      have e57 : (2 : Nat) ^ 57 = 2 ^ (7 * f + 8) * 2 ^ d := by rw [← Nat.pow_add]; congr 1; omega
      calc x / 2 ^ d = (2 ^ d * (x / 2 ^ 57 * 2 ^ (7 * f + 8)) + x % 2 ^ 57) / 2 ^ d := by
            rw [Nat.mul_left_comm, Nat.mul_comm (2 ^ d), ← e57, Nat.div_add_mod']
        _ = _ := Nat.mul_add_div (Nat.pow_pos (by decide)) _ _
    have hsh : 7 * (f + 1) + 1 = 7 * f + 8 := by omega
    simp only [encVF, hx', hsh, hv]
    generalize x / 2 ^ 57 = n at hn ⊢
    generalize x % 2 ^ 57 = r at hr ⊢
    by_cases hr0 : r = 0
    · subst hr0
      simp [decVF, hn]
    · have hne : r * 128 ≠ 0 := Nat.mul_ne_zero hr0 (by decide)
      simp only [hne, if_false, List.cons_append, decVF, Nat.not_lt.mpr (Nat.le_add_left 128 n),
        Nat.add_mod_right, Nat.mod_eq_of_lt hn]
      rw [show 7 * f + 8 - 7 = 7 * f + 1 by omega, ih (d + 7) _ _ (by omega) hr, Nat.add_assoc,
        Nat.pow_add 2 d, Nat.mul_div_mul_right _ _ (by decide)]

theorem decVF_encVF8 (x acc : Nat) (rest : Bytes) (hx : x < W64) :
    decVF 8 57 acc (encVF 8 x ++ rest) = .ok (acc + x, rest) := by
  have h := decVF_encVF 8 0 x acc rest rfl hx
  rwa [Nat.pow_zero, Nat.div_one] at h

theorem decVF_take_encVF (f x shift acc k : Nat) (hx : x < W64) (hk : k < (encVF f x).length) :
    decVF f shift acc ((encVF f x).take k) = .error .eof := by
  induction f generalizing x shift acc k with
  | zero =>
    simp [encVF] at hk; subst hk; simp [decVF]
  | succ f ih =>
    simp only [encVF] at hk ⊢
    split
    · rename_i h; simp [h] at hk; subst hk; simp [decVF]
    · rename_i h
      simp [h] at hk
      cases k with
      | zero => simp [decVF]
      | succ k =>
        have hn : ¬ (x / 2 ^ 57 + 128 < 128) := by omega
        simp only [List.take_succ_cons, decVF, hn, if_false]
        exact ih _ _ _ _ (Nat.mod_lt _ (by decide)) (by omega)

theorem decVF_ok (f shift acc : Nat) (bs : Bytes) (v : Nat) (rest : Bytes)
    (h : decVF f shift acc bs = .ok (v, rest)) :
    ∃ k, 1 ≤ k ∧ k ≤ f + 1 ∧ rest = bs.drop k := by
  induction f generalizing shift acc bs with
  | zero =>
    cases bs with
    | nil => simp [decVF] at h
    | cons n tl =>
      simp [decVF] at h
      exact ⟨1, by omega, by omega, by simp [h.2]⟩
  | succ f ih =>
    cases bs with
    | nil => simp [decVF] at h
    | cons n tl =>
      simp only [decVF] at h
      split at h
      · simp at h
        exact ⟨1, by omega, by omega, by simp [h.2]⟩
      · obtain ⟨k, h1, h2, h3⟩ := ih _ _ _ h
        exact ⟨k + 1, by omega, by omega, by simp [h3]⟩

theorem decVarfloatBits_of_ok (bs : Bytes) (x : Nat) (rest : Bytes)
    (h : decVF 8 57 0 bs = .ok (x, rest)) :
    decVarfloatBits bs = .ok (vfUnword (x % W64), rest) := by
  unfold decVarfloatBits
  rw [maxVarLen64_pred, h]

theorem decVarfloatBits_of_error (bs : Bytes) (e : DecErr)
    (h : decVF 8 57 0 bs = .error e) :
    decVarfloatBits bs = .error e := by
  unfold decVarfloatBits
  rw [maxVarLen64_pred, h]

theorem encVarfloatBits_eq (b : Nat) : encVarfloatBits b = encVF 8 (vfWord b) := by
  unfold encVarfloatBits
  rw [maxVarLen64_pred]

theorem decVarfloatBits_encVarfloatBits (b : Nat) (hb : b < W64) (rest : Bytes) :
    decVarfloatBits (encVarfloatBits b ++ rest) = .ok (b, rest) := by
  rw [encVarfloatBits_eq,
    decVarfloatBits_of_ok _ _ _ (decVF_encVF8 (vfWord b) 0 rest (vfWord_lt b)),
    Nat.zero_add, Nat.mod_eq_of_lt (vfWord_lt b), vfUnword_vfWord b hb]

theorem decVarfloatBits_take (b k : Nat) (hk : k < (encVarfloatBits b).length) :
    decVarfloatBits ((encVarfloatBits b).take k) = .error .eof := by
  rw [encVarfloatBits_eq] at hk ⊢
  exact decVarfloatBits_of_error _ _ (decVF_take_encVF _ _ _ _ _ (vfWord_lt b) hk)

theorem decVarfloatBits_ok (bs : Bytes) (b : Nat) (rest : Bytes)
    (h : decVarfloatBits bs = .ok (b, rest)) :
    ∃ k, 1 ≤ k ∧ k ≤ 9 ∧ rest = bs.drop k := by
  unfold decVarfloatBits at h
  rw [maxVarLen64_pred] at h
  split at h
  · rename_i v' rest' heq
    simp at h
    obtain ⟨k, h1, h2, h3⟩ := decVF_ok _ _ _ _ _ _ heq
    exact ⟨k, h1, h2, by rw [← h.2]; exact h3⟩
  · simp at h

/-! ### sizes of varfloat64 -/

/-- The length of a varfloat encoding depends only on which shifts kill the word,
    i.e. on its number of trailing zeros. -/
theorem encVF_length_congr (f x w : Nat)
    (h : ∀ n, x * 2 ^ n % W64 = 0 ↔ w * 2 ^ n % W64 = 0) :
    (encVF f x).length = (encVF f w).length := by
  induction f generalizing x w with
  | zero => simp [encVF]
  | succ f ih =>
    have h7 : x * 128 % W64 = 0 ↔ w * 128 % W64 = 0 := h 7
    simp only [encVF]
    by_cases hx : x * 128 % W64 = 0
    · have hw := h7.mp hx
      simp [hx, hw]
    · have hw : ¬ w * 128 % W64 = 0 := fun hw => hx (h7.mpr hw)
      simp only [hx, hw, if_false, List.length_cons]
      rw [ih (x * 128 % W64) (w * 128 % W64)]
      intro n
      have := h (7 + n)
      rw [Nat.pow_add, ← Nat.mul_assoc, ← Nat.mul_assoc] at this
      rw [Nat.mod_mul_mod, Nat.mod_mul_mod]
      exact this

theorem pow_dvd_of_bits_zero (x t : Nat) (h : ∀ j, j < t → x / 2 ^ j % 2 = 0) : 2 ^ t ∣ x := by
  induction t with
  | zero => simp
  | succ t ih =>
    obtain ⟨q, hq⟩ := ih (fun j hj => h j (by omega))
    have := h t (by omega)
    rw [hq, Nat.mul_div_cancel_left _ (Nat.pow_pos (by decide))] at this
    refine ⟨q / 2, ?_⟩
    rw [hq, Nat.pow_succ, Nat.mul_assoc]
    congr 1
    omega

theorem odd_mul_pow_mod (m k : Nat) (hm : m % 2 = 1) : m * 2 ^ k % W64 = 0 ↔ 64 ≤ k := by
  constructor
  · intro h
    apply Decidable.byContradiction
    intro hk
    have hk : k < 64 := by omega
    have hd : 2 ^ (64 - k) * 2 ^ k ∣ m * 2 ^ k := by
      rw [← Nat.pow_add, show 64 - k + k = 64 by omega]
      exact Nat.dvd_of_mod_eq_zero h
    have hd' : 2 ^ (64 - k) ∣ m := Nat.dvd_of_mul_dvd_mul_right (Nat.pow_pos (by decide)) hd
    have h2 : 2 ∣ m := Nat.dvd_trans (Nat.dvd_trans (by simp) (Nat.pow_dvd_pow 2 (show 1 ≤ 64 - k by omega))) hd'
    omega
  · intro hk
    apply Nat.mod_eq_zero_of_dvd
    exact Nat.dvd_trans (Nat.pow_dvd_pow 2 hk) (Nat.dvd_mul_left _ _)

theorem tzcnt64_spec (x : Nat) (h0 : x ≠ 0) (hx : x < W64) :
    tzcnt64 x < 64 ∧ ∃ m, m % 2 = 1 ∧ x = m * 2 ^ tzcnt64 x := by
  unfold tzcnt64
  simp only [h0, if_false]
  cases hfind : (List.range 64).find? (fun i => decide ((x / 2 ^ i) % 2 = 1)) with
  | none =>
    exfalso
    rw [List.find?_eq_none] at hfind
    have hd : 2 ^ 64 ∣ x := by
      apply pow_dvd_of_bits_zero
      intro j hj
      have := hfind j (List.mem_range.mpr hj)
      simp at this
      omega
    obtain ⟨q, hq⟩ := hd
    unfold W64 at hx
    cases q with
    | zero => simp at hq; exact h0 hq
    | succ q => rw [hq, Nat.mul_succ] at hx; omega
  | some t =>
    rw [List.find?_range_eq_some] at hfind
    obtain ⟨hp, hmem, hlt⟩ := hfind
    simp only [Option.getD_some]
    refine ⟨List.mem_range.mp hmem, x / 2 ^ t, by simpa using hp, ?_⟩
    have hd : 2 ^ t ∣ x := by
      apply pow_dvd_of_bits_zero
      intro j hj
      have := hlt j hj
      simp at this
      omega
    exact (Nat.div_mul_cancel hd).symm

theorem varfloat64SizeBits_eq (b : Nat) :
    varfloat64SizeBits b = (encVarfloatBits b).length := by
  unfold varfloat64SizeBits varfloatSizeTable encVarfloatBits
  have hx := vfWord_lt b
  generalize vfWord b = x at hx
  apply encVF_length_congr
  intro n
  rw [Nat.mod_mul_mod]
  by_cases h0 : x = 0
  · subst h0
    have : tzcnt64 0 = 64 := by simp [tzcnt64]
    rw [this]
    have : (W64 - 1) * 2 ^ 64 * 2 ^ n % W64 = 0 := by
      rw [Nat.mul_assoc, Nat.mul_comm, Nat.mul_assoc]
      exact Nat.mul_mod_right _ _
    simp [this]
  · obtain ⟨ht, m, hm, hxm⟩ := tzcnt64_spec x h0 hx
    generalize tzcnt64 x = t at *
    rw [Nat.mul_assoc, ← Nat.pow_add, odd_mul_pow_mod _ _ (by decide)]
    rw [hxm, Nat.mul_assoc, ← Nat.pow_add, odd_mul_pow_mod _ _ hm]

/-! ### shifts within 64 bits (for the rotations of `DDS.Props.C18Bits`) -/

theorem shiftLeft_mod (x : Nat) {r : Nat} (hr : r ≤ 64) :
    x <<< r % 2 ^ 64 = (x % 2 ^ (64 - r)) <<< r := by
  rw [Nat.shiftLeft_eq, Nat.shiftLeft_eq,
    show (2 : Nat) ^ 64 = 2 ^ (64 - r) * 2 ^ r by rw [← Nat.pow_add, Nat.sub_add_cancel hr],
    Nat.mul_mod_mul_right]

theorem shiftRight_lt (x : BitVec 64) {r : Nat} (hr : r ≤ 64) : x.toNat >>> r < 2 ^ (64 - r) := by
  rw [Nat.shiftRight_eq_div_pow]
  apply Nat.div_lt_of_lt_mul
  rw [← Nat.pow_add, Nat.add_sub_cancel' hr]
  exact x.isLt

end Codec
end DDS
