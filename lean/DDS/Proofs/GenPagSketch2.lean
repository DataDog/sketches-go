/-
  DDS.Proofs.GenPagSketch2 — continuation of `DDS/Proofs/GenPagSketch.lean` (same namespace): `ForEachList` and
  `Encode` of the `StoreI (GPS grow)` instance, and the regenerated sketch code over the REGENERATED
  buffered-paginated store (`GPS grow`) versus the same code over the model's stores, for merge trees and for `Encode`.

  STORES.
  1. `sim_model_pg`, `sim_retarget`, `sim_content`: the model side of `Sim` is a paginated store inside the invariant,
     and may be replaced by any other such store with the same content.
  2. `ForEachList` of the instance: `sim_forEachList` (equal lists under `Sim`), `forEachList_is_ForEach`
     (the list is exactly what the regenerated `ForEach` hands, in order, to a visitor that never stops).
  3. `Encode` of the instance (its fuel `encodeFuel compactFuel (ofGen g) + 1` is sufficient by
     `GenPagCodec.Encode_inv`): `sim_encode` (both encoders succeed, each
     appends the bytes of the model's blocks for ITS OWN compacted store, results related again),
     `blocks_denote` (under `RoundTrip.PagOK` the block list of a store consists of well-formed bins blocks denoting
     its content); the bytes themselves are NOT equal in general — see the section header.
  SKETCHES.
  4. `skSim_retarget`, `observers_of_common_target`: two regenerated sketches related to model
     sketches with the same contents observe alike (used by `DDS/Props/C02GenPag.lean` to compare a tree with
     the single sketch fed the concatenated input).
  5. MERGE TREES.  `GTree` (leaves: histories of `AddWithCount(value, count)` calls; nodes: `MergeWith` of the right
     result into the left one), `GTree.eval mk t` for ANY store type (every leaf starts from the sketch `mk`;
     the errors of all calls are collected in order).  `evalTree_paramG` (any simulation `StoreSim` between two
     store implementations), `evalTree_param` (its paginated instance): from related start sketches, a tree whose
     routed indexes are admissible (int32) returns the same errors and ends in related sketches;
     `tree_observers_param`: from `NewDDSketch m NewBufferedPaginatedStore NewBufferedPaginatedStore`, every observer
     (`GetCount`, `IsEmpty`, `GetZeroCount`, `GetValueAtQuantile q` for all `q`, `GetMinValue`, `GetMaxValue`) agrees with the
     model-store side.  No fuel hypothesis, any mapping implementation `M`, any growth oracle.
  6. `DDSketch.Encode`: `Encode_prefix` (over any two store types the bytes before the store blocks depend on the
     mapping object and the zero count only), `Encode_param` (`DDSketch.Encode` over the two instances: same outcome,
     common prefix, store blocks with the same denotation, receivers related again).
  Not in this file: `DecodeAndMergeWith` of the instance (`gDecode`: `DDS/Proofs/GenPagSketch3.lean`), the
  exact-summary variant (`DDS/Proofs/GenStoreSimX.lean`).
-/
import DDS.Proofs.GenPagSim
import DDS.Proofs.GenSketch4

namespace DDS.GenPagSketch

open DDS DDS.GoSem DDS.PStore DDS.GenPag DDS.Gen.Paginated

variable {grow : Int → Int → Int}

/-! ### retargeting the simulation -/

/-- the model side of a `Sim` is a paginated store inside the invariant -/
theorem sim_model_pg {x : GPS grow} {st : Store} (h : Sim x st) : ∃ p, st = .pg p ∧ PStore.Inv p := by
  obtain ⟨_, s', _, _, hst, _, hi', _⟩ := h
  exact ⟨s', hst, hi'⟩

/-- the model side of `Sim` may be replaced by any paginated model store with the same content -/
theorem sim_retarget {x : GPS grow} {st st' : Store} (h : Sim x st) (h' : ∃ p', st' = .pg p' ∧ PStore.Inv p')
    (hc : st.binsList.getD [] = st'.binsList.getD []) : Sim x st' := by
  obtain ⟨s, s', cap, hx, rfl, hs, _, hcs⟩ := h
  obtain ⟨p', rfl, hi⟩ := h'
  exact ⟨s, p', cap, hx, rfl, hs, hi, hcs.trans hc⟩

theorem sim_content {x : GPS grow} {p : PStore} (h : Sim x (.pg p)) : content (ofGen x.g) = content p := by
  obtain ⟨s, s', cap, hx, hst, _, _, hc⟩ := h
  cases hst
  rw [hx, ofGen_toGen]
  exact hc

/-! ### `ForEachList` of the instance -/

theorem sim_forEachList {x : GPS grow} {st : Store} (h : Sim x st) :
    (StoreI.ForEachList x : List (Int × F64)) = StoreI.ForEachList st := by
  obtain ⟨s, s', cap, hx, rfl, hi, hi', hc⟩ := h
  show gForEachList x = ((Store.pg s').binsList.getD []).map (fun p => (p.1, F64.fin p.2))
  unfold gForEachList
  rw [hx, ofGen_toGen]
  have e : s.binsList = s'.binsList := hc
  rw [e]
  rfl

/-- the list of the instance is what the regenerated `ForEach` enumerates: for every callback the regenerated
    `ForEach` is the walk (`GenPag.visit`) of the model image's `binsList`; with a callback that never stops it
    succeeds (result: the store with its buffer sorted) and the calls it makes, in order, are the entries of
    `ForEachList` (as rationals).  No invariant needed; fuel `forEachFuel s = len(buffer) + 1`. -/
theorem forEachList_is_ForEach (s : PStore) (cap : Int) (fuel : Nat) (hf : forEachFuel s ≤ fuel) :
    (StoreI.ForEachList (⟨toGen s cap⟩ : GPS grow) : List (Int × F64)) =
      (visitTrace (fun _ _ => .ok false) s.binsList).map (fun p => (p.1, F64.fin p.2)) ∧
    BufferedPaginatedStore.ForEach fuel (toGen s cap) (fun _ _ => .ok false)
      = .ok (toGen { s with buffer := PStore.sortInts s.buffer } cap) ∧
    ∀ f, BufferedPaginatedStore.ForEach fuel (toGen s cap) f = visit f (toGen s.sortRead cap) s.binsList := by
  obtain ⟨h1, h2⟩ := forEach_all s cap fuel hf
  refine ⟨?_, h1, fun f => forEach_eq_visit s cap f fuel hf⟩
  rw [h2]
  show gForEachList (⟨toGen s cap⟩ : GPS grow) = _
  unfold gForEachList
  rw [ofGen_toGen]

/-! ### `Encode` of the instance

  The instance runs the regenerated `BufferedPaginatedStore.Encode` with fuel `encodeFuel compactFuel (ofGen g) + 1`,
  which `GenPagCodec.Encode_inv` shows sufficient.  What is true under `Sim`:
  both encoders succeed, both compact their receiver (the results are related again), and each appends to `b`
  the bytes of the MODEL's block list for ITS OWN compacted store (`sim_encode`).  The two block lists — hence the
  bytes — differ in general: `Sim` only says "same content", the split buffer / pages and the set of materialised
  pages are not determined by the content (the model's `AddWithCount` compacts at every add, the regenerated code
  when `len(buffer) == cap(buffer)`).  What IS equal is the denotation: under the encoder's range condition
  `RoundTrip.PagOK` on both stores (buffer shorter than `2^64`, counts that survive the varfloat transform), both
  block lists consist of well-formed bins blocks of the requested side and both DENOTE the common content
  (`blocks_denote`, through `RoundTrip.storeEncodes_pag`). -/

open DDS.RoundTrip in
/-- `Encode` on related stores (buffer of the regenerated store shorter than `2^64`) -/
theorem sim_encode {x : GPS grow} {st : Store} (h : Sim x st) (side : Side) (t : Gen.Encoding.FlagType)
    (ht : t.byte.toNat = Wire.sideType side) (hs : GenSketch.flagSide t = side) (b b' : List (BitVec 8))
    (hlen : (ofGen x.g).buffer.length < 2 ^ 64) :
    ∃ (s1 s1' : PStore) (cap : Int) (bl bl' : List Block),
      Sketch.encodeStore (.pg (ofGen x.g)) side = some (.pg s1, bl) ∧
      Sketch.encodeStore st side = some (.pg s1', bl') ∧
      (StoreI.Encode x b t : GPS grow × List (BitVec 8)) =
        (⟨toGen s1 cap⟩, b ++ GenEncoding.bn (Wire.encBlocks bl)) ∧
      (StoreI.Encode st b' t : Store × List (BitVec 8)) = (.pg s1', b' ++ GenEncoding.bn (Wire.encBlocks bl')) ∧
      Sim (StoreI.Encode x b t).1 (StoreI.Encode st b' t).1 := by
  obtain ⟨s, s', cap, hx, rfl, hi, hi', hc⟩ := h
  rw [hx, ofGen_toGen] at hlen
  obtain ⟨s1, bl, e1, g1, i1, c1⟩ := Encode_inv compactFuel compactSpec (encodeFuel compactFuel s + 1) s cap side t ht b
    hi hlen (Nat.le_succ _)
  obtain ⟨s1', k1, i1', c1'⟩ := PStore.compact_content s' hi'
  have e1' : Sketch.encodeStore (.pg s') side = some (.pg s1', pagBlocks s1' side) := by
    rw [encodeStore_pg, k1]; rfl
  have hG : (StoreI.Encode x b t : GPS grow × List (BitVec 8)) =
      (⟨toGen s1 cap⟩, b ++ GenEncoding.bn (Wire.encBlocks bl)) := by
    rw [gps_encode]; delta gEncode; rw [hx, ofGen_toGen, g1]
  have hM : (StoreI.Encode (Store.pg s') b' t : Store × List (BitVec 8)) =
      (.pg s1', b' ++ GenEncoding.bn (Wire.encBlocks (pagBlocks s1' side))) := by
    show GenSketch.storeEncode (.pg s') b' t = _
    unfold GenSketch.storeEncode
    rw [hs, e1']
    rfl
  refine ⟨s1, s1', cap, bl, _, by rw [hx, ofGen_toGen]; exact e1, e1', hG, hM, ?_⟩
  rw [hG, hM]
  exact ⟨s1, s1', cap, rfl, rfl, i1, i1', by rw [c1, c1', hc]⟩

open DDS.RoundTrip in
/-- under the encoder's range condition the blocks the model writes for a paginated store are well-formed bins
    blocks denoting its content (`RoundTrip.storeEncodes_pag`) -/
theorem blocks_denote {s : PStore} (hp : PagOK s) {side : Side} {st' : Store} {bl : List Block}
    (e : Sketch.encodeStore (.pg s) side = some (st', bl)) :
    (∀ k ∈ bl, k.WF ∧ k.FiniteWeights ∧ IsBins side k) ∧ Denotes (sideBins (Wire.interp bl) side) (content s) := by
  obtain ⟨_, _, _, _, _, f, w, d⟩ := storeEncodes_pag s hp side
  cases e.symm.trans f
  exact ⟨w, d⟩

section sketch

open DDS.Gen.Sketch

variable {M : Type} [MapI M] [Inhabited M]

/-! ### sketches: retargeting, observers on a common target -/

omit [MapI M] [Inhabited M] in
/-- the model side of `SkSim` may be replaced by any sketch with the same mapping object and zero count whose
    stores are paginated model stores with the same contents -/
theorem skSim_retarget {a : DDSketch M (GPS grow)} {b b' : DDSketch M Store} (h : SkSim a b)
    (hm : b.IndexMapping = b'.IndexMapping) (hz : b.zeroCount = b'.zeroCount)
    (hp : b.positiveValueStore.binsList.getD [] = b'.positiveValueStore.binsList.getD [])
    (hn : b.negativeValueStore.binsList.getD [] = b'.negativeValueStore.binsList.getD [])
    (hp' : ∃ p', b'.positiveValueStore = .pg p' ∧ PStore.Inv p')
    (hn' : ∃ p', b'.negativeValueStore = .pg p' ∧ PStore.Inv p') : SkSim a b' :=
  ⟨h.map.trans hm, sim_retarget h.pos hp' hp, sim_retarget h.neg hn' hn, h.zero.trans hz⟩

/-- two regenerated sketches related to the SAME model sketch answer every observer alike -/
theorem observers_of_common_target {a a' : DDSketch M (GPS grow)} {b : DDSketch M Store}
    (h : SkSim a b) (h' : SkSim a' b) :
    DDSketch.GetCount a = DDSketch.GetCount a' ∧ DDSketch.IsEmpty a = DDSketch.IsEmpty a' ∧
    DDSketch.GetZeroCount a = DDSketch.GetZeroCount a' ∧
    (∀ q, DDSketch.GetValueAtQuantile a q = DDSketch.GetValueAtQuantile a' q) ∧
    DDSketch.GetMinValue a = DDSketch.GetMinValue a' ∧ DDSketch.GetMaxValue a = DDSketch.GetMaxValue a' :=
  ⟨(GetCount_param h).trans (GetCount_param h').symm, (IsEmpty_param h).trans (IsEmpty_param h').symm,
    (GetZeroCount_param h).trans (GetZeroCount_param h').symm,
    fun q => (GetValueAtQuantile_param h q).trans (GetValueAtQuantile_param h' q).symm,
    (GetMinValue_param h).trans (GetMinValue_param h').symm,
    (GetMaxValue_param h).trans (GetMaxValue_param h').symm⟩

/-! ### merge trees -/

/-- a tree of merges: a leaf is a history of `AddWithCount(value, count)` calls on a fresh sketch, a node merges
    the right result into the left one -/
inductive GTree where
  | leaf (l : List (F64 × F64))
  | node (l r : GTree)

/-- all calls of the tree, left to right -/
def GTree.flat : GTree → List (F64 × F64)
  | .leaf l => l
  | .node l r => l.flat ++ r.flat

/-- evaluation with the regenerated sketch code over any store type: every leaf starts from `mk`; the result
    and the errors returned by all calls (adds of the left subtree, adds of the right subtree, then the
    `MergeWith` of the node) -/
def GTree.eval {S : Type} [StoreI S] [Inhabited S] (mk : DDSketch M S) : GTree → DDSketch M S × List GoErr
  | .leaf l => runAdds mk l
  | .node l r =>
    let a := GTree.eval mk l
    let b := GTree.eval mk r
    let m := DDSketch.MergeWith a.1 b.1
    (m.1, a.2 ++ b.2 ++ [m.2])

theorem GTree.eval_node {S : Type} [StoreI S] [Inhabited S] (mk : DDSketch M S) (l r : GTree) :
    GTree.eval mk (.node l r) =
      ((DDSketch.MergeWith (GTree.eval mk l).1 (GTree.eval mk r).1).1,
        (GTree.eval mk l).2 ++ (GTree.eval mk r).2 ++ [(DDSketch.MergeWith (GTree.eval mk l).1 (GTree.eval mk r).1).2]) :=
  rfl

/-- **merge trees, parametricity**, for every simulation between two store implementations: the regenerated sketch
    code run on a merge tree returns the same errors on both and ends in related sketches -/
theorem evalTree_paramG {S₁ S₂ : Type} [StoreI S₁] [StoreI S₂] [Inhabited S₁] [Inhabited S₂]
    (T : GenStoreSim.StoreSim S₁ S₂) {a0 : DDSketch M S₁} {b0 : DDSketch M S₂} (h0 : GenStoreSim.SkSimG T a0 b0)
    (t : GTree) : (∀ p ∈ t.flat, GenStoreSim.RoutedG T b0.IndexMapping p.1) →
    (GTree.eval a0 t).2 = (GTree.eval b0 t).2 ∧ GenStoreSim.SkSimG T (GTree.eval a0 t).1 (GTree.eval b0 t).1 := by
  induction t with
  | leaf l => intro hl; exact GenStoreSim.runAdds_paramG T l h0 hl
  | node l r ihl ihr =>
    intro hl
    obtain ⟨el, sl⟩ := ihl (fun p hp => hl p (List.mem_append_left _ hp))
    obtain ⟨er, sr⟩ := ihr (fun p hp => hl p (List.mem_append_right _ hp))
    obtain ⟨em, sm⟩ := GenStoreSim.MergeWith_paramG T sl sr
    rw [GTree.eval_node, GTree.eval_node, el, er, em]
    exact ⟨rfl, sm⟩

/-- the regenerated paginated stores against the model stores -/
theorem evalTree_param {a0 : DDSketch M (GPS grow)} {b0 : DDSketch M Store} (h0 : SkSim a0 b0) (t : GTree)
    (hl : ∀ p ∈ t.flat, Routed32 b0.IndexMapping p.1) :
    (GTree.eval a0 t).2 = (GTree.eval b0 t).2 ∧ SkSim (GTree.eval a0 t).1 (GTree.eval b0 t).1 :=
  (evalTree_paramG (GenStoreSim.pagStoreSim grow) h0.toG t hl).imp id SkSim.ofG

/-- every observer of the result of a merge tree on fresh regenerated paginated stores answers as over the
    model stores -/
theorem tree_observers_param (m : M) (t : GTree) (hl : ∀ p ∈ t.flat, Routed32 m p.1) :
    let a := GTree.eval (NewDDSketch m (⟨NewBufferedPaginatedStore⟩ : GPS grow) ⟨NewBufferedPaginatedStore⟩) t
    let b := GTree.eval (NewDDSketch m (Store.new .pag) (Store.new .pag)) t
    a.2 = b.2 ∧ SkSim a.1 b.1 ∧
    DDSketch.GetCount a.1 = DDSketch.GetCount b.1 ∧ DDSketch.IsEmpty a.1 = DDSketch.IsEmpty b.1 ∧
    DDSketch.GetZeroCount a.1 = DDSketch.GetZeroCount b.1 ∧
    (∀ q, DDSketch.GetValueAtQuantile a.1 q = DDSketch.GetValueAtQuantile b.1 q) ∧
    DDSketch.GetMinValue a.1 = DDSketch.GetMinValue b.1 ∧ DDSketch.GetMaxValue a.1 = DDSketch.GetMaxValue b.1 := by
  intro a b
  obtain ⟨he, hs⟩ := evalTree_param (grow := grow) (skSim_new m) t hl
  exact ⟨he, hs, observers_of_skSim hs⟩

/-! ### the sketch-level `Encode`, up to denotation -/

/-- the store part of `DDSketch.Encode`, from the buffer `b`: the positive store, then the negative store -/
def encStores {S : Type} [StoreI S] (s : DDSketch M S) (b : List (BitVec 8)) : DDSketch M S × List (BitVec 8) :=
  let p := StoreI.Encode s.positiveValueStore b Gen.Encoding.FlagTypePositiveStore
  let n := StoreI.Encode s.negativeValueStore p.2 Gen.Encoding.FlagTypeNegativeStore
  ({ s with positiveValueStore := p.1, negativeValueStore := n.1 }, n.2)

/-- `DDSketch.Encode` over two store types: the bytes before the store blocks (zero-count block, mapping block) are
    computed from the mapping object and the zero count alone -/
theorem Encode_prefix {S₁ S₂ : Type} [StoreI S₁] [StoreI S₂] [Inhabited S₁] [Inhabited S₂] (a : DDSketch M S₁)
    (b : DDSketch M S₂) (hm : a.IndexMapping = b.IndexMapping) (hz : a.zeroCount = b.zeroCount) (fuel : Nat)
    (buf : List (BitVec 8)) (om : Bool) :
    (∃ b1, DDSketch.Encode fuel a buf om = .ok (encStores a b1) ∧ DDSketch.Encode fuel b buf om = .ok (encStores b b1)) ∨
    (DDSketch.Encode fuel a buf om = .panic ∧ DDSketch.Encode fuel b buf om = .panic) ∨
    (DDSketch.Encode fuel a buf om = .nofuel ∧ DDSketch.Encode fuel b buf om = .nofuel) := by
  -- both are the zero-count block (`GenSketch.Encode_nf`), which reads the zero count only, then the pure tail
  rw [GenSketch.Encode_nf, GenSketch.Encode_nf, hz]
  cases GenSketch.optBlock _ _ _ buf with
  | panic => exact Or.inr (Or.inl ⟨rfl, rfl⟩)
  | nofuel => exact Or.inr (Or.inr ⟨rfl, rfl⟩)
  | ok b0 => exact Or.inl ⟨if om then b0 else MapI.Encode b.IndexMapping b0, by rw [← hm]; rfl, rfl⟩

open DDS.RoundTrip in
/-- **`DDSketch.Encode` over the two store instances**: the same outcome (both succeed, or both stop with the same
    failure of the zero-count prefix); on success the receivers are related again and the two byte strings are a
    COMMON prefix `b0` (zero-count block and mapping block: equal bytes) followed by the positive-store blocks and
    the negative-store blocks, which are well-formed bins blocks denoting the same contents `cp`, `cn` on both
    sides (the store bytes themselves differ in general).  Hypothesis: the encoder's range condition `PagOK` on
    the four stores. -/
theorem Encode_param {a : DDSketch M (GPS grow)} {b : DDSketch M Store} (h : SkSim a b) (fuel : Nat)
    (buf : List (BitVec 8)) (om : Bool)
    (hpp : PagOK (GenPag.ofGen a.positiveValueStore.g)) (hpn : PagOK (GenPag.ofGen a.negativeValueStore.g))
    (hpp' : ∀ s', b.positiveValueStore = .pg s' → PagOK s')
    (hpn' : ∀ s', b.negativeValueStore = .pg s' → PagOK s') :
    (∃ (a' : DDSketch M (GPS grow)) (b' : DDSketch M Store) (b0 : List (BitVec 8))
        (pbl pbl' nbl nbl' : List Block) (cp cn : Content),
      DDSketch.Encode fuel a buf om =
        .ok (a', b0 ++ GenEncoding.bn (Wire.encBlocks pbl) ++ GenEncoding.bn (Wire.encBlocks nbl)) ∧
      DDSketch.Encode fuel b buf om =
        .ok (b', b0 ++ GenEncoding.bn (Wire.encBlocks pbl') ++ GenEncoding.bn (Wire.encBlocks nbl')) ∧
      SkSim a' b' ∧
      (∀ k ∈ pbl, k.WF ∧ k.FiniteWeights ∧ IsBins .pos k) ∧ (∀ k ∈ pbl', k.WF ∧ k.FiniteWeights ∧ IsBins .pos k) ∧
      (∀ k ∈ nbl, k.WF ∧ k.FiniteWeights ∧ IsBins .neg k) ∧ (∀ k ∈ nbl', k.WF ∧ k.FiniteWeights ∧ IsBins .neg k) ∧
      Denotes (sideBins (Wire.interp pbl) .pos) cp ∧ Denotes (sideBins (Wire.interp pbl') .pos) cp ∧
      Denotes (sideBins (Wire.interp nbl) .neg) cn ∧ Denotes (sideBins (Wire.interp nbl') .neg) cn) ∨
    (DDSketch.Encode fuel a buf om = .panic ∧ DDSketch.Encode fuel b buf om = .panic) ∨
    (DDSketch.Encode fuel a buf om = .nofuel ∧ DDSketch.Encode fuel b buf om = .nofuel) := by
  rcases Encode_prefix a b h.map h.zero fuel buf om with ⟨b1, ea, eb⟩ | hp | hn
  · obtain ⟨qp, eqp, _⟩ := sim_model_pg h.pos
    obtain ⟨qn, eqn, _⟩ := sim_model_pg h.neg
    obtain ⟨sp, sp', cp, pl, pl', e1, e1', hG, hM, hS⟩ :=
      sim_encode h.pos .pos Gen.Encoding.FlagTypePositiveStore GenEncoding.FlagTypePositiveStore_side
        GenSketch.flagSide_pos b1 b1 hpp.bufLen
    obtain ⟨sn, sn', cn, nl, nl', e2, e2', hG2, hM2, hS2⟩ :=
      sim_encode h.neg .neg Gen.Encoding.FlagTypeNegativeStore GenEncoding.FlagTypeNegativeStore_side
        GenSketch.flagSide_neg (b1 ++ GenEncoding.bn (Wire.encBlocks pl)) (b1 ++ GenEncoding.bn (Wire.encBlocks pl')) hpn.bufLen
    rw [eqp] at e1'
    rw [eqn] at e2'
    obtain ⟨w1, d1⟩ := blocks_denote hpp e1
    obtain ⟨w1', d1'⟩ := blocks_denote (hpp' qp eqp) e1'
    obtain ⟨w2, d2⟩ := blocks_denote hpn e2
    obtain ⟨w2', d2'⟩ := blocks_denote (hpn' qn eqn) e2'
    rw [sim_content (eqp ▸ h.pos)] at d1
    rw [sim_content (eqn ▸ h.neg)] at d2
    refine Or.inl ⟨(encStores a b1).1, (encStores b b1).1, b1, pl, pl', nl, nl', _, _, ea.trans ?_, eb.trans ?_,
      ⟨h.map, hS, ?_, h.zero⟩, w1, w1', w2, w2', d1, d1', d2, d2'⟩
    · simp only [encStores, hG, hG2]
    · simp only [encStores, hM, hM2]
    · simp only [encStores, hG, hM]
      exact hS2
  · exact Or.inr (Or.inl hp)
  · exact Or.inr (Or.inr hn)

end sketch

end DDS.GenPagSketch
