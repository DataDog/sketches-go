/-
  DDS.Proofs.F64Cmp — the comparisons and the negation of `F64` (`DDS/Model/Num.lean`) on finite values, on
  NaN and on the infinities, read off the definitions; `lt` irreflexive and asymmetric, `neg` an involution;
  NaN absorbed by the arithmetic; then the order `leX` (`−∞ ≤ finite ≤ +∞`) that the comparisons are away
  from NaN.  Core Lean only, so that every module can import it.  What rounding and the arithmetic do to
  `leX` is in `DDS.Proofs.Num`.
-/
import DDS.Model.Num

namespace DDS.F64

theorem lt_fin (a b : Rat) : F64.lt (.fin a) (.fin b) = decide (a < b) := rfl
theorem gt_fin (a b : Rat) : F64.gt (.fin a) (.fin b) = decide (b < a) := rfl
theorem neg_fin (a : Rat) : F64.neg (.fin a) = .fin (-a) := rfl
theorem isNaN_fin (a : Rat) : F64.isNaN (.fin a) = false := rfl
theorem eq_fin (a b : Rat) : F64.eq (.fin a) (.fin b) = (a == b) := rfl

theorem le_fin (a b : Rat) : F64.le (.fin a) (.fin b) = decide (a ≤ b) := by
  show (decide (a < b) || a == b) = decide (a ≤ b)
  rw [Bool.eq_iff_iff, Bool.or_eq_true, decide_eq_true_iff, beq_iff_eq, decide_eq_true_iff,
    Rat.le_iff_lt_or_eq]

theorem le_fin_of_le (x y : Rat) (hxy : x ≤ y) : F64.le (.fin x) (.fin y) = true :=
  (F64.le_fin x y).trans (decide_eq_true hxy)

theorem lt_fin_mono {a b : Rat} (h : a ≤ b) (Z : F64) (hb : F64.lt (.fin b) Z = true) :
    F64.lt (.fin a) Z = true := by
  cases Z with
  | fin z => exact decide_eq_true (Std.lt_of_le_of_lt h (of_decide_eq_true hb))
  | pinf => rfl
  | ninf => exact hb
  | nan => exact hb

theorem neg_neg (x : F64) : F64.neg (F64.neg x) = x := by
  cases x <;> simp [F64.neg]

theorem lt_irrefl' (a : F64) : F64.lt a a = false := by
  cases a <;> first | rfl | exact decide_eq_false Rat.lt_irrefl

theorem lt_asymm' {a b : F64} (h : F64.lt a b = true) : F64.lt b a = false := by
  cases a <;> cases b <;> first | rfl | exact Bool.noConfusion h | skip
  exact decide_eq_false (Rat.not_lt.mpr (Rat.le_of_lt (of_decide_eq_true h)))

theorem lt_nan_right (a : F64) : F64.lt a .nan = false := by cases a <;> rfl
theorem lt_nan_left (a : F64) : F64.lt .nan a = false := by cases a <;> rfl
theorem le_nan_right (a : F64) : F64.le a .nan = false := by cases a <;> rfl
theorem le_nan_left (a : F64) : F64.le .nan a = false := by cases a <;> rfl

theorem lt_pinf_left (a : F64) : F64.lt .pinf a = false := by
  cases a <;> rfl

theorem lt_ninf_right (a : F64) : F64.lt a .ninf = false := by
  cases a <;> rfl

theorem eq_nan_of_isNaN {a : F64} (h : a.isNaN = true) : a = .nan := by
  cases a <;> first | rfl | exact Bool.noConfusion h

theorem sub_nan_left (y : F64) : F64.sub .nan y = .nan := by cases y <;> rfl
theorem sub_nan_right (x : F64) : F64.sub x .nan = .nan := by cases x <;> rfl
theorem div_nan_left (y : F64) : F64.div .nan y = .nan := by cases y <;> rfl
theorem div_nan_right (x : F64) : F64.div x .nan = .nan := by cases x <;> rfl
theorem mul_nan_left (y : F64) : F64.mul .nan y = .nan := by cases y <;> rfl
theorem mul_nan_right (x : F64) : F64.mul x .nan = .nan := by cases x <;> rfl

/-! ## the order of the non-NaN floats

An inequality between floats is followed through a computation on this order instead of through the
constructors of every operand. -/

/-- `−∞ ≤ finite ≤ +∞` on the non-NaN floats; false as soon as one side is NaN -/
def leX : F64 → F64 → Prop
  | .ninf, .ninf => True
  | .ninf, .fin _ => True
  | .ninf, .pinf => True
  | .fin a, .fin b => a ≤ b
  | .fin _, .pinf => True
  | .pinf, .pinf => True
  | _, _ => False

theorem leX_refl {a : F64} (h : a.isNaN = false) : leX a a := by
  cases a <;> first | exact Rat.le_refl | exact True.intro | exact Bool.noConfusion h

theorem leX_trans {a b c : F64} (h1 : leX a b) (h2 : leX b c) : leX a c := by
  cases a <;> cases b <;> cases c <;>
    first | exact True.intro | exact h1.elim | exact h2.elim | exact Rat.le_trans h1 h2

theorem not_nan_of_leX {a b : F64} (h : leX a b) : a.isNaN = false ∧ b.isNaN = false := by
  cases a <;> cases b <;> first | exact ⟨rfl, rfl⟩ | exact h.elim

theorem le_iff_leX {a b : F64} : F64.le a b = true ↔ leX a b := by
  cases a <;> cases b
  case fin.fin x y => rw [le_fin]; exact decide_eq_true_iff
  all_goals first
    | exact ⟨fun _ => True.intro, fun _ => rfl⟩
    | exact ⟨fun h => Bool.noConfusion h, fun h => h.elim⟩

theorem lt_cases {a b : F64} (ha : a.isNaN = false) (hb : b.isNaN = false) :
    (F64.lt a b = true ∧ leX a b ∧ ¬ leX b a) ∨ (F64.lt a b = false ∧ leX b a) := by
  cases a <;> cases b
  case fin.fin x y =>
    by_cases h : x < y
    · exact .inl ⟨decide_eq_true h, Rat.le_of_lt h, Rat.not_le.mpr h⟩
    · exact .inr ⟨decide_eq_false h, Rat.not_lt.mp h⟩
  all_goals first
    | exact .inl ⟨rfl, True.intro, id⟩
    | exact .inr ⟨rfl, True.intro⟩
    | exact Bool.noConfusion ha
    | exact Bool.noConfusion hb

theorem lt_of_not_leX {a b : F64} (ha : a.isNaN = false) (hb : b.isNaN = false) (h : ¬ leX b a) :
    F64.lt a b = true := by
  rcases lt_cases ha hb with ⟨e, -⟩ | ⟨-, h'⟩
  · exact e
  · exact absurd h' h

theorem lt_eq_false_of_leX {a b : F64} (h : leX a b) : F64.lt b a = false := by
  obtain ⟨ha, hb⟩ := not_nan_of_leX h
  rcases lt_cases hb ha with ⟨-, -, h'⟩ | ⟨e, -⟩
  · exact absurd h h'
  · exact e

theorem leX_of_lt_eq_false {a b : F64} (h : F64.lt a b = false) :
    a.isNaN = true ∨ b.isNaN = true ∨ leX b a := by
  cases ha : a.isNaN
  · cases hb : b.isNaN
    · rcases lt_cases ha hb with ⟨e, -⟩ | ⟨-, h'⟩
      · rw [h] at e; exact Bool.noConfusion e
      · exact .inr (.inr h')
    · exact .inr (.inl rfl)
  · exact .inl rfl

end DDS.F64
