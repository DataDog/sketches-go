/-
  DDS.Proofs.Quantile — the accuracy of `Sketch.quantile` (`GetValueAtQuantile`) on sketches built
  from unit-weight insertions into sparse (= spec) stores.

  Layout
  * A. `rabs` (`DDS.Proofs.SketchDefs`) is Mathlib's `|·|`
  * B. the rank lookup of the sparse store is `karAux` from 0; adding a unit below every key shifts
       the ranks by one (`karAux_add_min`)
  * C. unit-weight contents (`unitsOf`), permutation invariance, the positional lemma
       `kar_units_sorted` (the key at rank `r` of the content of a sorted index list is the
       element at position `⌊r⌋`, capped) and its float forms for the two sides
       (`kar_units_neg`, `kar_units_pos`)
  * D. the bin of a value (`idxOf`) and its signed representative (`binRep`), α-accurate under the
       mapping contract (`binRep_acc`)
  * E. `addAll` with unit weights in closed form (`addAll_units`: `Sketch.addAll_spec` on unit pairs)
  * F. the ground truth `sortedInputs` and its split into negatives, zero bucket, positives
       (`sortedInputs_split`, `threeWay`)
  * G. the sketch after unit adds holds the unit contents of the sorted sides (`addAll_state`)
  * H. `qcases_units`: the rank sends `GetValueAtQuantile` to the branch and the bin of the order
       statistic of rank `⌊q(n-1)⌋` or `⌈q(n-1)⌉` (stated on `Sketch.qcases`, so that it serves the
       answered value and the selected bin alike); sketch-level `qcases_bin`, `quantile_bin`
  * I. arbitrary non-negative weights under the exactness hypothesis `QExact`
       (`quantile_weighted`), and the float facts of what happens without it (`sub_one_absorbed`)
  * J. concrete instances for the satisfiability examples of the Props files
-/
import Mathlib.Tactic.Linarith
import Mathlib.Tactic.Ring
import Mathlib.Tactic.NormNum
import Mathlib.Tactic.Positivity
import Mathlib.Data.Rat.Floor
import Mathlib.Algebra.Order.Floor.Ring
import DDS.Proofs.SpecSketch
import DDS.Proofs.SketchObs
import DDS.Proofs.Num
import DDS.Proofs.Dataset

set_option linter.unusedVariables false

namespace DDS

open Content

/-! ## A. `rabs` is `|·|` -/

theorem rabs_eq_abs (x : Rat) : rabs x = |x| := by
  unfold rabs
  split
  · rw [abs_of_neg (by assumption)]
  · rw [abs_of_nonneg (by linarith)]

theorem rabs_nonneg (x : Rat) : 0 ≤ rabs x := by rw [rabs_eq_abs]; exact abs_nonneg x

theorem rabs_of_pos {x : Rat} (h : 0 < x) : rabs x = x := by
  rw [rabs_eq_abs, abs_of_pos h]

theorem rabs_of_neg {x : Rat} (h : x < 0) : rabs x = -x := by
  rw [rabs_eq_abs, abs_of_neg h]

theorem rabs_le_iff {x b : Rat} : rabs x ≤ b ↔ -b ≤ x ∧ x ≤ b := by
  rw [rabs_eq_abs]; exact abs_le

/-! ## B. the rank lookup of the sparse store -/

/-- the sparse store's `KeyAtRank` is `karAux` from 0 (no clamping of negative ranks) -/
theorem sp_keyAtRank_eq_karAux (c : Content) (r : Rat) :
    Store.keyAtRank (.sp c) r = karAux c 0 r := rfl

theorem storeKeyAtRank_fin (st : Store) (r : Rat) :
    Sketch.storeKeyAtRank st (.fin r) = st.keyAtRank r := rfl

theorem firstExceeding_shift (m : Content) (acc acc' r r' : Rat) (h : acc' - acc = r' - r) :
    firstExceeding m acc' r' = firstExceeding m acc r := by
  induction m generalizing acc acc' with
  | nil => rfl
  | cons p rest ih =>
    rw [firstExceeding_cons, firstExceeding_cons]
    have e : (r' < acc' + p.2) ↔ (r < acc + p.2) := by constructor <;> intro <;> linarith
    by_cases hc : r < acc + p.2
    · rw [if_pos hc, if_pos (e.2 hc)]
    · rw [if_neg hc, if_neg (fun x => hc (e.1 x))]
      exact ih _ _ (by linarith)

theorem karAux_shift (m : Content) (acc acc' r r' : Rat) (h : acc' - acc = r' - r) :
    karAux m acc' r' = karAux m acc r := by
  unfold karAux; rw [firstExceeding_shift m acc acc' r r' h]

/-- adding a unit at an index not above any key: the ranks shift by one -/
theorem karAux_add_min (c : Content) (hwf : c.WF) (hne : c ≠ []) (i : Int)
    (hi : ∀ p ∈ c, i ≤ p.1) (r : Rat) :
    karAux (c.add i 1) 0 r = if r < 1 then i else karAux c 0 (r - 1) := by
  cases c with
  | nil => exact absurd rfl hne
  | cons p rest =>
    have hp : 0 < p.2 := hwf.2 p (List.mem_cons_self ..)
    have hip := hi p (List.mem_cons_self ..)
    rw [add_cons, if_neg (by norm_num)]
    by_cases h1 : i < p.1
    · rw [if_pos h1, karAux_cons_cons]
      simp only [zero_add]
      by_cases hr : r < 1
      · rw [if_pos hr, if_pos hr]
      · rw [if_neg hr, if_neg hr]; exact karAux_shift _ _ _ _ _ (by ring)
    · have h2 : i = p.1 := by omega
      rw [if_neg h1, if_pos h2, if_neg (by linarith)]
      cases rest with
      | nil =>
        rw [karAux_singleton, karAux_singleton]; simp [h2]
      | cons q rest' =>
        rw [karAux_cons_cons, karAux_cons_cons]
        simp only [zero_add]
        by_cases hr : r < 1
        · rw [if_pos hr, if_pos (by linarith), h2]
        · rw [if_neg hr]
          by_cases hr2 : r < p.2 + 1
          · rw [if_pos hr2, if_pos (by linarith)]
          · rw [if_neg hr2, if_neg (by linarith)]
            exact karAux_shift _ _ _ _ _ (by ring)

/-! ## C. unit-weight contents -/

def unitPairs (I : List Int) : List (Int × Rat) := I.map (fun i => (i, (1 : Rat)))

def unitsOf (I : List Int) : Content := Content.merge [] (unitPairs I)

@[simp] theorem unitPairs_nil : unitPairs [] = [] := rfl
@[simp] theorem unitPairs_cons (i : Int) (I : List Int) :
    unitPairs (i :: I) = (i, 1) :: unitPairs I := rfl

theorem total_unitPairs (I : List Int) : Content.total (unitPairs I) = (I.length : Rat) := by
  induction I with
  | nil => simp
  | cons i I ih => simp only [unitPairs_cons, total_cons, ih, List.length_cons]; push_cast; ring

theorem lookup_unitPairs (I : List Int) (j : Int) :
    Content.lookup (unitPairs I) j = (I.count j : Rat) := by
  induction I with
  | nil => simp
  | cons i I ih =>
    simp only [unitPairs_cons, lookup_cons, ih, List.count_cons]
    by_cases h : i = j
    · subst h; simp; ring
    · have : ¬ (i == j) = true := by simpa using h
      simp [h]

theorem unitPairs_nonneg (I : List Int) : ∀ p ∈ unitPairs I, 0 ≤ p.2 := by
  intro p hp
  obtain ⟨i, _, rfl⟩ := List.mem_map.1 hp
  norm_num

theorem wf_unitsOf (I : List Int) : (unitsOf I).WF :=
  wf_merge_of_nonneg [] _ wf_nil (unitPairs_nonneg I)

theorem total_unitsOf (I : List Int) : (unitsOf I).total = (I.length : Rat) := by
  unfold unitsOf; rw [total_merge, total_unitPairs]; simp

theorem lookup_unitsOf (I : List Int) (j : Int) : (unitsOf I).lookup j = (I.count j : Rat) := by
  unfold unitsOf; rw [lookup_merge, lookup_unitPairs]; simp

theorem unitsOf_perm {I J : List Int} (h : I.Perm J) : unitsOf I = unitsOf J := by
  apply Content.ext _ _ (wf_unitsOf I) (wf_unitsOf J)
  intro j
  rw [lookup_unitsOf, lookup_unitsOf, h.count_eq]

theorem unitsOf_nil : unitsOf [] = [] := rfl

theorem unitsOf_cons (i : Int) (I : List Int) : unitsOf (i :: I) = (unitsOf I).add i 1 := by
  apply Content.ext _ _ (wf_unitsOf _) (wf_add _ _ _ (wf_unitsOf I) (by norm_num))
  intro j
  rw [lookup_unitsOf, lookup_add, lookup_unitsOf, List.count_cons]
  by_cases h : i = j
  · subst h; simp
  · have h' : ¬ j = i := fun e => h e.symm
    simp [h, h']

theorem mem_unitsOf {I : List Int} {p : Int × Rat} (hp : p ∈ unitsOf I) : p.1 ∈ I := by
  unfold unitsOf at hp
  rcases mem_merge hp with h | ⟨q, hq, hqp⟩
  · simp at h
  · obtain ⟨i, hi, rfl⟩ := List.mem_map.1 hq
    rw [← hqp]; exact hi

theorem key_mem_unitsOf {I : List Int} {k : Int} (hk : k ∈ I) : ∃ w, (k, w) ∈ unitsOf I := by
  rw [← lookup_pos_iff _ (wf_unitsOf I), lookup_unitsOf]
  have : 0 < I.count k := List.count_pos_iff.2 hk
  exact_mod_cast this

theorem unitsOf_ne_nil {I : List Int} (h : I ≠ []) : unitsOf I ≠ [] := by
  intro hc
  have := total_unitsOf I
  rw [hc] at this
  simp at this
  exact h (List.eq_nil_of_length_eq_zero (by exact_mod_cast this.symm))

/-- **positional lemma**: on the content of a non-decreasing index list, the key at rank `r` is
    the element at position `⌊r⌋` (position 0 for negative ranks, the last one past the end) -/
theorem kar_units_sorted (I : List Int) (hs : I.Pairwise (· ≤ ·)) (j : Nat) (hj : j < I.length)
    (r : Rat) (h1 : (j : Rat) ≤ r ∨ j = 0) (h2 : r < (j : Rat) + 1 ∨ j + 1 = I.length) :
    Store.keyAtRank (.sp (unitsOf I)) r = I[j] := by
  rw [sp_keyAtRank_eq_karAux]
  induction I generalizing j r with
  | nil => simp at hj
  | cons i I' ih =>
    rw [unitsOf_cons]
    by_cases hI : I' = []
    · subst hI
      simp only [List.length_cons, List.length_nil] at hj
      have : j = 0 := by omega
      subst this
      rw [unitsOf_nil, add_nil, if_neg (by norm_num), karAux_singleton]; rfl
    · have hs' := List.pairwise_cons.1 hs
      rw [karAux_add_min _ (wf_unitsOf I') (unitsOf_ne_nil hI) i
        (fun p hp => hs'.1 _ (mem_unitsOf hp))]
      cases j with
      | zero =>
        have hlen : 0 < I'.length := List.length_pos_iff.2 hI
        have : r < 1 := by
          rcases h2 with h | h
          · simpa using h
          · simp only [List.length_cons] at h; omega
        rw [if_pos this]; rfl
      | succ j' =>
        have hr : (j' : Rat) + 1 ≤ r := by
          rcases h1 with h | h
          · push_cast at h; exact h
          · omega
        have hj0 : (0 : Rat) ≤ j' := by positivity
        rw [if_neg (by linarith)]
        simp only [List.length_cons] at hj h2
        rw [ih hs'.2 j' (by omega) (r - 1) (Or.inl (by linarith))
          (by rcases h2 with h | h
              · left; push_cast at h; linarith
              · right; omega)]
        rfl

/-- a rank between two neighbouring positions selects one of them -/
theorem kar_units_between (I : List Int) (hs : I.Pairwise (· ≤ ·)) (a b : Int) (r : Rat)
    (h1 : (a : Rat) ≤ r) (h2 : r ≤ (b : Rat)) (hab : b ≤ a + 1) (hb0 : 0 ≤ b) (hb : b < I.length) :
    ∃ j : Nat, ∃ hj : j < I.length, ((j : Int) = a ∨ (j : Int) = b) ∧
      Store.keyAtRank (.sp (unitsOf I)) r = I[j] := by
  obtain ⟨jb, rfl⟩ := Int.eq_ofNat_of_zero_le hb0
  rw [Int.cast_natCast] at h2
  rcases h2.lt_or_eq with hlt | e
  · have : a < jb := by exact_mod_cast lt_of_le_of_lt h1 hlt
    obtain rfl : a = jb - 1 := by omega
    cases jb with
    | zero => exact ⟨0, by omega, Or.inr rfl, kar_units_sorted I hs 0 (by omega) r (Or.inr rfl) (Or.inl (by push_cast at hlt ⊢; linarith))⟩
    | succ j =>
      push_cast at h1 hlt
      exact ⟨j, by omega, Or.inl (by omega),
        kar_units_sorted I hs j (by omega) r (Or.inl (by linarith)) (Or.inl hlt)⟩
  · exact ⟨jb, by omega, Or.inr rfl,
      kar_units_sorted I hs jb (by omega) r (Or.inl e.ge) (Or.inl (by linarith))⟩

/-- negative side of `GetValueAtQuantile`: the rank `negCount - 1 - rank`, computed in floats, selects
    position `nn - 1 - ⌊rank⌋` or `nn - 1 - ⌈rank⌉` of the sorted magnitudes -/
theorem kar_units_neg (I : List Int) (hs : I.Pairwise (· ≤ ·)) (nn : Nat) (hnn : I.length = nn)
    (hlen : nn ≤ 2 ^ 53) (r : Rat) (hr0 : 0 ≤ r) (hr : r < (nn : Rat)) :
    ∃ j : Nat, ∃ hj : j < I.length, ((nn : Int) - 1 - j = ⌊r⌋ ∨ (nn : Int) - 1 - j = ⌈r⌉) ∧
      Sketch.storeKeyAtRank (.sp (unitsOf I)) (F64.sub (.fin ((nn : Rat) - 1)) (.fin r)) = I[j] := by
  subst hnn
  have f1 := Int.floor_le r
  have f3 := Int.le_ceil r
  have g3 := Int.floor_le_ceil r
  have g4 := Int.ceil_le_floor_add_one r
  have g6 : 0 ≤ ⌊r⌋ := Int.floor_nonneg.2 hr0
  have hlo : ⌊r⌋ < (I.length : Int) := Int.floor_lt.2 (by exact_mod_cast hr)
  obtain ⟨r', hr', b1, b2⟩ := F64.round_between ((I.length : Rat) - 1 - r) ((I.length : Int) - 1 - ⌈r⌉)
    ((I.length : Int) - 1 - ⌊r⌋) (by push_cast; linarith) (by push_cast; linarith)
    (by omega) (by omega)
  obtain ⟨j, hj, hjk, key⟩ := kar_units_between I hs _ _ r' b1 b2 (by omega) (by omega) (by omega)
  exact ⟨j, hj, by omega, by rw [F64.sub_fin, hr']; exact key⟩

/-- positive side: the rank `rank - zeroCount - negCount`, computed in floats, selects position
    `⌊rank⌋ - z - nn` or `⌈rank⌉ - z - nn` of the sorted positives -/
theorem kar_units_pos (I : List Int) (hs : I.Pairwise (· ≤ ·)) (z nn np : Nat) (hnp : I.length = np)
    (hlen : nn + z + np ≤ 2 ^ 53) (r : Rat) (hr : ((z + nn : Nat) : Rat) ≤ r)
    (hr1 : r ≤ ((nn + z + np : Nat) : Rat) - 1) :
    ∃ j : Nat, ∃ hj : j < I.length,
      ((nn : Int) + z + j = ⌊r⌋ ∨ (nn : Int) + z + j = ⌈r⌉) ∧
      Sketch.storeKeyAtRank (.sp (unitsOf I))
        (F64.sub (F64.sub (.fin r) (.fin (z : Rat))) (.fin (nn : Rat))) = I[j] := by
  subst hnp
  have f1 := Int.floor_le r
  have f3 := Int.le_ceil r
  have g3 := Int.floor_le_ceil r
  have g4 := Int.ceil_le_floor_add_one r
  have hlo : ((z + nn : Nat) : Int) ≤ ⌊r⌋ := Int.le_floor.2 (by exact_mod_cast hr)
  have hhi : ⌈r⌉ ≤ ((nn + z + I.length : Nat) : Int) - 1 := Int.ceil_le.2 (by push_cast at hr1 ⊢; exact hr1)
  obtain ⟨r1, hr1, a1, a2⟩ := F64.round_between (r - (z : Rat)) (⌊r⌋ - (z : Int)) (⌈r⌉ - (z : Int))
    (by push_cast; linarith) (by push_cast; linarith)
    (by omega) (by omega)
  obtain ⟨r2, hr2, b1, b2⟩ := F64.round_between (r1 - (nn : Rat)) (⌊r⌋ - (z : Int) - (nn : Int))
    (⌈r⌉ - (z : Int) - (nn : Int))
    (by push_cast at a1 ⊢; linarith) (by push_cast at a2 ⊢; linarith)
    (by omega) (by omega)
  obtain ⟨j, hj, hjk, key⟩ := kar_units_between I hs _ _ r2 b1 b2 (by omega) (by omega) (by omega)
  exact ⟨j, hj, by omega, by rw [F64.sub_fin, hr1, F64.sub_fin, hr2]; exact key⟩

/-! ## D. the bin of a value and its representative -/

def idxOf (env : MapEnv) (x : Rat) : Int := env.index (.fin (rabs x))

theorem idxOf_neg (env : MapEnv) (x : Rat) : idxOf env (-x) = idxOf env x := by
  unfold idxOf; rw [rabs_eq_abs, rabs_eq_abs, abs_neg]

theorem idxOf_pos (env : MapEnv) {x : Rat} (h : 0 < x) : idxOf env x = env.index (.fin x) := by
  unfold idxOf; rw [rabs_of_pos h]

theorem idx_pairwise (env : MapEnv) (α mn mx : Rat) (C : Contract env α mn mx) (L : List Rat)
    (hs : L.Pairwise (· ≤ ·)) (hr : ∀ x ∈ L, mn < x ∧ x ≤ mx) :
    (L.map (idxOf env)).Pairwise (· ≤ ·) := by
  rw [List.pairwise_map]
  refine hs.imp_of_mem ?_
  intro a b ha hb hab
  have hmn := C.minPos
  rw [idxOf_pos env (by linarith [(hr a ha).1]), idxOf_pos env (by linarith [(hr b hb).1])]
  exact C.idxMono a b (hr a ha).1 hab (hr b hb).2

/-- representative of the bin of a (zero-collapsed) value, with its sign -/
def binRep (env : MapEnv) (y : Rat) : F64 :=
  if 0 < y then env.value (idxOf env y)
  else if y < 0 then F64.neg (env.value (idxOf env y))
  else .fin 0

theorem binRep_zero (env : MapEnv) : binRep env 0 = .fin 0 := by simp [binRep]

theorem binRep_pos (env : MapEnv) {x : Rat} (h : 0 < x) : binRep env x = env.value (idxOf env x) := by
  unfold binRep; rw [if_pos h]

theorem binRep_neg (env : MapEnv) {x : Rat} (h : 0 < x) :
    binRep env (-x) = F64.neg (env.value (idxOf env x)) := by
  unfold binRep
  rw [if_neg (by linarith), if_pos (by linarith), idxOf_neg]

theorem binRep_acc (env : MapEnv) (α mn mx : Rat) (C : Contract env α mn mx) (y : Rat)
    (hy : y = 0 ∨ (mn < rabs y ∧ rabs y ≤ mx)) :
    ∃ a, binRep env y = .fin a ∧ rabs (a - y) ≤ α * rabs y := by
  have hmn := C.minPos
  rcases hy with rfl | ⟨h1, h2⟩
  · refine ⟨0, binRep_zero env, ?_⟩
    simp [rabs]
  · rcases lt_trichotomy y 0 with hneg | h0 | hpos
    · obtain ⟨r, hr, _⟩ := C.valFin (idxOf env y)
      rw [rabs_of_neg hneg] at h1 h2
      have e : binRep env y = .fin (-r) := by
        have := binRep_neg env (x := -y) (by linarith)
        rw [neg_neg, idxOf_neg, hr] at this
        exact this
      refine ⟨-r, e, ?_⟩
      have hidx : idxOf env y = env.index (.fin (-y)) := by
        rw [← idxOf_neg, idxOf_pos env (by linarith)]
      rw [hidx] at hr
      have := C.acc (-y) r h1 h2 hr
      rw [rabs_of_neg hneg]
      rw [rabs_eq_abs] at this ⊢
      rw [show -r - y = -(r - -y) by ring, abs_neg]
      exact this
    · subst h0
      rw [rabs_eq_abs, abs_zero] at h1; linarith
    · obtain ⟨r, hr, _⟩ := C.valFin (idxOf env y)
      rw [rabs_of_pos hpos] at h1 h2 ⊢
      refine ⟨r, by rw [binRep_pos env hpos, hr], ?_⟩
      rw [idxOf_pos env hpos] at hr
      exact C.acc y r h1 h2 hr

/-! ## E. unit adds in closed form -/

def posVals (mn : Rat) (xs : List Rat) : List Rat := xs.filter (fun x => decide (mn < x))
def negVals (mn : Rat) (xs : List Rat) : List Rat := xs.filter (fun x => decide (x < -mn))
def zeroCnt (mn : Rat) (xs : List Rat) : Nat := (xs.filter (fun x => decide (rabs x ≤ mn))).length

theorem posPart_units (env : MapEnv) (mn : Rat) (xs : List Rat) :
    Sketch.posPart env mn (xs.map (fun x => (x, 1))) = unitPairs ((posVals mn xs).map (idxOf env)) := by
  simp [Sketch.posPart, Sketch.keyOf, idxOf, posVals, unitPairs, List.filter_map, Function.comp_def]

theorem negPart_units (env : MapEnv) (mn : Rat) (xs : List Rat) :
    Sketch.negPart env mn (xs.map (fun x => (x, 1))) = unitPairs ((negVals mn xs).map (idxOf env)) := by
  simp [Sketch.negPart, Sketch.keyOf, idxOf, negVals, unitPairs, List.filter_map, Function.comp_def]

theorem fsum_zeroPart_units (mn : Rat) (xs : List Rat) (z : F64) :
    Sketch.fsum z (Sketch.zeroPart mn (xs.map (fun x => (x, 1)))) = Dataset.addN z (zeroCnt mn xs) := by
  induction xs generalizing z with
  | nil => rfl
  | cons x xs ih =>
    have e : (rabs x ≤ mn) ↔ (¬ mn < x ∧ ¬ x < -mn) := by
      rw [rabs_le_iff, not_lt, not_lt, and_comm]
    unfold Sketch.zeroPart zeroCnt at ih ⊢
    rw [List.map_cons, List.filter_cons, List.filter_cons]
    by_cases h : rabs x ≤ mn
    · rw [if_pos (decide_eq_true (e.1 h)), if_pos (decide_eq_true h)]; exact ih _
    · rw [if_neg (fun hd => h (e.2 (of_decide_eq_true hd))), if_neg (by simpa using h)]; exact ih z

theorem addAll_units (env : MapEnv) (α mn mx : Rat) (C : Contract env α mn mx)
    (xs : List Rat) (hx : ∀ x ∈ xs, rabs x ≤ mx)
    (m : Option MapId) (cp cn : Content) (z : F64) :
    Sketch.addAll env (Sketch.spec m cp cn z) (xs.map (fun x => (x, 1))) =
      some (Sketch.spec m (cp.merge (unitPairs ((posVals mn xs).map (idxOf env))))
        (cn.merge (unitPairs ((negVals mn xs).map (idxOf env)))) (Dataset.addN z (zeroCnt mn xs))) := by
  rw [← posPart_units, ← negPart_units, ← fsum_zeroPart_units]
  exact Sketch.addAll_spec env mn mx C.minEq C.maxEq C.minPos.le m _ (by
    intro p hp
    obtain ⟨x, hx', rfl⟩ := List.mem_map.1 hp
    exact ⟨hx x hx', zero_le_one⟩) cp cn z

/-! ## F. the ground truth: negatives, zero bucket, positives -/

theorem mem_sortedInputs {mn : Rat} {xs : List Rat} {y : Rat} :
    y ∈ sortedInputs mn xs ↔ ∃ x ∈ xs, zeroSmall mn x = y := by
  unfold sortedInputs
  rw [(List.mergeSort_perm _ _).mem_iff, List.mem_map]

theorem length_sortedInputs (mn : Rat) (xs : List Rat) : (sortedInputs mn xs).length = xs.length := by
  unfold sortedInputs
  rw [(List.mergeSort_perm _ _).length_eq, List.length_map]

theorem sortedInputs_pairwise (mn : Rat) (xs : List Rat) : (sortedInputs mn xs).Pairwise (· ≤ ·) :=
  Dataset.sortedVals_pairwise _

theorem sortedInputs_range (mn mx : Rat) (xs : List Rat) (hx : ∀ x ∈ xs, rabs x ≤ mx) (y : Rat)
    (hy : y ∈ sortedInputs mn xs) : y = 0 ∨ (mn < rabs y ∧ rabs y ≤ mx) := by
  obtain ⟨x, hxm, rfl⟩ := mem_sortedInputs.1 hy
  unfold zeroSmall
  split
  · left; rfl
  · right; exact ⟨by linarith, hx x hxm⟩

theorem sortedInputs_nonzero {mn : Rat} {xs : List Rat} {y : Rat}
    (hy : y ∈ sortedInputs mn xs) (h0 : y ≠ 0) : y ∈ xs ∧ mn < rabs y := by
  obtain ⟨x, hxm, rfl⟩ := mem_sortedInputs.1 hy
  unfold zeroSmall at h0 ⊢
  split at h0
  · exact absurd rfl h0
  · rename_i hc
    rw [if_neg hc]
    exact ⟨hxm, not_le.1 hc⟩

theorem sortedInputs_nonneg_of (mn : Rat) (xs : List Rat) (h : ∀ x ∈ xs, 0 ≤ x) :
    ∀ y ∈ sortedInputs mn xs, 0 ≤ y := by
  intro y hy
  obtain ⟨x, hx, rfl⟩ := mem_sortedInputs.1 hy
  unfold zeroSmall; split
  · exact le_refl _
  · exact h x hx

theorem sortedInputs_nonpos_of (mn : Rat) (xs : List Rat) (h : ∀ x ∈ xs, x ≤ 0) :
    ∀ y ∈ sortedInputs mn xs, y ≤ 0 := by
  intro y hy
  obtain ⟨x, hx, rfl⟩ := mem_sortedInputs.1 hy
  unfold zeroSmall; split
  · exact le_refl _
  · exact h x hx

theorem sum_sortedInputs (mn : Rat) (xs : List Rat) :
    (sortedInputs mn xs).sum = (xs.map (zeroSmall mn)).sum :=
  (Dataset.sortedVals_perm _).sum_eq

theorem sortedInputs_get_mem (mn : Rat) (xs : List Rat) (k : Nat) (hk : k < xs.length) :
    (sortedInputs mn xs)[k]! ∈ sortedInputs mn xs := by
  have hk' : k < (sortedInputs mn xs).length := by rw [length_sortedInputs]; exact hk
  rw [getElem!_pos _ k hk']; exact List.getElem_mem hk'

theorem sortedInputs_min (mn : Rat) (xs : List Rat) (y : Rat) (hy : y ∈ sortedInputs mn xs) :
    (sortedInputs mn xs)[0]! ≤ y := by
  have h0 : 0 < (sortedInputs mn xs).length := List.length_pos_of_mem hy
  rw [getElem!_pos _ 0 h0]
  exact pairwise_first le_refl (sortedInputs_pairwise mn xs) h0 y hy

theorem sortedInputs_max (mn : Rat) (xs : List Rat) (y : Rat) (hy : y ∈ sortedInputs mn xs) :
    y ≤ (sortedInputs mn xs)[xs.length - 1]! := by
  have h0 : 0 < (sortedInputs mn xs).length := List.length_pos_of_mem hy
  rw [← length_sortedInputs mn xs, getElem!_pos _ _ (by omega)]
  exact pairwise_last le_refl (sortedInputs_pairwise mn xs) h0 y hy

def threeWay (M : List Rat) (z : Nat) (P : List Rat) : List Rat :=
  M.reverse.map (fun x => -x) ++ List.replicate z 0 ++ P

theorem length_threeWay (M : List Rat) (z : Nat) (P : List Rat) :
    (threeWay M z P).length = M.length + z + P.length := by
  simp [threeWay]; omega

/-- exchanging the two sides negates and reverses the ground truth -/
theorem threeWay_mirror (M : List Rat) (z : Nat) (P : List Rat) :
    threeWay P z M = ((threeWay M z P).map (fun x => -x)).reverse := by
  simp [threeWay, List.map_reverse]

theorem threeWay_get_neg (M : List Rat) (z : Nat) (P : List Rat) (k pn : Nat)
    (h : k + pn + 1 = M.length) : (threeWay M z P)[k]! = -(M[pn]'(by omega)) := by
  rw [getElem!_pos _ k (by rw [length_threeWay]; omega)]
  unfold threeWay
  rw [List.getElem_append_left (by simp; omega), List.getElem_append_left (by simp; omega),
    List.getElem_map, List.getElem_reverse]
  simp only [show M.length - 1 - k = pn by omega]

theorem threeWay_get_zero (M : List Rat) (z : Nat) (P : List Rat) (k : Nat) (h1 : M.length ≤ k)
    (h2 : k < M.length + z) : (threeWay M z P)[k]! = 0 := by
  rw [getElem!_pos _ k (by rw [length_threeWay]; omega)]
  unfold threeWay
  rw [List.getElem_append_left (by simp; omega), List.getElem_append_right (by simpa using h1),
    List.getElem_replicate]

theorem threeWay_get_pos (M : List Rat) (z : Nat) (P : List Rat) (p : Nat) (hp : p < P.length) :
    (threeWay M z P)[M.length + z + p]! = P[p] := by
  rw [getElem!_pos _ _ (by rw [length_threeWay]; omega)]
  unfold threeWay
  rw [List.getElem_append_right (by simp)]
  simp

def Psorted (mn : Rat) (xs : List Rat) : List Rat := Dataset.sortedVals (posVals mn xs)
/-- the magnitudes of the negative inputs, ascending -/
def Msorted (mn : Rat) (xs : List Rat) : List Rat := Dataset.sortedVals ((negVals mn xs).map (fun x => -x))

theorem mem_Psorted {mn : Rat} {xs : List Rat} {x : Rat} :
    x ∈ Psorted mn xs ↔ x ∈ xs ∧ mn < x := by
  unfold Psorted posVals; rw [(Dataset.sortedVals_perm _).mem_iff, List.mem_filter]; simp

theorem mem_Msorted {mn : Rat} {xs : List Rat} {x : Rat} :
    x ∈ Msorted mn xs ↔ -x ∈ xs ∧ mn < x := by
  unfold Msorted negVals; rw [(Dataset.sortedVals_perm _).mem_iff, List.mem_map]
  constructor
  · rintro ⟨y, hy, rfl⟩
    rw [List.mem_filter] at hy
    simp only [decide_eq_true_eq] at hy
    exact ⟨by simpa using hy.1, by linarith⟩
  · rintro ⟨h1, h2⟩
    exact ⟨-x, List.mem_filter.2 ⟨h1, by simpa using (by linarith : -x < -mn)⟩, by simp⟩

theorem Msorted_eq_nil {mn : Rat} {xs : List Rat} : Msorted mn xs = [] ↔ ∀ x ∈ xs, -mn ≤ x := by
  rw [List.eq_nil_iff_forall_not_mem]
  constructor
  · intro h x hx
    by_contra hc
    exact h (-x) (mem_Msorted.2 ⟨by rwa [neg_neg], by linarith⟩)
  · intro h x hx
    obtain ⟨h1, h2⟩ := mem_Msorted.1 hx
    linarith [h _ h1]

theorem Psorted_eq_nil {mn : Rat} {xs : List Rat} : Psorted mn xs = [] ↔ ∀ x ∈ xs, x ≤ mn := by
  rw [List.eq_nil_iff_forall_not_mem]
  constructor
  · intro h x hx
    by_contra hc
    exact h x (mem_Psorted.2 ⟨hx, not_le.1 hc⟩)
  · intro h x hx
    obtain ⟨h1, h2⟩ := mem_Psorted.1 hx
    linarith [h _ h1]

theorem zeroCnt_gt {mn : Rat} {xs : List Rat} (x : Rat) (hx : x ∈ xs) (h : rabs x ≤ mn) :
    F64.gt (.fin (zeroCnt mn xs : Rat)) (.fin 0) = true := by
  have : 0 < zeroCnt mn xs :=
    List.length_pos_of_mem (List.mem_filter.2 ⟨hx, decide_eq_true h⟩)
  exact decide_eq_true (by exact_mod_cast this)

theorem Psorted_range (mn mx : Rat) (xs : List Rat) (hx : ∀ x ∈ xs, rabs x ≤ mx) :
    ∀ x ∈ Psorted mn xs, mn < x ∧ x ≤ mx := by
  intro x hxP
  obtain ⟨h1, h2⟩ := mem_Psorted.1 hxP
  exact ⟨h2, (rabs_le_iff.1 (hx x h1)).2⟩

theorem Msorted_range (mn mx : Rat) (xs : List Rat) (hx : ∀ x ∈ xs, rabs x ≤ mx) :
    ∀ x ∈ Msorted mn xs, mn < x ∧ x ≤ mx := by
  intro x hxM
  obtain ⟨h1, h2⟩ := mem_Msorted.1 hxM
  have := (rabs_le_iff.1 (hx _ h1)).1
  exact ⟨h2, by linarith⟩

theorem Msorted_length (mn : Rat) (xs : List Rat) :
    (Msorted mn xs).length = (negVals mn xs).length := by
  rw [Msorted, (Dataset.sortedVals_perm _).length_eq, List.length_map]

theorem Psorted_length (mn : Rat) (xs : List Rat) :
    (Psorted mn xs).length = (posVals mn xs).length := by
  rw [Psorted, (Dataset.sortedVals_perm _).length_eq]

theorem zeroSmall_perm (mn : Rat) (hmn : 0 < mn) (xs : List Rat) :
    (xs.map (zeroSmall mn)).Perm
      (negVals mn xs ++ List.replicate (zeroCnt mn xs) 0 ++ posVals mn xs) := by
  induction xs with
  | nil => exact List.Perm.refl _
  | cons x xs ih =>
    by_cases h1 : mn < x
    · have h2 : ¬ x < -mn := by linarith
      have h3 : ¬ rabs x ≤ mn := by rw [rabs_of_pos (by linarith)]; linarith
      have e : zeroSmall mn x = x := by unfold zeroSmall; rw [if_neg h3]
      simp only [List.map_cons, e, posVals, negVals, zeroCnt, List.filter_cons, h1, h2, h3,
        decide_true, decide_false, if_true, if_false, Bool.false_eq_true]
      exact (List.Perm.cons x ih).trans List.perm_middle.symm
    · by_cases h2 : x < -mn
      · have h3 : ¬ rabs x ≤ mn := by rw [rabs_of_neg (by linarith)]; linarith
        have e : zeroSmall mn x = x := by unfold zeroSmall; rw [if_neg h3]
        simp only [List.map_cons, e, posVals, negVals, zeroCnt, List.filter_cons, h1, h2, h3,
          decide_true, decide_false, if_true, if_false, Bool.false_eq_true]
        exact List.Perm.cons x ih
      · have h3 : rabs x ≤ mn := rabs_le_iff.2 ⟨by linarith, by linarith⟩
        have e : zeroSmall mn x = 0 := by unfold zeroSmall; rw [if_pos h3]
        simp only [List.map_cons, e, posVals, negVals, zeroCnt, List.filter_cons, h1, h2, h3,
          decide_true, decide_false, if_true, if_false, Bool.false_eq_true, List.length_cons,
          List.replicate_succ]
        refine (List.Perm.cons 0 ih).trans ?_
        rw [List.append_assoc, List.append_assoc]
        exact List.perm_middle.symm

theorem length_split (mn : Rat) (hmn : 0 < mn) (xs : List Rat) :
    (negVals mn xs).length + zeroCnt mn xs + (posVals mn xs).length = xs.length := by
  have := (zeroSmall_perm mn hmn xs).length_eq
  simp only [List.length_map, List.length_append, List.length_replicate] at this
  exact this.symm

theorem length_sorted_split (mn : Rat) (hmn : 0 < mn) (xs : List Rat) :
    (Msorted mn xs).length + zeroCnt mn xs + (Psorted mn xs).length = xs.length := by
  rw [Msorted_length, Psorted_length]
  exact length_split mn hmn xs

theorem threeWay_perm (mn : Rat) (hmn : 0 < mn) (xs : List Rat) :
    (threeWay (Msorted mn xs) (zeroCnt mn xs) (Psorted mn xs)).Perm (xs.map (zeroSmall mn)) := by
  refine List.Perm.trans ?_ (zeroSmall_perm mn hmn xs).symm
  unfold threeWay
  refine List.Perm.append (List.Perm.append ?_ (List.Perm.refl _)) (Dataset.sortedVals_perm _)
  have h1 : ((Msorted mn xs).reverse.map (fun x => -x)).Perm
      (((negVals mn xs).map (fun x => -x)).map (fun x => -x)) :=
    List.Perm.map _ ((List.reverse_perm _).trans (Dataset.sortedVals_perm _))
  rw [List.map_map] at h1
  have h2 : ((fun x : Rat => -x) ∘ fun x => -x) = id := by funext x; simp
  rwa [h2, List.map_id] at h1

theorem threeWay_pairwise (mn : Rat) (hmn : 0 < mn) (xs : List Rat) :
    (threeWay (Msorted mn xs) (zeroCnt mn xs) (Psorted mn xs)).Pairwise (· ≤ ·) := by
  unfold threeWay
  rw [List.pairwise_append, List.pairwise_append]
  refine ⟨⟨?_, ?_, ?_⟩, Dataset.sortedVals_pairwise _, ?_⟩
  · rw [List.pairwise_map, List.pairwise_reverse]
    exact (Dataset.sortedVals_pairwise _).imp (by intro a b h; linarith)
  · rw [List.pairwise_replicate]; right; exact le_refl _
  · intro a ha b hb
    obtain ⟨y, hy, rfl⟩ := List.mem_map.1 ha
    rw [List.mem_reverse] at hy
    have := (mem_Msorted.1 hy).2
    rw [(List.mem_replicate.1 hb).2]; linarith
  · intro a ha b hb
    have hb' := (mem_Psorted.1 hb).2
    rcases List.mem_append.1 ha with ha | ha
    · obtain ⟨y, hy, rfl⟩ := List.mem_map.1 ha
      rw [List.mem_reverse] at hy
      have := (mem_Msorted.1 hy).2
      linarith
    · rw [(List.mem_replicate.1 ha).2]; linarith

theorem sortedInputs_split (mn : Rat) (hmn : 0 < mn) (xs : List Rat) :
    sortedInputs mn xs = threeWay (Msorted mn xs) (zeroCnt mn xs) (Psorted mn xs) :=
  Dataset.pairwise_perm_eq (Dataset.sortedVals_pairwise _) (threeWay_pairwise mn hmn xs)
    ((Dataset.sortedVals_perm _).trans (threeWay_perm mn hmn xs).symm)

/-! ## G. the sketch after unit adds -/

theorem unit_list (xs : List Rat) : xs.map (fun x => (x, (1 : Rat))) = xs.map (fun x => (x, 1)) := rfl

theorem addAll_state (env : MapEnv) (α mn mx : Rat) (C : Contract env α mn mx)
    (xs : List Rat) (hx : ∀ x ∈ xs, rabs x ≤ mx) (hn : xs.length ≤ 2 ^ 53) (s : Sketch)
    (hs : Sketch.addAll env (Sketch.new (some env.id) .sparse) (xs.map (fun x => (x, 1))) = some s) :
    s = Sketch.spec (some env.id) (unitsOf ((Psorted mn xs).map (idxOf env)))
      (unitsOf ((Msorted mn xs).map (idxOf env))) (.fin (zeroCnt mn xs : Rat)) := by
  rw [Sketch.new_sparse, addAll_units env α mn mx C xs hx] at hs
  have hs' := (Option.some.inj hs).symm
  rw [hs']
  have hlen := length_split mn C.minPos xs
  have e1 : Content.merge [] (unitPairs ((posVals mn xs).map (idxOf env)))
      = unitsOf ((Psorted mn xs).map (idxOf env)) :=
    unitsOf_perm ((Dataset.sortedVals_perm _).symm.map _)
  have e2 : Content.merge [] (unitPairs ((negVals mn xs).map (idxOf env)))
      = unitsOf ((Msorted mn xs).map (idxOf env)) := by
    have h1 : ((Msorted mn xs).map (idxOf env)).Perm
        (((negVals mn xs).map (fun x => -x)).map (idxOf env)) := (Dataset.sortedVals_perm _).map _
    rw [List.map_map] at h1
    have h2 : (idxOf env ∘ fun x : Rat => -x) = idxOf env := by
      funext x; exact idxOf_neg env x
    rw [h2] at h1
    exact unitsOf_perm h1.symm
  have e3 : Dataset.addN (.fin 0) (zeroCnt mn xs) = .fin (zeroCnt mn xs : Rat) := by
    have := Dataset.addN_nat 0 (zeroCnt mn xs) (by omega)
    simpa using this
  rw [e1, e2, e3]

theorem spec_contents (env : MapEnv) (α mn mx : Rat) (C : Contract env α mn mx)
    (xs : List Rat) (hx : ∀ x ∈ xs, rabs x ≤ mx) (hn : xs.length ≤ 2 ^ 53)
    (s₀ : Sketch) (cp cn : Content) (z : F64)
    (h2 : Sketch.addAll env (Sketch.new (some env.id) .sparse) (xs.map (fun x => (x, 1))) = some s₀)
    (h3 : s₀ = Sketch.spec (some env.id) cp cn z) :
    cp = unitsOf ((Psorted mn xs).map (idxOf env)) ∧
    cn = unitsOf ((Msorted mn xs).map (idxOf env)) ∧ z = .fin (zeroCnt mn xs : Rat) := by
  have hst := addAll_state env α mn mx C xs hx hn s₀ h2
  rw [h3] at hst
  simp only [Sketch.spec, Sketch.mk.injEq, Store.sp.injEq, true_and] at hst
  exact hst

/-! ## H. which branch and which bin `GetValueAtQuantile` selects -/

theorem getCount_nat (m : Option MapId) (cp cn : Content) (z nn np : Nat)
    (hcp : cp.total = (np : Rat)) (hcn : cn.total = (nn : Rat)) (h : nn + z + np ≤ 2 ^ 53) :
    Sketch.getCount ⟨m, .sp cp, .sp cn, .fin (z : Rat)⟩ = .fin ((nn + z + np : Nat) : Rat) := by
  unfold Sketch.getCount Sketch.posTotal Sketch.negTotal
  simp only [Store.totalCount, hcp, hcn]
  rw [F64.add_nat z np (by omega), F64.add_nat (z + np) nn (by omega)]
  congr 2; omega

/-- the head of `GetValueAtQuantile`: count, rank, three-way split — with the two counts and the
    zero bucket natural numbers, every float operation up to the rank is exact except the product
    `r` -/
theorem qcases_eval {β : Type} (m : Option MapId) (cp cn : Content) (z nn np : Nat)
    (hcp : cp.total = (np : Rat)) (hcn : cn.total = (nn : Rat))
    (hn1 : 1 ≤ nn + z + np) (hn2 : nn + z + np ≤ 2 ^ 53)
    (q : Rat) (hq0 : 0 ≤ q) (hq1 : q ≤ 1) (r : Rat)
    (hr : F64.mul (.fin q) (.fin (((nn + z + np : Nat) : Rat) - 1)) = .fin r) (hr0 : 0 ≤ r)
    (bad empty : β) (neg : Int → β) (zero : β) (pos : Int → β) :
    Sketch.qcases ⟨m, .sp cp, .sp cn, .fin (z : Rat)⟩ (.fin q) bad empty neg zero pos =
      if r < (nn : Rat) then
        neg (Sketch.storeKeyAtRank (.sp cn) (F64.sub (.fin ((nn : Rat) - 1)) (.fin r)))
      else if r < ((z + nn : Nat) : Rat) then zero
      else pos (Sketch.storeKeyAtRank (.sp cp)
          (F64.sub (F64.sub (.fin r) (.fin (z : Rat))) (.fin (nn : Rat)))) := by
  have hn0 : ¬ (((nn + z + np : Nat) : Rat) = 0) := by
    have : (1 : Rat) ≤ ((nn + z + np : Nat) : Rat) := by exact_mod_cast hn1
    intro h; linarith
  unfold Sketch.qcases Sketch.qrank
  simp only [getCount_nat m cp cn z nn np hcp hcn hn2, F64.sub_one_nat _ hn2, hr, Sketch.negTotal,
    Store.totalCount, hcn, F64.sub_one_nat nn (by omega), F64.le_fin, F64.lt_fin,
    F64.eq_fin, hq0, hq1, decide_true, Bool.and_self, Bool.not_true, Bool.false_eq_true,
    if_false, beq_iff_eq, hn0, not_lt.2 hr0, decide_false, F64.add_nat z nn (by omega),
    decide_eq_true_eq]

/-- **core**: on the sketch holding the unit contents of the sorted magnitudes `M` (negative side),
    `z` zeros and the sorted positives `P`, `GetValueAtQuantile(q)` takes the branch, and looks up
    the bin, of the element of rank `⌊q(n-1)⌋` or `⌈q(n-1)⌉` of the ground truth -/
theorem qcases_units (env : MapEnv) (α mn mx : Rat) (C : Contract env α mn mx)
    (m : Option MapId) (P M : List Rat) (z : Nat)
    (hP : P.Pairwise (· ≤ ·)) (hM : M.Pairwise (· ≤ ·))
    (hPr : ∀ x ∈ P, mn < x ∧ x ≤ mx) (hMr : ∀ x ∈ M, mn < x ∧ x ≤ mx)
    (hn1 : 1 ≤ M.length + z + P.length) (hn2 : M.length + z + P.length ≤ 2 ^ 53)
    (q : Rat) (hq0 : 0 ≤ q) (hq1 : q ≤ 1) :
    ∃ k : Nat, k < M.length + z + P.length ∧
      ((k : Int) = ⌊q * (((M.length + z + P.length : Nat) : Rat) - 1)⌋ ∨
       (k : Int) = ⌈q * (((M.length + z + P.length : Nat) : Rat) - 1)⌉) ∧
      ∀ {β : Type} (bad empty : β) (neg : Int → β) (zero : β) (pos : Int → β),
        Sketch.qcases
          ⟨m, .sp (unitsOf (P.map (idxOf env))), .sp (unitsOf (M.map (idxOf env))), .fin (z : Rat)⟩
          (.fin q) bad empty neg zero pos =
        if 0 < (threeWay M z P)[k]! then pos (idxOf env ((threeWay M z P)[k]!))
        else if (threeWay M z P)[k]! < 0 then neg (idxOf env ((threeWay M z P)[k]!))
        else zero := by
  have hmn := C.minPos
  have hIM := idx_pairwise env α mn mx C M hM hMr
  have hIP := idx_pairwise env α mn mx C P hP hPr
  obtain ⟨r, hr, hr0, hL, hU⟩ := F64.mul_pred_between q _ hq0 hq1 hn1 hn2
  have hev := fun {β : Type} (bad empty : β) neg zero pos =>
    qcases_eval m (unitsOf (P.map (idxOf env))) (unitsOf (M.map (idxOf env))) z M.length P.length
      (by rw [total_unitsOf, List.length_map])
      (by rw [total_unitsOf, List.length_map]) hn1 hn2 q hq0 hq1 r hr hr0 bad empty neg zero pos
  have hn : (1 : Rat) ≤ ((M.length + z + P.length : Nat) : Rat) := by exact_mod_cast hn1
  have ht0 : 0 ≤ q * (((M.length + z + P.length : Nat) : Rat) - 1) :=
    mul_nonneg hq0 (sub_nonneg.2 hn)
  have ht1 : q * (((M.length + z + P.length : Nat) : Rat) - 1) ≤
      ((M.length + z + P.length : Nat) : Rat) - 1 := mul_le_of_le_one_left (sub_nonneg.2 hn) hq1
  generalize q * (((M.length + z + P.length : Nat) : Rat) - 1) = t at hL hU ht0 ht1 ⊢
  have g1 : ⌊t⌋ ≤ ⌊r⌋ := Int.le_floor.2 hL
  have g2 : ⌈r⌉ ≤ ⌈t⌉ := Int.ceil_le.2 hU
  have g3 := Int.floor_le_ceil r
  have g5 := Int.ceil_le_floor_add_one t
  have g6 : 0 ≤ ⌊t⌋ := Int.floor_nonneg.2 ht0
  have g7 : ⌈t⌉ ≤ ((M.length + z + P.length : Nat) : Int) - 1 :=
    Int.ceil_le.2 (by push_cast at ht1 ⊢; exact ht1)
  by_cases c1 : r < (M.length : Rat)
  · obtain ⟨j, hj, hjk, key⟩ :=
      kar_units_neg (M.map (idxOf env)) hIM M.length (List.length_map ..) (by omega) r hr0 c1
    rw [List.length_map] at hj
    have hx := (hMr _ (List.getElem_mem hj)).1
    refine ⟨M.length - 1 - j, by omega, by omega, fun bad empty neg zero pos => ?_⟩
    rw [hev, if_pos c1, threeWay_get_neg M z P _ j (by omega), if_neg (by linarith),
      if_pos (by linarith), idxOf_neg, key, List.getElem_map]
  · have hlo : (M.length : Int) ≤ ⌊r⌋ := Int.le_floor.2 (by exact_mod_cast not_lt.1 c1)
    by_cases c2 : r < ((z + M.length : Nat) : Rat)
    · have hlo2 : ⌊r⌋ < ((z + M.length : Nat) : Int) := Int.floor_lt.2 (by exact_mod_cast c2)
      obtain ⟨k, hk⟩ := Int.eq_ofNat_of_zero_le (show 0 ≤ ⌊r⌋ by omega)
      refine ⟨k, by omega, by omega, fun bad empty neg zero pos => ?_⟩
      rw [hev, if_neg c1, if_pos c2, threeWay_get_zero M z P k (by omega) (by omega),
        if_neg (lt_irrefl 0), if_neg (lt_irrefl 0)]
    · obtain ⟨j, hj, hjk, key⟩ :=
        kar_units_pos (P.map (idxOf env)) hIP z M.length P.length (List.length_map ..) hn2 r
          (not_lt.1 c2) (le_trans hU (by exact_mod_cast g7))
      rw [List.length_map] at hj
      have hx := (hPr _ (List.getElem_mem hj)).1
      refine ⟨M.length + z + j, by omega, by omega, fun bad empty neg zero pos => ?_⟩
      rw [hev, if_neg c1, if_neg c2, threeWay_get_pos M z P j hj, if_pos (by linarith), key,
        List.getElem_map]

/-- on the sketch built by unit adds, `GetValueAtQuantile(q)` takes the branch, and looks up the
    bin, of an order statistic of rank `⌊q(n-1)⌋` or `⌈q(n-1)⌉` -/
theorem qcases_bin (env : MapEnv) (α mn mx : Rat) (C : Contract env α mn mx)
    (xs : List Rat) (hx : ∀ x ∈ xs, rabs x ≤ mx) (hne : xs ≠ []) (hn : xs.length ≤ 2 ^ 53)
    (s : Sketch)
    (hs : Sketch.addAll env (Sketch.new (some env.id) .sparse) (xs.map (fun x => (x, 1))) = some s)
    (q : Rat) (hq0 : 0 ≤ q) (hq1 : q ≤ 1) :
    ∃ k : Nat, k < xs.length ∧
      ((k : Int) = ⌊q * ((xs.length : Rat) - 1)⌋ ∨ (k : Int) = ⌈q * ((xs.length : Rat) - 1)⌉) ∧
      ∀ {β : Type} (bad empty : β) (neg : Int → β) (zero : β) (pos : Int → β),
        s.qcases (.fin q) bad empty neg zero pos =
          if 0 < (sortedInputs mn xs)[k]! then pos (idxOf env ((sortedInputs mn xs)[k]!))
          else if (sortedInputs mn xs)[k]! < 0 then neg (idxOf env ((sortedInputs mn xs)[k]!))
          else zero := by
  have hlen := length_sorted_split mn C.minPos xs
  have hpos : 0 < xs.length := List.length_pos_iff.2 hne
  rw [addAll_state env α mn mx C xs hx hn s hs, sortedInputs_split mn C.minPos xs, ← hlen]
  exact qcases_units env α mn mx C (some env.id) (Psorted mn xs) (Msorted mn xs)
    (zeroCnt mn xs) (Dataset.sortedVals_pairwise _) (Dataset.sortedVals_pairwise _) (Psorted_range mn mx xs hx)
    (Msorted_range mn mx xs hx) (by omega) (by omega) q hq0 hq1

/-- **the answer is the bin representative of an order statistic of rank `⌊q(n-1)⌋` or `⌈q(n-1)⌉`** -/
theorem quantile_bin (env : MapEnv) (α mn mx : Rat) (C : Contract env α mn mx)
    (xs : List Rat) (hx : ∀ x ∈ xs, rabs x ≤ mx) (hne : xs ≠ []) (hn : xs.length ≤ 2 ^ 53)
    (s : Sketch)
    (hs : Sketch.addAll env (Sketch.new (some env.id) .sparse) (xs.map (fun x => (x, 1))) = some s)
    (q : Rat) (hq0 : 0 ≤ q) (hq1 : q ≤ 1) :
    ∃ k : Nat, k < xs.length ∧
      ((k : Int) = ⌊q * ((xs.length : Rat) - 1)⌋ ∨ (k : Int) = ⌈q * ((xs.length : Rat) - 1)⌉) ∧
      Sketch.quantile env s (.fin q) = .ok (binRep env ((sortedInputs mn xs)[k]!)) := by
  obtain ⟨k, hk, hfc, h⟩ := qcases_bin env α mn mx C xs hx hne hn s hs q hq0 hq1
  refine ⟨k, hk, hfc, ?_⟩
  rw [Sketch.quantile_eq_qcases, h]
  unfold binRep
  split_ifs <;> rfl

/-! ## I. arbitrary non-negative weights, exact float sums -/

def clampRank (r0 : Rat) : Rat := if r0 < 0 then 0 else r0

theorem clampRank_nonneg (r0 : Rat) : 0 ≤ clampRank r0 := by
  unfold clampRank; split <;> linarith

/-- **the exactness hypothesis**: which float operations of `GetValueAtQuantile` are assumed to
    return the exact rational result (`rank0` is only assumed finite: `r0` is whatever the rounded
    product is) -/
structure QExact (cp cn : Content) (z q r0 : Rat) : Prop where
  /-- `GetCount() = zeroCount + pos.TotalCount() + neg.TotalCount()` -/
  count : F64.add (F64.add (.fin z) (.fin cp.total)) (.fin cn.total)
            = .fin (z + cp.total + cn.total)
  /-- `count - 1` -/
  countm1 : F64.sub (.fin (z + cp.total + cn.total)) F64.one = .fin (z + cp.total + cn.total - 1)
  /-- `q * (count - 1)` is finite -/
  rank0 : F64.mul (.fin q) (.fin (z + cp.total + cn.total - 1)) = .fin r0
  /-- `negativeValueCount - 1` -/
  negm1 : F64.sub (.fin cn.total) F64.one = .fin (cn.total - 1)
  /-- `negativeValueCount - 1 - rank` -/
  negRank : F64.sub (.fin (cn.total - 1)) (.fin (clampRank r0)) = .fin (cn.total - 1 - clampRank r0)
  /-- `zeroCount + negativeValueCount` -/
  zeroNeg : F64.add (.fin z) (.fin cn.total) = .fin (z + cn.total)
  /-- `rank - zeroCount` -/
  posRank1 : F64.sub (.fin (clampRank r0)) (.fin z) = .fin (clampRank r0 - z)
  /-- `rank - zeroCount - negativeValueCount` -/
  posRank2 : F64.sub (.fin (clampRank r0 - z)) (.fin cn.total) = .fin (clampRank r0 - z - cn.total)

theorem clamp_fin (r0 : Rat) :
    (if r0 < 0 then F64.fin 0 else .fin r0) = .fin (clampRank r0) := by
  unfold clampRank
  by_cases h : r0 < 0 <;> simp [h]

theorem clampRank_lt (cp cn : Content) (z q r0 : Rat) (hq0 : 0 ≤ q) (hq1 : q ≤ 1)
    (hW : 0 < z + cp.total + cn.total) (hE : QExact cp cn z q r0) :
    clampRank r0 < z + cp.total + cn.total ∧ (z + cp.total + cn.total < 1 → clampRank r0 = 0) := by
  obtain ⟨W, hWe⟩ : ∃ W, W = z + cp.total + cn.total := ⟨_, rfl⟩
  have h1 := hE.countm1
  have h2 := hE.rank0
  rw [← hWe] at h1 h2 hW ⊢
  have h1 : F64.roundF64 (W + -(1 : Rat)) = .fin (W - 1) := h1
  have h2' : F64.roundF64 (q * (W - 1)) = .fin r0 := h2
  by_cases hW1 : W < 1
  · have : q * (W - 1) ≤ 0 := mul_nonpos_of_nonneg_of_nonpos hq0 (by linarith)
    have hr := F64.roundF64_nonpos this h2'
    have : clampRank r0 = 0 := by
      unfold clampRank; split
      · rfl
      · linarith
    exact ⟨by rw [this]; exact hW, fun _ => this⟩
  · have hle : q * (W - 1) ≤ W + -(1 : Rat) := by nlinarith
    have hr : r0 ≤ W - 1 := F64.roundF64_mono hle h2' h1
    refine ⟨?_, fun h => absurd h hW1⟩
    unfold clampRank; split <;> linarith

theorem quantile_eval_exact (env : MapEnv) (m : Option MapId) (cp cn : Content) (z q r0 : Rat)
    (hq0 : 0 ≤ q) (hq1 : q ≤ 1) (hW : 0 < z + cp.total + cn.total) (hE : QExact cp cn z q r0) :
    Sketch.quantile env ⟨m, .sp cp, .sp cn, .fin z⟩ (.fin q) =
      if clampRank r0 < cn.total then
        .ok (F64.neg (env.value (karAux cn 0 (cn.total - 1 - clampRank r0))))
      else if clampRank r0 < z + cn.total then .ok (.fin 0)
      else .ok (env.value (karAux cp 0 (clampRank r0 - z - cn.total))) := by
  have hW0 : ¬ (z + cp.total + cn.total = 0) := ne_of_gt hW
  unfold Sketch.quantile
  simp only [Sketch.getCount, Sketch.posTotal, Sketch.negTotal, Store.totalCount, hE.count,
    hE.countm1, hE.rank0, clamp_fin, hE.negm1, hE.negRank, hE.zeroNeg, hE.posRank1, hE.posRank2,
    F64.le_fin, F64.lt_fin, F64.eq_fin, hq0, hq1, decide_true, Bool.and_self, Bool.not_true,
    Bool.false_eq_true, if_false, beq_iff_eq, hW0, decide_eq_true_eq,
    storeKeyAtRank_fin, sp_keyAtRank_eq_karAux]

theorem keyAtRank_window (c : Content) (hc : c.WF) (ρ : Rat) (hlt : clampRank ρ < c.total) :
    ∃ w, (c.keyAtRank ρ, w) ∈ c ∧ cumul c (c.keyAtRank ρ - 1) ≤ clampRank ρ ∧
      clampRank ρ < cumul c (c.keyAtRank ρ) := by
  have hne : c ≠ [] := by
    rintro rfl
    exact absurd hlt (not_lt.2 (clampRank_nonneg ρ))
  obtain ⟨w, hw⟩ := keyAtRank_mem c ρ hne
  rcases keyAtRank_least c hc hne ρ with ⟨s1, s2⟩ | ⟨s1, _⟩
  · exact ⟨w, hw, s2 _ (by omega), s1⟩
  · exact absurd hlt (not_lt.2 s1)

/-- **weighted quantile**: which bin answers, in terms of cumulative weights.
    `cumul c k` is the weight of `c` at indexes `≤ k`. -/
theorem quantile_weighted (env : MapEnv) (m : Option MapId) (cp cn : Content) (z q r0 : Rat)
    (hcp : cp.WF) (hcn : cn.WF) (hz : 0 ≤ z) (hq0 : 0 ≤ q) (hq1 : q ≤ 1)
    (hW : 0 < z + cp.total + cn.total) (hE : QExact cp cn z q r0) :
    (clampRank r0 < cn.total ∧ ∃ j w, (j, w) ∈ cn ∧
        Sketch.quantile env ⟨m, .sp cp, .sp cn, .fin z⟩ (.fin q) = .ok (F64.neg (env.value j)) ∧
        cn.total - cumul cn j < min (clampRank r0 + 1) cn.total ∧
        min (clampRank r0 + 1) cn.total ≤ cn.total - cumul cn (j - 1)) ∨
    (cn.total ≤ clampRank r0 ∧ clampRank r0 < z + cn.total ∧
        Sketch.quantile env ⟨m, .sp cp, .sp cn, .fin z⟩ (.fin q) = .ok (.fin 0)) ∨
    (z + cn.total ≤ clampRank r0 ∧ ∃ j w, (j, w) ∈ cp ∧
        Sketch.quantile env ⟨m, .sp cp, .sp cn, .fin z⟩ (.fin q) = .ok (env.value j) ∧
        z + cn.total + cumul cp (j - 1) ≤ clampRank r0 ∧
        clampRank r0 < z + cn.total + cumul cp j) := by
  have hev := quantile_eval_exact env m cp cn z q r0 hq0 hq1 hW hE
  obtain ⟨hlt, _⟩ := clampRank_lt cp cn z q r0 hq0 hq1 hW hE
  have hrk0 := clampRank_nonneg r0
  generalize clampRank r0 = rk at hev hlt hrk0 ⊢
  by_cases c1 : rk < cn.total
  · left
    rw [if_pos c1, ← sp_keyAtRank_eq_karAux, Store.sp_keyAtRank cn hcn] at hev
    have hmin : min (rk + 1) cn.total = cn.total - clampRank (cn.total - 1 - rk) := by
      unfold clampRank
      split
      · rw [min_eq_right (by linarith)]; ring
      · rw [min_eq_left (by linarith)]; ring
    obtain ⟨w, hw, s3, s1⟩ := keyAtRank_window cn hcn (cn.total - 1 - rk)
      (by unfold clampRank; split <;> linarith)
    exact ⟨c1, _, w, hw, hev, by rw [hmin]; constructor <;> linarith⟩
  · right
    rw [if_neg c1] at hev
    by_cases c2 : rk < z + cn.total
    · left
      rw [if_pos c2] at hev
      exact ⟨not_lt.1 c1, c2, hev⟩
    · right
      rw [if_neg c2, ← sp_keyAtRank_eq_karAux, Store.sp_keyAtRank cp hcp] at hev
      have c2' := not_lt.1 c2
      have hρ : clampRank (rk - z - cn.total) = rk - z - cn.total := by
        unfold clampRank; rw [if_neg (by linarith)]
      obtain ⟨w, hw, s3, s1⟩ := keyAtRank_window cp hcp (rk - z - cn.total) (by rw [hρ]; linarith)
      rw [hρ] at s3 s1
      exact ⟨c2', _, w, hw, hev, by constructor <;> linarith⟩

/-! ### without exactness: at `2^54` the count absorbs the subtraction of 1 -/

theorem roundHalfEven_tie54 : F64.roundHalfEven (((2:Rat)^54 - 1) / 2) = 2^53 := by
  have hf : (((2:Rat)^54 - 1) / 2).floor = 2^53 - 1 := by
    show ⌊((2:Rat)^54 - 1) / 2⌋ = _
    rw [Int.floor_eq_iff]
    constructor <;> norm_num
  unfold F64.roundHalfEven
  simp only [hf]
  norm_num

theorem pow2_54 : pow2 54 = (2:Rat)^54 := by rw [pow2_eq_zpow]; norm_num

/-- `2^54 - 1` is a tie between `2^54 - 2` and `2^54`; it rounds to the even significand -/
theorem sub_one_absorbed : F64.sub (.fin ((2:Rat)^54)) F64.one = .fin ((2:Rat)^54) := by
  show F64.roundF64 ((2:Rat)^54 + -1) = _
  have hx : (0:Rat) < (2:Rat)^54 + -1 := by norm_num
  have hfl : F64.floorLog2 ((2:Rat)^54 + -1) = 53 := by
    apply F64.floorLog2_unique
    · rw [pow2_eq_zpow]; norm_num
    · rw [pow2_eq_zpow]; norm_num
  have hqe : F64.quantumExp ((2:Rat)^54 + -1) = 1 := by
    rw [F64.quantumExp_of_normal (by rw [hfl]; norm_num), hfl]; norm_num
  have hrpv : F64.rpv ((2:Rat)^54 + -1) = (2:Rat)^54 := by
    unfold F64.rpv
    rw [hqe, pow2_one, show ((2:Rat)^54 + -1) / 2 = ((2:Rat)^54 - 1) / 2 by ring, roundHalfEven_tie54]
    norm_num
  unfold F64.roundF64
  rw [if_neg (ne_of_gt hx), if_pos hx, F64.roundPos_eq, hrpv, if_neg]
  rw [← pow2_54]; exact not_le.2 (pow2_strictMono (by norm_num))

theorem round_pow54 : F64.roundF64 ((2:Rat)^54) = .fin ((2:Rat)^54) := by
  have := F64.roundF64_dyadic 1 54 (by norm_num) (by norm_num)
    (by rw [Int.cast_one, abs_one, one_mul]; exact pow2_strictMono (by norm_num))
  rw [Int.cast_one, one_mul, pow2_54] at this
  exact this

/-! ## J. concrete instances for the satisfiability examples of `DDS.Props.C01` / `C11` -/

namespace QuantileEx

/-- a two-bin mapping with `α = 1/2` (`γ = 3`): bin 0 = `(4/3, 4]` ↦ 2, bin 1 = `(4, 12]` ↦ 6 -/
def exEnv : MapEnv where
  id := ⟨.log, .fin 3, .fin 0⟩
  minIndexable := .fin (4 / 3)
  maxIndexable := .fin 12
  relAcc := .fin (1 / 2)
  value := fun i => if i ≤ 0 then .fin 2 else .fin 6
  lowerBound := fun i => if i ≤ 0 then .fin (4 / 3) else .fin 4
  index := fun v => match v with
    | .fin x => if x ≤ 4 then 0 else 1
    | _ => 0

theorem exValue (i : Int) : exEnv.value i = .fin (if i ≤ 0 then 2 else 6) := by
  show (if i ≤ 0 then F64.fin 2 else .fin 6) = _
  split <;> rfl

theorem exIndex (v : Rat) : exEnv.index (.fin v) = if v ≤ 4 then 0 else 1 := rfl

theorem exContract : Contract exEnv (1 / 2) (4 / 3) 12 := by
  refine ⟨rfl, rfl, by norm_num, by norm_num, by norm_num, by norm_num, ?_, ?_, ?_, ?_⟩
  · exact fun i => ⟨_, exValue i, by split <;> norm_num⟩
  · intro i j ri rj hij hi hj
    rw [exValue] at hi hj
    cases hi; cases hj
    split_ifs <;> first | omega | norm_num
  · intro v w hv hvw hw
    rw [exIndex, exIndex]
    split_ifs <;> linarith
  · intro v r hv hw hr
    rw [exIndex] at hr
    rw [exValue] at hr
    cases hr
    rw [rabs_le_iff]
    split_ifs <;> constructor <;> linarith

def exXs : List Rat := [5, -2, 1, 3, -7, 0, 12]

theorem exXs_ok : ∀ x ∈ exXs, rabs x ≤ 12 := by decide +kernel

theorem exXs_ne : exXs ≠ [] := List.cons_ne_nil _ _

theorem exXs_len : exXs.length ≤ 2 ^ 53 := by decide

/-- negative side: weight 1/2 at index 0 (small magnitude), 1/2 at index 1 (large magnitude) -/
def exCn : Content := [(0, 1 / 2), (1, 1 / 2)]
/-- positive side: weight 2 at index 5 -/
def exCp : Content := [(5, 2)]

theorem exCn_total : exCn.total = 1 := by norm_num [exCn, Content.total]
theorem exCp_total : exCp.total = 2 := by norm_num [exCp, Content.total]
theorem ex_clamp : clampRank (1 / 4) = 1 / 4 := by norm_num [clampRank]

/-- `QExact` holds on an instance with fractional weights: `W = 3`, `q = 1/8`, `rank' = 1/4` -/
theorem exExact : QExact exCp exCn 0 (1 / 8) (1 / 4) := by
  constructor <;> decide +kernel

end QuantileEx

end DDS
