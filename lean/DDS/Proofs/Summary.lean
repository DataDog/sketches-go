/-
  DDS.Proofs.Summary — vocabulary and lemmas of the "exact field" reading of `stat.SummaryStatistics`
  (`DDS.Model.Summary`): when every float operation is exact, the Kahan compensation stays 0 and the
  summary is the exact count / sum / min / max of the absorbed `(value, weight)` pairs (`exactOf`; the
  statements are in `DDS.Props.C10`).  Totals and extremes of a list of pairs, first the single comparison
  `minStep` / `maxStep`, then the folds; the lists a reweighting or rescaling corresponds to; the single
  operations of the summary on exact inputs; the representability hypothesis `RepFrom`.  At the end the
  clamping of `XSketch`.
-/
import DDS.Proofs.Num
import DDS.Model.Summary
import DDS.Model.Sketch
import DDS.Proofs.F64Cmp

set_option linter.unusedVariables false

namespace DDS

namespace Summary

open F64

/-! ## vocabulary -/

/-- the comparison `Add` makes for the minimum: `if value < min then value else min` -/
def minStep (v m : F64) : F64 := if F64.lt v m then v else m

/-- the comparison `Add` makes for the maximum: `if value > max then value else max` -/
def maxStep (v m : F64) : F64 := if F64.lt m v then v else m

/-- total weight of a list of `(value, weight)` pairs -/
def cnt (l : List (Rat × Rat)) : Rat := (l.map (fun p => p.2)).sum

/-- weighted sum of a list of `(value, weight)` pairs -/
def tot (l : List (Rat × Rat)) : Rat := (l.map (fun p => p.1 * p.2)).sum

def minFrom (m : F64) (l : List (Rat × Rat)) : F64 := l.foldl (fun m p => minStep (.fin p.1) m) m
def maxFrom (m : F64) (l : List (Rat × Rat)) : F64 := l.foldl (fun m p => maxStep (.fin p.1) m) m

/-- least value of the list (`+∞` if empty) -/
def minOf (l : List (Rat × Rat)) : F64 := minFrom .pinf l
/-- greatest value of the list (`−∞` if empty) -/
def maxOf (l : List (Rat × Rat)) : F64 := maxFrom .ninf l

def addAll (s : Summary) (l : List (Rat × Rat)) : Summary :=
  l.foldl (fun s p => s.add (.fin p.1) (.fin p.2)) s

def addAllF (s : Summary) (l : List (F64 × F64)) : Summary :=
  l.foldl (fun s p => s.add p.1 p.2) s

/-- THE exact summary of a multiset of `(value, weight)` pairs -/
def exactOf (l : List (Rat × Rat)) : Summary :=
  { count := .fin (cnt l), sum := .fin (tot l), sumCompensation := .fin 0, simpleSum := .fin (tot l),
    min := minOf l, max := maxOf l }

/-- representability of everything `addAll` computes, starting from count `c` and sum `sm`:
    every partial count, every product, every partial sum -/
def RepFrom (c sm : Rat) : List (Rat × Rat) → Prop
  | [] => True
  | p :: rest => isRep (c + p.2) = true ∧ isRep (p.1 * p.2) = true ∧ isRep (sm + p.1 * p.2) = true ∧
      RepFrom (c + p.2) (sm + p.1 * p.2) rest

/-- … starting from the empty summary -/
def RepOK (l : List (Rat × Rat)) : Prop := RepFrom 0 0 l

/-! ## total weight and weighted sum -/

@[simp] theorem cnt_nil : cnt [] = 0 := rfl
@[simp] theorem tot_nil : tot [] = 0 := rfl
@[simp] theorem cnt_cons (p : Rat × Rat) (l : List (Rat × Rat)) : cnt (p :: l) = p.2 + cnt l := by
  simp [cnt]
@[simp] theorem tot_cons (p : Rat × Rat) (l : List (Rat × Rat)) :
    tot (p :: l) = p.1 * p.2 + tot l := by
  simp [tot]
theorem cnt_append (a b : List (Rat × Rat)) : cnt (a ++ b) = cnt a + cnt b := by
  simp [cnt]
theorem tot_append (a b : List (Rat × Rat)) : tot (a ++ b) = tot a + tot b := by
  simp [tot]

theorem cnt_nonneg (l : List (Rat × Rat)) (h : ∀ p ∈ l, 0 ≤ p.2) : 0 ≤ cnt l := by
  induction l with
  | nil => simp
  | cons p rest ih =>
    rw [cnt_cons]
    have := h p (List.mem_cons_self ..)
    have := ih (fun q hq => h q (List.mem_cons_of_mem _ hq))
    linarith

theorem cnt_pos (l : List (Rat × Rat)) (hl : l ≠ []) (h : ∀ p ∈ l, 0 < p.2) : 0 < cnt l := by
  cases l with
  | nil => exact absurd rfl hl
  | cons p r =>
    rw [cnt_cons]
    have := h p (List.mem_cons_self ..)
    have := cnt_nonneg r (fun q hq => (h q (List.mem_cons_of_mem _ hq)).le)
    linarith

theorem cnt_eq_zero_iff (l : List (Rat × Rat)) (h : ∀ p ∈ l, 0 ≤ p.2) :
    cnt l = 0 ↔ ∀ p ∈ l, p.2 = 0 := by
  induction l with
  | nil => simp
  | cons p rest ih =>
    rw [cnt_cons]
    have h0 := h p (List.mem_cons_self ..)
    have hr : ∀ q ∈ rest, 0 ≤ q.2 := fun q hq => h q (List.mem_cons_of_mem _ hq)
    have h1 := cnt_nonneg rest hr
    constructor
    · intro hs
      have hp : p.2 = 0 := by linarith
      have hc : cnt rest = 0 := by linarith
      intro q hq
      rcases List.mem_cons.mp hq with rfl | hq
      · exact hp
      · exact (ih hr).mp hc q hq
    · intro hall
      have hp := hall p (List.mem_cons_self ..)
      have hc := (ih hr).mpr (fun q hq => hall q (List.mem_cons_of_mem _ hq))
      linarith

/-! ## the comparison steps -/

theorem minStep_fin_fin (v m : Rat) : minStep (.fin v) (.fin m) = .fin (Min.min v m) := by
  unfold minStep
  rcases lt_or_ge v m with h | h
  · simp [F64.lt, h, min_eq_left h.le]
  · simp [F64.lt, h.not_gt, min_eq_right h]

theorem maxStep_fin_fin (v m : Rat) : maxStep (.fin v) (.fin m) = .fin (Max.max v m) := by
  unfold maxStep
  rcases lt_or_ge m v with h | h
  · simp [F64.lt, h, max_eq_left h.le]
  · simp [F64.lt, h.not_gt, max_eq_right h]

theorem minStep_fin_pinf (v : Rat) : minStep (.fin v) .pinf = .fin v := rfl
theorem maxStep_fin_ninf (v : Rat) : maxStep (.fin v) .ninf = .fin v := rfl

theorem minStep_ninf (x : F64) : minStep x .ninf = .ninf := by
  unfold minStep; rw [lt_ninf_right]; rfl
theorem minStep_nan (x : F64) : minStep x .nan = .nan := by
  unfold minStep; rw [lt_nan_right]; rfl
theorem minStep_pinf_left (m : F64) : minStep .pinf m = m := by
  unfold minStep; rw [lt_pinf_left]; rfl
theorem maxStep_pinf (x : F64) : maxStep x .pinf = .pinf := by
  unfold maxStep; rw [lt_pinf_left]; rfl
theorem maxStep_nan (x : F64) : maxStep x .nan = .nan := by
  unfold maxStep; rw [lt_nan_left]; rfl
theorem maxStep_ninf_left (m : F64) : maxStep .ninf m = m := by
  unfold maxStep; rw [lt_ninf_right]; rfl

/-- associativity of the min step when the accumulated minimum is `+∞` or finite -/
theorem minStep_assoc (v : Rat) (A m : F64) (hA : A = .pinf ∨ ∃ a, A = .fin a) :
    minStep (.fin v) (minStep A m) = minStep (minStep (.fin v) A) m := by
  rcases hA with rfl | ⟨a, rfl⟩
  · rw [minStep_pinf_left, minStep_fin_pinf]
  · cases m with
    | fin b => simp only [minStep_fin_fin, min_assoc]
    | pinf => rw [minStep_fin_pinf, minStep_fin_fin, minStep_fin_pinf]
    | ninf => simp only [minStep_ninf]
    | nan => simp only [minStep_nan]

theorem maxStep_assoc (v : Rat) (A m : F64) (hA : A = .ninf ∨ ∃ a, A = .fin a) :
    maxStep (.fin v) (maxStep A m) = maxStep (maxStep (.fin v) A) m := by
  rcases hA with rfl | ⟨a, rfl⟩
  · rw [maxStep_ninf_left, maxStep_fin_ninf]
  · cases m with
    | fin b => simp only [maxStep_fin_fin, max_assoc]
    | pinf => simp only [maxStep_pinf]
    | ninf => rw [maxStep_fin_ninf, maxStep_fin_fin, maxStep_fin_ninf]
    | nan => simp only [maxStep_nan]

/-! ## minimum and maximum of a list -/

theorem minFrom_cons (m : F64) (p : Rat × Rat) (l : List (Rat × Rat)) :
    minFrom m (p :: l) = minFrom (minStep (.fin p.1) m) l := rfl
theorem maxFrom_cons (m : F64) (p : Rat × Rat) (l : List (Rat × Rat)) :
    maxFrom m (p :: l) = maxFrom (maxStep (.fin p.1) m) l := rfl

theorem minFrom_append (m : F64) (a b : List (Rat × Rat)) :
    minFrom m (a ++ b) = minFrom (minFrom m a) b := by
  unfold minFrom; rw [List.foldl_append]
theorem maxFrom_append (m : F64) (a b : List (Rat × Rat)) :
    maxFrom m (a ++ b) = maxFrom (maxFrom m a) b := by
  unfold maxFrom; rw [List.foldl_append]

theorem minFrom_fin (m0 : Rat) (l : List (Rat × Rat)) :
    ∃ m, minFrom (.fin m0) l = .fin m ∧ m ≤ m0 ∧ (∀ p ∈ l, m ≤ p.1) ∧
      (m = m0 ∨ ∃ p ∈ l, p.1 = m) := by
  induction l generalizing m0 with
  | nil => exact ⟨m0, rfl, le_refl _, by simp, Or.inl rfl⟩
  | cons p rest ih =>
    rw [minFrom_cons, minStep_fin_fin]
    obtain ⟨m, hm, h1, h2, h3⟩ := ih (Min.min p.1 m0)
    refine ⟨m, hm, h1.trans (min_le_right ..), ?_, ?_⟩
    · intro x hx
      rcases List.mem_cons.mp hx with rfl | hx
      · exact h1.trans (min_le_left ..)
      · exact h2 x hx
    · rcases h3 with rfl | ⟨x, hx, hxm⟩
      · rcases min_choice p.1 m0 with h | h
        · exact .inr ⟨p, List.mem_cons_self .., h.symm⟩
        · exact .inl h
      · exact .inr ⟨x, List.mem_cons_of_mem _ hx, hxm⟩

theorem maxFrom_fin (m0 : Rat) (l : List (Rat × Rat)) :
    ∃ m, maxFrom (.fin m0) l = .fin m ∧ m0 ≤ m ∧ (∀ p ∈ l, p.1 ≤ m) ∧
      (m = m0 ∨ ∃ p ∈ l, p.1 = m) := by
  induction l generalizing m0 with
  | nil => exact ⟨m0, rfl, le_refl _, by simp, Or.inl rfl⟩
  | cons p rest ih =>
    rw [maxFrom_cons, maxStep_fin_fin]
    obtain ⟨m, hm, h1, h2, h3⟩ := ih (Max.max p.1 m0)
    refine ⟨m, hm, (le_max_right ..).trans h1, ?_, ?_⟩
    · intro x hx
      rcases List.mem_cons.mp hx with rfl | hx
      · exact (le_max_left ..).trans h1
      · exact h2 x hx
    · rcases h3 with rfl | ⟨x, hx, hxm⟩
      · rcases max_choice p.1 m0 with h | h
        · exact .inr ⟨p, List.mem_cons_self .., h.symm⟩
        · exact .inl h
      · exact .inr ⟨x, List.mem_cons_of_mem _ hx, hxm⟩

theorem minOf_nil : minOf [] = .pinf := rfl
theorem maxOf_nil : maxOf [] = .ninf := rfl

theorem minOf_spec (l : List (Rat × Rat)) (hl : l ≠ []) :
    ∃ m, minOf l = .fin m ∧ (∃ p ∈ l, p.1 = m) ∧ ∀ p ∈ l, m ≤ p.1 := by
  cases l with
  | nil => exact absurd rfl hl
  | cons p rest =>
    obtain ⟨m, hm, h1, h2, h3⟩ := minFrom_fin p.1 rest
    refine ⟨m, hm, ?_, ?_⟩
    · rcases h3 with h3 | ⟨x, hx, hxm⟩
      · exact ⟨p, List.mem_cons_self .., h3.symm⟩
      · exact ⟨x, List.mem_cons_of_mem _ hx, hxm⟩
    · intro x hx
      rcases List.mem_cons.mp hx with rfl | hx
      · exact h1
      · exact h2 x hx

theorem maxOf_spec (l : List (Rat × Rat)) (hl : l ≠ []) :
    ∃ m, maxOf l = .fin m ∧ (∃ p ∈ l, p.1 = m) ∧ ∀ p ∈ l, p.1 ≤ m := by
  cases l with
  | nil => exact absurd rfl hl
  | cons p rest =>
    obtain ⟨m, hm, h1, h2, h3⟩ := maxFrom_fin p.1 rest
    refine ⟨m, hm, ?_, ?_⟩
    · rcases h3 with h3 | ⟨x, hx, hxm⟩
      · exact ⟨p, List.mem_cons_self .., h3.symm⟩
      · exact ⟨x, List.mem_cons_of_mem _ hx, hxm⟩
    · intro x hx
      rcases List.mem_cons.mp hx with rfl | hx
      · exact h1
      · exact h2 x hx

theorem minOf_eq_of (l : List (Rat × Rat)) (m : Rat) (h1 : ∃ p ∈ l, p.1 = m)
    (h2 : ∀ p ∈ l, m ≤ p.1) : minOf l = .fin m := by
  obtain ⟨p, hp, hpm⟩ := h1
  obtain ⟨m', hm', ⟨x, hx, hxm⟩, h4⟩ := minOf_spec l (List.ne_nil_of_mem hp)
  have a1 : m' ≤ m := hpm ▸ h4 p hp
  have a2 : m ≤ m' := hxm ▸ h2 x hx
  rw [hm', le_antisymm a2 a1]

theorem maxOf_eq_of (l : List (Rat × Rat)) (m : Rat) (h1 : ∃ p ∈ l, p.1 = m)
    (h2 : ∀ p ∈ l, p.1 ≤ m) : maxOf l = .fin m := by
  obtain ⟨p, hp, hpm⟩ := h1
  obtain ⟨m', hm', ⟨x, hx, hxm⟩, h4⟩ := maxOf_spec l (List.ne_nil_of_mem hp)
  have a1 : m ≤ m' := hpm ▸ h4 p hp
  have a2 : m' ≤ m := hxm ▸ h2 x hx
  rw [hm', le_antisymm a2 a1]

theorem minOf_cases (l : List (Rat × Rat)) : minOf l = .pinf ∨ ∃ a, minOf l = .fin a := by
  by_cases h : l = []
  · left; rw [h]; rfl
  · right; obtain ⟨m, hm, _⟩ := minOf_spec l h; exact ⟨m, hm⟩

theorem maxOf_cases (l : List (Rat × Rat)) : maxOf l = .ninf ∨ ∃ a, maxOf l = .fin a := by
  by_cases h : l = []
  · left; rw [h]; rfl
  · right; obtain ⟨m, hm, _⟩ := maxOf_spec l h; exact ⟨m, hm⟩

/-- folding from `m` is one comparison of `m` with the minimum of the list -/
theorem minFrom_eq_step (m : F64) (l : List (Rat × Rat)) : minFrom m l = minStep (minOf l) m := by
  induction l using List.reverseRecOn with
  | nil => exact (minStep_pinf_left m).symm
  | append_singleton r p ih =>
    unfold minOf
    rw [minFrom_append, minFrom_append, ih]
    exact minStep_assoc p.1 (minOf r) m (minOf_cases r)

theorem maxFrom_eq_step (m : F64) (l : List (Rat × Rat)) : maxFrom m l = maxStep (maxOf l) m := by
  induction l using List.reverseRecOn with
  | nil => exact (maxStep_ninf_left m).symm
  | append_singleton r p ih =>
    unfold maxOf
    rw [maxFrom_append, maxFrom_append, ih]
    exact maxStep_assoc p.1 (maxOf r) m (maxOf_cases r)

theorem minOf_append (a b : List (Rat × Rat)) : minOf (a ++ b) = minStep (minOf b) (minOf a) := by
  unfold minOf; rw [minFrom_append]; exact minFrom_eq_step _ _

theorem maxOf_append (a b : List (Rat × Rat)) : maxOf (a ++ b) = maxStep (maxOf b) (maxOf a) := by
  unfold maxOf; rw [maxFrom_append]; exact maxFrom_eq_step _ _

/-! ## the lists a reweighting / rescaling corresponds to -/

def scaleVals (f : Rat) (l : List (Rat × Rat)) : List (Rat × Rat) := l.map (fun p => (p.1 * f, p.2))
def scaleWts (w : Rat) (l : List (Rat × Rat)) : List (Rat × Rat) := l.map (fun p => (p.1, p.2 * w))

theorem cnt_scaleVals (f : Rat) (l : List (Rat × Rat)) : cnt (scaleVals f l) = cnt l := by
  induction l with
  | nil => rfl
  | cons p r ih => simp only [scaleVals, List.map_cons, cnt_cons] at ih ⊢; rw [ih]

theorem tot_scaleVals (f : Rat) (l : List (Rat × Rat)) : tot (scaleVals f l) = tot l * f := by
  induction l with
  | nil => simp [scaleVals]
  | cons p r ih => simp only [scaleVals, List.map_cons, tot_cons] at ih ⊢; rw [ih]; ring

theorem cnt_scaleWts (w : Rat) (l : List (Rat × Rat)) : cnt (scaleWts w l) = cnt l * w := by
  induction l with
  | nil => simp [scaleWts]
  | cons p r ih => simp only [scaleWts, List.map_cons, cnt_cons] at ih ⊢; rw [ih]; ring

theorem tot_scaleWts (w : Rat) (l : List (Rat × Rat)) : tot (scaleWts w l) = tot l * w := by
  induction l with
  | nil => simp [scaleWts]
  | cons p r ih => simp only [scaleWts, List.map_cons, tot_cons] at ih ⊢; rw [ih]; ring

theorem minFrom_scaleWts (w : Rat) (m : F64) (l : List (Rat × Rat)) :
    minFrom m (scaleWts w l) = minFrom m l := by
  induction l generalizing m with
  | nil => rfl
  | cons p r ih => exact ih _

theorem maxFrom_scaleWts (w : Rat) (m : F64) (l : List (Rat × Rat)) :
    maxFrom m (scaleWts w l) = maxFrom m l := by
  induction l generalizing m with
  | nil => rfl
  | cons p r ih => exact ih _

theorem mem_scaleVals {f : Rat} {l : List (Rat × Rat)} {q : Rat × Rat} (h : q ∈ scaleVals f l) :
    ∃ p ∈ l, q.1 = p.1 * f := by
  obtain ⟨p, hp, rfl⟩ := List.mem_map.mp h
  exact ⟨p, hp, rfl⟩

theorem minOf_scaleVals_nonneg (f : Rat) (hf : 0 ≤ f) (l : List (Rat × Rat)) (a : Rat)
    (h : minOf l = .fin a) : minOf (scaleVals f l) = .fin (a * f) := by
  have hl : l ≠ [] := by rintro rfl; cases h
  obtain ⟨m, hm, ⟨p, hp, hpm⟩, h2⟩ := minOf_spec l hl
  rw [h] at hm; injection hm with hm; subst hm
  apply minOf_eq_of
  · exact ⟨(p.1 * f, p.2), List.mem_map.mpr ⟨p, hp, rfl⟩, by rw [hpm]⟩
  · intro q hq
    obtain ⟨p', hp', e⟩ := mem_scaleVals hq
    rw [e]; exact mul_le_mul_of_nonneg_right (h2 p' hp') hf

theorem maxOf_scaleVals_nonneg (f : Rat) (hf : 0 ≤ f) (l : List (Rat × Rat)) (b : Rat)
    (h : maxOf l = .fin b) : maxOf (scaleVals f l) = .fin (b * f) := by
  have hl : l ≠ [] := by rintro rfl; cases h
  obtain ⟨m, hm, ⟨p, hp, hpm⟩, h2⟩ := maxOf_spec l hl
  rw [h] at hm; injection hm with hm; subst hm
  apply maxOf_eq_of
  · exact ⟨(p.1 * f, p.2), List.mem_map.mpr ⟨p, hp, rfl⟩, by rw [hpm]⟩
  · intro q hq
    obtain ⟨p', hp', e⟩ := mem_scaleVals hq
    rw [e]; exact mul_le_mul_of_nonneg_right (h2 p' hp') hf

theorem minOf_scaleVals_neg (f : Rat) (hf : f ≤ 0) (l : List (Rat × Rat)) (b : Rat)
    (h : maxOf l = .fin b) : minOf (scaleVals f l) = .fin (b * f) := by
  have hl : l ≠ [] := by rintro rfl; cases h
  obtain ⟨m, hm, ⟨p, hp, hpm⟩, h2⟩ := maxOf_spec l hl
  rw [h] at hm; injection hm with hm; subst hm
  apply minOf_eq_of
  · exact ⟨(p.1 * f, p.2), List.mem_map.mpr ⟨p, hp, rfl⟩, by rw [hpm]⟩
  · intro q hq
    obtain ⟨p', hp', e⟩ := mem_scaleVals hq
    rw [e]; exact mul_le_mul_of_nonpos_right (h2 p' hp') hf

theorem maxOf_scaleVals_neg (f : Rat) (hf : f ≤ 0) (l : List (Rat × Rat)) (a : Rat)
    (h : minOf l = .fin a) : maxOf (scaleVals f l) = .fin (a * f) := by
  have hl : l ≠ [] := by rintro rfl; cases h
  obtain ⟨m, hm, ⟨p, hp, hpm⟩, h2⟩ := minOf_spec l hl
  rw [h] at hm; injection hm with hm; subst hm
  apply maxOf_eq_of
  · exact ⟨(p.1 * f, p.2), List.mem_map.mpr ⟨p, hp, rfl⟩, by rw [hpm]⟩
  · intro q hq
    obtain ⟨p', hp', e⟩ := mem_scaleVals hq
    rw [e]; exact mul_le_mul_of_nonpos_right (h2 p' hp') hf

/-! ## the operations of the summary when the float operations are exact -/

theorem sumWithCompensation_exact (s : Summary) (sm p : Rat) (hsum : s.sum = .fin sm)
    (hcomp : s.sumCompensation = .fin 0) (hp : isRep p = true) (hs : isRep (sm + p) = true) :
    s.sumWithCompensation (.fin p) = { s with sum := .fin (sm + p), sumCompensation := .fin 0 } := by
  unfold sumWithCompensation
  simp only [hsum, hcomp]
  rw [sub_zero_exact p hp, add_exact sm p hs, sub_add_cancel_exact sm p hp, sub_self_fin]

theorem getSum_exact (c : F64) (sm : Rat) (mn mx : F64) (h : isRep sm = true) :
    (Summary.mk c (.fin sm) (.fin 0) (.fin sm) mn mx).getSum = .fin sm := by
  unfold getSum
  simp only [add_zero_exact sm h, F64.isNaN]
  rfl

theorem reweight_exact_state (c sm w : Rat) (mn mx : F64) (hc : isRep (c * w) = true)
    (hs : isRep (sm * w) = true) :
    (Summary.mk (.fin c) (.fin sm) (.fin 0) (.fin sm) mn mx).reweight (.fin w) =
      if w = 0 then Summary.new
      else Summary.mk (.fin (c * w)) (.fin (sm * w)) (.fin 0) (.fin (sm * w)) mn mx := by
  unfold Summary.reweight
  simp only [mul_exact c w hc, mul_exact sm w hs, zero_mul_fin, F64.eq, beq_iff_eq]
  split
  · rename_i h; subst h; simp [Summary.new]
  · rfl

/-! ## the representability hypothesis -/

theorem repFrom_isRep_sum (l : List (Rat × Rat)) (c sm : Rat) (h : RepFrom c sm l)
    (hsm : isRep sm = true) : isRep (sm + tot l) = true := by
  induction l generalizing c sm with
  | nil => simpa using hsm
  | cons p rest ih =>
    obtain ⟨h1, h2, h3, h4⟩ := h
    have := ih _ _ h4 h3
    rwa [tot_cons, ← add_assoc]

theorem repFrom_isRep_cnt (l : List (Rat × Rat)) (c sm : Rat) (h : RepFrom c sm l)
    (hc : isRep c = true) : isRep (c + cnt l) = true := by
  induction l generalizing c sm with
  | nil => simpa using hc
  | cons p rest ih =>
    obtain ⟨h1, h2, h3, h4⟩ := h
    have := ih _ _ h4 h1
    rwa [cnt_cons, ← add_assoc]

/-- natural values and weights whose totals stay `≤ 2^53` satisfy the hypotheses -/
theorem repFrom_nat (l : List (Nat × Nat)) (c sm : Nat)
    (h1 : c + (l.map (fun p => p.2)).sum ≤ 2 ^ 53)
    (h2 : sm + (l.map (fun p => p.1 * p.2)).sum ≤ 2 ^ 53) :
    RepFrom (c : Rat) (sm : Rat) (l.map (fun p => ((p.1 : Rat), (p.2 : Rat)))) := by
  induction l generalizing c sm with
  | nil => trivial
  | cons p rest ih =>
    simp only [List.map_cons, List.sum_cons] at h1 h2
    have hpr : p.1 * p.2 ≤ 2 ^ 53 := by omega
    refine ⟨?_, ?_, ?_, ?_⟩
    · show isRep ((c : Rat) + (p.2 : Rat)) = true
      rw [← Nat.cast_add]; exact isRep_nat _ (by omega)
    · show isRep ((p.1 : Rat) * (p.2 : Rat)) = true
      rw [← Nat.cast_mul]; exact isRep_nat _ hpr
    · show isRep ((sm : Rat) + (p.1 : Rat) * (p.2 : Rat)) = true
      rw [← Nat.cast_mul, ← Nat.cast_add]; exact isRep_nat _ (by omega)
    · show RepFrom ((c : Rat) + (p.2 : Rat)) ((sm : Rat) + (p.1 : Rat) * (p.2 : Rat)) _
      rw [← Nat.cast_mul, ← Nat.cast_add, ← Nat.cast_add]
      exact ih _ _ (by omega) (by omega)

/-! ## extremes are absorbed values, for arbitrary floats -/

/-- min and max involve no float arithmetic at all -/
theorem add_min_max (s : Summary) (v w : F64) :
    (s.add v w).min = minStep v s.min ∧ (s.add v w).max = maxStep v s.max := by
  unfold Summary.add addToCount addToSum sumWithCompensation minStep maxStep
  simp only
  split <;> split <;> exact ⟨rfl, rfl⟩

theorem addAllF_min_max (s : Summary) (l : List (F64 × F64)) :
    ((addAllF s l).min = s.min ∨ ∃ p ∈ l, (addAllF s l).min = p.1) ∧
    ((addAllF s l).max = s.max ∨ ∃ p ∈ l, (addAllF s l).max = p.1) := by
  induction l generalizing s with
  | nil => exact ⟨Or.inl rfl, Or.inl rfl⟩
  | cons p r ih =>
    obtain ⟨h1, h2⟩ := ih (s.add p.1 p.2)
    obtain ⟨a1, a2⟩ := add_min_max s p.1 p.2
    have e : addAllF s (p :: r) = addAllF (s.add p.1 p.2) r := rfl
    rw [e]
    constructor
    · rcases h1 with h1 | ⟨x, hx, hxm⟩
      · rw [h1, a1]; unfold minStep; split
        · right; exact ⟨p, List.mem_cons_self .., rfl⟩
        · left; rfl
      · right; exact ⟨x, List.mem_cons_of_mem _ hx, hxm⟩
    · rcases h2 with h2 | ⟨x, hx, hxm⟩
      · rw [h2, a2]; unfold maxStep; split
        · right; exact ⟨p, List.mem_cons_self .., rfl⟩
        · left; rfl
      · right; exact ⟨x, List.mem_cons_of_mem _ hx, hxm⟩

end Summary

/-! ## clamping in the sketch with exact summary statistics -/

namespace XSketch

theorem clampTo_bounds (x : XSketch) (u : F64) (hmm : F64.lt x.st.max x.st.min = false) :
    F64.lt (x.clampTo u) x.st.min = false ∧ F64.gt (x.clampTo u) x.st.max = false := by
  unfold clampTo F64.gt
  split
  · exact ⟨F64.lt_irrefl' _, hmm⟩
  · rename_i h1
    split
    · exact ⟨hmm, F64.lt_irrefl' _⟩
    · rename_i h2
      exact ⟨by simpa using h1, by simpa [F64.gt] using h2⟩

theorem clampTo_id (x : XSketch) (u : F64) (h1 : F64.lt u x.st.min = false)
    (h2 : F64.gt u x.st.max = false) : x.clampTo u = u := by
  unfold clampTo; rw [h1, h2]; rfl

theorem quantile_eq (env : MapEnv) (x : XSketch) (q : F64) :
    x.quantile env q = match x.sk.quantile env q with
      | .ok u => .ok (x.clampTo u)
      | .error e => .error e := by
  unfold quantile
  cases x.sk.quantile env q <;> rfl

end XSketch
end DDS
