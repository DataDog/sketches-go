/-
  DDS.Proofs.GenDense — the REGENERATED plain `DenseStore` (`DDS/Generated/CodeDense.lean`, translated
  from `/repo/ddsketch/store/dense_store.go` on every run) equals the HAND-WRITTEN model `DDS.DStore`
  of kind `.plain` (`DDS/Model/Dense.lean`), method by method, for ALL inputs.

  Every theorem has the form  `generated fuel (toGen s) args = toRes toGen (model s args)`:
  the model says `some t` ⇒ the generated code returns `.ok (toGen t)`; the model says `none` (Go
  would panic) ⇒ the generated code returns `.panic`; `.nofuel` is never returned when the stated
  fuel bound holds (`RRel` of `GenDenseBase` is this equation).  No hypothesis on the store other
  than `s.kind = .plain` (the model dispatches on `kind`) is needed.

    adjust_rel        fuel ≥ s.bins.size + 2
    extendRange_rel   fuel ≥ extendFuel s a b   (= size + new length + 2, `GenDenseBase.extendFuel`)
    normalize_rel     fuel ≥ extendFuel s i i   (result `(toGen t, arrayIndex)`)
    addWithCount_rel  fuel ≥ extendFuel s i i
    add_rel, addBin_rel   the same (weight 1; `bin.index`, `bin.count`)
    keyAtRank_eq      any fuel; `.ok (s.keyAtRank r)` (a `range` loop: recursion on the slice)
    mergeWith_rel     fuel ≥ mergeFuel s o = max (extendFuel s o.min o.max) (width of o's window + 1);
                      the model is `DStore.mergeSame` (same-type fast path of `MergeWith`)
    reweight_nonpos / reweight_one / reweight_rel
                      `w ≤ 0` ⇒ `(s, error)`; `w = 1` ⇒ `(s, nil)`; else `DStore.reweight` and
                      `nil`, fuel ≥ reweightFuel s = width of the window + 1
    genRun_rel        histories of `Op`s (add / clear / reweight); the induction over the history is `run_rel`, for any
                      embedding of model stores of one kind (`Props/C05GenHigh` uses it for `toHigh n`), with
                      `reweightOp_rel` for the `Reweight` step
  and `…_ex : ∃ f0, ∀ fuel ≥ f0, …` for each of the methods (`addWithCount_RRel`, `mergeWith_RRel`: through
  `RRel`).  The observers, the constructor, `Clear` and `Copy` are in `GenDenseBase`.

  Generated code and model do not disagree.  One difference in evaluation ORDER is invisible in the
  result: the generated merge loop reads `s.bins[idx-s.offset]` before
  `o.bins[idx-o.offset]`, the model reads `o.bins` first; both panic iff one of the reads fails
  (`optL_comm`, in `GenDenseBase.addFrom_toList_L`).
-/
import DDS.Proofs.GenDenseBase

namespace DDS.GenDense

open DDS DDS.GoSem DDS.DStore

/-! ### `adjust`, `extendRange` -/

theorem adjust_rel (fuel : Nat) (s : DStore) (a b : Int) (hk : s.kind = .plain)
    (hf : s.bins.size + 2 ≤ fuel) :
    Gen.Dense.DenseStore.adjust fuel (toGen s) a b = toRes toGen (s.adjust a b) := by
  rw [denseAdjust_eq_centerCounts, DStore.adjust_plain s hk, centerCounts_rel fuel s a b hf]

/-- the model's `extendRange` on a plain store, with the dispatch on `kind` resolved -/
theorem extendRange_plain (s : DStore) (hk : s.kind = .plain) (a b : Int) :
    s.extendRange a b =
      if s.count = 0 then
        (denseNewLength (min a s.minIndex) (max b s.maxIndex)).bind fun L =>
          (s.grow L).bind fun t =>
            centerCounts { t with offset := min a s.minIndex, minIndex := min a s.minIndex,
                                  maxIndex := max b s.maxIndex } (min a s.minIndex) (max b s.maxIndex)
      else if min a s.minIndex ≥ s.offset ∧ max b s.maxIndex < s.offset + s.len then
        some { s with minIndex := min a s.minIndex, maxIndex := max b s.maxIndex }
      else
        (denseNewLength (min a s.minIndex) (max b s.maxIndex)).bind fun L =>
          if L > s.len then
            (s.grow (L - s.len)).bind fun t => t.centerCounts (min a s.minIndex) (max b s.maxIndex)
          else s.centerCounts (min a s.minIndex) (max b s.maxIndex) := by
  unfold DStore.extendRange
  simp only [DStore.getNewLength_plain s hk, hk, Option.bind_eq_bind, Option.pure_def, Option.bind_some]
  -- what is left: every `adjust` is applied to a plain store
  exact if_congr Iff.rfl
    (Option.bind_congr fun L _ => Option.bind_congr fun t ht =>
      DStore.adjust_plain _ (by exact (grow_kind s t L ht).trans hk) _ _)
    (if_congr Iff.rfl rfl (Option.bind_congr fun L _ => if_congr Iff.rfl
      (Option.bind_congr fun t ht => DStore.adjust_plain t ((grow_kind s t _ ht).trans hk) _ _)
      (DStore.adjust_plain s hk _ _)))

/-- `centerCounts_rel` for a generated store given up to `toGen` -/
theorem centerCounts_rel' (fuel : Nat) (g : GS) (t : DStore) (a b : Int) (hg : g = toGen t)
    (hf : t.bins.size + 2 ≤ fuel) :
    Gen.Dense.DenseStore.centerCounts fuel g a b = toRes toGen (t.centerCounts a b) := by
  rw [hg, centerCounts_rel fuel t a b hf]

theorem extendRange_rel (fuel : Nat) (s : DStore) (a b : Int) (hk : s.kind = .plain)
    (hf : extendFuel s a b ≤ fuel) :
    Gen.Dense.DenseStore.extendRange fuel (toGen s) a b = toRes toGen (s.extendRange a b) := by
  rw [extendRange_plain s hk]
  unfold Gen.Dense.DenseStore.extendRange extendFuel at *
  simp only [Bool.and_eq_true, decide_eq_true_eq]
  simp only [goMin_eq, goMax_eq, toGen_minIndex, toGen_maxIndex, toGen_offset, toGen_bins,
    toGen_count, isEmpty_eq, getNewLength_rel, denseAdjust_eq_centerCounts, len_toList, Res.bind_ok_right,
    DStore.isEmpty, beq_iff_eq, apply_ite (toRes toGen)]
  rw [show s.len = (s.bins.size : Int) from rfl]
  cases hL : denseNewLength (min a s.minIndex) (max b s.maxIndex) with
  | none => exact if_congr Iff.rfl rfl (if_congr Iff.rfl rfl rfl)
  | some L =>
    rw [hL, Option.getD_some] at hf
    simp only [toRes_some, id, Res.bind_ok, Option.bind_some, mkSlice_eq, DStore.grow]
    refine if_congr Iff.rfl ?_ (if_congr Iff.rfl rfl ?_)
    · by_cases hneg : L < 0
      · rw [if_pos hneg, if_pos hneg]; rfl
      · rw [if_neg hneg, if_neg hneg, optR_some, Option.bind_some]
        exact centerCounts_rel' fuel _ _ _ _ (by rw [← Array.toList_append]; rfl)
          (by rw [Array.size_append, Array.size_replicate]; omega)
    · by_cases hgt : L > s.bins.size
      · rw [if_pos hgt, if_pos hgt, if_neg (by omega), Option.bind_some]
        exact centerCounts_rel' fuel _ _ _ _ (by rw [← Array.toList_append]; rfl)
          (by rw [Array.size_append, Array.size_replicate]; omega)
      · rw [if_neg hgt, if_neg hgt]
        exact centerCounts_rel fuel s _ _ (by omega)

/-! ### `normalize`, `AddWithCount`, `Add`, `AddBin` -/

theorem normalize_rel (fuel : Nat) (s : DStore) (i : Int) (hk : s.kind = .plain)
    (hf : extendFuel s i i ≤ fuel) :
    Gen.Dense.DenseStore.normalize fuel (toGen s) i
      = toRes (fun p : DStore × Int => (toGen p.1, p.2)) (s.normalize i) := by
  unfold Gen.Dense.DenseStore.normalize DStore.normalize
  simp only [Bool.or_eq_true, decide_eq_true_eq, hk]
  rw [apply_ite (toRes _), extendRange_rel fuel s i i hk hf]
  refine if_congr Iff.rfl ?_ rfl
  cases s.extendRange i i <;> rfl

theorem addWithCount_rel (fuel : Nat) (s : DStore) (i : Int) (c : Rat) (hk : s.kind = .plain)
    (hf : extendFuel s i i ≤ fuel) :
    Gen.Dense.DenseStore.AddWithCount fuel (toGen s) i c = toRes toGen (s.addWithCount i c) := by
  unfold Gen.Dense.DenseStore.AddWithCount DStore.addWithCount
  simp only [beq_iff_eq]
  rw [apply_ite (toRes _), normalize_rel fuel s i hk hf]
  refine if_congr Iff.rfl rfl ?_
  cases s.normalize i with
  | none => rfl
  | some p =>
    simp only [toRes_some, Res.bind_ok, toGen_bins, addAt_toList, Option.bind_eq_bind, Option.bind_some]
    cases addAt p.1.bins p.2 c <;> rfl

theorem add_rel (fuel : Nat) (s : DStore) (i : Int) (hk : s.kind = .plain)
    (hf : extendFuel s i i ≤ fuel) :
    Gen.Dense.DenseStore.Add fuel (toGen s) i = toRes toGen (s.addWithCount i 1) := by
  unfold Gen.Dense.DenseStore.Add
  rw [Res.bind_ok_right, addWithCount_rel fuel s i 1 hk hf]

theorem addBin_rel (fuel : Nat) (s : DStore) (bin : Gen.Dense.Bin) (hk : s.kind = .plain)
    (hf : extendFuel s bin.index bin.index ≤ fuel) :
    Gen.Dense.DenseStore.AddBin fuel (toGen s) bin = toRes toGen (s.addWithCount bin.index bin.count) := by
  unfold Gen.Dense.DenseStore.AddBin
  simp only [beq_iff_eq]
  rw [Res.bind_ok_right, addWithCount_rel fuel s _ _ hk hf]
  split
  · rw [DStore.addWithCount, if_pos ‹_›]; rfl
  · rfl

/-! ### `KeyAtRank` (a `range` loop: no fuel needed, never panics) -/

theorem keyAtRank_loop (s : DStore) (r : Rat) (l : List Rat) (i : Int) (n : Rat) :
    Loop.elim (Gen.Dense.DenseStore.KeyAtRank.loop1 r (toGen s) l i n) (fun _ => Res.ok s.maxIndex)
      = .ok (DStore.keyAtRank.go s r l i n) := by
  induction l generalizing i n with
  | nil => rfl
  | cons b rest ih =>
    unfold Gen.Dense.DenseStore.KeyAtRank.loop1 DStore.keyAtRank.go
    simp only [decide_eq_true_eq]
    split
    · rfl
    · exact ih (i + 1) (n + b)

theorem keyAtRank_eq (fuel : Nat) (s : DStore) (r : Rat) :
    Gen.Dense.DenseStore.KeyAtRank fuel (toGen s) r = .ok (s.keyAtRank r) := by
  unfold Gen.Dense.DenseStore.KeyAtRank DStore.keyAtRank
  simp only [decide_eq_true_eq]
  split <;> exact keyAtRank_loop s _ _ 0 0

/-! ### `MergeWith` (same-type fast path) -/

/-- fuel for `MergeWith`: the `extendRange` call and the loop over `[o.minIndex, o.maxIndex]` -/
def mergeFuel (s o : DStore) : Nat :=
  max (extendFuel s o.minIndex o.maxIndex) ((o.maxIndex - o.minIndex + 1).toNat + 1)

/-- `MergeWith` of two plain dense stores (the fast path of `DenseStore.MergeWith`): the frame shared with the
    collapsing stores around the one loop, which folds the model's step -/
theorem mergeWith_rel (fuel : Nat) (s o : DStore) (hk : s.kind = .plain)
    (hf : mergeFuel s o ≤ fuel) :
    Gen.Dense.DenseStore.MergeWith fuel (toGen s) (toGen o) = toRes toGen (s.mergeSame o) := by
  unfold Gen.Dense.DenseStore.MergeWith
  refine mergeWith_frame toGen s o _ _ .plain hk
    (extendRange_rel fuel s _ _ hk (Nat.le_trans (Nat.le_max_left ..) hf)) fun s hk => ?_
  unfold mergeFold
  rw [toRes_bind_some, idxRange_eq]
  refine (congrArg (Loop.elim · _) (forLoop_run (c := 0) (hi := o.maxIndex) (step := mergeStep o (mergeCell s))
    (L := fun f b i => Gen.Dense.DenseStore.MergeWith.loop1 (toGen o) f (toGen { s with bins := b }) i)
    (exit := fun b i => .done (toGen { s with bins := b }, i))
    (fun f b i _ => by
      rw [Gen.Dense.DenseStore.MergeWith.loop1, mergeStep, mergeCell_plain hk]
      exact if_congr (decide_eq_true_iff ..) (addFrom_toList_L b o.bins _ _ _) rfl)
    fuel s.bins o.minIndex _ rfl (Nat.le_trans (Nat.le_max_right ..) hf))).trans ?_
  exact (elim_optL _ _ _).trans (optR_ok _ _ _ fun _ _ => rfl)

/-! ### `Reweight` -/

/-- one step of the model's reweight fold: `bins[j - off] *= w` -/
def reweightStep (off : Int) (w : Rat) (b : Array Rat) (j : Int) : Option (Array Rat) :=
  (rd b (j - off)).bind fun c => setAt b (j - off) (c * w)

def reweightFuel (s : DStore) : Nat := (s.maxIndex - s.minIndex + 1).toNat + 1

theorem reweight_nonpos (fuel : Nat) (s : DStore) (w : Rat) (hw : w ≤ 0) :
    Gen.Dense.DenseStore.Reweight fuel (toGen s) w
      = .ok (toGen s, GoErr.named "can't reweight by a negative factor") := by
  unfold Gen.Dense.DenseStore.Reweight
  rw [if_pos (decide_eq_true hw)]

theorem reweight_one (fuel : Nat) (s : DStore) :
    Gen.Dense.DenseStore.Reweight fuel (toGen s) 1 = .ok (toGen s, GoErr.nil) := by
  unfold Gen.Dense.DenseStore.Reweight
  rw [if_neg (by decide), if_pos (beq_self_eq_true _)]

theorem reweight_rel (fuel : Nat) (s : DStore) (w : Rat) (hw : 0 < w) (hw1 : w ≠ 1)
    (hf : reweightFuel s ≤ fuel) :
    Gen.Dense.DenseStore.Reweight fuel (toGen s) w
      = toRes (fun t => (toGen t, GoErr.nil)) (s.reweight w) := by
  unfold Gen.Dense.DenseStore.Reweight DStore.reweight
  rw [if_neg (by simpa using hw), if_neg (by simpa using hw1), idxRange_eq]
  refine (congrArg (Loop.elim · _) (forLoop_run (c := 0) (hi := s.maxIndex) (step := reweightStep s.offset w)
    (L := fun f b i =>
      Gen.Dense.DenseStore.Reweight.loop1 w f (toGen { s with count := s.count * w, bins := b }) i)
    (exit := fun b i => .done (toGen { s with count := s.count * w, bins := b }, i))
    (fun f b i _ => by
      rw [Gen.Dense.DenseStore.Reweight.loop1]
      simp only [decide_eq_true_eq]
      simp only [toGen_bins, toGen_offset, toGen_maxIndex, idx_toList, set_toList, optL_map, reweightStep,
        optL_bind]
      rfl)
    fuel s.bins s.minIndex _ rfl hf)).trans ?_
  change _ = toRes _ ((List.foldlM (reweightStep s.offset w) s.bins
    (irange s.minIndex (s.maxIndex - s.minIndex + 1).toNat)).bind _)
  cases List.foldlM (reweightStep s.offset w) s.bins
    (irange s.minIndex (s.maxIndex - s.minIndex + 1).toNat) <;> rfl

/-! ### enough fuel exists (and more fuel never hurts): `∃ f0, ∀ fuel ≥ f0, …`; the statements through `RRel` -/

theorem adjust_ex (s : DStore) (a b : Int) (hk : s.kind = .plain) :
    ∃ f0, ∀ fuel, f0 ≤ fuel →
      Gen.Dense.DenseStore.adjust fuel (toGen s) a b = toRes toGen (s.adjust a b) :=
  ⟨_, fun fuel hf => adjust_rel fuel s a b hk hf⟩

theorem extendRange_ex (s : DStore) (a b : Int) (hk : s.kind = .plain) :
    ∃ f0, ∀ fuel, f0 ≤ fuel →
      Gen.Dense.DenseStore.extendRange fuel (toGen s) a b = toRes toGen (s.extendRange a b) :=
  ⟨_, fun fuel hf => extendRange_rel fuel s a b hk hf⟩

theorem normalize_ex (s : DStore) (i : Int) (hk : s.kind = .plain) :
    ∃ f0, ∀ fuel, f0 ≤ fuel →
      Gen.Dense.DenseStore.normalize fuel (toGen s) i
        = toRes (fun p : DStore × Int => (toGen p.1, p.2)) (s.normalize i) :=
  ⟨_, fun fuel hf => normalize_rel fuel s i hk hf⟩

theorem addWithCount_ex (s : DStore) (i : Int) (c : Rat) (hk : s.kind = .plain) :
    ∃ f0, ∀ fuel, f0 ≤ fuel →
      Gen.Dense.DenseStore.AddWithCount fuel (toGen s) i c = toRes toGen (s.addWithCount i c) :=
  ⟨_, fun fuel hf => addWithCount_rel fuel s i c hk hf⟩

theorem add_ex (s : DStore) (i : Int) (hk : s.kind = .plain) :
    ∃ f0, ∀ fuel, f0 ≤ fuel →
      Gen.Dense.DenseStore.Add fuel (toGen s) i = toRes toGen (s.addWithCount i 1) :=
  ⟨_, fun fuel hf => add_rel fuel s i hk hf⟩

theorem addBin_ex (s : DStore) (bin : Gen.Dense.Bin) (hk : s.kind = .plain) :
    ∃ f0, ∀ fuel, f0 ≤ fuel →
      Gen.Dense.DenseStore.AddBin fuel (toGen s) bin = toRes toGen (s.addWithCount bin.index bin.count) :=
  ⟨_, fun fuel hf => addBin_rel fuel s bin hk hf⟩

theorem mergeWith_ex (s o : DStore) (hk : s.kind = .plain) :
    ∃ f0, ∀ fuel, f0 ≤ fuel →
      Gen.Dense.DenseStore.MergeWith fuel (toGen s) (toGen o) = toRes toGen (s.mergeSame o) :=
  ⟨_, fun fuel hf => mergeWith_rel fuel s o hk hf⟩

theorem reweight_ex (s : DStore) (w : Rat) (hw : 0 < w) (hw1 : w ≠ 1) :
    ∃ f0, ∀ fuel, f0 ≤ fuel →
      Gen.Dense.DenseStore.Reweight fuel (toGen s) w
        = toRes (fun t => (toGen t, GoErr.nil)) (s.reweight w) :=
  ⟨_, fun fuel hf => reweight_rel fuel s w hw hw1 hf⟩

/-- the same statements through the relation `RRel` (model `some t` ⇒ `.ok (toGen t)`, model `none`
    ⇒ `.panic`) -/
theorem addWithCount_RRel (fuel : Nat) (s : DStore) (i : Int) (c : Rat) (hk : s.kind = .plain)
    (hf : extendFuel s i i ≤ fuel) :
    RRel toGen (s.addWithCount i c) (Gen.Dense.DenseStore.AddWithCount fuel (toGen s) i c) :=
  addWithCount_rel fuel s i c hk hf

theorem mergeWith_RRel (fuel : Nat) (s o : DStore) (hk : s.kind = .plain) (hf : mergeFuel s o ≤ fuel) :
    RRel toGen (s.mergeSame o) (Gen.Dense.DenseStore.MergeWith fuel (toGen s) (toGen o)) :=
  mergeWith_rel fuel s o hk hf

/-! ### histories of operations (`Dense.Op`: add / clear / reweight) on the generated code -/

theorem applyOp_kind (s t : DStore) (op : Op) (h : applyOp s op = some t) : t.kind = s.kind := by
  cases op with
  | add i w => exact addWithCount_kind s t i w h
  | clear => cases h; rfl
  | reweight w =>
    simp only [applyOp] at h
    split at h
    · cases h; rfl
    · exact (reweight_frame s t w h).1

def opFuel (s : DStore) : Op → Nat
  | .add i _ => extendFuel s i i
  | .clear => 0
  | .reweight _ => reweightFuel s

/-- `Reweight` as a step of a history, for every factor: its error value is dropped (as `applyOp` does) and the
    resulting `DenseStore` put back by `put` (the identity, or into the collapsing store that embeds it) -/
theorem reweightOp_rel {G : Type} (toG : DStore → G) (put : GS → G) (fuel : Nat) (s : DStore) (w : Rat)
    (hput : ∀ t, t.isCollapsed = s.isCollapsed → put (toGen t) = toG t) (hf : reweightFuel s ≤ fuel) :
    ((Gen.Dense.DenseStore.Reweight fuel (toGen s) w).bind fun p => .ok (put p.1))
      = toRes toG (applyOp s (.reweight w)) := by
  simp only [applyOp]
  by_cases h0 : w ≤ 0
  · rw [reweight_nonpos fuel s w h0, if_pos (Or.inl h0)]
    exact congrArg Res.ok (hput s rfl)
  · by_cases h1 : w = 1
    · subst h1
      rw [reweight_one, if_pos (Or.inr rfl)]
      exact congrArg Res.ok (hput s rfl)
    · rw [if_neg (by intro h; cases h <;> contradiction), reweight_rel fuel s w (Rat.not_le.mp h0) h1 hf]
      cases hr : s.reweight w with
      | none => rfl
      | some t => exact congrArg Res.ok (hput t (reweight_frame s t w hr).2)

/-- A history run step by step (`run`, by `apply`) on the images `toG s` of model stores of kind `k`: if each step
    follows the model given the fuel `opFuel` of its state, some fuel suffices for the whole history — the largest
    `opFuel` along the model's run — and the run is the model's. -/
theorem run_rel {G : Type} (toG : DStore → G) (k : DKind) (apply : Nat → G → Op → Res G)
    (run : Nat → List Op → G → Res G) (hnil : ∀ f g, run f [] g = .ok g)
    (hcons : ∀ f op ops g, run f (op :: ops) g = (apply f g op).bind (run f ops))
    (hstep : ∀ fuel s op, s.kind = k → opFuel s op ≤ fuel → apply fuel (toG s) op = toRes toG (applyOp s op))
    (ops : List Op) : ∀ s : DStore, s.kind = k →
      ∃ f0, ∀ fuel, f0 ≤ fuel → run fuel ops (toG s) = toRes toG (ops.foldlM applyOp s) := by
  induction ops with
  | nil => intro s _; exact ⟨0, fun f _ => hnil f _⟩
  | cons op ops ih =>
    intro s hk
    cases hop : applyOp s op with
    | none =>
      refine ⟨opFuel s op, fun fuel hf => ?_⟩
      rw [hcons, hstep fuel s op hk hf, List.foldlM_cons, hop]
      rfl
    | some t =>
      obtain ⟨f1, h1⟩ := ih t ((applyOp_kind s t op hop).trans hk)
      refine ⟨max (opFuel s op) f1, fun fuel hf => ?_⟩
      rw [hcons, hstep fuel s op hk (Nat.le_trans (Nat.le_max_left ..) hf), List.foldlM_cons, hop]
      exact h1 fuel (Nat.le_trans (Nat.le_max_right ..) hf)

/-- one operation on the generated store; `Reweight`'s error value is dropped (as `applyOp` does) -/
def genApplyOp (fuel : Nat) (g : GS) : Op → Res GS
  | .add i w => Gen.Dense.DenseStore.AddWithCount fuel g i w
  | .clear => Gen.Dense.DenseStore.Clear fuel g
  | .reweight w => (Gen.Dense.DenseStore.Reweight fuel g w).bind fun p => .ok p.1

def genRun (fuel : Nat) : List Op → GS → Res GS
  | [], g => .ok g
  | op :: ops, g => (genApplyOp fuel g op).bind (genRun fuel ops)

theorem genApplyOp_rel (fuel : Nat) (s : DStore) (op : Op) (hk : s.kind = .plain)
    (hf : opFuel s op ≤ fuel) :
    genApplyOp fuel (toGen s) op = toRes toGen (applyOp s op) := by
  cases op with
  | add i w => exact addWithCount_rel fuel s i w hk hf
  | clear => exact clear_rel fuel s
  | reweight w => exact reweightOp_rel toGen id fuel s w (fun _ _ => rfl) hf

theorem genRun_rel (ops : List Op) : ∀ (s : DStore), s.kind = .plain →
    ∃ f0, ∀ fuel, f0 ≤ fuel → genRun fuel ops (toGen s) = toRes toGen (ops.foldlM applyOp s) :=
  run_rel toGen .plain genApplyOp genRun (fun _ _ => rfl) (fun _ _ _ _ => rfl)
    (fun fuel s op => genApplyOp_rel fuel s op) ops

end DDS.GenDense
