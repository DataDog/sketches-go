/-
  DDS.Proofs.Growth — the hypothesis `DStore.GrowthOK` of `DDS.Proofs.Dense` /
  `DDS.Proofs.Collapsing` is a THEOREM: for spans below `2^33` (every span of int32 indexes)
  the float computation of `DenseStore.getNewLength` returns a length that covers the span
  (`DDS.denseNewLength_ge`, `DDS.Proofs.Num`).

  `DDS.Proofs.Dense` and `DDS.Proofs.Collapsing` use core Lean only and therefore keep
  `hG : GrowthOK` as a parameter; this file (which may import Mathlib through `DDS.Proofs.Num`)
  discharges it and restates the headline theorems without it, in the namespace `DDS.Uncond`.
-/
import DDS.Proofs.Num
import DDS.Proofs.Refine
import DDS.Proofs.DenseKinds

namespace DDS
namespace DStore

theorem growthOK : GrowthOK := fun a b hab hsp => denseNewLength_ge a b hab hsp

end DStore

/-! ## the headline theorems of `Dense`, `DenseKinds`, `Refine` without the hypothesis -/

namespace Uncond

open DStore

/-! ### plain dense store -/

theorem addWithCount_ok (s : DStore) (h : Inv s) (i : Int) (w : Rat) (hw : 0 ≤ w)
    (hsp : SpanOK s i i) :
    ∃ s', s.addWithCount i w = some s' ∧ Inv s' ∧
      (∀ j, wt s' j = wt s j + (if j = i then w else 0)) ∧ s'.count = s.count + w :=
  DStore.addWithCount_ok growthOK s h i w hw hsp

/-- the int32 form: a store holding int32 indexes accepts every int32 index -/
theorem addWithCount_ok32 (s : DStore) (h : Inv s) (hb : Bounded32 s) (i : Int)
    (hi : minInt32 ≤ i ∧ i ≤ maxInt32) (w : Rat) (hw : 0 ≤ w) :
    ∃ s', s.addWithCount i w = some s' ∧ Inv s' ∧ Bounded32 s' ∧
      (∀ j, wt s' j = wt s j + (if j = i then w else 0)) ∧ s'.count = s.count + w := by
  obtain ⟨s', h1, h2, h3, h4⟩ :=
    DStore.addWithCount_ok growthOK s h i w hw (h.core.spanOK (h.tight32 hb) i i hi hi)
  exact ⟨s', h1, h2, addWithCount_bounded32 growthOK s h hb i w hw hi s' h1, h3, h4⟩

theorem mergeSame_ok (s o : DStore) (hs : Inv s) (ho : Inv o)
    (hsp : SpanOK s o.minIndex o.maxIndex) :
    ∃ s', s.mergeSame o = some s' ∧ Inv s' ∧ (∀ j, wt s' j = wt s j + wt o j) ∧
      s'.count = s.count + o.count :=
  DStore.mergeSame_ok growthOK s o hs ho hsp

theorem mergeSame_ok32 (s o : DStore) (hs : Inv s) (ho : Inv o) (bs : Bounded32 s)
    (bo : Bounded32 o) :
    ∃ s', s.mergeSame o = some s' ∧ Inv s' ∧ Bounded32 s' ∧ (∀ j, wt s' j = wt s j + wt o j) ∧
      s'.count = s.count + o.count := by
  obtain ⟨ow1, ow2⟩ := ho.core.window32 (ho.tight32 bo)
  obtain ⟨s', h1, h2, h3, h4⟩ := DStore.mergeSame_ok growthOK s o hs ho
    (hs.core.spanOK (hs.tight32 bs) _ _ ow1 ow2)
  exact ⟨s', h1, h2, mergeSame_bounded32 growthOK s o hs ho bs bo s' h1, h3, h4⟩

theorem mergeBins_ok (s : DStore) (h : Inv s) (hb : Bounded32 s)
    (l : List (Int × Rat)) (hl : ∀ p ∈ l, 0 ≤ p.2)
    (hl32 : ∀ p ∈ l, minInt32 ≤ p.1 ∧ p.1 ≤ maxInt32) :
    ∃ s', s.mergeBins l = some s' ∧ Inv s' ∧
      (∀ j, wt s' j = wt s j + ((l.filter (fun p => p.1 = j)).map (·.2)).sum) ∧
      s'.count = s.count + (l.map (·.2)).sum ∧ Bounded32 s' :=
  DStore.mergeBins_ok growthOK s h hb l hl hl32

theorem run_ok (ops : List Op)
    (hops : ∀ op ∈ ops, match op with
      | .add i w => 0 ≤ w ∧ minInt32 ≤ i ∧ i ≤ maxInt32 | _ => True) :
    ∃ s, ops.foldlM applyOp (DStore.new .plain) = some s ∧ Inv s :=
  DStore.run_ok growthOK ops hops

theorem run_ok32 (ops : List Op) (hops : ∀ op ∈ ops, op.ok32) :
    ∃ s, ops.foldlM applyOp (DStore.new .plain) = some s ∧ Inv s ∧ Bounded32 s ∧
      content s = exactContent ops :=
  DStore.run_ok32 growthOK ops hops

theorem dense_add (s : DStore) (h : Inv s) (hb : Bounded32 s) (c : Content)
    (hc : (Store.d s).Refines c) (i : Int) (hi : minInt32 ≤ i ∧ i ≤ maxInt32) (w : Rat)
    (hw : 0 ≤ w) :
    ∃ s', (Store.d s).addWithCount i w = some (.d s') ∧ Inv s' ∧ Bounded32 s' ∧
      (Store.d s').Refines (c.add i w) :=
  Store.dense_add growthOK s h hb c hc i hi w hw

/-! ### collapsing stores -/

theorem low_history (N : Nat) (hN : 1 ≤ N) (ops : List Op) (hops : ∀ op ∈ ops, op.ok32) :
    ∃ s, ops.foldlM applyOp (DStore.new (.low N)) = some s ∧ InvLow N s ∧ Tight32 s ∧
      content s = Content.specLow N (exactContent ops) :=
  DStore.low_history growthOK N hN ops hops

theorem high_history (N : Nat) (hN : 1 ≤ N) (ops : List Op) (hops : ∀ op ∈ ops, op.ok32) :
    ∃ s, ops.foldlM applyOp (DStore.new (.high N)) = some s ∧ InvHigh N s ∧ Tight32 s ∧
      content s = Content.specHigh N (exactContent ops) :=
  DStore.high_history growthOK N hN ops hops

/-! ### non-vacuity: every set of hypotheses above is met by a concrete store -/

/-- `addWithCount_ok` / `addWithCount_ok32` / `dense_add`: the fresh store, index 5 -/
example : ∃ s', (DStore.new .plain).addWithCount 5 1 = some s' ∧ Inv s' ∧ Bounded32 s' ∧
    wt s' 5 = 1 ∧ s'.count = 1 := by
  obtain ⟨s', h1, h2, h3, h4, h5⟩ :=
    addWithCount_ok32 (DStore.new .plain) inv_new bounded32_new 5 (by decide) 1 (by decide)
  refine ⟨s', h1, h2, h3, ?_, ?_⟩
  · rw [h4, if_pos rfl]; simp [wt, DStore.new, at0_empty]
  · rw [h5]; simp [DStore.new]

example : SpanOK (DStore.new .plain) 5 5 := by unfold SpanOK; decide

example : ∃ s', (Store.d (DStore.new .plain)).addWithCount 5 1 = some (.d s') ∧
    (Store.d s').Refines (Content.add [] 5 1) := by
  obtain ⟨s', h1, _, _, h4⟩ := dense_add (DStore.new .plain) inv_new bounded32_new []
    Store.refines_new_dense 5 (by decide) 1 (by decide)
  exact ⟨s', h1, h4⟩

/-- `mergeSame_ok` / `mergeSame_ok32`: a store holding index 5 merged into one holding index -7 -/
example : ∃ a b m, (DStore.new .plain).addWithCount (-7) 2 = some a ∧
    (DStore.new .plain).addWithCount 5 1 = some b ∧ a.mergeSame b = some m ∧ Inv m ∧
    wt m 5 = 1 ∧ wt m (-7) = 2 := by
  obtain ⟨a, a1, a2, a3, a4, _⟩ :=
    addWithCount_ok32 (DStore.new .plain) inv_new bounded32_new (-7) (by decide) 2 (by decide)
  obtain ⟨b, b1, b2, b3, b4, _⟩ :=
    addWithCount_ok32 (DStore.new .plain) inv_new bounded32_new 5 (by decide) 1 (by decide)
  obtain ⟨m, m1, m2, _, m4, _⟩ := mergeSame_ok32 a b a2 b2 a3 b3
  have hw0 : ∀ j, wt (DStore.new .plain) j = 0 := fun j => by simp [wt, DStore.new, at0_empty]
  refine ⟨a, b, m, a1, b1, m1, m2, ?_, ?_⟩
  · rw [m4, a4, b4, hw0, if_neg (by decide), if_pos rfl]; decide +kernel
  · rw [m4, a4, b4, hw0, if_pos rfl, if_neg (by decide)]; decide +kernel

/-- `mergeBins_ok`: three bins into the fresh store -/
example : ∃ s', (DStore.new .plain).mergeBins [(1, 2), (4, 1), (9, 3)] = some s' ∧ Inv s' ∧
    Bounded32 s' ∧ s'.count = 6 := by
  obtain ⟨s', h1, h2, _, h4, h5⟩ := mergeBins_ok (DStore.new .plain) inv_new bounded32_new
    [(1, 2), (4, 1), (9, 3)] (by decide) (by decide)
  refine ⟨s', h1, h2, h5, ?_⟩
  rw [h4]; decide +kernel

/-- `run_ok` / `run_ok32`: a history with every kind of operation -/
example : ∃ s, [Op.add 3 1, .add (-2) 2, .reweight 3, .clear, .add 7 1].foldlM applyOp
    (DStore.new .plain) = some s ∧ Inv s ∧ Bounded32 s :=
  let ⟨s, h1, h2, h3, _⟩ := run_ok32 [Op.add 3 1, .add (-2) 2, .reweight 3, .clear, .add 7 1] (by
    intro op hop
    simp only [List.mem_cons, List.not_mem_nil, or_false] at hop
    rcases hop with rfl | rfl | rfl | rfl | rfl <;>
      first | exact ⟨by decide, by decide, by decide⟩ | trivial)
  ⟨s, h1, h2, h3⟩

/-- `KInv.add` on the collapsing kinds: the fresh
    stores with 2 bins -/
example : ∃ s', (DStore.new (.low 2)).addWithCount 5 1 = some s' ∧ InvLow 2 s' ∧ Tight32 s' ∧
    content s' = [(5, 1)] := by
  obtain ⟨s', h1, ⟨h2, h3⟩, h5⟩ := KInv.add growthOK
    (kinv_new (.low 2) (by show 1 ≤ 2; omega)).1 5 (by decide) 1 (by decide)
  refine ⟨s', h1, h2, h3, ?_⟩
  rw [h5, (core_new _).content_empty rfl]; decide +kernel

example : ∃ s', (DStore.new (.high 2)).addWithCount 5 1 = some s' ∧ InvHigh 2 s' ∧ Tight32 s' ∧
    content s' = [(5, 1)] := by
  obtain ⟨s', h1, ⟨h2, h3⟩, h5⟩ := KInv.add growthOK
    (kinv_new (.high 2) (by show 1 ≤ 2; omega)).1 5 (by decide) 1 (by decide)
  refine ⟨s', h1, h2, h3, ?_⟩
  rw [h5, (core_new _).content_empty rfl]; decide +kernel

/-- `low_history` + `KInv.mergeSame`: a 16-bin store holding 0, 4, 9, 10 merged into a 3-bin
    store holding 1: everything below 8 ends up on 8 -/
example : ∃ s o m, [Op.add 1 1].foldlM applyOp (DStore.new (.low 3)) = some s ∧
    [Op.add 0 1, .add 4 2, .add 9 1, .add 10 1].foldlM applyOp (DStore.new (.low 16)) = some o ∧
    s.mergeSame o = some m ∧ InvLow 3 m ∧ content m = [(8, 4), (9, 1), (10, 1)] := by
  obtain ⟨s, s1, s2, s3, s4⟩ := low_history 3 (by omega) [Op.add 1 1] (by
    intro op hop
    simp only [List.mem_cons, List.not_mem_nil, or_false] at hop
    subst hop; exact ⟨by decide, by decide, by decide⟩)
  obtain ⟨o, o1, o2, o3, o4⟩ := low_history 16 (by omega)
    [Op.add 0 1, .add 4 2, .add 9 1, .add 10 1] (by
    intro op hop
    simp only [List.mem_cons, List.not_mem_nil, or_false] at hop
    rcases hop with rfl | rfl | rfl | rfl <;> exact ⟨by decide, by decide, by decide⟩)
  obtain ⟨m, m1, ⟨m2, _⟩, m5, _⟩ := KInv.mergeSame growthOK (k := .low 3) (k' := .low 16) ⟨s2, s3⟩ ⟨o2, o3⟩ rfl
  refine ⟨s, o, m, s1, o1, m1, m2, ?_⟩
  rw [m5, s4, o4]; decide +kernel

/-- `high_history` + `KInv.mergeSame` + `KInv.mergeBins` -/
example : ∃ s o m m', [Op.add 1 1].foldlM applyOp (DStore.new (.high 3)) = some s ∧
    [Op.add 0 1, .add 4 2, .add 9 1, .add 10 1].foldlM applyOp (DStore.new (.high 16)) = some o ∧
    s.mergeSame o = some m ∧ InvHigh 3 m ∧ content m = [(0, 1), (1, 1), (2, 4)] ∧
    s.mergeBins [(7, 1)] = some m' ∧ content m' = [(1, 1), (3, 1)] := by
  obtain ⟨s, s1, s2, s3, s4⟩ := high_history 3 (by omega) [Op.add 1 1] (by
    intro op hop
    simp only [List.mem_cons, List.not_mem_nil, or_false] at hop
    subst hop; exact ⟨by decide, by decide, by decide⟩)
  obtain ⟨o, o1, o2, o3, o4⟩ := high_history 16 (by omega)
    [Op.add 0 1, .add 4 2, .add 9 1, .add 10 1] (by
    intro op hop
    simp only [List.mem_cons, List.not_mem_nil, or_false] at hop
    rcases hop with rfl | rfl | rfl | rfl <;> exact ⟨by decide, by decide, by decide⟩)
  obtain ⟨m, m1, ⟨m2, _⟩, m5, _⟩ := KInv.mergeSame growthOK (k := .high 3) (k' := .high 16) ⟨s2, s3⟩ ⟨o2, o3⟩ rfl
  obtain ⟨m', n1, _, n5⟩ := KInv.mergeBins growthOK (k := .high 3) ⟨s2, s3⟩ [(7, 1)] (by decide) (by decide)
  refine ⟨s, o, m, m', s1, o1, m1, m2, ?_, n1, ?_⟩
  · rw [m5, s4, o4]; decide +kernel
  · rw [n5, s4]; decide +kernel

/-- `KInv.mergeBins` into a lowest-collapsing store -/
example : ∃ s m', [Op.add 1 1].foldlM applyOp (DStore.new (.low 3)) = some s ∧
    s.mergeBins [(7, 1)] = some m' ∧ content m' = [(5, 1), (7, 1)] := by
  obtain ⟨s, s1, s2, s3, s4⟩ := low_history 3 (by omega) [Op.add 1 1] (by
    intro op hop
    simp only [List.mem_cons, List.not_mem_nil, or_false] at hop
    subst hop; exact ⟨by decide, by decide, by decide⟩)
  obtain ⟨m', n1, _, n5⟩ := KInv.mergeBins growthOK (k := .low 3) ⟨s2, s3⟩ [(7, 1)] (by decide) (by decide)
  refine ⟨s, m', s1, n1, ?_⟩
  rw [n5, s4]; decide +kernel

end Uncond
end DDS
