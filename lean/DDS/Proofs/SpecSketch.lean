/-
  DDS.Proofs.SpecSketch — how the sketch operations act on SPEC sketches
  (`Sketch.spec m cp cn z`: both stores are plain finite maps `.sp`).

  The observation of a spec sketch is the triple (positive content, negative content, zero weight);
  every operation of the model is computed on it in closed form here, and the result is again a
  spec sketch with canonical (`WF`) contents.  Core Lean only.
-/
import DDS.Proofs.Refine
import DDS.Props.C13

namespace DDS

attribute [simp] F64.lt_fin F64.gt_fin F64.neg_fin F64.isNaN_fin F64.eq_fin F64.le_fin

namespace Sketch

def obs (s : Sketch) : Content × Content × F64 := (s.pos.abs, s.neg.abs, s.zero)

@[simp] theorem obs_spec (m : Option MapId) (a b : Content) (z : F64) :
    (spec m a b z).obs = (a, b, z) := rfl

structure IsSpec (s : Sketch) : Prop where
  ex : ∃ cp cn, s.pos = .sp cp ∧ s.neg = .sp cn ∧ cp.WF ∧ cn.WF

theorem isSpec_spec (m : Option MapId) (a b : Content) (z : F64) (ha : a.WF) (hb : b.WF) :
    (spec m a b z).IsSpec := ⟨⟨a, b, rfl, rfl, ha, hb⟩⟩

theorem IsSpec.eq_spec {s : Sketch} (h : s.IsSpec) :
    ∃ cp cn, s = spec s.mapping cp cn s.zero ∧ cp.WF ∧ cn.WF := by
  obtain ⟨cp, cn, h1, h2, h3, h4⟩ := h.ex
  refine ⟨cp, cn, ?_, h3, h4⟩
  cases s; simp_all [spec]

@[simp] theorem spec_mapping (m : Option MapId) (a b : Content) (z : F64) :
    (spec m a b z).mapping = m := rfl
@[simp] theorem spec_pos (m : Option MapId) (a b : Content) (z : F64) :
    (spec m a b z).pos = .sp a := rfl
@[simp] theorem spec_neg (m : Option MapId) (a b : Content) (z : F64) :
    (spec m a b z).neg = .sp b := rfl
@[simp] theorem spec_zero (m : Option MapId) (a b : Content) (z : F64) :
    (spec m a b z).zero = z := rfl
@[simp] theorem spec_negTotal (m : Option MapId) (a b : Content) (z : F64) :
    (spec m a b z).negTotal = .fin b.total := rfl

theorem new_sparse (m : Option MapId) : Sketch.new m .sparse = spec m [] [] (.fin 0) := rfl

/-! ## mergeWith -/

theorem mergeWith_spec (m m' : Option MapId) (a b a' b' : Content) (z z' : F64)
    (hm : mappingEquals m m' = true) :
    (spec m a b z).mergeWith (spec m' a' b' z') =
      some (.ok (spec m (a.merge a') (b.merge b') (F64.add z z'))) :=
  Props.C13.merge_accepts_spec m m' a b a' b' z z' hm

theorem mergeWith_spec_mismatch (m m' : Option MapId) (a b a' b' : Content) (z z' : F64)
    (hm : mappingEquals m m' = false) :
    (spec m a b z).mergeWith (spec m' a' b' z') = some (.error .mismatch) := by
  simp [mergeWith, spec, hm]

theorem mergeWith_spec_isSpec (m : Option MapId) (a b a' b' : Content) (z z' : F64)
    (ha : a.WF) (hb : b.WF) (ha' : a'.WF) (hb' : b'.WF) :
    (spec m (a.merge a') (b.merge b') (F64.add z z')).IsSpec :=
  isSpec_spec _ _ _ _ (Content.wf_merge a a' ha ha') (Content.wf_merge b b' hb hb')

/-! ## clear -/

theorem clear_spec (m : Option MapId) (a b : Content) (z : F64) :
    (spec m a b z).clear = spec m [] [] (.fin 0) := rfl

theorem clear_spec_isSpec (m : Option MapId) : (spec m [] [] (.fin 0)).IsSpec :=
  isSpec_spec _ _ _ _ Content.wf_nil Content.wf_nil

/-! ## reweight -/

theorem reweight_spec (m : Option MapId) (a b : Content) (z : F64) (w : Rat)
    (hw : 0 < w) (hw1 : w ≠ 1) :
    (spec m a b z).reweight (.fin w) =
      some (.ok (spec m (a.scale w) (b.scale w) (F64.mul z (.fin w)))) := by
  have h1 : ¬ w ≤ 0 := Rat.not_le.2 hw
  unfold reweight
  rw [F64.le_fin, if_neg (by simpa using h1), if_neg (by simpa [F64.one] using hw1)]
  simp [spec, ratOf?, Store.reweight, h1, hw1]

theorem reweight_spec_one (m : Option MapId) (a b : Content) (z : F64) :
    (spec m a b z).reweight (.fin 1) = some (.ok (spec m a b z)) := by
  unfold reweight
  rw [F64.le_fin, if_neg (by decide), if_pos (by decide)]

theorem reweight_spec_nonpos (m : Option MapId) (a b : Content) (z : F64) (w : Rat) (hw : w ≤ 0) :
    (spec m a b z).reweight (.fin w) = some (.error .nonPositiveFactor) := by
  unfold reweight
  rw [F64.le_fin, if_pos (decide_eq_true hw)]

theorem reweight_spec_isSpec (m : Option MapId) (a b : Content) (z : F64) (w : Rat)
    (ha : a.WF) (hb : b.WF) (hw : 0 < w) :
    (spec m (a.scale w) (b.scale w) (F64.mul z (.fin w))).IsSpec :=
  isSpec_spec _ _ _ _ (Content.wf_scale a w ha hw) (Content.wf_scale b w hb hw)

/-! ## addWithCount: the three routes -/

section add
variable (env : MapEnv) (mn mx : Rat)

theorem addWithCount_spec_negativeCount
    (m : Option MapId) (a b : Content) (z : F64) (v c : Rat) (idx : Int) (hc : c < 0) :
    (spec m a b z).addWithCount env (.fin v) (.fin c) idx = some (.error .negativeCount) := by
  simp [addWithCount, hc]

/-! ### the routes as data: where a `(value, weight)` pair goes -/

def keyOf (v : Rat) : Int := env.index (.fin (rabs v))

/-- the bins the inputs contribute to the positive store, in input order (not canonical) -/
def posPart (l : List (Rat × Rat)) : List (Int × Rat) :=
  (l.filter (fun p => decide (mn < p.1))).map (fun p => (keyOf env p.1, p.2))

def negPart (l : List (Rat × Rat)) : List (Int × Rat) :=
  (l.filter (fun p => decide (p.1 < -mn))).map (fun p => (keyOf env p.1, p.2))

def zeroPart (l : List (Rat × Rat)) : List Rat :=
  (l.filter (fun p => decide (¬ mn < p.1 ∧ ¬ p.1 < -mn))).map (fun p => p.2)

theorem posPart_append (l₁ l₂ : List (Rat × Rat)) :
    posPart env mn (l₁ ++ l₂) = posPart env mn l₁ ++ posPart env mn l₂ := by
  simp [posPart, List.filter_append]

theorem negPart_append (l₁ l₂ : List (Rat × Rat)) :
    negPart env mn (l₁ ++ l₂) = negPart env mn l₁ ++ negPart env mn l₂ := by
  simp [negPart, List.filter_append]

theorem zeroPart_append (l₁ l₂ : List (Rat × Rat)) :
    zeroPart mn (l₁ ++ l₂) = zeroPart mn l₁ ++ zeroPart mn l₂ := by
  simp [zeroPart, List.filter_append]

theorem posPart_perm {l₁ l₂ : List (Rat × Rat)} (h : l₁.Perm l₂) :
    (posPart env mn l₁).Perm (posPart env mn l₂) := (h.filter _).map _

theorem negPart_perm {l₁ l₂ : List (Rat × Rat)} (h : l₁.Perm l₂) :
    (negPart env mn l₁).Perm (negPart env mn l₂) := (h.filter _).map _

theorem zeroPart_perm {l₁ l₂ : List (Rat × Rat)} (h : l₁.Perm l₂) :
    (zeroPart mn l₁).Perm (zeroPart mn l₂) := (h.filter _).map _

theorem posPart_nonneg (l : List (Rat × Rat)) (h : ∀ p ∈ l, 0 ≤ p.2) :
    ∀ q ∈ posPart env mn l, 0 ≤ q.2 := by
  intro q hq
  simp only [posPart, List.mem_map, List.mem_filter] at hq
  obtain ⟨p, ⟨hp, _⟩, rfl⟩ := hq
  exact h p hp

theorem negPart_nonneg (l : List (Rat × Rat)) (h : ∀ p ∈ l, 0 ≤ p.2) :
    ∀ q ∈ negPart env mn l, 0 ≤ q.2 := by
  intro q hq
  simp only [negPart, List.mem_map, List.mem_filter] at hq
  obtain ⟨p, ⟨hp, _⟩, rfl⟩ := hq
  exact h p hp

/-- the float sum the zero bucket accumulates, one rounded addition per weight -/
def fsum (z : F64) (ws : List Rat) : F64 := ws.foldl (fun acc c => F64.add acc (.fin c)) z

@[simp] theorem fsum_nil (z : F64) : fsum z [] = z := rfl
@[simp] theorem fsum_cons (z : F64) (c : Rat) (ws : List Rat) :
    fsum z (c :: ws) = fsum (F64.add z (.fin c)) ws := rfl

def Accepted (mx : Rat) (l : List (Rat × Rat)) : Prop := ∀ p ∈ l, rabs p.1 ≤ mx ∧ 0 ≤ p.2

theorem Accepted.tail {mx : Rat} {p : Rat × Rat} {l : List (Rat × Rat)} (h : Accepted mx (p :: l)) :
    Accepted mx l := fun q hq => h q (List.mem_cons_of_mem _ hq)

theorem Accepted.append {mx : Rat} {l₁ l₂ : List (Rat × Rat)} (h₁ : Accepted mx l₁)
    (h₂ : Accepted mx l₂) : Accepted mx (l₁ ++ l₂) := by
  intro p hp
  rcases List.mem_append.1 hp with h | h
  · exact h₁ p h
  · exact h₂ p h

theorem Accepted.left {mx : Rat} {l₁ l₂ : List (Rat × Rat)} (h : Accepted mx (l₁ ++ l₂)) :
    Accepted mx l₁ := fun p hp => h p (List.mem_append_left _ hp)

theorem Accepted.right {mx : Rat} {l₁ l₂ : List (Rat × Rat)} (h : Accepted mx (l₁ ++ l₂)) :
    Accepted mx l₂ := fun p hp => h p (List.mem_append_right _ hp)

theorem Accepted.perm {mx : Rat} {l₁ l₂ : List (Rat × Rat)} (h : Accepted mx l₁) (hp : l₁.Perm l₂) :
    Accepted mx l₂ := fun p hq => h p (hp.mem_iff.2 hq)

/-- one `addV` on a spec sketch, in closed form: the acceptance row of the decision table -/
theorem addV_spec (hmn : env.minIndexable = .fin mn) (hmx : env.maxIndexable = .fin mx)
    (hmn0 : 0 ≤ mn) (m : Option MapId) (a b : Content) (z : F64) (v c : Rat)
    (hv : rabs v ≤ mx) (hc : 0 ≤ c) :
    (spec m a b z).addV env v c = some (.ok
      (if mn < v then spec m (a.add (keyOf env v) c) b z
       else if v < -mn then spec m a (b.add (keyOf env v) c) z
       else spec m a b (F64.add z (.fin c)))) :=
  Props.C13.add_accepts env m a b z v c _ mn mx hmn hmx hmn0 hc hv

theorem addAll_spec (hmn : env.minIndexable = .fin mn) (hmx : env.maxIndexable = .fin mx)
    (hmn0 : 0 ≤ mn) (m : Option MapId) (l : List (Rat × Rat)) (hl : Accepted mx l)
    (a b : Content) (z : F64) :
    (spec m a b z).addAll env l =
      some (spec m (a.merge (posPart env mn l)) (b.merge (negPart env mn l))
        (fsum z (zeroPart mn l))) := by
  induction l generalizing a b z with
  | nil => rfl
  | cons p l ih =>
    obtain ⟨v, c⟩ := p
    have hp := hl (v, c) (List.mem_cons_self ..)
    rw [addAll, addV_spec env mn mx hmn hmx hmn0 m a b z v c hp.1 hp.2]
    simp only
    by_cases h1 : mn < v
    · have h3 : ¬ v < -mn := by grind
      rw [if_pos h1, ih hl.tail]
      simp [posPart, negPart, zeroPart, h1, h3, Content.merge_cons]
    · rw [if_neg h1]
      by_cases h2 : v < -mn
      · rw [if_pos h2, ih hl.tail]
        simp [posPart, negPart, zeroPart, h1, h2, Content.merge_cons]
      · rw [if_neg h2, ih hl.tail]
        simp [posPart, negPart, zeroPart, h1, h2]

theorem addAll_spec_isSpec (m : Option MapId) (l : List (Rat × Rat)) (hl : Accepted mx l)
    (a b : Content) (z : F64) (ha : a.WF) (hb : b.WF) :
    (spec m (a.merge (posPart env mn l)) (b.merge (negPart env mn l))
      (fsum z (zeroPart mn l))).IsSpec :=
  isSpec_spec _ _ _ _
    (Content.wf_merge_of_nonneg a _ ha (posPart_nonneg env mn l (fun p hp => (hl p hp).2)))
    (Content.wf_merge_of_nonneg b _ hb (negPart_nonneg env mn l (fun p hp => (hl p hp).2)))

end add

/-! ## instances: the hypotheses of the closed forms are satisfiable -/

/-- a toy mapping oracle: minimum magnitude 1/2, maximum 100, index = floor -/
def toyEnv : MapEnv :=
  { id := { kind := .log, gamma := .fin 2, indexOffset := .fin 0 }, minIndexable := .fin (1 / 2),
    maxIndexable := .fin 100, relAcc := .fin (1 / 3), value := fun i => .fin (i : Rat),
    lowerBound := fun i => .fin (i : Rat),
    index := fun v => match v with | .fin q => q.floor | _ => 0 }

example : (spec none [(1, 2)] [] (.fin 0)).addWithCount toyEnv (.fin 7) (.fin 3) 7
    = some (.ok (spec none (Content.add [(1, 2)] 7 3) [] (.fin 0))) :=
  Props.C13.add_accepts_pos toyEnv _ _ 7 3 7 (1 / 2) 100 rfl rfl rfl (by grind) (by grind) (by grind)

example : (spec none [(1, 2)] [] (.fin 0)).addWithCount toyEnv (.fin (-7)) (.fin 3) 7
    = some (.ok (spec none [(1, 2)] (Content.add [] 7 3) (.fin 0))) :=
  Props.C13.add_accepts_neg toyEnv _ _ (-7) 3 7 (1 / 2) 100 rfl rfl (by grind) rfl (by grind)
    (by grind) (by grind)

example : (spec none [(1, 2)] [] (.fin 0)).addWithCount toyEnv (.fin (1 / 4)) (.fin 3) 0
    = some (.ok (spec none [(1, 2)] [] (F64.add (.fin 0) (.fin 3)))) :=
  Props.C13.add_accepts_zero toyEnv _ (1 / 4) 3 0 (1 / 2) rfl (by grind) (by grind) (by grind)

example : (spec none [(1, 2)] [(4, 1)] (.fin 1)).reweight (.fin 3)
    = some (.ok (spec none (Content.scale [(1, 2)] 3) (Content.scale [(4, 1)] 3)
        (F64.mul (.fin 1) (.fin 3)))) :=
  reweight_spec none _ _ _ 3 (by grind) (by grind)

example : Accepted 100 [((7 : Rat), (3 : Rat)), (-7, 1), (1 / 4, 2)] := by
  unfold Accepted
  decide +kernel

end Sketch

end DDS
