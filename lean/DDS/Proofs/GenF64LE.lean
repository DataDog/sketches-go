/-
  DDS.Proofs.GenF64LE — the regenerated `DecodeFloat64LE` (encoding.go:128, `DDS/Generated/CodeEncoding.lean`)
  against the model's `Codec.decF64LE`, and the exact variant's decoder, which reads its statistics blocks with it.

  1. `f64LESpec : GenSketch7.F64LESpec` holds for every fuel: the regenerated function has no loop, its fuel
     argument is unused, it never gives `.panic` / `.nofuel`.
     Core: `leU64_spec` (`GoSem.leU64` on ≥ 8 bytes = `Codec.leValue` of the first eight `toNat`s), byte by
     byte (`foldl_or_bytes`) from `or_byte` (or-ing a shifted byte above an accumulator is an addition;
     `C18Bits.acc_or_bits`).
  2. round trip of the regenerated pair (C18): `decode_encode_bits` (every float, every fuel on both sides:
     the decoder returns `F64.ofBits v.toBits`, the following bytes, nil), `decode_encode` /
     `decode_encode_rep` (the value itself when `F64.ofBits v.toBits = v`: every representable finite value).
     The model's float type has ONE NaN and ONE zero, so the value `v` itself is only recovered up to that.
  3. `decodeLoop_noMS`: the model's `Sketch.decodeLoop` never refuses with `.missingStats` (any fuel, sketch,
     auxiliary state, input) — so do `decodeStore` (it refuses with `.eof` or `.unknownBinEncoding` only,
     `Sketch.parseBins_error`) and `fallback`.
  4. the fallback closure of the exact variant's `DecodeAndMergeWith` (ddsketch.go:770; names in `DDS.GenSketch7`): `xfb`
     (the function literal: count / sum / min / max blocks update the statistics) meets `FbSpecS XR` against
     `Sketch.fallback` with `stats := some …` (`xfb_spec`, fuel `≥ 9`, through 1.).  `XDecRel`: what the exact variant's
     decoder answers against `XSketch.decodeAndMergeWith`: success ⇒ nil error and the model's sketch AND statistics;
     refusal `e` ⇒ returns normally with `decErrX e` ("missing exact summary statistics" for `.missingStats`, else
     `decErr e`) — the relation also allows `decErr e`.  `XDecode_unfold`, `DecodeExact_eqO`
     (`DecodeDDSketchWithExactSummaryStatistics` = a fresh exact-variant sketch, then `DecodeAndMergeWith`).
  5. the regenerated `DDSketchWithExactSummaryStatistics.DecodeAndMergeWith` and
     `DecodeDDSketchWithExactSummaryStatistics` against `XSketch.decodeAndMergeWith`, fuel `len b + 9 ≤ fuel`, on the
     state-passing loop theorem of `GenSketch5` with the closure `GenSketch7.xfb`.  `XDecRel1`: success ⇒ nil error and
     the model's sketch AND statistics; refusal `e` ⇒ returns normally with exactly `decErrX e` (by 3. an error of the
     loop itself is never `.missingStats`, so `decErr e = decErrX e` there).  `XDecodeAndMergeWith_rel1_gen` (any
     mapping class with a `MapLaw`), `XDecodeAndMergeWith_rel1` (`M := MapEnv`, on `toGenX env x`),
     `DecodeExact_rel1O` (`M := Option MapEnv`).  `XDecRel1_imp`: `XDecRel1` implies the relation `GenSketch7.XDecRel`
     that allows either error value; `XDecodeAndMergeWith_rel_gen'`, `XDecodeAndMergeWith_rel'`, `DecodeExact_relO'`
     are the three statements in that form.
  No disagreement found between generated code and model.
-/
import DDS.Proofs.GenSketch7
import DDS.Proofs.GenMapId
import DDS.Props.C18Bits

set_option linter.unusedVariables false
set_option linter.unusedSectionVars false

namespace DDS.GenSketch7

open DDS DDS.GoSem DDS.Gen.Sketch DDS.GenSketch
open DDS.Gen.Encoding DDS.GenEncoding DDS.Codec

/-- the interface of `DecodeFloat64LE` (encoding.go:128) against the model's `Codec.decF64LE`; it holds:
    `GenF64LE.f64LESpec` -/
def F64LESpec : Prop := ∀ (fuel : Nat) (b : List (BitVec 8)),
  DecodeFloat64LE fuel b =
    match decF64LE (nb b) with
    | .error _ => .ok (b, F64.fin 0, GoErr.eof)
    | .ok (v, _) => .ok (b.drop 8, F64.ofBits (UInt64.ofNat v), GoErr.nil)

end DDS.GenSketch7

namespace DDS.GenF64LE

open DDS DDS.GoSem DDS.Gen.Sketch DDS.GenSketch DDS.GenSketch7
open DDS.Gen.Encoding DDS.GenEncoding DDS.Codec

/-! ## 1. `binary.LittleEndian.Uint64` reads `Codec.leValue` -/

/-- one more byte or-ed above an accumulator that only has bits below `8 i` -/
theorem or_byte (x : BitVec 64) (a : BitVec 8) (i : Nat) (hi : i < 8) (hx : x.toNat < 2 ^ (8 * i)) :
    (x ||| a.setWidth 64 <<< (8 * i)).toNat = x.toNat + a.toNat * 2 ^ (8 * i) ∧
      (x ||| a.setWidth 64 <<< (8 * i)).toNat < 2 ^ (8 * (i + 1)) := by
  have hlt : x.toNat + a.toNat * 2 ^ (8 * i) < 2 ^ (8 * i + 8) := add_shl_lt hx a.isLt
  have e : (x ||| a.setWidth 64 <<< (8 * i)).toNat = x.toNat + a.toNat * 2 ^ (8 * i) := by
    rw [Props.C18Bits.acc_or_bits x (a.setWidth 64) (8 * i) hx, setWidth64_toNat]
    exact Nat.mod_eq_of_lt (Nat.lt_of_lt_of_le hlt (Nat.pow_le_pow_right (by decide) (by omega)))
  exact ⟨e, e ▸ hlt⟩

theorem leValue_append (xs : Bytes) (n : Nat) : leValue (xs ++ [n]) = leValue xs + n * 256 ^ xs.length := by
  induction xs with
  | nil => simp only [List.nil_append, leValue, List.length_nil, Nat.pow_zero]; omega
  | cons x xs ih =>
    simp only [List.cons_append, leValue, ih, List.length_cons, Nat.pow_succ]
    rw [Nat.mul_add, Nat.add_assoc, Nat.mul_comm _ 256, Nat.mul_left_comm]

/-- the first `k ≤ 8` bytes or-ed together as `GoSem.leU64` does are `Codec.leValue` of them -/
theorem foldl_or_bytes (l : List (BitVec 8)) : ∀ k, k ≤ 8 → k ≤ l.length →
    ((List.range k).foldl (fun acc i => acc ||| ((l.getD i 0).setWidth 64 <<< (8 * i))) 0#64).toNat
      = leValue ((nb l).take k) ∧
    ((List.range k).foldl (fun acc i => acc ||| ((l.getD i 0).setWidth 64 <<< (8 * i))) 0#64).toNat
      < 2 ^ (8 * k) := by
  intro k
  induction k with
  | zero => intro _ _; exact ⟨rfl, Nat.one_pos⟩
  | succ k ih =>
    intro h8 hl
    obtain ⟨e, hb⟩ := ih (by omega) (by omega)
    have hk : k < (nb l).length := by rw [GenEncoding.nb_length]; omega
    obtain ⟨e', hb'⟩ := or_byte _ (l.getD k 0) k (by omega) hb
    rw [List.range_succ, List.foldl_append, List.foldl_cons, List.foldl_nil,
      ← List.take_append_getElem hk, leValue_append, List.length_take, Nat.min_eq_left (by omega),
      e', e, Nat.pow_mul]
    refine ⟨?_, by rw [← Nat.pow_mul, ← e, ← e']; exact hb'⟩
    simp only [nb, List.getElem_map, List.getD_eq_getElem?_getD, List.getElem?_eq_getElem (show k < l.length by omega), Option.getD_some]

theorem leU64_spec (l : List (BitVec 8)) (h : 8 ≤ l.length) :
    ∃ v, GoSem.leU64 l = some v ∧ v.toNat = leValue ((nb l).take 8) :=
  ⟨_, if_neg (by omega), (foldl_or_bytes l 8 (by decide) h).1⟩

/-- **`DecodeFloat64LE` is the model's `decF64LE`, for EVERY fuel** (the function has no loop: the fuel
    argument is not used; never `.panic`, never `.nofuel`) -/
theorem f64LESpec : F64LESpec := by
  intro fuel b
  unfold DecodeFloat64LE decF64LE
  rw [GenEncoding.nb_length]
  by_cases hl : b.length < 8
  · have : decide (GoSem.len b < (8 : Int)) = true := by
      rw [decide_eq_true_eq]; unfold GoSem.len; omega
    rw [this, if_pos rfl, if_pos hl]
  · have : decide (GoSem.len b < (8 : Int)) = false := by
      rw [decide_eq_false_iff_not]; unfold GoSem.len; omega
    rw [this, if_neg (by decide), if_neg hl]
    obtain ⟨v, hv, hn⟩ := leU64_spec b (by omega)
    rw [hv, optR_some, show ((8 : Int)) = ((8 : Nat) : Int) from rfl, sliceFrom_natCast b 8 (by omega),
      optR_some]
    show Res.ok (b.drop 8, GoSem.float64frombits v, GoErr.nil) = _
    unfold GoSem.float64frombits
    rw [← UInt64.ofNat_bitVecToNat, hn]

/-! ## 2. the round trip of the regenerated pair -/

theorem DecodeFloat64LE_enc (fuel : Nat) (n : Nat) (hn : n < W64) (rest : List (BitVec 8)) :
    DecodeFloat64LE fuel (bn (encF64LE n) ++ rest) = .ok (rest, F64.ofBits (UInt64.ofNat n), GoErr.nil) := by
  have hl : (bn (encF64LE n)).length = 8 := by simp [bn, encF64LE]
  have hnb : nb (bn (encF64LE n) ++ rest) = encF64LE n ++ nb rest := by
    rw [nb_append, nb_bn _ (Wire.encF64LE_bytes n)]
  rw [f64LESpec fuel, hnb, decF64LE_encF64LE n hn]
  show Res.ok ((bn (encF64LE n) ++ rest).drop 8, _, _) = _
  rw [List.drop_left' hl]

/-- **round trip on the regenerated pair**: `DecodeFloat64LE (EncodeFloat64LE b v)` read from where the
    encoder started writing gives back the float of the bit pattern of `v`, the bytes that follow, a nil
    error — every fuel on both sides, every float -/
theorem decode_encode_bits (f1 f2 : Nat) (b rest : List (BitVec 8)) (v : F64) :
    ∃ bs, EncodeFloat64LE f1 b v = .ok (b ++ bs) ∧
      DecodeFloat64LE f2 (bs ++ rest) = .ok (rest, F64.ofBits v.toBits, GoErr.nil) := by
  refine ⟨_, GenEncoding.EncodeFloat64LE_eq f1 b v, ?_⟩
  rw [DecodeFloat64LE_enc f2 _ (by unfold W64; exact v.toBits.toNat_lt) rest, UInt64.ofNat_toNat]

/-- the value itself for every float that is its own bit pattern's value (all representable finite
    values by `F64.toBits_ofBits_rep`, the infinities; the model has one NaN and one zero) -/
theorem decode_encode (f1 f2 : Nat) (b rest : List (BitVec 8)) (v : F64)
    (hv : F64.ofBits v.toBits = v) :
    ∃ bs, EncodeFloat64LE f1 b v = .ok (b ++ bs) ∧
      DecodeFloat64LE f2 (bs ++ rest) = .ok (rest, v, GoErr.nil) := by
  obtain ⟨bs, h1, h2⟩ := decode_encode_bits f1 f2 b rest v
  exact ⟨bs, h1, by rw [h2, hv]⟩

theorem decode_encode_rep (f1 f2 : Nat) (b rest : List (BitVec 8)) (q : Rat) (hq : F64.isRep q = true) :
    ∃ bs, EncodeFloat64LE f1 b (.fin q) = .ok (b ++ bs) ∧
      DecodeFloat64LE f2 (bs ++ rest) = .ok (rest, .fin q, GoErr.nil) :=
  decode_encode f1 f2 b rest _ (F64.toBits_ofBits_rep q hq)

/-! ## 3. the decoder loop never refuses with `.missingStats` -/

/-- the refusals that are not `.missingStats` -/
def NoMS {α} (r : Option (Except SkErr α)) : Prop := ∀ e, r = some (.error e) → e ≠ .missingStats

theorem NoMS_err {α} (e : SkErr) (h : e ≠ .missingStats) : NoMS (α := α) (some (.error e)) := by
  intro e' h'; cases h'; exact h
theorem NoMS_ok {α} (a : α) : NoMS (some (.ok a)) := by intro e h; cases h
theorem NoMS_none {α} : NoMS (α := α) none := by intro e h; cases h
theorem NoMS_lift {α β} (x : Except DecErr α) (e : SkErr) (h : Sketch.liftDec x = .error e) :
    NoMS (α := β) (some (.error e)) := by
  rw [liftDec_error x e h]; exact NoMS_err _ (by decide)

/-- by `Sketch.parseBins_error` the store decoder refuses with `.eof` or `.unknownBinEncoding` only -/
theorem decodeStore_noMS (st : Store) (sub : Nat) (bs : Bytes) : NoMS (Sketch.decodeStore st sub bs) := by
  intro e h
  rw [Sketch.decodeStore_parse] at h
  rcases Sketch.parseBins_error sub bs e (Sketch.finish_error h) with ⟨_, rfl⟩ | ⟨_, rfl, _⟩ <;> decide

theorem fallback_noMS (aux : Sketch.DecAux) (f : Nat) (bs : Bytes) (e : SkErr)
    (h : Sketch.fallback aux f bs = .error e) : e ≠ .missingStats := by
  rw [fallback_byte] at h
  by_cases h1 : f = 160
  · rw [if_pos h1] at h
    cases hx : Sketch.liftDec (decVarfloat64 bs) with
    | error e' => rw [hx] at h; cases h; rw [liftDec_error _ _ hx]; decide
    | ok p => rw [hx] at h; cases h
  rw [if_neg h1] at h
  cases hx : Sketch.liftDec (decF64LE bs) with
  | error e' =>
    rw [hx] at h
    have he := liftDec_error _ _ hx
    subst he
    by_cases h2 : f = 132
    · rw [if_pos h2] at h; cases h; decide
    · rw [if_neg h2] at h
      by_cases h3 : f = 136 ∨ f = 140
      · rw [if_pos h3] at h; cases h; decide
      · rw [if_neg h3] at h; cases h; decide
  | ok p =>
    rw [hx] at h
    by_cases h2 : f = 132
    · rw [if_pos h2] at h; cases h
    · rw [if_neg h2] at h
      by_cases h3 : f = 136 ∨ f = 140
      · rw [if_pos h3] at h; cases h
      · rw [if_neg h3] at h; cases h; decide

theorem decodeLoop_noMS : ∀ (n : Nat) (s : Sketch) (aux : Sketch.DecAux) (bs : Bytes),
    NoMS (Sketch.decodeLoop n s aux bs) := by
  intro n
  induction n with
  | zero =>
    intro s aux bs
    cases bs with
    | nil => rw [Sketch.decodeLoop_nil]; exact NoMS_ok _
    | cons f tl => exact NoMS_none
  | succ n ih =>
    intro s aux bs
    cases bs with
    | nil => rw [Sketch.decodeLoop_nil]; exact NoMS_ok _
    | cons f tl =>
      rcases Wire.flagType_cases f with h | h | h | h
      · rw [Sketch.loop_pos n s aux f tl h]
        have hd := decodeStore_noMS s.pos (Wire.flagSub f) tl
        split
        · exact NoMS_none
        · rename_i e he; rw [he] at hd; exact NoMS_err _ (hd _ rfl)
        · exact ih _ _ _
      · rw [Sketch.loop_neg n s aux f tl h]
        have hd := decodeStore_noMS s.neg (Wire.flagSub f) tl
        split
        · exact NoMS_none
        · rename_i e he; rw [he] at hd; exact NoMS_err _ (hd _ rfl)
        · exact ih _ _ _
      · rw [Sketch.loop_map n s aux f tl h]
        split
        · rename_i e he
          rw [liftDec_error _ _ he]
          split <;> exact NoMS_err _ (by decide)
        · split
          · exact NoMS_err _ (by decide)
          · split
            · rename_i e he; exact NoMS_lift _ e he
            · split
              · exact NoMS_err _ (by decide)
              · exact NoMS_err _ (by decide)
              · split
                · split
                  · exact ih _ _ _
                  · exact NoMS_err _ (by decide)
                · exact ih _ _ _
      · by_cases hz : f = Sketch.zeroFlag
        · subst hz
          rw [Sketch.loop_zero]
          split
          · rename_i e he; exact NoMS_lift _ e he
          · exact ih _ _ _
        · rw [Sketch.loop_fallback n s aux f tl h hz]
          split
          · rename_i e he; exact NoMS_err _ (fallback_noMS _ _ _ _ he)
          · exact ih _ _ _

end DDS.GenF64LE

/-! ## 4. the exact variant's `DecodeAndMergeWith`: the fallback closure decodes the statistics blocks -/

namespace DDS.GenSketch7

open DDS DDS.GoSem DDS.Gen.Sketch DDS.GenSketch

section Dec
open DDS.Gen.Encoding DDS.GenEncoding DDS.Codec

variable {M : Type} [MapI M] [Inhabited M]

/-- the function literal of `DDSketchWithExactSummaryStatistics.DecodeAndMergeWith` (ddsketch.go:770) -/
def xfb (fuel : Nat) : DDSketchWithExactSummaryStatistics M Store → List (BitVec 8) → Gen.Encoding.Flag →
    Res (DDSketchWithExactSummaryStatistics M Store × List (BitVec 8) × GoErr) :=
  fun s b flag =>
  if (flag == FlagCount) then
  Res.bind (DecodeVarfloat64 fuel b) (fun (b, count, err) =>
  if (err != GoErr.nil) then
  .ok (s, b, err)
  else
  let t1 := Gen.Stat.SummaryStatistics.AddToCount (s).summaryStatistics count
  let s := { s with summaryStatistics := t1 }
  .ok (s, b, GoErr.nil))
  else
  if (flag == FlagSum) then
  Res.bind (DecodeFloat64LE fuel b) (fun (b, sum, err) =>
  if (err != GoErr.nil) then
  .ok (s, b, err)
  else
  let t2 := Gen.Stat.SummaryStatistics.AddToSum (s).summaryStatistics sum
  let s := { s with summaryStatistics := t2 }
  .ok (s, b, GoErr.nil))
  else
  if ((flag == FlagMin) || (flag == FlagMax)) then
  Res.bind (DecodeFloat64LE fuel b) (fun (b, stat, err) =>
  if (err != GoErr.nil) then
  .ok (s, b, err)
  else
  let t3 := Gen.Stat.SummaryStatistics.Add (s).summaryStatistics stat (F64.fin (0 : Rat))
  let s := { s with summaryStatistics := t3 }
  .ok (s, b, GoErr.nil))
  else
  .ok (s, b, errUnknownFlag)

/-- the threaded Go state (the whole exact-variant structure; only its statistics matter) carries the model's
    statistics -/
def XR (aux : Sketch.DecAux) (st : DDSketchWithExactSummaryStatistics M Store) : Prop :=
  aux.stats = some (GenStat.toModel st.summaryStatistics)

theorem xfb_spec (fuel : Nat) (hf : 9 ≤ fuel) :
    FbSpecS (XR (M := M)) (xfb (M := M) fuel) := by
  intro aux st b flag hR
  unfold XR at hR ⊢
  rw [fallback_byte, hR]
  unfold xfb
  simp only [flag_beq, FlagCount_nat, FlagSum_nat, FlagMin_nat, FlagMax_nat, Bool.or_eq_true,
    decide_eq_true_eq]
  by_cases h160 : flag.byte.toNat = 160
  · rw [if_pos h160, if_pos h160]
    rcases hd : decVarfloat64 (nb b) with e | ⟨c, rest⟩
    · rw [GenStoreDecode.F_err fuel hf b e hd]
      exact ⟨_, _, rfl⟩
    · obtain ⟨b', h1, h2, h3⟩ := GenStoreDecode.F_ok fuel hf b c rest hd
      rw [h1]
      exact ⟨_, b', rfl, rfl, h2, Nat.le_of_lt h3⟩
  rw [if_neg h160, if_neg h160, GenF64LE.f64LESpec, decF64LE_nb]
  by_cases h132 : flag.byte.toNat = 132
  · rw [if_pos h132, if_pos h132]
    by_cases hl : b.length < 8
    · rw [if_pos hl]
      exact ⟨_, _, rfl⟩
    · rw [if_neg hl]
      exact ⟨_, b.drop 8, rfl, rfl, rfl, (List.drop_sublist 8 b).length_le⟩
  rw [if_neg h132, if_neg h132]
  by_cases hs : flag.byte.toNat = 136 ∨ flag.byte.toNat = 140
  · rw [if_pos hs, if_pos hs]
    by_cases hl : b.length < 8
    · rw [if_pos hl]
      exact ⟨_, _, rfl⟩
    · rw [if_neg hl]
      exact ⟨_, b.drop 8, rfl, congrArg some (GenStat.add_eq ..).symm, rfl, (List.drop_sublist 8 b).length_le⟩
  · rw [if_neg hs, if_neg hs]
    exact ⟨_, _, rfl⟩

/-- the Go error value of each refusal of the exact variant's decoder -/
def decErrX : SkErr → GoErr
  | .missingStats => GoErr.named "missing exact summary statistics"
  | e => decErr e

theorem decErrX_ne_nil (e : SkErr) : decErrX e ≠ GoErr.nil := by cases e <;> decide

theorem decErrX_eq (e : SkErr) (h : e ≠ .missingStats) : decErrX e = decErr e := by
  cases e <;> first | rfl | exact absurd rfl h

/-- the model `XSketch` a generated exact-variant structure stands for -/
def ofGenXI (idOf : M → Option MapId) (g : DDSketchWithExactSummaryStatistics M Store) : XSketch :=
  { sk := ofGenI idOf g.DDSketch, st := GenStat.toModel g.summaryStatistics }

theorem XDecode_unfold (fuel : Nat) (g : DDSketchWithExactSummaryStatistics M Store) (bb : List (BitVec 8)) :
    Gen.SketchIter.DDSketchWithExactSummaryStatistics.DecodeAndMergeWith fuel g bb =
      Res.bind (Gen.SketchIter.DDSketch.decodeAndMergeWith fuel g.DDSketch bb g (xfb fuel))
        (fun (s, t4, err) =>
          let s := { s with DDSketch := t4 }
          if (err != GoErr.nil) then .ok (s, err)
          else if ((F64.eq (Gen.Stat.SummaryStatistics.Count s.summaryStatistics) (F64.fin (0 : Rat)))
              && (!(DDSketch.IsEmpty s.DDSketch))) then
            .ok (s, (GoErr.named "missing exact summary statistics"))
          else .ok (s, GoErr.nil)) := rfl

/-- `DecodeDDSketchWithExactSummaryStatistics` (ddsketch.go:755), possibly nil mapping argument: a fresh
    exact-variant sketch from the provider (`XSketch.new`), then `DecodeAndMergeWith` -/
theorem DecodeExact_eqO (fuel : Nat) (b : List (BitVec 8)) (k : StoreKind) (m : Option MapEnv) :
    Gen.SketchIter.DecodeDDSketchWithExactSummaryStatistics fuel b (provider k) m =
      Gen.SketchIter.DDSketchWithExactSummaryStatistics.DecodeAndMergeWith fuel
        { DDSketch := toGenO m (Sketch.new (m.map (fun e => e.id)) k),
          summaryStatistics := Gen.Stat.NewSummaryStatistics } b := by
  unfold Gen.SketchIter.DecodeDDSketchWithExactSummaryStatistics provider
  simp only [Res.bind_ok]
  rw [Res.bind_ok_right]
  rfl

def XDecRel (idOf : M → Option MapId) :
    Option (Except SkErr XSketch) → Res (DDSketchWithExactSummaryStatistics M Store × GoErr) → Prop
  | none, _ => True
  | some (.error e), r => ∃ g', r = .ok (g', decErrX e) ∨ r = .ok (g', decErr e)
  | some (.ok x'), r => ∃ g', r = .ok (g', GoErr.nil) ∧ ofGenXI idOf g' = x'

end Dec

end DDS.GenSketch7

namespace DDS.GenF64LE

open DDS DDS.GoSem DDS.Gen.Sketch DDS.GenSketch DDS.GenSketch7
open DDS.Gen.Encoding DDS.GenEncoding DDS.Codec

/-! ## 5. the exact variant's decoder, with ONE error value per refusal -/

section Collapse
variable {M : Type} [MapI M] [Inhabited M]

/-- `XDecRel` without the disjunction: the refusal `e` of the model is exactly the Go error `decErrX e` -/
def XDecRel1 (idOf : M → Option MapId) :
    Option (Except SkErr XSketch) → Res (DDSketchWithExactSummaryStatistics M Store × GoErr) → Prop
  | none, _ => True
  | some (.error e), r => ∃ g', r = .ok (g', decErrX e)
  | some (.ok x'), r => ∃ g', r = .ok (g', GoErr.nil) ∧ ofGenXI idOf g' = x'

/-- the regenerated `DDSketchWithExactSummaryStatistics.DecodeAndMergeWith` against
    `XSketch.decodeAndMergeWith` (fuel `≥ len b + 9`, no hypothesis on the codec), every refusal `e` of the model
    being the Go error `decErrX e` -/
theorem XDecodeAndMergeWith_rel1_gen {idOf : M → Option MapId} (law : MapLaw idOf)
    (fuel : Nat) (g : DDSketchWithExactSummaryStatistics M Store) (b : List (BitVec 8))
    (hf : b.length + 9 ≤ fuel) :
    XDecRel1 idOf ((ofGenXI idOf g).decodeAndMergeWith (nb b))
      (Gen.SketchIter.DDSketchWithExactSummaryStatistics.DecodeAndMergeWith fuel g b) := by
  have h := decodeAndMergeWithS_rel law (XR (M := M)) (xfb fuel) (xfb_spec fuel (by omega)) fuel
    g.DDSketch b { stats := some (GenStat.toModel g.summaryStatistics) } g rfl hf
  rw [XDecode_unfold]
  unfold XSketch.decodeAndMergeWith
  show XDecRel1 idOf (match Sketch.decodeLoop ((nb b).length + 1) (ofGenI idOf g.DDSketch)
      { stats := some (GenStat.toModel g.summaryStatistics) } (nb b) with
    | none => none
    | some (.error e) => some (.error e)
    | some (.ok (sk, aux)) =>
      if sk.mapping.isNone then some (.error .missingMapping)
      else
        let st := aux.stats.getD (GenStat.toModel g.summaryStatistics)
        if F64.eq st.count (.fin 0) && !sk.isEmpty then some (.error .missingStats)
        else some (.ok { sk := sk, st := st })) _
  cases hm : Sketch.decodeLoop ((nb b).length + 1) (ofGenI idOf g.DDSketch)
      { stats := some (GenStat.toModel g.summaryStatistics) } (nb b) with
  | none => trivial
  | some r =>
    rw [hm] at h
    cases r with
    | error e =>
      obtain ⟨st', g', hg⟩ := h
      rw [hg]
      simp only [Res.bind_ok, decErr_ne_nil, if_true]
      have hne : e ≠ .missingStats := decodeLoop_noMS _ _ _ _ e hm
      exact ⟨_, by rw [decErrX_eq e hne]⟩
    | ok r =>
      obtain ⟨s', aux'⟩ := r
      obtain ⟨st', g', hs, hR', hg⟩ := h
      rw [hg]
      unfold XR at hR'
      simp only [Res.bind_ok]
      cases hi : s'.mapping.isNone with
      | true =>
        simp only [if_true, decErr_ne_nil]
        exact ⟨_, rfl⟩
      | false =>
        simp only [Bool.false_eq_true, if_false, GoErr.nil_bne_nil, hR', Option.getD_some]
        have hemp : DDSketch.IsEmpty g' = s'.isEmpty := by rw [← hs]; rfl
        rw [hemp]
        by_cases hc : (F64.eq (GenStat.toModel st'.summaryStatistics).count (.fin 0) && !s'.isEmpty) = true
        · rw [if_pos hc]
          have hc2 : (F64.eq (Gen.Stat.SummaryStatistics.Count st'.summaryStatistics) (.fin 0)
              && !s'.isEmpty) = true := hc
          simp only [hc2, if_true]
          exact ⟨_, rfl⟩
        · rw [if_neg hc]
          have hc2 : (F64.eq (Gen.Stat.SummaryStatistics.Count st'.summaryStatistics) (.fin 0)
              && !s'.isEmpty) = false := (Bool.not_eq_true _).mp hc
          simp only [hc2, Bool.false_eq_true, if_false]
          refine ⟨_, rfl, ?_⟩
          unfold ofGenXI
          simp only [hs]

theorem XDecodeAndMergeWith_rel1 (env : MapEnv) (x : XSketch)
    (hm : x.sk.mapping = some env.id) (fuel : Nat) (b : List (BitVec 8)) (hf : b.length + 9 ≤ fuel) :
    XDecRel1 (fun e : MapEnv => some e.id) (x.decodeAndMergeWith (nb b))
      (Gen.SketchIter.DDSketchWithExactSummaryStatistics.DecodeAndMergeWith fuel (toGenX env x) b) := by
  have h := XDecodeAndMergeWith_rel1_gen mapEnv_law fuel (toGenX env x) b hf
  have e : ofGenXI (fun e : MapEnv => some e.id) (toGenX env x) = x := by
    unfold ofGenXI
    rw [toGenX_sk, toGenX_st, ofGenI_mapEnv, ofGen_toGen env x.sk hm, GenStat.toModel_ofModel]
  rw [e] at h
  exact h

/-- `DecodeDDSketchWithExactSummaryStatistics` (ddsketch.go:755), possibly nil mapping argument -/
theorem DecodeExact_rel1O (fuel : Nat) (b : List (BitVec 8)) (k : StoreKind)
    (m : Option MapEnv) (hf : b.length + 9 ≤ fuel) :
    XDecRel1 (fun o : Option MapEnv => o.map (fun e => e.id))
      ((XSketch.new (m.map (fun e => e.id)) k).decodeAndMergeWith (nb b))
      (Gen.SketchIter.DecodeDDSketchWithExactSummaryStatistics fuel b (provider k) m) := by
  rw [DecodeExact_eqO]
  have h := XDecodeAndMergeWith_rel1_gen optMapEnv_law fuel
    { DDSketch := toGenO m (Sketch.new (m.map (fun e => e.id)) k),
      summaryStatistics := Gen.Stat.NewSummaryStatistics } b hf
  have e : ofGenXI (fun o : Option MapEnv => o.map (fun e => e.id))
      { DDSketch := toGenO m (Sketch.new (m.map (fun e => e.id)) k),
        summaryStatistics := Gen.Stat.NewSummaryStatistics } = XSketch.new (m.map (fun e => e.id)) k := by
    unfold ofGenXI XSketch.new
    simp only [GenStat.new_eq]
    congr 1
  rw [e] at h
  exact h

/-! `XDecRel` (the refusal `e` is `decErrX e` or `decErr e`) is the weaker relation -/

theorem XDecRel1_imp (idOf : M → Option MapId) (o : Option (Except SkErr XSketch))
    (r : Res (DDSketchWithExactSummaryStatistics M Store × GoErr)) (h : XDecRel1 idOf o r) :
    XDecRel idOf o r := by
  match o, h with
  | none, _ => trivial
  | some (.error e), ⟨g', hg⟩ => exact ⟨g', Or.inl hg⟩
  | some (.ok x'), h => exact h

theorem XDecodeAndMergeWith_rel_gen' {idOf : M → Option MapId} (law : MapLaw idOf)
    (fuel : Nat) (g : DDSketchWithExactSummaryStatistics M Store) (b : List (BitVec 8))
    (hf : b.length + 9 ≤ fuel) :
    XDecRel idOf ((ofGenXI idOf g).decodeAndMergeWith (nb b))
      (Gen.SketchIter.DDSketchWithExactSummaryStatistics.DecodeAndMergeWith fuel g b) :=
  XDecRel1_imp _ _ _ (XDecodeAndMergeWith_rel1_gen law fuel g b hf)

theorem XDecodeAndMergeWith_rel' (env : MapEnv) (x : XSketch)
    (hm : x.sk.mapping = some env.id) (fuel : Nat) (b : List (BitVec 8)) (hf : b.length + 9 ≤ fuel) :
    XDecRel (fun e : MapEnv => some e.id) (x.decodeAndMergeWith (nb b))
      (Gen.SketchIter.DDSketchWithExactSummaryStatistics.DecodeAndMergeWith fuel (toGenX env x) b) :=
  XDecRel1_imp _ _ _ (XDecodeAndMergeWith_rel1 env x hm fuel b hf)

theorem DecodeExact_relO' (fuel : Nat) (b : List (BitVec 8)) (k : StoreKind)
    (m : Option MapEnv) (hf : b.length + 9 ≤ fuel) :
    XDecRel (fun o : Option MapEnv => o.map (fun e => e.id))
      ((XSketch.new (m.map (fun e => e.id)) k).decodeAndMergeWith (nb b))
      (Gen.SketchIter.DecodeDDSketchWithExactSummaryStatistics fuel b (provider k) m) :=
  XDecRel1_imp _ _ _ (DecodeExact_rel1O fuel b k m hf)

end Collapse

end DDS.GenF64LE
