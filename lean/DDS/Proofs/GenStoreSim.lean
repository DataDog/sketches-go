/-
  DDS.Proofs.GenStoreSim — parametricity of the regenerated sketch (`DDS/Generated/CodeSketch.lean`, generic over
  the interface classes `MapI`, `StoreI`) in the store implementation, proved ONCE for every pair of `StoreI`
  instances related by a simulation.

  1. `StoreSim S₁ S₂` (for two types with `StoreI` instances): a relation `R : S₁ → S₂ → Prop`, an admissibility
     predicate `Adm : Int → Prop` on the indexes handed to `Add`/`AddWithCount`, and the method lemmas as fields:
     related receivers give equal observations (`IsEmpty`, `TotalCount`, `MinIndex`, `MaxIndex`, `KeyAtRank` at
     every float rank) and related receivers again (`Add` and `AddWithCount` at an admissible index — finite counts
     `≥ 0`, non-finite counts unrestricted —, `Clear`, `Copy`, `MergeWith` of related arguments, `Reweight` by any
     float with the same error).  `Encode`, `DecodeAndMergeWith`, `ForEachList` are NOT part of the interface of a
     simulation (the sketch functions below do not call them).
  2. For any `T : StoreSim S₁ S₂` and ANY mapping implementation `M`: `SkSimG T a b` (same mapping object, same zero
     count, stores in `T.R`), `skSimG_new`, and the parametricity theorems `GetCount_paramG`, `GetZeroCount_paramG`,
     `IsEmpty_paramG`, `GetValueAtQuantile_paramG`, `GetMaxValue_paramG`, `GetMinValue_paramG` (equal results),
     `Clear_paramG`, `Copy_paramG`, `AddWithCount_paramG`, `Add_paramG` (same error, related receivers; side
     condition `RoutedG`: the index of the side the value is routed to is admissible), `MergeWith_paramG`,
     `Reweight_paramG`, `runAdds_paramG` (histories of `AddWithCount` calls, refused calls included),
     `history_observers_paramG` (from `NewDDSketch m p n` on related stores: same errors, same observers).
  3. `StoreSim.refl`, `StoreSim.trans`: simulations compose (the admissible indexes are those of both).

  The instances: `DDS/Proofs/GenPagSim.lean` (buffered-paginated), `GenDenseSketch.lean` (the three dense kinds),
  `GenSparseSketch.lean` (sparse).  No fuel hypothesis anywhere (the instances compute their fuel).
-/
import DDS.Proofs.GenSketchRun

namespace DDS.GenStoreSim

open DDS DDS.GoSem DDS.Gen.Sketch DDS.GenPagSketch

/-- a simulation between two implementations of the Go interface `store.Store` -/
structure StoreSim (S₁ S₂ : Type) [StoreI S₁] [StoreI S₂] where
  /-- the relation between the receivers -/
  R : S₁ → S₂ → Prop
  /-- the indexes `Add`/`AddWithCount` may be called with -/
  Adm : Int → Prop
  isEmpty : ∀ {x : S₁} {st : S₂}, R x st → (StoreI.IsEmpty x : Bool) = StoreI.IsEmpty st
  totalCount : ∀ {x : S₁} {st : S₂}, R x st → (StoreI.TotalCount x : F64) = StoreI.TotalCount st
  minIndex : ∀ {x : S₁} {st : S₂}, R x st → (StoreI.MinIndex x : Int × GoErr) = StoreI.MinIndex st
  maxIndex : ∀ {x : S₁} {st : S₂}, R x st → (StoreI.MaxIndex x : Int × GoErr) = StoreI.MaxIndex st
  keyAtRank : ∀ {x : S₁} {st : S₂}, R x st → ∀ r : F64, (StoreI.KeyAtRank x r : Int) = StoreI.KeyAtRank st r
  addWithCount : ∀ {x : S₁} {st : S₂}, R x st → ∀ i : Int, Adm i → ∀ c : F64, (∀ w, c = .fin w → 0 ≤ w) →
    R (StoreI.AddWithCount x i c) (StoreI.AddWithCount st i c)
  add : ∀ {x : S₁} {st : S₂}, R x st → ∀ i : Int, Adm i → R (StoreI.Add x i) (StoreI.Add st i)
  clear : ∀ {x : S₁} {st : S₂}, R x st → R (StoreI.Clear x) (StoreI.Clear st)
  copy : ∀ {x : S₁} {st : S₂}, R x st → R (StoreI.Copy x) (StoreI.Copy st)
  mergeWith : ∀ {x y : S₁} {st so : S₂}, R x st → R y so → R (StoreI.MergeWith x y) (StoreI.MergeWith st so)
  reweight : ∀ {x : S₁} {st : S₂}, R x st → ∀ w : F64,
    (StoreI.Reweight x w).2 = (StoreI.Reweight st w).2 ∧ R (StoreI.Reweight x w).1 (StoreI.Reweight st w).1

section sketch

variable {M : Type} [MapI M] [Inhabited M]
variable {S₁ S₂ : Type} [StoreI S₁] [StoreI S₂] [Inhabited S₁] [Inhabited S₂]
variable (T : StoreSim S₁ S₂)

/-- same mapping object, same zero count, stores in simulation -/
structure SkSimG (a : DDSketch M S₁) (b : DDSketch M S₂) : Prop where
  map : a.IndexMapping = b.IndexMapping
  pos : T.R a.positiveValueStore b.positiveValueStore
  neg : T.R a.negativeValueStore b.negativeValueStore
  zero : a.zeroCount = b.zeroCount

theorem skSimG_new (m : M) {p₁ n₁ : S₁} {p₂ n₂ : S₂} (hp : T.R p₁ p₂) (hn : T.R n₁ n₂) :
    SkSimG T (NewDDSketch m p₁ n₁) (NewDDSketch m p₂ n₂) :=
  ⟨rfl, hp, hn, rfl⟩

/-! ### observers -/

theorem GetCount_paramG {a : DDSketch M S₁} {b : DDSketch M S₂} (h : SkSimG T a b) :
    DDSketch.GetCount a = DDSketch.GetCount b := by
  unfold DDSketch.GetCount
  rw [T.totalCount h.pos, T.totalCount h.neg, h.zero]

theorem GetZeroCount_paramG {a : DDSketch M S₁} {b : DDSketch M S₂} (h : SkSimG T a b) :
    DDSketch.GetZeroCount a = DDSketch.GetZeroCount b := h.zero

theorem IsEmpty_paramG {a : DDSketch M S₁} {b : DDSketch M S₂} (h : SkSimG T a b) :
    DDSketch.IsEmpty a = DDSketch.IsEmpty b := by
  unfold DDSketch.IsEmpty
  rw [T.isEmpty h.pos, T.isEmpty h.neg, h.zero]

theorem GetValueAtQuantile_paramG {a : DDSketch M S₁} {b : DDSketch M S₂} (h : SkSimG T a b) (q : F64) :
    DDSketch.GetValueAtQuantile a q = DDSketch.GetValueAtQuantile b q := by
  unfold DDSketch.GetValueAtQuantile
  rw [GetCount_paramG T h]
  simp only [T.totalCount h.neg, T.keyAtRank h.pos, T.keyAtRank h.neg, h.zero, h.map]

theorem GetMaxValue_paramG {a : DDSketch M S₁} {b : DDSketch M S₂} (h : SkSimG T a b) :
    DDSketch.GetMaxValue a = DDSketch.GetMaxValue b := by
  unfold DDSketch.GetMaxValue
  simp only [T.isEmpty h.pos, T.maxIndex h.pos, T.minIndex h.neg, h.zero, h.map]

theorem GetMinValue_paramG {a : DDSketch M S₁} {b : DDSketch M S₂} (h : SkSimG T a b) :
    DDSketch.GetMinValue a = DDSketch.GetMinValue b := by
  unfold DDSketch.GetMinValue
  simp only [T.isEmpty h.neg, T.maxIndex h.neg, T.minIndex h.pos, h.zero, h.map]

/-! ### mutators -/

theorem Clear_paramG {a : DDSketch M S₁} {b : DDSketch M S₂} (h : SkSimG T a b) :
    SkSimG T (DDSketch.Clear a) (DDSketch.Clear b) :=
  ⟨h.map, T.clear h.pos, T.clear h.neg, rfl⟩

theorem Copy_paramG {a : DDSketch M S₁} {b : DDSketch M S₂} (h : SkSimG T a b) :
    SkSimG T (DDSketch.Copy a) (DDSketch.Copy b) :=
  ⟨h.map, T.copy h.pos, T.copy h.neg, h.zero⟩

/-- the index condition of `AddWithCount_paramG T` for the mapping object `m` and the value `v` -/
def RoutedG (m : M) (v : F64) : Prop :=
  (F64.lt (MapI.MinIndexableValue m) v = true → T.Adm (MapI.Index m v)) ∧
  (F64.lt v (F64.neg (MapI.MinIndexableValue m)) = true → T.Adm (MapI.Index m (F64.neg v)))

/-- `AddWithCount(value, count)`: the same error, and the receivers are related again.  Side conditions: the
    index the mapping assigns on the side the value is routed to is admissible (`T.Adm`). -/
theorem AddWithCount_paramG {a : DDSketch M S₁} {b : DDSketch M S₂} (h : SkSimG T a b) (v c : F64)
    (hv : RoutedG T b.IndexMapping v) :
    (DDSketch.AddWithCount a v c).2 = (DDSketch.AddWithCount b v c).2 ∧
      SkSimG T (DDSketch.AddWithCount a v c).1 (DDSketch.AddWithCount b v c).1 := by
  cases a with
  | mk ma pa na za =>
  cases b with
  | mk mb pb nb zb =>
  obtain ⟨hm, hpos, hneg, hz⟩ := h
  obtain ⟨hp, hn⟩ := hv
  simp only at hm hz hpos hneg hp hn
  subst hm hz
  unfold DDSketch.AddWithCount
  dsimp only
  -- each branch of the cascade of tests returns the receiver, or adds to one store
  cases h0 : F64.lt c (.fin 0) with
  | true => exact ⟨rfl, rfl, hpos, hneg, rfl⟩
  | false =>
    have hc := nonneg_of_not_lt_zero c h0
    cases h1 : F64.lt (MapI.MinIndexableValue ma) v with
    | true =>
      cases F64.lt (MapI.MaxIndexableValue ma) v with
      | true => exact ⟨rfl, rfl, hpos, hneg, rfl⟩
      | false => exact ⟨rfl, rfl, T.addWithCount hpos _ (hp h1) c hc, hneg, rfl⟩
    | false =>
      cases h3 : F64.lt v (F64.neg (MapI.MinIndexableValue ma)) with
      | true =>
        cases F64.lt v (F64.neg (MapI.MaxIndexableValue ma)) with
        | true => exact ⟨rfl, rfl, hpos, hneg, rfl⟩
        | false => exact ⟨rfl, rfl, hpos, T.addWithCount hneg _ (hn h3) c hc, rfl⟩
      | false => cases F64.isNaN v <;> exact ⟨rfl, rfl, hpos, hneg, rfl⟩

theorem Add_paramG {a : DDSketch M S₁} {b : DDSketch M S₂} (h : SkSimG T a b) (v : F64)
    (hp : F64.lt (MapI.MinIndexableValue b.IndexMapping) v = true → T.Adm (MapI.Index b.IndexMapping v))
    (hn : F64.lt v (F64.neg (MapI.MinIndexableValue b.IndexMapping)) = true →
      T.Adm (MapI.Index b.IndexMapping (F64.neg v))) :
    (DDSketch.Add a v).2 = (DDSketch.Add b v).2 ∧ SkSimG T (DDSketch.Add a v).1 (DDSketch.Add b v).1 := by
  rw [Add_eq_AddWithCount, Add_eq_AddWithCount]
  exact AddWithCount_paramG T h v (.fin 1) ⟨hp, hn⟩

theorem MergeWith_paramG {a a' : DDSketch M S₁} {b b' : DDSketch M S₂} (h : SkSimG T a b)
    (h' : SkSimG T a' b') :
    (DDSketch.MergeWith a a').2 = (DDSketch.MergeWith b b').2 ∧
      SkSimG T (DDSketch.MergeWith a a').1 (DDSketch.MergeWith b b').1 := by
  unfold DDSketch.MergeWith
  rw [h.map, h'.map]
  by_cases he : (!(MapI.Equals b.IndexMapping b'.IndexMapping)) = true
  · simp only [he, if_true]
    exact ⟨trivial, h⟩
  · simp only [he, Bool.false_eq_true, if_false]
    refine ⟨trivial, ⟨rfl, T.mergeWith h.pos h'.pos, T.mergeWith h.neg h'.neg, ?_⟩⟩
    show F64.add a.zeroCount a'.zeroCount = F64.add b.zeroCount b'.zeroCount
    rw [h.zero, h'.zero]

theorem Reweight_paramG {a : DDSketch M S₁} {b : DDSketch M S₂} (h : SkSimG T a b) (w : F64) :
    (DDSketch.Reweight a w).2 = (DDSketch.Reweight b w).2 ∧
      SkSimG T (DDSketch.Reweight a w).1 (DDSketch.Reweight b w).1 := by
  cases a with
  | mk ma pa na za =>
  cases b with
  | mk mb pb nb zb =>
  obtain ⟨hm, hpos, hneg, hz⟩ := h
  simp only at hm hz hpos hneg
  subst hm hz
  unfold DDSketch.Reweight
  dsimp only
  cases F64.le w (.fin 0) with
  | true => exact ⟨rfl, rfl, hpos, hneg, rfl⟩
  | false =>
    cases F64.eq w (.fin 1) with
    | true => exact ⟨rfl, rfl, hpos, hneg, rfl⟩
    | false =>
      obtain ⟨e1, s1⟩ := T.reweight hpos w
      obtain ⟨e2, s2⟩ := T.reweight hneg w
      generalize (StoreI.Reweight pa w : S₁ × GoErr) = ra at e1 s1
      generalize (StoreI.Reweight pb w : S₂ × GoErr) = rb at e1 s1
      generalize (StoreI.Reweight na w : S₁ × GoErr) = rna at e2 s2
      generalize (StoreI.Reweight nb w : S₂ × GoErr) = rnb at e2 s2
      obtain ⟨ta, ea⟩ := ra
      obtain ⟨tb, eb⟩ := rb
      obtain ⟨tna, ena⟩ := rna
      obtain ⟨tnb, enb⟩ := rnb
      simp only at e1 s1 e2 s2
      subst e1 e2
      cases ea != GoErr.nil with
      | true => exact ⟨rfl, rfl, s1, hneg, rfl⟩
      | false => cases ena != GoErr.nil <;> exact ⟨rfl, rfl, s1, s2, rfl⟩

/-! ### histories of `AddWithCount` calls -/

/-- **histories**: every sequence of `AddWithCount` calls (any values, any counts — refused calls included) whose
    routed indexes are admissible (`RoutedG T`) returns the same errors on both store implementations, and ends in
    related sketches -/
theorem runAdds_paramG (l : List (F64 × F64)) :
    ∀ {a : DDSketch M S₁} {b : DDSketch M S₂}, SkSimG T a b →
      (∀ p ∈ l, RoutedG T b.IndexMapping p.1) →
      (runAdds a l).2 = (runAdds b l).2 ∧ SkSimG T (runAdds a l).1 (runAdds b l).1 := by
  induction l with
  | nil => intro a b h _; exact ⟨rfl, h⟩
  | cons p rest ih =>
    intro a b h hl
    obtain ⟨v, c⟩ := p
    have hv := hl (v, c) (List.mem_cons_self ..)
    obtain ⟨e1, s1⟩ := AddWithCount_paramG T h v c hv
    obtain ⟨e2, s2⟩ := ih s1 (fun q hq => by
      rw [AddWithCount_mapping]; exact hl q (List.mem_cons_of_mem _ hq))
    refine ⟨?_, s2⟩
    show (DDSketch.AddWithCount a v c).2 :: _ = (DDSketch.AddWithCount b v c).2 :: _
    rw [e1, e2]

/-- the payoff: after any history of `AddWithCount` calls with admissible routed indexes from `NewDDSketch` on
    related stores, the errors returned and every observer agree -/
theorem history_observers_paramG (m : M) {p₁ n₁ : S₁} {p₂ n₂ : S₂} (hp : T.R p₁ p₂) (hn : T.R n₁ n₂)
    (l : List (F64 × F64)) (hl : ∀ p ∈ l, RoutedG T m p.1) :
    let a := runAdds (NewDDSketch m p₁ n₁) l
    let b := runAdds (NewDDSketch m p₂ n₂) l
    a.2 = b.2 ∧ DDSketch.GetCount a.1 = DDSketch.GetCount b.1 ∧ DDSketch.IsEmpty a.1 = DDSketch.IsEmpty b.1 ∧
    (∀ q, DDSketch.GetValueAtQuantile a.1 q = DDSketch.GetValueAtQuantile b.1 q) ∧
    DDSketch.GetMinValue a.1 = DDSketch.GetMinValue b.1 ∧ DDSketch.GetMaxValue a.1 = DDSketch.GetMaxValue b.1 := by
  intro a b
  obtain ⟨he, hs⟩ := runAdds_paramG T l (skSimG_new T m hp hn) hl
  exact ⟨he, GetCount_paramG T hs, IsEmpty_paramG T hs, fun q => GetValueAtQuantile_paramG T hs q,
    GetMinValue_paramG T hs, GetMaxValue_paramG T hs⟩

end sketch

/-! ### simulations compose -/

def StoreSim.refl (S : Type) [StoreI S] : StoreSim S S where
  R := Eq
  Adm := fun _ => True
  isEmpty := fun h => by rw [h]
  totalCount := fun h => by rw [h]
  minIndex := fun h => by rw [h]
  maxIndex := fun h => by rw [h]
  keyAtRank := fun h _ => by rw [h]
  addWithCount := fun h _ _ _ _ => by rw [h]
  add := fun h _ _ => by rw [h]
  clear := fun h => by rw [h]
  copy := fun h => by rw [h]
  mergeWith := fun h h' => by rw [h, h']
  reweight := fun h _ => by rw [h]; exact ⟨rfl, rfl⟩

/-- composition: the middle receiver is existentially quantified -/
def StoreSim.trans {S₁ S₂ S₃ : Type} [StoreI S₁] [StoreI S₂] [StoreI S₃] (T : StoreSim S₁ S₂)
    (U : StoreSim S₂ S₃) : StoreSim S₁ S₃ where
  R := fun x z => ∃ y, T.R x y ∧ U.R y z
  Adm := fun i => T.Adm i ∧ U.Adm i
  isEmpty := fun ⟨_, h, h'⟩ => (T.isEmpty h).trans (U.isEmpty h')
  totalCount := fun ⟨_, h, h'⟩ => (T.totalCount h).trans (U.totalCount h')
  minIndex := fun ⟨_, h, h'⟩ => (T.minIndex h).trans (U.minIndex h')
  maxIndex := fun ⟨_, h, h'⟩ => (T.maxIndex h).trans (U.maxIndex h')
  keyAtRank := fun ⟨_, h, h'⟩ r => (T.keyAtRank h r).trans (U.keyAtRank h' r)
  addWithCount := fun ⟨_, h, h'⟩ i hi c hc => ⟨_, T.addWithCount h i hi.1 c hc, U.addWithCount h' i hi.2 c hc⟩
  add := fun ⟨_, h, h'⟩ i hi => ⟨_, T.add h i hi.1, U.add h' i hi.2⟩
  clear := fun ⟨_, h, h'⟩ => ⟨_, T.clear h, U.clear h'⟩
  copy := fun ⟨_, h, h'⟩ => ⟨_, T.copy h, U.copy h'⟩
  mergeWith := fun ⟨_, h, h'⟩ ⟨_, k, k'⟩ => ⟨_, T.mergeWith h k, U.mergeWith h' k'⟩
  reweight := fun ⟨_, h, h'⟩ w =>
    ⟨(T.reweight h w).1.trans (U.reweight h' w).1, _, (T.reweight h w).2, (U.reweight h' w).2⟩

end DDS.GenStoreSim
