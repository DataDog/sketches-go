/-
  DDS.Proofs.Wire — the transcribed decoder loop `Sketch.decodeLoop` of `DDS.Model.Sketch` against the
  block format (`DDS.Proofs.WireFormat`).  What the documentation says one block does to a sketch is
  `applyBlock`.  The loop is opened one iteration at a time by the step lemmas `loop_*`, stated on opaque
  bytes; on an encoded block an iteration is `applyBlock` (`decodeLoop_encBlock`), on a cut block an error
  (`decodeLoop_take_encBlock`).  On spec stores (`Sketch.IsSparse`) the fold `applyBlocks` yields the
  documentation content `interp`, a cut inside a block is refused after any number of complete blocks,
  and the loop never panics, on any bytes whose varfloats are finite.  Of the store decoder only the
  results of `DDS.Proofs.StoreParse` are used (`decodeStore_encPayload`, `decodeStore_take`,
  `decodeStore_good`).  Core Lean only.

  Proof style: see `DDS.Proofs.WireFormat` (no decoder is reduced on a symbolic encoder output).
-/
import DDS.Proofs.StoreParse

namespace DDS

open Codec

def Block.FiniteWeights : Block → Prop
  | .bins _ p => Sketch.FiniteBins (Wire.payloadBins p)
  | _ => True

/-- both stores are plain finite maps (the SPEC stratum) -/
def Sketch.IsSparse (s : Sketch) : Prop := (∃ c, s.pos = .sp c) ∧ (∃ c, s.neg = .sp c)

namespace Sketch
open Wire

/-! ## what a block does to the receiving sketch -/

/-- the effect of a mapping block on the sketch -/
def mapResult (s : Sketch) (sub g o : Nat) : Except SkErr Sketch :=
  match MapId.ofBlock sub g o with
  | .error .unknownMapping => .error .unknownMapping
  | .error .gammaTooSmall => .error .badGamma
  | .ok id =>
    match s.mapping with
    | some cur => if cur.equals id then .ok { s with mapping := some id } else .error .mismatch
    | none => .ok { s with mapping := some id }

theorem mapResult_ok {s s' : Sketch} {sub g o : Nat} (h : mapResult s sub g o = .ok s') :
    ∃ m, s' = { s with mapping := m } := by
  unfold mapResult at h
  split at h
  · cases h
  · cases h
  · split at h
    · split at h
      · exact ⟨_, (Except.ok.inj h).symm⟩
      · cases h
    · exact ⟨_, (Except.ok.inj h).symm⟩

/-- what the documentation says one block does to a sketch being decoded into
    (`none`: a store panics / a weight is not finite) -/
def applyBlock (s : Sketch) (aux : DecAux) : Block → Option (Except SkErr (Sketch × DecAux))
  | .zeroCount x => some (.ok ({ s with zero := F64.add s.zero (vfValue x) }, aux))
  | .count x =>
    some (.ok (s, { aux with stats := aux.stats.map (fun st => st.addToCount (vfValue x)) }))
  | .sum x =>
    some (.ok (s, { aux with stats := aux.stats.map (fun st => st.addToSum (F64.ofBits (UInt64.ofNat x))) }))
  | .min x =>
    some (.ok (s, { aux with stats := aux.stats.map (fun st => st.add (F64.ofBits (UInt64.ofNat x)) (.fin 0)) }))
  | .max x =>
    some (.ok (s, { aux with stats := aux.stats.map (fun st => st.add (F64.ofBits (UInt64.ofNat x)) (.fin 0)) }))
  | .mapping sub g o =>
    match mapResult s sub g o with
    | .error e => some (.error e)
    | .ok s' => some (.ok (s', aux))
  | .bins .pos p =>
    match addBins s.pos (payloadBins p) with
    | none => none
    | some st => some (.ok ({ s with pos := st }, aux))
  | .bins .neg p =>
    match addBins s.neg (payloadBins p) with
    | none => none
    | some st => some (.ok ({ s with neg := st }, aux))

def applyBlocks : Sketch → DecAux → List Block → Option (Except SkErr (Sketch × DecAux))
  | s, aux, [] => some (.ok (s, aux))
  | s, aux, b :: bs =>
    match applyBlock s aux b with
    | none => none
    | some (.error e) => some (.error e)
    | some (.ok r) => applyBlocks r.1 r.2 bs

def andThen (r : Option (Except SkErr (Sketch × DecAux)))
    (k : Sketch → DecAux → Option (Except SkErr (Sketch × DecAux))) :
    Option (Except SkErr (Sketch × DecAux)) :=
  match r with
  | none => none
  | some (.error e) => some (.error e)
  | some (.ok r) => k r.1 r.2

def getSide (s : Sketch) : Side → Store
  | .pos => s.pos
  | .neg => s.neg

def setSide (s : Sketch) : Side → Store → Sketch
  | .pos, st => { s with pos := st }
  | .neg, st => { s with neg := st }

theorem getSide_setSide (s : Sketch) (side : Side) (st : Store) :
    getSide (setSide s side st) side = st := by cases side <;> rfl

theorem setSide_setSide (s : Sketch) (side : Side) (st st' : Store) :
    setSide (setSide s side st) side st' = setSide s side st' := by cases side <;> rfl

theorem applyBlock_bins (s : Sketch) (aux : DecAux) (side : Side)
    (p : BinsPayload) :
    applyBlock s aux (.bins side p) =
      (match addBins (getSide s side) (payloadBins p) with
       | none => none
       | some st => some (.ok (setSide s side st, aux))) := by
  cases side <;> rfl

/-! ## the transcribed loop, one iteration at a time -/

theorem decodeLoop_nil (n : Nat) (s : Sketch) (aux : DecAux) :
    decodeLoop n s aux [] = some (.ok (s, aux)) := by cases n <;> rfl

theorem loop_pos (n : Nat) (s : Sketch) (aux : DecAux) (f : Nat) (bs : Bytes)
    (ht : flagType f = Consts.flagTypePositiveStore) :
    decodeLoop (n + 1) s aux (f :: bs) =
      (match decodeStore s.pos (flagSub f) bs with
       | none => none
       | some (.error e) => some (.error e)
       | some (.ok (p, bs)) => decodeLoop n { s with pos := p } aux bs) := by
  show (if flagType f = Consts.flagTypePositiveStore then _ else _) = _
  rw [if_pos ht]
  rfl

theorem loop_neg (n : Nat) (s : Sketch) (aux : DecAux) (f : Nat) (bs : Bytes)
    (ht : flagType f = Consts.flagTypeNegativeStore) :
    decodeLoop (n + 1) s aux (f :: bs) =
      (match decodeStore s.neg (flagSub f) bs with
       | none => none
       | some (.error e) => some (.error e)
       | some (.ok (p, bs)) => decodeLoop n { s with neg := p } aux bs) := by
  show (if flagType f = _ then _ else if flagType f = _ then _ else _) = _
  rw [ht, if_neg negType_ne, if_pos rfl]
  rfl

theorem loop_side (side : Side) (n : Nat) (s : Sketch) (aux : DecAux) (f : Nat) (bs : Bytes)
    (ht : flagType f = sideType side) :
    decodeLoop (n + 1) s aux (f :: bs) =
      (match decodeStore (getSide s side) (flagSub f) bs with
       | none => none
       | some (.error e) => some (.error e)
       | some (.ok (p, bs)) => decodeLoop n (setSide s side p) aux bs) := by
  cases side
  · exact loop_pos n s aux f bs ht
  · exact loop_neg n s aux f bs ht

/-- the sub-flags `mapping.Decode` knows -/
def KnownMapping (sub : Nat) : Prop :=
  sub = Consts.subFlagIndexMappingBaseLogarithmic ∨ sub = Consts.subFlagIndexMappingBaseLinear ∨
    sub = Consts.subFlagIndexMappingBaseCubic

instance (sub : Nat) : Decidable (KnownMapping sub) := by unfold KnownMapping; infer_instance

theorem loop_map (n : Nat) (s : Sketch) (aux : DecAux) (f : Nat) (bs : Bytes)
    (ht : flagType f = Consts.flagTypeIndexMapping) :
    decodeLoop (n + 1) s aux (f :: bs) =
      (match Sketch.liftDec (Codec.decF64LE bs) with
      | .error e => some (.error (if KnownMapping (flagSub f) then e else .unknownMapping))
      | .ok (g, bs1) =>
        if ¬ KnownMapping (flagSub f) then some (.error .unknownMapping)
        else match Sketch.liftDec (Codec.decF64LE bs1) with
        | .error e => some (.error e)
        | .ok (o, bs2) =>
          match MapId.ofBlock (flagSub f) g o with
          | .error .unknownMapping => some (.error .unknownMapping)
          | .error .gammaTooSmall => some (.error .badGamma)
          | .ok id =>
            match s.mapping with
            | some cur => if cur.equals id then decodeLoop n { s with mapping := some id } aux bs2 else some (.error .mismatch)
            | none => decodeLoop n { s with mapping := some id } aux bs2) := by
  show (if flagType f = _ then _ else if flagType f = _ then _
    else if flagType f = _ then _ else _) = _
  rw [ht, if_neg mappingType_ne.1, if_neg mappingType_ne.2, if_pos rfl]
  rfl

theorem ofBlock_unknown (sub g o : Nat) (h : ¬ KnownMapping sub) :
    MapId.ofBlock sub g o = .error .unknownMapping := by
  unfold KnownMapping at h
  simp only [not_or] at h
  simp only [MapId.ofBlock, if_neg h.1, if_neg h.2.1, if_neg h.2.2]

def zeroFlag : Nat := mkFlag Consts.flagTypeSketchFeatures Consts.subFlagZeroCountVarFloat

theorem loop_zero (n : Nat) (s : Sketch) (aux : DecAux) (bs : Bytes) :
    decodeLoop (n + 1) s aux (zeroFlag :: bs) =
      (match Sketch.liftDec (Codec.decVarfloat64 bs) with
       | .error e => some (.error e)
       | .ok (z, bs) => decodeLoop n { s with zero := F64.add s.zero z } aux bs) := rfl

theorem loop_fallback (n : Nat) (s : Sketch) (aux : DecAux) (f : Nat) (bs : Bytes)
    (ht : flagType f = Consts.flagTypeSketchFeatures) (hz : f ≠ zeroFlag) :
    decodeLoop (n + 1) s aux (f :: bs) =
      (match fallback aux f bs with
       | .error e => some (.error e)
       | .ok (aux, bs) => decodeLoop n s aux bs) := by
  show (if flagType f = _ then _ else if flagType f = _ then _
    else if flagType f = _ then _ else if f = zeroFlag then _ else _) = _
  rw [ht, if_neg featuresType_ne.1, if_neg featuresType_ne.2.1,
    if_neg featuresType_ne.2.2, if_neg hz]
  rfl

def countFlag : Nat := mkFlag Consts.flagTypeSketchFeatures Consts.subFlagCount
def sumFlag : Nat := mkFlag Consts.flagTypeSketchFeatures Consts.subFlagSum
def minFlag : Nat := mkFlag Consts.flagTypeSketchFeatures Consts.subFlagMin
def maxFlag : Nat := mkFlag Consts.flagTypeSketchFeatures Consts.subFlagMax

theorem fallback_count (aux : DecAux) (bs : Bytes) : fallback aux countFlag bs =
    (match Sketch.liftDec (Codec.decVarfloat64 bs) with
     | .error e => .error e
     | .ok (c, bs) => .ok ({ aux with stats := aux.stats.map (fun st => st.addToCount c) }, bs)) := rfl

theorem fallback_sum (aux : DecAux) (bs : Bytes) : fallback aux sumFlag bs =
    (match Sketch.liftDec (Codec.decF64LE bs) with
     | .error e => .error e
     | .ok (b, bs) => .ok ({ aux with stats := aux.stats.map (fun st => st.addToSum (F64.ofBits (UInt64.ofNat b))) }, bs)) := rfl

theorem fallback_min (aux : DecAux) (bs : Bytes) : fallback aux minFlag bs =
    (match Sketch.liftDec (Codec.decF64LE bs) with
     | .error e => .error e
     | .ok (b, bs) => .ok ({ aux with stats := aux.stats.map (fun st => st.add (F64.ofBits (UInt64.ofNat b)) (.fin 0)) }, bs)) := rfl

theorem fallback_max (aux : DecAux) (bs : Bytes) : fallback aux maxFlag bs =
    (match Sketch.liftDec (Codec.decF64LE bs) with
     | .error e => .error e
     | .ok (b, bs) => .ok ({ aux with stats := aux.stats.map (fun st => st.add (F64.ofBits (UInt64.ofNat b)) (.fin 0)) }, bs)) := rfl

theorem stat_flags : (flagType countFlag = Consts.flagTypeSketchFeatures ∧ countFlag ≠ zeroFlag) ∧
    (flagType sumFlag = Consts.flagTypeSketchFeatures ∧ sumFlag ≠ zeroFlag) ∧
    (flagType minFlag = Consts.flagTypeSketchFeatures ∧ minFlag ≠ zeroFlag) ∧
    (flagType maxFlag = Consts.flagTypeSketchFeatures ∧ maxFlag ≠ zeroFlag) := by decide +kernel

theorem fallback_suffix (aux aux' : DecAux) (f : Nat) (bs bs' : Bytes)
    (h : fallback aux f bs = .ok (aux', bs')) : bs' <:+ bs := by
  unfold fallback at h
  simp only at h
  by_cases c0 : flagType f ≠ Consts.flagTypeSketchFeatures
  · rw [if_pos c0] at h; cases h
  rw [if_neg c0] at h
  by_cases c1 : flagSub f = Consts.subFlagCount
  · rw [if_pos c1] at h
    cases h1 : Sketch.liftDec (decVarfloat64 bs) with
    | error e => rw [h1] at h; cases h
    | ok r => rw [h1] at h; cases h; exact varfloat_suffix _ _ _ (liftDec_ok_inv _ _ h1)
  rw [if_neg c1] at h
  have key : ∀ g : Nat → DecAux,
      (match Sketch.liftDec (decF64LE bs) with
        | .error e => .error e
        | .ok (b, bs) => .ok (g b, bs)) = Except.ok (aux', bs') → bs' <:+ bs := by
    intro g h
    cases h1 : Sketch.liftDec (decF64LE bs) with
    | error e => rw [h1] at h; cases h
    | ok r => rw [h1] at h; cases h; exact f64le_suffix _ _ _ (liftDec_ok_inv _ _ h1)
  by_cases c2 : flagSub f = Consts.subFlagSum
  · rw [if_pos c2] at h; exact key _ h
  rw [if_neg c2] at h
  by_cases c3 : flagSub f = Consts.subFlagMin ∨ flagSub f = Consts.subFlagMax
  · rw [if_pos c3] at h; exact key _ h
  · rw [if_neg c3] at h; cases h

/-! ## the loop on encoded blocks -/

theorem encBlock_zeroCount (x : Nat) : encBlock (.zeroCount x) = zeroFlag :: encVarfloatBits x := rfl
theorem encBlock_count (x : Nat) : encBlock (.count x) = countFlag :: encVarfloatBits x := rfl
theorem encBlock_sum (x : Nat) : encBlock (.sum x) = sumFlag :: encF64LE x := rfl
theorem encBlock_min (x : Nat) : encBlock (.min x) = minFlag :: encF64LE x := rfl
theorem encBlock_max (x : Nat) : encBlock (.max x) = maxFlag :: encF64LE x := rfl
theorem encBlock_mapping (sub g o : Nat) : encBlock (.mapping sub g o) =
    mkFlag Consts.flagTypeIndexMapping sub :: (encF64LE g ++ encF64LE o) := rfl
theorem encBlock_bins_pos (p : BinsPayload) : encBlock (.bins .pos p) =
    mkFlag Consts.flagTypePositiveStore (payloadSub p) :: encPayload p := rfl
theorem encBlock_bins_neg (p : BinsPayload) : encBlock (.bins .neg p) =
    mkFlag Consts.flagTypeNegativeStore (payloadSub p) :: encPayload p := rfl

theorem decodeLoop_encBlock (b : Block) (hb : b.WF) (n : Nat) (s : Sketch) (aux : DecAux)
    (tail : Bytes) :
    decodeLoop (n + 1) s aux (encBlock b ++ tail) =
      andThen (applyBlock s aux b) (fun s' aux' => decodeLoop n s' aux' tail) := by
  obtain ⟨⟨c1, c2⟩, ⟨s1, s2⟩, ⟨m1, m2⟩, ⟨x1, x2⟩⟩ := stat_flags
  cases b with
  | zeroCount x =>
    rw [encBlock_zeroCount, List.cons_append, loop_zero, (reads_varfloat64 x hb).skLift.full]
    rfl
  | count x =>
    rw [encBlock_count, List.cons_append, loop_fallback _ _ _ _ _ c1 c2, fallback_count,
      (reads_varfloat64 x hb).skLift.full]
    rfl
  | sum x =>
    rw [encBlock_sum, List.cons_append, loop_fallback _ _ _ _ _ s1 s2, fallback_sum,
      (reads_f64le x hb).skLift.full]
    rfl
  | min x =>
    rw [encBlock_min, List.cons_append, loop_fallback _ _ _ _ _ m1 m2, fallback_min,
      (reads_f64le x hb).skLift.full]
    rfl
  | max x =>
    rw [encBlock_max, List.cons_append, loop_fallback _ _ _ _ _ x1 x2, fallback_max,
      (reads_f64le x hb).skLift.full]
    rfl
  | mapping sub g o =>
    obtain ⟨h1, h2⟩ := flag_mk Consts.flagTypeIndexMapping sub (by decide)
    rw [encBlock_mapping, List.cons_append, List.append_assoc, loop_map _ _ _ _ _ h1, h2,
      (reads_f64le g hb.2.1).skLift.full]
    by_cases hk : KnownMapping sub
    · simp only [hk, not_true_eq_false, if_false, (reads_f64le o hb.2.2).skLift.full, applyBlock,
        mapResult]
      cases MapId.ofBlock sub g o with
      | error e => cases e <;> rfl
      | ok id =>
        cases s.mapping with
        | none => rfl
        | some cur => simp only; split <;> rfl
    · simp only [hk, not_false_eq_true, if_true, applyBlock, mapResult, ofBlock_unknown sub g o hk]
      rfl
  | bins side p =>
    obtain ⟨h1, h2⟩ := flag_mk _ (payloadSub p) (sideType_lt side)
    rw [encBlock, List.cons_append, loop_side side _ _ _ _ _ h1, h2,
      decodeStore_encPayload _ p hb, applyBlock_bins]
    cases addBins (getSide s side) (payloadBins p) <;> rfl

theorem lt_of_succ_lt_cons_length {x : Nat} {l : Bytes} {k : Nat} (h : k + 1 < (x :: l).length) :
    k < l.length := Nat.lt_of_succ_lt_succ h

theorem decodeLoop_take_encBlock (b : Block) (hb : b.WF) (n : Nat) (s : Sketch) (aux : DecAux)
    (k : Nat) (h0 : 0 < k) (hk : k < (encBlock b).length) (hsafe : applyBlock s aux b ≠ none) :
    ∃ e, decodeLoop (n + 1) s aux ((encBlock b).take k) = some (.error e) := by
  obtain ⟨⟨c1, c2⟩, ⟨s1, s2⟩, ⟨m1, m2⟩, ⟨x1, x2⟩⟩ := stat_flags
  obtain ⟨k, rfl⟩ := Nat.exists_eq_succ_of_ne_zero (Nat.ne_of_gt h0)
  cases b with
  | zeroCount x =>
    rw [encBlock_zeroCount] at hk ⊢
    replace hk := lt_of_succ_lt_cons_length hk
    rw [List.take_succ_cons, loop_zero,
      (reads_varfloat64 x hb).skLift.cut k hk]
    exact ⟨_, rfl⟩
  | count x =>
    rw [encBlock_count] at hk ⊢
    replace hk := lt_of_succ_lt_cons_length hk
    rw [List.take_succ_cons, loop_fallback _ _ _ _ _ c1 c2, fallback_count,
      (reads_varfloat64 x hb).skLift.cut k hk]
    exact ⟨_, rfl⟩
  | sum x =>
    rw [encBlock_sum] at hk ⊢
    replace hk := lt_of_succ_lt_cons_length hk
    rw [List.take_succ_cons, loop_fallback _ _ _ _ _ s1 s2, fallback_sum,
      (reads_f64le x hb).skLift.cut k hk]
    exact ⟨_, rfl⟩
  | min x =>
    rw [encBlock_min] at hk ⊢
    replace hk := lt_of_succ_lt_cons_length hk
    rw [List.take_succ_cons, loop_fallback _ _ _ _ _ m1 m2, fallback_min,
      (reads_f64le x hb).skLift.cut k hk]
    exact ⟨_, rfl⟩
  | max x =>
    rw [encBlock_max] at hk ⊢
    replace hk := lt_of_succ_lt_cons_length hk
    rw [List.take_succ_cons, loop_fallback _ _ _ _ _ x1 x2, fallback_max,
      (reads_f64le x hb).skLift.cut k hk]
    exact ⟨_, rfl⟩
  | mapping sub g o =>
    obtain ⟨h1, h2⟩ := flag_mk Consts.flagTypeIndexMapping sub (by decide)
    rw [encBlock_mapping] at hk ⊢
    replace hk := lt_of_succ_lt_cons_length hk
    rw [List.take_succ_cons, loop_map _ _ _ _ _ h1, h2]
    rcases take_append_cases _ _ k hk with ⟨k1, k2⟩ | ⟨m, k1, _, k2⟩
    · rw [k2, (reads_f64le g hb.2.1).skLift.cut k k1]
      exact ⟨_, rfl⟩
    · rw [k2, (reads_f64le g hb.2.1).skLift.full]
      by_cases hkn : KnownMapping sub
      · simp only [hkn, not_true_eq_false, if_false, (reads_f64le o hb.2.2).skLift.cut m k1]
        exact ⟨_, rfl⟩
      · simp only [hkn, not_false_eq_true, if_true]
        exact ⟨_, rfl⟩
  | bins side p =>
    obtain ⟨h1, h2⟩ := flag_mk _ (payloadSub p) (sideType_lt side)
    rw [applyBlock_bins] at hsafe
    rw [encBlock] at hk ⊢
    replace hk := lt_of_succ_lt_cons_length hk
    rw [List.take_succ_cons, loop_side side _ _ _ _ _ h1, h2,
      decodeStore_take _ p hb (fun h => hsafe (by rw [h])) k hk]
    exact ⟨_, rfl⟩

theorem decodeLoop_encBlocks_append (bs : List Block) (h : ∀ b ∈ bs, b.WF) (tail : Bytes) (n : Nat)
    (s : Sketch) (aux : DecAux) :
    decodeLoop (n + bs.length) s aux (encBlocks bs ++ tail) =
      andThen (applyBlocks s aux bs) (fun s' aux' => decodeLoop n s' aux' tail) := by
  induction bs generalizing s aux with
  | nil => rfl
  | cons b bs ih =>
    rw [encBlocks_cons, List.append_assoc, List.length_cons, ← Nat.add_assoc,
      decodeLoop_encBlock b (h b (List.mem_cons_self ..)), applyBlocks]
    cases applyBlock s aux b with
    | none => rfl
    | some r =>
      cases r with
      | error e => rfl
      | ok r => exact ih (fun c hc => h c (List.mem_cons_of_mem _ hc)) r.1 r.2

theorem decodeLoop_encBlocks (bs : List Block) (h : ∀ b ∈ bs, b.WF) (fuel : Nat)
    (hf : bs.length ≤ fuel) (s : Sketch) (aux : DecAux) :
    decodeLoop fuel s aux (encBlocks bs) = applyBlocks s aux bs := by
  have := decodeLoop_encBlocks_append bs h [] (fuel - bs.length) s aux
  rw [Nat.sub_add_cancel hf, List.append_nil] at this
  rw [this]
  cases applyBlocks s aux bs with
  | none => rfl
  | some r =>
    cases r with
    | error e => rfl
    | ok r => exact decodeLoop_nil _ _ _

/-! ## spec stores: the fold in terms of `interp`, cuts are refused -/

theorem isSparse_spec (m : Option MapId) (cp cn : Content) (z : F64) :
    ({ mapping := m, pos := .sp cp, neg := .sp cn, zero := z } : Sketch).IsSparse :=
  ⟨⟨cp, rfl⟩, ⟨cn, rfl⟩⟩

theorem IsSparse.of_addBins {s s' : Sketch} {lp ln : List (Int × F64)} (hs : s.IsSparse)
    (hp : addBins s.pos lp = some s'.pos) (hn : addBins s.neg ln = some s'.neg) : s'.IsSparse := by
  obtain ⟨⟨cp, hcp⟩, ⟨cn, hcn⟩⟩ := hs
  rw [hcp] at hp
  rw [hcn] at hn
  exact ⟨sp_of_addBins hp, sp_of_addBins hn⟩

theorem applyBlock_interp (s s1 : Sketch) (aux aux1 : DecAux) (b : Block)
    (h : applyBlock s aux b = some (.ok (s1, aux1))) :
    s1.zero = (zeroIncrements [b]).foldl F64.add s.zero ∧
    addBins s.pos (interp [b]).pos = some s1.pos ∧
    addBins s.neg (interp [b]).neg = some s1.neg := by
  cases b with
  | mapping sub g o =>
    simp only [applyBlock] at h
    cases hm : mapResult s sub g o with
    | error e => rw [hm] at h; cases h
    | ok s2 =>
      rw [hm] at h
      cases h
      obtain ⟨m, rfl⟩ := mapResult_ok hm
      exact ⟨rfl, rfl, rfl⟩
  | bins side p =>
    rw [applyBlock_bins] at h
    cases ha : addBins (getSide s side) (payloadBins p) with
    | none => rw [ha] at h; cases h
    | some st =>
      rw [ha] at h
      cases h
      cases side
      · exact ⟨rfl, ha, rfl⟩
      · exact ⟨rfl, rfl, ha⟩
  | _ =>
    cases h
    exact ⟨rfl, rfl, rfl⟩

theorem applyBlocks_interp (bs : List Block) (s s' : Sketch) (aux aux' : DecAux)
    (h : applyBlocks s aux bs = some (.ok (s', aux'))) :
    s'.zero = (zeroIncrements bs).foldl F64.add s.zero ∧
    addBins s.pos (interp bs).pos = some s'.pos ∧
    addBins s.neg (interp bs).neg = some s'.neg := by
  induction bs generalizing s aux with
  | nil =>
    cases h
    exact ⟨rfl, rfl, rfl⟩
  | cons b bs ih =>
    rw [applyBlocks] at h
    cases hab : applyBlock s aux b with
    | none => rw [hab] at h; cases h
    | some r =>
      cases r with
      | error e => rw [hab] at h; cases h
      | ok r =>
        rw [hab] at h
        obtain ⟨a1, a2, a3⟩ := applyBlock_interp s r.1 aux r.2 b hab
        obtain ⟨b1, b2, b3⟩ := ih r.1 r.2 h
        obtain ⟨c0, c1, c2, _⟩ := interp_append [b] bs
        refine ⟨?_, ?_, ?_⟩
        · rw [b1, a1, ← List.foldl_append]
          congr 1
          cases b <;> rfl
        · rw [List.singleton_append] at c1
          rw [c1, addBins_append, a2]; exact b2
        · rw [List.singleton_append] at c2
          rw [c2, addBins_append, a3]; exact b3

/-- decoding into an EMPTY spec sketch yields exactly the documentation content -/
theorem applyBlocks_interp_empty (bs : List Block) (m : Option MapId) (s' : Sketch)
    (aux aux' : DecAux)
    (h : applyBlocks { mapping := m, pos := .sp [], neg := .sp [], zero := .fin 0 } aux bs
      = some (.ok (s', aux'))) :
    s'.zero = (interp bs).zero ∧
    (∃ cp, contentOf (interp bs).pos = some cp ∧ s'.pos = .sp cp) ∧
    (∃ cn, contentOf (interp bs).neg = some cn ∧ s'.neg = .sp cn) := by
  obtain ⟨h1, h2, h3⟩ := applyBlocks_interp bs _ s' aux aux' h
  rw [addBins_sp] at h2 h3
  obtain ⟨cp, hp, hp'⟩ := Option.map_eq_some_iff.1 h2
  obtain ⟨cn, hn, hn'⟩ := Option.map_eq_some_iff.1 h3
  exact ⟨by rw [h1, interp_zero], ⟨cp, hp, hp'.symm⟩, ⟨cn, hn, hn'.symm⟩⟩

theorem applyBlock_spec (s : Sketch) (aux : DecAux) (b : Block) (hs : s.IsSparse)
    (hb : b.FiniteWeights) :
    applyBlock s aux b ≠ none ∧
      ∀ s' aux', applyBlock s aux b = some (.ok (s', aux')) → s'.IsSparse := by
  refine ⟨?_, fun s' aux' h => ?_⟩
  · cases b with
    | mapping sub g o =>
      simp only [applyBlock]
      cases mapResult s sub g o <;> exact Option.some_ne_none _
    | bins side p =>
      obtain ⟨c, hc⟩ : ∃ c, getSide s side = .sp c := by cases side; exact hs.1; exact hs.2
      obtain ⟨c', h'⟩ := addBins_sp_finite c _ hb
      rw [applyBlock_bins, hc, h']
      exact Option.some_ne_none _
    | _ => exact Option.some_ne_none _
  · obtain ⟨_, hp, hn⟩ := applyBlock_interp s s' aux aux' b h
    exact hs.of_addBins hp hn

theorem applyBlocks_spec (bs : List Block) (hb : ∀ b ∈ bs, b.FiniteWeights) (s : Sketch)
    (aux : DecAux) (hs : s.IsSparse) :
    applyBlocks s aux bs ≠ none ∧
      ∀ s' aux', applyBlocks s aux bs = some (.ok (s', aux')) → s'.IsSparse := by
  refine ⟨?_, fun s' aux' h => ?_⟩
  · induction bs generalizing s aux with
    | nil => exact Option.some_ne_none _
    | cons b bs ih =>
      obtain ⟨h1, h2⟩ := applyBlock_spec s aux b hs (hb b (List.mem_cons_self ..))
      rw [applyBlocks]
      cases hab : applyBlock s aux b with
      | none => exact absurd hab h1
      | some r =>
        cases r with
        | error e => exact Option.some_ne_none _
        | ok r => exact ih (fun c hc => hb c (List.mem_cons_of_mem _ hc)) r.1 r.2 (h2 r.1 r.2 hab)
  · obtain ⟨_, hp, hn⟩ := applyBlocks_interp bs s s' aux aux' h
    exact hs.of_addBins hp hn

/-- a cut strictly inside a block, after any number of complete blocks, is always refused
    (whatever the fuel left for the cut block, as long as there is some) -/
theorem decodeLoop_cut_inside (pre : List Block) (hpre : ∀ b ∈ pre, b.WF)
    (hfin : ∀ b ∈ pre, b.FiniteWeights) (b : Block) (hb : b.WF) (hbf : b.FiniteWeights)
    (k : Nat) (h0 : 0 < k) (hk : k < (encBlock b).length) (n : Nat) (s : Sketch) (aux : DecAux)
    (hs : s.IsSparse) :
    ∃ e, decodeLoop (n + 1 + pre.length) s aux (encBlocks pre ++ (encBlock b).take k)
      = some (.error e) := by
  rw [decodeLoop_encBlocks_append pre hpre]
  obtain ⟨h1, h2⟩ := applyBlocks_spec pre hfin s aux hs
  cases hab : applyBlocks s aux pre with
  | none => exact absurd hab h1
  | some r =>
    cases r with
    | error e => exact ⟨e, rfl⟩
    | ok r =>
      exact decodeLoop_take_encBlock b hb n r.1 r.2 k h0 hk
        (applyBlock_spec r.1 r.2 b (h2 r.1 r.2 hab) hbf).1

theorem decodeAndMergeWith_cut_inside (pre : List Block) (hpre : ∀ b ∈ pre, b.WF)
    (hfin : ∀ b ∈ pre, b.FiniteWeights) (b : Block) (hb : b.WF) (hbf : b.FiniteWeights)
    (k : Nat) (h0 : 0 < k) (hk : k < (encBlock b).length) (s : Sketch) (hs : s.IsSparse) :
    ∃ e, decodeAndMergeWith s (encBlocks pre ++ (encBlock b).take k) = some (.error e) := by
  obtain ⟨d, hd⟩ := Nat.exists_eq_add_of_le (encBlocks_length_ge pre)
  obtain ⟨e, he⟩ := decodeLoop_cut_inside pre hpre hfin b hb hbf k h0 hk (d + k) s
    { stats := none } hs
  refine ⟨e, ?_⟩
  unfold decodeAndMergeWith
  rw [List.length_append, List.length_take_of_le (Nat.le_of_lt hk), hd,
    show pre.length + d + k + 1 = d + k + 1 + pre.length by omega, he]

/-- an encoded stream of finite weights, cut anywhere, never makes the decoder panic -/
theorem decodeLoop_encoded_take_ne_none (bs : List Block) (h : ∀ b ∈ bs, b.WF)
    (hfin : ∀ b ∈ bs, b.FiniteWeights) (k : Nat) (hk : k ≤ (encBlocks bs).length) (fuel : Nat)
    (hfuel : k < fuel) (s : Sketch) (aux : DecAux) (hs : s.IsSparse) :
    (∃ j, k = (encBlocks (bs.take j)).length ∧
        decodeLoop fuel s aux ((encBlocks bs).take k) = applyBlocks s aux (bs.take j) ∧
        applyBlocks s aux (bs.take j) ≠ none)
    ∨ ∃ e, decodeLoop fuel s aux ((encBlocks bs).take k) = some (.error e) := by
  obtain ⟨j, _, ⟨h1, h2⟩ | ⟨b, k', hb, h1, h2, h3⟩⟩ := encBlocks_take bs k hk
  all_goals
    have hwf : ∀ b ∈ bs.take j, b.WF := fun b hb => h b (List.mem_of_mem_take hb)
    have hf : ∀ b ∈ bs.take j, b.FiniteWeights := fun b hb => hfin b (List.mem_of_mem_take hb)
    have hl := encBlocks_length_ge (bs.take j)
  · refine .inl ⟨j, h1, ?_, (applyBlocks_spec _ hf s aux hs).1⟩
    rw [h2]
    exact decodeLoop_encBlocks _ hwf fuel (by omega) s aux
  · have hlen := congrArg List.length h3
    rw [List.length_take_of_le hk, List.length_append, List.length_take_of_le (Nat.le_of_lt h2)]
      at hlen
    obtain ⟨e, he⟩ := decodeLoop_cut_inside (bs.take j) hwf hf b (h b hb) (hfin b hb) k' h1 h2
      (fuel - 1 - (bs.take j).length) s aux hs
    refine .inr ⟨e, ?_⟩
    rw [h3, ← he]
    congr 1
    omega

/-! ## spec stores: the loop never panics, on any bytes -/

/-- on spec stores the decoder loop never panics and never runs out of fuel, on ANY input in which
    every readable varfloat is finite -/
theorem decodeLoop_total_spec (fuel : Nat) (bytes : Bytes) (s : Sketch) (aux : DecAux)
    (hl : bytes.length ≤ fuel) (hs : s.IsSparse) (hf : FiniteVarfloats bytes) :
    decodeLoop fuel s aux bytes ≠ none := by
  induction fuel generalizing bytes s aux with
  | zero =>
    rw [List.eq_nil_of_length_eq_zero (Nat.le_zero.1 hl), decodeLoop_nil]
    exact Option.some_ne_none _
  | succ n ih =>
    cases bytes with
    | nil => rw [decodeLoop_nil]; exact Option.some_ne_none _
    | cons f bs =>
      have hf' : FiniteVarfloats bs := hf.suffix (List.suffix_cons f bs)
      -- every branch either refuses or goes on with a spec sketch on a suffix of `bs`
      have next : ∀ (s' : Sketch) (aux' : DecAux) (bs' : Bytes), s'.IsSparse → bs' <:+ bs →
          decodeLoop n s' aux' bs' ≠ none := fun s' aux' bs' h1 h2 =>
        ih bs' s' aux' (Nat.le_trans h2.length_le (Nat.le_of_succ_le_succ hl)) h1 (hf'.suffix h2)
      have side : ∀ side, flagType f = sideType side →
          decodeLoop (n + 1) s aux (f :: bs) ≠ none := by
        intro side ht
        obtain ⟨c, hc⟩ : ∃ c, getSide s side = .sp c := by cases side; exact hs.1; exact hs.2
        obtain ⟨g1, g2⟩ := decodeStore_good c (flagSub f) bs hf'
        rw [loop_side side n s aux f bs ht, hc]
        cases hd : decodeStore (.sp c) (flagSub f) bs with
        | none => exact absurd hd g1
        | some r =>
          cases r with
          | error e => exact Option.some_ne_none _
          | ok r =>
            obtain ⟨⟨c', hc'⟩, hsuf⟩ := g2 r.1 r.2 hd
            refine next _ _ _ ?_ hsuf
            rw [hc']
            cases side
            · exact ⟨⟨c', rfl⟩, hs.2⟩
            · exact ⟨hs.1, ⟨c', rfl⟩⟩
      rcases flagType_cases f with ht | ht | ht | ht
      · exact side .pos ht
      · exact side .neg ht
      · rw [loop_map n s aux f bs ht]
        cases h1 : Sketch.liftDec (decF64LE bs) with
        | error e => exact Option.some_ne_none _
        | ok r1 =>
          have s1 := f64le_suffix _ _ _ (liftDec_ok_inv _ _ h1)
          simp only
          split
          · exact Option.some_ne_none _
          cases h2 : Sketch.liftDec (decF64LE r1.2) with
          | error e => exact Option.some_ne_none _
          | ok r2 =>
            have s2 := (f64le_suffix _ _ _ (liftDec_ok_inv _ _ h2)).trans s1
            simp only
            cases MapId.ofBlock (flagSub f) r1.1 r2.1 with
            | error e => cases e <;> exact Option.some_ne_none _
            | ok id =>
              simp only
              cases s.mapping with
              | none => exact next _ _ _ hs s2
              | some cur =>
                simp only
                split
                · exact next _ _ _ hs s2
                · exact Option.some_ne_none _
      · by_cases hz : f = zeroFlag
        · subst hz
          rw [loop_zero]
          cases h1 : Sketch.liftDec (decVarfloat64 bs) with
          | error e => exact Option.some_ne_none _
          | ok r1 => exact next _ _ _ hs (varfloat_suffix _ _ _ (liftDec_ok_inv _ _ h1))
        · rw [loop_fallback n s aux f bs ht hz]
          cases h1 : fallback aux f bs with
          | error e => exact Option.some_ne_none _
          | ok r1 => exact next _ _ _ hs (fallback_suffix _ _ _ _ _ h1)

theorem decodeAndMergeWith_total_spec (s : Sketch) (hs : s.IsSparse) (bytes : Bytes)
    (hf : FiniteVarfloats bytes) : decodeAndMergeWith s bytes ≠ none := by
  have := decodeLoop_total_spec (bytes.length + 1) bytes s { stats := none } (Nat.le_succ _) hs hf
  unfold decodeAndMergeWith
  cases h : decodeLoop (bytes.length + 1) s { stats := none } bytes with
  | none => exact absurd h this
  | some r =>
    cases r with
    | error e => exact Option.some_ne_none _
    | ok r => simp only; split <;> exact Option.some_ne_none _

end Sketch
end DDS
