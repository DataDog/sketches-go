/-
  DDS.Proofs.GenPagSketch4 — continuation of `GenPagSketch{,2,3}.lean` (same namespace): the CHAIN
  encode (regenerated `DDSketch.Encode` over the regenerated buffered-paginated stores `GPS grow`) then decode
  (regenerated `DecodeDDSketch` with the provider `NewBufferedPaginatedStore`) for the default sketch, `M := MapEnv`.

  1. `GImg x` (the record is the image `toGen s cap` of a model store), `imageOf a` (the model-store sketch holding the
     images `.pg (ofGen x.g)` of the two regenerated stores), `skSim_image`.
     `Encode_same_bytes`: the regenerated `Encode` over `a` and over a `SkSim`-partner holding the IMAGES of the stores
     of `a` return THE SAME BYTES (the strengthening of `Encode_param`: there the partner was arbitrary and only
     the denotations agreed).
  2. `Encode_blocks`: under `PagOK` of the two images, `MapOK`, a finite zero count: `Encode` succeeds and appends
     `bn (encBlocks bl)` where `bl` are the blocks of the model's `Sketch.encode` of the image sketch
     (`RoundTrip.EncodesTo`: zero-count block, mapping block, positive bins, negative bins).
  3. `decode_of_encodesTo`, and in `Props/C06GenRoundTrip` `decode_encode_regenerated_of_goodRun`: the chain, with
     `GoodRun DecodeOK` for the appended bytes as a hypothesis.
     The decoded sketch `r` has the identity of the original mapping object and, with the original mapping OBJECT
     put back (`{ r with IndexMapping := a.IndexMapping }`; see below), is `SkSim`-related to the image of the
     original sketch: every observer answers alike (`observers_of_common_target`).
     MAPPING OBJECT: the instance `MapI MapEnv` decodes a mapping block into an object that carries the decoded
     IDENTITY only (`GenSketch.mapDecode`: the oracle functions of the result are defaults) — the oracle of a
     mapping is not part of the wire format.  Hence the statement compares after restoring the object; the
     identity (`.id`) of the decoded object is proved equal to the original one.
  4. TOWARDS `GoodRun` for the encoded bytes (NOT finished): `gps_decode_encPayload` (one encoded store block on a
     `Sim` pair under `DecodeOK`: nil error, remaining bytes exactly the tail, receivers related again), and one step
     lemma for each kind of block the regenerated `Encode` writes (`sketchBlocks`), the flag byte decoded symbolically
     (`decodeFlag_cons_ok`, `type_mkFlag`, `subFlag_mkFlag`):
       `goodRun_zeroFlag`, `goodRun_zero`       zero-count block: the loop takes the `FlagZeroCountVarFloat` branch;
                                                `GoodRun` after whatever `DecodeVarfloat64` returns with a nil error
                                                (the zero count added to the sketch's)
       `goodRun_mapping`                        mapping block (any `M`): `GoodRun` after whatever `MapI.Decode` returns
                                                with a nil error
       `goodRun_bins_pos`, `goodRun_bins_neg`   store block: `DecodeOK` of the block and `GoodRun` after it
       `goodRun_nil`                            end of the input: nothing is asked
     Still missing: the induction along `sketchBlocks`, carrying `DecodeOK` for the blocks of `pagBlocks` (deltas:
     `capOK_new`, `len(buffer) < 2^63`, buffer entries int32; contiguous: `2·32 ≤ 3·len + 51`, int32 indexes, decoded
     counts finite `≥ 0`; the two block-level statements are `decodeOK_deltas` in `GenPagSketch5` and
     `decodeOK_contiguous` in `GenPagSketch6`).

  Fuel: encoder `9 ≤ fuel`; decoder `len(out) + 9 ≤ fuel'`.
-/
import DDS.Proofs.GenPagSketch3
import DDS.Proofs.GenSketch4
import DDS.Proofs.GenSketch7
import DDS.Proofs.Lift3

namespace DDS.GenPagSketch

open DDS DDS.GoSem DDS.PStore DDS.GenPag DDS.Gen.Paginated DDS.Gen.Encoding DDS.Codec DDS.GenEncoding
open DDS.Gen.Sketch DDS.RoundTrip

variable {grow : Int → Int → Int}

/-! ### 1. the image of a regenerated sketch; the bytes of `Encode` -/

/-- the record is the image of some model store (true of every value the regenerated functions build from
    `NewBufferedPaginatedStore`) -/
def GImg (x : GPS grow) : Prop := ∃ (s : PStore) (cap : Int), x.g = toGen s cap

theorem gImg_new : GImg (⟨NewBufferedPaginatedStore⟩ : GPS grow) := ⟨PStore.new, 4, new_spec⟩

theorem sim_image {x : GPS grow} (h : GImg x) (hi : PStore.Inv (ofGen x.g)) : Sim x (.pg (ofGen x.g)) := by
  obtain ⟨s, cap, hx⟩ := h
  rw [hx, ofGen_toGen] at hi
  exact ⟨s, ofGen x.g, cap, hx, rfl, hi, by rw [hx, ofGen_toGen]; exact hi, by rw [hx, ofGen_toGen]⟩

section image

variable {M : Type} [MapI M] [Inhabited M]

/-- the model-store sketch holding the images of the two regenerated stores -/
def imageOf (a : DDSketch M (GPS grow)) : DDSketch M Store :=
  { IndexMapping := a.IndexMapping, positiveValueStore := .pg (ofGen a.positiveValueStore.g),
    negativeValueStore := .pg (ofGen a.negativeValueStore.g), zeroCount := a.zeroCount }

omit [MapI M] [Inhabited M] in
theorem skSim_image {a : DDSketch M (GPS grow)} (hp : GImg a.positiveValueStore) (hn : GImg a.negativeValueStore)
    (ip : PStore.Inv (ofGen a.positiveValueStore.g)) (inn : PStore.Inv (ofGen a.negativeValueStore.g)) :
    SkSim a (imageOf a) :=
  ⟨rfl, sim_image hp ip, sim_image hn inn, rfl⟩

/-- **`DDSketch.Encode` over the regenerated stores and over their images: the same bytes** -/
theorem Encode_same_bytes {a : DDSketch M (GPS grow)} {b : DDSketch M Store} (h : SkSim a b)
    (ep : b.positiveValueStore = .pg (ofGen a.positiveValueStore.g))
    (en : b.negativeValueStore = .pg (ofGen a.negativeValueStore.g))
    (hlp : (ofGen a.positiveValueStore.g).buffer.length < 2 ^ 64)
    (hln : (ofGen a.negativeValueStore.g).buffer.length < 2 ^ 64)
    (fuel : Nat) (buf : List (BitVec 8)) (om : Bool) :
    (∃ (a' : DDSketch M (GPS grow)) (b' : DDSketch M Store) (out : List (BitVec 8)),
      DDSketch.Encode fuel a buf om = .ok (a', out) ∧ DDSketch.Encode fuel b buf om = .ok (b', out) ∧
      SkSim a' b') ∨
    (DDSketch.Encode fuel a buf om = .panic ∧ DDSketch.Encode fuel b buf om = .panic) ∨
    (DDSketch.Encode fuel a buf om = .nofuel ∧ DDSketch.Encode fuel b buf om = .nofuel) := by
  rcases Encode_prefix a b h.map h.zero fuel buf om with ⟨b1, ea, eb⟩ | hp | hn
  · obtain ⟨sp, sp', cp, pl, pl', e1, e1', hG, hM, hS⟩ :=
      sim_encode h.pos .pos Gen.Encoding.FlagTypePositiveStore GenEncoding.FlagTypePositiveStore_side
        GenSketch.flagSide_pos b1 b1 hlp
    -- both sides encode the same model store: the same blocks
    rw [ep] at e1'
    cases e1.symm.trans e1'
    obtain ⟨sn, sn', cn, nl, nl', e2, e2', hG2, hM2, hS2⟩ :=
      sim_encode h.neg .neg Gen.Encoding.FlagTypeNegativeStore GenEncoding.FlagTypeNegativeStore_side
        GenSketch.flagSide_neg (b1 ++ bn (Wire.encBlocks pl)) (b1 ++ bn (Wire.encBlocks pl)) hln
    rw [en] at e2'
    cases e2.symm.trans e2'
    refine Or.inl ⟨(encStores a b1).1, (encStores b b1).1, b1 ++ bn (Wire.encBlocks pl) ++ bn (Wire.encBlocks nl),
      ea.trans ?_, eb.trans ?_, h.map, hS, ?_, h.zero⟩
    · simp only [encStores, hG, hG2]
    · simp only [encStores, hM, hM2]
    · simp only [encStores, hG, hM]
      exact hS2
  · exact Or.inr (Or.inl hp)
  · exact Or.inr (Or.inr hn)

end image

/-! ### 2. `M := MapEnv`: the bytes are those of the model's blocks -/

/-- **`Encode` of a regenerated default sketch appends the bytes of the model's blocks for the image sketch** -/
theorem Encode_blocks (a : DDSketch MapEnv (GPS grow))
    (hp : GImg a.positiveValueStore) (hn : GImg a.negativeValueStore)
    (hpp : PagOK (ofGen a.positiveValueStore.g)) (hpn : PagOK (ofGen a.negativeValueStore.g))
    (z : Rat) (hz : a.zeroCount = .fin z) (om : Bool) (fuel : Nat) (hf : 9 ≤ fuel) (buf : List (BitVec 8)) :
    ∃ (a' : DDSketch MapEnv (GPS grow)) (s' : Sketch) (bl : List Block),
      DDSketch.Encode fuel a buf om = .ok (a', buf ++ bn (Wire.encBlocks bl)) ∧
      SkSim a' (GenSketch.toGen a.IndexMapping s') ∧
      EncodesTo (GenSketch.ofGen (imageOf a)) (content (ofGen a.positiveValueStore.g))
        (content (ofGen a.negativeValueStore.g)) a.IndexMapping.id z om s' bl := by
  have hs := skSim_image hp hn hpp.inv hpn.inv
  have hr : (GenSketch.ofGen (imageOf a)).Refines (content (ofGen a.positiveValueStore.g))
      (content (ofGen a.negativeValueStore.g)) := ⟨Store.refines_pag _ hpp.inv, Store.refines_pag _ hpn.inv⟩
  obtain ⟨s', bl, hE⟩ := encode_ok (GenSketch.ofGen (imageOf a)) _ _ hr hpp hpn a.IndexMapping.id rfl z hz om
  obtain ⟨pb, nb', _, henc, _⟩ := id hE
  have hM := GenSketch.Encode_rel fuel hf a.IndexMapping (GenSketch.ofGen (imageOf a)) buf om (fun _ => rfl) s' bl henc
  rw [show GenSketch.toGen a.IndexMapping (GenSketch.ofGen (imageOf a)) = imageOf a from rfl] at hM
  rcases Encode_same_bytes hs rfl rfl hpp.bufLen hpn.bufLen fuel buf om with
    ⟨a', b', out, h1, h2, h3⟩ | ⟨_, h2⟩ | ⟨_, h2⟩
  · rw [hM] at h2
    obtain ⟨rfl, rfl⟩ := Prod.mk.inj (Res.ok.inj h2)
    exact ⟨a', s', bl, h1, h3, hE⟩
  · rw [hM] at h2; cases h2
  · rw [hM] at h2; cases h2

/-! ### 3. the chain, `GoodRun` as a hypothesis -/

/-- the six observers of the regenerated sketch agree on two sketches -/
def SameAnswers (a b : DDSketch MapEnv (GPS grow)) : Prop :=
  DDSketch.GetCount a = DDSketch.GetCount b ∧ DDSketch.IsEmpty a = DDSketch.IsEmpty b ∧
  DDSketch.GetZeroCount a = DDSketch.GetZeroCount b ∧
  (∀ q, DDSketch.GetValueAtQuantile a q = DDSketch.GetValueAtQuantile b q) ∧
  DDSketch.GetMinValue a = DDSketch.GetMinValue b ∧ DDSketch.GetMaxValue a = DDSketch.GetMaxValue b

/-- **decode after encode, given the side conditions of the decoder run** (`GoodRun DecodeOK`) on the encoded
    bytes `bn (encBlocks bl)` -/
theorem decode_of_encodesTo (a : DDSketch MapEnv (GPS grow))
    (hp : GImg a.positiveValueStore) (hn : GImg a.negativeValueStore)
    (ip : Inv (ofGen a.positiveValueStore.g)) (inn : Inv (ofGen a.negativeValueStore.g))
    (z : Rat) (hz : a.zeroCount = .fin z) (hzw : WOK z) (om : Bool)
    (hmk : MapOK a.IndexMapping.id) (hmf : om = false → MapFinite a.IndexMapping.id)
    (s' : Sketch) (bl : List Block)
    (hE : EncodesTo (GenSketch.ofGen (imageOf a)) (content (ofGen a.positiveValueStore.g))
      (content (ofGen a.negativeValueStore.g)) a.IndexMapping.id z om s' bl)
    (fuel : Nat) (hf : (bn (Wire.encBlocks bl)).length + 9 ≤ fuel)
    (hg : GoodRun DecodeOK (DDSketch.DecodeAndMergeWith.lit1 (M := MapEnv) (S := Store) fuel) fuel
      (bn (Wire.encBlocks bl))
      (NewDDSketch a.IndexMapping (⟨NewBufferedPaginatedStore⟩ : GPS grow) ⟨NewBufferedPaginatedStore⟩)) :
    ∃ r : DDSketch MapEnv (GPS grow),
      Gen.SketchIter.DecodeDDSketch fuel (bn (Wire.encBlocks bl))
        (fun _ => .ok (⟨NewBufferedPaginatedStore⟩ : GPS grow)) a.IndexMapping = .ok (r, GoErr.nil) ∧
      r.IndexMapping.id = a.IndexMapping.id ∧
      SkSim { r with IndexMapping := a.IndexMapping } (imageOf a) ∧
      SameAnswers { r with IndexMapping := a.IndexMapping } a := by
  have h32p := Lift.pag_keys32 _ ip
  have h32n := Lift.pag_keys32 _ inn
  have hm0 : if om then some a.IndexMapping.id = some a.IndexMapping.id
      else Accepts (some a.IndexMapping.id) a.IndexMapping.id := by
    cases om with
    | true => simp
    | false => simpa using accepts_self _ (hmf rfl)
  obtain ⟨t, t1, t2, t3, t4, t5, t6, t7, t8, t9⟩ :=
    Lift.encodesTo_decode_new .pag trivial hE h32p h32n hmk hzw (some a.IndexMapping.id) hm0
  -- the regenerated decoder over the model stores
  have hR := GenSketch7.DecodeDDSketch_relE fuel (bn (Wire.encBlocks bl)) .pag a.IndexMapping hf
  rw [GenSketch.nb_bn_encBlocks bl hE.wf, t1] at hR
  obtain ⟨g', hg1, rfl⟩ := hR
  -- the regenerated decoder over the regenerated stores
  have hP := DecodeDDSketch_param DecodeOK (fun _ _ b sub hs hok => sim_decode hs b sub hok) fuel
    (bn (Wire.encBlocks bl)) a.IndexMapping hg
  rw [show (fun _ => Res.ok (Store.new .pag) : Unit → Res Store) = GenSketch7.provider .pag from rfl, hg1] at hP
  generalize Gen.SketchIter.DecodeDDSketch fuel _ (fun _ => .ok (⟨NewBufferedPaginatedStore⟩ : GPS grow))
    a.IndexMapping = res at hP ⊢
  cases res with
  | panic => exact hP.elim
  | nofuel => exact hP.elim
  | ok p =>
    obtain ⟨r, e⟩ := p
    obtain ⟨rfl, h2⟩ := hP
    have hs := h2 rfl
    have hs3 : SkSim { r with IndexMapping := a.IndexMapping } (imageOf a) :=
      skSim_retarget (b := { g' with IndexMapping := a.IndexMapping }) ⟨rfl, hs.pos, hs.neg, hs.zero⟩ rfl
        (t3.trans hz.symm) t8 t9 ⟨_, rfl, ip⟩ ⟨_, rfl, inn⟩
    exact ⟨r, rfl, (congrArg MapEnv.id hs.map).trans (Option.some.inj t2), hs3,
      observers_of_common_target hs3 (skSim_image hp hn ip inn)⟩

/-! ### 4. towards `GoodRun` for the encoded bytes

#### one encoded store block on a `Sim` pair -/

theorem nb_bn_payload (p : BinsPayload) (R : Bytes) (hR : ∀ y ∈ R, y < 256) :
    nb (bn (Wire.encPayload p ++ R)) = Wire.encPayload p ++ R :=
  nb_bn _ fun y hy => (List.mem_append.1 hy).elim (Wire.encPayload_bytes p y) (hR y)

/-- **one encoded store block**: when the side conditions `DecodeOK` hold for the bytes `encPayload p ++ R` and the
    model adds the bins of `p` to the partner store, the regenerated store decoder returns nil, consumes exactly the
    payload (the remaining bytes are `R`) and the receivers are related again -/
theorem gps_decode_encPayload {x : GPS grow} {st : Store} (h : Sim x st) (p : BinsPayload) (hp : p.WF)
    (R : Bytes) (hR : ∀ y ∈ R, y < 256) (sub : SubFlag)
    (hsub : Wire.flagSub sub.byte.toNat = Wire.payloadSub p)
    (hok : DecodeOK x (bn (Wire.encPayload p ++ R)) sub)
    (st' : Store) (hadd : Sketch.addBins st (Wire.payloadBins p) = some st') :
    ∃ t : GPS grow, (StoreI.DecodeAndMergeWith x (bn (Wire.encPayload p ++ R)) sub :
        GPS grow × List (BitVec 8) × GoErr) = (t, bn R, GoErr.nil) ∧ Sim t st' := by
  have hM : (StoreI.DecodeAndMergeWith st (bn (Wire.encPayload p ++ R)) sub : Store × List (BitVec 8) × GoErr) =
      (st', bn R, GoErr.nil) := by
    rw [store_decode_eq, hsub, nb_bn_payload p R hR, Sketch.decodeStore_encPayload st p hp R, hadd]
  obtain ⟨e1, e2⟩ := sim_decode h _ sub hok
  rw [hM] at e1 e2
  exact ⟨_, Prod.ext rfl (Prod.ext (e2 rfl).1 e1), (e2 rfl).2⟩

/-! #### one step of `GoodRun` for each kind of encoded block; the flag byte is decoded symbolically -/

section goodRunStep

variable {M : Type} [MapI M] [Inhabited M]

theorem mkFlag_toNat (t sub : Nat) (ht : t < 4) (hs : sub < 64) :
    (BitVec.ofNat 8 (Wire.mkFlag t sub)).toNat = Wire.mkFlag t sub := by
  rw [BitVec.toNat_ofNat]
  refine Nat.mod_eq_of_lt ?_
  show t + sub * 4 < 4 + 63 * 4
  exact Nat.add_lt_add_of_lt_of_le ht (Nat.mul_le_mul_right _ (Nat.le_of_lt_succ hs))

/-- the flag the decoder loop reads from a non-empty input is its first byte -/
theorem decodeFlag_cons_ok {fuel : Nat} {x : BitVec 8} {tl b1 : List (BitVec 8)} {flag : Gen.Encoding.Flag} {e : GoErr}
    (h : DecodeFlag fuel (x :: tl) = .ok (b1, flag, e)) : tl = b1 ∧ (⟨x⟩ : Gen.Encoding.Flag) = flag := by
  rw [GenSketch.DecodeFlag_cons] at h
  have := Prod.mk.inj (Res.ok.inj h)
  exact ⟨this.1, (Prod.mk.inj this.2).1⟩

/-- the type test of the decoder loop on an encoded flag byte -/
theorem type_mkFlag (t sub : Nat) (ft : FlagType) (ht : t < 4) (hs : sub < 64) :
    (Flag.Type (⟨BitVec.ofNat 8 (Wire.mkFlag t sub)⟩ : Gen.Encoding.Flag) == ft) = decide (t = ft.byte.toNat) := by
  rw [GenSketch.type_beq]
  show decide (Wire.flagType (BitVec.ofNat 8 _).toNat = _) = _
  rw [mkFlag_toNat t sub ht hs, (Wire.flag_mk t sub ht).1]

theorem subFlag_mkFlag (t sub : Nat) (ht : t < 4) (hs : sub < 64) :
    Flag.SubFlag (⟨BitVec.ofNat 8 (Wire.mkFlag t sub)⟩ : Gen.Encoding.Flag) = GenStoreDecode.subflag sub := by
  rw [GenStoreDecode.Flag_SubFlag_subflag]
  show GenStoreDecode.subflag (Wire.flagSub (BitVec.ofNat 8 _).toNat) = _
  rw [mkFlag_toNat t sub ht hs, (Wire.flag_mk t sub ht).2]

omit [Inhabited M] in
/-- `GoodRun` at the zero-count flag followed by any bytes `P` -/
theorem goodRun_zeroFlag (fb : List (BitVec 8) → Flag → Res (List (BitVec 8) × GoErr)) (fuel : Nat)
    (P : Bytes) (a : DDSketch M (GPS grow))
    (hnext : ∀ b2 z, DecodeVarfloat64 fuel (bn P) = .ok (b2, z, GoErr.nil) →
      GoodRun DecodeOK fb fuel b2 { a with zeroCount := F64.add a.zeroCount z }) :
    GoodRun DecodeOK fb (fuel + 1) (bn (Sketch.zeroFlag :: P)) a := by
  intro b1 flag hF
  obtain ⟨rfl, rfl⟩ := decodeFlag_cons_ok hF
  rw [if_neg (by decide), if_neg (by decide), if_neg (by decide), if_pos (by decide)]
  exact hnext

omit [Inhabited M] in
theorem goodRun_zero (fb : List (BitVec 8) → Flag → Res (List (BitVec 8) × GoErr)) (fuel : Nat)
    (x : Nat) (T : Bytes) (a : DDSketch M (GPS grow))
    (hnext : ∀ b2 z, DecodeVarfloat64 fuel (bn (encVarfloatBits x ++ T)) = .ok (b2, z, GoErr.nil) →
      GoodRun DecodeOK fb fuel b2 { a with zeroCount := F64.add a.zeroCount z }) :
    GoodRun DecodeOK fb (fuel + 1) (bn (Wire.encBlock (.zeroCount x) ++ T)) a := by
  rw [Sketch.encBlock_zeroCount, List.cons_append]
  exact goodRun_zeroFlag fb fuel (encVarfloatBits x ++ T) a hnext

omit [Inhabited M] in
theorem goodRun_mapping (fb : List (BitVec 8) → Flag → Res (List (BitVec 8) × GoErr)) (fuel : Nat)
    (sub g o : Nat) (hsub : sub < 64) (T : Bytes) (a : DDSketch M (GPS grow))
    (hnext : ∀ b2 m, MapI.Decode (M := M) (bn ((encF64LE g ++ encF64LE o) ++ T))
        (⟨BitVec.ofNat 8 (Wire.mkFlag Consts.flagTypeIndexMapping sub)⟩ : Flag) = (b2, m, GoErr.nil) →
      GoodRun DecodeOK fb fuel b2 { a with IndexMapping := m }) :
    GoodRun DecodeOK fb (fuel + 1) (bn (Wire.encBlock (.mapping sub g o) ++ T)) a := by
  intro b1 flag hF
  obtain ⟨rfl, rfl⟩ := decodeFlag_cons_ok hF
  rw [type_mkFlag _ _ _ (by decide) hsub, if_neg (by decide), type_mkFlag _ _ _ (by decide) hsub, if_neg (by decide),
    type_mkFlag _ _ _ (by decide) hsub, if_pos (by decide)]
  exact hnext

omit [Inhabited M] in
/-- **`GoodRun` at an encoded POSITIVE store block**: the side conditions of the block, and `GoodRun` after it -/
theorem goodRun_bins_pos (fb : List (BitVec 8) → Flag → Res (List (BitVec 8) × GoErr)) (fuel : Nat)
    (p : BinsPayload) (T : Bytes) (a : DDSketch M (GPS grow)) (hs : Wire.payloadSub p < 64)
    (hok : DecodeOK a.positiveValueStore (bn (Wire.encPayload p ++ T))
      (GenStoreDecode.subflag (Wire.payloadSub p)))
    (hnext : ∀ t b2, (StoreI.DecodeAndMergeWith a.positiveValueStore (bn (Wire.encPayload p ++ T))
        (GenStoreDecode.subflag (Wire.payloadSub p)) : GPS grow × List (BitVec 8) × GoErr) = (t, b2, GoErr.nil) →
      GoodRun DecodeOK fb fuel b2 { a with positiveValueStore := t }) :
    GoodRun DecodeOK fb (fuel + 1) (bn (Wire.encBlock (.bins .pos p) ++ T)) a := by
  intro b1 flag hF
  obtain ⟨rfl, rfl⟩ := decodeFlag_cons_ok hF
  rw [type_mkFlag _ _ _ (by decide) hs, if_pos (by decide), subFlag_mkFlag _ _ (by decide) hs]
  exact ⟨hok, hnext⟩

omit [Inhabited M] in
/-- **`GoodRun` at an encoded NEGATIVE store block** -/
theorem goodRun_bins_neg (fb : List (BitVec 8) → Flag → Res (List (BitVec 8) × GoErr)) (fuel : Nat)
    (p : BinsPayload) (T : Bytes) (a : DDSketch M (GPS grow)) (hs : Wire.payloadSub p < 64)
    (hok : DecodeOK a.negativeValueStore (bn (Wire.encPayload p ++ T))
      (GenStoreDecode.subflag (Wire.payloadSub p)))
    (hnext : ∀ t b2, (StoreI.DecodeAndMergeWith a.negativeValueStore (bn (Wire.encPayload p ++ T))
        (GenStoreDecode.subflag (Wire.payloadSub p)) : GPS grow × List (BitVec 8) × GoErr) = (t, b2, GoErr.nil) →
      GoodRun DecodeOK fb fuel b2 { a with negativeValueStore := t }) :
    GoodRun DecodeOK fb (fuel + 1) (bn (Wire.encBlock (.bins .neg p) ++ T)) a := by
  intro b1 flag hF
  obtain ⟨rfl, rfl⟩ := decodeFlag_cons_ok hF
  rw [type_mkFlag _ _ _ (by decide) hs, if_neg (by decide), type_mkFlag _ _ _ (by decide) hs, if_pos (by decide),
    subFlag_mkFlag _ _ (by decide) hs]
  exact ⟨hok, hnext⟩

omit [Inhabited M] in
/-- `GoodRun` at the end of the input: nothing is asked -/
theorem goodRun_nil (fb : List (BitVec 8) → Flag → Res (List (BitVec 8) × GoErr)) (fuel : Nat)
    (a : DDSketch M (GPS grow)) : GoodRun DecodeOK fb fuel [] a := by
  cases fuel with
  | zero => exact trivial
  | succ fuel =>
    intro b1 flag hF
    rw [DecodeFlag_eq] at hF
    exact absurd (Prod.mk.inj (Prod.mk.inj (Res.ok.inj hF)).2).2 (by decide)

end goodRunStep

end DDS.GenPagSketch
