/-
  DDS.Proofs.StoreParse — the model's store decoder is a parse of the bytes followed by the adds.

  `Sketch.decodeStore st sub bs` reads a bins payload and adds each bin to `st` as soon as it is read.  Which bins it
  reads, and how the reading ends, depends on the bytes alone: `parseBins sub bs` is that list of bins (in stream order,
  up to the first item that cannot be read) together with the outcome (`.ok rest`, `.error .eof`,
  `.error .unknownBinEncoding`), and

      `decodeStore_parse : decodeStore st sub bs = finish (addBins st (parseBins sub bs).1) (parseBins sub bs).2`.

  A payload is a header (`parseHeader`: number of items, first running index, the item reader `rdDC` / `rdD` /
  `rdCC stride` of the layout) followed by items (`parseItems`).  Everything else is proved on the parse, reader by
  reader, then items, header, bins, and reaches the decoder through `decodeStore_parse`:
  on any bytes, what is left is a suffix of the input, and a defined layout ends in `eof` or not at all
  (`parseBins_suffix`, `parseBins_error`; `decodeStore_suffix`);
  on an encoded payload the parse yields the bins the payload denotes, and a prefix of them followed by `eof` when the
  payload is cut (`parseBins_reads`; `decodeStore_encPayload`, `decodeStore_take`);
  on input whose varfloats are finite the bins are finite, so that a plain finite map never panics
  (`parseBins_finite`; `decodeStore_good`).
  On the regenerated side `DDS/Proofs/GenStoreDecode.lean` proves that the Go decoder replays the same bins on any
  implementation of `store.Store`.
-/
import DDS.Proofs.WireFormat

namespace DDS.Sketch
open DDS.Codec DDS.Wire

/-! ## the parse; `decodeStore` is the parse followed by the adds -/

/-- one item of a bins payload read at running index `idx`: the bin, the next running index, the bytes left
    (`none`: the input ends inside the item) -/
abbrev ItemRd := Int → Bytes → Option ((Int × F64) × Int × Bytes)

def rdDC : ItemRd := fun idx bs =>
  match decVarint64 bs with
  | .error _ => none
  | .ok (d, bs) =>
    match decVarfloat64 bs with
    | .error _ => none
    | .ok (c, bs) => some ((idx + d, c), idx + d, bs)

def rdD : ItemRd := fun idx bs =>
  match decVarint64 bs with
  | .error _ => none
  | .ok (d, bs) => some ((idx + d, F64.one), idx + d, bs)

def rdCC (stride : Int) : ItemRd := fun idx bs =>
  match decVarfloat64 bs with
  | .error _ => none
  | .ok (c, bs) => some ((idx, c), idx + stride, bs)

/-! ### the readers on the results of the codecs

  (stated on opaque bytes: a reader applied to a symbolic encoder output must not be unfolded) -/

theorem rdDC_of_ok {idx : Int} {bs bs1 bs2 : Bytes} {d : Int} {c : F64} (h1 : decVarint64 bs = .ok (d, bs1))
    (h2 : decVarfloat64 bs1 = .ok (c, bs2)) : rdDC idx bs = some ((idx + d, c), idx + d, bs2) := by
  unfold rdDC; rw [h1]; dsimp only; rw [h2]

theorem rdDC_of_error1 {idx : Int} {bs : Bytes} {e : DecErr} (h1 : decVarint64 bs = .error e) :
    rdDC idx bs = none := by
  unfold rdDC; rw [h1]

theorem rdDC_of_error2 {idx : Int} {bs bs1 : Bytes} {d : Int} {e : DecErr}
    (h1 : decVarint64 bs = .ok (d, bs1)) (h2 : decVarfloat64 bs1 = .error e) : rdDC idx bs = none := by
  unfold rdDC; rw [h1]; dsimp only; rw [h2]

theorem rdD_of_ok {idx : Int} {bs bs1 : Bytes} {d : Int} (h1 : decVarint64 bs = .ok (d, bs1)) :
    rdD idx bs = some ((idx + d, F64.one), idx + d, bs1) := by
  unfold rdD; rw [h1]

theorem rdD_of_error {idx : Int} {bs : Bytes} {e : DecErr} (h1 : decVarint64 bs = .error e) :
    rdD idx bs = none := by
  unfold rdD; rw [h1]

theorem rdCC_of_ok {stride idx : Int} {bs bs1 : Bytes} {c : F64} (h1 : decVarfloat64 bs = .ok (c, bs1)) :
    rdCC stride idx bs = some ((idx, c), idx + stride, bs1) := by
  unfold rdCC; rw [h1]

theorem rdCC_of_error {stride idx : Int} {bs : Bytes} {e : DecErr} (h1 : decVarfloat64 bs = .error e) :
    rdCC stride idx bs = none := by
  unfold rdCC; rw [h1]

/-- `n` items: the bins read, and the bytes left (`.error .eof`: the input ends inside one of them) -/
def parseItems (rd : ItemRd) : Nat → Int → Bytes → List (Int × F64) × Except SkErr Bytes
  | 0, _, bs => ([], .ok bs)
  | n + 1, idx, bs =>
    match rd idx bs with
    | none => ([], .error .eof)
    | some (bin, idx', bs') => (bin :: (parseItems rd n idx' bs').1, (parseItems rd n idx' bs').2)

theorem parseItems_none {rd : ItemRd} {idx : Int} {bs : Bytes} (n : Nat) (h : rd idx bs = none) :
    parseItems rd (n + 1) idx bs = ([], .error .eof) := by
  rw [parseItems, h]

theorem parseItems_some {rd : ItemRd} {idx idx' : Int} {bs bs' : Bytes} {bin : Int × F64} (n : Nat)
    (h : rd idx bs = some (bin, idx', bs')) :
    parseItems rd (n + 1) idx bs = (bin :: (parseItems rd n idx' bs').1, (parseItems rd n idx' bs').2) := by
  rw [parseItems, h]

/-! ### the header, layout by layout -/

/-- the header of a payload: number of items, first running index, item reader, bytes after the header -/
def parseHeader (sub : Nat) (bs : Bytes) : Except SkErr (Nat × Int × ItemRd × Bytes) :=
  if sub = Consts.binEncodingIndexDeltasAndCounts then
    match decUvarint64 bs with
    | .error _ => .error .eof
    | .ok (n, bs) => .ok (n, 0, rdDC, bs)
  else if sub = Consts.binEncodingIndexDeltas then
    match decUvarint64 bs with
    | .error _ => .error .eof
    | .ok (n, bs) => .ok (n, 0, rdD, bs)
  else if sub = Consts.binEncodingContiguousCounts then
    match decUvarint64 bs with
    | .error _ => .error .eof
    | .ok (n, bs) =>
      match decVarint64 bs with
      | .error _ => .error .eof
      | .ok (start, bs) =>
        match decVarint64 bs with
        | .error _ => .error .eof
        | .ok (stride, bs) => .ok (n, start, rdCC stride, bs)
  else .error .unknownBinEncoding

/-- the three layouts of a bins payload that are defined -/
def KnownLayout (sub : Nat) : Prop :=
  sub = Consts.binEncodingIndexDeltasAndCounts ∨ sub = Consts.binEncodingIndexDeltas ∨
    sub = Consts.binEncodingContiguousCounts

theorem parseHeader_eof {sub : Nat} {bs : Bytes} {e : DecErr} (hk : KnownLayout sub)
    (h : decUvarint64 bs = .error e) : parseHeader sub bs = .error .eof := by
  unfold parseHeader
  rcases hk with rfl | rfl | rfl
  · rw [if_pos rfl, h]
  · rw [if_neg subs_ne.1, if_pos rfl, h]
  · rw [if_neg subs_ne.2.1, if_neg subs_ne.2.2, if_pos rfl, h]

theorem parseHeader_dc {bs bs1 : Bytes} {n : Nat} (h : decUvarint64 bs = .ok (n, bs1)) :
    parseHeader Consts.binEncodingIndexDeltasAndCounts bs = .ok (n, 0, rdDC, bs1) := by
  rw [parseHeader, if_pos rfl, h]

theorem parseHeader_d {bs bs1 : Bytes} {n : Nat} (h : decUvarint64 bs = .ok (n, bs1)) :
    parseHeader Consts.binEncodingIndexDeltas bs = .ok (n, 0, rdD, bs1) := by
  rw [parseHeader, if_neg subs_ne.1, if_pos rfl, h]

/-- the contiguous layout: number of bins, first index, stride -/
theorem parseHeader_cc {bs bs1 : Bytes} {n : Nat} (h : decUvarint64 bs = .ok (n, bs1)) :
    parseHeader Consts.binEncodingContiguousCounts bs =
      match decVarint64 bs1 with
      | .error _ => .error .eof
      | .ok (start, bs2) =>
        match decVarint64 bs2 with
        | .error _ => .error .eof
        | .ok (stride, bs3) => .ok (n, start, rdCC stride, bs3) := by
  rw [parseHeader, if_neg subs_ne.2.1, if_neg subs_ne.2.2, if_pos rfl, h]

theorem parseHeader_cc_ok {bs bs1 bs2 bs3 : Bytes} {n : Nat} {start stride : Int}
    (h1 : decUvarint64 bs = .ok (n, bs1)) (h2 : decVarint64 bs1 = .ok (start, bs2))
    (h3 : decVarint64 bs2 = .ok (stride, bs3)) :
    parseHeader Consts.binEncodingContiguousCounts bs = .ok (n, start, rdCC stride, bs3) := by
  rw [parseHeader_cc h1, h2]; dsimp only; rw [h3]

theorem parseHeader_cc_eof2 {bs bs1 : Bytes} {n : Nat} {e : DecErr}
    (h1 : decUvarint64 bs = .ok (n, bs1)) (h2 : decVarint64 bs1 = .error e) :
    parseHeader Consts.binEncodingContiguousCounts bs = .error .eof := by
  rw [parseHeader_cc h1, h2]

theorem parseHeader_cc_eof3 {bs bs1 bs2 : Bytes} {n : Nat} {start : Int} {e : DecErr}
    (h1 : decUvarint64 bs = .ok (n, bs1)) (h2 : decVarint64 bs1 = .ok (start, bs2))
    (h3 : decVarint64 bs2 = .error e) :
    parseHeader Consts.binEncodingContiguousCounts bs = .error .eof := by
  rw [parseHeader_cc h1, h2]; dsimp only; rw [h3]

theorem parseHeader_unknown {sub : Nat} (bs : Bytes) (hk : ¬ KnownLayout sub) :
    parseHeader sub bs = .error .unknownBinEncoding := by
  rw [parseHeader, if_neg (fun h => hk (.inl h)), if_neg (fun h => hk (.inr (.inl h))),
    if_neg (fun h => hk (.inr (.inr h)))]

/-- the bins of a payload, and how reading it ended -/
def parseBins (sub : Nat) (bs : Bytes) : List (Int × F64) × Except SkErr Bytes :=
  match parseHeader sub bs with
  | .error e => ([], .error e)
  | .ok (n, start, rd, bs) => parseItems rd n start bs

theorem parseBins_of_error {sub : Nat} {bs : Bytes} {e : SkErr} (h : parseHeader sub bs = .error e) :
    parseBins sub bs = ([], .error e) := by
  rw [parseBins, h]

theorem parseBins_of_ok {sub : Nat} {bs bs' : Bytes} {n : Nat} {start : Int} {rd : ItemRd}
    (h : parseHeader sub bs = .ok (n, start, rd, bs')) : parseBins sub bs = parseItems rd n start bs' := by
  rw [parseBins, h]

/-- the store after the bins (`none`: a panic), then the outcome of the reading -/
def finish (st : Option Store) (out : Except SkErr Bytes) : Option (Except SkErr (Store × Bytes)) :=
  match st, out with
  | none, _ => none
  | some _, .error e => some (.error e)
  | some st', .ok r => some (.ok (st', r))

theorem finish_cons (st : Store) (p : Int × F64) (l : List (Int × F64)) (out : Except SkErr Bytes) :
    finish (addBins st (p :: l)) out =
      match addF st p.1 p.2 with
      | none => none
      | some st' => finish (addBins st' l) out := by
  rw [addBins]; cases addF st p.1 p.2 <;> rfl

theorem finish_ok {o : Option Store} {out : Except SkErr Bytes} {st' : Store} {r : Bytes}
    (h : finish o out = some (.ok (st', r))) : o = some st' ∧ out = .ok r := by
  cases o with
  | none => cases h
  | some s => cases out with
    | error e => cases h
    | ok r' => cases h; exact ⟨rfl, rfl⟩

theorem finish_error {o : Option Store} {out : Except SkErr Bytes} {e : SkErr}
    (h : finish o out = some (.error e)) : out = .error e := by
  cases o with
  | none => cases h
  | some s => cases out with
    | error e' => cases h; rfl
    | ok r' => cases h

/-- what the three item functions of `decodeStore` have in common -/
def itemOf (rd : ItemRd) (st : Store) (idx : Int) (bs : Bytes) : Option (Except SkErr (Store × Int × Bytes)) :=
  match rd idx bs with
  | none => some (.error .eof)
  | some (bin, idx', bs') => (addF st bin.1 bin.2).map fun st' => .ok (st', idx', bs')

theorem itemOf_none {rd : ItemRd} {idx : Int} {bs : Bytes} (st : Store) (h : rd idx bs = none) :
    itemOf rd st idx bs = some (.error .eof) := by
  rw [itemOf, h]

theorem itemOf_some {rd : ItemRd} {idx idx' : Int} {bs bs' : Bytes} {bin : Int × F64} (st : Store)
    (h : rd idx bs = some (bin, idx', bs')) :
    itemOf rd st idx bs = (addF st bin.1 bin.2).map fun st' => .ok (st', idx', bs') := by
  rw [itemOf, h]

/-! The three item functions of `decodeStore` (written in place there) under names, and `decodeStore` with them. -/

def dcItem (st : Store) (idx : Int) (bs : Bytes) : Option (Except SkErr (Store × Int × Bytes)) :=
  match Sketch.liftDec (Codec.decVarint64 bs) with
  | .error e => some (.error e)
  | .ok (d, bs) =>
    match Sketch.liftDec (Codec.decVarfloat64 bs) with
    | .error e => some (.error e)
    | .ok (c, bs) => (addF st (idx + d) c).map (fun st' => .ok (st', idx + d, bs))

def dItem (st : Store) (idx : Int) (bs : Bytes) : Option (Except SkErr (Store × Int × Bytes)) :=
  match Sketch.liftDec (Codec.decVarint64 bs) with
  | .error e => some (.error e)
  | .ok (d, bs) => (st.addWithCount (idx + d) 1).map (fun st' => .ok (st', idx + d, bs))

def ccItem (stride : Int) (st : Store) (idx : Int) (bs : Bytes) :
    Option (Except SkErr (Store × Int × Bytes)) :=
  match Sketch.liftDec (Codec.decVarfloat64 bs) with
  | .error e => some (.error e)
  | .ok (c, bs) => (addF st idx c).map (fun st' => .ok (st', idx + stride, bs))

theorem decodeStore_eq (st : Store) (sub : Nat) (bs : Bytes) : decodeStore st sub bs =
  if sub = Consts.binEncodingIndexDeltasAndCounts then
    match Sketch.liftDec (Codec.decUvarint64 bs) with
    | .error e => some (.error e)
    | .ok (n, bs) => decItems dcItem n st 0 bs
  else if sub = Consts.binEncodingIndexDeltas then
    match Sketch.liftDec (Codec.decUvarint64 bs) with
    | .error e => some (.error e)
    | .ok (n, bs) => decItems dItem n st 0 bs
  else if sub = Consts.binEncodingContiguousCounts then
    match Sketch.liftDec (Codec.decUvarint64 bs) with
    | .error e => some (.error e)
    | .ok (n, bs) =>
      match Sketch.liftDec (Codec.decVarint64 bs) with
      | .error e => some (.error e)
      | .ok (start, bs) =>
        match Sketch.liftDec (Codec.decVarint64 bs) with
        | .error e => some (.error e)
        | .ok (stride, bs) => decItems (ccItem stride) n st start bs
  else some (.error .unknownBinEncoding) := rfl

theorem dcItem_eq : dcItem = itemOf rdDC := by
  funext st idx bs
  unfold dcItem itemOf rdDC
  cases decVarint64 bs with
  | error e => rfl
  | ok p =>
    obtain ⟨d, bs1⟩ := p
    cases h : decVarfloat64 bs1 with
    | error e => simp only [liftDec, h]
    | ok q => obtain ⟨c, bs2⟩ := q; simp only [liftDec, h]

theorem dItem_eq : dItem = itemOf rdD := by
  funext st idx bs
  unfold dItem itemOf rdD
  cases decVarint64 bs with
  | error e => rfl
  | ok p => obtain ⟨d, bs1⟩ := p; rfl

theorem ccItem_eq (stride : Int) : ccItem stride = itemOf (rdCC stride) := by
  funext st idx bs
  unfold ccItem itemOf rdCC
  cases decVarfloat64 bs with
  | error e => rfl
  | ok p => obtain ⟨c, bs1⟩ := p; rfl

/-! ### the item loop `decItems`: one step (the paginated store's decoder, `GenPagCodec`, follows it item by item),
    then the whole loop on the parsed items -/

theorem decItems_err {item} (n : Nat) (st : Store) (idx : Int) (bs : Bytes) (e : SkErr)
    (h : item st idx bs = some (.error e)) : decItems item (n + 1) st idx bs = some (.error e) := by
  simp only [decItems, h]

theorem decItems_none {item} (n : Nat) (st : Store) (idx : Int) (bs : Bytes)
    (h : item st idx bs = none) : decItems item (n + 1) st idx bs = none := by
  simp only [decItems, h]

theorem decItems_ok {item} (n : Nat) (st : Store) (idx : Int) (bs : Bytes) (st' : Store) (idx' : Int)
    (bs' : Bytes) (h : item st idx bs = some (.ok (st', idx', bs'))) :
    decItems item (n + 1) st idx bs = decItems item n st' idx' bs' := by
  simp only [decItems, h]

theorem decItems_parse (rd : ItemRd) : ∀ (n : Nat) (st : Store) (idx : Int) (bs : Bytes),
    decItems (itemOf rd) n st idx bs =
      finish (addBins st (parseItems rd n idx bs).1) (parseItems rd n idx bs).2 := by
  intro n
  induction n with
  | zero => intros; rfl
  | succ n ih =>
    intro st idx bs
    rw [decItems, itemOf]
    cases hr : rd idx bs with
    | none => rw [parseItems_none n hr]; rfl
    | some p =>
      obtain ⟨bin, idx', bs'⟩ := p
      rw [parseItems_some n hr, finish_cons]
      dsimp only
      cases addF st bin.1 bin.2 with
      | none => rfl
      | some st' => exact ih st' idx' bs'

theorem decodeStore_header (st : Store) (sub : Nat) (bs : Bytes) :
    decodeStore st sub bs =
      match parseHeader sub bs with
      | .error e => some (.error e)
      | .ok (n, start, rd, bs') => decItems (itemOf rd) n st start bs' := by
  rw [decodeStore_eq, parseHeader, dcItem_eq, dItem_eq]
  split
  · cases decUvarint64 bs with
    | error e => rfl
    | ok p => obtain ⟨n, bs1⟩ := p; rfl
  split
  · cases decUvarint64 bs with
    | error e => rfl
    | ok p => obtain ⟨n, bs1⟩ := p; rfl
  split
  · cases decUvarint64 bs with
    | error e => rfl
    | ok p =>
      obtain ⟨n, bs1⟩ := p
      cases h2 : decVarint64 bs1 with
      | error e => simp only [liftDec, h2]
      | ok q =>
        obtain ⟨start, bs2⟩ := q
        cases h3 : decVarint64 bs2 with
        | error e => simp only [liftDec, h2, h3]
        | ok r => obtain ⟨stride, bs3⟩ := r; simp only [liftDec, h2, h3, ccItem_eq]
  · rfl

theorem decodeStore_of_header_error {sub : Nat} {bs : Bytes} {e : SkErr} (st : Store)
    (h : parseHeader sub bs = .error e) : decodeStore st sub bs = some (.error e) := by
  rw [decodeStore_header, h]

theorem decodeStore_of_header_ok {sub : Nat} {bs bs' : Bytes} {n : Nat} {start : Int} {rd : ItemRd} (st : Store)
    (h : parseHeader sub bs = .ok (n, start, rd, bs')) :
    decodeStore st sub bs = decItems (itemOf rd) n st start bs' := by
  rw [decodeStore_header, h]

/-- **`decodeStore` is: parse the payload, add its bins** -/
theorem decodeStore_parse (st : Store) (sub : Nat) (bs : Bytes) :
    decodeStore st sub bs = finish (addBins st (parseBins sub bs).1) (parseBins sub bs).2 := by
  cases h : parseHeader sub bs with
  | error e => rw [decodeStore_of_header_error st h, parseBins_of_error h]; rfl
  | ok p =>
    obtain ⟨n, start, rd, bs'⟩ := p
    rw [decodeStore_of_header_ok st h, parseBins_of_ok h, decItems_parse]

/-! ## on any bytes: what is left of them, how the reading ends -/

theorem rdDC_suffix (idx : Int) (bs : Bytes) (bin idx' bs') (h : rdDC idx bs = some (bin, idx', bs')) :
    bs' <:+ bs := by
  unfold rdDC at h
  split at h
  · cases h
  · rename_i h1
    split at h
    · cases h
    · rename_i h2
      cases h
      exact (varfloat_suffix _ _ _ h2).trans (varint_suffix _ _ _ h1)

theorem rdD_suffix (idx : Int) (bs : Bytes) (bin idx' bs') (h : rdD idx bs = some (bin, idx', bs')) :
    bs' <:+ bs := by
  unfold rdD at h
  split at h
  · cases h
  · rename_i h1; cases h; exact varint_suffix _ _ _ h1

theorem rdCC_suffix (stride idx : Int) (bs : Bytes) (bin idx' bs')
    (h : rdCC stride idx bs = some (bin, idx', bs')) : bs' <:+ bs := by
  unfold rdCC at h
  split at h
  · cases h
  · rename_i h1; cases h; exact varfloat_suffix _ _ _ h1

theorem parseItems_suffix (rd : ItemRd)
    (hrd : ∀ idx bs bin idx' bs', rd idx bs = some (bin, idx', bs') → bs' <:+ bs) :
    ∀ (n : Nat) (idx : Int) (bs r : Bytes), (parseItems rd n idx bs).2 = .ok r → r <:+ bs := by
  intro n
  induction n with
  | zero => intro idx bs r h; cases h; exact List.suffix_refl _
  | succ n ih =>
    intro idx bs r h
    cases hi : rd idx bs with
    | none => rw [parseItems_none n hi] at h; cases h
    | some p =>
      obtain ⟨bin, idx', bs'⟩ := p
      rw [parseItems_some n hi] at h
      exact (ih idx' bs' r h).trans (hrd _ _ _ _ _ hi)

theorem parseItems_error (rd : ItemRd) : ∀ (n : Nat) (idx : Int) (bs : Bytes) (e : SkErr),
    (parseItems rd n idx bs).2 = .error e → e = .eof := by
  intro n
  induction n with
  | zero => intro idx bs e h; cases h
  | succ n ih =>
    intro idx bs e h
    cases hi : rd idx bs with
    | none => rw [parseItems_none n hi] at h; cases h; rfl
    | some p =>
      obtain ⟨bin, idx', bs'⟩ := p
      rw [parseItems_some n hi] at h
      exact ih idx' bs' e h

/-- a defined layout: one of the three readers after a prefix of the input, or `eof`; an undefined one is refused -/
theorem parseHeader_cases (sub : Nat) (bs : Bytes) :
    (KnownLayout sub ∧
      ((∃ n start rd bs', parseHeader sub bs = .ok (n, start, rd, bs') ∧ bs' <:+ bs ∧
          (rd = rdDC ∨ rd = rdD ∨ ∃ stride, rd = rdCC stride)) ∨
        parseHeader sub bs = .error .eof)) ∨
    (¬ KnownLayout sub ∧ parseHeader sub bs = .error .unknownBinEncoding) := by
  by_cases hk : KnownLayout sub
  · refine .inl ⟨hk, ?_⟩
    cases h1 : decUvarint64 bs with
    | error e => exact .inr (parseHeader_eof hk h1)
    | ok p =>
      obtain ⟨n, b1⟩ := p
      have s1 := uvarint_suffix _ _ _ h1
      rcases hk with rfl | rfl | rfl
      · exact .inl ⟨_, _, _, _, parseHeader_dc h1, s1, .inl rfl⟩
      · exact .inl ⟨_, _, _, _, parseHeader_d h1, s1, .inr (.inl rfl)⟩
      · cases h2 : decVarint64 b1 with
        | error e => exact .inr (parseHeader_cc_eof2 h1 h2)
        | ok q =>
          obtain ⟨start, b2⟩ := q
          cases h3 : decVarint64 b2 with
          | error e => exact .inr (parseHeader_cc_eof3 h1 h2 h3)
          | ok r =>
            obtain ⟨stride, b3⟩ := r
            exact .inl ⟨_, _, _, _, parseHeader_cc_ok h1 h2 h3,
              ((varint_suffix _ _ _ h3).trans (varint_suffix _ _ _ h2)).trans s1, .inr (.inr ⟨_, rfl⟩)⟩
  · exact .inr ⟨hk, parseHeader_unknown bs hk⟩

theorem parseBins_suffix (sub : Nat) (bs r : Bytes) (h : (parseBins sub bs).2 = .ok r) : r <:+ bs := by
  rcases parseHeader_cases sub bs with ⟨_, ⟨n, start, rd, bs', hh, hs, hrd⟩ | hh⟩ | ⟨_, hh⟩
  · rw [parseBins_of_ok hh] at h
    refine (parseItems_suffix rd ?_ n start bs' r h).trans hs
    rcases hrd with rfl | rfl | ⟨stride, rfl⟩
    · exact rdDC_suffix
    · exact rdD_suffix
    · exact rdCC_suffix stride
  · rw [parseBins_of_error hh] at h; cases h
  · rw [parseBins_of_error hh] at h; cases h

theorem decodeStore_suffix (st : Store) (sub : Nat) (bs : Bytes) (st' : Store) (rest : Bytes)
    (h : decodeStore st sub bs = some (.ok (st', rest))) : rest <:+ bs := by
  rw [decodeStore_parse] at h
  exact parseBins_suffix sub bs rest (finish_ok h).2

theorem parseBins_error (sub : Nat) (bs : Bytes) (e : SkErr) (h : (parseBins sub bs).2 = .error e) :
    (KnownLayout sub ∧ e = .eof) ∨ (¬ KnownLayout sub ∧ e = .unknownBinEncoding ∧ (parseBins sub bs).1 = []) := by
  rcases parseHeader_cases sub bs with ⟨hk, ⟨n, start, rd, bs', hh, _, _⟩ | hh⟩ | ⟨hk, hh⟩
  · rw [parseBins_of_ok hh] at h
    exact .inl ⟨hk, parseItems_error rd n start bs' e h⟩
  · rw [parseBins_of_error hh] at h; cases h; exact .inl ⟨hk, rfl⟩
  · rw [parseBins_of_error hh] at h ⊢; cases h; exact .inr ⟨hk, rfl, rfl⟩

theorem parseBins_deltas_one (bs : Bytes) : ∀ p ∈ (parseBins Consts.binEncodingIndexDeltas bs).1, p.2 = F64.one := by
  have items : ∀ n idx bs, ∀ p ∈ (parseItems rdD n idx bs).1, p.2 = F64.one := by
    intro n
    induction n with
    | zero => intro _ _ p hp; cases hp
    | succ n ih =>
      intro idx bs p hp
      cases hd : decVarint64 bs with
      | error e => rw [parseItems_none n (rdD_of_error hd)] at hp; cases hp
      | ok q =>
        obtain ⟨d, b1⟩ := q
        rw [parseItems_some n (rdD_of_ok hd)] at hp
        rcases List.mem_cons.1 hp with rfl | hp
        · rfl
        · exact ih _ _ p hp
  cases hd : decUvarint64 bs with
  | error e => rw [parseBins_of_error (parseHeader_eof (.inr (.inl rfl)) hd)]; intro p hp; cases hp
  | ok q => obtain ⟨n, b1⟩ := q; rw [parseBins_of_ok (parseHeader_d hd)]; exact items _ _ _

/-! ## an encoded payload, whole and cut -/

/-- `F` reads exactly the bytes `e` and finds `bins`; on a strict prefix of `e` it finds a prefix of
    `bins` and then the end of the input -/
structure ParseReads (F : Bytes → List (Int × F64) × Except SkErr Bytes) (e : Bytes)
    (bins : List (Int × F64)) : Prop where
  full : ∀ rest, F (e ++ rest) = (bins, .ok rest)
  cut : ∀ k, k < e.length → ∃ pre, pre <+: bins ∧ F (e.take k) = (pre, .error .eof)

/-- `rd` reads exactly the bytes `e` of one item: at running index `idx` the bin `bin idx`, moving on to
    `next idx`; a strict prefix of `e` is not an item -/
structure ItemRd.Reads (rd : ItemRd) (e : Bytes) (bin : Int → Int × F64) (next : Int → Int) : Prop where
  full : ∀ idx rest, rd idx (e ++ rest) = some (bin idx, next idx, rest)
  cut : ∀ idx k, k < e.length → rd idx (e.take k) = none

theorem rdDC_reads (a : Int × Nat) (h1 : I64 a.1) (h2 : a.2 < W64) :
    ItemRd.Reads rdDC (encVarint64 a.1 ++ encVarfloatBits a.2) (fun idx => (idx + a.1, vfValue a.2))
      (fun idx => idx + a.1) := by
  have r1 := reads_varint a.1 h1
  have r2 := reads_varfloat64 a.2 h2
  constructor
  · intro idx rest
    exact (congrArg _ (List.append_assoc ..)).trans (rdDC_of_ok (r1.full _) (r2.full _))
  · intro idx k hk
    rcases take_append_cases _ _ k hk with ⟨k1, k2⟩ | ⟨k', k1, _, k2⟩
    · exact (congrArg _ k2).trans (rdDC_of_error1 (r1.cut k k1))
    · exact (congrArg _ k2).trans (rdDC_of_error2 (r1.full _) (r2.cut k' k1))

theorem rdD_reads (a : Int) (h1 : I64 a) :
    ItemRd.Reads rdD (encVarint64 a) (fun idx => (idx + a, F64.one)) (fun idx => idx + a) :=
  ⟨fun _ _ => rdD_of_ok ((reads_varint a h1).full _), fun _ k hk => rdD_of_error ((reads_varint a h1).cut k hk)⟩

theorem rdCC_reads (stride : Int) (a : Nat) (h1 : a < W64) :
    ItemRd.Reads (rdCC stride) (encVarfloatBits a) (fun idx => (idx, vfValue a)) (fun idx => idx + stride) :=
  ⟨fun _ _ => rdCC_of_ok ((reads_varfloat64 a h1).full _),
   fun _ k hk => rdCC_of_error ((reads_varfloat64 a h1).cut k hk)⟩

/-- the items of an encoded list: the bins `bins idx l`, where `bins` is any function that lists `bin`
    along the running index `next` -/
theorem parseItems_reads {α} {rd : ItemRd} {enc : α → Bytes} {bin : Int → α → Int × F64}
    {next : Int → α → Int} (bins : Int → List α → List (Int × F64)) (hnil : ∀ idx, bins idx [] = [])
    (hcons : ∀ idx a l, bins idx (a :: l) = bin idx a :: bins (next idx a) l) (l : List α)
    (h : ∀ a ∈ l, ItemRd.Reads rd (enc a) (bin · a) (next · a)) (idx : Int) :
    ParseReads (parseItems rd l.length idx) (l.flatMap enc) (bins idx l) := by
  induction l generalizing idx with
  | nil => exact ⟨fun _ => by rw [hnil]; rfl, fun _ hk => absurd hk (Nat.not_lt_zero _)⟩
  | cons a l ih =>
    have ha := h a (List.mem_cons_self ..)
    have ih := ih (fun b hb => h b (List.mem_cons_of_mem _ hb)) (next idx a)
    rw [hcons]
    constructor
    · intro rest
      rw [List.length_cons, List.flatMap_cons, List.append_assoc, parseItems_some _ (ha.full idx _),
        ih.full]
    · intro k hk
      rw [List.flatMap_cons] at hk ⊢
      rw [List.length_cons]
      rcases take_append_cases (enc a) (l.flatMap enc) k hk with ⟨h1, h2⟩ | ⟨k', h1, _, h2⟩
      · rw [h2, parseItems_none _ (ha.cut idx k h1)]
        exact ⟨[], List.nil_prefix, rfl⟩
      · obtain ⟨pre, p1, p2⟩ := ih.cut k' h1
        rw [h2, parseItems_some _ (ha.full idx _), p2]
        exact ⟨_, (List.prefix_cons_inj _).2 p1, rfl⟩

theorem ParseReads.ofHeader {sub : Nat} {hdr body : Bytes} {n : Nat} {start : Int} {rd : ItemRd}
    {bins : List (Int × F64)}
    (hfull : ∀ rest, parseHeader sub (hdr ++ rest) = .ok (n, start, rd, rest))
    (hcut : ∀ k, k < hdr.length → parseHeader sub (hdr.take k) = .error .eof)
    (hitems : ParseReads (parseItems rd n start) body bins) :
    ParseReads (parseBins sub) (hdr ++ body) bins := by
  constructor
  · intro rest
    rw [List.append_assoc, parseBins_of_ok (hfull _)]
    exact hitems.full rest
  · intro k hk
    rcases take_append_cases hdr body k hk with ⟨h1, h2⟩ | ⟨k', h1, _, h2⟩
    · rw [h2, parseBins_of_error (hcut k h1)]
      exact ⟨[], List.nil_prefix, rfl⟩
    · rw [h2, parseBins_of_ok (hfull _)]
      exact hitems.cut k' h1

/-- **the parse layer on an encoded payload**: followed by anything it yields the bins the payload
    denotes and what follows; cut strictly inside, a prefix of those bins and `eof` -/
theorem parseBins_reads (p : BinsPayload) (hp : p.WF) :
    ParseReads (parseBins (payloadSub p)) (encPayload p) (payloadBins p) := by
  cases p with
  | deltasCounts items =>
    have ru := reads_uvarint _ hp.1
    rw [payloadBins_dc]
    exact .ofHeader (fun _ => parseHeader_dc (ru.full _))
      (fun k hk => parseHeader_eof (.inl rfl) (ru.cut k hk))
      (parseItems_reads dcBins (fun _ => rfl) (fun _ _ _ => rfl) items
        (fun a ha => rdDC_reads a (hp.2 a ha).1 (hp.2 a ha).2) 0)
  | deltas items =>
    have ru := reads_uvarint _ hp.1
    rw [payloadBins_d]
    exact .ofHeader (fun _ => parseHeader_d (ru.full _))
      (fun k hk => parseHeader_eof (.inr (.inl rfl)) (ru.cut k hk))
      (parseItems_reads dBins (fun _ => rfl) (fun _ _ _ => rfl) items
        (fun a ha => rdD_reads a (hp.2 a ha)) 0)
  | contiguous start stride counts =>
    have ru := reads_uvarint _ hp.1
    have rs := reads_varint _ hp.2.1
    have rt := reads_varint _ hp.2.2.1
    rw [payloadBins_cc]
    refine .ofHeader (fun rest => ?_) (fun k hk => ?_)
      (parseItems_reads (ccBins stride) (fun _ => rfl) (fun _ _ _ => rfl) counts
        (fun a ha => rdCC_reads stride a (hp.2.2.2 a ha)) start)
    · rw [List.append_assoc, List.append_assoc]
      exact parseHeader_cc_ok (ru.full _) (rs.full _) (rt.full _)
    · rw [List.append_assoc] at hk ⊢
      rcases take_append_cases _ _ k hk with ⟨h1, h2⟩ | ⟨k', h1, _, h2⟩
      · rw [h2]
        exact parseHeader_eof (.inr (.inr rfl)) (ru.cut k h1)
      · rw [h2]
        rcases take_append_cases _ _ k' h1 with ⟨h3, h4⟩ | ⟨k'', h3, _, h4⟩
        · rw [h4]
          exact parseHeader_cc_eof2 (ru.full _) (rs.cut k' h3)
        · rw [h4]
          exact parseHeader_cc_eof3 (ru.full _) (rs.full _) (rt.cut k'' h3)

theorem decodeStore_encPayload (st : Store) (p : BinsPayload) (hp : p.WF) (rest : Bytes) :
    decodeStore st (payloadSub p) (encPayload p ++ rest) =
      (match addBins st (payloadBins p) with
       | none => none
       | some st' => some (.ok (st', rest))) := by
  rw [decodeStore_parse, (parseBins_reads p hp).full]
  cases addBins st (payloadBins p) <;> rfl

/-- the bins read before the cut are a prefix of the payload's: they are added without a panic if the
    whole payload is, and then the end of the input is reported -/
theorem decodeStore_take (st : Store) (p : BinsPayload) (hp : p.WF)
    (hs : addBins st (payloadBins p) ≠ none) (k : Nat) (hk : k < (encPayload p).length) :
    decodeStore st (payloadSub p) ((encPayload p).take k) = some (.error .eof) := by
  obtain ⟨pre, h1, h2⟩ := (parseBins_reads p hp).cut k hk
  rw [decodeStore_parse, h2]
  cases h : addBins st pre with
  | none => exact absurd h (addBins_prefix h1 hs)
  | some st' => rfl

/-! ## input whose varfloats are finite: finite bins -/

/-- the weight an item reader finds is a varfloat of the input (or one) -/
def ItemRd.Finite (rd : ItemRd) : Prop :=
  ∀ idx bs bin idx' bs', rd idx bs = some (bin, idx', bs') → FiniteVarfloats bs → bin.2.isFinite = true

theorem rdDC_finite : ItemRd.Finite rdDC := by
  intro idx bs bin idx' bs' h hf
  unfold rdDC at h
  split at h
  · cases h
  · rename_i h1
    split at h
    · cases h
    · rename_i h2
      cases h
      exact hf _ _ _ (varint_suffix _ _ _ h1) h2

theorem rdD_finite : ItemRd.Finite rdD := by
  intro idx bs bin idx' bs' h _
  unfold rdD at h
  split at h
  · cases h
  · cases h; rfl

theorem rdCC_finite (stride : Int) : ItemRd.Finite (rdCC stride) := by
  intro idx bs bin idx' bs' h hf
  unfold rdCC at h
  split at h
  · cases h
  · rename_i h1; cases h; exact hf _ _ _ (List.suffix_refl _) h1

theorem parseItems_finite (rd : ItemRd)
    (hsfx : ∀ idx bs bin idx' bs', rd idx bs = some (bin, idx', bs') → bs' <:+ bs) (hfin : rd.Finite) :
    ∀ (n : Nat) (idx : Int) (bs : Bytes), FiniteVarfloats bs → FiniteBins (parseItems rd n idx bs).1 := by
  intro n
  induction n with
  | zero => intro _ _ _ p hp; cases hp
  | succ n ih =>
    intro idx bs hf
    cases hi : rd idx bs with
    | none => rw [parseItems_none n hi]; intro p hp; cases hp
    | some x =>
      obtain ⟨bin, idx', bs'⟩ := x
      rw [parseItems_some n hi]
      exact List.forall_mem_cons.2 ⟨hfin _ _ _ _ _ hi hf, ih idx' bs' (hf.suffix (hsfx _ _ _ _ _ hi))⟩

theorem parseBins_finite (sub : Nat) (bs : Bytes) (hf : FiniteVarfloats bs) :
    FiniteBins (parseBins sub bs).1 := by
  rcases parseHeader_cases sub bs with ⟨_, ⟨n, start, rd, bs', hh, hs, hrd⟩ | hh⟩ | ⟨_, hh⟩
  · rw [parseBins_of_ok hh]
    rcases hrd with rfl | rfl | ⟨stride, rfl⟩
    · exact parseItems_finite _ rdDC_suffix rdDC_finite n start bs' (hf.suffix hs)
    · exact parseItems_finite _ rdD_suffix rdD_finite n start bs' (hf.suffix hs)
    · exact parseItems_finite _ (rdCC_suffix stride) (rdCC_finite stride) n start bs' (hf.suffix hs)
  · rw [parseBins_of_error hh]; intro p hp; cases hp
  · rw [parseBins_of_error hh]; intro p hp; cases hp

/-- a store-level result that is not a panic, keeps the store a finite map and returns a suffix -/
def GoodStore (bs : Bytes) (r : Option (Except SkErr (Store × Bytes))) : Prop :=
  r ≠ none ∧ ∀ st' bs', r = some (.ok (st', bs')) → (∃ c', st' = .sp c') ∧ bs' <:+ bs

/-- finite bins never make a finite map panic -/
theorem decodeStore_good (c : Content) (sub : Nat) (bs : Bytes) (hf : FiniteVarfloats bs) :
    GoodStore bs (decodeStore (.sp c) sub bs) := by
  obtain ⟨c', hc⟩ := addBins_sp_finite c _ (parseBins_finite sub bs hf)
  refine ⟨by rw [decodeStore_parse, hc]; cases (parseBins sub bs).2 <;> exact Option.some_ne_none _,
    fun st' bs' h => ⟨?_, decodeStore_suffix _ _ _ _ _ h⟩⟩
  rw [decodeStore_parse, hc] at h
  exact ⟨c', ((Option.some.inj (finish_ok h).1).symm)⟩

end DDS.Sketch
