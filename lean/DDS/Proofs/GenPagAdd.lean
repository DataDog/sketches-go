/-
  DDS.Proofs.GenPagAdd — the mutators of the REGENERATED buffered-paginated store
  (`DDS/Generated/CodePaginated.lean`, namespace `DDS.Gen.Paginated`) equal the hand-written model
  `DDS.PStore` (`DDS/Model/Paginated.lean`).  Everything is stated for ALL model stores `s`, all buffer
  capacities `cap`, all `grow` oracles; no store invariant is assumed anywhere.  `page` enters through the
  interface hypothesis `PageSpec` (proved in `GenPagBase.page_spec`).

  * `compact_spec : PageSpec → CompactSpec compactFuel`.  The outer loop is the model's `compactLoop`
    (`compact_loop1_eq`) with the invariant: generated buffer = `kept.reverse ++ remaining`, `bufferPos` at the
    end of `kept.reverse`.  One iteration (`compact_loop1_step`): `loop3` finds the end of the group
    (`spanPage`), `loop2` sends the group to the lines of its page (`foldlM addLine`), `copyWithin` and a re-slice
    remove it from the buffer.  The model's loop never looks at the buffer, the generated one calls `page` on the
    store with the current buffer: `page_setBuf`.
  * `add_spec : PageSpec → AddSpec addFuel`, `addWithCount_spec : PageSpec → AddWithCountSpec addFuel`, `addBin_spec`;
    for a count other than 0 and 1 `AddWithCount` is an EQUATION (`addWithCount_weight`: the capacity is kept, the
    model's compaction bit is irrelevant — `addWithCount_bit_irrelevant`).
  * `reweight_nonpos`, `reweight_one`, `reweight_spec`: `Reweight` returns the error and the unchanged store for
    `w ≤ 0`, the unchanged store for `w = 1`, and otherwise equals the model's `reweight` (an equation, the
    capacity is kept).
  * model facts that need no invariant: `page_setBuf` (`page` ignores the buffer); what `page` answers and that the
    loop of `compact` keeps `pageLenLog2` come from `DDS.Proofs.PagSteps` (`page_frame`, `page_slot`,
    `CompactRun.log2`).

  FUEL (all bounds are plain functions of the store, hence satisfiable)
  * `compactFuel s = loopFuel s (len + 1) (sortInts s.buffer)`: the trace of the model's loop — per page group one
    unit plus the maximum of the group length (`loop3`), `pageFuel` of the group's page in the current store (`page`)
    and the fuel of the rest.
  * `addFuel s i = max (compactFuel s) (pageFuel s (s.pageIndex i))`.
  * `reweightFuel s w`: maximum of `pageFuel` over the re-inserted buffer entries along the model's run.

  DISAGREEMENTS: none.  `compact`, `Add`, `AddWithCount`, `AddBin`, `Reweight` agree with the model on all inputs,
  including the runs that end in a Go panic (`none` ↔ `.panic`).
-/
import DDS.Proofs.GenPagBase
import DDS.Proofs.Paginated
import DDS.Proofs.PagSteps

namespace DDS.GenPag

open DDS DDS.GoSem DDS.GenDense DDS.PStore
open DDS.Gen.Paginated

/-! ### `sortBuffer` -/

theorem sortBuffer_eq (s : PStore) (cap : Int) :
    BufferedPaginatedStore.sortBuffer (toGen s cap)
      = toGen { s with buffer := PStore.sortInts s.buffer } cap := rfl

/-! ### the model with another buffer -/

def setBuf (s : PStore) (B : List Int) : PStore := { s with buffer := B }
@[simp] theorem setBuf_pages (s : PStore) (B : List Int) : (setBuf s B).pages = s.pages := rfl
@[simp] theorem setBuf_minPageIndex (s : PStore) (B : List Int) : (setBuf s B).minPageIndex = s.minPageIndex := rfl

@[simp] theorem setBuf_buffer (s : PStore) (B : List Int) : (setBuf s B).buffer = B := rfl
@[simp] theorem setBuf_trigger (s : PStore) (B : List Int) : (setBuf s B).trigger = s.trigger := rfl
@[simp] theorem setBuf_pageLenLog2 (s : PStore) (B : List Int) : (setBuf s B).pageLenLog2 = s.pageLenLog2 := rfl
@[simp] theorem setBuf_pageLen (s : PStore) (B : List Int) : (setBuf s B).pageLen = s.pageLen := rfl
@[simp] theorem setBuf_pageIndex (s : PStore) (B : List Int) (i : Int) : (setBuf s B).pageIndex i = s.pageIndex i := rfl
@[simp] theorem setBuf_setBuf (s : PStore) (B B' : List Int) : setBuf (setBuf s B) B' = setBuf s B' := rfl
@[simp] theorem setBuf_self (s : PStore) : setBuf s s.buffer = s := rfl
@[simp] theorem pagesL_setBuf (s : PStore) (B : List Int) : pagesL (setBuf s B) = pagesL s := rfl

/-! The model's `page` and `addAtPage` read and write the page table only. -/

theorem slot?_setBuf (s : PStore) (B : List Int) (p : Int) : (setBuf s B).slot? p = s.slot? p := rfl

theorem materialize_setBuf (s : PStore) (B : List Int) (k : Nat) :
    (setBuf s B).materialize k = setBuf (s.materialize k) B := by
  unfold PStore.materialize
  by_cases h : (s.pages.getD k #[]).size = 0
  · rw [if_pos h, if_pos (by exact h)]; rfl
  · rw [if_neg h, if_neg (by exact h)]

theorem mfetch_setBuf (s : PStore) (B : List Int) (p : Int) :
    mfetch (setBuf s B) p = (mfetch s p).map fun r => (setBuf r.1 B, r.2) := by
  unfold mfetch
  dsimp only [setBuf_minPageIndex, setBuf_pages]
  rw [apply_ite (Option.map _), materialize_setBuf]
  rfl

theorem extend_setBuf (s : PStore) (B : List Int) (p : Int) :
    PStore.extend (setBuf s B) p = (PStore.extend s p).map (fun r => setBuf r B) := by
  rw [extend_eq, extend_eq s, setBuf_pages, setBuf_minPageIndex]
  cases extendTable s.pages s.minPageIndex p <;> rfl

theorem page_setBuf (s : PStore) (B : List Int) (p : Int) (e : Bool) :
    (setBuf s B).page p e = (s.page p e).map (fun r => (setBuf r.1 B, r.2)) := by
  cases e with
  | false => rw [page_false, page_false]; rfl
  | true =>
    rw [page_true, page_true, slot?_setBuf, extend_setBuf]
    cases (s.slot? p).isSome with
    | true => exact mfetch_setBuf s B p
    | false =>
      cases PStore.extend s p with
      | none => rfl
      | some s1 => exact mfetch_setBuf s1 B p

theorem addAtPage_setBuf (s : PStore) (B : List Int) (k line : Nat) (c : Rat) :
    (setBuf s B).addAtPage k line c = (s.addAtPage k line c).map (setBuf · B) := by
  rw [addAtPage_def, addAtPage_def s, apply_ite (Option.map _)]
  rfl

/-! ### `compact`: the inner loops -/

/-- the model step of loop2 -/
def addLine (k : Nat) (acc : PStore) (i : Int) : Option PStore := addAtPage acc k (acc.lineIndex i) 1

theorem foldlM_addLine_eq (k : Nat) (grp : List Int) (s : PStore) :
    grp.foldlM (fun acc i => addAtPage acc k (acc.lineIndex i) 1) s = grp.foldlM (addLine k) s := rfl

/-- loop2 of `compact`: the entries of one page group go to the lines of their page; `newPage` aliases
    `s.pages[k]` -/
theorem compact_loop2_eq (cap : Int) (k : Nat) (B : List Int) : ∀ (grp : List Int) (s : PStore),
    BufferedPaginatedStore.compact.loop2 (k : Int) grp (s.pages.getD k #[]).toList (toGen (setBuf s B) cap)
      = match grp.foldlM (addLine k) s with
        | none => .panic
        | some s2 => .done ((s2.pages.getD k #[]).toList, toGen (setBuf s2 B) cap) := by
  intro grp
  induction grp with
  | nil => intro s; rfl
  | cons i grp ih =>
    intro s
    rw [BufferedPaginatedStore.compact.loop2, gen_lineIndex, List.foldlM_cons, addLine]
    refine (addAtPage_L (setBuf s B) cap k (s.lineIndex i) 1 _).trans ?_
    rw [addAtPage_setBuf]
    cases s.addAtPage k (s.lineIndex i) 1 with
    | none => rfl
    | some s' => exact ih s'

/-- loop3 of `compact`: the end of the group of entries on page `p` -/
theorem compact_loop3_eq (cap : Int) (s : PStore) (p : Int) : ∀ (l pre : List Int) (fuel : Nat),
    (s.spanPage p l).1.length < fuel →
    BufferedPaginatedStore.compact.loop3 (toGen (setBuf s (pre ++ l)) cap) p fuel (GoSem.len pre)
      = .done (GoSem.len (pre ++ (s.spanPage p l).1)) := by
  intro l
  induction l with
  | nil =>
    intro pre fuel hf
    cases fuel with
    | zero => cases hf
    | succ f =>
      unfold BufferedPaginatedStore.compact.loop3
      rw [toGen_buffer, setBuf_buffer, if_neg (by rw [decide_eq_true_eq, List.append_nil]; exact Int.lt_irrefl _),
        PStore.spanPage, List.append_nil]
  | cons x xs ih =>
    intro pre fuel hf
    cases fuel with
    | zero => cases hf
    | succ f =>
      unfold BufferedPaginatedStore.compact.loop3
      rw [toGen_buffer, setBuf_buffer, if_pos (decide_eq_true (len_lt_append_cons pre x xs)), idx_len_append,
        optL_some, gen_pageIndex, setBuf_pageIndex]
      by_cases hp : s.pageIndex x = p
      · rw [spanPage_cons_pos s p x xs hp] at hf ⊢
        rw [if_pos (beq_iff_eq.2 hp), ← len_snoc pre x, List.append_cons pre x xs]
        exact (ih (pre ++ [x]) f (Nat.lt_of_succ_lt_succ hf)).trans (by rw [← List.append_cons])
      · rw [spanPage_cons_neg s p x xs hp, if_neg (mt beq_iff_eq.1 hp), List.append_nil]

/-! ### `compact`: the outer loop -/

/-- fuel for the outer loop of `compact`, following the model's `compactLoop`: one unit per group, plus what
    the group scan (`loop3`) and `page` need inside the iteration -/
def loopFuel : PStore → Nat → List Int → Nat
  | _, 0, _ => 1
  | _, _ + 1, [] => 1
  | s, n + 1, x :: xs =>
    max (max (s.spanPage (s.pageIndex x) (x :: xs)).1.length (pageFuel s (s.pageIndex x)))
      (match s.page (s.pageIndex x)
          (decide ((s.spanPage (s.pageIndex x) (x :: xs)).1.length * 64 ≥ s.pageLen * 64)) with
        | none => 0
        | some (s', some k) =>
          match (s.spanPage (s.pageIndex x) (x :: xs)).1.foldlM (addLine k) s' with
          | none => 0
          | some s'' => loopFuel s'' n (s.spanPage (s.pageIndex x) (x :: xs)).2
        | some (s', none) => loopFuel s' n (s.spanPage (s.pageIndex x) (x :: xs)).2) + 1

/-- the test `pageLen*64 <= (end-start)*64` of the generated code on a group `g` between `len a` and `len (a ++ g)` -/
theorem ensure_eq (n : Nat) (a g : List Int) :
    decide ((n : Int) * 64 ≤ (GoSem.len (a ++ g) - GoSem.len a) * 64) = decide (g.length * 64 ≥ n * 64) := by
  rw [len_append, Int.add_comm, Int.add_sub_cancel, decide_eq_decide]
  unfold GoSem.len
  omega

/-- one iteration of the outer loop on the group `x :: a` of the entries on the page of `x` -/
theorem compact_loop1_step (hpage : PageSpec) (cap : Int) (sm : PStore) (A a b : List Int) (x : Int) (f : Nat)
    (hsp : sm.spanPage (sm.pageIndex x) (a ++ b) = (a, b))
    (hf3 : a.length < f) (hfp : pageFuel sm (sm.pageIndex x) ≤ f) :
    BufferedPaginatedStore.compact.loop1 (sm.pageLen : Int) (f + 1) (GoSem.len A)
        (toGen (setBuf sm (A ++ x :: (a ++ b))) cap)
      = match sm.page (sm.pageIndex x) (decide ((x :: a).length * 64 ≥ sm.pageLen * 64)) with
        | none => .panic
        | some (s1, none) =>
          BufferedPaginatedStore.compact.loop1 (sm.pageLen : Int) f (GoSem.len (A ++ (x :: a)))
            (toGen (setBuf s1 (A ++ x :: (a ++ b))) cap)
        | some (s1, some k) =>
          match (x :: a).foldlM (addLine k) s1 with
          | none => .panic
          | some s2 =>
            BufferedPaginatedStore.compact.loop1 (sm.pageLen : Int) f (GoSem.len A) (toGen (setBuf s2 (A ++ b)) cap) := by
  have h3 := compact_loop3_eq cap sm (sm.pageIndex x) (a ++ b) (A ++ [x]) f (by rw [hsp]; exact hf3)
  rw [hsp, ← List.append_cons, ← List.append_cons, len_snoc] at h3
  rw [BufferedPaginatedStore.compact.loop1, toGen_buffer, setBuf_buffer,
    if_pos (decide_eq_true (len_lt_append_cons A x _))]
  dsimp only
  rw [idx_len_append, optL_some, gen_pageIndex, setBuf_pageIndex, h3, Loop.elimL_done]
  dsimp only
  rw [ensure_eq, hpage (setBuf sm (A ++ x :: (a ++ b))) cap _ _ f hfp, page_setBuf]
  cases hpg : sm.page (sm.pageIndex x) (decide ((x :: a).length * 64 ≥ sm.pageLen * 64)) with
  | none => rfl
  | some r =>
    obtain ⟨s1, k?⟩ := r
    rw [Option.map_some, toRes_some, Res.bindL_ok]
    cases k? with
    | none => rfl
    | some k =>
      obtain ⟨-, hk2, hk3⟩ := PStore.page_slot hpg
      dsimp (config := { instances := true }) only [pageOf, toGen_buffer, setBuf_buffer, toGen_minPageIndex,
        setBuf_minPageIndex, setBuf_pages]
      rw [if_pos (decide_eq_true (by rw [len_toList]; exact Int.natCast_pos.2 (Nat.pos_of_ne_zero hk2))), hk3,
        ← List.cons_append (a := x) (as := a) (bs := b), slice_group, optL_some, compact_loop2_eq]
      cases List.foldlM (addLine k) s1 (x :: a) with
      | none => rfl
      | some s2 =>
        rw [Loop.elimL_done]
        dsimp only [toGen_buffer, setBuf_buffer]
        rw [copyWithin_group, optL_some,
          len_sub_group A (x :: a) b _ (by rw [List.length_drop, List.length_append, Nat.add_sub_cancel]),
          sliceTo_len_append, optL_some]
        rfl

theorem compact_loop1_nil (cap : Int) (L : Int) (sm : PStore) (A : List Int) (fuel : Nat) (hf : 0 < fuel) :
    BufferedPaginatedStore.compact.loop1 L fuel (GoSem.len A) (toGen (setBuf sm (A ++ [])) cap)
      = .done (GoSem.len A, toGen (setBuf sm A) cap) := by
  cases fuel with
  | zero => cases hf
  | succ f =>
    rw [BufferedPaginatedStore.compact.loop1, toGen_buffer, setBuf_buffer, List.append_nil,
      if_neg (by rw [decide_eq_true_eq]; exact Int.lt_irrefl _)]

theorem compact_loop1_eq (hpage : PageSpec) (cap : Int) : ∀ (n : Nat) (l : List Int) (sm : PStore)
    (kept : List Int) (fuel : Nat), l.length ≤ n → loopFuel sm n l ≤ fuel →
    BufferedPaginatedStore.compact.loop1 ((sm.pageLen : Nat) : Int) fuel (GoSem.len kept.reverse)
        (toGen (setBuf sm (kept.reverse ++ l)) cap)
      = match sm.compactLoop n l kept with
        | none => .panic
        | some r => .done (GoSem.len r.2, toGen (setBuf r.1 r.2) cap) := by
  intro n
  induction n with
  | zero =>
    intro l sm kept fuel hl hf
    cases List.eq_nil_of_length_eq_zero (Nat.le_zero.1 hl)
    exact compact_loop1_nil cap _ sm _ fuel hf
  | succ n ih =>
    intro l sm kept fuel hl hf
    cases l with
    | nil => exact compact_loop1_nil cap _ sm _ fuel hf
    | cons x xs =>
      have hab := PStore.spanPage_append sm (sm.pageIndex x) xs
      rw [loopFuel] at hf
      rw [PStore.compactLoop]
      rw [spanPage_cons_pos sm _ x xs rfl] at hf ⊢
      generalize hsp : sm.spanPage (sm.pageIndex x) xs = ab at hab hf ⊢
      obtain ⟨a, b⟩ := ab
      dsimp only at hab hf ⊢
      subst hab
      cases fuel with
      | zero => cases hf
      | succ f =>
        have hf := Nat.le_of_succ_le_succ hf
        have hfa := Nat.le_trans (Nat.le_trans (Nat.le_max_left _ _) (Nat.le_max_left _ _)) hf
        have hfp := Nat.le_trans (Nat.le_trans (Nat.le_max_right _ _) (Nat.le_max_left _ _)) hf
        have hfm := Nat.le_trans (Nat.le_max_right _ _) hf
        have hb : b.length ≤ n := by rw [List.length_cons, List.length_append] at hl; omega
        rw [compact_loop1_step hpage cap sm _ a b x f hsp hfa hfp]
        cases hpg : sm.page (sm.pageIndex x) (decide ((x :: a).length * 64 ≥ sm.pageLen * 64)) with
        | none => rfl
        | some r =>
          obtain ⟨s1, k?⟩ := r
          rw [hpg] at hfm
          have hpl : s1.pageLen = sm.pageLen := PStore.pageLen_congr (PStore.page_frame hpg).1
          cases k? with
          | none =>
            have := ih b s1 ((x :: a).reverse ++ kept) f hb hfm
            rw [List.reverse_append, List.reverse_reverse, List.append_assoc, hpl] at this
            exact this
          | some k =>
            dsimp only at hfm ⊢
            rw [foldlM_addLine_eq]
            cases hfold : List.foldlM (addLine k) s1 (x :: a) with
            | none => rfl
            | some s2 =>
              rw [hfold] at hfm
              have := ih b s2 kept f hb hfm
              rw [PStore.pageLen_congr ((PStore.foldAddLine_frame hfold).log2.trans (PStore.page_frame hpg).1)]
                at this
              exact this

/-! ### `compact` -/

/-- fuel that `compact` needs: the trace of the model's loop over the sorted buffer (one unit per page group,
    plus the length of the group and `pageFuel` of its page inside the iteration) -/
def compactFuel (s : PStore) : Nat :=
  loopFuel s ((PStore.sortInts s.buffer).length + 1) (PStore.sortInts s.buffer)

theorem compact_spec (hpage : PageSpec) : CompactSpec compactFuel := by
  intro s cap fuel hf
  have h1 := compact_loop1_eq hpage cap _ (PStore.sortInts s.buffer) s [] fuel (Nat.le_succ _) hf
  unfold BufferedPaginatedStore.compact PStore.compact
  dsimp only
  rw [gen_pageLen, sortBuffer_eq]
  refine (congrArg (Loop.elim · _) h1).trans ?_
  cases hc : s.compactLoop ((PStore.sortInts s.buffer).length + 1) (PStore.sortInts s.buffer) [] with
  | none => rfl
  | some r =>
    rw [← PStore.pageLen_congr (PStore.compactLoop_run _ _ _ _ _ _ (Nat.lt_succ_self _) hc).log2]
    rfl

/-! ### `Add` -/

theorem ROk_of_toRes (cap : Int) (r : Res GP) (m : Option PStore)
    (h : r = toRes (fun s' => toGen s' cap) m) : ROk r m := by
  subst h
  cases m with
  | none => rfl
  | some s' => exact ⟨_, rfl, cap, rfl⟩

/-- `buffer = append(buffer, index)`; when the buffer is full the capacity becomes what the runtime's growth
    policy `grow` says -/
def genAppend (grow : Int → Int → Int) (s : GP) (index : Int) : GP :=
  let s := if ((GoSem.len (s).buffer) == (s).bufferCap) then
    { s with bufferCap := (grow (s).bufferCap ((GoSem.len (s).buffer) + (1 : Int))) }
    else s
  { s with buffer := ((s).buffer ++ [index]) }

/-- whatever the growth policy, the append yields the image of the model store with the longer buffer -/
theorem genAppend_rel (grow : Int → Int → Int) (s : PStore) (cap : Int) (i : Int) :
    Rel (genAppend grow (toGen s cap) i) { s with buffer := s.buffer ++ [i] } := by
  unfold genAppend
  split <;> exact ⟨_, rfl⟩

/-- the buffered path of the generated `Add` (it occurs twice in the generated code): compact when the buffer
    is full and long enough, then append -/
def genBuf (fuel : Nat) (grow : Int → Int → Int) (s : GP) (index : Int) : Res GP :=
  Res.bind (if (((GoSem.len (s).buffer) == (s).bufferCap) && (decide ((s).bufferCompactionTriggerLen ≤ (GoSem.len (s).buffer)))) then
    Res.bind (BufferedPaginatedStore.compact fuel s) (fun s => .ok s)
    else .ok s) (fun s => .ok (genAppend grow s index))

/-- the buffered path of the model's `addUnit` -/
def modelBuf (s : PStore) (i : Int) (b : Bool) : Option PStore := do
  let s ← if b ∧ s.buffer.length ≥ s.trigger then s.compact else pure s
  pure { s with buffer := s.buffer ++ [i] }

theorem genBuf_spec (hpage : PageSpec) (s : PStore) (cap : Int) (grow : Int → Int → Int) (i : Int) (fuel : Nat)
    (hf : compactFuel s ≤ fuel) :
    ROk (genBuf fuel grow (toGen s cap) i) (modelBuf s i (decide ((s.buffer.length : Int) = cap))) := by
  unfold genBuf modelBuf
  have hg : ((GoSem.len (toGen s cap).buffer == (toGen s cap).bufferCap) &&
        decide ((toGen s cap).bufferCompactionTriggerLen ≤ GoSem.len (toGen s cap).buffer)) = true
      ↔ decide ((s.buffer.length : Int) = cap) = true ∧ s.buffer.length ≥ s.trigger := by
    rw [Bool.and_eq_true, beq_iff_eq, decide_eq_true_eq, decide_eq_true_eq]
    exact and_congr Iff.rfl Int.ofNat_le
  by_cases hc : decide ((s.buffer.length : Int) = cap) = true ∧ s.buffer.length ≥ s.trigger
  · rw [if_pos (hg.2 hc), if_pos hc, compact_spec hpage s cap fuel hf]
    cases s.compact with
    | none => rfl
    | some s' => exact ⟨_, rfl, genAppend_rel grow s' cap i⟩
  · rw [if_neg (mt hg.1 hc), if_neg hc]
    exact ⟨_, rfl, genAppend_rel grow s cap i⟩

theorem addUnit_eq (s : PStore) (i : Int) (b : Bool) :
    s.addUnit i b =
      match s.slot? (s.pageIndex i) with
      | some k => if (s.pages.getD k #[]).size > 0 then addAtPage s k (s.lineIndex i) 1 else modelBuf s i b
      | none => modelBuf s i b := by
  unfold PStore.addUnit modelBuf
  cases s.slot? (s.pageIndex i) with
  | none => rfl
  | some k =>
    dsimp only
    by_cases hz : (s.pages.getD k #[]).size > 0
    · rw [if_pos hz, if_pos hz]
    · rw [if_neg hz, if_neg hz]

/-- fuel for `Add` / `AddWithCount`: what a compaction of the current buffer needs (and `page`, for a count ≠ 1) -/
def addFuel (s : PStore) (i : Int) : Nat := max (compactFuel s) (pageFuel s (s.pageIndex i))

theorem add_spec (hpage : PageSpec) : AddSpec addFuel := by
  intro s cap grow i fuel hf
  have hf1 : compactFuel s ≤ fuel := Nat.le_trans (Nat.le_max_left _ _) hf
  rw [addUnit_eq]
  unfold BufferedPaginatedStore.Add
  dsimp (config := { instances := true }) only [toGen_minPageIndex, toGen_pages]
  rw [gen_pageIndex, gen_lineIndex, len_pagesL]
  cases hs : s.slot? (s.pageIndex i) with
  | none =>
    rw [if_neg (by
      rw [Bool.and_eq_true, decide_eq_true_eq, decide_eq_true_eq]; exact (PStore.slot?_eq_none s _).1 hs)]
    exact genBuf_spec hpage s cap grow i fuel hf1
  | some k =>
    obtain ⟨h1, h2, hk⟩ := (PStore.slot?_eq_some s _ k).1 hs
    rw [if_pos (by rw [Bool.and_eq_true, decide_eq_true_eq, decide_eq_true_eq]; exact ⟨h1, h2⟩),
      idx_pagesL s _ (Int.sub_nonneg.2 h1) (Int.sub_left_lt_of_lt_add h2), optR_some, ← hk, len_toList]
    dsimp only
    by_cases hz : (s.pages.getD k #[]).size > 0
    · rw [if_pos (decide_eq_true (Int.natCast_pos.2 hz)), if_pos hz,
        ← Int.toNat_of_nonneg (Int.sub_nonneg.2 h1), ← hk]
      exact ROk_of_toRes cap _ _ (addAtPage_gen s cap k _ 1)
    · rw [if_neg (mt (fun h => Int.natCast_pos.1 (of_decide_eq_true h)) hz), if_neg hz]
      exact genBuf_spec hpage s cap grow i fuel hf1

/-! ### `AddWithCount`, `AddBin` -/

/-- the compaction bit only matters for a unit count -/
theorem addWithCount_bit_irrelevant (s : PStore) (i : Int) (c : Rat) (b₁ b₂ : Bool) (h1 : c ≠ 1) :
    s.addWithCount i c b₁ = s.addWithCount i c b₂ := by
  unfold PStore.addWithCount
  rw [if_neg h1, if_neg h1]

/-- `AddWithCount` with a count other than 0 and 1 never touches the buffer: an equation, the capacity is kept,
    the compaction bit of the model is irrelevant, and only `page` needs fuel -/
theorem addWithCount_weight (hpage : PageSpec) (s : PStore) (cap : Int) (grow : Int → Int → Int) (i : Int)
    (c : Rat) (b : Bool) (fuel : Nat) (h0 : c ≠ 0) (h1 : c ≠ 1) (hf2 : pageFuel s (s.pageIndex i) ≤ fuel) :
    BufferedPaginatedStore.AddWithCount fuel grow (toGen s cap) i c
      = toRes (fun s' => toGen s' cap) (s.addWithCount i c b) := by
  unfold BufferedPaginatedStore.AddWithCount PStore.addWithCount
  rw [if_neg (mt beq_iff_eq.1 h0), if_neg h0, if_neg (mt beq_iff_eq.1 h1), if_neg h1, Res.bind_ok_right, gen_pageIndex]
  dsimp only
  rw [hpage s cap _ true fuel hf2]
  cases hpg : s.page (s.pageIndex i) true with
  | none => rfl
  | some r =>
    obtain ⟨s1, k?⟩ := r
    rw [toRes_some, Res.bind_ok, gen_lineIndex]
    cases k? with
    | none => rfl
    | some k =>
      dsimp only [pageOf, toGen_minPageIndex]
      rw [(PStore.page_slot hpg).2.2]
      exact addAtPage_gen s1 cap k _ c

theorem addWithCount_spec (hpage : PageSpec) : AddWithCountSpec addFuel := by
  intro s cap grow i c fuel hf
  by_cases h0 : c = 0
  · unfold BufferedPaginatedStore.AddWithCount PStore.addWithCount
    rw [if_pos (beq_iff_eq.2 h0), if_pos h0]
    exact ⟨_, rfl, cap, rfl⟩
  · by_cases h1 : c = 1
    · unfold BufferedPaginatedStore.AddWithCount PStore.addWithCount
      rw [if_neg (mt beq_iff_eq.1 h0), if_neg h0, if_pos (beq_iff_eq.2 h1), if_pos h1, Res.bind_ok_right, Res.bind_ok_right]
      exact add_spec hpage s cap grow i fuel hf
    · exact ROk_of_toRes cap _ _
        (addWithCount_weight hpage s cap grow i c _ fuel h0 h1 (Nat.le_trans (Nat.le_max_right _ _) hf))

theorem addBin_spec (hpage : PageSpec) (s : PStore) (cap : Int) (grow : Int → Int → Int) (bin : Bin)
    (fuel : Nat) (hf : addFuel s bin.index ≤ fuel) :
    ROk (BufferedPaginatedStore.AddBin fuel grow (toGen s cap) bin)
      (s.addWithCount bin.index bin.count (decide ((s.buffer.length : Int) = cap))) := by
  unfold BufferedPaginatedStore.AddBin
  rw [Res.bind_ok_right]
  exact addWithCount_spec hpage s cap grow bin.index bin.count fuel hf

/-! ### `Reweight` -/

theorem reweight_nonpos (fuel : Nat) (grow : Int → Int → Int) (g : GP) (w : Rat) (hw : w ≤ 0) :
    BufferedPaginatedStore.Reweight fuel grow g w
      = .ok (g, GoErr.named "can't reweight by a negative factor") := by
  unfold BufferedPaginatedStore.Reweight
  rw [if_pos (by simpa using hw)]

theorem reweight_one (fuel : Nat) (grow : Int → Int → Int) (g : GP) :
    BufferedPaginatedStore.Reweight fuel grow g 1 = .ok (g, GoErr.nil) := by
  unfold BufferedPaginatedStore.Reweight
  rw [if_neg (by decide), if_pos (by decide)]

/-- the store `Reweight` re-inserts the buffered entries into: empty buffer, scaled pages -/
def scaled (s : PStore) (w : Rat) : PStore :=
  { s with buffer := [], pages := s.pages.map (fun pg => pg.map (· * w)) }

theorem reweight_eq_fold (s : PStore) (w : Rat) :
    s.reweight w = s.buffer.foldlM (fun acc i => acc.addWithCount i w) (scaled s w) := rfl

theorem pagesL_scaled (s : PStore) (w : Rat) :
    pagesL (scaled s w) = (pagesL s).map (fun pg => pg.map (· * w)) := by
  simp [pagesL, scaled]

/-- loop3 of `Reweight`: one page, line by line; `p` aliases `s.pages[pIdx]` and the range runs over the
    lines not yet scaled -/
theorem reweight_loop3_eq (w : Rat) (b : List Int) (c t m l k : Int) (pre post : List (List Rat)) :
    ∀ (todo done : List Rat),
    BufferedPaginatedStore.Reweight.loop3 w (GoSem.len pre) todo (GoSem.len done) (done ++ todo)
        ⟨b, c, t, pre ++ (done ++ todo) :: post, m, l, k⟩
      = .done (done ++ todo.map (· * w), ⟨b, c, t, pre ++ (done ++ todo.map (· * w)) :: post, m, l, k⟩) := by
  intro todo
  induction todo with
  | nil => intro done; rfl
  | cons x todo ih =>
    intro done
    unfold BufferedPaginatedStore.Reweight.loop3
    rw [idx_len_append, optL_some, set_len_append, optL_some, set_len_append, optL_some]
    dsimp only
    rw [List.append_cons done, ← len_snoc done (x * w), ih, List.map_cons, ← List.append_cons]

/-- loop2 of `Reweight`: all pages -/
theorem reweight_loop2_eq (w : Rat) (b : List Int) (c t m l k : Int) : ∀ (post pre : List (List Rat)),
    BufferedPaginatedStore.Reweight.loop2 w post (GoSem.len pre) ⟨b, c, t, pre ++ post, m, l, k⟩
      = .done ⟨b, c, t, pre ++ post.map (fun pg => pg.map (· * w)), m, l, k⟩ := by
  intro post
  induction post with
  | nil => intro pre; rfl
  | cons p post ih =>
    intro pre
    have h3 := reweight_loop3_eq w b c t m l k pre post p []
    rw [List.nil_append, List.nil_append] at h3
    unfold BufferedPaginatedStore.Reweight.loop2
    rw [show (0 : Int) = GoSem.len ([] : List Rat) from rfl, h3, Loop.elimL_done]
    dsimp only
    rw [List.append_cons pre, ← len_snoc pre (p.map (· * w)), ih, List.map_cons, ← List.append_cons]

/-- fuel for the re-insertion loop of `Reweight`: `page` for every buffered entry, along the model's run -/
def reweightLoopFuel (w : Rat) : List Int → PStore → Nat
  | [], _ => 0
  | i :: rest, s =>
    max (pageFuel s (s.pageIndex i))
      (match s.addWithCount i w with
        | none => 0
        | some s' => reweightLoopFuel w rest s')

theorem reweight_loop1_eq (hpage : PageSpec) (w : Rat) (h0 : w ≠ 0) (h1 : w ≠ 1) (cap : Int)
    (grow : Int → Int → Int) (fuel : Nat) : ∀ (l : List Int) (s : PStore), reweightLoopFuel w l s ≤ fuel →
    BufferedPaginatedStore.Reweight.loop1 fuel grow w l (toGen s cap)
      = match l.foldlM (fun acc i => acc.addWithCount i w) s with
        | none => .panic
        | some s' => .done (toGen s' cap) := by
  intro l
  induction l with
  | nil => intro s _; rfl
  | cons i rest ih =>
    intro s hf
    rw [reweightLoopFuel] at hf
    unfold BufferedPaginatedStore.Reweight.loop1
    rw [addWithCount_weight hpage s cap grow i w true fuel h0 h1 (by omega)]
    simp only [List.foldlM_cons, Option.bind_eq_bind]
    cases hm : s.addWithCount i w true with
    | none => rfl
    | some s' =>
      rw [hm] at hf
      simp only [toRes_some, Res.bindL_ok, Option.bind_some]
      exact ih s' (by simp only at hf; omega)

/-- fuel for `Reweight` (`w > 0`, `w ≠ 1`): `page` for every buffered entry, along the model's run -/
def reweightFuel (s : PStore) (w : Rat) : Nat := reweightLoopFuel w s.buffer (scaled s w)

/-- `Reweight` by `w > 0`, `w ≠ 1`: the model's `reweight` (the capacity is kept: the buffer is emptied by a
    re-slice and no entry goes back to it) -/
theorem reweight_spec (hpage : PageSpec) (s : PStore) (cap : Int) (grow : Int → Int → Int) (w : Rat)
    (fuel : Nat) (hw : 0 < w) (h1 : w ≠ 1) (hf : reweightFuel s w ≤ fuel) :
    BufferedPaginatedStore.Reweight fuel grow (toGen s cap) w
      = toRes (fun s' => (toGen s' cap, GoErr.nil)) (s.reweight w) := by
  have h0 : w ≠ 0 := fun h => absurd (h ▸ hw) (by decide)
  have h2 := reweight_loop2_eq w [] cap s.trigger s.minPageIndex s.pageLenLog2 ((2 : Int) ^ s.pageLenLog2 - 1)
    (pagesL s) []
  rw [List.nil_append, List.nil_append, ← pagesL_scaled] at h2
  unfold BufferedPaginatedStore.Reweight
  rw [if_neg (mt of_decide_eq_true (Rat.not_le.mpr hw)), if_neg (mt beq_iff_eq.1 h1), sliceTo_zero, optR_some]
  refine (congrArg (Loop.elim · _) h2).trans ?_
  rw [Loop.elim_done]
  refine (congrArg (Loop.elim · _) (reweight_loop1_eq hpage w h0 h1 cap grow fuel s.buffer (scaled s w) hf)).trans ?_
  rw [reweight_eq_fold]
  cases s.buffer.foldlM (fun acc i => acc.addWithCount i w) (scaled s w) <;> rfl

/-! ### the interfaces instantiated with `GenPagBase.page_spec`

  `compact_spec`, `add_spec`, `addWithCount_spec` take `PageSpec`; these are the closed statements. -/

theorem compactSpec : CompactSpec compactFuel := compact_spec page_spec
theorem addSpec : AddSpec addFuel := add_spec page_spec
theorem addWithCountSpec : AddWithCountSpec addFuel := addWithCount_spec page_spec

end DDS.GenPag
