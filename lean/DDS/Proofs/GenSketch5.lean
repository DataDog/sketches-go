/-
  DDS.Proofs.GenSketch5 — the REGENERATED sketch DECODER against the hand-written model
  `Sketch.decodeLoop` / `Sketch.fallback` / `Sketch.decodeAndMergeWith` (`DDS/Model/Sketch.lean`):
  * the loop in STATE-PASSING form, `Gen.SketchIter.DDSketch.decodeAndMergeWith` with its `loop1`
    (`DDS/Generated/CodeSketchIter.lean`; the threaded state `σ` is what the fallback closure assigns), and
  * the plain `DDSketch.decodeAndMergeWith` / `loop1`, the lifted function literal
    `DDSketch.DecodeAndMergeWith.lit1` and `DDSketch.DecodeAndMergeWith` of `DDS/Generated/CodeSketch.lean`,
  both translated from `/repo/ddsketch/ddsketch.go:418-470` on every run.

  How the two sides are tied together
  * the stores are the model's (`StoreI Store`, `DDS/Proofs/GenSketch.lean`): `DecodeAndMergeWith := storeDecode`
    goes through the model's `Sketch.decodeStore` (that the REGENERATED generic bin decoder equals
    `decodeStore` is `DDS/Proofs/GenStoreDecode.lean`, independent of this instance).  The sketch decoder hands
    the store `flag.SubFlag()`, whose bits stay IN PLACE (`flag & 0xFC`): `storeDecode` reads the sub-flag
    number as `Wire.flagSub` of that byte (`flagSub_SubFlag`).
  * the mapping type `M` is ANY type with a `MapI` instance that meets `MapLaw idOf` for a reading
    `idOf : M → Option MapId` of its identity: `isNil m ↔ idOf m = none`, `Equals` is `MapId.equals` on the
    identities, `Decode` reads the same bytes and returns the same error as the instance's `mapDecode`
    (`DDS/Proofs/GenSketch.lean`, through `Codec.decF64LE` and `MapId.ofBlock`) and, on success, an object
    with the decoded identity.  Two instances: `M := MapEnv` (`mapEnv_law`; the receiver always holds a
    mapping object, `isNil` is `false`) and `M := Option MapEnv` (`optMapEnv_law`, instance in this file,
    `isNil := Option.isNone`; the receiver of `DecodeDDSketch(b, provider, nil)` — "missing index mapping").
  * `ofGenI idOf g` is the model sketch a generated structure stands for (`ofGen` for `MapEnv`, `ofGenO` for
    `Option MapEnv`); `decErr e` (`DDS/Proofs/GenSketch.lean`) is the Go error VALUE of each refusal of the
    model: `.eof ↦ io.EOF`, `.unknownFlag ↦ errUnknownFlag`, `.mismatch ↦ "index mapping mismatch"`,
    `.unknownMapping ↦ "unknown mapping"`, `.badGamma ↦ "Gamma must be greater than 1."`,
    `.unknownBinEncoding ↦ "unknown bin encoding"`, `.missingMapping ↦ "missing index mapping"`; never nil
    (`decErr_ne_nil`).

  Theorems
  1. `loop1S_rel`, `decodeAndMergeWithS_rel`: the state-passing loop against
     `Sketch.decodeLoop` with ANY auxiliary state `aux`, block by block, for any fallback meeting `FbSpecS R`
     (a relation `R` between `aux` and the threaded state), any mapping type meeting `MapLaw`; model fuel
     `≥ len b`, generated fuel `≥ len b + 9`.
  2. `loop1_unit`, `decodeAndMergeWith_unit`: the plain loop IS the state-passing one at the unit state;
     `lit1_spec`: the lifted fallback literal meets `FbSpecS` against `Sketch.fallback { stats := none }`
     for EVERY flag byte and input (fuel `≥ 9`).
  3. `DecodeAndMergeWith_rel_gen` (fuel `≥ len b + 9`): `DecRel` —
       model `some (.ok s')`    ⇒ generated `.ok (g', nil)` with `ofGenI idOf g' = s'`;
       model `some (.error e)`  ⇒ generated `.ok (g', decErr e)` (returns normally: neither `.panic` nor
                                  `.nofuel`; error not nil, of the same class — in fact the same VALUE);
       model `none` (a store operation of the model panics) ⇒ nothing claimed.
     On a refusal nothing is claimed about the returned structure `g'` (in Go the receiver keeps what was merged
     before the error; the model does not expose that state).
  4. `DecodeAndMergeWith_rel` / `_ok` / `_error` for `M := MapEnv` on `toGen env s` (`s.mapping = some env.id`),
     through `ofGen`; `DecodeAndMergeWith_relO`, `DecodeAndMergeWith_missing` for `M := Option MapEnv` on
     `toGenO m s` (`s.mapping = m.map (·.id)`), through `ofGenO`.
  Fuel: every iteration consumes one unit and at least the flag byte; the varfloat64 decoders inside need 9
  (`GenEncoding.DecodeVarfloat64_eq`); the literal is handed the caller's whole fuel.  `len b + 9` suffices.

  DISAGREEMENTS between the generated decoder and the model: NONE found — same dispatch order (store types,
  mapping, zero count, fallback), same error precedence in the mapping block (unknown sub-flag before the
  payload is read; `io.EOF` for a short payload; then the constructor's errors; then the mismatch test), same
  bytes consumed by every block, same state on success, "missing index mapping" exactly when no mapping is
  held after the loop.  A trap in the hand-written glue: `Sketch.decodeStore` expects the sub-flag NUMBER, so the
  instance's `storeDecode` passes `Wire.flagSub sub.byte.toNat`; with `sub.byte.toNat` (the in-place sub-flag, a
  multiple of 4) every store block would be "unknown bin encoding".
-/
import DDS.Generated.CodeSketchIter
import DDS.Proofs.GenSketch2
import DDS.Proofs.GenStoreDecode

set_option linter.unusedVariables false
set_option linter.unusedSectionVars false

namespace DDS.GenSketch

open DDS DDS.GoSem DDS.Gen.Sketch DDS.Gen.Encoding DDS.GenEncoding DDS.Codec

/-! ### bytes: what a suffix of the model's input is on the Go side -/

theorem nb_bn_suffix {b : List (BitVec 8)} {r : Bytes} (h : r <:+ nb b) : nb (bn r) = r :=
  nb_bn r (fun x hx => nb_lt b x (h.subset hx))

theorem bn_suffix_length {b : List (BitVec 8)} {r : Bytes} (h : r <:+ nb b) : (bn r).length ≤ b.length := by
  rw [bn_length, ← nb_length b]; exact h.length_le

theorem bn_drop (b : List (BitVec 8)) (k : Nat) : bn ((nb b).drop k) = b.drop k := by
  rw [← nb_drop, bn_nb]

/-- the model's 8-byte read on a Go slice: what remains is the slice from 8 on -/
theorem decF64LE_nb (b : List (BitVec 8)) :
    decF64LE (nb b) = if b.length < 8 then .error .eof else .ok (leValue ((nb b).take 8), nb (b.drop 8)) := by
  unfold decF64LE
  rw [nb_length, nb_drop]

/-! ### Go error values of the decoding errors -/

theorem decErr_ne_nil (e : SkErr) : (decErr e != GoErr.nil) = true := by
  cases e <;> decide

theorem decErr_ne_nil' (e : SkErr) : decErr e ≠ GoErr.nil :=
  bne_iff_ne.mp (decErr_ne_nil e)

theorem liftDec_error {α} (x : Except DecErr α) (e : SkErr) (h : Sketch.liftDec x = .error e) :
    e = .eof := by
  cases x with
  | ok a => cases h
  | error d => cases h; rfl

/-! ### flags -/

theorem type_beq (f : Gen.Encoding.Flag) (t : FlagType) :
    (f.Type == t) = decide (Wire.flagType f.byte.toNat = t.byte.toNat) := by
  rw [Bool.eq_iff_iff, beq_iff_eq, decide_eq_true_eq]; exact Flag_Type_eq f t

theorem flag_beq (f g : Gen.Encoding.Flag) : (f == g) = decide (f.byte.toNat = g.byte.toNat) := by
  rw [Bool.eq_iff_iff, beq_iff_eq, decide_eq_true_eq]
  constructor
  · intro h; rw [h]
  · intro h
    cases f; cases g
    simp only at h
    rw [BitVec.eq_of_toNat_eq h]

/-- the tests of the decoder loop on the flag just read, byte `x`, as tests on the number `x.toNat` -/
theorem type_test {x : BitVec 8} {t : FlagType} {c : Nat} (ht : t.byte.toNat = c) :
    (Flag.Type ⟨x⟩ == t) = true ↔ Wire.flagType x.toNat = c := by
  rw [type_beq, decide_eq_true_eq, ht]

theorem flag_test {f g : Gen.Encoding.Flag} {c : Nat} (hg : g.byte.toNat = c) :
    (f == g) = true ↔ f.byte.toNat = c := by
  rw [flag_beq, decide_eq_true_eq, hg]

theorem flagSub_SubFlag (f : Gen.Encoding.Flag) : Wire.flagSub f.SubFlag.byte.toNat = Wire.flagSub f.byte.toNat := by
  rw [Flag_SubFlag f]
  unfold Wire.flagSub
  rw [Nat.mul_div_cancel _ (by decide)]

theorem flag_split (f : Nat) : f = Wire.flagType f + Wire.flagSub f * 4 ∧ Wire.flagType f < 4 :=
  ⟨(Nat.mod_add_div' f 4).symm, Nat.mod_lt f (by decide)⟩

theorem flagType_features {f : Nat} (h1 : ¬ Wire.flagType f = Consts.flagTypePositiveStore)
    (h2 : ¬ Wire.flagType f = Consts.flagTypeNegativeStore)
    (h3 : ¬ Wire.flagType f = Consts.flagTypeIndexMapping) :
    Wire.flagType f = Consts.flagTypeSketchFeatures :=
  (by decide : ∀ t < 4, ¬ t = Consts.flagTypePositiveStore → ¬ t = Consts.flagTypeNegativeStore →
    ¬ t = Consts.flagTypeIndexMapping → t = Consts.flagTypeSketchFeatures) _ (flag_split f).2 h1 h2 h3

theorem FlagZeroCount_nat : FlagZeroCountVarFloat.byte.toNat = Sketch.zeroFlag := FlagZeroCountVarFloat_byte
theorem FlagCount_nat : FlagCount.byte.toNat = 160 := by decide
theorem FlagSum_nat : FlagSum.byte.toNat = 132 := by decide
theorem FlagMin_nat : FlagMin.byte.toNat = 136 := by decide
theorem FlagMax_nat : FlagMax.byte.toNat = 140 := by decide

/-! ### the model's `Sketch.fallback`, by flag byte -/

/-- the model's fallback by flag byte, any auxiliary state: `0xA0` (count) reads a varfloat64, `0x84/0x88/0x8C`
    (sum / min / max) read 8 bytes, every other byte is an unknown flag -/
theorem fallback_byte (aux : Sketch.DecAux) (f : Nat) (bs : Bytes) :
    Sketch.fallback aux f bs =
      if f = 160 then
        (match Sketch.liftDec (decVarfloat64 bs) with
         | .error e => .error e
         | .ok (c, r) => .ok ({ aux with stats := aux.stats.map (fun st => st.addToCount c) }, r))
      else if f = 132 then
        (match Sketch.liftDec (decF64LE bs) with
         | .error e => .error e
         | .ok (v, r) =>
           .ok ({ aux with stats := aux.stats.map (fun st => st.addToSum (F64.ofBits (UInt64.ofNat v))) }, r))
      else if f = 136 ∨ f = 140 then
        (match Sketch.liftDec (decF64LE bs) with
         | .error e => .error e
         | .ok (v, r) =>
           .ok ({ aux with stats := aux.stats.map (fun st => st.add (F64.ofBits (UInt64.ofNat v)) (.fin 0)) }, r))
      else .error .unknownFlag := by
  by_cases h160 : f = 160
  · subst h160
    exact Sketch.fallback_count _ bs
  by_cases h132 : f = 132
  · subst h132
    exact Sketch.fallback_sum _ bs
  by_cases h136 : f = 136
  · subst h136
    exact Sketch.fallback_min _ bs
  by_cases h140 : f = 140
  · subst h140
    exact Sketch.fallback_max _ bs
  rw [if_neg h160, if_neg h132, if_neg (not_or.mpr ⟨h136, h140⟩)]
  by_cases h0 : Wire.flagType f = Consts.flagTypeSketchFeatures
  · -- `f = flagSub f * 4`: a defined sub-flag would make `f` one of the four bytes above
    have hf := (flag_split f).1
    rw [h0] at hf
    have hsub : ∀ s, ¬ f = Consts.flagTypeSketchFeatures + s * 4 → ¬ Wire.flagSub f = s :=
      fun s hs h => hs (by rw [← h]; exact hf)
    simp only [Sketch.fallback, h0, ne_eq, not_true_eq_false, if_false, hsub Consts.subFlagCount h160,
      hsub Consts.subFlagSum h132, hsub Consts.subFlagMin h136, hsub Consts.subFlagMax h140, or_self]
  · simp only [Sketch.fallback, ne_eq, h0, not_false_eq_true, if_true]

/-- without statistics: the count is skipped, so are the 8 bytes of a sum, min or max -/
theorem fallback_plain (f : Nat) (bs : Bytes) :
    Sketch.fallback { stats := none } f bs =
      if f = 160 then
        (match Sketch.liftDec (decVarfloat64 bs) with
         | .error e => .error e
         | .ok (_, r) => .ok ({ stats := none }, r))
      else if f = 132 ∨ f = 136 ∨ f = 140 then
        (match Sketch.liftDec (decF64LE bs) with
         | .error e => .error e
         | .ok (_, r) => .ok ({ stats := none }, r))
      else .error .unknownFlag := by
  rw [fallback_byte]
  by_cases h132 : f = 132
  · rw [if_pos h132, if_pos (Or.inl h132)]
    rfl
  · simp only [h132, if_false, false_or]
    rfl

/-! ### the blocks of the two interfaces against the model -/

theorem DecodeFlag_cons (fuel : Nat) (x : BitVec 8) (tl : List (BitVec 8)) :
    DecodeFlag fuel (x :: tl) = .ok (tl, ⟨x⟩, GoErr.nil) := by
  rw [DecodeFlag_eq]

theorem len_cons_pos (x : BitVec 8) (tl : List (BitVec 8)) :
    decide ((0 : Int) < GoSem.len (x :: tl)) = true := by
  rw [decide_eq_true_eq]; unfold GoSem.len; rw [List.length_cons]; omega

theorem store_decode (st : Store) (b : List (BitVec 8)) (sub : SubFlag) :
    StoreI.DecodeAndMergeWith st b sub = storeDecode st b sub := rfl

/-- `Store.DecodeAndMergeWith` as the sketch decoder calls it, on `flag.SubFlag()` -/
theorem store_decode_flag (st : Store) (b : List (BitVec 8)) (x : BitVec 8) :
    StoreI.DecodeAndMergeWith st b (Flag.SubFlag ⟨x⟩) =
      match Sketch.decodeStore st (Wire.flagSub x.toNat) (nb b) with
      | some (.ok (st', rest)) => (st', bn rest, GoErr.nil)
      | some (.error e) => (st, b, decErr e)
      | none => (st, b, GoErr.nil) := by
  rw [store_decode]
  unfold storeDecode
  rw [flagSub_SubFlag]
  rfl

/-- `mapping.Decode` of the instance against the mapping block of the model's loop: either the model refuses
    with `e` and `mapDecode` returns `decErr e`, or both read the same 16 bytes and the same identity -/
theorem mapDecode_step (tl : List (BitVec 8)) (flag : Gen.Encoding.Flag) (n : Nat) (s : Sketch) (aux : Sketch.DecAux)
    (ht : Wire.flagType flag.byte.toNat = Consts.flagTypeIndexMapping) :
    (∃ e, Sketch.decodeLoop (n + 1) s aux (flag.byte.toNat :: nb tl) = some (.error e) ∧
        (mapDecode tl flag).2.2 = decErr e) ∨
    (∃ id bs2, bs2 <:+ nb tl ∧ mapDecode tl flag = (bn bs2, { (default : MapEnv) with id := id }, GoErr.nil) ∧
        Sketch.decodeLoop (n + 1) s aux (flag.byte.toNat :: nb tl) =
          (match s.mapping with
           | some cur => if cur.equals id then Sketch.decodeLoop n { s with mapping := some id } aux bs2
               else some (.error .mismatch)
           | none => Sketch.decodeLoop n { s with mapping := some id } aux bs2)) := by
  rw [Sketch.loop_map n s aux _ _ ht]
  unfold nb
  by_cases hk : Sketch.KnownMapping (Wire.flagSub flag.byte.toNat)
  · have hk' := hk
    unfold Sketch.KnownMapping at hk'
    simp only [mapDecode, hk, hk', not_true_eq_false, if_true, if_false]
    rcases h1 : decF64LE (tl.map BitVec.toNat) with e1 | ⟨gm, bs1⟩
    · exact Or.inl ⟨.eof, rfl, rfl⟩
    rcases h2 : decF64LE bs1 with e2 | ⟨o, bs2⟩
    · exact Or.inl ⟨.eof, by simp only [Sketch.liftDec, h2], by simp only [h2]; rfl⟩
    simp only [Sketch.liftDec, h2]
    rcases MapId.ofBlock (Wire.flagSub flag.byte.toNat) gm o with me | id
    · cases me
      · exact Or.inl ⟨.unknownMapping, rfl, rfl⟩
      · exact Or.inl ⟨.badGamma, rfl, rfl⟩
    · exact Or.inr ⟨id, bs2, (Sketch.f64le_suffix _ _ _ h2).trans (Sketch.f64le_suffix _ _ _ h1), rfl, rfl⟩
  · have hk' := hk
    unfold Sketch.KnownMapping at hk'
    simp only [mapDecode, hk, hk', not_false_eq_true, if_true, if_false]
    refine Or.inl ⟨.unknownMapping, ?_, rfl⟩
    cases Sketch.liftDec (decF64LE (tl.map BitVec.toNat)) <;> rfl

/-! ### the mapping interface: the identity of a mapping object, and what the decoder needs of `MapI` -/

section Loop
variable {M : Type} [MapI M] [Inhabited M]

/-- the model sketch a generated structure stands for, given how a mapping object of type `M` shows its
    identity (`none`: the nil interface value) -/
def ofGenI (idOf : M → Option MapId) (g : DDSketch M Store) : Sketch :=
  { mapping := idOf g.IndexMapping, pos := g.positiveValueStore, neg := g.negativeValueStore,
    zero := g.zeroCount }

/-- what the decoder needs from the mapping interface: `isNil` is "no identity", `Equals` compares identities
    with the model's `MapId.equals`, `Decode` is the instance's `mapDecode` (same bytes, same error) and on
    success hands back an object with the decoded identity -/
structure MapLaw (idOf : M → Option MapId) : Prop where
  isNil_eq : ∀ m : M, MapI.isNil m = (idOf m).isNone
  equals_eq : ∀ (m m' : M) (a b : MapId), idOf m = some a → idOf m' = some b →
    MapI.Equals m m' = a.equals b
  decode_eq : ∀ (b : List (BitVec 8)) (flag : Flag), ∃ m : M,
    MapI.Decode b flag = ((mapDecode b flag).1, m, (mapDecode b flag).2.2) ∧
    ((mapDecode b flag).2.2 = GoErr.nil → idOf m = some (mapDecode b flag).2.1.id)

/-! ### 1. the decoder loop in state-passing form -/

/-- what a STATE-PASSING `fallbackDecode` has to do against the model's `Sketch.fallback`, for a relation `R`
    between the model's auxiliary state and the threaded Go state: a refusal `e` of the model is the Go error
    `decErr e`; a success is a nil error, a slice with exactly the model's remaining bytes, and `R` again -/
def FbSpecS {σ : Type} (R : Sketch.DecAux → σ → Prop)
    (fb : σ → List (BitVec 8) → Gen.Encoding.Flag → Res (σ × List (BitVec 8) × GoErr)) : Prop :=
  ∀ (aux : Sketch.DecAux) (st : σ) (b : List (BitVec 8)) (flag : Gen.Encoding.Flag), R aux st →
    match Sketch.fallback aux flag.byte.toNat (nb b) with
    | .error e => ∃ st' b', fb st b flag = .ok (st', b', decErr e)
    | .ok (aux', rest) => ∃ st' b', fb st b flag = .ok (st', b', GoErr.nil) ∧ R aux' st' ∧
        nb b' = rest ∧ b'.length ≤ b.length

/-- the loop of the model against the generated loop: `none` (a store operation of the model panics): nothing
    claimed; a refusal `e`: the generated loop RETURNS the Go error `decErr e`; success: the generated loop falls
    out with the whole input consumed, a structure that stands for the model's sketch, and `R` again -/
def LoopRelS {σ : Type} (idOf : M → Option MapId) (R : Sketch.DecAux → σ → Prop) :
    Option (Except SkErr (Sketch × Sketch.DecAux)) →
    Loop (List (BitVec 8) × DDSketch M Store × σ) (σ × DDSketch M Store × GoErr) → Prop
  | none, _ => True
  | some (.error e), r => ∃ st' g', r = .ret (st', g', decErr e)
  | some (.ok (s', aux')), r => ∃ st' g', r = .done ([], g', st') ∧ ofGenI idOf g' = s' ∧ R aux' st'

theorem LoopRelS.error {σ : Type} {idOf : M → Option MapId} {R : Sketch.DecAux → σ → Prop} (e : SkErr)
    (st : σ) (g : DDSketch M Store) : LoopRelS idOf R (some (.error e)) (.ret (st, g, decErr e)) :=
  ⟨st, g, rfl⟩

theorem loop1S_nil {σ : Type} (fb : σ → List (BitVec 8) → Gen.Encoding.Flag → Res (σ × List (BitVec 8) × GoErr))
    (fuel : Nat) (g : DDSketch M Store) (st : σ) :
    Gen.SketchIter.DDSketch.decodeAndMergeWith.loop1 fb (fuel + 1) [] g st = .done ([], g, st) := rfl

/-- the state-passing decoder loop is the model's `Sketch.decodeLoop` with ANY auxiliary
    state, block by block; model fuel `≥ len b` (every block consumes at least its flag byte), generated fuel
    `≥ len b + 9` (one unit per block, 9 for the varfloat64 loop) -/
theorem loop1S_rel {σ : Type} {idOf : M → Option MapId} (law : MapLaw idOf) (R : Sketch.DecAux → σ → Prop)
    (fb : σ → List (BitVec 8) → Gen.Encoding.Flag → Res (σ × List (BitVec 8) × GoErr)) (hfb : FbSpecS R fb) :
    ∀ (n fuel : Nat) (b : List (BitVec 8)) (g : DDSketch M Store) (aux : Sketch.DecAux) (st : σ),
      R aux st → b.length ≤ n → b.length + 9 ≤ fuel →
      LoopRelS idOf R (Sketch.decodeLoop n (ofGenI idOf g) aux (nb b))
        (Gen.SketchIter.DDSketch.decodeAndMergeWith.loop1 fb fuel b g st) := by
  intro n
  induction n with
  | zero =>
    intro fuel b g aux st hR hn hf
    obtain rfl := List.eq_nil_of_length_eq_zero (Nat.le_zero.mp hn)
    obtain ⟨fuel, rfl⟩ := Nat.exists_eq_add_of_le' (Nat.le_trans (Nat.le_add_left 1 8) hf)
    exact ⟨st, g, rfl, rfl, hR⟩
  | succ n ih =>
    intro fuel b g aux st hR hn hf
    obtain ⟨fuel, rfl⟩ := Nat.exists_eq_add_of_le' (Nat.le_trans (Nat.le_add_left 1 _) hf)
    cases b with
    | nil => exact ⟨st, g, rfl, rfl, hR⟩
    | cons x tl =>
      -- what remains after a block is no longer than `tl`
      have hrec : ∀ (b' : List (BitVec 8)) (g' : DDSketch M Store) (aux' : Sketch.DecAux) (st' : σ),
          R aux' st' → b'.length ≤ tl.length →
          LoopRelS idOf R (Sketch.decodeLoop n (ofGenI idOf g') aux' (nb b'))
            (Gen.SketchIter.DDSketch.decodeAndMergeWith.loop1 fb fuel b' g' st') := fun b' g' aux' st' hR' hl =>
        ih fuel b' g' aux' st' hR' (by rw [List.length_cons] at hn; omega)
          (by rw [List.length_cons] at hf; omega)
      have hf9 : 9 ≤ fuel := by rw [List.length_cons] at hf; omega
      clear ih hn hf
      rw [nb_cons, Gen.SketchIter.DDSketch.decodeAndMergeWith.loop1, if_pos (len_cons_pos x tl), DecodeFlag_cons,
        Res.bindL_ok]
      dsimp only
      rw [if_neg (ne_true_of_eq_false GoErr.nil_bne_nil)]
      by_cases h1 : Wire.flagType x.toNat = Consts.flagTypePositiveStore
      · rw [if_pos ((type_test FlagTypePositiveStore_byte).2 h1), Sketch.loop_pos n _ _ _ _ h1, store_decode_flag]
        show LoopRelS idOf R (match Sketch.decodeStore g.positiveValueStore _ _ with
          | none => _ | some (.error e) => _ | some (.ok (p, bs)) => _) _
        rcases hd : Sketch.decodeStore g.positiveValueStore (Wire.flagSub x.toNat) (nb tl) with _ | e | ⟨p, rest⟩
        · trivial
        · rw [if_pos (decErr_ne_nil e)]
          exact LoopRelS.error ..
        · have hsuf := Sketch.decodeStore_suffix _ _ _ _ _ hd
          have := hrec (bn rest) { g with positiveValueStore := p } aux st hR (bn_suffix_length hsuf)
          rw [nb_bn_suffix hsuf] at this
          exact this
      rw [if_neg (mt (type_test FlagTypePositiveStore_byte).1 h1)]
      by_cases h2 : Wire.flagType x.toNat = Consts.flagTypeNegativeStore
      · rw [if_pos ((type_test FlagTypeNegativeStore_byte).2 h2), Sketch.loop_neg n _ _ _ _ h2, store_decode_flag]
        show LoopRelS idOf R (match Sketch.decodeStore g.negativeValueStore _ _ with
          | none => _ | some (.error e) => _ | some (.ok (p, bs)) => _) _
        rcases hd : Sketch.decodeStore g.negativeValueStore (Wire.flagSub x.toNat) (nb tl) with _ | e | ⟨p, rest⟩
        · trivial
        · rw [if_pos (decErr_ne_nil e)]
          exact LoopRelS.error ..
        · have hsuf := Sketch.decodeStore_suffix _ _ _ _ _ hd
          have := hrec (bn rest) { g with negativeValueStore := p } aux st hR (bn_suffix_length hsuf)
          rw [nb_bn_suffix hsuf] at this
          exact this
      rw [if_neg (mt (type_test FlagTypeNegativeStore_byte).1 h2)]
      by_cases h3 : Wire.flagType x.toNat = Consts.flagTypeIndexMapping
      · rw [if_pos ((type_test FlagTypeIndexMapping_byte).2 h3)]
        obtain ⟨m, hm, hid⟩ := law.decode_eq tl ⟨x⟩
        rcases mapDecode_step tl ⟨x⟩ n (ofGenI idOf g) aux h3 with ⟨e, hmod, he⟩ | ⟨id, bs2, hsuf, hdec, hmod⟩
        · rw [he] at hm
          simp only [hmod, hm, decErr_ne_nil, if_true]
          exact LoopRelS.error ..
        · rw [hdec] at hm hid
          have hid : idOf m = some id := hid rfl
          have hrec' := hrec (bn bs2) { g with IndexMapping := m } aux st hR (bn_suffix_length hsuf)
          rw [nb_bn_suffix hsuf, show ofGenI idOf { g with IndexMapping := m }
            = { ofGenI idOf g with mapping := some id } by unfold ofGenI; rw [hid]] at hrec'
          simp only [hmod, hm, GoErr.nil_bne_nil, Bool.false_eq_true, if_false, law.isNil_eq]
          show LoopRelS idOf R (match idOf g.IndexMapping with | some cur => _ | none => _) _
          rcases hcur : idOf g.IndexMapping with _ | cur
          · exact hrec'
          · rw [law.equals_eq g.IndexMapping m cur id hcur hid]
            dsimp only
            cases cur.equals id
            · exact LoopRelS.error ..
            · exact hrec'
      rw [if_neg (mt (type_test FlagTypeIndexMapping_byte).1 h3)]
      by_cases h4 : x.toNat = Sketch.zeroFlag
      · rw [if_pos ((flag_test FlagZeroCount_nat).2 h4), h4, Sketch.loop_zero]
        rcases hd : decVarfloat64 (nb tl) with e | ⟨z, rest⟩
        · rw [GenStoreDecode.F_err fuel hf9 tl e hd]
          exact LoopRelS.error .eof ..
        · obtain ⟨b', hb1, hb2, hb3⟩ := GenStoreDecode.F_ok fuel hf9 tl z rest hd
          rw [hb1, ← hb2]
          exact hrec b' { g with zeroCount := F64.add g.zeroCount z } aux st hR (Nat.le_of_lt hb3)
      · rw [if_neg (mt (flag_test FlagZeroCount_nat).1 h4), Sketch.loop_fallback n _ _ _ _ (flagType_features h1 h2 h3) h4]
        have hspec := hfb aux st tl ⟨x⟩ hR
        rcases hfm : Sketch.fallback aux x.toNat (nb tl) with e | ⟨aux', rest⟩
        · rw [show (⟨x⟩ : Gen.Encoding.Flag).byte.toNat = x.toNat from rfl, hfm] at hspec
          obtain ⟨st', b', hb⟩ := hspec
          rw [hb, Res.bindL_ok, if_pos (decErr_ne_nil e)]
          exact LoopRelS.error ..
        · rw [show (⟨x⟩ : Gen.Encoding.Flag).byte.toNat = x.toNat from rfl, hfm] at hspec
          obtain ⟨st', b', hb1, hR', hb2, hb3⟩ := hspec
          rw [hb1, Res.bindL_ok, if_neg (ne_true_of_eq_false GoErr.nil_bne_nil), ← hb2]
          exact hrec b' g aux' st' hR' hb3

/-- the state-passing `decodeAndMergeWith` (ddsketch.go:438) against the model's loop, any auxiliary state -/
def DecRelS {σ : Type} (idOf : M → Option MapId) (R : Sketch.DecAux → σ → Prop) :
    Option (Except SkErr (Sketch × Sketch.DecAux)) → Res (σ × DDSketch M Store × GoErr) → Prop
  | none, _ => True
  | some (.error e), r => ∃ st' g', r = .ok (st', g', decErr e)
  | some (.ok (s', aux')), r => ∃ st' g', ofGenI idOf g' = s' ∧ R aux' st' ∧
      r = .ok (st', g', if s'.mapping.isNone then decErr .missingMapping else GoErr.nil)

theorem decodeAndMergeWithS_rel {σ : Type} {idOf : M → Option MapId} (law : MapLaw idOf)
    (R : Sketch.DecAux → σ → Prop)
    (fb : σ → List (BitVec 8) → Gen.Encoding.Flag → Res (σ × List (BitVec 8) × GoErr)) (hfb : FbSpecS R fb)
    (fuel : Nat) (g : DDSketch M Store) (b : List (BitVec 8)) (aux : Sketch.DecAux) (st : σ) (hR : R aux st)
    (hf : b.length + 9 ≤ fuel) :
    DecRelS idOf R (Sketch.decodeLoop ((nb b).length + 1) (ofGenI idOf g) aux (nb b))
      (Gen.SketchIter.DDSketch.decodeAndMergeWith fuel g b st fb) := by
  have h := loop1S_rel law R fb hfb ((nb b).length + 1) fuel b g aux st hR
    (by rw [nb_length]; exact Nat.le_succ _) hf
  unfold Gen.SketchIter.DDSketch.decodeAndMergeWith
  generalize Sketch.decodeLoop ((nb b).length + 1) (ofGenI idOf g) aux (nb b) = m at h ⊢
  rcases m with _ | e | ⟨s', aux'⟩
  · trivial
  · obtain ⟨st', g', hg⟩ := h
    simp only [hg, Loop.elim_ret]
    exact ⟨st', g', rfl⟩
  · obtain ⟨st', g', hg, hs, hR'⟩ := h
    simp only [hg, Loop.elim_done, law.isNil_eq]
    refine ⟨st', g', hs, hR', ?_⟩
    rw [← hs, show (ofGenI idOf g').mapping = idOf g'.IndexMapping from rfl]
    cases (idOf g'.IndexMapping).isNone <;> rfl

end Loop

/-! ### 2. the plain decoder is the state-passing one at the unit state -/

section Plain
variable {M S : Type} [MapI M] [StoreI S] [Inhabited M] [Inhabited S]

/-- a plain `fallbackDecode` as a state-passing one that threads nothing -/
def liftFb (fb : List (BitVec 8) → Gen.Encoding.Flag → Res (List (BitVec 8) × GoErr)) :
    Unit → List (BitVec 8) → Gen.Encoding.Flag → Res (Unit × List (BitVec 8) × GoErr) :=
  fun _ b flag => Res.bind (fb b flag) (fun r => .ok ((), r))

theorem loop1_nil (fb : List (BitVec 8) → Gen.Encoding.Flag → Res (List (BitVec 8) × GoErr)) (fuel : Nat)
    (g : DDSketch M S) : DDSketch.decodeAndMergeWith.loop1 fb (fuel + 1) [] g = .done ([], g) := rfl

/-- the plain decoder loop is the state-passing one with nothing threaded (the two are the
    same Go loop, translated once with and once without a state for the closure); any instances, any fuel.
    Both sides unfold to the same tree of tests; `Loop.map` (which forgets the unit) moves to its leaves. -/
theorem loop1_unit (fb : List (BitVec 8) → Gen.Encoding.Flag → Res (List (BitVec 8) × GoErr)) :
    ∀ (fuel : Nat) (b : List (BitVec 8)) (g : DDSketch M S),
      DDSketch.decodeAndMergeWith.loop1 fb fuel b g =
        Loop.map (fun r => (r.1, r.2.1)) Prod.snd
          (Gen.SketchIter.DDSketch.decodeAndMergeWith.loop1 (liftFb fb) fuel b g ()) := by
  intro fuel
  induction fuel with
  | zero => intro b g; rfl
  | succ fuel ih =>
    intro b g
    unfold DDSketch.decodeAndMergeWith.loop1 Gen.SketchIter.DDSketch.decodeAndMergeWith.loop1
    simp only [ih, apply_ite (Loop.map _ Prod.snd), Loop.map_bindL, Loop.map_ret, Loop.map_done, liftFb,
      Res.bindL_bind, Res.bindL_ok]

theorem decodeAndMergeWith_unit (fb : List (BitVec 8) → Gen.Encoding.Flag → Res (List (BitVec 8) × GoErr))
    (fuel : Nat) (g : DDSketch M S) (b : List (BitVec 8)) :
    DDSketch.decodeAndMergeWith fuel g b fb =
      Res.bind (Gen.SketchIter.DDSketch.decodeAndMergeWith fuel g b () (liftFb fb)) (fun r => .ok r.2) := by
  simp only [DDSketch.decodeAndMergeWith, Gen.SketchIter.DDSketch.decodeAndMergeWith, loop1_unit]
  refine Loop.elim_map _ _ _ _ _ fun r => ?_
  show (if MapI.isNil r.2.1.IndexMapping then _ else _) =
    Res.bind (if MapI.isNil r.2.1.IndexMapping then _ else _) _
  cases MapI.isNil r.2.1.IndexMapping <;> rfl

theorem len_lt_8 (b : List (BitVec 8)) : (GoSem.len b < (8 : Int)) ↔ b.length < 8 := by
  unfold GoSem.len
  omega

/-- the lifted function literal of `DDSketch.DecodeAndMergeWith` (ddsketch.go:419) is the
    model's `Sketch.fallback` without statistics, for every flag and every input: count, sum, min and max
    blocks are skipped (`stats` stays `none`), anything else is `errUnknownFlag`; fuel `≥ 9` (the varfloat64
    loop of the skipped count) -/
theorem lit1_spec (fuel : Nat) (hf : 9 ≤ fuel) :
    FbSpecS (fun aux (_ : Unit) => aux = { stats := none })
      (liftFb (DDSketch.DecodeAndMergeWith.lit1 (M := M) (S := S) fuel)) := by
  intro aux st b flag hR
  subst hR
  rw [fallback_plain]
  unfold liftFb DDSketch.DecodeAndMergeWith.lit1
  simp only [flag_beq, FlagCount_nat, FlagSum_nat, FlagMin_nat, FlagMax_nat, Bool.or_eq_true,
    decide_eq_true_eq, or_assoc, len_lt_8]
  by_cases h160 : flag.byte.toNat = 160
  · rw [if_pos h160, if_pos h160]
    rcases hd : decVarfloat64 (nb b) with e | ⟨c, rest⟩
    · rw [GenStoreDecode.F_err fuel hf b e hd]
      exact ⟨_, _, rfl⟩
    · obtain ⟨b', h1, h2, h3⟩ := GenStoreDecode.F_ok fuel hf b c rest hd
      rw [h1]
      exact ⟨_, b', rfl, rfl, h2, Nat.le_of_lt h3⟩
  rw [if_neg h160, if_neg h160]
  by_cases hs : flag.byte.toNat = 132 ∨ flag.byte.toNat = 136 ∨ flag.byte.toNat = 140
  · rw [if_pos hs, if_pos hs]
    rw [decF64LE_nb]
    by_cases hl : b.length < 8
    · rw [if_pos hl, if_pos hl]
      exact ⟨_, _, rfl⟩
    · rw [if_neg hl, if_neg hl, show (8 : Int) = ((8 : Nat) : Int) from rfl,
        sliceFrom_natCast b 8 (Nat.le_of_not_lt hl)]
      exact ⟨_, b.drop 8, rfl, rfl, rfl, (List.drop_sublist 8 b).length_le⟩
  · rw [if_neg hs, if_neg hs]
    exact ⟨_, _, rfl⟩

end Plain

/-! ### 3. the whole plain decoder -/

section Loop
variable {M : Type} [MapI M] [Inhabited M]

/-- model `Option (Except SkErr Sketch)` vs the generated decoder's `Res (sketch × error)`: `none` (a store
    operation of the model panics): nothing claimed; a refusal `e`: the generated decoder returns normally
    (neither `.panic` nor `.nofuel`) with the Go error `decErr e` (never nil, `decErr_ne_nil`); success: a nil
    error and a structure that stands for the model's result -/
def DecRel (idOf : M → Option MapId) :
    Option (Except SkErr Sketch) → Res (DDSketch M Store × GoErr) → Prop
  | none, _ => True
  | some (.error e), r => ∃ g', r = .ok (g', decErr e)
  | some (.ok s'), r => ∃ g', r = .ok (g', GoErr.nil) ∧ ofGenI idOf g' = s'

/-- **the plain `DecodeAndMergeWith`** (ddsketch.go:418), any mapping type that meets `MapLaw` -/
theorem DecodeAndMergeWith_rel_gen {idOf : M → Option MapId} (law : MapLaw idOf)
    (fuel : Nat) (g : DDSketch M Store) (b : List (BitVec 8)) (hf : b.length + 9 ≤ fuel) :
    DecRel idOf ((ofGenI idOf g).decodeAndMergeWith (nb b)) (DDSketch.DecodeAndMergeWith fuel g b) := by
  have h := decodeAndMergeWithS_rel law _ _
    (lit1_spec (M := M) (S := Store) fuel (Nat.le_trans (Nat.le_add_left 9 _) hf)) fuel g b
    { stats := none } () rfl hf
  unfold DDSketch.DecodeAndMergeWith Sketch.decodeAndMergeWith
  rw [Res.bind_ok_right, decodeAndMergeWith_unit]
  generalize Sketch.decodeLoop ((nb b).length + 1) (ofGenI idOf g) { stats := none } (nb b) = m at h ⊢
  rcases m with _ | e | ⟨s', aux'⟩
  · trivial
  · obtain ⟨st', g', hg⟩ := h
    rw [hg]
    exact ⟨g', rfl⟩
  · obtain ⟨st', g', hs, _, hg⟩ := h
    rw [hg]
    dsimp only
    cases s'.mapping.isNone
    · exact ⟨g', rfl, hs⟩
    · exact ⟨g', rfl⟩

theorem DecRel.ok {idOf : M → Option MapId} {m : Option (Except SkErr Sketch)}
    {r : Res (DDSketch M Store × GoErr)} {s' : Sketch} (h : DecRel idOf m r) (hm : m = some (.ok s')) :
    ∃ g', r = .ok (g', GoErr.nil) ∧ ofGenI idOf g' = s' := by subst hm; exact h

theorem DecRel.error {idOf : M → Option MapId} {m : Option (Except SkErr Sketch)}
    {r : Res (DDSketch M Store × GoErr)} {e : SkErr} (h : DecRel idOf m r) (hm : m = some (.error e)) :
    ∃ g', r = .ok (g', decErr e) ∧ decErr e ≠ GoErr.nil := by
  subst hm; obtain ⟨g', hg⟩ := h; exact ⟨g', hg, decErr_ne_nil' e⟩

end Loop

/-! ### 4. the receiver with a mapping object: `M := MapEnv` -/

theorem mapEnv_law : MapLaw (M := MapEnv) (fun e => some e.id) where
  isNil_eq _ := rfl
  equals_eq m m' a b ha hb := by cases ha; cases hb; rfl
  decode_eq b flag := ⟨(mapDecode b flag).2.1, rfl, fun _ => rfl⟩

theorem ofGenI_mapEnv (g : DDSketch MapEnv Store) : ofGenI (fun e => some e.id) g = ofGen g := rfl

/-- the regenerated plain decoder on `toGen env s` (a receiver that holds the
    mapping object `env`, `s.mapping = some env.id`) against the model's `Sketch.decodeAndMergeWith`, every
    input, fuel `≥ len(b) + 9`. -/
theorem DecodeAndMergeWith_rel (env : MapEnv) (s : Sketch) (hm : s.mapping = some env.id)
    (fuel : Nat) (b : List (BitVec 8)) (hf : b.length + 9 ≤ fuel) :
    DecRel (fun e : MapEnv => some e.id) (s.decodeAndMergeWith (nb b))
      (DDSketch.DecodeAndMergeWith fuel (toGen env s) b) := by
  have h := DecodeAndMergeWith_rel_gen mapEnv_law fuel (toGen env s) b hf
  rw [ofGenI_mapEnv, ofGen_toGen env s hm] at h
  exact h

/-- success: nil error, and the returned structure stands for the model's sketch (its mapping object is a
    `MapEnv` whose `id` is the decoded identity; `ofGen` reads only `.id`) -/
theorem DecodeAndMergeWith_ok (env : MapEnv) (s s' : Sketch) (hm : s.mapping = some env.id)
    (fuel : Nat) (b : List (BitVec 8)) (hf : b.length + 9 ≤ fuel)
    (h : s.decodeAndMergeWith (nb b) = some (.ok s')) :
    ∃ g', DDSketch.DecodeAndMergeWith fuel (toGen env s) b = .ok (g', GoErr.nil) ∧ ofGen g' = s' :=
  (DecodeAndMergeWith_rel env s hm fuel b hf).ok h

theorem DecodeAndMergeWith_error (env : MapEnv) (s : Sketch) (e : SkErr) (hm : s.mapping = some env.id)
    (fuel : Nat) (b : List (BitVec 8)) (hf : b.length + 9 ≤ fuel)
    (h : s.decodeAndMergeWith (nb b) = some (.error e)) :
    ∃ g', DDSketch.DecodeAndMergeWith fuel (toGen env s) b = .ok (g', decErr e) ∧ decErr e ≠ GoErr.nil :=
  (DecodeAndMergeWith_rel env s hm fuel b hf).error h

/-- a receiver with a mapping still has one after a successful loop: the model never reports a missing mapping
    then -/
theorem decodeLoop_mapping_some (n : Nat) : ∀ (s : Sketch) (aux : Sketch.DecAux) (bs : Bytes) (s' : Sketch)
    (aux' : Sketch.DecAux), s.mapping.isSome = true →
    Sketch.decodeLoop n s aux bs = some (.ok (s', aux')) → s'.mapping.isSome = true := by
  induction n with
  | zero =>
    intro s aux bs s' aux' hs h
    cases bs with
    | nil => rw [Sketch.decodeLoop_nil] at h; cases h; exact hs
    | cons f bs => cases h
  | succ n ih =>
    intro s aux bs s' aux' hs h
    cases bs with
    | nil => rw [Sketch.decodeLoop_nil] at h; cases h; exact hs
    | cons f bs =>
      by_cases h1 : Wire.flagType f = Consts.flagTypePositiveStore
      · rw [Sketch.loop_pos n _ _ _ _ h1] at h
        split at h
        · cases h
        · cases h
        · exact ih _ _ _ _ _ (by exact hs) h
      by_cases h2 : Wire.flagType f = Consts.flagTypeNegativeStore
      · rw [Sketch.loop_neg n _ _ _ _ h2] at h
        split at h
        · cases h
        · cases h
        · exact ih _ _ _ _ _ (by exact hs) h
      by_cases h3 : Wire.flagType f = Consts.flagTypeIndexMapping
      · -- every branch of the mapping block is a refusal or goes on with a mapping
        rw [Sketch.loop_map n _ _ _ _ h3] at h
        repeat' split at h
        all_goals first | cases h | exact ih _ _ _ _ _ rfl h
      by_cases h4 : f = Sketch.zeroFlag
      · subst h4
        rw [Sketch.loop_zero] at h
        split at h
        · cases h
        · exact ih _ _ _ _ _ (by exact hs) h
      · rw [Sketch.loop_fallback n _ _ _ _ (flagType_features h1 h2 h3) h4] at h
        split at h
        · cases h
        · exact ih _ _ _ _ _ hs h

/-! ### 5. the receiver WITHOUT a mapping object: `M := Option MapEnv`

  `DecodeDDSketch(b, storeProvider, nil)` builds its receiver with a nil `IndexMapping`; the stream must then
  carry a mapping block, otherwise `decodeAndMergeWith` returns "missing index mapping".  The generated
  structure instantiated with `M := Option MapEnv` (`none`: the nil interface value) covers that receiver. -/

instance : MapI (Option MapEnv) where
  Equals a b := match a, b with
    | some a, some b => a.id.equals b.id
    | _, _ => false
  Index o v := (o.getD default).index v
  Value o i := (o.getD default).value i
  LowerBound o i := (o.getD default).lowerBound i
  RelativeAccuracy o := (o.getD default).relAcc
  MinIndexableValue o := (o.getD default).minIndexable
  MaxIndexableValue o := (o.getD default).maxIndexable
  Encode o b := match o with
    | some e => MapI.Encode e b
    | none => b
  isNil := Option.isNone
  Decode b flag :=
    let r := mapDecode b flag
    (r.1, if r.2.2 = GoErr.nil then some r.2.1 else none, r.2.2)

theorem optMapEnv_law : MapLaw (M := Option MapEnv) (fun o => o.map (fun e => e.id)) where
  isNil_eq o := by cases o <;> rfl
  equals_eq m m' a b ha hb := by
    cases m with
    | none => simp at ha
    | some x =>
      cases m' with
      | none => simp at hb
      | some y =>
        simp only [Option.map_some, Option.some.injEq] at ha hb
        subst ha; subst hb; rfl
  decode_eq b flag := ⟨if (mapDecode b flag).2.2 = GoErr.nil then some (mapDecode b flag).2.1 else none, rfl,
    fun h => by rw [if_pos h]; rfl⟩

/-- the generated structure whose mapping may be nil -/
def toGenO (m : Option MapEnv) (s : Sketch) : DDSketch (Option MapEnv) Store :=
  { IndexMapping := m, positiveValueStore := s.pos, negativeValueStore := s.neg, zeroCount := s.zero }

def ofGenO (g : DDSketch (Option MapEnv) Store) : Sketch :=
  { mapping := g.IndexMapping.map (fun e => e.id), pos := g.positiveValueStore,
    neg := g.negativeValueStore, zero := g.zeroCount }

theorem ofGenO_toGenO (m : Option MapEnv) (s : Sketch) (h : s.mapping = m.map (fun e => e.id)) :
    ofGenO (toGenO m s) = s := by
  cases s; simp only [ofGenO, toGenO] at *; simp [h]

def DecRelO : Option (Except SkErr Sketch) → Res (DDSketch (Option MapEnv) Store × GoErr) → Prop
  | none, _ => True
  | some (.error e), r => ∃ g', r = .ok (g', decErr e)
  | some (.ok s'), r => ∃ g', r = .ok (g', GoErr.nil) ∧ ofGenO g' = s'

/-- the same for a receiver whose mapping is `m : Option MapEnv` (`none`: nil),
    in particular the fresh receiver of `DecodeDDSketch` with a nil mapping: "missing index mapping" when the
    stream carries none, the embedded mapping adopted when it does. -/
theorem DecodeAndMergeWith_relO (m : Option MapEnv) (s : Sketch) (hm : s.mapping = m.map (fun e => e.id))
    (fuel : Nat) (b : List (BitVec 8)) (hf : b.length + 9 ≤ fuel) :
    DecRelO (s.decodeAndMergeWith (nb b)) (DDSketch.DecodeAndMergeWith fuel (toGenO m s) b) := by
  have h := DecodeAndMergeWith_rel_gen optMapEnv_law fuel (toGenO m s) b hf
  have e : ofGenI (fun o : Option MapEnv => o.map (fun e => e.id)) (toGenO m s) = s :=
    ofGenO_toGenO m s hm
  rw [e] at h
  generalize s.decodeAndMergeWith (nb b) = m at h ⊢
  rcases m with _ | e | s' <;> exact h

/-- no mapping in the receiver, none in the stream: both report the missing mapping -/
theorem DecodeAndMergeWith_missing (s : Sketch) (hm : s.mapping = none)
    (fuel : Nat) (b : List (BitVec 8)) (hf : b.length + 9 ≤ fuel)
    (h : s.decodeAndMergeWith (nb b) = some (.error .missingMapping)) :
    ∃ g', DDSketch.DecodeAndMergeWith fuel (toGenO none s) b
      = .ok (g', GoErr.named "missing index mapping") := by
  have := DecodeAndMergeWith_relO none s hm fuel b hf
  rw [h] at this
  exact this

/-! ### 6. the theorems are not vacuous: three small inputs -/

/-- a zero-count flag with nothing behind it: `io.EOF` -/
example (env : MapEnv) (s : Sketch) (hm : s.mapping = some env.id) :
    ∃ g', DDSketch.DecodeAndMergeWith 10 (toGen env s) [4#8] = .ok (g', GoErr.eof) :=
  (DecodeAndMergeWith_error env s .eof hm 10 [4#8] (by decide) (by rfl)).imp fun _ h => h.1

/-- a store block with an undefined bin layout (`0x11`: positive store, sub-flag 4): "unknown bin encoding" -/
example (env : MapEnv) (s : Sketch) (hm : s.mapping = some env.id) :
    ∃ g', DDSketch.DecodeAndMergeWith 11 (toGen env s) [17#8, 0#8]
      = .ok (g', GoErr.named "unknown bin encoding") :=
  (DecodeAndMergeWith_error env s .unknownBinEncoding hm 11 [17#8, 0#8] (by decide) (by rfl)).imp
    fun _ h => h.1

/-- the empty input on a receiver without a mapping: "missing index mapping" -/
example (s : Sketch) (hm : s.mapping = none) :
    ∃ g', DDSketch.DecodeAndMergeWith 9 (toGenO none s) [] = .ok (g', GoErr.named "missing index mapping") :=
  DecodeAndMergeWith_missing s hm 9 [] (by decide)
    (by simp [Sketch.decodeAndMergeWith, Sketch.decodeLoop_nil, hm])

end DDS.GenSketch
