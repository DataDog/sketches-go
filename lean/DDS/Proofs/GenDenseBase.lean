/-
  DDS.Proofs.GenDenseBase — shared base for the equivalence between the REGENERATED dense stores
  (`DDS/Generated/CodeDense.lean`, translated from `/repo/ddsketch/store/{dense_store,
  collapsing_lowest_dense_store,collapsing_highest_dense_store}.go` on every run) and the
  HAND-WRITTEN model `DDS.DStore` (`DDS/Model/Dense.lean`).

  * `toGen` embeds a model store into the generated `DenseStore` (`Array Rat ↦ List Rat`),
    `withGen` puts generated fields back into a model store (keeping `kind`/`isCollapsed`),
    `ofGen` is the inverse on plain stores; `toLow n`/`toHigh n` (and `withLow/withHigh`,
    `ofLow/ofHigh`) do the same for the two collapsing structures.
  * `toRes f : Option α → Res β` (`some a ↦ .ok (f a)`, `none ↦ .panic`): the model says `some t` ⇒ the
    generated code returns `.ok (f t)`, the model says `none` (Go would panic) ⇒ the generated code returns
    `.panic`.  In particular the generated code never returns `.nofuel` when the stated fuel bound holds.
    `toRes` against `Res.bind` and `optR` (`toRes_bind`, `bind_toRes`, `optR_toRes`, `optR_ok`, …); `toRes_ok`
    carries a theorem about the model over such an equation; the relation `RRel f m r :↔ r = toRes f m`.
  * bridging lemmas `List ↔ Array` for the Go-semantics primitives (`idx/set/copyWithin/mkSlice/…`; the facts
    about the primitives alone are in `GoSemLemmas`), for `x[i] += v` (`addAt_toList`) and for the `+=` of a merge,
    `s.bins[p] += o.bins[q]` (`addFrom_toList`), each also inside a loop body (`…_L`).
  * the `DenseStore` functions without a loop: `isEmpty_eq`, `totalCount_eq`, `minIndex_eq`, `maxIndex_eq`,
    `newDenseStore_eq'`, `clear_rel`, `copy_eq`, `getNewLength_rel`.
  * the shape of a translated counting `for` loop: `loop_run` (its iterations are a fold of the body over the
    counters; any counter update, an invariant, fuel for the calls of the body), with `loop_up` for `i++`,
    `forLoop_run` for `for …; i <= hi; i++` given by one defining equation, and `loop_up_elim`, `loop_down_elim`
    for a loop that hands its state and counter on to the rest of the function.
  * the `DenseStore` functions that the three stores share: `resetBins_rel`, `shiftCounts_rel`,
    `centerCounts_rel`, `denseAdjust_eq_centerCounts` (the plain `DenseStore.adjust` = `centerCounts`).
  * what the model's operations leave alone, for every kind: `resetBins_frame`, … (`kind`, `isCollapsed`, the
    size of `bins`) and `adjust_kind`, `extendRange_kind`, `normalize_kind`, `addWithCount_kind`, `mergeSame_kind`,
    `reweight_frame`.
  * the same-type fast path of `MergeWith`, what the three stores share: the model's `mergeSame` is "extend the
    range if needed, then ONE fold of `mergeStep o (mergeCell s)` over the window of the argument"
    (`DStore.mergeSame_eq`, `mergeFold`, in `DDS.Proofs.Dense`); the regenerated functions have the same frame
    around their loops (`mergeWith_frame`), and one `+=` of those loops is one `mergeStep` (`addFrom_toList_L`,
    `addFrom_toList`).
  * `DDS.GenCollapsing`, at the end: the summing fold of `adjust` (`sumStep`), which only the two collapsing
    stores have.

  FUEL.  `resetBins` is the only loop here.  `s.bins.size + 2 ≤ fuel` always suffices (also for the
  runs that end in a panic: the loop hits the out-of-range write before the fuel is gone), and so
  does `(toIndex - fromIndex + 1).toNat + 1 ≤ fuel`.  `extendFuel s a b` is the bound that the
  `extendRange` family needs (the array may grow to the new length first).

  Generated code and model do not disagree on the functions in this file: every statement is an
  equation that holds for all inputs (given the fuel bound).
-/
import DDS.Generated.CodeDense
import DDS.Proofs.Dense
import DDS.Proofs.Num
import DDS.Proofs.GoSemLemmas

namespace DDS.GenDense

open DDS DDS.GoSem DDS.DStore

abbrev GS := DDS.Gen.Dense.DenseStore
abbrev GLow := DDS.Gen.Dense.CollapsingLowestDenseStore
abbrev GHigh := DDS.Gen.Dense.CollapsingHighestDenseStore

/-! ### the embeddings -/

/-- model store ↦ generated `DenseStore` (the fields `kind`, `isCollapsed` are dropped) -/
def toGen (s : DStore) : GS :=
  { bins := s.bins.toList, count := s.count, offset := s.offset, minIndex := s.minIndex,
    maxIndex := s.maxIndex }

def withGen (s : DStore) (g : GS) : DStore :=
  { s with bins := g.bins.toArray, count := g.count, offset := g.offset, minIndex := g.minIndex,
           maxIndex := g.maxIndex }

def ofGen (g : GS) : DStore :=
  { kind := .plain, bins := g.bins.toArray, count := g.count, offset := g.offset,
    minIndex := g.minIndex, maxIndex := g.maxIndex, isCollapsed := false }

@[simp] theorem toGen_bins (s : DStore) : (toGen s).bins = s.bins.toList := rfl
@[simp] theorem toGen_count (s : DStore) : (toGen s).count = s.count := rfl
@[simp] theorem toGen_offset (s : DStore) : (toGen s).offset = s.offset := rfl
@[simp] theorem toGen_minIndex (s : DStore) : (toGen s).minIndex = s.minIndex := rfl
@[simp] theorem toGen_maxIndex (s : DStore) : (toGen s).maxIndex = s.maxIndex := rfl

@[simp] theorem withGen_kind (s : DStore) (g : GS) : (withGen s g).kind = s.kind := rfl
@[simp] theorem withGen_isCollapsed (s : DStore) (g : GS) : (withGen s g).isCollapsed = s.isCollapsed := rfl
@[simp] theorem withGen_bins (s : DStore) (g : GS) : (withGen s g).bins = g.bins.toArray := rfl
@[simp] theorem withGen_count (s : DStore) (g : GS) : (withGen s g).count = g.count := rfl
@[simp] theorem withGen_offset (s : DStore) (g : GS) : (withGen s g).offset = g.offset := rfl
@[simp] theorem withGen_minIndex (s : DStore) (g : GS) : (withGen s g).minIndex = g.minIndex := rfl
@[simp] theorem withGen_maxIndex (s : DStore) (g : GS) : (withGen s g).maxIndex = g.maxIndex := rfl

@[simp] theorem toGen_withGen (s : DStore) (g : GS) : toGen (withGen s g) = g := by
  cases g; simp [toGen, withGen]

@[simp] theorem withGen_toGen (s : DStore) : withGen s (toGen s) = s := by
  cases s; simp [toGen, withGen]

@[simp] theorem toGen_ofGen (g : GS) : toGen (ofGen g) = g := by
  cases g; simp [toGen, ofGen]

@[simp] theorem ofGen_kind (g : GS) : (ofGen g).kind = .plain := rfl

theorem ofGen_toGen (s : DStore) (hk : s.kind = .plain) (hc : s.isCollapsed = false) :
    ofGen (toGen s) = s := by
  cases s; simp only at hk hc; simp [toGen, ofGen, hk, hc]

theorem toGen_with_bins (s : DStore) (b : Array Rat) :
    ({ toGen s with bins := b.toList } : GS) = toGen { s with bins := b } := rfl

/-- a generated store written out field by field (`toGen s` with a field replaced, after `simp only [toGen_count, …]`)
    is the image of the model store with these fields, whatever its `kind` and `isCollapsed` -/
theorem toGen_mk (k : DKind) (c : Bool) (b : Array Rat) (cnt : Rat) (off mn mx : Int) :
    ({ bins := b.toList, count := cnt, offset := off, minIndex := mn, maxIndex := mx } : GS)
      = toGen { kind := k, bins := b, count := cnt, offset := off, minIndex := mn, maxIndex := mx,
                isCollapsed := c } := rfl

/-- every generated `DenseStore` is the image of a plain model store: a statement about `toGen s`
    for all (plain) `s` is a statement about every generated store -/
theorem forall_gen {P : GS → Prop} (h : ∀ s : DStore, s.kind = .plain → P (toGen s)) (g : GS) : P g := by
  rw [← toGen_ofGen g]; exact h _ rfl

def toLow (n : Int) (s : DStore) : GLow :=
  { DenseStore := toGen s, maxNumBins := n, isCollapsed := s.isCollapsed }

def toHigh (n : Int) (s : DStore) : GHigh :=
  { DenseStore := toGen s, maxNumBins := n, isCollapsed := s.isCollapsed }

def withLow (s : DStore) (g : GLow) : DStore :=
  { withGen s g.DenseStore with isCollapsed := g.isCollapsed }

def withHigh (s : DStore) (g : GHigh) : DStore :=
  { withGen s g.DenseStore with isCollapsed := g.isCollapsed }

def ofLow (g : GLow) : DStore :=
  { ofGen g.DenseStore with kind := .low g.maxNumBins.toNat, isCollapsed := g.isCollapsed }

def ofHigh (g : GHigh) : DStore :=
  { ofGen g.DenseStore with kind := .high g.maxNumBins.toNat, isCollapsed := g.isCollapsed }

@[simp] theorem toLow_DenseStore (n : Int) (s : DStore) : (toLow n s).DenseStore = toGen s := rfl
@[simp] theorem toLow_maxNumBins (n : Int) (s : DStore) : (toLow n s).maxNumBins = n := rfl
@[simp] theorem toLow_isCollapsed (n : Int) (s : DStore) : (toLow n s).isCollapsed = s.isCollapsed := rfl
@[simp] theorem toHigh_DenseStore (n : Int) (s : DStore) : (toHigh n s).DenseStore = toGen s := rfl
@[simp] theorem toHigh_maxNumBins (n : Int) (s : DStore) : (toHigh n s).maxNumBins = n := rfl
@[simp] theorem toHigh_isCollapsed (n : Int) (s : DStore) : (toHigh n s).isCollapsed = s.isCollapsed := rfl

@[simp] theorem withLow_kind (s : DStore) (g : GLow) : (withLow s g).kind = s.kind := rfl
@[simp] theorem withHigh_kind (s : DStore) (g : GHigh) : (withHigh s g).kind = s.kind := rfl
@[simp] theorem withLow_isCollapsed (s : DStore) (g : GLow) : (withLow s g).isCollapsed = g.isCollapsed := rfl
@[simp] theorem withHigh_isCollapsed (s : DStore) (g : GHigh) : (withHigh s g).isCollapsed = g.isCollapsed := rfl

@[simp] theorem toLow_withLow (s : DStore) (g : GLow) : toLow g.maxNumBins (withLow s g) = g := by
  cases g with | mk d n c => cases d; simp [toLow, withLow, withGen, toGen]

@[simp] theorem toHigh_withHigh (s : DStore) (g : GHigh) : toHigh g.maxNumBins (withHigh s g) = g := by
  cases g with | mk d n c => cases d; simp [toHigh, withHigh, withGen, toGen]

@[simp] theorem withLow_toLow (n : Int) (s : DStore) : withLow s (toLow n s) = s := by
  cases s; simp [toLow, withLow, withGen, toGen]

@[simp] theorem withHigh_toHigh (n : Int) (s : DStore) : withHigh s (toHigh n s) = s := by
  cases s; simp [toHigh, withHigh, withGen, toGen]

@[simp] theorem toLow_ofLow (g : GLow) : toLow g.maxNumBins (ofLow g) = g := by
  cases g with | mk d n c => cases d; simp [toLow, ofLow, ofGen, toGen]

@[simp] theorem toHigh_ofHigh (g : GHigh) : toHigh g.maxNumBins (ofHigh g) = g := by
  cases g with | mk d n c => cases d; simp [toHigh, ofHigh, ofGen, toGen]

theorem ofLow_kind (g : GLow) : (ofLow g).kind = .low g.maxNumBins.toNat := rfl
theorem ofHigh_kind (g : GHigh) : (ofHigh g).kind = .high g.maxNumBins.toNat := rfl

theorem ofLow_toLow (n : Nat) (s : DStore) (hk : s.kind = .low n) : ofLow (toLow (n : Int) s) = s := by
  cases s; simp only at hk; simp [toLow, ofLow, ofGen, toGen, hk]

theorem ofHigh_toHigh (n : Nat) (s : DStore) (hk : s.kind = .high n) : ofHigh (toHigh (n : Int) s) = s := by
  cases s; simp only at hk; simp [toHigh, ofHigh, ofGen, toGen, hk]

theorem forall_low {P : GLow → Prop}
    (h : ∀ (n : Nat) (s : DStore), s.kind = .low n → P (toLow (n : Int) s)) (g : GLow)
    (hn : 0 ≤ g.maxNumBins) : P g := by
  have := h g.maxNumBins.toNat (ofLow g) rfl
  rwa [show ((g.maxNumBins.toNat : Nat) : Int) = g.maxNumBins by omega, toLow_ofLow] at this

theorem forall_high {P : GHigh → Prop}
    (h : ∀ (n : Nat) (s : DStore), s.kind = .high n → P (toHigh (n : Int) s)) (g : GHigh)
    (hn : 0 ≤ g.maxNumBins) : P g := by
  have := h g.maxNumBins.toNat (ofHigh g) rfl
  rwa [show ((g.maxNumBins.toNat : Nat) : Int) = g.maxNumBins by omega, toHigh_ofHigh] at this

theorem toLow_with (n : Int) (s t : DStore) (c : Bool) :
    ({ toLow n s with DenseStore := toGen t, isCollapsed := c } : GLow)
      = toLow n { withGen s (toGen t) with isCollapsed := c } := by
  simp [toLow, toGen, withGen]

theorem toHigh_with (n : Int) (s t : DStore) (c : Bool) :
    ({ toHigh n s with DenseStore := toGen t, isCollapsed := c } : GHigh)
      = toHigh n { withGen s (toGen t) with isCollapsed := c } := by
  simp [toHigh, toGen, withGen]

/-! ### the result relation -/

/-- model outcome ↦ generated outcome: `none` (Go would panic) is `.panic` -/
def toRes {α β : Type} (f : α → β) : Option α → Res β
  | some a => .ok (f a)
  | none => .panic

@[simp] theorem toRes_some {α β : Type} (f : α → β) (a : α) : toRes f (some a) = .ok (f a) := rfl
@[simp] theorem toRes_none {α β : Type} (f : α → β) : toRes f (none : Option α) = .panic := rfl

theorem toRes_ne_nofuel {α β : Type} (f : α → β) (m : Option α) : toRes f m ≠ .nofuel := by
  cases m <;> simp [toRes]

theorem toRes_eq_ok {α β : Type} (f : α → β) (m : Option α) (b : β) :
    toRes f m = .ok b ↔ ∃ a, m = some a ∧ f a = b := by
  cases m with
  | none => exact ⟨(nomatch ·), fun ⟨_, h, _⟩ => nomatch h⟩
  | some a => exact ⟨fun h => ⟨a, rfl, Res.ok.inj h⟩, fun ⟨_, h, e⟩ => by cases h; exact congrArg Res.ok e⟩

theorem toRes_eq_panic {α β : Type} (f : α → β) (m : Option α) : toRes f m = .panic ↔ m = none := by
  cases m <;> simp [toRes]

/-- what the model's operation returns with a property, the generated function returns through `f` with the same
    property: a theorem about the model is carried over a `*_rel` equation by this -/
theorem toRes_ok {α β : Type} {f : α → β} {m : Option α} {r : Res β} (h : r = toRes f m) {P : α → Prop}
    (hm : ∃ a, m = some a ∧ P a) : ∃ a, r = .ok (f a) ∧ P a :=
  let ⟨a, e, p⟩ := hm
  ⟨a, by rw [h, e]; rfl, p⟩

theorem toRes_bind {α β γ δ : Type} (f : α → β) (g : γ → δ) (m : Option α) (k : α → Option γ)
    (k' : β → Res δ) (h : ∀ a, k' (f a) = toRes g (k a)) :
    Res.bind (toRes f m) k' = toRes g (m.bind k) := by
  cases m with
  | none => rfl
  | some a => simp [h]

theorem toRes_map {α β γ δ : Type} (f : α → β) (g : γ → δ) (m : Option α) (k : α → γ)
    (k' : β → Res δ) (h : ∀ a, k' (f a) = .ok (g (k a))) :
    Res.bind (toRes f m) k' = toRes g (m.map k) := by
  cases m with
  | none => rfl
  | some a => simp [h]

theorem bind_toRes {α β γ : Type} (f : α → β) (m : Option α) (k : β → Res γ) :
    (toRes f m).bind k = optR m fun a => k (f a) := by
  cases m <;> rfl

/-- a step of the generated code that may panic, against a `bind` of the model -/
theorem optR_toRes {α γ δ : Type} (g : γ → δ) (m : Option α) (k : α → Option γ) (k' : α → Res δ)
    (h : ∀ a, m = some a → k' a = toRes g (k a)) : optR m k' = toRes g (m.bind k) := by
  cases m with
  | none => rfl
  | some a => exact h a rfl

/-- the same for the last step -/
theorem optR_ok {α β : Type} (f : α → β) (m : Option α) (k' : α → Res β)
    (h : ∀ a, m = some a → k' a = .ok (f a)) : optR m k' = toRes f m := by
  cases m with
  | none => rfl
  | some a => exact h a rfl

theorem toRes_bind_some {α β γ : Type} (f : β → γ) (k : α → β) (m : Option α) :
    toRes f (m.bind fun a => some (k a)) = toRes (fun a => f (k a)) m := by
  cases m <;> rfl

theorem optR_eq_toRes {α β γ : Type} (f : α → β) (m : Option α) (k : α → Res γ) (k' : β → Res γ)
    (h : ∀ a, k' (f a) = k a) : optR (m.map f) k' = (match m with | some a => k a | none => .panic) := by
  cases m with
  | none => rfl
  | some a => simp [h]

def RRel {α β : Type} (f : α → β) (m : Option α) (r : Res β) : Prop := r = toRes f m

@[simp] theorem RRel_some {α β : Type} (f : α → β) (a : α) (r : Res β) :
    RRel f (some a) r ↔ r = .ok (f a) := Iff.rfl
@[simp] theorem RRel_none {α β : Type} (f : α → β) (r : Res β) :
    RRel f (none : Option α) r ↔ r = .panic := Iff.rfl
theorem RRel_iff {α β : Type} (f : α → β) (m : Option α) (r : Res β) : RRel f m r ↔ r = toRes f m := Iff.rfl

/-! ### `goMin` / `goMax` -/

@[simp] theorem goMin_eq (x y : Int) : Gen.Dense.goMin x y = min x y := by
  unfold Gen.Dense.goMin
  simp only [decide_eq_true_eq]
  split <;> omega

@[simp] theorem goMax_eq (x y : Int) : Gen.Dense.goMax x y = max x y := by
  unfold Gen.Dense.goMax
  simp only [decide_eq_true_eq]
  split <;> omega

/-! ### arrays: extensionality by `at0`, `tabulate` -/

theorem array_ext_at0 (a b : Array Rat) (hs : a.size = b.size) (h : ∀ j : Int, 0 ≤ j → j < a.size → at0 a j = at0 b j) :
    a = b := by
  apply Array.ext hs
  intro k hk1 hk2
  have := h (k : Int) (by omega) (by omega)
  rw [at0_nat, at0_nat] at this
  simpa [hk1, hk2] using this

theorem tabulate_congr (n : Nat) (f g : Int → Rat) (h : ∀ j : Int, 0 ≤ j → j < n → f j = g j) :
    tabulate n f = tabulate n g := by
  apply array_ext_at0 _ _ (by simp)
  intro j h0 h1
  rw [size_tabulate] at h1
  rw [at0_tabulate, at0_tabulate, if_pos ⟨h0, h1⟩, if_pos ⟨h0, h1⟩]
  exact h j h0 h1

theorem tabulate_at0 (a : Array Rat) : tabulate a.size (at0 a) = a := by
  apply array_ext_at0 _ _ (by simp)
  intro j h0 h1
  rw [size_tabulate] at h1
  rw [at0_tabulate, if_pos ⟨h0, h1⟩]

theorem tabulate_eq_self (a : Array Rat) (f : Int → Rat) (h : ∀ j : Int, 0 ≤ j → j < a.size → f j = at0 a j) :
    tabulate a.size f = a := by
  rw [tabulate_congr a.size f (at0 a) h, tabulate_at0]

theorem toList_tabulate (n : Nat) (f : Int → Rat) :
    (tabulate n f).toList = List.ofFn (n := n) (fun j => f (j.val : Int)) :=
  Array.toList_ofFn

theorem getElem?_toList_tabulate (n : Nat) (f : Int → Rat) (k : Nat) :
    (tabulate n f).toList[k]? = if k < n then some (f (k : Int)) else none := by
  rw [toList_tabulate, List.getElem?_ofFn]
  by_cases h : k < n <;> simp [h]

theorem toList_eq_of_at0 (l : List Rat) (a : Array Rat) (hs : l.length = a.size)
    (h : ∀ j : Int, 0 ≤ j → j < a.size → at0 l.toArray j = at0 a j) : l = a.toList := by
  have : l.toArray = a := array_ext_at0 _ _ (by simpa using hs) (by
    intro j h0 h1; exact h j h0 (by simpa [hs] using h1))
  rw [← this]

theorem at0_toArray_nat (l : List Rat) (k : Nat) : at0 l.toArray (k : Int) = l[k]?.getD 0 := by
  rw [at0_nat]; simp

/-! ### bridging lemmas for the slice primitives -/

theorem len_toList (a : Array Rat) : GoSem.len a.toList = (a.size : Int) := by
  simp [GoSem.len]

@[simp] theorem len_toGen (s : DStore) : GoSem.len (toGen s).bins = s.len := by
  simp [GoSem.len, DStore.len]

theorem idx_toList (a : Array Rat) (i : Int) : GoSem.idx a.toList i = rd a i := by
  unfold GoSem.idx rd
  by_cases h : 0 ≤ i ∧ i < a.size
  · rw [if_neg (Int.not_lt.mpr h.1), if_pos h, Array.getD_eq_getD_getElem?, Array.getElem?_toList,
      Array.getElem?_eq_getElem (by omega)]
    rfl
  · rw [if_neg h]
    split
    · rfl
    · exact List.getElem?_eq_none (by rw [Array.length_toList]; omega)

theorem set_toList (a : Array Rat) (i : Int) (v : Rat) :
    GoSem.set a.toList i v = (setAt a i v).map Array.toList := by
  unfold GoSem.set setAt
  by_cases h : 0 ≤ i ∧ i < a.size
  · rw [if_neg (by rw [Array.length_toList]; omega), if_pos h]
    simp
  · rw [if_pos (by rw [Array.length_toList]; omega), if_neg h]
    rfl

theorem addAt_eq_rd_setAt (a : Array Rat) (i : Int) (v : Rat) :
    addAt a i v = (rd a i).bind fun t => setAt a i (t + v) := by
  unfold rd addAt setAt
  split <;> rfl

/-- `x[i] += v` (a read followed by a write) -/
theorem addAt_toList {γ : Type} (a : Array Rat) (i : Int) (v : Rat) (k : List Rat → Res γ) :
    optR (GoSem.idx a.toList i) (fun t => optR (GoSem.set a.toList i (t + v)) k)
      = optR ((addAt a i v).map Array.toList) k := by
  rw [idx_toList, addAt_eq_rd_setAt]
  cases rd a i with
  | none => rfl
  | some t => rw [optR_some, set_toList, Option.bind_some]

/-- the same inside a loop body -/
theorem addAt_toList_L {σ ρ : Type} (a : Array Rat) (i : Int) (v : Rat) (k : List Rat → Loop σ ρ) :
    optL (GoSem.idx a.toList i) (fun t => optL (GoSem.set a.toList i (t + v)) k)
      = optL ((addAt a i v).map Array.toList) k := by
  rw [idx_toList, addAt_eq_rd_setAt]
  cases rd a i with
  | none => rfl
  | some t => rw [optL_some, set_toList, Option.bind_some]

/-- one `+=` of a generated merge (`s.bins[p] += o.bins[q]`: read, read, write; the model reads `o.bins` first),
    in a loop body … -/
theorem addFrom_toList_L {σ ρ : Type} (a ob : Array Rat) (p q : Int) (k : List Rat → Loop σ ρ) :
    optL (GoSem.idx a.toList p) (fun t1 => optL (GoSem.idx ob.toList q) fun t2 =>
      optL (GoSem.set a.toList p (t1 + t2)) k)
      = optL ((rd ob q).bind fun c => addAt a p c) fun b => k b.toList := by
  rw [optL_comm, idx_toList ob q]
  cases rd ob q with
  | none => rfl
  | some c => exact (addAt_toList_L a p c k).trans (optL_map _ _ _)

/-- … and after the loops -/
theorem addFrom_toList {γ : Type} (a ob : Array Rat) (p q : Int) (k : List Rat → Res γ) :
    optR (GoSem.idx a.toList p) (fun t1 => optR (GoSem.idx ob.toList q) fun t2 =>
      optR (GoSem.set a.toList p (t1 + t2)) k)
      = optR ((rd ob q).bind fun c => addAt a p c) fun b => k b.toList := by
  rw [optR_comm, idx_toList ob q]
  cases rd ob q with
  | none => rfl
  | some c => exact (addAt_toList a p c k).trans (optR_map _ _ _)

theorem setAt_size (a b : Array Rat) (i : Int) (v : Rat) (h : setAt a i v = some b) : b.size = a.size := by
  unfold setAt at h
  split at h
  · cases h; exact Array.size_setIfInBounds ..
  · cases h

theorem addAt_size (a b : Array Rat) (i : Int) (v : Rat) (h : addAt a i v = some b) : b.size = a.size := by
  unfold addAt at h
  split at h
  · cases h; exact Array.size_setIfInBounds ..
  · cases h

theorem mkSlice_eq (n : Int) :
    GoSem.mkSlice n (0 : Rat) = if n < 0 then none else some (Array.replicate n.toNat (0 : Rat)).toList := by
  unfold GoSem.mkSlice
  split <;> simp

/-- `append(s.bins, make([]float64, k)...)` -/
theorem grow_toGen (s : DStore) (k : Int) :
    optR (GoSem.mkSlice k (0 : Rat)) (fun t => Res.ok ({ toGen s with bins := (toGen s).bins ++ t } : GS))
      = toRes toGen (s.grow k) := by
  unfold DStore.grow
  rw [mkSlice_eq]
  by_cases h : k < 0
  · rw [if_pos h, if_pos h]; rfl
  · rw [if_neg h, if_neg h]
    simp [toGen]

theorem append_replicate_toList (a : Array Rat) (k : Nat) :
    a.toList ++ List.replicate k (0 : Rat) = (a ++ Array.replicate k 0).toList := by
  rw [Array.toList_append, Array.toList_replicate]

/-- the fuel for `adjust` after the array has grown by at most `x` cells -/
theorem grow_fuel (a : Array Rat) {x fuel : Nat} {k : Int} (hk : k.toNat ≤ x) (hf : a.size + x + 2 ≤ fuel) :
    (a ++ Array.replicate k.toNat 0).size + 2 ≤ fuel := by
  rw [Array.size_append, Array.size_replicate]
  omega

/-- `copy(x[dlo:], x[slo:shi])` with `dlo = slo + shift` is the model's pointwise move -/
theorem copyWithin_toList (a : Array Rat) (slo shi shift : Int) :
    GoSem.copyWithin a.toList (slo + shift) slo shi =
      if ¬ (0 ≤ slo + shift ∧ slo + shift ≤ a.size ∧ 0 ≤ slo ∧ slo ≤ shi ∧ shi ≤ a.size) then none
      else some (tabulate a.size (fun j =>
        if slo + shift ≤ j ∧ j < slo + shift + min ((a.size : Int) - (slo + shift)) (shi - slo)
        then at0 a (j - shift) else at0 a j)).toList := by
  unfold GoSem.copyWithin
  rw [Array.length_toList]
  by_cases hb : 0 ≤ slo + shift ∧ slo + shift ≤ a.size ∧ 0 ≤ slo ∧ slo ≤ shi ∧ shi ≤ a.size
  · rw [if_neg (by omega), if_neg (not_not_intro hb)]
    -- the bounds are natural numbers `d`, `p`, `q`, and `n` entries move
    obtain ⟨d, hd⟩ : ∃ d : Nat, slo + shift = d := ⟨_, (Int.toNat_of_nonneg hb.1).symm⟩
    obtain ⟨p, rfl⟩ : ∃ p : Nat, slo = p := ⟨_, (Int.toNat_of_nonneg hb.2.2.1).symm⟩
    obtain ⟨q, rfl⟩ : ∃ q : Nat, shi = q := ⟨_, (Int.toNat_of_nonneg (by omega)).symm⟩
    rw [hd] at hb ⊢
    simp only [Int.toNat_natCast]
    obtain ⟨hd1, hpq, hq1⟩ : d ≤ a.size ∧ p ≤ q ∧ q ≤ a.size := by omega
    clear hb
    obtain ⟨n, hn⟩ : ∃ n : Nat, n = min (a.size - d) (q - p) := ⟨_, rfl⟩
    have hdn : d + n ≤ a.size := by have := hn ▸ Nat.min_le_left (a.size - d) (q - p); omega
    have hpn : p + n ≤ a.size := by have := hn ▸ Nat.min_le_right (a.size - d) (q - p); omega
    rw [← hn, ← Int.natCast_sub hd1, ← Int.natCast_sub hpq, ← Nat.cast_min, ← hn]
    clear hn
    have hl := copyWithin_spec a.toList d p n (by rw [Array.length_toList]; exact hdn)
      (by rw [Array.length_toList]; exact hpn)
    refine congrArg some (toList_eq_of_at0 _ _ (by rw [hl.1, Array.length_toList, size_tabulate])
      fun j h0 h1 => ?_)
    · obtain ⟨k, rfl⟩ : ∃ k : Nat, j = k := ⟨_, (Int.toNat_of_nonneg h0).symm⟩
      rw [size_tabulate] at h1
      rw [at0_tabulate, if_pos ⟨h0, h1⟩, at0_toArray_nat, hl.2]
      split
      · rw [if_pos (by omega), Array.getElem?_toList, ← at0_nat]
        congr 1; omega
      · rw [if_neg (by omega), Array.getElem?_toList, ← at0_nat]
  · rw [if_pos (by omega), if_pos hb]

/-! ### observers, constructor, `Clear`, `Copy` -/

theorem isEmpty_eq (s : DStore) : Gen.Dense.DenseStore.IsEmpty (toGen s) = s.isEmpty := rfl

theorem totalCount_eq (s : DStore) : Gen.Dense.DenseStore.TotalCount (toGen s) = s.totalCount := rfl

theorem minIndex_eq (s : DStore) :
    Gen.Dense.DenseStore.MinIndex (toGen s) =
      match s.minIndex? with
      | some i => (i, GoErr.nil)
      | none => (0, Gen.Dense.errUndefinedMinIndex) := by
  unfold Gen.Dense.DenseStore.MinIndex DStore.minIndex?
  rw [isEmpty_eq]
  cases s.isEmpty <;> rfl

theorem maxIndex_eq (s : DStore) :
    Gen.Dense.DenseStore.MaxIndex (toGen s) =
      match s.maxIndex? with
      | some i => (i, GoErr.nil)
      | none => (0, Gen.Dense.errUndefinedMaxIndex) := by
  unfold Gen.Dense.DenseStore.MaxIndex DStore.maxIndex?
  rw [isEmpty_eq]
  cases s.isEmpty <;> rfl

theorem newDenseStore_eq' : Gen.Dense.NewDenseStore = toGen (DStore.new .plain) := rfl

theorem clear_rel (fuel : Nat) (s : DStore) :
    Gen.Dense.DenseStore.Clear fuel (toGen s) = .ok (toGen s.clear) := by
  have h : ¬ ((s.bins.size : Int) < 0) := by omega
  simp [Gen.Dense.DenseStore.Clear, GoSem.sliceTo, DStore.clear, toGen, maxInt32, minInt32, h]

/-- `Copy` is the identity on the value (a fresh slice with the same content) -/
theorem copy_eq (s : DStore) : Gen.Dense.DenseStore.Copy (toGen s) = toGen s := by
  simp [Gen.Dense.DenseStore.Copy, GoSem.copySlice, GoSem.len, toGen]

/-! ### `getNewLength` -/

/-- the generated growth function is the model's `denseNewLength` (same `F64` expression; the
    constants `arrayLengthOverhead = 64`, `arrayLengthGrowthIncrement = 0.1` are re-read from the
    source by `hx consts`) -/
theorem getNewLength_rel (fuel : Nat) (g : GS) (a b : Int) :
    Gen.Dense.DenseStore.getNewLength fuel g a b = toRes id (DStore.denseNewLength a b) := by
  unfold Gen.Dense.DenseStore.getNewLength DStore.denseNewLength
  simp only [growthIncrement_eq, Consts.arrayLengthOverhead, F64.one]
  have e : (((64 : Nat) : Int)) = (64 : Int) := rfl
  rw [e]
  cases F64.truncToInt _ <;> rfl

/-- fuel that suffices for the `extendRange` family called with `(a, b)`: the array may first grow
    to the new length `L`, and `resetBins` then walks over (part of) it -/
def extendFuel (s : DStore) (a b : Int) : Nat :=
  s.bins.size + ((DStore.denseNewLength (min a s.minIndex) (max b s.maxIndex)).getD 0).toNat + 2

/-! ### translated `for` loops

A loop `for …; cond(i); i = nxt(i) { … }` is translated into a function `L fuel state i` recursing on the fuel. -/

theorem iterate_cons (f : Int → Int) (a : Int) (n : Nat) :
    List.iterate f a (n + 1) = a :: List.iterate f (f a) n := rfl

theorem foldlM_one {α β : Type} (f : α → β → Option α) (a : α) (x : β) : [x].foldlM f a = f a x := by
  show (f a x).bind (fun a' => some a') = f a x
  cases f a x <;> rfl

/-- A counting loop of the translated code is a fold.  `L` is the loop (fuel, state, counter) read on the states
    `t` of the model's side, `rem i` the number of iterations still to run from counter `i`, `nxt` the counter
    update, `step` the body as a model function (`none` = panic), `Inv` an invariant of state and counter that the
    body may rely on, `exit` what happens when the loop condition fails, `c` the fuel that the calls of the body
    need.  The loop folds `step` over the `rem i` counters `i, nxt i, …`.  Fuel: one unit per iteration and one
    for the exit test — or fewer, if the fold over the first `fuel - c` counters already fails (the loop then
    panics before the fuel is gone). -/
theorem loop_run {τ σ ρ : Type} {L : Nat → τ → Int → Loop σ ρ} {step : τ → Int → Option τ} {nxt : Int → Int}
    {rem : Int → Nat} {Inv : τ → Int → Prop} {exit : τ → Int → Loop σ ρ} {c : Nat}
    (hstop : ∀ f t i, c ≤ f → rem i = 0 → L (f + 1) t i = exit t i)
    (hstep : ∀ f t i n, c ≤ f → Inv t i → rem i = n + 1 →
      rem (nxt i) = n ∧ (∀ t', step t i = some t' → Inv t' (nxt i)) ∧
        L (f + 1) t i = optL (step t i) fun t' => L f t' (nxt i))
    (n : Nat) : ∀ (fuel : Nat) (t : τ) (i : Int), Inv t i → rem i = n →
      (n + c < fuel ∨ (List.iterate nxt i (fuel - c)).foldlM step t = none) →
      L fuel t i = optL ((List.iterate nxt i n).foldlM step t) fun t' => exit t' (nxt^[n] i) := by
  -- both ways of having enough fuel leave `c` units after the first
  have pos : ∀ {n fuel : Nat} {t : τ} {i : Int},
      (n + c < fuel ∨ (List.iterate nxt i (fuel - c)).foldlM step t = none) → ∃ f, fuel = f + 1 ∧ c ≤ f := by
    intro n fuel t i hf
    cases fuel with
    | zero =>
      rcases hf with h | h
      · cases h
      · rw [Nat.zero_sub] at h; cases h
    | succ f =>
      refine ⟨f, rfl, Nat.le_of_lt_succ ?_⟩
      rcases hf with h | h
      · exact Nat.lt_of_le_of_lt (Nat.le_add_left c n) h
      · exact Nat.lt_of_sub_ne_zero fun h0 => by rw [h0] at h; cases h
  induction n with
  | zero =>
    intro fuel t i _ hn hf
    obtain ⟨f, rfl, hc⟩ := pos hf
    rw [hstop f t i hc hn]
    rfl
  | succ n ih =>
    intro fuel t i hi hn hf
    obtain ⟨f, rfl, hc⟩ := pos hf
    obtain ⟨hn', hi', hL⟩ := hstep f t i n hc hi hn
    rw [hL, iterate_cons, List.foldlM_cons]
    cases hs : step t i with
    | none => rfl
    | some t' =>
      rw [Nat.succ_sub hc, iterate_cons, List.foldlM_cons, hs] at hf
      exact ih f t' (nxt i) (hi' t' hs) hn'
        (hf.imp (fun h => Nat.lt_of_add_lt_add_right (Nat.add_right_comm n 1 c ▸ h)) id)

theorem toNat_sub_zero {a b : Int} (h : (a - b).toNat = 0) : ¬ b < a := by omega

theorem toNat_sub_succ {a b : Int} {n : Nat} (h : (a - b).toNat = n + 1) :
    b < a ∧ (a - (b + 1)).toNat = n := by omega

theorem toNat_sub_pred {a b : Int} {n : Nat} (h : (a - b).toNat = n + 1) :
    b < a ∧ (a - 1 - b).toNat = n := by omega

theorem iterate_up (n : Nat) : ∀ i : Int,
    List.iterate (· + 1) i n = irange i n ∧ (· + 1)^[n] i = i + n := by
  induction n with
  | zero => intro i; exact ⟨rfl, (Int.add_zero i).symm⟩
  | succ n ih =>
    intro i
    rw [iterate_cons, irange_succ_left, (ih (i + 1)).1]
    exact ⟨rfl, (ih (i + 1)).2.trans (by omega)⟩

theorem loop_up {τ σ ρ : Type} {L : Nat → τ → Int → Loop σ ρ} {step : τ → Int → Option τ}
    {rem : Int → Nat} {Inv : τ → Int → Prop} {exit : τ → Int → Loop σ ρ} {c : Nat}
    (hstop : ∀ f t i, c ≤ f → rem i = 0 → L (f + 1) t i = exit t i)
    (hstep : ∀ f t i n, c ≤ f → Inv t i → rem i = n + 1 →
      rem (i + 1) = n ∧ (∀ t', step t i = some t' → Inv t' (i + 1)) ∧
        L (f + 1) t i = optL (step t i) fun t' => L f t' (i + 1))
    (fuel : Nat) (t : τ) (i : Int) (hi : Inv t i)
    (hf : rem i + c < fuel ∨ (irange i (fuel - c)).foldlM step t = none) :
    L fuel t i = optL ((irange i (rem i)).foldlM step t) fun t' => exit t' (i + rem i) := by
  rw [← (iterate_up (fuel - c) i).1] at hf
  rw [loop_run (nxt := (· + 1)) hstop hstep (rem i) fuel t i hi rfl hf, (iterate_up _ i).1, (iterate_up _ i).2]

/-- the loop `for …; i <= hi; i++`, its defining equation `hL` read in one piece: `n` iterations, then the exit -/
theorem forLoop_run {τ σ ρ : Type} {L : Nat → τ → Int → Loop σ ρ} {step : τ → Int → Option τ}
    {exit : τ → Int → Loop σ ρ} {hi : Int} {c : Nat}
    (hL : ∀ f t i, c ≤ f → L (f + 1) t i =
      if i ≤ hi then optL (step t i) (fun t' => L f t' (i + 1)) else exit t i)
    (fuel : Nat) (t : τ) (i : Int) (n : Nat) (hn : (hi - i + 1).toNat = n) (hf : n + c + 1 ≤ fuel) :
    L fuel t i = optL ((irange i n).foldlM step t) fun t' => exit t' (i + n) := by
  rw [show hi - i + 1 = hi + 1 - i by omega] at hn
  subst hn
  exact loop_up (rem := fun i => (hi + 1 - i).toNat) (Inv := fun _ _ => True)
    (fun f t i hc h => (hL f t i hc).trans (if_neg (mt Int.lt_add_one_of_le (toNat_sub_zero h))))
    (fun f t i n hc _ h => ⟨(toNat_sub_succ h).2, fun _ _ => trivial,
      (hL f t i hc).trans (if_pos (Int.le_of_lt_add_one (toNat_sub_succ h).1))⟩)
    fuel t i trivial (Or.inl (Nat.lt_of_succ_le hf))

/-- `loop_up` for a loop whose state `emb t` and counter are handed on to the rest `K` of the function -/
theorem loop_up_elim {σ τ ρ : Type} (L : Nat → σ → Int → Loop (σ × Int) ρ) (emb : τ → σ)
    (step : τ → Int → Option τ) (rem : Int → Nat) (Inv : τ → Int → Prop)
    (hstop : ∀ f t i, rem i = 0 → L (f + 1) (emb t) i = .done (emb t, i))
    (hstep : ∀ f t i n, Inv t i → rem i = n + 1 →
      rem (i + 1) = n ∧ (∀ t', step t i = some t' → Inv t' (i + 1)) ∧
        L (f + 1) (emb t) i = optL (step t i) fun t' => L f (emb t') (i + 1))
    (K : σ × Int → Res ρ) (fuel : Nat) (t : τ) (i : Int) (hi : Inv t i)
    (hf : rem i < fuel ∨ (irange i fuel).foldlM step t = none) :
    (L fuel (emb t) i).elim K =
      optR ((irange i (rem i)).foldlM step t) fun t' => K (emb t', i + rem i) :=
  (congrArg (Loop.elim · K) (loop_up (L := fun f t i => L f (emb t) i) (exit := fun t i => .done (emb t, i))
    (c := 0) (fun f t i _ => hstop f t i) (fun f t i n _ => hstep f t i n) fuel t i hi hf)).trans
    (elim_optL _ _ K)

theorem iterate_down (n : Nat) : ∀ i : Int,
    List.iterate (· - 1) i n = (irange (i - n + 1) n).reverse ∧ (· - 1)^[n] i = i - n := by
  induction n with
  | zero => intro i; exact ⟨rfl, (Int.sub_zero i).symm⟩
  | succ n ih =>
    intro i
    rw [iterate_cons, irange_succ_right, List.reverse_append, (ih (i - 1)).1]
    refine ⟨?_, (ih (i - 1)).2.trans (by omega)⟩
    rw [show i - ((n + 1 : Nat) : Int) + 1 + n = i by omega,
      show i - 1 - (n : Int) + 1 = i - ((n + 1 : Nat) : Int) + 1 by omega]
    rfl

/-- the same for a counter that goes down -/
theorem loop_down_elim {σ τ ρ : Type} (L : Nat → σ → Int → Loop (σ × Int) ρ) (emb : τ → σ)
    (step : τ → Int → Option τ) (rem : Int → Nat) (Inv : τ → Int → Prop)
    (hstop : ∀ f t i, rem i = 0 → L (f + 1) (emb t) i = .done (emb t, i))
    (hstep : ∀ f t i n, Inv t i → rem i = n + 1 →
      rem (i - 1) = n ∧ (∀ t', step t i = some t' → Inv t' (i - 1)) ∧
        L (f + 1) (emb t) i = optL (step t i) fun t' => L f (emb t') (i - 1))
    (K : σ × Int → Res ρ) (fuel : Nat) (t : τ) (i : Int) (hi : Inv t i) (hf : rem i < fuel) :
    (L fuel (emb t) i).elim K =
      optR ((List.iterate (· - 1) i (rem i)).foldlM step t) fun t' => K (emb t', i - rem i) :=
  (congrArg (Loop.elim · K) (loop_run (L := fun f t i => L f (emb t) i) (exit := fun t i => .done (emb t, i))
    (c := 0) (nxt := (· - 1)) (fun f t i _ => hstop f t i) (fun f t i n _ => hstep f t i n) (rem i) fuel t i hi rfl
    (Or.inl hf))).trans ((elim_optL _ _ K).trans (by rw [(iterate_down _ i).2]; rfl))

/-! ### `resetBins` -/

theorem resetBins_step (toIndex : Int) (s : DStore) (f : Nat) (b : Array Rat) (i : Int) :
    Gen.Dense.DenseStore.resetBins.loop1 toIndex (f + 1) (toGen { s with bins := b }) i =
      if i ≤ toIndex - s.offset then
        optL (setAt b i 0) fun b' =>
          Gen.Dense.DenseStore.resetBins.loop1 toIndex f (toGen { s with bins := b' }) (i + 1)
      else .done (toGen { s with bins := b }, i) := by
  rw [Gen.Dense.DenseStore.resetBins.loop1]
  simp only [decide_eq_true_eq]
  simp only [toGen_bins, toGen_offset, set_toList, optL_map]
  rfl

/-- zeroing the `n` entries from `lo` on, one `setAt` after the other: all of them must lie in the array -/
theorem foldlM_setAt_zero (n : Nat) : ∀ (lo : Int) (b : Array Rat),
    (irange lo n).foldlM (fun b j => setAt b j 0) b =
      if n = 0 ∨ (0 ≤ lo ∧ lo + n ≤ b.size) then
        some (tabulate b.size fun j => if lo ≤ j ∧ j < lo + n then 0 else at0 b j)
      else none := by
  induction n with
  | zero =>
    intro lo b
    rw [if_pos (Or.inl rfl), tabulate_eq_self b _ fun j _ _ => if_neg (by omega)]
    rfl
  | succ n ih =>
    intro lo b
    rw [irange_succ_left, List.foldlM_cons, setAt]
    by_cases hin : 0 ≤ lo ∧ lo < b.size
    · rw [if_pos hin, Option.bind_eq_bind, Option.bind_some, ih, Array.size_setIfInBounds]
      by_cases hhi : lo + 1 + n ≤ b.size
      · rw [if_pos (Or.inr ⟨by omega, hhi⟩), if_pos (Or.inr ⟨hin.1, by omega⟩)]
        refine congrArg some (tabulate_congr _ _ _ fun j _ _ => ?_)
        rw [at0_setIfInBounds]
        by_cases hj : j = lo
        · rw [if_neg (by omega), if_pos ⟨by omega, by omega⟩, if_pos (by omega)]
        · rw [if_neg (c := j = _ ∧ _) (by omega)]
          exact if_congr (by omega) rfl rfl
      · rw [if_neg (by omega), if_neg (by omega)]
    · rw [if_neg hin, if_neg (by omega)]; rfl

theorem resetBins_rel (fuel : Nat) (s : DStore) (fromIndex toIndex : Int)
    (hf : s.bins.size + 2 ≤ fuel ∨ (toIndex - fromIndex + 1).toNat + 1 ≤ fuel) :
    Gen.Dense.DenseStore.resetBins fuel (toGen s) fromIndex toIndex
      = toRes toGen (s.resetBins fromIndex toIndex) := by
  unfold Gen.Dense.DenseStore.resetBins DStore.resetBins
  simp only [toGen_offset]
  by_cases h1 : toIndex - s.offset < fromIndex - s.offset
  · obtain ⟨f, rfl⟩ : ∃ f, fuel = f + 1 := ⟨fuel - 1, by omega⟩
    rw [if_pos h1, resetBins_step toIndex s f s.bins, if_neg (Int.not_le.mpr h1)]
    rfl
  · obtain ⟨n, hn, hn0⟩ : ∃ n : Nat, fromIndex - s.offset + n = toIndex - s.offset + 1 ∧ 0 < n :=
      ⟨(toIndex - fromIndex + 1).toNat, by omega, by omega⟩
    replace hf : s.bins.size + 2 ≤ fuel ∨ n + 1 ≤ fuel := by omega
    rw [if_neg h1]
    clear h1
    generalize fromIndex - s.offset = lo at *
    -- when the fuel is not the width, `size + 2` entries cannot all be written
    have hfuel : (toIndex - s.offset + 1 - lo).toNat + 0 < fuel ∨
        (irange lo (fuel - 0)).foldlM (fun b j => setAt b j 0) s.bins = none := by
      by_cases hlt : n < fuel
      · exact Or.inl (by omega)
      · exact Or.inr (by rw [foldlM_setAt_zero]; exact if_neg (by omega))
    rw [loop_up (L := fun f b i => Gen.Dense.DenseStore.resetBins.loop1 toIndex f (toGen { s with bins := b }) i)
      (exit := fun b i => .done (toGen { s with bins := b }, i)) (rem := fun i => (toIndex - s.offset + 1 - i).toNat)
      (Inv := fun _ _ => True) (c := 0)
      (fun f b i _ h => (resetBins_step toIndex s f b i).trans
        (if_neg (mt Int.lt_add_one_of_le (toNat_sub_zero h))))
      (fun f b i k _ _ h => ⟨(toNat_sub_succ h).2, fun _ _ => trivial,
        (resetBins_step toIndex s f b i).trans (if_pos (Int.le_of_lt_add_one (toNat_sub_succ h).1))⟩)
      fuel s.bins lo trivial hfuel, foldlM_setAt_zero, show (toIndex - s.offset + 1 - lo).toNat = n by omega]
    clear hf hfuel
    by_cases h2 : 0 ≤ lo ∧ toIndex - s.offset < s.len
    · rw [if_pos h2]
      unfold DStore.len at h2
      rw [if_pos (Or.inr ⟨h2.1, by omega⟩), optL_some, hn]
      simp only [Int.lt_add_one_iff]
      rfl
    · rw [if_neg h2]
      unfold DStore.len at h2
      rw [if_neg (by omega)]
      rfl

theorem resetBins_rel' (fuel : Nat) (s : DStore) (a b : Int) (hf : s.bins.size + 2 ≤ fuel) :
    RRel toGen (s.resetBins a b) (Gen.Dense.DenseStore.resetBins fuel (toGen s) a b) :=
  resetBins_rel fuel s a b (Or.inl hf)

/-! ### `shiftCounts`, `centerCounts`, `adjust` -/

theorem shiftCounts_rel (fuel : Nat) (s : DStore) (shift : Int) (hf : s.bins.size + 2 ≤ fuel) :
    Gen.Dense.DenseStore.shiftCounts fuel (toGen s) shift = toRes toGen (s.shiftCounts shift) := by
  unfold Gen.Dense.DenseStore.shiftCounts DStore.shiftCounts
  simp only [decide_eq_true_eq]
  simp only [toGen_offset, toGen_minIndex, toGen_maxIndex, toGen_count, toGen_bins, copyWithin_toList]
  rw [show s.len = (s.bins.size : Int) from rfl, apply_ite (optR · _), apply_ite (toRes toGen)]
  refine if_congr Iff.rfl rfl ?_
  have hsz : ∀ f, ({ s with bins := tabulate s.bins.size f } : DStore).bins.size + 2 ≤ fuel :=
    fun f => by rw [size_tabulate]; exact hf
  rw [optR_some, toGen_mk s.kind s.isCollapsed, apply_ite (Option.map _), apply_ite (toRes toGen)]
  refine if_congr Iff.rfl ?_ ?_ <;>
  · rw [resetBins_rel fuel _ _ _ (Or.inl (hsz _))]
    exact toRes_map _ _ _ _ _ (fun a => rfl)

theorem centerCounts_rel (fuel : Nat) (s : DStore) (a b : Int) (hf : s.bins.size + 2 ≤ fuel) :
    Gen.Dense.DenseStore.centerCounts fuel (toGen s) a b = toRes toGen (s.centerCounts a b) := by
  unfold Gen.Dense.DenseStore.centerCounts DStore.centerCounts
  simp only [toGen_offset, len_toGen]
  rw [shiftCounts_rel fuel s _ hf]
  exact toRes_bind _ _ _ _ _ (fun t => rfl)

theorem denseAdjust_eq_centerCounts (fuel : Nat) (g : GS) (a b : Int) :
    Gen.Dense.DenseStore.adjust fuel g a b = Gen.Dense.DenseStore.centerCounts fuel g a b := by
  unfold Gen.Dense.DenseStore.adjust
  cases Gen.Dense.DenseStore.centerCounts fuel g a b <;> rfl

/-! ### what the model's operations leave alone

The bulk operations replace `bins` by an array of the same size and leave `kind` and `isCollapsed` alone; no operation
changes `kind`. -/

theorem resetBins_frame (s t : DStore) (a b : Int) (h : s.resetBins a b = some t) :
    t.kind = s.kind ∧ t.isCollapsed = s.isCollapsed ∧ t.bins.size = s.bins.size := by
  unfold DStore.resetBins at h
  simp only at h
  by_cases h1 : b - s.offset < a - s.offset
  · rw [if_pos h1] at h; cases h; exact ⟨rfl, rfl, rfl⟩
  · rw [if_neg h1] at h
    by_cases h2 : 0 ≤ a - s.offset ∧ b - s.offset < s.len
    · rw [if_pos h2] at h; cases h; exact ⟨rfl, rfl, Array.size_ofFn⟩
    · rw [if_neg h2] at h; cases h

theorem shiftCounts_frame (s t : DStore) (shift : Int) (h : s.shiftCounts shift = some t) :
    t.kind = s.kind ∧ t.isCollapsed = s.isCollapsed ∧ t.bins.size = s.bins.size := by
  unfold DStore.shiftCounts at h
  obtain ⟨u, hu, rfl⟩ := Option.map_eq_some_iff.mp (Option.ite_none_left_eq_some.mp h).2
  rcases ite_eq_or_eq (shift > 0) _ _ with e | e <;> rw [e] at hu <;>
    exact ⟨(resetBins_frame _ u _ _ hu).1, (resetBins_frame _ u _ _ hu).2.1,
      (resetBins_frame _ u _ _ hu).2.2.trans Array.size_ofFn⟩

theorem centerCounts_frame (s t : DStore) (a b : Int) (h : s.centerCounts a b = some t) :
    t.kind = s.kind ∧ t.isCollapsed = s.isCollapsed ∧ t.bins.size = s.bins.size := by
  obtain ⟨u, hu, h2⟩ := Option.bind_eq_some_iff.mp h
  cases h2
  exact shiftCounts_frame s u _ hu

theorem centerCounts_size (s t : DStore) (a b : Int) (h : s.centerCounts a b = some t) :
    t.bins.size = s.bins.size :=
  (centerCounts_frame s t a b h).2.2

theorem grow_kind (s t : DStore) (k : Int) (h : s.grow k = some t) : t.kind = s.kind := by
  unfold DStore.grow at h
  split at h
  · cases h
  · cases h; rfl

theorem collapseLow_kind (s t : DStore) (nm : Int) (h : s.collapseLow nm = some t) : t.kind = s.kind := by
  unfold DStore.collapseLow at h
  split at h
  · simp only [Option.bind_eq_bind, Option.bind_eq_some_iff, Option.pure_def, Option.some.injEq] at h
    obtain ⟨b, _, rfl⟩ := h; rfl
  · simp only at h
    split at h
    · simp only [Option.bind_eq_bind, Option.bind_eq_some_iff] at h
      obtain ⟨r, _, u, hu, b1, _, h4⟩ := h
      rw [(shiftCounts_frame _ _ _ h4).1]; exact (resetBins_frame _ _ _ _ hu).1
    · simp only [Option.bind_eq_bind, Option.bind_eq_some_iff, Option.pure_def, Option.some.injEq] at h
      obtain ⟨u, hu, rfl⟩ := h
      exact (shiftCounts_frame _ _ _ hu).1

theorem collapseHigh_kind (s t : DStore) (a b : Int) (h : s.collapseHigh a b = some t) : t.kind = s.kind := by
  unfold DStore.collapseHigh at h
  split at h
  · simp only [Option.bind_eq_bind, Option.bind_eq_some_iff, Option.pure_def, Option.some.injEq] at h
    obtain ⟨_, _, rfl⟩ := h
    rfl
  · simp only at h
    split at h
    · simp only [Option.bind_eq_bind, Option.bind_eq_some_iff] at h
      obtain ⟨_, _, u, hu, _, _, h3⟩ := h
      rw [(shiftCounts_frame _ _ _ h3).1]
      exact (resetBins_frame _ _ _ _ hu).1
    · simp only [Option.bind_eq_bind, Option.bind_eq_some_iff, Option.pure_def, Option.some.injEq] at h
      obtain ⟨u, hu, rfl⟩ := h
      exact (shiftCounts_frame _ _ _ hu).1

theorem adjust_kind (s t : DStore) (a b : Int) (h : s.adjust a b = some t) : t.kind = s.kind := by
  unfold DStore.adjust at h
  split at h
  · exact (centerCounts_frame _ _ _ _ h).1
  · split at h
    · obtain ⟨u, hu, h2⟩ := Option.bind_eq_some_iff.1 h
      cases h2
      exact collapseLow_kind s u _ hu
    · exact (centerCounts_frame _ _ _ _ h).1
  · split at h
    · obtain ⟨u, hu, h2⟩ := Option.bind_eq_some_iff.1 h
      cases h2
      exact collapseHigh_kind s u _ _ hu
    · exact (centerCounts_frame _ _ _ _ h).1

theorem extendRange_kind (s t : DStore) (a b : Int) (h : s.extendRange a b = some t) : t.kind = s.kind := by
  unfold DStore.extendRange at h
  by_cases h0 : s.count = 0
  · rw [if_pos h0] at h
    obtain ⟨L, _, h2⟩ := Option.bind_eq_some_iff.1 h
    obtain ⟨u, hu, h3⟩ := Option.bind_eq_some_iff.1 h2
    exact (adjust_kind _ _ _ _ h3).trans (grow_kind s u L hu)
  · rw [if_neg h0] at h
    by_cases hin : min a s.minIndex ≥ s.offset ∧ max b s.maxIndex < s.offset + s.len
    · rw [if_pos hin] at h
      cases h
      rfl
    · rw [if_neg hin] at h
      obtain ⟨L, _, h2⟩ := Option.bind_eq_some_iff.1 h
      by_cases hgt : L > s.len
      · simp only [if_pos hgt] at h2
        obtain ⟨u, hu, h3⟩ := Option.bind_eq_some_iff.1 h2
        exact (adjust_kind _ _ _ _ h3).trans (grow_kind s u _ hu)
      · simp only [if_neg hgt] at h2
        exact adjust_kind s t _ _ h2

theorem normalize_kind (s t : DStore) (i ai : Int) (h : s.normalize i = some (t, ai)) : t.kind = s.kind := by
  -- every branch returns `s` itself, or the result of `extendRange`
  have ext : ∀ k : DStore → Option (DStore × Int), (∀ u p, k u = some p → p.1 = u) →
      (s.extendRange i i).bind k = some (t, ai) → t.kind = s.kind := by
    intro k hk hb
    obtain ⟨u, hu, h2⟩ := Option.bind_eq_some_iff.1 hb
    rw [show t = u from hk u _ h2]
    exact extendRange_kind s u i i hu
  have plain : ∀ (f : DStore → Int) (u : DStore) (p : DStore × Int), some (u, f u) = some p → p.1 = u :=
    fun f u p hp => by cases hp; rfl
  have coll : ∀ (f g : DStore → Int) (u : DStore) (p : DStore × Int),
      (if u.isCollapsed then some (u, f u) else some (u, g u)) = some p → p.1 = u :=
    fun f g u p hp => by split at hp <;> cases hp <;> rfl
  unfold DStore.normalize at h
  split at h
  · split at h
    · exact ext _ (plain _) h
    · cases h; rfl
  · split at h
    · split at h
      · cases h; rfl
      · exact ext _ (coll _ _) h
    · split at h
      · exact ext _ (plain _) h
      · cases h; rfl
  · split at h
    · split at h
      · cases h; rfl
      · exact ext _ (coll _ _) h
    · split at h
      · exact ext _ (plain _) h
      · cases h; rfl

theorem addWithCount_kind (s t : DStore) (i : Int) (c : Rat) (h : s.addWithCount i c = some t) :
    t.kind = s.kind := by
  unfold DStore.addWithCount at h
  split at h
  · cases h; rfl
  · obtain ⟨⟨u, ai⟩, hu, h2⟩ := Option.bind_eq_some_iff.1 h
    obtain ⟨b, _, h3⟩ := Option.bind_eq_some_iff.1 h2
    cases h3
    exact normalize_kind s u i ai hu

theorem mergeSame_kind (s t o : DStore) (h : s.mergeSame o = some t) : t.kind = s.kind := by
  rw [mergeSame_eq] at h
  split at h
  · cases h; rfl
  · obtain ⟨s1, h1, h2⟩ := Option.bind_eq_some_iff.1 h
    obtain ⟨b, _, h3⟩ := Option.bind_eq_some_iff.1 h2
    cases h3
    split at h1
    · exact extendRange_kind s s1 _ _ h1
    · cases h1; rfl

theorem reweight_frame (s t : DStore) (w : Rat) (h : s.reweight w = some t) :
    t.kind = s.kind ∧ t.isCollapsed = s.isCollapsed := by
  unfold DStore.reweight at h
  simp only [Option.bind_eq_bind, Option.bind_eq_some_iff] at h
  obtain ⟨b, _, h2⟩ := h
  cases h2; exact ⟨rfl, rfl⟩

/-! ### `MergeWith` (same-type fast path): what the three generated functions share -/

/-- The frame of a generated same-type `MergeWith`: `E` is its call of `extendRange`, `T` what it does afterwards
    (the text occurs twice, with and without the call).  If `T` computes the model's `mergeFold` on every store of
    the kind of `s` (which `extendRange` keeps), the whole computes `mergeSame` (`DStore.mergeSame_eq`). -/
theorem mergeWith_frame {G : Type} (toG : DStore → G) (s o : DStore) (E : Res G) (T : G → Res G)
    (k : DKind) (hs : s.kind = k) (hE : E = toRes toG (s.extendRange o.minIndex o.maxIndex))
    (hT : ∀ s1, s1.kind = k → T (toG s1) = toRes toG (mergeFold s1 o)) :
    (if o.isEmpty then .ok (toG s)
      else if (decide (o.minIndex < s.minIndex) || decide (s.maxIndex < o.maxIndex)) then E.bind T
      else T (toG s)) = toRes toG (s.mergeSame o) := by
  rw [mergeSame_eq]
  by_cases he : o.isEmpty = true
  · rw [if_pos he, if_pos he]
    rfl
  · rw [if_neg he, if_neg he]
    simp only [Bool.or_eq_true, decide_eq_true_eq]
    by_cases hc : o.minIndex < s.minIndex ∨ s.maxIndex < o.maxIndex
    · rw [if_pos hc, if_pos hc, hE, bind_toRes]
      exact optR_toRes _ _ _ _ fun s1 h1 => hT s1 ((extendRange_kind s s1 _ _ h1).trans hs)
    · rw [if_neg hc, if_neg hc]
      exact hT s hs

end DDS.GenDense

namespace DDS.GenCollapsing

open DDS DDS.GoSem DDS.DStore DDS.GenDense

/-! ### the summing fold of the collapsing `adjust` -/

/-- one step of the model's `sumRange` fold -/
def sumStep (s : DStore) (acc : Rat) (idx : Int) : Option Rat := (rd s.bins (idx - s.offset)).map (acc + ·)

theorem sumRange_eq (s : DStore) (lo hi : Int) :
    s.sumRange lo hi = (irange lo (hi - lo + 1).toNat).foldlM (sumStep s) 0 := rfl

/-- a sum over more consecutive indexes than the array has cells fails -/
theorem sumFold_none (s : DStore) (k : Nat) : ∀ (acc : Rat) (i : Int),
    (0 ≤ i - s.offset → (s.bins.size : Int) < i - s.offset + k) → 0 < k →
    (irange i k).foldlM (sumStep s) acc = none := by
  induction k with
  | zero => intro _ _ _ h; cases h
  | succ k ih =>
    intro acc i h _
    rw [irange_succ_left, List.foldlM_cons, sumStep]
    by_cases hin : 0 ≤ i - s.offset ∧ i - s.offset < s.bins.size
    · rw [rd_eq _ _ hin]
      exact ih _ (i + 1) (by omega) (by omega)
    · rw [rd_none _ _ hin]
      rfl

end DDS.GenCollapsing
