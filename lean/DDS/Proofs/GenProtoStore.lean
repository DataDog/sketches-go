/-
  DDS.Proofs.GenProtoStore — the REGENERATED protobuf conversions of the stores (`DDS/Generated/CodeDenseProto.lean`,
  `CodeSparseProto.lean`, `CodePaginatedProto.lean`, `CodeStoreProto.lean`, `CodeDenseFromProto.lean`; messages mirrored
  in `DDS/Model/GoPb.lean`) against the hand-written model (`DDS/Model/Proto.lean`).

  EMBEDDING.  The regenerated store units keep exact weights (`GoPb.Store Rat`), the model's abstract message `PbStore`
  keeps binary64 bit patterns; `pbOfGo : GoPb.Store Rat → PbStore` (weights through `ratBits`, the `int32` offset as
  its value) is the abstraction, `toF64` turns an exact message into the float message the generic `MergeWithProto`
  reads.  `wrap32 i` is Go's `int32(i)` (`= i.bmod 2^32`, `= i` for an int32 — `wrap32_of_I32 / _of_Idx32`).

  §1 `ToProto`
     dense      `dense_toProto` (store empty or `minIndex ≤ maxIndex`; no loop, any fuel): `= toRes id (denseMsg s)` —
                the window read as ONE slice expression is the model's index-by-index read (`slice_eq_mapM`), panic
                exactly where the model panics; `denseMsg_model` (`pbOfGo` of it = `storeToProto (.d s)` with the
                offset through `wrap32`), `denseMsg_model32` / `dense_toProto_model` (= the model's message under
                `StoreKeys32`), side conditions from `DStore.Inv` (`dense_side_of_inv`, `dense_keys32_of_inv`).
     maps       `msetFrom acc l`: the map after `binCounts[int32(i)] = c` for the bins of `l`.  Order independence:
                `msetFrom_of_perm` (distinct keys written in any order give the sorted content).
     paginated  `pag_toProto` (EVERY store and capacity, NO invariant, fuel `len(buffer) + 1`): empty store ↦ the empty
                message and the store untouched; otherwise `(toGen s.sortRead cap, sparseMsg (msetFrom [] s.binsList))`,
                the store with its buffer sorted and the map `binCounts[int32(i)] = c` over the model's bins.
                `pag_toProto_model`: bins key-sorted with int32 keys (true under `PStore.Inv`, `pag_side_of_inv`) ⟹ the
                map IS the list of bins and `pbOfGo` of the message is `storeToProto (.pg s)`.
     sparse     `sparse_toProto` (every store, oracle, fuel), `sparse_toProto_model` (`RepS`, EVERY lawful order,
                int32 keys): the message is `sparseMsg c`, abstraction `storeToProto (.sp c)`.
  §2–5 `MergeWithProto`
     generic (§2)  `mergeWithProto_eq_fold` (EVERY implementation `S`, receiver, message, oracle, fuel):
                `= .ok (addAll store (msgCalls ord pb))`, the fold of `AddWithCount` over the calls of the message (map
                entries in the oracle's order with `int32` keys, then contiguous count number `k` at `k + offset`);
                `addAll_rel` (parametricity).
     `FromProto` (§3)  `fromProto_eq`: `FromProto = .ok (addAll NewDenseStore calls)`;
                `dense_fromProto_sim`: with an instance running the regenerated dense `AddWithCount` the result is the
                image of the model's dense store built by the same merge.
     on the model's stores (§4; `instance : StoreI Store`), ANY kind, EVERY oracle: `mergeWithProto_good_store` — good
                receiver holding `clamp E`, finite weights `≥ 0`, int32 indexes unless the weight is 0 ⟹ never panics,
                good store of the same kind holding `clamp (E.merge (msgBins ord pb))`.  The bins ADD UP (C09):
                `lookup_msgBins`, `lookup_merge_msgBins` (map entries + contiguous counts, index by index, any lawful
                order), `merge_order_irrelevant` (the merged content does not depend on the oracle: the order only
                permutes adds, `sparseBins_perm`).
     paginated (§5)  `pag_mergeWithProto_eq` (every store/message/oracle/fuel): `= gAdds …` the regenerated
                `AddWithCount` on the calls; `gAdds_inv`, `pag_mergeWithProto` (`Inv`, weights `≥ 0`, int32 indexes,
                fuel `pagFuel s calls` — the maximum of `GenPag.addFuel` over the stores reachable under either value
                of the compaction bit `len == cap`, hidden runtime state; a function of store and calls): never a
                panic, never out of fuel, result `toGen s' cap'`, `Inv s'`, `content s' = (content s).merge calls`.
  §6–7 Reading back what `ToProto` wrote: the calls of its message are the content (`msgCalls_sparseMsg`,
     `msgCalls_emptyMsg`); `toF64` hands an exact message to the generic `MergeWithProto`, and `consumer_roundtrip`
     merges it into a new store of ANY kind.  Used by `DDS/Props/C09GenStore.lean`.

  DIFFERENCES FOUND (kernel-checked, none reachable under the store invariants)
  * `invertedEx_gen / _model`: a non-empty dense store with `maxIndex < minIndex - 1`: Go's `make` panics on the
    negative length, the model reads an empty window and answers.  Hence the hypothesis of `dense_toProto`.
  * `wrapEx_gen / _model`: the dense offset goes through `int32` (`2^31 ↦ -2^31`), the model's message keeps the
    unbounded index; `sparse_wrap_example`: `{0 ↦ 1, 2^32 ↦ 2}` travels as `{0 ↦ 2}` (keys collide after the wrap).
    Under int32 indexes (all store invariants) there is no wrap.
  * zero-weight bins of a message are no-ops on both sides; negative weights are outside the model's contract
    (`BinsOK`), non-finite weights are ignored by `instance : StoreI Store` and excluded by `Finite`.
  The link to the model's `Proto.mergeWithProto` on the bit-pattern message (ascending oracle, floats surviving
  `toBits / ofBits`) is `GenProtoSketch.MergeWithProto_model`, next to the projection `pbStoreOfGo`.
  NOT DONE: dense → dense round trip through the window's zero bins (only the lookup-form `consumer_roundtrip` is
  provided).
-/
import DDS.Generated.CodeDenseProto
import DDS.Generated.CodeSparseProto
import DDS.Generated.CodePaginatedProto
import DDS.Generated.CodeStoreProto
import DDS.Generated.CodeDenseFromProto
import DDS.Proofs.GenForEach
import DDS.Proofs.GenDecodeWrap
import DDS.Proofs.GenPagAdd
import DDS.Proofs.Proto
import DDS.Proofs.Lift3

set_option linter.unusedVariables false

namespace DDS.GenProtoStore

open DDS DDS.GoSem DDS.Proto

/-! ## 0. `int32(index)` -/

/-- Go's `int32(i)` read back as an `int`: the value after the wrapping conversion -/
def wrap32 (i : Int) : Int := (BitVec.ofInt 32 i).toInt

theorem wrap32_eq_bmod (i : Int) : wrap32 i = i.bmod (2 ^ 32) := by
  unfold wrap32; rw [BitVec.toInt_ofInt]

theorem wrap32_of_I32 (i : Int) (h : I32 i) : wrap32 i = i := by
  rw [wrap32_eq_bmod]
  unfold I32 at h
  apply Int.bmod_eq_of_le <;> omega

theorem I32_of_Idx32 {i : Int} (h : PStore.Idx32 i) : I32 i := by
  unfold PStore.Idx32 minInt32 maxInt32 at h
  unfold I32
  omega

theorem wrap32_of_Idx32 (i : Int) (h : PStore.Idx32 i) : wrap32 i = i := wrap32_of_I32 i (I32_of_Idx32 h)

/-- the wrap is real: `int32(2^31) = -2^31` -/
example : wrap32 (2 ^ 31) = -2 ^ 31 := by decide

theorem toInt_I32 (b : BitVec 32) : I32 b.toInt := by
  unfold I32
  have := BitVec.toInt_lt (x := b)
  have := BitVec.le_toInt (x := b)
  omega

/-! ## 1. `ToProto`: the embedding of messages -/

/-- the regenerated message (exact weights) ↦ the model's abstract message (weights as binary64 bit patterns, the
    `int32` offset as its value) -/
def pbOfGo (m : GoPb.Store Rat) : PbStore :=
  { binCounts := m.BinCounts.map (fun p => (p.1, ratBits p.2)),
    contiguous := m.ContiguousBinCounts.map ratBits,
    contiguousOffset := m.ContiguousBinIndexOffset.toInt }

def emptyMsg : GoPb.Store Rat := { BinCounts := [], ContiguousBinCounts := [], ContiguousBinIndexOffset := 0#32 }

theorem pbOfGo_empty : pbOfGo emptyMsg = {} := rfl

def sparseMsg (m : GoMap Rat) : GoPb.Store Rat :=
  { BinCounts := m, ContiguousBinCounts := [], ContiguousBinIndexOffset := 0#32 }

/-! ### 1a. the dense store -/

section dense
open DDS.DStore DDS.GenDense

theorem mapM_none_of_mem {α β : Type} (f : α → Option β) (l : List α) (x : α) (hx : x ∈ l) (hf : f x = none) :
    l.mapM f = none := by
  induction l with
  | nil => cases hx
  | cons y l ih =>
    rw [List.mapM_cons]
    rcases List.mem_cons.1 hx with rfl | h
    · rw [hf]; rfl
    · cases f y with
      | none => rfl
      | some b => rw [ih h]; rfl

theorem rd_natCast (a : Array Rat) (k : Nat) : rd a (k : Int) = if h : k < a.size then some a[k] else none := by
  unfold rd
  by_cases h : k < a.size
  · rw [if_pos ⟨Int.natCast_nonneg k, Int.ofNat_lt.2 h⟩, dif_pos h, Int.toNat_natCast, Array.getD, dif_pos h]
    rfl
  · rw [if_neg (fun h' => h (Int.ofNat_lt.1 h'.2)), dif_neg h]

theorem rd_neg (a : Array Rat) (i : Int) (h : i < 0) : rd a i = none := if_neg (fun h' => Int.not_lt.2 h'.1 h)

theorem mapM_irange_some (a : Array Rat) (off : Int) (n : Nat) : ∀ k : Nat, k + n ≤ a.size →
    (irange (k + off) n).mapM (fun i => rd a (i - off)) = some ((a.toList.drop k).take n) := by
  induction n with
  | zero => intros; rfl
  | succ n ih =>
    intro k h
    have hk : k < a.size := Nat.lt_of_lt_of_le (Nat.lt_add_of_pos_right (Nat.succ_pos n)) h
    have ih := ih (k + 1) (by rw [Nat.add_assoc, Nat.add_comm 1]; exact h)
    rw [Int.natCast_add, Int.natCast_one, Int.add_right_comm] at ih
    rw [List.drop_eq_getElem_cons (by rw [Array.length_toList]; exact hk), irange_succ_left, List.mapM_cons,
      Int.add_sub_cancel, rd_natCast, dif_pos hk, ih]
    rfl

theorem mem_irange (lo : Int) (n : Nat) (k : Nat) (hk : k < n) : lo + (k : Int) ∈ irange lo n :=
  List.mem_map.2 ⟨k, List.mem_range.2 hk, rfl⟩

/-- the window `lo .. lo + w` read as one slice expression = the window read index by index: with `lo - off = k`
    a natural number both are the `w + 1` elements from position `k`, or nothing if the array ends before; a
    negative `lo - off` is refused by the slice bounds and by the first read -/
theorem slice_eq_mapM (a : Array Rat) (off lo : Int) (w : Nat) :
    GoSem.slice a.toList (lo - off) (lo + w - off + 1)
      = (idxRange lo (lo + w)).mapM (fun i => rd a (i - off)) := by
  obtain ⟨L, rfl⟩ : ∃ L, lo = L + off := ⟨lo - off, (Int.sub_add_cancel ..).symm⟩
  rw [idxRange_eq, add_sub_cancel_left, Int.toNat_natCast_add_one, Int.add_sub_cancel, Int.add_right_comm,
    Int.add_sub_cancel, Int.add_assoc, ← Int.natCast_succ]
  by_cases hL : 0 ≤ L
  · obtain ⟨k, rfl⟩ := Int.eq_ofNat_of_zero_le hL
    rw [← Int.natCast_add, slice_natCast, Array.length_toList]
    by_cases h : k + (w + 1) ≤ a.size
    · rw [if_pos h, mapM_irange_some a off (w + 1) k h]
    · rw [if_neg h]
      refine (mapM_none_of_mem _ _ _ (mem_irange _ (w + 1) w (Nat.lt_succ_self w)) ?_).symm
      rw [Int.add_right_comm, Int.add_sub_cancel, ← Int.natCast_add, rd_natCast,
        dif_neg (show ¬ k + w < a.size from h)]
  · have hL := Int.not_le.1 hL
    rw [GoSem.slice, if_pos (Or.inl hL), irange_succ_left, List.mapM_cons, Int.add_sub_cancel, rd_neg a L hL]
    rfl

/-- the message of a dense model store with exact weights: the window `minIndex..maxIndex` read index by index
    (`none` = an index outside the array, a Go panic), the offset through `int32` -/
def denseMsg (s : DStore) : Option (GoPb.Store Rat) :=
  if s.isEmpty then some emptyMsg
  else ((idxRange s.minIndex s.maxIndex).mapM (fun i => rd s.bins (i - s.offset))).map
    (fun cs => { BinCounts := [], ContiguousBinCounts := cs, ContiguousBinIndexOffset := BitVec.ofInt 32 s.minIndex })

/-- MAIN (dense `ToProto`; every store that is empty or has `minIndex ≤ maxIndex`, any fuel — no loop): the
    regenerated function builds the model's message, panics exactly where the model does -/
theorem dense_toProto (s : DStore) (fuel : Nat) (h : s.isEmpty = true ∨ s.minIndex ≤ s.maxIndex) :
    Gen.DenseProto.DenseStore.ToProto fuel (toGen s) = toRes id (denseMsg s) := by
  unfold Gen.DenseProto.DenseStore.ToProto denseMsg
  rw [isEmpty_eq]
  by_cases he : s.isEmpty = true
  · rw [if_pos he, if_pos he]; rfl
  · obtain ⟨w, hw⟩ := Int.le.dest (h.resolve_left he)
    rw [if_neg he, if_neg he, toGen_minIndex, toGen_maxIndex, toGen_offset, toGen_bins, ← hw, slice_eq_mapM,
      add_sub_cancel_left, GoSem.mkSlice, if_neg (Int.not_lt.2 (Int.le_add_one (Int.natCast_nonneg w))),
      Int.toNat_natCast_add_one]
    cases hm : (idxRange s.minIndex (s.minIndex + w)).mapM (fun i => rd s.bins (i - s.offset)) with
    | none => rfl
    | some cs =>
      -- `make` gives `w + 1` zeros and the window has `w + 1` counts: `copy` replaces them all
      have hl := mapM_length _ _ _ hm
      rw [idxRange, add_sub_cancel_left, List.length_map, List.length_range, Int.toNat_natCast_add_one] at hl
      rw [← hl, optR_some, optR_some, copySlice_replicate]
      rfl

/-- an abstract message with its offset passed through `int32` -/
def wrapOffset (m : PbStore) : PbStore := { m with contiguousOffset := wrap32 m.contiguousOffset }

/-- the exact message, abstracted, is the model's `storeToProto` — up to the `int32(minIndex)` wrap -/
theorem denseMsg_model (s : DStore) : (denseMsg s).map pbOfGo = (storeToProto (.d s)).map wrapOffset := by
  rw [denseMsg, storeToProto]
  cases s.isEmpty
  · cases (idxRange s.minIndex s.maxIndex).mapM (fun i => rd s.bins (i - s.offset)) <;> rfl
  · rfl

/-- … and exactly the model's message when `minIndex` is an `int32` (`StoreKeys32`, which the store invariant
    `Inv` + `Bounded32` gives) -/
theorem denseMsg_model32 (s : DStore) (h32 : StoreKeys32 (.d s)) :
    (denseMsg s).map pbOfGo = storeToProto (.d s) := by
  rw [denseMsg_model, storeToProto]
  cases he : s.isEmpty
  · cases (idxRange s.minIndex s.maxIndex).mapM (fun i => rd s.bins (i - s.offset)) with
    | none => rfl
    | some cs =>
      show some (wrapOffset { contiguous := cs.map ratBits, contiguousOffset := s.minIndex }) = _
      rw [wrapOffset, wrap32_of_I32 _ (h32 he)]
      rfl
  · rfl

/-- COROLLARY: where the model builds `pb`, the regenerated `ToProto` returns a message whose abstraction is `pb`;
    where the model panics, so does the regenerated code -/
theorem dense_toProto_model (s : DStore) (fuel : Nat) (h : s.isEmpty = true ∨ s.minIndex ≤ s.maxIndex)
    (h32 : StoreKeys32 (.d s)) :
    match storeToProto (.d s) with
    | some pb => ∃ m, Gen.DenseProto.DenseStore.ToProto fuel (toGen s) = .ok m ∧ pbOfGo m = pb ∧ m.BinCounts = []
    | none => Gen.DenseProto.DenseStore.ToProto fuel (toGen s) = .panic := by
  rw [dense_toProto s fuel h, ← denseMsg_model32 s h32]
  unfold denseMsg
  cases s.isEmpty
  · cases (idxRange s.minIndex s.maxIndex).mapM (fun i => rd s.bins (i - s.offset)) with
    | none => rfl
    | some cs => exact ⟨_, rfl, rfl, rfl⟩
  · exact ⟨_, rfl, rfl, rfl⟩

/-- under the store invariant the side conditions hold -/
theorem dense_side_of_inv (s : DStore) (h : DStore.Inv s) : s.isEmpty = true ∨ s.minIndex ≤ s.maxIndex := by
  by_cases h0 : s.count = 0
  · left; unfold DStore.isEmpty; simp [h0]
  · right; exact (h.window h0).2.1

theorem dense_keys32_of_inv (s : DStore) (h : DStore.Inv s) (hb : DStore.Bounded32 s) : StoreKeys32 (.d s) := by
  intro _
  have := h.core.window32 (h.tight32 hb)
  unfold minInt32 maxInt32 at this
  unfold I32
  omega

/-- DISAGREEMENT (not reachable under `Inv`): a non-empty store whose window is inverted (`maxIndex < minIndex - 1`):
    Go's `make([]float64, maxIndex-minIndex+1)` panics on the negative length, the model reads an empty window -/
def invertedEx : DStore :=
  { kind := .plain, bins := #[1], count := 1, offset := 0, minIndex := 2, maxIndex := 0, isCollapsed := false }

theorem invertedEx_gen : Gen.DenseProto.DenseStore.ToProto 0 (toGen invertedEx) = .panic := by rfl
theorem invertedEx_model : storeToProto (.d invertedEx) = some { contiguous := [], contiguousOffset := 2 } := by
  decide +kernel

/-- the `int32` wrap of the offset, stated: a (non-invariant) store whose window starts at `2^31` -/
def wrapEx : DStore :=
  { kind := .plain, bins := #[1], count := 1, offset := 2 ^ 31, minIndex := 2 ^ 31, maxIndex := 2 ^ 31,
    isCollapsed := false }

theorem wrapEx_gen : Gen.DenseProto.DenseStore.ToProto 0 (toGen wrapEx)
    = .ok { BinCounts := [], ContiguousBinCounts := [1], ContiguousBinIndexOffset := BitVec.ofInt 32 (-2 ^ 31) } := by
  rfl
theorem wrapEx_model : (storeToProto (.d wrapEx)).map (·.contiguousOffset) = some (2 ^ 31) := by decide +kernel

end dense

/-! ### 1b. maps built by `binCounts[int32(index)] = count` -/

section msets
open DDS.GenSparse

/-- the map after `binCounts[int32(index)] = count` for each bin of `l`, starting from `acc` -/
def msetFrom (acc : GoMap Rat) (l : List (Int × Rat)) : GoMap Rat :=
  l.foldl (fun m p => mset m (wrap32 p.1) p.2) acc

theorem msetFrom_nil (acc : GoMap Rat) : msetFrom acc [] = acc := rfl
theorem msetFrom_cons (acc : GoMap Rat) (p : Int × Rat) (l : List (Int × Rat)) :
    msetFrom acc (p :: l) = msetFrom (mset acc (wrap32 p.1) p.2) l := rfl

/-- the bins of a key-sorted content with `int32` keys (no wrap), written in ANY order, give the content itself
    (`GenSparse.foldl_mset_of_perm`) -/
theorem msetFrom_of_perm (c : Content) (hs : c.Sorted) (hk : ∀ p ∈ c, I32 p.1) (l : List (Int × Rat))
    (hp : l.Perm c) : msetFrom [] l = c := by
  have h : ∀ (l : List (Int × Rat)) (acc : GoMap Rat), (∀ p ∈ l, I32 p.1) →
      msetFrom acc l = l.foldl (fun m p => mset m p.1 p.2) acc := by
    intro l
    induction l with
    | nil => exact fun _ _ => rfl
    | cons p rest ih =>
      intro acc hl
      rw [msetFrom_cons, wrap32_of_I32 _ (hl p (List.mem_cons_self ..))]
      exact ih _ fun q hq => hl q (List.mem_cons_of_mem _ hq)
  rw [h l [] fun p hp' => hk p (hp.mem_iff.1 hp')]
  exact foldl_mset_of_perm hs hp

end msets

/-! ### 1c. the paginated store -/

section pag
open DDS.GenPag DDS.GenForEach DDS.Gen.PaginatedProto DDS.Gen.PaginatedIter

/-- MAIN (paginated `ToProto`; every store, capacity; NO invariant; fuel `forEachFuel s = len(buffer) + 1`): an empty
    store gives the empty message and is returned untouched; otherwise the map holds `binCounts[int32(i)] = c` for
    the model's bins in increasing order, and the store comes back with its buffer sorted -/
theorem pag_toProto (s : PStore) (cap : Int) (fuel : Nat) (hf : forEachFuel s ≤ fuel) :
    BufferedPaginatedStore.ToProto fuel (toGen s cap)
      = if s.isEmpty then .ok (toGen s cap, emptyMsg)
        else .ok (toGen s.sortRead cap, sparseMsg (msetFrom [] s.binsList)) := by
  unfold BufferedPaginatedStore.ToProto
  rw [isEmpty_spec, Res.bind_ok]
  by_cases he : s.isEmpty = true
  · rw [if_pos he, if_pos he]; rfl
  · rw [if_neg he, if_neg he]
    have h := pag_forEach_eq_visitS s cap ([] : GoMap Rat)
      (fun st i c => .ok (mset st (wrap32 i) c, false)) fuel hf
    have h' := visitS_total (fun (st : GoMap Rat) i c => mset st (wrap32 i) c) s.binsList []
    rw [h'] at h
    dsimp only
    exact (congrArg (fun r => Res.bind r _) h).trans rfl

/-- on a store whose bins are key-sorted with `int32` keys (true under `PStore.Inv`: `pag_side_of_inv`) the map is the
    list of the model's bins, and the abstraction of the message is the model's `storeToProto` -/
theorem pag_toProto_model (s : PStore) (cap : Int) (fuel : Nat) (hf : forEachFuel s ≤ fuel)
    (hs : Content.Sorted s.binsList) (h32 : ∀ p ∈ s.binsList, I32 p.1) :
    ∃ m, BufferedPaginatedStore.ToProto fuel (toGen s cap)
        = .ok (toGen (if s.isEmpty then s else s.sortRead) cap, m) ∧
      m = (if s.isEmpty then emptyMsg else sparseMsg s.binsList) ∧
      some (pbOfGo m) = storeToProto (.pg s) := by
  rw [pag_toProto s cap fuel hf, msetFrom_of_perm s.binsList hs h32 s.binsList (List.Perm.refl _), storeToProto]
  cases s.isEmpty <;> exact ⟨_, rfl, rfl, rfl⟩

theorem pag_side_of_inv (s : PStore) (h : PStore.Inv s) :
    Content.Sorted s.binsList ∧ ∀ p ∈ s.binsList, I32 p.1 :=
  ⟨(PStore.content_wf s h).1, fun p hp => I32_of_Idx32 (Lift.pag_keys32 s h p hp)⟩

end pag

/-! ### 1d. the sparse store -/

section sparse
open DDS.GenSparse DDS.Gen.Sparse DDS.Gen.SparseProto

theorem sparse_loop1 (l : List (Int × Rat)) : ∀ acc : GoMap Rat,
    SparseStore.ToProto.loop1 l acc = .done (msetFrom acc l) := by
  induction l with
  | nil => intro acc; rfl
  | cons p l ih =>
    intro acc
    obtain ⟨i, c⟩ := p
    unfold SparseStore.ToProto.loop1
    exact ih _

/-- sparse `ToProto` (every store, oracle, fuel): `binCounts[int32(i)] = c` for the entries in the oracle's order -/
theorem sparse_toProto (fuel : Nat) (ord : MapOrder) (g : SparseStore) :
    SparseStore.ToProto fuel ord g = .ok (sparseMsg (msetFrom [] (mrange ord g.counts))) := by
  unfold SparseStore.ToProto
  dsimp only
  rw [sparse_loop1]; rfl

/-- MAIN (sparse `ToProto`, EVERY lawful order): with `int32` keys the map of the message is the content itself, and
    its abstraction is the model's `storeToProto` -/
theorem sparse_toProto_model {g : SparseStore} {c : Content} (h : RepS g c) (fuel : Nat) (ord : MapOrder)
    (hl : ord.Lawful) (h32 : ∀ p ∈ c, I32 p.1) :
    SparseStore.ToProto fuel ord g = .ok (sparseMsg c) ∧ some (pbOfGo (sparseMsg c)) = storeToProto (.sp c) := by
  refine ⟨?_, rfl⟩
  rw [sparse_toProto, h.1, msetFrom_of_perm c h.2 h32 _ (mrange_perm ord hl c h.2)]

/-- without `int32` keys the wrap merges entries: `{0 ↦ 1, 2^32 ↦ 2}` travels as `{0 ↦ 2}` -/
theorem sparse_wrap_example :
    SparseStore.ToProto 0 MapOrder.ascending ⟨[(0, 1), (2 ^ 32, 2)]⟩ = .ok (sparseMsg [(0, 2)]) := by rfl

end sparse

/-! ## 2. `store.MergeWithProto` (generic) is the fold of `AddWithCount` over the calls of the message -/

/-- the calls `AddWithCount(index, count)` a `Store` message stands for: the `BinCounts` entries in the order the
    oracle enumerates the map (keys through `int32`), then the contiguous counts from the offset on -/
def msgCalls {F : Type} (ord : MapOrder) (pb : GoPb.Store F) : List (Int × F) :=
  (mrange ord pb.BinCounts).map (fun p => (wrap32 p.1, p.2)) ++
    pb.ContiguousBinCounts.zipIdx.map (fun cv => ((cv.2 : Int) + pb.ContiguousBinIndexOffset.toInt, cv.1))

section generic
variable {S : Type} [StoreI S]

def addAll (s : S) (calls : List (Int × F64)) : S := calls.foldl (fun s p => StoreI.AddWithCount s p.1 p.2) s

@[simp] theorem addAll_nil (s : S) : addAll s [] = s := rfl
theorem addAll_cons (s : S) (p : Int × F64) (l : List (Int × F64)) :
    addAll s (p :: l) = addAll (StoreI.AddWithCount s p.1 p.2) l := rfl
theorem addAll_append (s : S) (a b : List (Int × F64)) : addAll s (a ++ b) = addAll (addAll s a) b := by
  unfold addAll; rw [List.foldl_append]

open DDS.Gen.StoreProto in
theorem gen_loop2 (l : List (Int × F64)) : ∀ store : S,
    MergeWithProto.loop2 l store = .done (addAll store (l.map (fun p => (wrap32 p.1, p.2)))) := by
  induction l with
  | nil => intro store; rfl
  | cons p l ih =>
    intro store
    obtain ⟨i, c⟩ := p
    unfold MergeWithProto.loop2
    exact ih _

open DDS.Gen.StoreProto in
theorem gen_loop1 (pb : GoPb.Store F64) (l : List F64) : ∀ (k : Nat) (store : S),
    MergeWithProto.loop1 pb l (k : Int) store
      = .done (addAll store ((l.zipIdx k).map
          (fun cv => ((cv.2 : Int) + pb.ContiguousBinIndexOffset.toInt, cv.1)))) := by
  induction l with
  | nil => intro k store; rfl
  | cons c l ih =>
    intro k store
    unfold MergeWithProto.loop1
    have := ih (k + 1) (StoreI.AddWithCount store ((k : Int) + pb.ContiguousBinIndexOffset.toInt) c)
    rw [Int.natCast_add] at this
    exact this

/-- MAIN (generic `MergeWithProto`; every implementation `S` of `store.Store`, every receiver, message, oracle and
    fuel — the two loops are structural): the receiver after the calls of the message -/
theorem mergeWithProto_eq_fold (fuel : Nat) (ord : MapOrder) (store : S) (pb : GoPb.Store F64) :
    Gen.StoreProto.MergeWithProto fuel ord store pb = .ok (addAll store (msgCalls ord pb)) := by
  unfold Gen.StoreProto.MergeWithProto msgCalls
  rw [gen_loop2, Loop.elim_done]
  have := gen_loop1 pb pb.ContiguousBinCounts 0 (addAll store ((mrange ord pb.BinCounts).map (fun p => (wrap32 p.1, p.2))))
  rw [Int.natCast_zero] at this
  rw [this, Loop.elim_done, addAll_append]

end generic

/-- parametricity: a relation kept by `AddWithCount` is kept by `MergeWithProto` -/
theorem addAll_rel {S T : Type} [StoreI S] [StoreI T] (R : S → T → Prop)
    (hstep : ∀ s t i c, R s t → R (StoreI.AddWithCount s i c) (StoreI.AddWithCount t i c))
    (l : List (Int × F64)) : ∀ s t, R s t → R (addAll s l) (addAll t l) := by
  induction l with
  | nil => intro s t h; exact h
  | cons p l ih => intro s t h; exact ih _ _ (hstep s t p.1 p.2 h)

/-! ## 3. `FromProto` on the regenerated dense store -/

section denseFrom
open DDS.GenDense DDS.GenDecodeWrap

/-- `FromProto` = a new dense store, then `MergeWithProto` (for whatever instance the binder receives) -/
theorem fromProto_eq (I : StoreI Gen.Dense.DenseStore) (fuel : Nat) (ord : MapOrder) (pb : GoPb.Store F64) :
    @Gen.DenseFromProto.FromProto I fuel ord pb
      = .ok (@addAll _ I Gen.Dense.NewDenseStore (msgCalls ord pb)) := by
  unfold Gen.DenseFromProto.FromProto
  dsimp only
  rw [mergeWithProto_eq_fold]; rfl

/-- `FromProto` with any instance whose `AddWithCount` runs the regenerated dense `AddWithCount` (`DenseAdds`, e.g.
    `GenDecodeWrap.denseI`): the result is the image of the plain dense model store that the generic `MergeWithProto`
    builds from `Store.new .dense` on the model side — every message, oracle, fuel -/
theorem dense_fromProto_sim (I : StoreI GS) (hI : DenseAdds I) (fuel : Nat) (ord : MapOrder) (pb : GoPb.Store F64) :
    ∃ d : DStore, @Gen.DenseFromProto.FromProto I fuel ord pb = .ok (toGen d) ∧ d.kind = .plain ∧
      Gen.StoreProto.MergeWithProto fuel ord (Store.new .dense) pb = .ok (.d d) := by
  have h0 : DRel Gen.Dense.NewDenseStore (Store.new .dense) := ⟨DStore.new .plain, newDenseStore_eq', rfl, rfl⟩
  have h := @addAll_rel GS Store I _ DRel
    (fun g st i c hr => drel_step I hI g st (i, some c) hr) (msgCalls ord pb) _ _ h0
  obtain ⟨d, h1, h2, h3⟩ := h
  refine ⟨d, ?_, h3, ?_⟩
  · rw [fromProto_eq, h1]
  · rw [mergeWithProto_eq_fold, h2]

end denseFrom

/-! ## 4. `MergeWithProto` on the model's stores: contents add up, for every lawful order -/

section model
open DDS.Lift DDS.GenSketch

/-- on the model's stores (`instance : StoreI Store`) the fold of `AddWithCount` is the model's `addBins` wherever
    that does not panic -/
theorem addAll_of_addBins (calls : List (Int × F64)) : ∀ (st st' : Store),
    Sketch.addBins st calls = some st' → addAll st calls = st' := by
  induction calls with
  | nil => intro st st' h; exact Option.some.inj h
  | cons p rest ih =>
    intro st st' h
    rw [Sketch.addBins] at h
    cases ha : Sketch.addF st p.1 p.2 with
    | none => rw [ha] at h; cases h
    | some st1 =>
      rw [ha] at h
      rw [addAll_cons, store_addF_some st st1 p.1 p.2 ha]
      exact ih st1 st' h

/-- the rational bins a message stands for (a non-finite weight reads 0; see `Finite`) -/
def msgBins (ord : MapOrder) (pb : GoPb.Store F64) : List (Int × Rat) :=
  (msgCalls ord pb).map (fun p => (p.1, (ratOfF64 p.2).getD 0))

def Finite (pb : GoPb.Store F64) : Prop :=
  (∀ p ∈ pb.BinCounts, ∃ q : Rat, p.2 = .fin q) ∧ (∀ c ∈ pb.ContiguousBinCounts, ∃ q : Rat, c = .fin q)

theorem msgCalls_fin (ord : MapOrder) (pb : GoPb.Store F64) (hfin : Finite pb) :
    ∀ p ∈ msgCalls ord pb, ∃ q : Rat, p.2 = .fin q := by
  intro p hp
  unfold msgCalls at hp
  rcases List.mem_append.1 hp with h | h
  · obtain ⟨x, hx, rfl⟩ := List.mem_map.1 h
    obtain ⟨y, hy, hxy⟩ := mem_mrange ord _ x hx
    obtain ⟨q, hq⟩ := hfin.1 y hy
    exact ⟨q, by rw [← hxy, hq]⟩
  · obtain ⟨cv, hcv, rfl⟩ := List.mem_map.1 h
    exact hfin.2 cv.1 (List.fst_mem_of_mem_zipIdx hcv)

theorem msgCalls_finBins (ord : MapOrder) (pb : GoPb.Store F64) (hfin : Finite pb) :
    msgCalls ord pb = RoundTrip.finBins (msgBins ord pb) := by
  unfold msgBins RoundTrip.finBins
  rw [List.map_map]
  symm
  refine (List.map_congr_left ?_).trans (List.map_id _)
  intro p hp
  obtain ⟨q, hq⟩ := msgCalls_fin ord pb hfin p hp
  obtain ⟨i, c⟩ := p
  simp only at hq
  subst hq
  rfl

/-- MAIN (generic `MergeWithProto` on the model's stores, ANY kind, EVERY oracle, any fuel).  The receiver is a good
    store holding the clamped form of the exact content `E` (`E = contentOf st` for the unbounded kinds); the message
    has finite weights `≥ 0` and `int32` indexes (`BinsOK`: any index for a zero weight).  Then the merge never panics,
    keeps the store good and of its kind, and the store holds `clamp (E.merge bins)`: the message's bins added up -/
theorem mergeWithProto_good_store (fuel : Nat) (ord : MapOrder) (st : Store) (hg : Good st)
    (E : Content) (hE : E.WF) (hcE : contentOf st = st.clamp.apply E) (pb : GoPb.Store F64) (hfin : Finite pb)
    (hok : BinsOK (msgBins ord pb)) :
    ∃ st', Gen.StoreProto.MergeWithProto fuel ord st pb = .ok st' ∧ Good st' ∧ st'.kind = st.kind ∧
      contentOf st' = st.clamp.apply (E.merge (msgBins ord pb)) := by
  obtain ⟨st', a1, a2, a3, a4⟩ := addList_good (msgBins ord pb) hok st hg E hE hcE
  refine ⟨st', ?_, a2, a3, a4⟩
  rw [← addBins_finBins] at a1
  rw [mergeWithProto_eq_fold, msgCalls_finBins ord pb hfin, addAll_of_addBins _ _ _ a1]

/-- the sparse entries of the message as rational bins, in the oracle's order -/
def sparseBins (ord : MapOrder) (pb : GoPb.Store F64) : List (Int × Rat) :=
  (mrange ord pb.BinCounts).map (fun p => (wrap32 p.1, (ratOfF64 p.2).getD 0))

/-- the contiguous counts of the message as rational bins: entry number `k` sits at index `k + offset` -/
def contigBins (pb : GoPb.Store F64) : List (Int × Rat) :=
  pb.ContiguousBinCounts.zipIdx.map
    (fun cv => ((cv.2 : Int) + pb.ContiguousBinIndexOffset.toInt, (ratOfF64 cv.1).getD 0))

/-- the entries of the `BinCounts` map as rational bins, in storage (ascending) order -/
def mapBins (pb : GoPb.Store F64) : List (Int × Rat) := pb.BinCounts.map (fun p => (p.1, (ratOfF64 p.2).getD 0))

theorem msgBins_eq (ord : MapOrder) (pb : GoPb.Store F64) : msgBins ord pb = sparseBins ord pb ++ contigBins pb := by
  unfold msgBins msgCalls sparseBins contigBins
  rw [List.map_append, List.map_map, List.map_map]; rfl

/-- ORDER INDEPENDENCE: for a lawful oracle the sparse bins are a permutation of the map's entries (the keys of a
    well-formed message are `int32` values: no wrap) -/
theorem sparseBins_perm (ord : MapOrder) (hl : ord.Lawful) (pb : GoPb.Store F64) (hwf : pb.WF) :
    (sparseBins ord pb).Perm (mapBins pb) := by
  unfold sparseBins mapBins
  have h1 : (mrange ord pb.BinCounts).map (fun p => (wrap32 p.1, (ratOfF64 p.2).getD 0))
      = (mrange ord pb.BinCounts).map (fun p => (p.1, (ratOfF64 p.2).getD 0)) := by
    apply List.map_congr_left
    intro p hp
    have hp' : p ∈ pb.BinCounts := (mrange_perm_of_sorted ord hl _ hwf.2).mem_iff.1 hp
    rw [wrap32_of_I32 p.1 (hwf.1 p hp')]
  rw [h1]
  exact (mrange_perm_of_sorted ord hl _ hwf.2).map _

/-- C09 on the regenerated code: index by index, the bins of a message weigh what its `BinCounts` entries give plus
    what its contiguous counts give — whatever the iteration order -/
theorem lookup_msgBins (ord : MapOrder) (hl : ord.Lawful) (pb : GoPb.Store F64) (hwf : pb.WF) (j : Int) :
    Content.lookup (msgBins ord pb) j = Content.lookup (mapBins pb) j + Content.lookup (contigBins pb) j := by
  rw [msgBins_eq, Content.lookup_append, Content.lookup_perm (sparseBins_perm ord hl pb hwf)]

theorem merge_order_irrelevant (E : Content) (hE : E.WF) (pb : GoPb.Store F64) (hwf : pb.WF)
    (o1 o2 : MapOrder) (h1 : o1.Lawful) (h2 : o2.Lawful)
    (hn1 : ∀ p ∈ msgBins o1 pb, 0 ≤ p.2) (hn2 : ∀ p ∈ msgBins o2 pb, 0 ≤ p.2) :
    E.merge (msgBins o1 pb) = E.merge (msgBins o2 pb) := by
  apply Content.ext _ _ (Content.wf_merge_of_nonneg _ _ hE hn1) (Content.wf_merge_of_nonneg _ _ hE hn2)
  intro j
  rw [Content.lookup_merge, Content.lookup_merge, lookup_msgBins o1 h1 pb hwf, lookup_msgBins o2 h2 pb hwf]

/-- the weights add up on top of what the store held (the statement of `C09.mergeWithProto_adds`) -/
theorem lookup_merge_msgBins (E : Content) (ord : MapOrder) (hl : ord.Lawful) (pb : GoPb.Store F64) (hwf : pb.WF)
    (j : Int) :
    (E.merge (msgBins ord pb)).lookup j
      = E.lookup j + Content.lookup (mapBins pb) j + Content.lookup (contigBins pb) j := by
  rw [Content.lookup_merge, lookup_msgBins ord hl pb hwf, Rat.add_assoc]

end model

/-! ## 5. the paginated store's own `MergeWithProto` -/

section pagMerge
open DDS.GenPag DDS.PStore DDS.Gen.Paginated DDS.Gen.PaginatedProto

/-- the regenerated `AddWithCount` on a list of calls -/
def gAdds (fuel : Nat) (grow : Int → Int → Int) : GP → List (Int × Rat) → Res GP
  | g, [] => .ok g
  | g, (i, c) :: rest => (BufferedPaginatedStore.AddWithCount fuel grow g i c).bind (fun g' => gAdds fuel grow g' rest)

theorem gAdds_append (fuel : Nat) (grow : Int → Int → Int) (a b : List (Int × Rat)) : ∀ g : GP,
    gAdds fuel grow g (a ++ b) = (gAdds fuel grow g a).bind (fun g' => gAdds fuel grow g' b) := by
  induction a with
  | nil => intro g; rfl
  | cons p a ih =>
    intro g
    obtain ⟨i, c⟩ := p
    simp only [List.cons_append, gAdds]
    cases BufferedPaginatedStore.AddWithCount fuel grow g i c with
    | ok g' => exact ih g'
    | panic => rfl
    | nofuel => rfl

/-- a `Res` as the outcome of a loop that never returns early -/
def toLoop {α ρ : Type} : Res α → Loop α ρ
  | .ok a => .done a
  | .panic => .panic
  | .nofuel => .nofuel

theorem pm_loop2 (fuel : Nat) (grow : Int → Int → Int) (l : List (Int × Rat)) : ∀ g : GP,
    BufferedPaginatedStore.MergeWithProto.loop2 fuel grow l g
      = toLoop (gAdds fuel grow g (l.map (fun p => (wrap32 p.1, p.2)))) := by
  induction l with
  | nil => intro g; rfl
  | cons p l ih =>
    intro g
    obtain ⟨i, c⟩ := p
    unfold BufferedPaginatedStore.MergeWithProto.loop2
    simp only [List.map_cons, gAdds]
    show Res.bindL (BufferedPaginatedStore.AddWithCount fuel grow g (wrap32 i) c) _ = _
    cases BufferedPaginatedStore.AddWithCount fuel grow g (wrap32 i) c with
    | ok g' => exact ih g'
    | panic => rfl
    | nofuel => rfl

theorem pm_loop1 (fuel : Nat) (grow : Int → Int → Int) (pb : GoPb.Store Rat) (l : List Rat) : ∀ (k : Nat) (g : GP),
    BufferedPaginatedStore.MergeWithProto.loop1 fuel grow pb l (k : Int) g
      = toLoop (gAdds fuel grow g ((l.zipIdx k).map
          (fun cv => ((cv.2 : Int) + pb.ContiguousBinIndexOffset.toInt, cv.1)))) := by
  induction l with
  | nil => intro k g; rfl
  | cons c l ih =>
    intro k g
    unfold BufferedPaginatedStore.MergeWithProto.loop1
    simp only [List.zipIdx_cons, List.map_cons, gAdds]
    rw [Int.add_comm]
    cases BufferedPaginatedStore.AddWithCount fuel grow g ((k : Int) + pb.ContiguousBinIndexOffset.toInt) c with
    | ok g' =>
      have := ih (k + 1) g'
      rw [Int.natCast_add] at this
      exact this
    | panic => rfl
    | nofuel => rfl

/-- paginated `MergeWithProto` (every store, message, oracle, fuel): the regenerated `AddWithCount` run on the calls of
    the message -/
theorem pag_mergeWithProto_eq (fuel : Nat) (ord : MapOrder) (grow : Int → Int → Int) (g : GP) (pb : GoPb.Store Rat) :
    BufferedPaginatedStore.MergeWithProto fuel ord grow g pb = gAdds fuel grow g (msgCalls ord pb) := by
  unfold BufferedPaginatedStore.MergeWithProto msgCalls
  rw [pm_loop2, gAdds_append]
  cases gAdds fuel grow g ((mrange ord pb.BinCounts).map (fun p => (wrap32 p.1, p.2))) with
  | ok g' =>
    have := pm_loop1 fuel grow pb pb.ContiguousBinCounts 0 g'
    rw [Int.natCast_zero] at this
    simp only [toLoop, Loop.elim_done, Res.bind_ok, this]
    cases gAdds fuel grow g' (pb.ContiguousBinCounts.zipIdx.map
      (fun cv => ((cv.2 : Int) + pb.ContiguousBinIndexOffset.toInt, cv.1))) <;> rfl
  | panic => rfl
  | nofuel => rfl

/-- fuel for the calls: the maximum of `addFuel` over the stores reachable under either value of each bit (a
    function of the store and the calls) -/
def pagFuel : PStore → List (Int × Rat) → Nat
  | _, [] => 0
  | s, (i, c) :: rest =>
    max (addFuel s i)
      (max (match s.addWithCount i c true with | some s' => pagFuel s' rest | none => 0)
           (match s.addWithCount i c false with | some s' => pagFuel s' rest | none => 0))

theorem addFuel_le_pagFuel (s : PStore) (i : Int) (c : Rat) (rest : List (Int × Rat)) :
    addFuel s i ≤ pagFuel s ((i, c) :: rest) :=
  Nat.le_max_left _ _

theorem pagFuel_step (s s' : PStore) (i : Int) (c : Rat) (rest : List (Int × Rat)) (b : Bool)
    (h : s.addWithCount i c b = some s') : pagFuel s' rest ≤ pagFuel s ((i, c) :: rest) := by
  refine Nat.le_trans ?_ (Nat.le_max_right _ _)
  cases b
  · rw [h]; exact Nat.le_max_right _ _
  · rw [h]; exact Nat.le_max_left _ _

/-- the regenerated adds on a store with the invariant (int32 indexes, weights `≥ 0`), any capacity and `grow`: they
    follow the model's adds, the compaction bit of each call being what `len(buffer) == cap(buffer)` says at that
    moment (hidden state of the Go runtime: `pagFuel` covers either value); never out of fuel, never a panic -/
theorem gAdds_inv (fuel : Nat) (grow : Int → Int → Int) (calls : List (Int × Rat)) : ∀ (s : PStore) (cap : Int),
    Inv s → (∀ p ∈ calls, Idx32 p.1 ∧ 0 ≤ p.2) → pagFuel s calls ≤ fuel →
    ∃ s' cap', gAdds fuel grow (toGen s cap) calls = .ok (toGen s' cap') ∧ Inv s' ∧
      content s' = (content s).merge calls := by
  induction calls with
  | nil => intro s cap hI _ _; exact ⟨s, cap, rfl, hI, rfl⟩
  | cons p rest ih =>
    intro s cap hI hc hf
    obtain ⟨i, c⟩ := p
    obtain ⟨hi, hw⟩ := hc (i, c) (List.mem_cons_self ..)
    obtain ⟨s1, h1, h2, h3⟩ := PStore.add_content s hI i hi c hw (decide ((s.buffer.length : Int) = cap))
    have h := addWithCountSpec s cap grow i c fuel (Nat.le_trans (addFuel_le_pagFuel s i c rest) hf)
    rw [h1] at h
    obtain ⟨g', hg', cap', rfl⟩ := h
    obtain ⟨s2, cap2, e1, e2, e3⟩ := ih s1 cap' h2 (fun p hp => hc p (List.mem_cons_of_mem _ hp))
      (Nat.le_trans (pagFuel_step s s1 i c rest _ h1) hf)
    exact ⟨s2, cap2, by rw [gAdds, hg']; exact e1, e2, by rw [e3, h3]; rfl⟩

/-- MAIN (paginated `MergeWithProto`): a store with the invariant, a message with weights `≥ 0` whose contiguous
    indexes are `int32` (the map keys are by type), any oracle, capacity and `grow`: the receiver ends as the image of a
    model store with the invariant whose content is the receiver's merged with the message's bins -/
theorem pag_mergeWithProto (s : PStore) (hI : Inv s) (cap : Int) (grow : Int → Int → Int) (ord : MapOrder)
    (pb : GoPb.Store Rat) (hc : ∀ p ∈ msgCalls ord pb, Idx32 p.1 ∧ 0 ≤ p.2) (fuel : Nat)
    (hf : pagFuel s (msgCalls ord pb) ≤ fuel) :
    ∃ s' cap', BufferedPaginatedStore.MergeWithProto fuel ord grow (toGen s cap) pb = .ok (toGen s' cap') ∧
      Inv s' ∧ content s' = (content s).merge (msgCalls ord pb) := by
  rw [pag_mergeWithProto_eq]
  exact gAdds_inv fuel grow _ s cap hI hc hf

end pagMerge

/-! ## 6. the bins of the message `ToProto` builds, read back -/

section back

theorem msgCalls_sparseMsg (ord : MapOrder) (hl : ord.Lawful) (c : Content) (hs : c.Sorted)
    (h32 : ∀ p ∈ c, I32 p.1) : (msgCalls ord (sparseMsg c)).Perm c := by
  unfold msgCalls sparseMsg
  simp only [List.zipIdx_nil, List.map_nil, List.append_nil]
  have hp := GenSparse.mrange_perm ord hl c hs
  have h1 : (mrange ord c).map (fun p => (wrap32 p.1, p.2)) = mrange ord c := by
    refine (List.map_congr_left ?_).trans (List.map_id _)
    intro p hp'
    rw [wrap32_of_I32 p.1 (h32 p (hp.mem_iff.1 hp'))]; rfl
  rw [h1]; exact hp

theorem msgCalls_emptyMsg (ord : MapOrder) : msgCalls ord emptyMsg = [] := by
  simp [msgCalls, emptyMsg, mrange]

end back

/-! ## 7. from the exact-weight message of a store unit to the float message of the generic `MergeWithProto` -/

section consumer
open DDS.Lift

/-- the message with its exact weights as floats (what the sketch level hands to `MergeWithProto`) -/
def toF64 (m : GoPb.Store Rat) : GoPb.Store F64 :=
  { BinCounts := m.BinCounts.map (fun p => (p.1, F64.fin p.2)),
    ContiguousBinCounts := m.ContiguousBinCounts.map F64.fin,
    ContiguousBinIndexOffset := m.ContiguousBinIndexOffset }

theorem msgCalls_toF64 (ord : MapOrder) (m : GoPb.Store Rat) :
    msgCalls ord (toF64 m) = RoundTrip.finBins (msgCalls ord m) := by
  unfold msgCalls toF64 RoundTrip.finBins
  simp only [mrange_map, List.map_append, List.map_map, List.zipIdx_map]
  rfl

theorem msgBins_toF64 (ord : MapOrder) (m : GoPb.Store Rat) : msgBins ord (toF64 m) = msgCalls ord m := by
  unfold msgBins
  rw [msgCalls_toF64]
  unfold RoundTrip.finBins
  rw [List.map_map]
  exact (List.map_congr_left (fun p _ => rfl)).trans (List.map_id _)

theorem finite_toF64 (m : GoPb.Store Rat) : Finite (toF64 m) := by
  constructor
  · intro p hp
    obtain ⟨q, _, rfl⟩ := List.mem_map.1 hp
    exact ⟨q.2, rfl⟩
  · intro c hc
    obtain ⟨q, _, rfl⟩ := List.mem_map.1 hc
    exact ⟨q, rfl⟩

/-- **any consumer kind** (generic `MergeWithProto`, the model's stores, every oracle and fuel): a message `m` whose
    calls weigh, index by index, what the canonical content `c` does (weights `≥ 0`, `int32` indexes unless the weight
    is 0), merged into a NEW store of kind `k`, gives a good store of kind `k` holding `c` clamped by the rule of `k` -/
theorem consumer_roundtrip (k : StoreKind) (hk : KindOK k) (c : Content) (hc : c.WF) (ord : MapOrder)
    (m : GoPb.Store Rat) (hok : BinsOK (msgCalls ord m)) (hl : ∀ j, Content.lookup (msgCalls ord m) j = c.lookup j)
    (fuel : Nat) :
    ∃ st', Gen.StoreProto.MergeWithProto fuel ord (Store.new k) (toF64 m) = .ok st' ∧ Good st' ∧ st'.kind = k ∧
      contentOf st' = (clampOfKind k).apply c := by
  obtain ⟨g, c0, k0⟩ := good_new k hk
  have hc0 : contentOf (Store.new k) = (Store.new k).clamp.apply [] := by rw [c0, Clamp.apply_nil]
  obtain ⟨st', a1, a2, a3, a4⟩ := mergeWithProto_good_store fuel ord (Store.new k) g [] Content.wf_nil hc0
    (toF64 m) (finite_toF64 m) (by rw [msgBins_toF64]; exact hok)
  refine ⟨st', a1, a2, a3.trans k0, ?_⟩
  rw [a4, msgBins_toF64, clamp_new, RoundTrip.merge_of_lookup [] Content.wf_nil _ (fun p hp => (hok p hp).1) c hc hl,
    Content.merge_nil_left c hc]

end consumer

end DDS.GenProtoStore
