/-
  DDS.Proofs.Lift — ONE invariant for the five store kinds.

  `Good st` says: `st` is in a state reachable from `Store.new` and every index it holds is an
  int32.  On the dense family it is `KInv s.kind s` of `DDS.Proofs.DenseKinds` (`good_d_iff`:
  `Inv` + `Bounded32`, `InvLow`/`InvHigh` + `Tight32`), whose one statement per operation closes
  the dense case of each theorem here; else `PStore.Inv` (`DDS.Proofs.Paginated`), and canonical
  form for the sparse store.

  For every kind — and, for `mergeWith`, for every one of the 5 × 5 pairs of kinds, through the
  same-kind fast paths as well as the `ForEach` fallback of Go's dynamic dispatch — the
  operations of the `store.Store` interface never panic, keep `Good`, keep the kind, and act on
  the canonical content `contentOf st` exactly like the SPEC store (`SpecStore` of
  `DDS.Model.Bins`) with the clamping rule of the kind:

    good_new, good_refines, good_add, good_merge, good_clear, good_reweight

  `good_add_rel`: a store that holds the clamped form of an exact content `E` holds, after an add,
  the clamped form of `E` with the bin added (clamping at every step is clamping once).

  `store_history` lifts this to arbitrary histories whose merge arguments are themselves the
  results of histories on stores of any kind.

  No hypothesis on the float computation of `getNewLength` is left (`DStore.growthOK`).
-/
import DDS.Proofs.Growth
import DDS.Proofs.Paginated

namespace DDS.Lift

open DDS DStore

abbrev I32 (i : Int) : Prop := minInt32 ≤ i ∧ i ≤ maxInt32

/-- the store is in a state reachable from `Store.new` and all its indexes are int32 -/
def Good : Store → Prop
  | .d s => match s.kind with
    | .plain => Inv s ∧ Bounded32 s
    | .low N => InvLow N s ∧ Tight32 s
    | .high N => InvHigh N s ∧ Tight32 s
  | .sp c => c.WF ∧ ∀ p ∈ c, I32 p.1
  | .pg s => PStore.Inv s

/-- the canonical content: what `Bins()` / `ForEach` enumerate -/
def contentOf (st : Store) : Content := (st.binsList).getD []

/-- admissible store kinds: a collapsing store has at least one bin -/
def KindOK : StoreKind → Prop
  | .low n => 1 ≤ n
  | .high n => 1 ≤ n
  | _ => True

instance (k : StoreKind) : Decidable (KindOK k) := by
  cases k <;> unfold KindOK <;> infer_instance

theorem contentOf_d (s : DStore) : contentOf (.d s) = DStore.content s := rfl
theorem contentOf_sp (c : Content) : contentOf (.sp c) = c := rfl
theorem contentOf_pg (s : PStore) : contentOf (.pg s) = PStore.content s := rfl

/-! ## `Good` on the dense family is `KInv` of `DDS.Proofs.DenseKinds` -/

theorem good_d_iff (s : DStore) : Good (.d s) ↔ KInv s.kind s := by
  cases hk : s.kind <;> simp only [Good, hk, KInv]

theorem good_of_inv {s : DStore} (h : Inv s) (hb : Bounded32 s) : Good (.d s) :=
  (good_d_iff s).2 (h.plain ▸ (⟨h, hb⟩ : KInv .plain s))

theorem kind_d_congr {s s' : DStore} (h : s'.kind = s.kind) :
    (Store.d s').kind = (Store.d s).kind := by
  simp only [Store.kind, h]

/-- what closes every case of an operation on a dense-family store: the result `s'` is good, of the
    same kind, and holds `c` -/
theorem d_step {s s' : DStore} {c : Content} (h' : KInv s.kind s') (hc : DStore.content s' = c) :
    Good (.d s') ∧ (Store.d s').kind = (Store.d s).kind ∧ contentOf (.d s') = c :=
  ⟨(good_d_iff s').2 (h'.kind.symm ▸ h'), kind_d_congr h'.kind, hc⟩

/-! ## the clamping rule of a store -/

/-- the clamping rule of the store (`.none` for dense, sparse, paginated) -/
abbrev clampOf (st : Store) : Clamp := st.clamp

def clampOfKind : StoreKind → Clamp
  | .low n => .low n
  | .high n => .high n
  | _ => .none

theorem clamp_d (s : DStore) : (Store.d s).clamp = s.kind.clamp := by
  cases hk : s.kind <;> simp only [Store.clamp, Store.kind, hk, DKind.clamp]

theorem clamp_sp (c : Content) : (Store.sp c).clamp = .none := rfl
theorem clamp_pg (s : PStore) : (Store.pg s).clamp = .none := rfl

theorem clamp_of_kind {a b : Store} (h : a.kind = b.kind) : a.clamp = b.clamp := by
  unfold Store.clamp; rw [h]

theorem clamp_new (k : StoreKind) : (Store.new k).clamp = clampOfKind k := by
  cases k <;> rfl

theorem clamp_eq_of_kind (st : Store) (k : StoreKind) (h : st.kind = k) :
    st.clamp = clampOfKind k := by
  subst h; rfl

/-! ## `Good` gives `Refines`; keys of the canonical content are int32 -/

/-- EVERY good store — collapsing kinds included — observes exactly like its canonical content -/
theorem good_refines (st : Store) (h : Good st) : st.Refines (contentOf st) := by
  cases st with
  | d s => exact ((good_d_iff s).1 h).refines
  | sp c => exact Store.refines_sparse c h.1
  | pg s => exact Store.refines_pag s h

theorem refines_of_good {t : Sketch} {cp cn : Content} (gp : Good t.pos) (gn : Good t.neg)
    (ep : contentOf t.pos = cp) (en : contentOf t.neg = cn) : t.Refines cp cn :=
  ⟨ep ▸ good_refines _ gp, en ▸ good_refines _ gn⟩

theorem good_wf (st : Store) (h : Good st) : (contentOf st).WF := (good_refines st h).wf

theorem good_bins (st : Store) (h : Good st) : st.binsList = some (contentOf st) :=
  (good_refines st h).bins

/-- the keys of a canonical content are the indexes it gives a non-zero weight -/
theorem keys32_of_lookup (c : Content) (hwf : c.WF) (h : ∀ j, 0 < c.lookup j → I32 j) :
    ∀ p ∈ c, I32 p.1 := fun p hp =>
  h p.1 (by rw [Content.lookup_of_mem_sorted _ hwf.1 p hp]; exact hwf.2 p hp)

theorem lookup_ne_zero_mem (l : Content) (j : Int) (h : l.lookup j ≠ 0) : ∃ p ∈ l, p.1 = j := by
  apply Classical.byContradiction
  intro hn
  exact h (Content.lookup_eq_zero_of_not_mem l j (fun p hp hpj => hn ⟨p, hp, hpj⟩))

theorem bounded32_of_window (s : DStore) (hempty : s.count = 0 → ∀ j, wt s j = 0)
    (hout : ∀ i, (i < s.minIndex ∨ s.maxIndex < i) → wt s i = 0)
    (h32 : s.count ≠ 0 → minInt32 ≤ s.minIndex ∧ s.maxIndex ≤ maxInt32) : Bounded32 s := by
  intro j hj
  have := h32 (fun h0 => hj (hempty h0 j))
  have : ¬ (j < s.minIndex ∨ s.maxIndex < j) := fun hc => hj (hout j hc)
  omega

theorem good_d_spec {s : DStore} (h : Good (.d s)) :
    (∀ j, (DStore.content s).lookup j = wt s j) ∧ Bounded32 s :=
  have k := (good_d_iff s).1 h
  ⟨k.core.lookup_content, k.core.bounded32 k.tight⟩

theorem pag_keys32 (s : PStore) (h : PStore.Inv s) : ∀ p ∈ PStore.content s, I32 p.1 :=
  keys32_of_lookup _ (PStore.content_wf s h) (fun j hj =>
    h.idx32_of_wt_pos j (by rw [← PStore.lookup_content s h]; exact hj))

theorem good_keys32 (st : Store) (h : Good st) : ∀ p ∈ contentOf st, I32 p.1 := by
  cases st with
  | d s =>
    obtain ⟨hlk, hb⟩ := good_d_spec h
    exact keys32_of_lookup _ (good_wf _ h) (fun j hj => hb j (hlk j ▸ ne_of_gt hj))
  | sp c => exact h.2
  | pg s => exact pag_keys32 s h

theorem good_empty (st : Store) (h : Good st) (he : st.isEmpty = true) : contentOf st = [] := by
  have := (good_refines st h).empty
  rw [he] at this
  cases hc : contentOf st with
  | nil => rfl
  | cons p rest => rw [hc] at this; cases this

theorem good_fixed (st : Store) (h : Good st) : st.clamp.apply (contentOf st) = contentOf st := by
  cases st with
  | d s => rw [clamp_d]; exact ((good_d_iff s).1 h).fixed
  | sp c => rfl
  | pg s => rfl

/-! ## `Store.new` -/

theorem good_new (k : StoreKind) (hk : KindOK k) :
    Good (Store.new k) ∧ contentOf (Store.new k) = [] ∧ (Store.new k).kind = k := by
  cases k with
  | dense => exact ⟨(good_d_iff _).2 (kinv_new .plain trivial).1, (kinv_new .plain trivial).2, rfl⟩
  | sparse => exact ⟨⟨Content.wf_nil, by simp⟩, rfl, rfl⟩
  | pag =>
    exact ⟨PStore.inv_new, (PStore.content_eq_nil_iff _ PStore.inv_new).2 PStore.wt_new, rfl⟩
  | low n => exact ⟨(good_d_iff _).2 (kinv_new (.low n) hk).1, (kinv_new (.low n) hk).2, rfl⟩
  | high n => exact ⟨(good_d_iff _).2 (kinv_new (.high n) hk).1, (kinv_new (.high n) hk).2, rfl⟩

/-! ## `AddWithCount` -/

theorem good_add (st : Store) (h : Good st) (i : Int) (hi : I32 i) (w : Rat) (hw : 0 ≤ w) :
    ∃ st', st.addWithCount i w = some st' ∧ Good st' ∧ st'.kind = st.kind ∧
      contentOf st' = st.clamp.apply ((contentOf st).add i w) := by
  cases st with
  | d s =>
    obtain ⟨s', h1, h2, h3⟩ := ((good_d_iff s).1 h).add growthOK i hi w hw
    exact ⟨.d s', by simp [Store.addWithCount, h1], d_step h2 (by rw [h3, clamp_d]; rfl)⟩
  | sp c =>
    refine ⟨.sp (c.add i w), rfl, ⟨Content.wf_add c i w h.1 hw, ?_⟩, rfl, rfl⟩
    intro p hp
    rcases Content.mem_add hp with hm | hm
    · exact h.2 p hm
    · rw [hm]; exact hi
  | pg s =>
    obtain ⟨s', h1, h2, h3⟩ := PStore.add_content s h i hi w hw true
    exact ⟨.pg s', by simp [Store.addWithCount, h1], h2, rfl, h3⟩

/-! ## a store holding the clamped form of an exact content

A collapsing store that absorbed the exact (un-collapsed) content `E` holds `clamp E`; adding to
it gives `clamp (E.add i w)`: clamping at every step is clamping once
(`Clamp.apply_add_apply`). -/

theorem wf_clamp (cl : Clamp) (E : Content) (h : E.WF) : (cl.apply E).WF := cl.wf_apply E h

theorem good_kindOK (st : Store) (h : Good st) : KindOK st.kind := by
  cases st with
  | d s =>
    have := ((good_d_iff s).1 h).clampOK
    revert this
    cases hk : s.kind <;> simp only [Store.kind, hk] <;> exact id
  | sp c => trivial
  | pg s => trivial

theorem good_clampOK (st : Store) (h : Good st) : st.clamp.OK := by
  have := good_kindOK st h
  revert this
  unfold Store.clamp
  cases st.kind <;> exact id

/-- `AddWithCount(i, 0)` is a no-op on every store kind, whatever the index -/
theorem store_add_zero (st : Store) (i : Int) : st.addWithCount i 0 = some st := by
  cases st with
  | d s => simp [Store.addWithCount, DStore.addWithCount]
  | sp c => simp [Store.addWithCount]
  | pg s => simp [Store.addWithCount, PStore.addWithCount]

/-- one `AddWithCount` relative to an exact content `E`; a zero weight may come with any index -/
theorem good_add_rel (st : Store) (h : Good st) (cl : Clamp) (hcl : st.clamp = cl) (E : Content)
    (hE : E.WF) (hc : contentOf st = cl.apply E) (i : Int) (w : Rat) (hw : 0 ≤ w)
    (hi : w ≠ 0 → I32 i) :
    ∃ st', st.addWithCount i w = some st' ∧ Good st' ∧ st'.kind = st.kind ∧
      contentOf st' = cl.apply (E.add i w) := by
  subst hcl
  by_cases h0 : w = 0
  · subst h0
    exact ⟨st, store_add_zero st i, h, rfl, by rw [Content.add_zero_weight]; exact hc⟩
  · obtain ⟨st', h1, h2, h3, h4⟩ := good_add st h i (hi h0) w hw
    refine ⟨st', h1, h2, h3, ?_⟩
    rw [h4, hc, Clamp.apply_add_apply _ (good_clampOK st h) E hE i w hw]

/-! ## `MergeWith` -/

/-- the fallback `other.ForEach(s.AddWithCount)` into any dense-family store -/
theorem d_mergeBins (s : DStore) (h : Good (.d s)) (l : Content) (hl : l.WF)
    (hl32 : ∀ p ∈ l, I32 p.1) :
    ∃ s', s.mergeBins l = some s' ∧ Good (.d s') ∧ (Store.d s').kind = (Store.d s).kind ∧
      contentOf (.d s') = (Store.d s).clamp.apply ((contentOf (.d s)).merge l) := by
  obtain ⟨s', h1, h2, h3⟩ := ((good_d_iff s).1 h).mergeBins growthOK l hl.nonneg hl32
  exact ⟨s', h1, d_step h2 (by rw [h3, clamp_d]; rfl)⟩

/-- `MergeWith` for ALL 5 × 5 pairs of store kinds: the same-kind fast paths (plain/plain,
    lowest/lowest and highest/highest with any two bin limits, paginated/paginated) and the
    `ForEach` fallback of every other pair never panic, keep `Good` and the receiver's kind, and
    are the spec step "merge the contents, then clamp by the receiver's rule" -/
theorem good_merge (st o : Store) (hs : Good st) (ho : Good o) :
    ∃ st', st.mergeWith o = some st' ∧ Good st' ∧ st'.kind = st.kind ∧
      contentOf st' = st.clamp.apply ((contentOf st).merge (contentOf o)) := by
  have hob := good_bins o ho
  have howf := good_wf o ho
  have ho32 := good_keys32 o ho
  cases st with
  | sp c =>
    refine ⟨.sp (c.merge (contentOf o)), by simp [Store.mergeWith, hob], ?_, rfl, rfl⟩
    refine ⟨Content.wf_merge c _ hs.1 howf, ?_⟩
    intro p hp
    rcases Content.mem_merge hp with hm | ⟨q, hq, hqp⟩
    · exact hs.2 p hm
    · rw [← hqp]; exact ho32 q hq
  | pg a =>
    -- the `ForEach` fallback, taken unless the argument is paginated with the same page size
    have fallback : ∃ st', (a.mergeBins (contentOf o)).map Store.pg = some st' ∧ Good st' ∧
        st'.kind = (Store.pg a).kind ∧
        contentOf st' = (Store.pg a).clamp.apply ((contentOf (.pg a)).merge (contentOf o)) := by
      obtain ⟨s', h1, h2, h3⟩ := PStore.mergeBins_content a hs _
        (fun p hp => ⟨ho32 p hp, howf.nonneg p hp⟩)
      exact ⟨.pg s', by rw [h1]; rfl, h2, rfl, h3⟩
    cases o with
    | pg b =>
      have hlog : a.pageLenLog2 = b.pageLenLog2 := by rw [hs.log2, ho.log2]
      obtain ⟨s', h1, h2, h3⟩ := PStore.mergeSame_content a b hs ho
      exact ⟨.pg s', by simp [Store.mergeWith, hlog, h1], h2, rfl, h3⟩
    | d b => simpa only [Store.mergeWith, hob, Option.bind_eq_bind, Option.bind_some] using fallback
    | sp c => simpa only [Store.mergeWith, hob, Option.bind_eq_bind, Option.bind_some] using fallback
  | d a =>
    by_cases he : o.isEmpty = true
    · -- an empty argument leaves the receiver as it is: consistent with the spec step
      refine ⟨.d a, ?_, hs, rfl, ?_⟩
      · cases o <;> simp only [Store.isEmpty] at he <;> simp [Store.mergeWith, Store.isEmpty, he]
      · rw [good_empty o ho he, Content.merge_nil_right, good_fixed _ hs]
    · -- the `ForEach` fallback, taken unless the argument is of the same dense family
      have fallback : ∃ st', (a.mergeBins (contentOf o)).map Store.d = some st' ∧ Good st' ∧
          st'.kind = (Store.d a).kind ∧
          contentOf st' = (Store.d a).clamp.apply ((contentOf (.d a)).merge (contentOf o)) := by
        obtain ⟨s', h1, r⟩ := d_mergeBins a hs (contentOf o) howf ho32
        exact ⟨.d s', by rw [h1]; rfl, r⟩
      cases o with
      | sp c =>
        simpa only [Store.mergeWith, he, hob, Bool.false_eq_true, if_false, Option.bind_eq_bind,
          Option.bind_some] using fallback
      | pg b =>
        simpa only [Store.mergeWith, he, hob, Bool.false_eq_true, if_false, Option.bind_eq_bind,
          Option.bind_some] using fallback
      | d b =>
        have he' : b.isEmpty = false := by simpa [Store.isEmpty] using he
        have hob' : b.binsList = some (contentOf (.d b)) := hob
        -- the model's test for the fast path is `DKind.same`
        show ∃ st', (if b.isEmpty = true then some (Store.d a) else
            if a.kind.same b.kind = true then (a.mergeSame b).map Store.d
            else b.binsList.bind fun l => (a.mergeBins l).map Store.d) = some st' ∧ _
        rw [if_neg (by rw [he']; exact Bool.false_ne_true)]
        by_cases hsame : a.kind.same b.kind = true
        · obtain ⟨s', h1, h2, h3, _⟩ :=
            ((good_d_iff a).1 hs).mergeSame growthOK ((good_d_iff b).1 ho) hsame
          rw [if_pos hsame, h1]
          exact ⟨.d s', rfl, d_step h2 (by rw [h3, clamp_d]; rfl)⟩
        · rw [if_neg hsame, hob']
          exact fallback

/-! ## `Clear` and `Reweight` -/

theorem good_clear (st : Store) (h : Good st) :
    Good st.clear ∧ contentOf st.clear = [] ∧ st.clear.kind = st.kind := by
  cases st with
  | d s =>
    have k := ((good_d_iff s).1 h).clear
    exact ⟨(good_d_iff s.clear).2 k.1, k.2, rfl⟩
  | sp c => exact ⟨⟨Content.wf_nil, by simp⟩, rfl, rfl⟩
  | pg s => exact ⟨(PStore.clear_content s h).1, (PStore.clear_content s h).2, rfl⟩

/-- `Reweight(w)` for `w > 0` (for `w ≤ 0` the library returns an error and leaves the store
    unchanged) -/
theorem good_reweight (st : Store) (h : Good st) (w : Rat) (hw : 0 < w) :
    ∃ st', st.reweight w = some (.ok st') ∧ Good st' ∧ st'.kind = st.kind ∧
      contentOf st' = (contentOf st).scale w := by
  unfold Store.reweight
  rw [if_neg (not_le.2 hw)]
  by_cases h1 : w = 1
  · rw [if_pos h1]
    exact ⟨st, rfl, h, rfl, by rw [h1, Content.scale_one]⟩
  · rw [if_neg h1]
    cases st with
    | d s =>
      obtain ⟨s', r1, r2, r3⟩ := ((good_d_iff s).1 h).reweight w hw
      exact ⟨.d s', by simp [r1], d_step r2 r3⟩
    | sp c =>
      refine ⟨.sp (c.scale w), rfl, ⟨Content.wf_scale c w h.1 hw, ?_⟩, rfl, rfl⟩
      intro q hq
      obtain ⟨p, hp, rfl⟩ := Content.mem_scale hq
      exact h.2 p hp
    | pg s =>
      obtain ⟨s', r1, r2, r3⟩ := PStore.reweight_content s h w hw
      exact ⟨.pg s', by simp [r1], r2, rfl, r3⟩

/-! ## histories on stores of every kind

A history is a list of operations of the `store.Store` interface; the argument of a merge is
itself the result of a history run on a fresh store of ANY kind.  The same history is run on the
SPEC store (`SpecStore` of `DDS.Model.Bins`: a plain finite map plus the clamping rule of the
kind). -/

inductive SOp where
  | add (i : Int) (w : Rat)
  | mergeFrom (k : StoreKind) (ops : List SOp)
  | clear
  | reweight (w : Rat)

mutual
/-- one operation on the model store (`none` = panic, or `Reweight` refused) -/
def stepS (st : Store) : SOp → Option Store
  | .add i w => st.addWithCount i w
  | .mergeFrom k ops => (runS (Store.new k) ops).bind fun o => st.mergeWith o
  | .clear => some st.clear
  | .reweight w =>
    match st.reweight w with
    | some (.ok st') => some st'
    | _ => none
def runS (st : Store) : List SOp → Option Store
  | [] => some st
  | op :: ops => (stepS st op).bind fun st' => runS st' ops
end

mutual
def specStepS (s : SpecStore) : SOp → SpecStore
  | .add i w => s.add i w
  | .mergeFrom k ops => s.mergeContent (specRunS (SpecStore.new (clampOfKind k)) ops).c
  | .clear => s.clear
  | .reweight w => s.reweight w
def specRunS (s : SpecStore) : List SOp → SpecStore
  | [] => s
  | op :: ops => specRunS (specStepS s op) ops
end

def specRun (k : StoreKind) (ops : List SOp) : Content :=
  (specRunS (SpecStore.new (clampOfKind k)) ops).c

mutual
/-- admissible operations: int32 indexes, non-negative weights, positive reweighting factors,
    at least one bin in collapsing stores — in merge arguments too -/
def SOp.OK : SOp → Prop
  | .add i w => I32 i ∧ 0 ≤ w
  | .mergeFrom k ops => KindOK k ∧ OKs ops
  | .clear => True
  | .reweight w => 0 < w
def OKs : List SOp → Prop
  | [] => True
  | op :: ops => op.OK ∧ OKs ops
end

theorem specStepS_clamp (s : SpecStore) (op : SOp) : (specStepS s op).clamp = s.clamp := by
  cases op <;> rfl

mutual
theorem step_ok (st : Store) (h : Good st) (s : SpecStore) (hcl : s.clamp = st.clamp)
    (hc : s.c = contentOf st) : (op : SOp) → op.OK →
    ∃ st', stepS st op = some st' ∧ Good st' ∧ st'.kind = st.kind ∧
      (specStepS s op).c = contentOf st'
  | .add i w, hop => by
    obtain ⟨st', h1, h2, h3, h4⟩ := good_add st h i hop.1 w hop.2
    refine ⟨st', h1, h2, h3, ?_⟩
    rw [h4, ← hcl, ← hc]; rfl
  | .mergeFrom k ops, hop => by
    obtain ⟨hn1, hn2, hn3⟩ := good_new k hop.1
    obtain ⟨o, ho1, ho2, _, ho4⟩ := run_ok (Store.new k) hn1 (SpecStore.new (clampOfKind k))
      (clamp_new k).symm hn2.symm ops hop.2
    obtain ⟨st', h1, h2, h3, h4⟩ := good_merge st o h ho2
    refine ⟨st', ?_, h2, h3, ?_⟩
    · simp only [stepS, ho1, Option.bind_some]; exact h1
    · rw [h4, ← hcl, ← hc, ← ho4]; rfl
  | .clear, _ => by
    obtain ⟨c1, c2, c3⟩ := good_clear st h
    exact ⟨st.clear, rfl, c1, c3, by rw [c2]; rfl⟩
  | .reweight w, hop => by
    obtain ⟨st', h1, h2, h3, h4⟩ := good_reweight st h w hop
    refine ⟨st', by simp only [stepS, h1], h2, h3, ?_⟩
    rw [h4, ← hc]; rfl
theorem run_ok (st : Store) (h : Good st) (s : SpecStore) (hcl : s.clamp = st.clamp)
    (hc : s.c = contentOf st) : (ops : List SOp) → OKs ops →
    ∃ st', runS st ops = some st' ∧ Good st' ∧ st'.kind = st.kind ∧
      (specRunS s ops).c = contentOf st'
  | [], _ => ⟨st, rfl, h, rfl, hc⟩
  | op :: ops, hops => by
    obtain ⟨st1, h1, h2, h3, h4⟩ := step_ok st h s hcl hc op hops.1
    obtain ⟨st2, k1, k2, k3, k4⟩ := run_ok st1 h2 (specStepS s op)
      (by rw [specStepS_clamp, hcl]; exact (clamp_of_kind h3).symm) h4 ops hops.2
    refine ⟨st2, ?_, k2, by rw [k3, h3], k4⟩
    simp only [runS, h1, Option.bind_some]; exact k1
end

/-- EVERY history, on a store of EVERY kind, with merge arguments of every kind: the model never
    panics, stays `Good`, keeps its kind, and its canonical content is exactly the content the
    SPEC store (finite map + clamping rule of the kind) holds after the same history -/
theorem store_history (k : StoreKind) (hk : KindOK k) (ops : List SOp) (hops : OKs ops) :
    ∃ st, runS (Store.new k) ops = some st ∧ Good st ∧ st.kind = k ∧
      contentOf st = specRun k ops := by
  obtain ⟨hn1, hn2, hn3⟩ := good_new k hk
  obtain ⟨st, h1, h2, h3, h4⟩ := run_ok (Store.new k) hn1 (SpecStore.new (clampOfKind k))
    (clamp_new k).symm hn2.symm ops hops
  exact ⟨st, h1, h2, by rw [h3, hn3], h4.symm⟩

theorem store_history_refines (k : StoreKind) (hk : KindOK k) (ops : List SOp) (hops : OKs ops) :
    ∃ st, runS (Store.new k) ops = some st ∧ st.Refines (specRun k ops) := by
  obtain ⟨st, h1, h2, _, h4⟩ := store_history k hk ops hops
  exact ⟨st, h1, h4 ▸ good_refines st h2⟩

/-! ## examples (every hypothesis is met by concrete stores) -/

example : Good (Store.new (.low 2)) ∧ Good (Store.new .pag) ∧ Good (Store.new .dense) :=
  ⟨(good_new (.low 2) (by decide)).1, (good_new .pag trivial).1, (good_new .dense trivial).1⟩

example : ∃ st, (Store.new .pag).addWithCount 7 1 = some st ∧ contentOf st = [(7, 1)] ∧
    st.totalCount = 1 ∧ st.minIndex? = some 7 ∧ st.keyAtRank 0 = 7 := by
  obtain ⟨h0, c0, _⟩ := good_new .pag trivial
  obtain ⟨st, h1, h2, _, h4⟩ := good_add _ h0 7 (by decide) 1 (by decide)
  have hc : contentOf st = [(7, 1)] := by rw [h4, c0]; decide +kernel
  have hr := good_refines st h2
  rw [hc] at hr
  exact ⟨st, h1, hc, by rw [hr.total]; decide +kernel, by rw [hr.min]; rfl,
    by rw [hr.kar (by simp) 0]; decide +kernel⟩

/-- `store_history`: a dense store after three adds merged into a lowest-collapsing store with
    2 bins — through the `ForEach` fallback (different kinds) — 1 and 3 end up on the edge 4 -/
example : ∃ st, runS (Store.new (.low 2)) [.mergeFrom .dense [.add 1 1, .add 5 1, .add 3 1]]
    = some st ∧ Good st ∧ contentOf st = [(4, 2), (5, 1)] := by
  refine (store_history (.low 2) (by decide) _ ?_).imp fun st ⟨h1, h2, _, h4⟩ =>
    ⟨h1, h2, by rw [h4]; decide +kernel⟩
  simp only [OKs, SOp.OK, KindOK]; decide +kernel

/-- `good_merge` on a concrete pair: the dense store of the previous example into a fresh
    highest-collapsing store with 2 bins: 3 and 5 end up on the edge 2 -/
example : ∃ o st, runS (Store.new .dense) [.add 1 1, .add 5 1, .add 3 1] = some o ∧
    (Store.new (.high 2)).mergeWith o = some st ∧ contentOf st = [(1, 1), (2, 2)] := by
  obtain ⟨o, o1, o2, _, o4⟩ := store_history .dense trivial [.add 1 1, .add 5 1, .add 3 1]
    (by simp only [OKs, SOp.OK]; decide +kernel)
  obtain ⟨g1, g2, _⟩ := good_new (.high 2) (by decide)
  obtain ⟨st, h1, _, _, h4⟩ := good_merge _ o g1 o2
  refine ⟨o, st, o1, h1, ?_⟩
  rw [h4, g2, o4]; decide +kernel

/-- `store_history` with every operation and a mix of five kinds: a highest-collapsing receiver
    (3 bins) absorbs a paginated store, a lowest-collapsing store that itself absorbed a sparse
    one, is reweighted, cleared, and absorbs a dense and a highest-collapsing store -/
example : ∃ st, runS (Store.new (.high 3))
      [.add 1 1, .mergeFrom .pag [.add 2 1, .add 9 2],
       .mergeFrom (.low 2) [.add 0 1, .add 7 1, .mergeFrom .sparse [.add 4 1]],
       .reweight 2, .clear,
       .mergeFrom .dense [.add 10 1, .add 20 1, .reweight 3],
       .mergeFrom (.high 5) [.add 11 1, .add 30 1], .add 12 0] = some st ∧
    Good st ∧ st.kind = .high 3 ∧ contentOf st = [(10, 3), (11, 1), (12, 4)] := by
  refine (store_history (.high 3) (by decide) _ ?_).imp fun st ⟨h1, h2, h3, h4⟩ =>
    ⟨h1, h2, h3, by rw [h4]; decide +kernel⟩
  simp only [OKs, SOp.OK, KindOK]; decide +kernel

example : ∃ o st, runS (Store.new (.low 8)) [.add 1 1, .add 5 3] = some o ∧
    o.reweight (1/2) = some (.ok st) ∧ contentOf st = [(1, 1/2), (5, 3/2)] ∧
    contentOf o.clear = [] ∧ Good o.clear := by
  obtain ⟨o, o1, o2, _, o4⟩ := store_history (.low 8) (by decide) [.add 1 1, .add 5 3]
    (by simp only [OKs, SOp.OK]; decide +kernel)
  obtain ⟨st, h1, _, _, h4⟩ := good_reweight o o2 (1/2) (by decide +kernel)
  obtain ⟨c1, c2, _⟩ := good_clear o o2
  exact ⟨o, st, o1, h1, by rw [h4, o4]; decide +kernel, c2, c1⟩

end DDS.Lift
