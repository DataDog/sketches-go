/-
  DDS.Proofs.GenMapping — the index mappings REGENERATED from the Go source
  (`DDS.Generated.CodeMapping`, namespace `DDS.Gen.Mapping`) equal the hand-written model
  (`DDS.Model.Mapping`) when both are read over the real numbers (`DDS.Proofs.RealInst`).

  The generated code folds Go constant expressions exactly (`MOps.ofRat (7/10)` where the model
  writes `ofInt 7 / ofInt 10`, `MOps.ofRat (-459/1225)` for `B*B - 3*A*C`, …): the two are not
  syntactically equal for a lawless `F`, they are equal over `ℝ`.

  For each kind `K ∈ {log, linear, cubic}`:
    * `toGenK p`        — the generated struct corresponding to the model parameters `p`;
    * `newK_withGamma`  — `NewK…MappingWithGamma γ o = (toGenK ⟨K, γ, o⟩, nil)` for `1 < γ`,
      `newK_withGamma_err` — error `≠ nil` for `γ ≤ 1`;
    * `newK_ofAlpha`    — `NewK…Mapping α = (toGenK (ofAlpha K α), nil)` for `0 < α < 1`,
      `newK_ofAlpha_err`  — error `≠ nil` for `α ≤ 0 ∨ 1 ≤ α`;
    * `K_index`, `K_lowerBound`, `K_value`, `K_relativeAccuracy`, `K_approxLog`, `K_approxInvLog`,
      `K_minIndexable`, `K_maxIndexable` — the generated methods on `toGenK p` are the model's
      functions on `p` (for every `p` of kind `K`, every `v : ℝ`, every `i : ℤ`).

  At the end, the two other places where the regenerated code is read over ℝ:
    * `NewDefaultMapping`.  The Go function takes the relative accuracy as its PARAMETER (there is no built-in
      `0.01`): `newDefaultMapping_eq` (any `MOps F`): `= NewLogarithmicMapping α`; over the reals
      `newDefaultMapping_ofAlpha`, `newDefaultMapping_err`, `newDefaultMapping_params` (`gamma = (1+α)/(1-α)`,
      offset `0`, multiplier `1 / ln gamma`, `RelativeAccuracy() = α`), `newDefaultMapping_one_percent`;
    * the float bit helpers (`DDS.Proofs.GenBits`): `getExponent_real`, `getSignificandPlusOne_real`,
      `buildFloat64_real` — on positive normal floats they compute `MOps.exponentOf`, `significandPlusOne`,
      `buildFloat` of `instMOpsReal` exactly.
-/
import DDS.Generated.CodeMapping
import DDS.Generated.CodeMappingCtor
import DDS.Proofs.GenBits
import DDS.Proofs.RealInst
import DDS.Proofs.MappingReal

namespace DDS.GenMapping

open DDS DDS.GoSem DDS.Gen.Mapping DDS.RealMap

/-! ## the generated structs corresponding to model parameters -/

/-- the generated `LogarithmicMapping` holding what the Go constructor stores for `p` -/
noncomputable def toGenLog (p : Mapping.Params ℝ) : LogarithmicMapping ℝ :=
  { gamma := p.gamma, indexOffset := p.indexOffset, multiplier := Mapping.multiplier p,
    minIndexableValue := Mapping.minIndexable p, maxIndexableValue := Mapping.maxIndexable p }

noncomputable def toGenLinear (p : Mapping.Params ℝ) : LinearlyInterpolatedMapping ℝ :=
  { gamma := p.gamma, indexOffset := p.indexOffset, multiplier := Mapping.multiplier p,
    minIndexableValue := Mapping.minIndexable p, maxIndexableValue := Mapping.maxIndexable p }

noncomputable def toGenCubic (p : Mapping.Params ℝ) : CubicallyInterpolatedMapping ℝ :=
  { gamma := p.gamma, indexOffset := p.indexOffset, multiplier := Mapping.multiplier p,
    minIndexableValue := Mapping.minIndexable p, maxIndexableValue := Mapping.maxIndexable p }

section fields
variable (p : Mapping.Params ℝ)
@[simp] lemma toGenLog_gamma : (toGenLog p).gamma = p.gamma := rfl
@[simp] lemma toGenLog_indexOffset : (toGenLog p).indexOffset = p.indexOffset := rfl
@[simp] lemma toGenLog_multiplier : (toGenLog p).multiplier = Mapping.multiplier p := rfl
@[simp] lemma toGenLog_min : (toGenLog p).minIndexableValue = Mapping.minIndexable p := rfl
@[simp] lemma toGenLog_max : (toGenLog p).maxIndexableValue = Mapping.maxIndexable p := rfl
@[simp] lemma toGenLinear_gamma : (toGenLinear p).gamma = p.gamma := rfl
@[simp] lemma toGenLinear_indexOffset : (toGenLinear p).indexOffset = p.indexOffset := rfl
@[simp] lemma toGenLinear_multiplier : (toGenLinear p).multiplier = Mapping.multiplier p := rfl
@[simp] lemma toGenLinear_min : (toGenLinear p).minIndexableValue = Mapping.minIndexable p := rfl
@[simp] lemma toGenLinear_max : (toGenLinear p).maxIndexableValue = Mapping.maxIndexable p := rfl
@[simp] lemma toGenCubic_gamma : (toGenCubic p).gamma = p.gamma := rfl
@[simp] lemma toGenCubic_indexOffset : (toGenCubic p).indexOffset = p.indexOffset := rfl
@[simp] lemma toGenCubic_multiplier : (toGenCubic p).multiplier = Mapping.multiplier p := rfl
@[simp] lemma toGenCubic_min : (toGenCubic p).minIndexableValue = Mapping.minIndexable p := rfl
@[simp] lemma toGenCubic_max : (toGenCubic p).maxIndexableValue = Mapping.maxIndexable p := rfl
end fields

/-! ## auxiliary facts -/

/-- the model's `goFloor`, as the generated `Index` methods spell it -/
lemma goFloor_unfold (x : ℝ) :
    (if MOps.le (MOps.ofInt 0 : ℝ) x then MOps.trunc x else MOps.trunc x - (1 : Int))
      = Mapping.goFloor x := rfl

/-- the guard of the `…WithGamma` constructors over `ℝ` -/
lemma gammaGuard (γ : ℝ) : MOps.le γ (MOps.ofInt 1 : ℝ) = decide (γ ≤ 1) := by
  simp

/-- the guard of the constructors taking a relative accuracy over `ℝ` -/
lemma alphaGuard (α : ℝ) :
    (MOps.le α (MOps.ofInt 0 : ℝ) || MOps.le (MOps.ofInt 1 : ℝ) α) = decide (α ≤ 0 ∨ 1 ≤ α) := by
  simp

lemma alphaGuard_false {α : ℝ} (h0 : 0 < α) (h1 : α < 1) :
    (MOps.le α (MOps.ofInt 0 : ℝ) || MOps.le (MOps.ofInt 1 : ℝ) α) = false := by
  rw [alphaGuard]; simp [not_le.2 h0, not_le.2 h1]

lemma alphaGuard_true {α : ℝ} (h : α ≤ 0 ∨ 1 ≤ α) :
    (MOps.le α (MOps.ofInt 0 : ℝ) || MOps.le (MOps.ofInt 1 : ℝ) α) = true := by
  rw [alphaGuard]; simp [h]

/-! ## the logarithmic mapping -/

section log

theorem newLog_withGamma (γ o : ℝ) (hγ : 1 < γ) :
    NewLogarithmicMappingWithGamma γ o = (toGenLog ⟨.log, γ, o⟩, GoErr.nil) := by
  unfold NewLogarithmicMappingWithGamma
  rw [gammaGuard, decide_eq_false (not_le.2 hγ)]
  rfl

theorem newLog_withGamma_err (γ o : ℝ) (hγ : γ ≤ 1) :
    (NewLogarithmicMappingWithGamma γ o).2 ≠ GoErr.nil := by
  unfold NewLogarithmicMappingWithGamma
  rw [gammaGuard, decide_eq_true hγ]
  simp

theorem newLog_ofAlpha (α : ℝ) (h0 : 0 < α) (h1 : α < 1) :
    NewLogarithmicMapping α = (toGenLog (Mapping.ofAlpha .log α), GoErr.nil) := by
  have hγ := gamma_ofAlpha_gt_one .log h0 h1
  have hw := newLog_withGamma _ (Mapping.defaultOffset .log (Mapping.gammaOfAlpha .log α)) hγ
  unfold NewLogarithmicMapping
  rw [alphaGuard_false h0 h1]
  simp only [Mapping.ofAlpha, Mapping.gammaOfAlpha, Mapping.defaultOffset, Mapping.one] at hw
  simp only [Bool.false_eq_true, if_false, hw]
  rfl

theorem newLog_ofAlpha_err (α : ℝ) (h : α ≤ 0 ∨ 1 ≤ α) :
    (NewLogarithmicMapping α).2 ≠ GoErr.nil := by
  unfold NewLogarithmicMapping
  rw [alphaGuard_true h]
  simp

variable (p : Mapping.Params ℝ) (hk : p.kind = .log)
include hk

theorem log_approxLog (x : ℝ) : (MOps.log x : ℝ) = Mapping.approxLog p x := by
  simp [Mapping.approxLog, hk]

theorem log_approxInvLog (x : ℝ) : (MOps.exp x : ℝ) = Mapping.approxInvLog p x := by
  simp [Mapping.approxInvLog, hk]

theorem log_index (v : ℝ) : LogarithmicMapping.Index (toGenLog p) v = Mapping.index p v := by
  unfold LogarithmicMapping.Index Mapping.index
  simp only [toGenLog_multiplier, toGenLog_indexOffset, Mapping.approxLog, hk]
  rfl

theorem log_lowerBound (i : ℤ) :
    LogarithmicMapping.LowerBound (toGenLog p) i = Mapping.lowerBound p i := by
  unfold LogarithmicMapping.LowerBound Mapping.lowerBound
  simp only [toGenLog_multiplier, toGenLog_indexOffset, Mapping.approxInvLog, hk]

theorem log_relativeAccuracy :
    LogarithmicMapping.RelativeAccuracy (toGenLog p) = Mapping.relativeAccuracy p := by
  unfold LogarithmicMapping.RelativeAccuracy Mapping.relativeAccuracy
  simp only [hk]
  rfl

theorem log_value (i : ℤ) : LogarithmicMapping.Value (toGenLog p) i = Mapping.value p i := by
  unfold LogarithmicMapping.Value Mapping.value
  rw [log_lowerBound p hk, log_relativeAccuracy p hk]; simp

omit hk in
theorem log_minIndexable :
    LogarithmicMapping.MinIndexableValue (toGenLog p) = Mapping.minIndexable p := rfl

omit hk in
theorem log_maxIndexable :
    LogarithmicMapping.MaxIndexableValue (toGenLog p) = Mapping.maxIndexable p := rfl

end log

/-! ## the linearly interpolated mapping -/

section linear

theorem newLinear_withGamma (γ o : ℝ) (hγ : 1 < γ) :
    NewLinearlyInterpolatedMappingWithGamma γ o = (toGenLinear ⟨.linear, γ, o⟩, GoErr.nil) := by
  unfold NewLinearlyInterpolatedMappingWithGamma
  rw [gammaGuard, decide_eq_false (not_le.2 hγ)]
  rfl

theorem newLinear_withGamma_err (γ o : ℝ) (hγ : γ ≤ 1) :
    (NewLinearlyInterpolatedMappingWithGamma γ o).2 ≠ GoErr.nil := by
  unfold NewLinearlyInterpolatedMappingWithGamma
  rw [gammaGuard, decide_eq_true hγ]
  simp

theorem newLinear_ofAlpha (α : ℝ) (h0 : 0 < α) (h1 : α < 1) :
    NewLinearlyInterpolatedMapping α = (toGenLinear (Mapping.ofAlpha .linear α), GoErr.nil) := by
  have hγ := gamma_ofAlpha_gt_one .linear h0 h1
  have hw := newLinear_withGamma _
    (Mapping.defaultOffset .linear (Mapping.gammaOfAlpha .linear α)) hγ
  unfold NewLinearlyInterpolatedMapping
  rw [alphaGuard_false h0 h1]
  simp only [Mapping.ofAlpha, Mapping.gammaOfAlpha, Mapping.defaultOffset, Mapping.one] at hw
  simp only [Bool.false_eq_true, if_false, hw]
  rfl

theorem newLinear_ofAlpha_err (α : ℝ) (h : α ≤ 0 ∨ 1 ≤ α) :
    (NewLinearlyInterpolatedMapping α).2 ≠ GoErr.nil := by
  unfold NewLinearlyInterpolatedMapping
  rw [alphaGuard_true h]
  simp

variable (p : Mapping.Params ℝ) (hk : p.kind = .linear)
include hk

/-- the receiver is not used by `approximateLog`: the statement holds for every `m` -/
theorem linear_approxLog (m : LinearlyInterpolatedMapping ℝ) (x : ℝ) :
    LinearlyInterpolatedMapping.approximateLog m x = Mapping.approxLog p x := by
  unfold LinearlyInterpolatedMapping.approximateLog Mapping.approxLog
  simp only [hk]
  rfl

/-- the receiver is not used by `approximateInverseLog`: the statement holds for every `m` -/
theorem linear_approxInvLog (m : LinearlyInterpolatedMapping ℝ) (x : ℝ) :
    LinearlyInterpolatedMapping.approximateInverseLog m x = Mapping.approxInvLog p x := by
  unfold LinearlyInterpolatedMapping.approximateInverseLog Mapping.approxInvLog
  simp only [hk]
  rfl

theorem linear_index (v : ℝ) :
    LinearlyInterpolatedMapping.Index (toGenLinear p) v = Mapping.index p v := by
  unfold LinearlyInterpolatedMapping.Index Mapping.index
  simp only [toGenLinear_multiplier, toGenLinear_indexOffset, linear_approxLog p hk]
  rfl

theorem linear_lowerBound (i : ℤ) :
    LinearlyInterpolatedMapping.LowerBound (toGenLinear p) i = Mapping.lowerBound p i := by
  unfold LinearlyInterpolatedMapping.LowerBound Mapping.lowerBound
  simp only [toGenLinear_multiplier, toGenLinear_indexOffset, linear_approxInvLog p hk]

theorem linear_relativeAccuracy :
    LinearlyInterpolatedMapping.RelativeAccuracy (toGenLinear p) = Mapping.relativeAccuracy p := by
  unfold LinearlyInterpolatedMapping.RelativeAccuracy Mapping.relativeAccuracy
  simp only [hk]
  rfl

theorem linear_value (i : ℤ) :
    LinearlyInterpolatedMapping.Value (toGenLinear p) i = Mapping.value p i := by
  unfold LinearlyInterpolatedMapping.Value Mapping.value
  rw [linear_lowerBound p hk, linear_relativeAccuracy p hk]; simp

omit hk in
theorem linear_minIndexable :
    LinearlyInterpolatedMapping.MinIndexableValue (toGenLinear p) = Mapping.minIndexable p := rfl

omit hk in
theorem linear_maxIndexable :
    LinearlyInterpolatedMapping.MaxIndexableValue (toGenLinear p) = Mapping.maxIndexable p := rfl

end linear

/-! ## the cubically interpolated mapping -/

section cubic

theorem newCubic_withGamma (γ o : ℝ) (hγ : 1 < γ) :
    NewCubicallyInterpolatedMappingWithGamma γ o = (toGenCubic ⟨.cubic, γ, o⟩, GoErr.nil) := by
  unfold NewCubicallyInterpolatedMappingWithGamma
  rw [gammaGuard, decide_eq_false (not_le.2 hγ)]
  rfl

theorem newCubic_withGamma_err (γ o : ℝ) (hγ : γ ≤ 1) :
    (NewCubicallyInterpolatedMappingWithGamma γ o).2 ≠ GoErr.nil := by
  unfold NewCubicallyInterpolatedMappingWithGamma
  rw [gammaGuard, decide_eq_true hγ]
  simp

theorem newCubic_ofAlpha (α : ℝ) (h0 : 0 < α) (h1 : α < 1) :
    NewCubicallyInterpolatedMapping α = (toGenCubic (Mapping.ofAlpha .cubic α), GoErr.nil) := by
  have hγ := gamma_ofAlpha_gt_one .cubic h0 h1
  have hw := newCubic_withGamma _
    (Mapping.defaultOffset .cubic (Mapping.gammaOfAlpha .cubic α)) hγ
  unfold NewCubicallyInterpolatedMapping
  rw [alphaGuard_false h0 h1]
  simp only [Mapping.ofAlpha, Mapping.gammaOfAlpha, Mapping.defaultOffset, Mapping.one] at hw
  simp only [Bool.false_eq_true, if_false, hw]
  rfl

theorem newCubic_ofAlpha_err (α : ℝ) (h : α ≤ 0 ∨ 1 ≤ α) :
    (NewCubicallyInterpolatedMapping α).2 ≠ GoErr.nil := by
  unfold NewCubicallyInterpolatedMapping
  rw [alphaGuard_true h]
  simp

variable (p : Mapping.Params ℝ) (hk : p.kind = .cubic)
include hk

/-- the receiver is not used by `approximateLog`: the statement holds for every `m` -/
theorem cubic_approxLog (m : CubicallyInterpolatedMapping ℝ) (x : ℝ) :
    CubicallyInterpolatedMapping.approximateLog m x = Mapping.approxLog p x := by
  unfold CubicallyInterpolatedMapping.approximateLog Mapping.approxLog
  simp only [hk]
  rfl

/-- the receiver is not used by `approximateInverseLog`: the statement holds for every `m`.
The generated code carries the four constant expressions folded; once the model's are folded too the
two terms differ only in `-a / b` against `-(a / b)`. -/
theorem cubic_approxInvLog (m : CubicallyInterpolatedMapping ℝ) (x : ℝ) :
    CubicallyInterpolatedMapping.approximateInverseLog m x = Mapping.approxInvLog p x := by
  have e0 : Consts.cubicB * Consts.cubicB - 3 * Consts.cubicA * Consts.cubicC
      = ((-459 : Int) / 1225 : Rat) := by decide +kernel
  have e1 : 2 * Consts.cubicB * Consts.cubicB * Consts.cubicB
      - 9 * Consts.cubicA * Consts.cubicB * Consts.cubicC = (5454 / 6125 : Rat) := by decide +kernel
  have e2 : 27 * Consts.cubicA * Consts.cubicA = (972 / 1225 : Rat) := by decide +kernel
  have e3 : 3 * Consts.cubicA = (18 / 35 : Rat) := by decide +kernel
  unfold CubicallyInterpolatedMapping.approximateInverseLog Mapping.approxInvLog
  simp only [hk]
  rw [e0, e1, e2, e3]
  exact congrArg (Mapping.buildFloatN _) (congrArg (· + _) (neg_div _ _))

theorem cubic_index (v : ℝ) :
    CubicallyInterpolatedMapping.Index (toGenCubic p) v = Mapping.index p v := by
  unfold CubicallyInterpolatedMapping.Index Mapping.index
  simp only [toGenCubic_multiplier, toGenCubic_indexOffset, cubic_approxLog p hk]
  rfl

theorem cubic_lowerBound (i : ℤ) :
    CubicallyInterpolatedMapping.LowerBound (toGenCubic p) i = Mapping.lowerBound p i := by
  unfold CubicallyInterpolatedMapping.LowerBound Mapping.lowerBound
  simp only [toGenCubic_multiplier, toGenCubic_indexOffset, cubic_approxInvLog p hk]

theorem cubic_relativeAccuracy :
    CubicallyInterpolatedMapping.RelativeAccuracy (toGenCubic p) = Mapping.relativeAccuracy p := by
  unfold CubicallyInterpolatedMapping.RelativeAccuracy Mapping.relativeAccuracy
  simp [hk]

theorem cubic_value (i : ℤ) :
    CubicallyInterpolatedMapping.Value (toGenCubic p) i = Mapping.value p i := by
  unfold CubicallyInterpolatedMapping.Value Mapping.value
  rw [cubic_lowerBound p hk, cubic_relativeAccuracy p hk]; simp

omit hk in
theorem cubic_minIndexable :
    CubicallyInterpolatedMapping.MinIndexableValue (toGenCubic p) = Mapping.minIndexable p := rfl

omit hk in
theorem cubic_maxIndexable :
    CubicallyInterpolatedMapping.MaxIndexableValue (toGenCubic p) = Mapping.maxIndexable p := rfl

end cubic

/-! ## the hypotheses are satisfiable -/

example (o : ℝ) : NewLogarithmicMappingWithGamma (2:ℝ) o = (toGenLog ⟨.log, 2, o⟩, GoErr.nil) :=
  newLog_withGamma 2 o (by norm_num)

example (o : ℝ) :
    NewLinearlyInterpolatedMappingWithGamma (2:ℝ) o = (toGenLinear ⟨.linear, 2, o⟩, GoErr.nil) :=
  newLinear_withGamma 2 o (by norm_num)

example (o : ℝ) :
    NewCubicallyInterpolatedMappingWithGamma (2:ℝ) o = (toGenCubic ⟨.cubic, 2, o⟩, GoErr.nil) :=
  newCubic_withGamma 2 o (by norm_num)

example : NewCubicallyInterpolatedMapping (1 / 100 : ℝ)
    = (toGenCubic (Mapping.ofAlpha .cubic (1 / 100)), GoErr.nil) :=
  newCubic_ofAlpha _ (by norm_num) (by norm_num)

example : (NewLogarithmicMapping (1 : ℝ)).2 ≠ GoErr.nil :=
  newLog_ofAlpha_err 1 (Or.inr le_rfl)

example (v : ℝ) (i : ℤ) (o : ℝ) :
    CubicallyInterpolatedMapping.Index (toGenCubic ⟨.cubic, 2, o⟩) v = Mapping.index ⟨.cubic, 2, o⟩ v ∧
    CubicallyInterpolatedMapping.Value (toGenCubic ⟨.cubic, 2, o⟩) i = Mapping.value ⟨.cubic, 2, o⟩ i :=
  ⟨cubic_index _ rfl v, cubic_value _ rfl i⟩

end DDS.GenMapping

namespace DDS.GenDecodeWrap

open DDS DDS.GoSem

/-! ## `mapping.NewDefaultMapping` (`DDS/Generated/CodeMappingCtor.lean`) -/

section mappingCtor
open DDS.Gen.Mapping DDS.Gen.MappingCtor DDS.GenMapping DDS.RealMap

theorem newDefaultMapping_eq {F : Type} [MOps F] (α : F) : NewDefaultMapping α = NewLogarithmicMapping α := rfl

theorem newDefaultMapping_ofAlpha (α : ℝ) (h0 : 0 < α) (h1 : α < 1) :
    NewDefaultMapping α = (toGenLog (Mapping.ofAlpha .log α), GoErr.nil) := by
  rw [newDefaultMapping_eq]; exact newLog_ofAlpha α h0 h1

/-- refused outside `(0, 1)` (C13) -/
theorem newDefaultMapping_err (α : ℝ) (h : α ≤ 0 ∨ 1 ≤ α) : (NewDefaultMapping α).2 ≠ GoErr.nil := by
  rw [newDefaultMapping_eq]; exact newLog_ofAlpha_err α h

theorem newDefaultMapping_params (α : ℝ) (h0 : 0 < α) (h1 : α < 1) :
    (NewDefaultMapping α).1.gamma = (1 + α) / (1 - α) ∧
    (NewDefaultMapping α).1.indexOffset = 0 ∧
    (NewDefaultMapping α).1.multiplier = 1 / Real.log ((1 + α) / (1 - α)) ∧
    LogarithmicMapping.RelativeAccuracy (NewDefaultMapping α).1 = α := by
  rw [newDefaultMapping_ofAlpha α h0 h1]
  refine ⟨?_, ?_, ?_, ?_⟩
  · simp [Mapping.ofAlpha, Mapping.gammaOfAlpha, Mapping.one]
  · simp [Mapping.ofAlpha, Mapping.defaultOffset]
  · simp [Mapping.ofAlpha, Mapping.gammaOfAlpha, Mapping.multiplier, Mapping.one]
  · rw [log_relativeAccuracy _ rfl]; exact relativeAccuracy_ofAlpha .log h0 h1

/-- the documented default of the library's users (`relativeAccuracy = 0.01`): `gamma = 101/99` -/
theorem newDefaultMapping_one_percent :
    (NewDefaultMapping (1 / 100 : ℝ)).2 = GoErr.nil ∧
    (NewDefaultMapping (1 / 100 : ℝ)).1.gamma = 101 / 99 ∧
    (NewDefaultMapping (1 / 100 : ℝ)).1.indexOffset = 0 ∧
    LogarithmicMapping.RelativeAccuracy (NewDefaultMapping (1 / 100 : ℝ)).1 = 1 / 100 := by
  have h0 : (0 : ℝ) < 1 / 100 := by norm_num
  have h1 : (1 / 100 : ℝ) < 1 := by norm_num
  obtain ⟨hg, ho, _, hr⟩ := newDefaultMapping_params (1 / 100) h0 h1
  refine ⟨?_, ?_, ho, hr⟩
  · rw [newDefaultMapping_ofAlpha _ h0 h1]
  · rw [hg]; norm_num

end mappingCtor

end DDS.GenDecodeWrap

namespace DDS.GenBits

open DDS DDS.F64 DDS.GoSem DDS.Gen.Bits

/-! ## the real-number reading (`instMOpsReal`, `DDS/Proofs/RealInst.lean`)

  `MOps.exponentOf x = ⌊log₂ x⌋`, `MOps.significandPlusOne x = x / 2^⌊log₂ x⌋`,
  `MOps.buildFloat e s = 2^e · s` over `ℝ`: on positive normal floats the generated bit helpers
  compute exactly these real numbers (no rounding at all). -/

theorem pow2_cast (e : Int) : ((pow2 e : Rat) : ℝ) = (2 : ℝ) ^ e := by
  rw [pow2_eq_zpow]; push_cast; rfl

theorem floorLog2_eq_floor_logb {q : Rat} (hq : 0 < q) :
    floorLog2 q = ⌊Real.logb 2 (q : ℝ)⌋ := by
  obtain ⟨h1, h2⟩ := floorLog2_spec q hq
  have hqR : (0 : ℝ) < (q : ℝ) := by exact_mod_cast hq
  symm
  rw [Int.floor_eq_iff]
  constructor
  · rw [Real.le_logb_iff_rpow_le (by norm_num) hqR, Real.rpow_intCast, ← pow2_cast]
    exact_mod_cast h1
  · rw [Real.logb_lt_iff_lt_rpow (by norm_num) hqR]
    have : ((floorLog2 q : ℤ) : ℝ) + 1 = ((floorLog2 q + 1 : ℤ) : ℝ) := by push_cast; ring
    rw [this, Real.rpow_intCast, ← pow2_cast]
    exact_mod_cast h2

theorem getExponent_real {q : Rat} (hq : 0 < q) (hr : isRep q = true) (hn : pow2 (-1022) ≤ q) :
    ∃ v : Rat, getExponent (float64bits (.fin q)) = .fin v ∧
      (v : ℝ) = MOps.exponentOf ((q : Rat) : ℝ) := by
  obtain ⟨h1, h2, _⟩ := getExponent_spec hq hr hn
  refine ⟨((floorLog2 q : Int) : Rat), by rw [h1, h2], ?_⟩
  show (((floorLog2 q : Int) : Rat) : ℝ) = ((⌊Real.logb 2 (q : ℝ)⌋ : Int) : ℝ)
  rw [floorLog2_eq_floor_logb hq]
  push_cast; rfl

theorem getSignificandPlusOne_real {q : Rat} (hq : 0 < q) (hr : isRep q = true)
    (hn : pow2 (-1022) ≤ q) :
    ∃ v : Rat, getSignificandPlusOne (float64bits (.fin q)) = .fin v ∧
      (v : ℝ) = MOps.significandPlusOne ((q : Rat) : ℝ) := by
  obtain ⟨h1, _, _⟩ := getSignificandPlusOne_spec hq hr hn
  refine ⟨q / pow2 (floorLog2 q), h1, ?_⟩
  show ((q / pow2 (floorLog2 q) : Rat) : ℝ) = (q : ℝ) / (2 : ℝ) ^ ⌊Real.logb 2 (q : ℝ)⌋
  rw [← floorLog2_eq_floor_logb hq, Rat.cast_div, pow2_cast]

theorem buildFloat64_real (e : Int) (he1 : -1022 ≤ e) (he2 : e ≤ 1023) {r : Rat}
    (hr : isRep r = true) (h1 : 1 ≤ r) (h2 : r < 2) :
    ∃ v : Rat, buildFloat64 e (.fin r) = .fin v ∧ (v : ℝ) = MOps.buildFloat e ((r : Rat) : ℝ) := by
  refine ⟨r * pow2 e, buildFloat64_spec e he1 he2 hr h1 h2, ?_⟩
  show ((r * pow2 e : Rat) : ℝ) = (2 : ℝ) ^ e * (r : ℝ)
  rw [Rat.cast_mul, pow2_cast, mul_comm]

end DDS.GenBits
