/-
  DDS.Proofs.Lift2 — helper lemmas for `DDS.Props.Lift2`:

  * rank lookups on highest-collapsed contents (`cumul_foldHigh`,
    `keyAtRank_foldHigh`, `storeKeyAtRank_specHigh`): `foldHigh` is the monotone relabelling by
    `Content.highMap`, so they are instances of the relabelling lemmas of `DDS.Proofs.Bins` and
    of `storeKeyAtRank_relabel`;
  * which bin `GetValueAtQuantile(q)` selects on the spec sketch built by unit adds
    (`selKey_bin`, an instance of `DDS.qcases_bin`): the bin of the order statistic of rank
    `⌊q(n-1)⌋` or `⌈q(n-1)⌉`;
  * the edges of the unit contents in terms of the input values (`edgeLow_unitsOf_le`,
    `le_edgeHigh_unitsOf`), and the selected bin against them (`selKey_side`,
    `selKey_retained_low`, `selKey_retained_high`).
-/
import DDS.Props.Lift

namespace DDS.Lift

open DDS

/-! ## rank lookups on highest-collapsed contents -/

theorem cumul_foldHigh (m : Content) (e k : Int) :
    (Content.foldHigh m e).cumul k = if k < e then m.cumul k else m.total := by
  unfold Content.foldHigh
  rw [Content.cumul_eq_wsum, Content.wsum_relabel]
  by_cases hk : k < e
  · rw [if_pos hk, Content.cumul_eq_wsum]
    apply Content.wsum_congr
    intro i
    simp only [decide_eq_decide]
    split <;> omega
  · rw [if_neg hk, Content.total_eq_wsum]
    apply Content.wsum_congr
    intro i
    simp only [decide_eq_true_eq]
    split <;> omega

theorem keyAtRank_foldHigh (m : Content) (h : m.WF) (hne : m ≠ []) (e : Int) (r : Rat) :
    (Content.foldHigh m e).keyAtRank r = min (m.keyAtRank r) e := by
  rw [Content.foldHigh_eq_relabel,
    Content.keyAtRank_relabel _ (Content.highMap_mono e) m h hne r, Content.highMap_eq_min]

theorem storeKeyAtRank_specHigh (N : Nat) (c : Content) (h : c.WF) (mn : Int)
    (hmn : c.minIndex? = some mn) (rk : F64) :
    Sketch.storeKeyAtRank (.sp (Content.specHigh N c)) rk =
      min (Sketch.storeKeyAtRank (.sp c) rk) (mn + (N : Int) - 1) := by
  have hne : c ≠ [] := fun hc => by rw [hc] at hmn; cases hmn
  rw [Content.specHigh_of_min N c mn hmn, Content.foldHigh_eq_relabel,
    storeKeyAtRank_relabel _ (Content.highMap_mono _) c h hne rk, Content.highMap_eq_min]

/-! ## which bin the spec sketch built by unit adds selects -/

/-- the selection of `GetValueAtQuantile` for a (zero-collapsed) value: its side and the index of
    its magnitude; `none` for the zero bucket -/
def selOf (env : MapEnv) (y : Rat) : Option (Bool × Int) :=
  if 0 < y then some (true, idxOf env y)
  else if y < 0 then some (false, idxOf env y)
  else none

theorem selOf_zero (env : MapEnv) : selOf env 0 = none := by simp [selOf]

theorem selOf_pos (env : MapEnv) {x : Rat} (h : 0 < x) : selOf env x = some (true, idxOf env x) := by
  unfold selOf; rw [if_pos h]

theorem selOf_neg (env : MapEnv) {x : Rat} (h : 0 < x) :
    selOf env (-x) = some (false, idxOf env x) := by
  unfold selOf
  rw [if_neg (by linarith), if_pos (by linarith), idxOf_neg]

/-- **the selected bin is the bin of an order statistic of rank `⌊q(n-1)⌋` or `⌈q(n-1)⌉`**
    (companion of `C01.quantile_bin`, which gives the answered VALUE) -/
theorem selKey_bin (env : MapEnv) (α mn mx : Rat) (C : Contract env α mn mx)
    (xs : List Rat) (hx : ∀ x ∈ xs, rabs x ≤ mx) (hne : xs ≠ []) (hn : xs.length ≤ 2 ^ 53)
    (s : Sketch)
    (hs : Sketch.addAll env (Sketch.new (some env.id) .sparse) (xs.map (fun x => (x, 1))) = some s)
    (q : Rat) (hq0 : 0 ≤ q) (hq1 : q ≤ 1) :
    ∃ k : Nat, k < xs.length ∧
      ((k : Int) = ⌊q * ((xs.length : Rat) - 1)⌋ ∨ (k : Int) = ⌈q * ((xs.length : Rat) - 1)⌉) ∧
      selKey s (.fin q) = selOf env ((sortedInputs mn xs)[k]!) := by
  obtain ⟨k, hk, hfc, h⟩ := qcases_bin env α mn mx C xs hx hne hn s hs q hq0 hq1
  refine ⟨k, hk, hfc, ?_⟩
  rw [selKey_eq_qcases, h]
  rfl

/-! ## the edges of the unit contents, in terms of the input values -/

/-- `x` (an element of the ground truth `sortedInputs mn xs`) lies in a bin that
    lowest-collapsing stores with `N` bins retain: the bin of every input of the same sign is
    less than `N` above the bin of `x`, i.e. `index x ≥ maxIndex − N + 1` where `maxIndex` is the
    largest bin index among the inputs of that sign (nothing is required of the zero bucket) -/
def RetainedLow (env : MapEnv) (mn : Rat) (N : Nat) (xs : List Rat) (x : Rat) : Prop :=
  (0 < x → ∀ y ∈ xs, mn < y → idxOf env y < idxOf env x + (N : Int)) ∧
  (x < 0 → ∀ y ∈ xs, y < -mn → idxOf env y < idxOf env x + (N : Int))

/-- the same for highest-collapsing stores: the bin of `x` is less than `N` above the bin of every
    input of the same sign, i.e. `index x ≤ minIndex + N − 1` -/
def RetainedHigh (env : MapEnv) (mn : Rat) (N : Nat) (xs : List Rat) (x : Rat) : Prop :=
  (0 < x → ∀ y ∈ xs, mn < y → idxOf env x < idxOf env y + (N : Int)) ∧
  (x < 0 → ∀ y ∈ xs, y < -mn → idxOf env x < idxOf env y + (N : Int))

theorem edgeLow_unitsOf_le (N : Nat) (I : List Int) (i : Int) (hI : I ≠ [])
    (h : ∀ j ∈ I, j < i + (N : Int)) : edgeLow N (unitsOf I) ≤ i := by
  unfold edgeLow
  cases hm : (unitsOf I).maxIndex? with
  | none => exact absurd (Content.maxIndex?_eq_none.1 hm) (unitsOf_ne_nil hI)
  | some mxi =>
    obtain ⟨w, hw⟩ := Content.maxIndex_mem _ mxi hm
    have := h mxi (mem_unitsOf hw)
    simp only
    omega

theorem le_edgeHigh_unitsOf (N : Nat) (I : List Int) (i : Int) (hI : I ≠ [])
    (h : ∀ j ∈ I, i < j + (N : Int)) : i ≤ edgeHigh N (unitsOf I) := by
  unfold edgeHigh
  cases hm : (unitsOf I).minIndex? with
  | none => exact absurd (Content.minIndex?_eq_none.1 hm) (unitsOf_ne_nil hI)
  | some mni =>
    obtain ⟨w, hw⟩ := Content.minIndex_mem _ mni hm
    have := h mni (mem_unitsOf hw)
    simp only
    omega

section retained
variable (env : MapEnv) (α mn mx : Rat) (C : Contract env α mn mx)
  (xs : List Rat) (hx : ∀ x ∈ xs, rabs x ≤ mx) (hne : xs ≠ []) (hn : xs.length ≤ 2 ^ 53)
  (s₀ : Sketch)
  (hs : Sketch.addAll env (Sketch.new (some env.id) .sparse) (xs.map (fun x => (x, 1))) = some s₀)
  (cp cn : Content) (z : F64) (h3 : s₀ = Sketch.spec (some env.id) cp cn z) (N : Nat)
  (q : Rat) (hq0 : 0 ≤ q) (hq1 : q ≤ 1)
include C hx hne hn hs h3 hq0 hq1

/-- the bin selected for `q` on the spec sketch built by unit adds is the bin of an order
    statistic `y` of rank `⌊q(n-1)⌋` or `⌈q(n-1)⌉`, and the content of its side holds exactly the
    bins of the inputs of the sign of `y` -/
theorem selKey_side (side : Bool) (key : Int) (hsel : selKey s₀ (.fin q) = some (side, key)) :
    ∃ k : Nat, k < xs.length ∧
      ((k : Int) = ⌊q * ((xs.length : Rat) - 1)⌋ ∨ (k : Int) = ⌈q * ((xs.length : Rat) - 1)⌉) ∧
      key = idxOf env ((sortedInputs mn xs)[k]!) ∧
      ∃ I : List Int, key ∈ I ∧ (if side then cp else cn) = unitsOf I ∧
        ∀ j ∈ I, ∃ v ∈ xs, j = idxOf env v ∧
          ((0 < (sortedInputs mn xs)[k]! ∧ mn < v) ∨ ((sortedInputs mn xs)[k]! < 0 ∧ v < -mn)) := by
  have hmn := C.minPos
  obtain ⟨k, hk, hfc, hkey⟩ := selKey_bin env α mn mx C xs hx hne hn s₀ hs q hq0 hq1
  obtain ⟨hp, hng, _⟩ := spec_contents env α mn mx C xs hx hn s₀ cp cn z hs h3
  have hmem := sortedInputs_get_mem mn xs k hk
  rw [hsel] at hkey
  refine ⟨k, hk, hfc, ?_⟩
  generalize (sortedInputs mn xs)[k]! = y at hmem hkey ⊢
  unfold selOf at hkey
  by_cases h1 : 0 < y
  · rw [if_pos h1] at hkey
    obtain ⟨hy1, hy2⟩ := sortedInputs_nonzero hmem (ne_of_gt h1)
    rw [rabs_of_pos h1] at hy2
    simp only [Option.some.injEq, Prod.mk.injEq] at hkey
    obtain ⟨rfl, rfl⟩ := hkey
    refine ⟨rfl, _, List.mem_map_of_mem (mem_Psorted.2 ⟨hy1, hy2⟩), hp, fun j hj => ?_⟩
    obtain ⟨v, hv, rfl⟩ := List.mem_map.1 hj
    obtain ⟨v1, v2⟩ := mem_Psorted.1 hv
    exact ⟨v, v1, rfl, Or.inl ⟨h1, v2⟩⟩
  · rw [if_neg h1] at hkey
    by_cases h2 : y < 0
    · rw [if_pos h2] at hkey
      obtain ⟨hy1, hy2⟩ := sortedInputs_nonzero hmem (ne_of_lt h2)
      rw [rabs_of_neg h2] at hy2
      simp only [Option.some.injEq, Prod.mk.injEq] at hkey
      obtain ⟨rfl, rfl⟩ := hkey
      refine ⟨rfl, _, ?_, hng, fun j hj => ?_⟩
      · rw [← idxOf_neg]
        exact List.mem_map_of_mem (mem_Msorted.2 ⟨by rwa [neg_neg], hy2⟩)
      · obtain ⟨v, hv, rfl⟩ := List.mem_map.1 hj
        obtain ⟨v1, v2⟩ := mem_Msorted.1 hv
        exact ⟨-v, v1, (idxOf_neg env v).symm, Or.inr ⟨h2, by linarith⟩⟩
    · rw [if_neg h2] at hkey
      cases hkey

/-- if the order statistics of ranks `⌊q(n-1)⌋` and `⌈q(n-1)⌉` lie in bins retained by
    lowest-collapsing stores, the bin selected for `q` on the exact sketch is at or above the edge
    of its side -/
theorem selKey_retained_low
    (hret : ∀ k : Nat, k < xs.length →
      ((k : Int) = ⌊q * ((xs.length : Rat) - 1)⌋ ∨ (k : Int) = ⌈q * ((xs.length : Rat) - 1)⌉) →
      RetainedLow env mn N xs ((sortedInputs mn xs)[k]!)) :
    ∀ side key, selKey s₀ (.fin q) = some (side, key) →
      edgeLow N (if side then cp else cn) ≤ key := by
  intro side key hsel
  obtain ⟨k, hk, hfc, hkey, I, hI, hc, hall⟩ :=
    selKey_side env α mn mx C xs hx hne hn s₀ hs cp cn z h3 q hq0 hq1 side key hsel
  rw [hc]
  refine edgeLow_unitsOf_le N I key (List.ne_nil_of_mem hI) fun j hj => ?_
  obtain ⟨v, hv, rfl, h | h⟩ := hall j hj
  · exact hkey ▸ (hret k hk hfc).1 h.1 v hv h.2
  · exact hkey ▸ (hret k hk hfc).2 h.1 v hv h.2

/-- the same for highest-collapsing stores: the selected bin is at or below the edge -/
theorem selKey_retained_high
    (hret : ∀ k : Nat, k < xs.length →
      ((k : Int) = ⌊q * ((xs.length : Rat) - 1)⌋ ∨ (k : Int) = ⌈q * ((xs.length : Rat) - 1)⌉) →
      RetainedHigh env mn N xs ((sortedInputs mn xs)[k]!)) :
    ∀ side key, selKey s₀ (.fin q) = some (side, key) →
      key ≤ edgeHigh N (if side then cp else cn) := by
  intro side key hsel
  obtain ⟨k, hk, hfc, hkey, I, hI, hc, hall⟩ :=
    selKey_side env α mn mx C xs hx hne hn s₀ hs cp cn z h3 q hq0 hq1 side key hsel
  rw [hc]
  refine le_edgeHigh_unitsOf N I key (List.ne_nil_of_mem hI) fun j hj => ?_
  obtain ⟨v, hv, rfl, h | h⟩ := hall j hj
  · exact hkey ▸ (hret k hk hfc).1 h.1 v hv h.2
  · exact hkey ▸ (hret k hk hfc).2 h.1 v hv h.2

end retained

end DDS.Lift
