/-
  DDS.Proofs.GenCollapsingHigh — the REGENERATED `CollapsingHighestDenseStore`
  (`DDS/Generated/CodeDense.lean`, translated from
  `/repo/ddsketch/store/collapsing_highest_dense_store.go` on every run) equals the HAND-WRITTEN model
  `DDS.DStore` of kind `.high n` (`DDS/Model/Dense.lean`), method by method, for ALL inputs.

  Every theorem has the form
      `generated fuel (toHigh n s) args = toRes (toHigh n) (model s args)`   (`s.kind = .high n`)
  (`toHigh n s` of `GenDenseBase`: the generated structure with `maxNumBins = n` holding the fields of
  `s`): the model says `some t` ⇒ the generated code returns `.ok (toHigh n t)`; the model says `none`
  (Go would panic) ⇒ the generated code returns `.panic`; `.nofuel` is never returned when the stated
  fuel bound holds.  The only hypothesis on the store is `s.kind = .high n` (the model dispatches on
  `kind`); by `GenDenseBase.forall_high` every generated store with `0 ≤ maxNumBins` is such an image.
  `adjust`, `Copy`, `Clear` do not look at `maxNumBins`, so they are stated for every limit.

    getNewLength_rel  any fuel;  `min (dense length) maxNumBins`
    adjust_rel        fuel ≥ s.bins.size + 2       (summing loop `sumLoop`, `resetBins`, `shiftCounts`)
    extendRange_rel   fuel ≥ extendFuel s a b      (= size + dense new length + 2, `GenDenseBase.extendFuel`)
    normalize_rel     fuel ≥ extendFuel s i i      (result `(toHigh n t, arrayIndex)`; the collapsed
                                                    case returns `len(bins) - 1`)
    addWithCount_rel, add_rel, addBin_rel          the same fuel
    copy_eq, clear_rel (any fuel), new_eq
    mergeWith_rel     fuel ≥ mergeFuel s o = max (extendFuel s o.min o.max) (width of o's window + 1);
                      `MergeWith fuel (toHigh n s) (toHigh m o) = toRes (toHigh n) (s.mergeSame o)` for
                      ANY `o` and any `m` — results AND panics agree
  and `…_ex : ∃ f0, ∀ fuel ≥ f0, …`, `…_RRel` (through `RRel`).  That the model keeps `kind` is
  `GenDense.extendRange_kind`, … for every kind.

  MERGE.  The Go code runs DOWNWARDS from `o.maxIndex` in two loops (first the indexes above the window
  of `s`, which go to the last cell; then the rest down to `o.minIndex + 1`) plus one separate last step
  for `o.minIndex`; the model is ONE upward `foldlM` over `idxRange o.minIndex o.maxIndex`.  The loops
  fold the model's step `mergeStep` over the descending indexes (`merge_loop2`, `merge_loop1`);
  `addAt_comm`/`mergeStep_comm` show that two steps commute INCLUDING their panics (a `+=` never changes
  the array size, so whether a step panics does not depend on the steps before it), hence the descending
  fold is the ascending one (`foldlM_from_top`).  A panic at a different point of the downward pass than
  of the upward fold is therefore still the same OUTCOME (`.panic` / `none`).

  Generated code and model do not disagree.  Differences in evaluation ORDER that are invisible in the
  result: the merge direction (above), and the generated merge loops read `s.bins[…]`
  before `o.bins[…]` while the model reads `o.bins` first (`optL_comm`/`optR_comm`).
-/
import DDS.Proofs.GenDenseBase

namespace DDS.GenHigh

open DDS DDS.GoSem DDS.DStore DDS.GenDense DDS.GenCollapsing

/-! ### `toHigh`, `grow` -/

theorem toHigh_congr (n : Int) {s t : DStore} (hg : toGen s = toGen t) (hc : s.isCollapsed = t.isCollapsed) :
    toHigh n s = toHigh n t := by
  simp only [toHigh, hg, hc]

theorem grow_isCollapsed (s t : DStore) (k : Int) (h : s.grow k = some t) : t.isCollapsed = s.isCollapsed := by
  unfold DStore.grow at h
  split at h
  · cases h
  · cases h; rfl

/-! ### `getNewLength` -/

theorem getNewLength_rel (fuel : Nat) (n : Nat) (s : DStore) (a b : Int) (hk : s.kind = .high n) :
    Gen.Dense.CollapsingHighestDenseStore.getNewLength fuel (toHigh (n : Int) s) a b
      = toRes id (s.getNewLength a b) := by
  unfold Gen.Dense.CollapsingHighestDenseStore.getNewLength DStore.getNewLength
  rw [toHigh_DenseStore, GenDense.getNewLength_rel, hk]
  cases denseNewLength a b with
  | none => rfl
  | some d => exact congrArg Res.ok (goMin_eq d n)

/-- the model's `getNewLength` for kind `high n`, the dispatch resolved -/
theorem getNewLength_high (n : Nat) (s : DStore) (hk : s.kind = .high n) (a b : Int) :
    s.getNewLength a b = (denseNewLength a b).map (fun d => min d (n : Int)) := by
  unfold DStore.getNewLength
  rw [hk]
  cases denseNewLength a b <;> rfl

/-- the new length is at most the dense one, which `extendFuel` counts -/
theorem getNewLength_fuel {n : Nat} {s : DStore} (hk : s.kind = .high n) {a b L : Int} {fuel : Nat}
    (h : s.getNewLength (min a s.minIndex) (max b s.maxIndex) = some L) (hf : extendFuel s a b ≤ fuel) :
    ∃ d : Int, L.toNat ≤ d.toNat ∧ s.bins.size + d.toNat + 2 ≤ fuel := by
  unfold extendFuel at hf
  rw [getNewLength_high n s hk] at h
  cases hd : denseNewLength (min a s.minIndex) (max b s.maxIndex) with
  | none => rw [hd] at h; cases h
  | some d =>
    rw [hd] at h hf
    cases h
    exact ⟨d, Int.toNat_le_toNat (Int.min_le_left d n), hf⟩

/-! ### `adjust` -/

/-- the summing loop of `adjust` is the model's `sumRange` fold -/
theorem sumLoop (m : Int) (s : DStore) (K : Rat × Int → Res GHigh) (fuel : Nat) (acc : Rat) (i : Int)
    (hf : (s.maxIndex + 1 - i).toNat < fuel ∨ (irange i fuel).foldlM (sumStep s) acc = none) :
    (Gen.Dense.CollapsingHighestDenseStore.adjust.loop1 (toHigh m s) fuel acc i).elim K =
      optR ((irange i (s.maxIndex + 1 - i).toNat).foldlM (sumStep s) acc)
        fun r => K (r, i + (s.maxIndex + 1 - i).toNat) := by
  refine loop_up_elim _ id (sumStep s) (fun i => (s.maxIndex + 1 - i).toNat) (fun _ _ => True) (fun f t i h => ?_)
    (fun f t i n _ h => ⟨(toNat_sub_succ h).2, fun _ _ => trivial, ?_⟩) K fuel acc i trivial hf
  · rw [Gen.Dense.CollapsingHighestDenseStore.adjust.loop1]
    exact if_neg (mt of_decide_eq_true (mt Int.lt_add_one_iff.2 (toNat_sub_zero h)))
  · rw [Gen.Dense.CollapsingHighestDenseStore.adjust.loop1, if_pos, sumStep, optL_map, ← idx_toList]
    · rfl
    · exact decide_eq_true (Int.lt_add_one_iff.1 (toNat_sub_succ h).1)

theorem sumRange_above (s : DStore) (lo hi : Int) :
    s.sumRange lo hi = (irange lo (hi + 1 - lo).toNat).foldlM (sumStep s) 0 := by
  rw [sumRange_eq, show hi - lo + 1 = hi + 1 - lo by omega]

theorem adjust_rel (fuel : Nat) (m : Int) (n : Nat) (s : DStore) (a b : Int) (hk : s.kind = .high n)
    (hf : s.bins.size + 2 ≤ fuel) :
    Gen.Dense.CollapsingHighestDenseStore.adjust fuel (toHigh m s) a b = toRes (toHigh m) (s.adjust a b) := by
  unfold Gen.Dense.CollapsingHighestDenseStore.adjust DStore.adjust
  simp only [hk, toHigh_DenseStore, toHigh_maxNumBins, toHigh_isCollapsed, toGen_bins, toGen_offset,
    toGen_minIndex, toGen_maxIndex, toGen_count, len_toList, decide_eq_true_eq]
  rw [show s.len = (s.bins.size : Int) from rfl]
  by_cases hw : (s.bins.size : Int) < b - a + 1
  · rw [if_pos hw, if_pos hw, Option.bind_eq_bind, Option.pure_def, toRes_bind_some]
    unfold DStore.collapseHigh
    rw [show s.len = (s.bins.size : Int) from rfl]
    by_cases h1 : a + s.bins.size - 1 ≤ s.minIndex
    · rw [if_pos h1, if_pos h1, mkSlice_eq, if_neg (Int.not_lt.2 (Int.natCast_nonneg _)), optR_some,
        Int.toNat_natCast, len_toList, Array.size_replicate, set_toList, optR_map]
      exact optR_toRes _ _ _ _ fun _ _ => rfl
    · rw [if_neg h1, if_neg h1]
      by_cases h2 : 0 < s.offset - a
      · -- the sum, then `resetBins`, `+=` and `shiftCounts`, each against its `bind` of the model
        -- (the `Decidable` instance of the generated condition still mentions `toHigh`: closed last)
        rw [if_pos, if_pos h2, sumRange_above, sumLoop _ _ _ _ _ _
          (Or.inr (sumFold_none s fuel 0 _ (fun _ => by omega) (by omega)))]
        · refine optR_toRes _ _ _ _ fun r _ => ?_
          rw [resetBins_rel fuel s _ _ (Or.inl hf), bind_toRes]
          refine optR_toRes _ _ _ _ fun t ht => ?_
          rw [toGen_bins, toGen_offset, addAt_toList, optR_map]
          refine optR_toRes _ _ _ _ fun b1 hb => ?_
          rw [toGen_mk t.kind t.isCollapsed, shiftCounts_rel fuel _ _
            (by rw [show b1.size = s.bins.size from
              (addAt_size _ _ _ _ hb).trans (resetBins_frame _ _ _ _ ht).2.2]; exact hf), bind_toRes]
          exact optR_ok _ _ _ fun _ _ => rfl
        · exact decide_eq_true h2
      · rw [if_neg, if_neg h2, shiftCounts_rel fuel s _ hf, bind_toRes]
        · exact optR_toRes _ _ _ _ fun _ _ => rfl
        · exact mt of_decide_eq_true h2
  · rw [if_neg hw, if_neg hw, centerCounts_rel fuel s a b hf, bind_toRes]
    exact optR_ok _ _ _ fun t ht => by rw [toHigh, (centerCounts_frame s t a b ht).2.1]

/-! ### `extendRange` -/

theorem extendRange_rel (fuel : Nat) (n : Nat) (s : DStore) (a b : Int) (hk : s.kind = .high n)
    (hf : extendFuel s a b ≤ fuel) :
    Gen.Dense.CollapsingHighestDenseStore.extendRange fuel (toHigh (n : Int) s) a b
      = toRes (toHigh (n : Int)) (s.extendRange a b) := by
  unfold Gen.Dense.CollapsingHighestDenseStore.extendRange DStore.extendRange
  -- `-iota`: the pair `(newMaxIndex, s)` is bound by a `match` on an `if`, which is decided below
  simp -iota only [goMin_eq, goMax_eq, toHigh_DenseStore, toHigh_maxNumBins, toHigh_isCollapsed, toGen_minIndex,
    toGen_maxIndex, toGen_offset, toGen_bins, toGen_count, isEmpty_eq, len_toList,
    getNewLength_rel fuel n s _ _ hk, bind_toRes, Res.bind_ok_right, id, decide_eq_true_eq, Bool.and_eq_true,
    Option.bind_eq_bind, Option.pure_def]
  rw [hk, show s.len = (s.bins.size : Int) from rfl]
  by_cases h0 : s.count = 0
  · rw [if_pos ((isEmpty_iff_count s).2 h0), if_pos h0]
    refine optR_toRes _ _ _ _ fun L hL => ?_
    obtain ⟨d, hLd, hfd⟩ := getNewLength_fuel hk hL hf
    unfold DStore.grow
    rw [mkSlice_eq]
    by_cases hneg : L < 0
    · rw [if_pos hneg, if_pos hneg]
      rfl
    · rw [if_neg hneg, if_neg hneg, optR_some, Option.bind_some, ← Array.toList_append]
      by_cases hwide : L < max b s.maxIndex - min a s.minIndex + 1
      · simp only [if_pos hwide]
        refine .trans ?_ (adjust_rel fuel _ n _ _ _ hk (grow_fuel s.bins hLd hfd))
        rfl
      · simp only [if_neg hwide]
        refine .trans ?_ (adjust_rel fuel _ n _ _ _ hk (grow_fuel s.bins hLd hfd))
        rfl
  · rw [if_neg (mt (isEmpty_iff_count s).1 h0), if_neg h0]
    by_cases hin : s.offset ≤ min a s.minIndex ∧ max b s.maxIndex < s.offset + s.bins.size
    · rw [if_pos hin, if_pos hin]
      rfl
    · rw [if_neg hin, if_neg hin]
      refine optR_toRes _ _ _ _ fun L hL => ?_
      obtain ⟨d, hLd, hfd⟩ := getNewLength_fuel hk hL hf
      by_cases hgt : (s.bins.size : Int) < L
      · rw [if_pos hgt, if_pos hgt, DStore.grow, if_neg (by omega), Option.bind_some, append_replicate_toList]
        refine .trans ?_ (adjust_rel fuel _ n _ _ _ hk (grow_fuel s.bins (by omega) hfd))
        rfl
      · rw [if_neg hgt, if_neg hgt]
        exact adjust_rel fuel _ n s _ _ hk (by omega)

/-! ### `normalize`, `AddWithCount`, `Add`, `AddBin` -/

theorem normalize_rel (fuel : Nat) (n : Nat) (s : DStore) (i : Int) (hk : s.kind = .high n)
    (hf : extendFuel s i i ≤ fuel) :
    Gen.Dense.CollapsingHighestDenseStore.normalize fuel (toHigh (n : Int) s) i
      = toRes (fun p : DStore × Int => (toHigh (n : Int) p.1, p.2)) (s.normalize i) := by
  unfold Gen.Dense.CollapsingHighestDenseStore.normalize DStore.normalize
  rw [hk, extendRange_rel fuel n s i i hk hf]
  show (if decide (s.maxIndex < i) then if s.isCollapsed then _ else _ else if decide (i < s.minIndex) then _ else _) = _
  by_cases h1 : s.maxIndex < i
  · rw [if_pos (decide_eq_true h1)]
    simp only [if_pos (show i > s.maxIndex from h1)]
    by_cases hc : s.isCollapsed = true
    · rw [if_pos hc, if_pos hc]
      rfl
    · rw [if_neg hc, if_neg hc, bind_toRes]
      refine optR_toRes _ _ _ _ fun t _ => ?_
      show (if t.isCollapsed then _ else _) = _
      by_cases hc2 : t.isCollapsed = true
      · rw [if_pos hc2, if_pos hc2]
        rfl
      · rw [if_neg hc2, if_neg hc2]
        rfl
  · rw [if_neg (mt of_decide_eq_true h1)]
    simp only [if_neg (show ¬ i > s.maxIndex from h1)]
    by_cases h2 : i < s.minIndex
    · rw [if_pos (decide_eq_true h2), if_pos h2, bind_toRes]
      exact optR_toRes _ _ _ _ fun t _ => rfl
    · rw [if_neg (mt of_decide_eq_true h2), if_neg h2]
      rfl

theorem addWithCount_rel (fuel : Nat) (n : Nat) (s : DStore) (i : Int) (c : Rat) (hk : s.kind = .high n)
    (hf : extendFuel s i i ≤ fuel) :
    Gen.Dense.CollapsingHighestDenseStore.AddWithCount fuel (toHigh (n : Int) s) i c
      = toRes (toHigh (n : Int)) (s.addWithCount i c) := by
  unfold Gen.Dense.CollapsingHighestDenseStore.AddWithCount DStore.addWithCount
  by_cases h0 : c = 0
  · rw [if_pos (beq_iff_eq.2 h0), if_pos h0]
    rfl
  · rw [if_neg (mt beq_iff_eq.1 h0), if_neg h0, normalize_rel fuel n s i hk hf, bind_toRes]
    refine optR_toRes _ _ _ _ fun p _ => ?_
    simp only [toHigh_DenseStore, toGen_bins, addAt_toList, optR_map]
    exact optR_toRes _ _ _ _ fun _ _ => rfl

theorem add_rel (fuel : Nat) (n : Nat) (s : DStore) (i : Int) (hk : s.kind = .high n)
    (hf : extendFuel s i i ≤ fuel) :
    Gen.Dense.CollapsingHighestDenseStore.Add fuel (toHigh (n : Int) s) i
      = toRes (toHigh (n : Int)) (s.addWithCount i 1) := by
  unfold Gen.Dense.CollapsingHighestDenseStore.Add
  rw [Res.bind_ok_right, addWithCount_rel fuel n s i 1 hk hf]

theorem addBin_rel (fuel : Nat) (n : Nat) (s : DStore) (bin : Gen.Dense.Bin) (hk : s.kind = .high n)
    (hf : extendFuel s bin.index bin.index ≤ fuel) :
    Gen.Dense.CollapsingHighestDenseStore.AddBin fuel (toHigh (n : Int) s) bin
      = toRes (toHigh (n : Int)) (s.addWithCount bin.index bin.count) := by
  unfold Gen.Dense.CollapsingHighestDenseStore.AddBin Gen.Dense.Bin.Index Gen.Dense.Bin.Count
  by_cases h0 : bin.count = 0
  · rw [if_pos (beq_iff_eq.2 h0), DStore.addWithCount, if_pos h0]
    rfl
  · rw [if_neg (mt beq_iff_eq.1 h0), Res.bind_ok_right, addWithCount_rel fuel n s _ _ hk hf]

/-! ### `Copy`, `Clear`, constructor -/

theorem copy_eq (n : Int) (s : DStore) :
    Gen.Dense.CollapsingHighestDenseStore.Copy (toHigh n s) = toHigh n s := by
  simp [Gen.Dense.CollapsingHighestDenseStore.Copy, GoSem.copySlice, GoSem.len, toHigh, toGen]

theorem clear_rel (fuel : Nat) (n : Int) (s : DStore) :
    Gen.Dense.CollapsingHighestDenseStore.Clear fuel (toHigh n s) = .ok (toHigh n s.clear) := by
  unfold Gen.Dense.CollapsingHighestDenseStore.Clear
  rw [toHigh_DenseStore, GenDense.clear_rel]
  rfl

theorem new_eq (n : Nat) :
    Gen.Dense.NewCollapsingHighestDenseStore (n : Int) = toHigh (n : Int) (DStore.new (.high n)) := rfl

/-! ### `MergeWith` (same-type fast path): the steps of the merge fold commute and keep the size -/

/-- two `+=` on one array commute (also in their panics: the size does not change) -/
theorem addAt_comm (b : Array Rat) (p q : Int) (v w : Rat) :
    (addAt b p v).bind (fun b1 => addAt b1 q w) = (addAt b q w).bind (fun b2 => addAt b2 p v) := by
  by_cases hp : 0 ≤ p ∧ p < b.size
  · obtain ⟨b1, h1, hs1, hv1⟩ := addAt_eq b p v hp
    by_cases hq : 0 ≤ q ∧ q < b.size
    · obtain ⟨b2, h2, hs2, hv2⟩ := addAt_eq b q w hq
      obtain ⟨b12, h12, hs12, hv12⟩ := addAt_eq b1 q w (by omega)
      obtain ⟨b21, h21, hs21, hv21⟩ := addAt_eq b2 p v (by omega)
      rw [h1, h2, Option.bind_some, Option.bind_some, h12, h21]
      congr 1
      apply array_ext_at0 _ _ (by omega)
      intro j _ _
      rw [hv12, hv21, hv1, hv2, Rat.add_assoc, Rat.add_assoc, Rat.add_comm (if j = p then v else 0)]
    · rw [h1, addAt_none b q w hq, Option.bind_some, addAt_none b1 q w (by omega)]
      rfl
  · rw [addAt_none b p v hp]
    by_cases hq : 0 ≤ q ∧ q < b.size
    · obtain ⟨b2, h2, hs2, hv2⟩ := addAt_eq b q w hq
      rw [h2, Option.bind_some, addAt_none b2 p v (by omega)]
      rfl
    · rw [addAt_none b q w hq]
      rfl

theorem mergeStep_comm (o : DStore) (cell : Int → Int) (b : Array Rat) (x y : Int) :
    (mergeStep o cell b x).bind (fun b1 => mergeStep o cell b1 y)
      = (mergeStep o cell b y).bind (fun b2 => mergeStep o cell b2 x) := by
  unfold mergeStep
  cases rd o.bins (x - o.offset) with
  | none =>
    cases rd o.bins (y - o.offset) with
    | none => rfl
    | some w =>
      show none = (addAt b (cell y) w).bind fun _ => none
      cases addAt b (cell y) w <;> rfl
  | some v =>
    cases rd o.bins (y - o.offset) with
    | none =>
      show (addAt b (cell x) v).bind (fun _ => none) = none
      cases addAt b (cell x) v <;> rfl
    | some w => exact addAt_comm b _ _ v w

theorem mergeStep_size {o : DStore} {cell : Int → Int} {b b' : Array Rat} {idx : Int}
    (h : mergeStep o cell b idx = some b') : b'.size = b.size := by
  obtain ⟨c, _, hc⟩ := Option.bind_eq_some_iff.1 h
  exact addAt_size _ _ _ _ hc

/-- with commuting steps, the last element of the list can be processed first -/
theorem foldlM_snoc_comm {β : Type} (f : Array Rat → β → Option (Array Rat))
    (hcomm : ∀ b x y, (f b x).bind (fun b1 => f b1 y) = (f b y).bind (fun b2 => f b2 x))
    (l : List β) (x : β) : ∀ b : Array Rat,
    (l ++ [x]).foldlM f b = (f b x).bind (fun b' => l.foldlM f b') := by
  induction l with
  | nil =>
    intro b
    simp only [List.nil_append, List.foldlM_cons, List.foldlM_nil]
    cases f b x <;> rfl
  | cons y l ih =>
    intro b
    simp only [List.cons_append, List.foldlM_cons, Option.bind_eq_bind]
    have : ∀ b1, List.foldlM f b1 (l ++ [x]) = (f b1 x).bind (fun b' => l.foldlM f b') := ih
    simp only [this]
    rw [← Option.bind_assoc, hcomm b y x, Option.bind_assoc]

/-- … hence the list can be processed from its end -/
theorem foldlM_reverse_comm {β : Type} (f : Array Rat → β → Option (Array Rat))
    (hcomm : ∀ b x y, (f b x).bind (fun b1 => f b1 y) = (f b y).bind (fun b2 => f b2 x))
    (l : List β) : ∀ b : Array Rat, l.reverse.foldlM f b = l.foldlM f b := by
  induction l with
  | nil => intro b; rfl
  | cons x l ih =>
    intro b
    rw [List.reverse_cons, foldlM_snoc_comm f hcomm, List.foldlM_cons]
    exact congrArg _ (funext ih)

/-- the downward pass over the window of `o` computes the model's upward fold -/
theorem foldlM_from_top (f : Array Rat → Int → Option (Array Rat))
    (hcomm : ∀ b x y, (f b x).bind (fun b1 => f b1 y) = (f b y).bind (fun b2 => f b2 x))
    (lo hi : Int) (b : Array Rat) :
    (List.iterate (· - 1) hi (hi - lo + 1).toNat).foldlM f b = (idxRange lo hi).foldlM f b := by
  rw [(iterate_down _ hi).1, foldlM_reverse_comm f hcomm, idxRange_eq]
  by_cases hz : (hi - lo + 1).toNat = 0
  · rw [hz]
    rfl
  · rw [show hi - ((hi - lo + 1).toNat : Int) + 1 = lo by omega]

/-! ### `MergeWith`: the generated loops -/

theorem max_pred_lt {i mx lo : Int} : max mx (lo - 1) < i ↔ mx < i ∧ lo ≤ i := by omega

theorem iterate_down_add (a b : Nat) : ∀ i : Int,
    List.iterate (· - 1) i (a + b) = List.iterate (· - 1) i a ++ List.iterate (· - 1) (i - a) b := by
  induction a with
  | zero => intro i; rw [Nat.zero_add, Int.natCast_zero, Int.sub_zero]; rfl
  | succ a ih =>
    intro i
    rw [Nat.add_right_comm, iterate_cons, iterate_cons, ih, List.cons_append,
      show i - 1 - (a : Int) = i - ((a + 1 : Nat) : Int) by omega]

/-- first loop of `MergeWith`: the indexes of `o` above the window of `s` go to the last cell -/
theorem merge_loop2 (m m' : Int) (n : Nat) (o s : DStore) (hk : s.kind = .high n) (K : GHigh × Int → Res GHigh)
    (fuel : Nat) (b : Array Rat) (idx : Int) (hb : b.size = s.bins.size)
    (hf : (idx - max s.maxIndex (o.minIndex - 1)).toNat < fuel) :
    (Gen.Dense.CollapsingHighestDenseStore.MergeWith.loop2 (toHigh m' o) fuel (toHigh m { s with bins := b })
        idx).elim K =
      optR ((List.iterate (· - 1) idx (idx - max s.maxIndex (o.minIndex - 1)).toNat).foldlM
          (mergeStep o (mergeCell s)) b)
        fun b' => K (toHigh m { s with bins := b' }, idx - (idx - max s.maxIndex (o.minIndex - 1)).toNat) := by
  refine loop_down_elim _ (fun b => toHigh m { s with bins := b }) _
    (fun i => (i - max s.maxIndex (o.minIndex - 1)).toNat) (fun b _ => b.size = s.bins.size) (fun f b i h => ?_)
    (fun f b i k hb h => ⟨(toNat_sub_pred h).2, fun _ h' => (mergeStep_size h').trans hb, ?_⟩) K fuel b idx hb hf
  · rw [Gen.Dense.CollapsingHighestDenseStore.MergeWith.loop2, if_neg]
    rw [Bool.and_eq_true, decide_eq_true_eq, decide_eq_true_eq]
    exact mt max_pred_lt.2 (toNat_sub_zero h)
  · have hc := max_pred_lt.1 (toNat_sub_pred h).1
    rw [Gen.Dense.CollapsingHighestDenseStore.MergeWith.loop2, if_pos, mergeStep, mergeCell_high hk,
      if_pos hc.1, show s.len = ((b.size : Nat) : Int) by rw [hb]; rfl, ← len_toList]
    · exact addFrom_toList_L b o.bins _ _ _
    · rw [Bool.and_eq_true, decide_eq_true_eq, decide_eq_true_eq]
      exact hc

/-- second loop of `MergeWith`: the indexes of `o` inside the window of `s`, down to `o.minIndex + 1` -/
theorem merge_loop1 (m m' : Int) (n : Nat) (o s : DStore) (hk : s.kind = .high n) (K : GHigh × Int → Res GHigh)
    (fuel : Nat) (b : Array Rat) (idx : Int) (hi : idx ≤ max s.maxIndex o.minIndex)
    (hf : (idx - o.minIndex).toNat < fuel) :
    (Gen.Dense.CollapsingHighestDenseStore.MergeWith.loop1 (toHigh m' o) fuel (toHigh m { s with bins := b })
        idx).elim K =
      optR ((List.iterate (· - 1) idx (idx - o.minIndex).toNat).foldlM (mergeStep o (mergeCell s)) b)
        fun b' => K (toHigh m { s with bins := b' }, idx - (idx - o.minIndex).toNat) := by
  refine loop_down_elim _ (fun b => toHigh m { s with bins := b }) _ (fun i => (i - o.minIndex).toNat)
    (fun _ i => i ≤ max s.maxIndex o.minIndex) (fun f b i h => ?_)
    (fun f b i k hi h => ⟨(toNat_sub_pred h).2, fun _ _ => by omega, ?_⟩) K fuel b idx hi hf
  · rw [Gen.Dense.CollapsingHighestDenseStore.MergeWith.loop1]
    exact if_neg (mt of_decide_eq_true (toNat_sub_zero h))
  · have hc := (toNat_sub_pred h).1
    rw [Gen.Dense.CollapsingHighestDenseStore.MergeWith.loop1, if_pos, mergeStep, mergeCell_high hk,
      if_neg (by omega)]
    · exact addFrom_toList_L b o.bins _ _ _
    · exact decide_eq_true hc

/-- how the two loops and the last step share the window `[lo, hi]` of the argument, `mx` being the
    `maxIndex` of the receiver: the first loop takes `n2` indexes from the top; either that leaves some,
    of which the second loop takes all (`n1`) but the last — or it leaves none -/
theorem segments (lo hi mx : Int) :
    ∃ n2 n1 : Nat, n2 = (hi - max mx (lo - 1)).toNat ∧ n1 = (hi - n2 - lo).toNat ∧
      n2 ≤ (hi - lo + 1).toNat ∧ n1 ≤ (hi - lo + 1).toNat ∧ hi - n2 ≤ max mx lo ∧
      ((hi - lo + 1).toNat = n2 + (n1 + 1) ∧ hi - n2 - n1 = lo ∧ ¬ hi - n2 - n1 > mx ∨
        (hi - lo + 1).toNat = n2 ∧ n1 = 0 ∧ hi - n2 ≠ lo) := by
  refine ⟨(hi - max mx (lo - 1)).toNat, (hi - (hi - max mx (lo - 1)).toNat - lo).toNat, rfl, rfl, ?_⟩
  generalize hn2 : (hi - max mx (lo - 1)).toNat = n2
  have h2 : n2 ≤ (hi - lo + 1).toNat ∧ hi - n2 ≤ max mx lo ∧ (lo ≤ hi - n2 → lo ≤ mx) := by omega
  clear hn2
  by_cases he : lo ≤ hi - n2
  · have hn1 : ((hi - n2 - lo).toNat : Int) = hi - n2 - lo := Int.toNat_of_nonneg (by omega)
    have hW : ((hi - lo + 1).toNat : Int) = hi - lo + 1 := Int.toNat_of_nonneg (by omega)
    generalize (hi - n2 - lo).toNat = n1 at hn1 ⊢
    generalize (hi - lo + 1).toNat = W at h2 hW ⊢
    exact ⟨h2.1, by omega, h2.2.1, .inl ⟨by omega, by omega, by have := h2.2.2 he; omega⟩⟩
  · have hn1 : (hi - n2 - lo).toNat = 0 := Int.toNat_eq_zero.2 (by omega)
    rw [hn1]
    exact ⟨h2.1, Nat.zero_le _, h2.2.1, .inr ⟨by omega, rfl, by omega⟩⟩

/-- fuel for `MergeWith`: the `extendRange` call and the loops over `[o.minIndex, o.maxIndex]` -/
def mergeFuel (s o : DStore) : Nat :=
  max (extendFuel s o.minIndex o.maxIndex) ((o.maxIndex - o.minIndex + 1).toNat + 1)

/-- `MergeWith` of two highest-collapsing stores (any two limits `n`, `m`): the generated code, whose
    loops run DOWNWARDS from `o.maxIndex`, equals the model's single upward fold — result and panics. -/
theorem mergeWith_rel (fuel : Nat) (n : Nat) (m : Int) (s o : DStore) (hk : s.kind = .high n)
    (hf : mergeFuel s o ≤ fuel) :
    Gen.Dense.CollapsingHighestDenseStore.MergeWith fuel (toHigh (n : Int) s) (toHigh m o)
      = toRes (toHigh (n : Int)) (s.mergeSame o) := by
  unfold Gen.Dense.CollapsingHighestDenseStore.MergeWith
  refine mergeWith_frame (toHigh n) s o _ _ (.high n) hk
    (extendRange_rel fuel n s _ _ hk (Nat.le_trans (Nat.le_max_left _ _) hf)) fun s hk => ?_
  -- after `extendRange`, the model's fold taken from the top: the first loop, …
  obtain ⟨n2, n1, hn2, hn1, hle2, hle1, hi1, h⟩ := segments o.minIndex o.maxIndex s.maxIndex
  have hlt : (o.maxIndex - o.minIndex + 1).toNat < fuel := Nat.lt_of_succ_le (Nat.le_trans (Nat.le_max_right _ _) hf)
  unfold mergeFold
  rw [toRes_bind_some, ← foldlM_from_top _ (mergeStep_comm o (mergeCell s))]
  refine (merge_loop2 n m n o s hk _ fuel s.bins o.maxIndex rfl (hn2 ▸ Nat.lt_of_le_of_lt hle2 hlt)).trans ?_
  rw [← hn2]
  rcases h with ⟨hW, hfin, hle⟩ | ⟨hW, h10, hne⟩
  · -- … the second loop and the last step
    rw [hW, iterate_down_add, List.foldlM_append]
    refine optR_toRes _ _ _ _ fun b2 _ => ?_
    refine (merge_loop1 n m n o s hk _ fuel b2 (o.maxIndex - n2) hi1
      (hn1 ▸ Nat.lt_of_le_of_lt hle1 hlt)).trans ?_
    rw [← hn1, iterate_down_add, List.foldlM_append]
    refine optR_toRes _ _ _ _ fun b1 _ => ?_
    show (if (_ == o.minIndex) = true then _ else _) = _
    rw [if_pos (beq_iff_eq.2 hfin), show List.iterate (· - 1) (o.maxIndex - n2 - n1) 1 = [_] from rfl, foldlM_one,
      mergeStep, mergeCell_high hk, if_neg hle]
    exact (addFrom_toList b1 o.bins _ _ _).trans (optR_ok _ _ _ fun _ _ => rfl)
  · -- … which has taken all indexes: the second loop and the last step do nothing
    rw [hW]
    refine optR_ok _ _ _ fun b2 _ => ?_
    refine (merge_loop1 n m n o s hk _ fuel b2 (o.maxIndex - n2) hi1
      (hn1 ▸ Nat.lt_of_le_of_lt hle1 hlt)).trans ?_
    rw [← hn1, h10, Int.natCast_zero, Int.sub_zero]
    show (if (_ == o.minIndex) = true then _ else _) = _
    rw [if_neg (mt beq_iff_eq.1 hne)]
    rfl

/-! ### enough fuel exists; the statements through `RRel` -/

theorem adjust_ex (n : Nat) (s : DStore) (a b : Int) (hk : s.kind = .high n) :
    ∃ f0, ∀ fuel, f0 ≤ fuel →
      Gen.Dense.CollapsingHighestDenseStore.adjust fuel (toHigh (n : Int) s) a b
        = toRes (toHigh (n : Int)) (s.adjust a b) :=
  ⟨_, fun fuel hf => adjust_rel fuel n n s a b hk hf⟩

theorem extendRange_ex (n : Nat) (s : DStore) (a b : Int) (hk : s.kind = .high n) :
    ∃ f0, ∀ fuel, f0 ≤ fuel →
      Gen.Dense.CollapsingHighestDenseStore.extendRange fuel (toHigh (n : Int) s) a b
        = toRes (toHigh (n : Int)) (s.extendRange a b) :=
  ⟨_, fun fuel hf => extendRange_rel fuel n s a b hk hf⟩

theorem addWithCount_ex (n : Nat) (s : DStore) (i : Int) (c : Rat) (hk : s.kind = .high n) :
    ∃ f0, ∀ fuel, f0 ≤ fuel →
      Gen.Dense.CollapsingHighestDenseStore.AddWithCount fuel (toHigh (n : Int) s) i c
        = toRes (toHigh (n : Int)) (s.addWithCount i c) :=
  ⟨_, fun fuel hf => addWithCount_rel fuel n s i c hk hf⟩

theorem mergeWith_ex (n : Nat) (m : Int) (s o : DStore) (hk : s.kind = .high n) :
    ∃ f0, ∀ fuel, f0 ≤ fuel →
      Gen.Dense.CollapsingHighestDenseStore.MergeWith fuel (toHigh (n : Int) s) (toHigh m o)
        = toRes (toHigh (n : Int)) (s.mergeSame o) :=
  ⟨_, fun fuel hf => mergeWith_rel fuel n m s o hk hf⟩

theorem addWithCount_RRel (fuel : Nat) (n : Nat) (s : DStore) (i : Int) (c : Rat) (hk : s.kind = .high n)
    (hf : extendFuel s i i ≤ fuel) :
    RRel (toHigh (n : Int)) (s.addWithCount i c)
      (Gen.Dense.CollapsingHighestDenseStore.AddWithCount fuel (toHigh (n : Int) s) i c) :=
  addWithCount_rel fuel n s i c hk hf

theorem mergeWith_RRel (fuel : Nat) (n : Nat) (m : Int) (s o : DStore) (hk : s.kind = .high n)
    (hf : mergeFuel s o ≤ fuel) :
    RRel (toHigh (n : Int)) (s.mergeSame o)
      (Gen.Dense.CollapsingHighestDenseStore.MergeWith fuel (toHigh (n : Int) s) (toHigh m o)) :=
  mergeWith_rel fuel n m s o hk hf

end DDS.GenHigh
