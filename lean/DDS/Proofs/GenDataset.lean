/-
  DDS.Proofs.GenDataset — the REGENERATED `dataset.Dataset` (`DDS/Generated/CodeDataset.lean`,
  translated from `/repo/dataset/dataset.go` on every run) equals the HAND-WRITTEN model
  `DDS.Dataset` (`DDS/Model/Dataset.lean`), method by method, on the model's domain: datasets all
  of whose values are finite floats.

  * `toGen` embeds a model dataset (values : List Rat) into the generated structure
    (Values : List F64) by `F64.fin`; `ofGen` is its partial inverse, total on `AllFin` datasets
    (`toGen_ofGen`), so a statement `∀ d, P (toGen d)` is a statement about every generated dataset
    with finite values (`forall_gen`).
  * `sortFloat64s_fin`: on finite values Go's `sort.Float64s` order (`!float64Less b a`, NaNs
    first) is `decide (a ≤ b)`, and the two stable merge sorts produce the same list.
  * the queries return `Res (Dataset × F64)` in the generated code and `Dataset × QRes` in the
    model; `qres` is the translation (`.val v ↦ .ok (_, fin v)`, `.nan ↦ .ok (_, nan)`,
    `.panic ↦ .panic`; the state that the model still carries along a panic is dropped).
  * every generated method takes a `fuel` argument and none has a fuel-consuming loop (the two
    `range` loops recurse on the list): all theorems hold for EVERY fuel, `nofuel` is never returned
    (`qres_ne_nofuel`, `sum_eq`, `merge_eq`).

  No disagreement between the generated code and the model was found on the model's domain: all the
  equations below are unconditional in `d : DDS.Dataset`, the query `q : F64` (any float, NaN and
  infinities included) and `fuel`.

  Core Lean only.
-/
import DDS.Generated.CodeDataset
import DDS.Model.Dataset
import DDS.Proofs.GenStat

namespace DDS.GenDataset

open DDS DDS.GoSem

abbrev GD := DDS.Gen.Dataset.Dataset

/-! ### the embedding -/

def toGen (d : Dataset) : GD :=
  { Values := d.values.map F64.fin, Count := d.count, sorted := d.sorted }

/-- the rational of a finite float (0 elsewhere: outside the model) -/
def finVal : F64 → Rat
  | .fin q => q
  | _ => 0

def ofGen (g : GD) : Dataset :=
  { values := g.Values.map finVal, count := g.Count, sorted := g.sorted }

/-- the model's domain: every stored value is a finite float -/
def AllFin (g : GD) : Prop := ∀ x ∈ g.Values, x.isFinite = true

@[simp] theorem toGen_Values (d : Dataset) : (toGen d).Values = d.values.map F64.fin := rfl
@[simp] theorem toGen_Count (d : Dataset) : (toGen d).Count = d.count := rfl
@[simp] theorem toGen_sorted (d : Dataset) : (toGen d).sorted = d.sorted := rfl

theorem finVal_fin (q : Rat) : finVal (.fin q) = q := rfl

theorem fin_finVal {x : F64} (h : x.isFinite = true) : F64.fin (finVal x) = x := by
  cases x <;> first | rfl | cases h

theorem map_finVal_map_fin (l : List Rat) : (l.map F64.fin).map finVal = l := by
  induction l with
  | nil => rfl
  | cons a l ih => simp only [List.map_cons, ih, finVal_fin]

theorem map_fin_map_finVal (l : List F64) (h : ∀ x ∈ l, x.isFinite = true) :
    (l.map finVal).map F64.fin = l := by
  induction l with
  | nil => rfl
  | cons a l ih =>
    simp only [List.map_cons]
    rw [fin_finVal (h a (List.mem_cons_self ..)), ih (fun x hx => h x (List.mem_cons_of_mem _ hx))]

theorem ofGen_toGen (d : Dataset) : ofGen (toGen d) = d := by
  cases d with | mk v c s =>
  simp only [ofGen, toGen, map_finVal_map_fin]

theorem toGen_ofGen (g : GD) (h : AllFin g) : toGen (ofGen g) = g := by
  cases g with | mk v c s =>
  simp only [ofGen, toGen, map_fin_map_finVal v h]

theorem allFin_toGen (d : Dataset) : AllFin (toGen d) := by
  intro x hx
  simp only [toGen_Values, List.mem_map] at hx
  obtain ⟨a, _, rfl⟩ := hx
  rfl

theorem toGen_injective {a b : Dataset} (h : toGen a = toGen b) : a = b := by
  have := congrArg ofGen h
  rwa [ofGen_toGen, ofGen_toGen] at this

theorem allFin_iff (g : GD) : AllFin g ↔ ∃ d, g = toGen d :=
  ⟨fun h => ⟨ofGen g, (toGen_ofGen g h).symm⟩, fun ⟨d, e⟩ => e ▸ allFin_toGen d⟩

theorem forall_gen {P : GD → Prop} (h : ∀ d : Dataset, P (toGen d)) (g : GD) (hg : AllFin g) : P g := by
  rw [← toGen_ofGen g hg]; exact h _

/-! ### `NewDataset`, `Add` -/

theorem new_eq : Gen.Dataset.NewDataset = toGen Dataset.new := rfl

theorem add_eq (d : Dataset) (v : Rat) :
    Gen.Dataset.Dataset.Add (toGen d) (.fin v) = toGen (d.add v) := by
  simp only [Gen.Dataset.Dataset.Add, toGen, Dataset.add, List.map_append, List.map_cons,
    List.map_nil, F64.one]

theorem allFin_add (g : GD) (h : AllFin g) (v : Rat) : AllFin (Gen.Dataset.Dataset.Add g (.fin v)) := by
  intro x hx
  simp only [Gen.Dataset.Dataset.Add, List.mem_append, List.mem_cons, List.not_mem_nil, or_false] at hx
  rcases hx with hx | rfl
  · exact h x hx
  · rfl

theorem foldl_add_eq (l : List Rat) (d : Dataset) :
    l.foldl (fun g v => Gen.Dataset.Dataset.Add g (.fin v)) (toGen d) = toGen (l.foldl Dataset.add d) := by
  induction l generalizing d with
  | nil => rfl
  | cons x l ih => simp only [List.foldl_cons]; rw [add_eq, ih]

/-! ### `sort` -/

theorem leF_fin (a b : Rat) : (!float64Less (.fin b) (.fin a)) = decide (a ≤ b) := by
  unfold float64Less
  simp only [F64.lt, F64.isNaN, Bool.false_and, Bool.or_false]
  by_cases h : a ≤ b
  · have : ¬ b < a := Rat.not_lt.mpr h
    simp [h, this]
  · have : b < a := Rat.not_le.mp h
    simp [h, this]

theorem sortFloat64s_fin (l : List Rat) :
    sortFloat64s (l.map F64.fin) = (l.mergeSort (fun a b => decide (a ≤ b))).map F64.fin := by
  unfold sortFloat64s
  exact (List.map_mergeSort (s := fun a b : F64 => !float64Less b a)
    (fun a _ b _ => (leF_fin a b).symm)).symm

theorem sort_eq (d : Dataset) : Gen.Dataset.Dataset.sort (toGen d) = toGen d.sort := by
  unfold Gen.Dataset.Dataset.sort Dataset.sort
  cases hs : d.sorted
  · simp only [toGen_sorted, hs, Bool.false_eq_true, if_false, toGen_Values, sortFloat64s_fin]
    simp only [toGen, hs]
  · simp only [toGen_sorted, hs, if_true]

theorem allFin_sort (g : GD) (h : AllFin g) : AllFin (Gen.Dataset.Dataset.sort g) := by
  obtain ⟨d, rfl⟩ := (allFin_iff g).mp h
  rw [sort_eq]; exact allFin_toGen _

/-! ### results of queries -/

/-- the generated reading of a model answer -/
def qres : Dataset × Dataset.QRes → Res (GD × F64)
  | (d, .nan) => .ok (toGen d, .nan)
  | (d, .val v) => .ok (toGen d, .fin v)
  | (_, .panic) => .panic

theorem qres_nan {p : Dataset × Dataset.QRes} (h : p.2 = .nan) : qres p = .ok (toGen p.1, .nan) := by
  obtain ⟨d, r⟩ := p; cases h; rfl

theorem qres_val {p : Dataset × Dataset.QRes} {v : Rat} (h : p.2 = .val v) :
    qres p = .ok (toGen p.1, .fin v) := by
  obtain ⟨d, r⟩ := p; cases h; rfl

theorem qres_panic {p : Dataset × Dataset.QRes} (h : p.2 = .panic) : qres p = .panic := by
  obtain ⟨d, r⟩ := p; cases h; rfl

theorem qres_ne_nofuel (p : Dataset × Dataset.QRes) : qres p ≠ .nofuel := by
  obtain ⟨d, r⟩ := p; cases r <;> simp [qres]

theorem qres_eq_panic_iff (p : Dataset × Dataset.QRes) : qres p = .panic ↔ p.2 = .panic := by
  obtain ⟨d, r⟩ := p; cases r <;> simp [qres]

theorem qres_eq_ok_fin_iff (p : Dataset × Dataset.QRes) (g : GD) (v : Rat) :
    qres p = .ok (g, .fin v) ↔ g = toGen p.1 ∧ p.2 = .val v := by
  obtain ⟨d, r⟩ := p
  cases r <;> simp [qres, eq_comm]

theorem qres_eq_ok_nan_iff (p : Dataset × Dataset.QRes) (g : GD) :
    qres p = .ok (g, .nan) ↔ g = toGen p.1 ∧ p.2 = .nan := by
  obtain ⟨d, r⟩ := p
  cases r <;> simp [qres, eq_comm]

/-- an `.ok` answer is NaN or finite, never an infinity -/
theorem qres_ok_cases (p : Dataset × Dataset.QRes) (g : GD) (x : F64) (h : qres p = .ok (g, x)) :
    g = toGen p.1 ∧ (x = .nan ∧ p.2 = .nan ∨ ∃ v, x = .fin v ∧ p.2 = .val v) := by
  obtain ⟨d, r⟩ := p
  cases r with
  | nan => simp only [qres, Res.ok.injEq, Prod.mk.injEq] at h; exact ⟨h.1.symm, .inl ⟨h.2.symm, rfl⟩⟩
  | val v => simp only [qres, Res.ok.injEq, Prod.mk.injEq] at h; exact ⟨h.1.symm, .inr ⟨v, h.2.symm, rfl⟩⟩
  | panic => simp [qres] at h

/-- only the answer (the state dropped) -/
def ans {α β} : Res (α × β) → Res β
  | .ok p => .ok p.2
  | .panic => .panic
  | .nofuel => .nofuel

/-- the generated reading of a model answer, state dropped -/
def qans : Dataset.QRes → Res F64
  | .nan => .ok .nan
  | .val v => .ok (.fin v)
  | .panic => .panic

theorem ans_qres (p : Dataset × Dataset.QRes) : ans (qres p) = qans p.2 := by
  obtain ⟨d, r⟩ := p; cases r <;> rfl

theorem qans_injective {a b : Dataset.QRes} (h : qans a = qans b) : a = b := by
  cases a <;> cases b <;> simp [qans] at h <;> first | rfl | (rw [h])

/-! ### indexing, float → int -/

theorem idx_map_fin (l : List Rat) (i : Int) :
    idx (l.map F64.fin) i = (Dataset.at? l i).map F64.fin := by
  unfold idx Dataset.at?
  by_cases h : i < 0
  · rw [if_pos h, if_neg (by omega)]; rfl
  · rw [if_neg h, if_pos (by omega), List.getElem?_map]

/-- a checked read of the slice, the state carried along -/
theorem index_eq (d : Dataset) (i : Int) :
    optR (idx (toGen d).Values i) (fun t1 => Res.ok (toGen d, t1)) =
      qres (d, match Dataset.at? d.values i with | some v => .val v | none => .panic) := by
  rw [toGen_Values, idx_map_fin]
  cases Dataset.at? d.values i <;> rfl

/-- `int(x)` of an integral finite float is that integer (never the undefined case) -/
theorem truncToInt_intCast (n : Int) : F64.truncToInt (.fin (n : Rat)) = some n := by
  unfold F64.truncToInt
  simp only
  split
  · rw [Rat.floor_intCast]
  · rw [← Rat.intCast_neg, Rat.floor_intCast, Int.neg_neg]

theorem truncToInt_floor_fin (r : Rat) : F64.truncToInt (F64.floor (.fin r)) = some r.floor :=
  truncToInt_intCast _

theorem fceil_fin (r : Rat) : fceil (.fin r) = .fin ((r.ceil : Int) : Rat) := by
  unfold fceil
  simp only [F64.neg, F64.floor]
  rw [Rat.ceil_eq_neg_floor_neg, Rat.intCast_neg]

theorem truncToInt_fceil_fin (r : Rat) : F64.truncToInt (fceil (.fin r)) = some r.ceil := by
  rw [fceil_fin]; exact truncToInt_intCast _

theorem truncToInt_floor_nonfin (x : F64) (h : ∀ r, x ≠ .fin r) : F64.truncToInt (F64.floor x) = none := by
  cases x with
  | fin r => exact absurd rfl (h r)
  | _ => rfl

theorem truncToInt_fceil_nonfin (x : F64) (h : ∀ r, x ≠ .fin r) : F64.truncToInt (fceil x) = none := by
  cases x with
  | fin r => exact absurd rfl (h r)
  | _ => rfl

/-! ### the guard -/

theorem guard_eq (d : Dataset) (q : F64) :
    ((((F64.lt q (F64.fin (0 : Rat))) || (F64.lt (F64.fin (1 : Rat)) q)) || (F64.isNaN q)) ||
      (F64.eq (toGen d).Count (F64.fin (0 : Rat)))) = d.rejects q := by
  unfold Dataset.rejects F64.gt
  rw [toGen_Count]
  generalize F64.lt q (.fin 0) = a
  generalize F64.lt (.fin 1) q = b
  generalize F64.isNaN q = c
  generalize F64.eq d.count (.fin 0) = e
  cases a <;> cases b <;> cases c <;> cases e <;> rfl

/-! ### `LowerQuantile`, `Quantile`, `UpperQuantile` -/

theorem lower_tail (d : Dataset) (rk : F64) :
    optR (F64.truncToInt (F64.floor rk)) (fun t2 =>
      optR (idx (toGen d).Values t2) (fun t1 => Res.ok (toGen d, t1))) =
    qres (match rk with
      | .fin r => (d, match Dataset.at? d.values r.floor with | some v => .val v | none => .panic)
      | _ => (d, .panic)) := by
  cases rk with
  | fin r => rw [truncToInt_floor_fin, optR_some]; exact index_eq d _
  | _ => rfl

theorem upper_tail (d : Dataset) (rk : F64) :
    optR (F64.truncToInt (fceil rk)) (fun t2 =>
      optR (idx (toGen d).Values t2) (fun t1 => Res.ok (toGen d, t1))) =
    qres (match rk with
      | .fin r => (d, match Dataset.at? d.values r.ceil with | some v => .val v | none => .panic)
      | _ => (d, .panic)) := by
  cases rk with
  | fin r => rw [truncToInt_fceil_fin, optR_some]; exact index_eq d _
  | _ => rfl

/-- `LowerQuantile`: same guard, same sort, same float rank, same checked conversion and index -/
theorem lowerQuantile_eq (fuel : Nat) (d : Dataset) (q : F64) :
    Gen.Dataset.Dataset.LowerQuantile fuel (toGen d) q = qres (d.lowerQuantile q) := by
  unfold Gen.Dataset.Dataset.LowerQuantile Dataset.lowerQuantile
  rw [guard_eq]
  by_cases h : d.rejects q = true
  · rw [if_pos h, if_pos h]; rfl
  · rw [if_neg h, if_neg h]
    simp only [sort_eq]
    exact lower_tail d.sort (d.sort.rank q)

theorem upperQuantile_eq (fuel : Nat) (d : Dataset) (q : F64) :
    Gen.Dataset.Dataset.UpperQuantile fuel (toGen d) q = qres (d.upperQuantile q) := by
  unfold Gen.Dataset.Dataset.UpperQuantile Dataset.upperQuantile
  rw [guard_eq]
  by_cases h : d.rejects q = true
  · rw [if_pos h, if_pos h]; rfl
  · rw [if_neg h, if_neg h]
    simp only [sort_eq]
    exact upper_tail d.sort (d.sort.rank q)

/-- `Quantile` is `LowerQuantile` (for every receiver, in the domain or not) -/
theorem quantile_eq_lower (fuel : Nat) (g : GD) (q : F64) :
    Gen.Dataset.Dataset.Quantile fuel g q = Gen.Dataset.Dataset.LowerQuantile fuel g q := by
  unfold Gen.Dataset.Dataset.Quantile
  cases Gen.Dataset.Dataset.LowerQuantile fuel g q <;> rfl

theorem quantile_eq (fuel : Nat) (d : Dataset) (q : F64) :
    Gen.Dataset.Dataset.Quantile fuel (toGen d) q = qres (d.lowerQuantile q) := by
  rw [quantile_eq_lower, lowerQuantile_eq]

/-! ### `Min`, `Max` -/

theorem at?_zero (l : List Rat) : Dataset.at? l 0 = l.head? := by
  unfold Dataset.at?
  rw [if_pos (by omega), List.head?_eq_getElem?]; rfl

theorem at?_last (l : List Rat) : Dataset.at? l (len l - 1) = l.getLast? := by
  unfold Dataset.at? len
  cases l with
  | nil => rfl
  | cons a t =>
    rw [if_pos (by simp only [List.length_cons]; omega), List.getLast?_eq_getElem?]
    congr 1
    simp only [List.length_cons]; omega

theorem len_map_fin (l : List Rat) : len (l.map F64.fin) = len l := by
  unfold len; rw [List.length_map]

theorem min_eq (fuel : Nat) (d : Dataset) :
    Gen.Dataset.Dataset.Min fuel (toGen d) = qres d.min := by
  unfold Gen.Dataset.Dataset.Min Dataset.min
  simp only [sort_eq]
  rw [index_eq, at?_zero]
  rfl

theorem max_eq (fuel : Nat) (d : Dataset) :
    Gen.Dataset.Dataset.Max fuel (toGen d) = qres d.max := by
  unfold Gen.Dataset.Dataset.Max Dataset.max
  simp only [sort_eq]
  rw [toGen_Values, len_map_fin, ← toGen_Values, index_eq, at?_last]
  rfl

/-! ### `Sum` (Kahan fold through the regenerated statistics) -/

theorem sum_loop (l : List F64) (s : Gen.Stat.SummaryStatistics) :
    Gen.Dataset.Dataset.Sum.loop1 l s =
      .done (l.foldl (fun s v => Gen.Stat.SummaryStatistics.Add s v (.fin 1)) s) := by
  induction l generalizing s with
  | nil => rfl
  | cons v l ih => simp only [Gen.Dataset.Dataset.Sum.loop1, List.foldl_cons]; exact ih _

theorem stat_fold_eq (l : List Rat) (s : Gen.Stat.SummaryStatistics) :
    GenStat.toModel ((l.map F64.fin).foldl (fun s v => Gen.Stat.SummaryStatistics.Add s v (.fin 1)) s) =
      l.foldl (fun (s : Summary) v => s.add (.fin v) F64.one) (GenStat.toModel s) := by
  induction l generalizing s with
  | nil => rfl
  | cons v l ih =>
    simp only [List.map_cons, List.foldl_cons]
    rw [ih, GenStat.add_eq]; rfl

theorem sum_eq (fuel : Nat) (d : Dataset) :
    Gen.Dataset.Dataset.Sum fuel (toGen d) = .ok d.sum := by
  unfold Gen.Dataset.Dataset.Sum Dataset.sum
  simp only [sum_loop, Loop.elim_done, toGen_Values]
  rw [GenStat.sum_eq, stat_fold_eq, GenStat.new_eq]

/-! ### `Merge` -/

theorem merge_loop (l : List F64) (g : GD) :
    Gen.Dataset.Dataset.Merge.loop1 l g = .done (l.foldl Gen.Dataset.Dataset.Add g) := by
  induction l generalizing g with
  | nil => rfl
  | cons v l ih => simp only [Gen.Dataset.Dataset.Merge.loop1, List.foldl_cons]; exact ih _

/-- `Merge(o)` is `Add` of every value of `o` in order, for EVERY pair of generated datasets (finite
    or not) and every fuel -/
theorem merge_foldl (fuel : Nat) (g o : GD) :
    Gen.Dataset.Dataset.Merge fuel g o = .ok (o.Values.foldl Gen.Dataset.Dataset.Add g) := by
  unfold Gen.Dataset.Dataset.Merge
  rw [merge_loop, Loop.elim_done]

theorem merge_eq (fuel : Nat) (d o : Dataset) :
    Gen.Dataset.Dataset.Merge fuel (toGen d) (toGen o) = .ok (toGen (d.merge o)) := by
  rw [merge_foldl, toGen_Values, List.foldl_map]
  unfold Dataset.merge
  rw [← foldl_add_eq]

/-! ### fuel is irrelevant -/

/-- no method of the generated dataset looks at its fuel -/
theorem fuel_irrelevant (f₁ f₂ : Nat) (g o : GD) (q : F64) :
    Gen.Dataset.Dataset.LowerQuantile f₁ g q = Gen.Dataset.Dataset.LowerQuantile f₂ g q ∧
    Gen.Dataset.Dataset.Quantile f₁ g q = Gen.Dataset.Dataset.Quantile f₂ g q ∧
    Gen.Dataset.Dataset.UpperQuantile f₁ g q = Gen.Dataset.Dataset.UpperQuantile f₂ g q ∧
    Gen.Dataset.Dataset.Min f₁ g = Gen.Dataset.Dataset.Min f₂ g ∧
    Gen.Dataset.Dataset.Max f₁ g = Gen.Dataset.Dataset.Max f₂ g ∧
    Gen.Dataset.Dataset.Sum f₁ g = Gen.Dataset.Dataset.Sum f₂ g ∧
    Gen.Dataset.Dataset.Merge f₁ g o = Gen.Dataset.Dataset.Merge f₂ g o :=
  ⟨rfl, rfl, rfl, rfl, rfl, rfl, rfl⟩

/-- … and none of them ever runs out of it (on the domain) -/
theorem never_nofuel (fuel : Nat) (d o : Dataset) (q : F64) :
    Gen.Dataset.Dataset.LowerQuantile fuel (toGen d) q ≠ .nofuel ∧
    Gen.Dataset.Dataset.Quantile fuel (toGen d) q ≠ .nofuel ∧
    Gen.Dataset.Dataset.UpperQuantile fuel (toGen d) q ≠ .nofuel ∧
    Gen.Dataset.Dataset.Min fuel (toGen d) ≠ .nofuel ∧
    Gen.Dataset.Dataset.Max fuel (toGen d) ≠ .nofuel ∧
    Gen.Dataset.Dataset.Sum fuel (toGen d) ≠ .nofuel ∧
    Gen.Dataset.Dataset.Merge fuel (toGen d) (toGen o) ≠ .nofuel := by
  rw [lowerQuantile_eq, quantile_eq, upperQuantile_eq, min_eq, max_eq, sum_eq, merge_eq]
  exact ⟨qres_ne_nofuel _, qres_ne_nofuel _, qres_ne_nofuel _, qres_ne_nofuel _, qres_ne_nofuel _,
    by simp, by simp⟩

end DDS.GenDataset
