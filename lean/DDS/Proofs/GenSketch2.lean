/-
  DDS.Proofs.GenSketch2 — the METHOD-BY-METHOD EQUIVALENCE THEOREMS announced in
  `DDS/Proofs/GenSketch.lean`: every method of the REGENERATED `DDSketch` /
  `DDSketchWithExactSummaryStatistics` (`DDS/Generated/CodeSketch.lean`), instantiated with the
  model's mapping oracle and stores, equals the corresponding operation of the hand-written model
  `DDS.Sketch` / `DDS.XSketch`, for ALL inputs.  Where the model answers `none` (Go panics / outside
  the model) nothing is claimed; where it answers `some …` the generated code returns exactly the
  corresponding Go pair.

  How the proofs go: a model operation and its generated method test the same booleans in the same order.
  The generated side is first put into the model's vocabulary (`toGen_*`, `map_*`, `store_*`: with `rw`,
  which also rewrites the `Decidable` instance of each `if`; `simp`/`dsimp` would leave the instances behind
  and the next step would fail); then each boolean is decided in turn (`cases` on the `Bool` term replaces it
  on both sides at once) and every leaf holds by evaluation.

  Core Lean only.
-/
import DDS.Proofs.GenSketch

namespace DDS.GenSketch

open DDS DDS.GoSem DDS.Gen.Sketch

/-! ### small facts -/

theorem named_ne_nil (m : String) : (GoErr.named m != GoErr.nil) = true := by
  simp

/-- the validity test of a quantile, as the model writes it and as the Go code writes it -/
theorem quantile_guard (q : F64) :
    (!(F64.le (.fin 0) q && F64.le q (.fin 1))) =
      ((F64.lt q (.fin 0) || F64.lt (.fin 1) q) || F64.isNaN q) := by
  cases q with
  | fin r =>
    rw [Bool.eq_iff_iff]
    simp [F64.le_fin, F64.lt, F64.isNaN, ← Rat.not_le]
  | _ => rfl

/-! ### plain sketch: constructor, copy, clear, observers -/

theorem NewDDSketch_eq (env : MapEnv) (m : Option MapId) (k : StoreKind) :
    NewDDSketch env (Store.new k) (Store.new k) = toGen env (Sketch.new m k) := rfl

theorem NewDDSketch_eq' (env : MapEnv) (m : Option MapId) (p n : Store) :
    NewDDSketch env p n = toGen env { mapping := m, pos := p, neg := n, zero := .fin 0 } := rfl

theorem Copy_eq (env : MapEnv) (s : Sketch) : DDSketch.Copy (toGen env s) = toGen env s := rfl

theorem Clear_eq (env : MapEnv) (s : Sketch) : DDSketch.Clear (toGen env s) = toGen env s.clear := rfl

theorem GetCount_eq (env : MapEnv) (s : Sketch) : DDSketch.GetCount (toGen env s) = s.getCount := rfl

theorem GetZeroCount_eq (env : MapEnv) (s : Sketch) : DDSketch.GetZeroCount (toGen env s) = s.zero := rfl

theorem IsEmpty_eq (env : MapEnv) (s : Sketch) : DDSketch.IsEmpty (toGen env s) = s.isEmpty := rfl

/-! ### `AddWithCount`, `Add` -/

/-- one store takes `(i, c)`: where the model panics or the count is not finite nothing is claimed; otherwise the
    instance's `AddWithCount` returns the model's store -/
theorem StepRel.addF (env : MapEnv) (s : Sketch) (st : Store) (i : Int) (c : F64) (f : Store → Sketch) :
    StepRel env s (do let w ← Sketch.ratOf? c; let p ← st.addWithCount i w; pure (.ok (f p)))
      (toGen env (f (storeAddF st i c)), GoErr.nil) := by
  cases c with
  | fin w =>
    show StepRel env s ((st.addWithCount i w).bind fun p => some (.ok (f p)))
      (toGen env (f ((st.addWithCount i w).getD st)), GoErr.nil)
    cases st.addWithCount i w
    · trivial
    · rfl
  | _ => trivial

/-- `AddWithCount`, for any index argument of the model that is the one Go computes on the side the
    value is routed to -/
theorem AddWithCount_rel_idx (env : MapEnv) (s : Sketch) (v c : F64) (idx : Int)
    (hp : F64.lt env.minIndexable v = true → idx = env.index v)
    (hn : F64.lt env.minIndexable v = false → F64.lt v (F64.neg env.minIndexable) = true →
      idx = env.index (F64.neg v)) :
    StepRel env s (s.addWithCount env v c idx) (DDSketch.AddWithCount (toGen env s) v c) := by
  delta Sketch.addWithCount DDSketch.AddWithCount F64.gt
  rw [toGen_mapping, map_min, map_max, map_index, map_index]
  -- the two sides now test the same booleans in the same order: decide them one after the other
  cases F64.lt c (.fin 0)
  case true => exact ⟨rfl, rfl⟩
  cases h1 : F64.lt env.minIndexable v
  case true =>
    cases F64.lt env.maxIndexable v
    case true => exact ⟨rfl, rfl⟩
    rw [← hp h1]
    exact StepRel.addF env s s.pos idx c (fun p => { s with pos := p })
  cases h3 : F64.lt v (F64.neg env.minIndexable)
  case true =>
    cases F64.lt v (F64.neg env.maxIndexable)
    case true => exact ⟨rfl, rfl⟩
    rw [← hn h1 h3]
    exact StepRel.addF env s s.neg idx c (fun n => { s with neg := n })
  cases F64.isNaN v
  case true => exact ⟨rfl, rfl⟩
  cases c <;> trivial

/-- the index Go hands to the store: `Index(value)` on the positive side, `Index(-value)` on the
    negative side (the model's `addWithCount` takes it as an argument) -/
def goIdx (env : MapEnv) (v : F64) : Int :=
  if F64.lt env.minIndexable v then env.index v else env.index (F64.neg v)

theorem AddWithCount_rel (env : MapEnv) (s : Sketch) (v c : F64) :
    StepRel env s (s.addWithCount env v c (goIdx env v)) (DDSketch.AddWithCount (toGen env s) v c) := by
  apply AddWithCount_rel_idx
  · intro h; simp [goIdx, h]
  · intro h _; simp [goIdx, h]

/-- `Add(value)` unfolds to `AddWithCount(value, 1)` (`GenPagSketch.Add_eq_AddWithCount`) -/
theorem Add_rel (env : MapEnv) (s : Sketch) (v : F64) :
    StepRel env s (s.addWithCount env v (.fin 1) (goIdx env v)) (DDSketch.Add (toGen env s) v) :=
  AddWithCount_rel env s v (.fin 1)

/-- with a mapping whose smallest indexable value is not negative, the index Go computes is the
    index of the magnitude: the model's `Sketch.addV` is `AddWithCount` on finite arguments -/
theorem goIdx_rabs (env : MapEnv) (mn v : Rat) (hmin : env.minIndexable = .fin mn) (hmn : 0 ≤ mn) :
    (F64.lt env.minIndexable (.fin v) = true → env.index (.fin (rabs v)) = env.index (.fin v)) ∧
    (F64.lt (.fin v) (F64.neg env.minIndexable) = true →
      env.index (.fin (rabs v)) = env.index (F64.neg (.fin v))) := by
  rw [hmin]
  simp only [F64.lt, F64.neg, decide_eq_true_eq, rabs]
  constructor
  · intro h
    rw [if_neg (Rat.not_lt.2 (Rat.le_trans hmn (Rat.le_of_lt h)))]
  · intro h
    rw [if_pos (Std.lt_of_lt_of_le h (by simpa using Rat.neg_le_neg hmn))]

theorem AddV_rel (env : MapEnv) (s : Sketch) (mn v c : Rat)
    (hmin : env.minIndexable = .fin mn) (hmn : 0 ≤ mn) :
    StepRel env s (s.addV env v c) (DDSketch.AddWithCount (toGen env s) (.fin v) (.fin c)) :=
  AddWithCount_rel_idx env s _ _ _ (goIdx_rabs env mn v hmin hmn).1 fun _ => (goIdx_rabs env mn v hmin hmn).2

/-! ### `GetValueAtQuantile` -/

theorem GetValueAtQuantile_rel (env : MapEnv) (s : Sketch) (q : F64) :
    QRel (s.quantile env q) (DDSketch.GetValueAtQuantile (toGen env s) q) := by
  delta Sketch.quantile DDSketch.GetValueAtQuantile Sketch.negTotal F64.one
  rw [quantile_guard, GetCount_eq, toGen_neg, toGen_zero, store_totalCount]
  cases (F64.lt q (.fin 0) || F64.lt (.fin 1) q) || F64.isNaN q
  case true => exact ⟨rfl, rfl⟩
  dsimp only
  cases F64.eq s.getCount (.fin 0)
  case true => exact ⟨rfl, rfl⟩
  -- the rank (clamped at 0) is the same expression on both sides; only its comparisons matter
  generalize (if F64.lt (F64.mul q (F64.sub s.getCount (.fin 1))) (.fin 0) = true then F64.fin 0 else _) = rank
  cases F64.lt rank (.fin s.neg.totalCount)
  case true => rfl
  cases F64.lt rank (F64.add s.zero (.fin s.neg.totalCount)) <;> rfl

/-! ### `GetMaxValue`, `GetMinValue`

  On an empty sketch the Go code hands back the STORE's error (`errUndefinedMinIndex`,
  store/store.go:29), not the sketch-level `errEmptySketch`; the model has a single refusal `.empty`
  for both, so the relation here names the store's error explicitly. -/

/-- model `Except SkErr F64` vs Go pair for the two extreme getters: the only refusal is `.empty`,
    reported with NaN and the store's `errUndefinedMinIndex` -/
def ExtRel : Except SkErr F64 → F64 × GoErr → Prop
  | .ok v, r => r = (v, GoErr.nil)
  | .error e, r => e = .empty ∧ r = (F64.nan, errUndefinedMinIndex)

theorem GetMaxValue_rel (env : MapEnv) (s : Sketch) :
    ExtRel (s.getMax env) (DDSketch.GetMaxValue (toGen env s)) := by
  delta Sketch.getMax DDSketch.GetMaxValue F64.gt
  rw [toGen_pos, toGen_neg, toGen_zero, store_isEmpty, store_maxIndex, store_minIndex]
  unfold storeMaxIndex storeMinIndex
  cases s.pos.isEmpty
  case false => cases s.pos.maxIndex? <;> rfl
  cases F64.lt (.fin 0) s.zero
  case true => rfl
  cases s.neg.minIndex?
  case none => exact ⟨rfl, rfl⟩
  rfl

theorem GetMinValue_rel (env : MapEnv) (s : Sketch) :
    ExtRel (s.getMin env) (DDSketch.GetMinValue (toGen env s)) := by
  delta Sketch.getMin DDSketch.GetMinValue F64.gt
  rw [toGen_pos, toGen_neg, toGen_zero, store_isEmpty, store_maxIndex, store_minIndex]
  unfold storeMaxIndex storeMinIndex
  cases s.neg.isEmpty
  case false => cases s.neg.maxIndex? <;> rfl
  cases F64.lt (.fin 0) s.zero
  case true => rfl
  cases s.pos.minIndex?
  case none => exact ⟨rfl, rfl⟩
  rfl

/-- the value part agrees with `QRel` (NaN on refusal, the model's value otherwise); only the
    IDENTITY of the error differs from `goErr? .empty` -/
theorem ExtRel.value {m : Except SkErr F64} {r : F64 × GoErr} (h : ExtRel m r) :
    (∀ v, m = .ok v → r = (v, GoErr.nil)) ∧
    (∀ e, m = .error e → e = .empty ∧ r.1 = F64.nan ∧ r.2 ≠ GoErr.nil) := by
  cases m with
  | ok v => exact ⟨fun w hw => (by cases hw; exact h), fun e he => (by cases he)⟩
  | error e =>
    refine ⟨fun w hw => (by cases hw), fun e' he' => ?_⟩
    cases he'
    obtain ⟨h1, h2⟩ := h
    subst h2
    exact ⟨h1, rfl, by decide⟩

/-! ### `MergeWith` -/

/-- `MergeWith`: `env`, `env'` are the mapping objects of the two sketches.  Refusal on different
    mappings with the receiver unchanged (frame condition in `StepRel`). -/
theorem MergeWith_rel (env env' : MapEnv) (s o : Sketch)
    (hs : s.mapping = some env.id) (ho : o.mapping = some env'.id) :
    StepRel env s (s.mergeWith o) (DDSketch.MergeWith (toGen env s) (toGen env' o)) := by
  delta Sketch.mergeWith DDSketch.MergeWith
  rw [hs, ho, ← map_equals_mappingEquals, toGen_mapping, toGen_mapping]
  cases MapI.Equals env env'
  case false => exact ⟨rfl, rfl⟩
  cases hp : s.pos.mergeWith o.pos with
  | none => trivial
  | some p =>
    cases hn : s.neg.mergeWith o.neg with
    | none => trivial
    | some n => simp [StepRel, toGen, hp, hn]

/-- read from the generated side: no hypothesis -/
theorem MergeWith_rel_gen (g o : DDSketch MapEnv Store) :
    StepRel g.IndexMapping (ofGen g) ((ofGen g).mergeWith (ofGen o)) (DDSketch.MergeWith g o) :=
  MergeWith_rel g.IndexMapping o.IndexMapping (ofGen g) (ofGen o) rfl rfl

/-! ### `Reweight` -/

theorem Reweight_rel (env : MapEnv) (s : Sketch) (w : F64) :
    StepRel env s (s.reweight w) (DDSketch.Reweight (toGen env s) w) := by
  delta Sketch.reweight DDSketch.Reweight F64.one
  cases h0 : F64.le w (.fin 0)
  case true => exact ⟨rfl, rfl⟩
  cases F64.eq w (.fin 1)
  case true => exact rfl
  cases w with
  | fin q =>
    -- a positive factor is never refused by a store of the model
    have hq : ¬ q ≤ 0 := of_decide_eq_false (F64.le_fin q 0 ▸ h0)
    simp only [Sketch.ratOf?, Option.bind_eq_bind, Option.bind_some, Bool.false_eq_true, if_false]
    cases hp : s.pos.reweight q with
    | none => trivial
    | some rp =>
      obtain ⟨p, rfl⟩ := reweight_pos_ok hq hp
      cases hn : s.neg.reweight q with
      | none => trivial
      | some rn =>
        obtain ⟨n, rfl⟩ := reweight_pos_ok hq hn
        simp only [toGen_pos, toGen_neg, store_reweight_ok _ _ _ hp, store_reweight_ok _ _ _ hn]
        rfl
  | _ => trivial

/-! ## the variant with exact summary statistics

### constructor, copy, clear, observers -/

open DDS.Gen.Stat in
/-- `NewDDSketchWithExactSummaryStatisticsFromData`: accepted exactly when "the sketch is empty" and
    "the statistics count is zero" agree; then the two arguments are stored as they are -/
theorem XFromData_ok (env : MapEnv) (s : Sketch) (st : Summary)
    (h : s.isEmpty = F64.eq st.count (.fin 0)) :
    NewDDSketchWithExactSummaryStatisticsFromData (toGen env s) (GenStat.ofModel st) =
      (toGenX env { sk := s, st := st }, GoErr.nil) := by
  unfold NewDDSketchWithExactSummaryStatisticsFromData
  rw [IsEmpty_eq, GenStat.count_eq, GenStat.toModel_ofModel, h]
  simp [toGenX]

/-- … and refused with the documented error otherwise (Go returns a nil pointer; the translation
    returns the zero value of the structure) -/
theorem XFromData_refused (env : MapEnv) (s : Sketch) (st : Summary)
    (h : s.isEmpty ≠ F64.eq st.count (.fin 0)) :
    (NewDDSketchWithExactSummaryStatisticsFromData (toGen env s) (GenStat.ofModel st)).2 =
      errStatsMismatch := by
  unfold NewDDSketchWithExactSummaryStatisticsFromData
  rw [IsEmpty_eq, GenStat.count_eq, GenStat.toModel_ofModel]
  have : (s.isEmpty != F64.eq st.count (.fin 0)) = true := by simpa using h
  rw [if_pos this]
  rfl

theorem XFromData_err_iff (env : MapEnv) (s : Sketch) (st : Summary) :
    (NewDDSketchWithExactSummaryStatisticsFromData (toGen env s) (GenStat.ofModel st)).2 ≠ GoErr.nil ↔
      s.isEmpty ≠ F64.eq st.count (.fin 0) := by
  by_cases h : s.isEmpty = F64.eq st.count (.fin 0)
  · rw [XFromData_ok env s st h]; simp [h]
  · rw [XFromData_refused env s st h]; simp [h, errStatsMismatch]

theorem XCopy_eq (env : MapEnv) (x : XSketch) :
    DDSketchWithExactSummaryStatistics.Copy (toGenX env x) = toGenX env x := rfl

theorem XClear_eq (env : MapEnv) (x : XSketch) :
    DDSketchWithExactSummaryStatistics.Clear (toGenX env x) = toGenX env x.clear := by
  unfold DDSketchWithExactSummaryStatistics.Clear XSketch.clear
  simp only [Clear_eq, toGenX]
  congr 1

theorem XIsEmpty_eq (env : MapEnv) (x : XSketch) :
    DDSketchWithExactSummaryStatistics.IsEmpty (toGenX env x) = x.isEmpty := rfl

theorem XGetCount_eq (env : MapEnv) (x : XSketch) :
    DDSketchWithExactSummaryStatistics.GetCount (toGenX env x) = x.getCount := rfl

theorem XGetZeroCount_eq (env : MapEnv) (x : XSketch) :
    DDSketchWithExactSummaryStatistics.GetZeroCount (toGenX env x) = x.sk.zero := rfl

theorem XGetSum_eq (env : MapEnv) (x : XSketch) :
    DDSketchWithExactSummaryStatistics.GetSum (toGenX env x) = x.getSum := by
  unfold DDSketchWithExactSummaryStatistics.GetSum XSketch.getSum
  rw [toGenX_st, GenStat.sum_eq, GenStat.toModel_ofModel]

theorem XGetMinValue_rel (env : MapEnv) (x : XSketch) :
    QRel x.getMin (DDSketchWithExactSummaryStatistics.GetMinValue (toGenX env x)) := by
  unfold DDSketchWithExactSummaryStatistics.GetMinValue XSketch.getMin
  rw [toGenX_sk, IsEmpty_eq]
  cases x.sk.isEmpty
  · rfl
  · exact ⟨rfl, rfl⟩

theorem XGetMaxValue_rel (env : MapEnv) (x : XSketch) :
    QRel x.getMax (DDSketchWithExactSummaryStatistics.GetMaxValue (toGenX env x)) := by
  unfold DDSketchWithExactSummaryStatistics.GetMaxValue XSketch.getMax
  rw [toGenX_sk, IsEmpty_eq]
  cases x.sk.isEmpty
  · rfl
  · exact ⟨rfl, rfl⟩

/-! ### `GetValueAtQuantile` of the exact variant -/

/-- the clamping of one entry, as the second loop writes it -/
def goClamp (mn mx v : F64) : F64 :=
  if F64.lt v mn then mn else if F64.lt mx v then mx else v

theorem clampTo_eq (x : XSketch) (v : F64) : x.clampTo v = goClamp x.st.min x.st.max v := rfl

/-- the single query of the exact variant is the plain single query, clamped; the error passes (any mapping,
    any store) -/
theorem XGetValueAtQuantile_eq {M S : Type} [MapI M] [StoreI S] [Inhabited M] [Inhabited S]
    (g : DDSketchWithExactSummaryStatistics M S) (q : F64) :
    DDSketchWithExactSummaryStatistics.GetValueAtQuantile g q =
      (goClamp (DDS.Gen.Stat.SummaryStatistics.Min g.summaryStatistics)
          (DDS.Gen.Stat.SummaryStatistics.Max g.summaryStatistics)
          (DDSketch.GetValueAtQuantile g.DDSketch q).1,
        (DDSketch.GetValueAtQuantile g.DDSketch q).2) := by
  unfold DDSketchWithExactSummaryStatistics.GetValueAtQuantile goClamp
  rcases DDSketch.GetValueAtQuantile g.DDSketch q with ⟨val, err⟩
  dsimp only
  cases F64.lt val _
  case true => rfl
  cases F64.lt _ val <;> rfl

/-- `GetValueAtQuantile` of the exact variant: the plain answer clamped into `[min, max]`; a refusal
    (value NaN) passes through both comparisons -/
theorem XGetValueAtQuantile_rel (env : MapEnv) (x : XSketch) (q : F64) :
    QRel (x.quantile env q) (DDSketchWithExactSummaryStatistics.GetValueAtQuantile (toGenX env x) q) := by
  have h := GetValueAtQuantile_rel env x.sk q
  rw [XGetValueAtQuantile_eq, toGenX_sk]
  unfold XSketch.quantile
  cases hm : x.sk.quantile env q with
  | ok v =>
    rw [h.ok hm]
    rfl
  | error e =>
    obtain ⟨g, hg, hr⟩ := h.error hm
    rw [hr]
    exact ⟨by simp [goClamp, F64.lt_nan_left, F64.lt_nan_right], hg⟩

/-! ### `AddWithCount`, `Add` of the exact variant -/

/-- what the Go code does, in the vocabulary of the model: as `XSketch.addWithCount`, except that
    with a zero count the plain sketch is the one RETURNED BY the plain `AddWithCount(value, 0)`
    (the model keeps the old one) -/
def xAddWithCountGo (env : MapEnv) (x : XSketch) (v c : F64) (idx : Int) :
    Option (Except SkErr XSketch) :=
  match x.sk.addWithCount env v c idx with
  | none => none
  | some (.error e) => some (.error e)
  | some (.ok sk) => some (.ok { sk := sk, st := if F64.eq c (.fin 0) then x.st else x.st.add v c })

theorem XAddWithCount_rel_go (env : MapEnv) (x : XSketch) (v c : F64) :
    XStepRel env x (xAddWithCountGo env x v c (goIdx env v))
      (DDSketchWithExactSummaryStatistics.AddWithCount (toGenX env x) v c) := by
  have h := (AddWithCount_rel env x.sk v c).lift (if F64.eq c (.fin 0) then x.st else x.st.add v c)
  revert h
  unfold xAddWithCountGo DDSketchWithExactSummaryStatistics.AddWithCount
  cases F64.eq c (.fin 0)
  case true => exact id
  intro h
  simp only [toGenX_st, GenStat.add_ofModel]
  exact h

theorem store_addWithCount_zero (st : Store) (i : Int) : st.addWithCount i 0 = some st := by
  cases st with
  | d s => simp [Store.addWithCount, DStore.addWithCount]
  | sp c => simp [Store.addWithCount, Content.add_zero_weight]
  | pg s => simp [Store.addWithCount, PStore.addWithCount]

/-- the plain `AddWithCount(value, 0)`, when accepted, changes at most the zero count, to `zeroCount + 0`: under
    `zeroCount + 0 = zeroCount` it returns the receiver -/
theorem addWithCount_zero_count (env : MapEnv) (s sk : Sketch) (v : F64) (idx : Int)
    (hz : F64.add s.zero (.fin 0) = s.zero)
    (h : s.addWithCount env v (.fin 0) idx = some (.ok sk)) : sk = s := by
  revert h
  delta Sketch.addWithCount F64.gt
  simp only [Sketch.ratOf?, Option.bind_eq_bind, Option.bind_some, store_addWithCount_zero, hz]
  cases F64.lt env.minIndexable v
  case true => cases F64.lt env.maxIndexable v <;> intro h <;> cases h <;> rfl
  cases F64.lt v (F64.neg env.minIndexable)
  case true => cases F64.lt v (F64.neg env.maxIndexable) <;> intro h <;> cases h <;> rfl
  cases F64.isNaN v <;> intro h <;> cases h <;> rfl

/-- `x + 0 = x` on every float64: non-finite values, and finite values on the binary64 grid -/
theorem add_zero_of_rep (z : F64) (hz : ∀ q, z = .fin q → F64.isRep q = true) :
    F64.add z (.fin 0) = z := by
  cases z with
  | fin q =>
    show F64.roundF64 (q + 0) = _
    rw [Rat.add_zero]
    exact eq_of_beq (hz q rfl)
  | _ => rfl

/-- under `zeroCount + 0 = zeroCount` (true for every float64, `add_zero_of_rep`) the Go behaviour
    and the model coincide -/
theorem xAddWithCountGo_eq (env : MapEnv) (x : XSketch) (v c : F64) (idx : Int)
    (hz : F64.eq c (.fin 0) = true → F64.add x.sk.zero (.fin 0) = x.sk.zero) :
    xAddWithCountGo env x v c idx = x.addWithCount env v c idx := by
  unfold xAddWithCountGo XSketch.addWithCount
  cases hm : x.sk.addWithCount env v c idx with
  | none => rfl
  | some r =>
    cases r with
    | error e => rfl
    | ok sk =>
      cases h0 : F64.eq c (.fin 0)
      · rfl
      · cases c with
        | fin w =>
          cases eq_of_beq h0
          rw [addWithCount_zero_count env x.sk sk v idx (hz h0) hm]
          rfl
        | _ => cases h0

/-- `AddWithCount(value, count)` of the exact variant vs the model, under the hypothesis of the
    header of `GenSketch.lean`: if the count is zero then `zeroCount + 0 = zeroCount` -/
theorem XAddWithCount_rel (env : MapEnv) (x : XSketch) (v c : F64)
    (hz : F64.eq c (.fin 0) = true → F64.add x.sk.zero (.fin 0) = x.sk.zero) :
    XStepRel env x (x.addWithCount env v c (goIdx env v))
      (DDSketchWithExactSummaryStatistics.AddWithCount (toGenX env x) v c) := by
  rw [← xAddWithCountGo_eq env x v c _ hz]
  exact XAddWithCount_rel_go env x v c

theorem XAddWithCount_rel_nonzero (env : MapEnv) (x : XSketch) (v c : F64)
    (hc : F64.eq c (.fin 0) = false) :
    XStepRel env x (x.addWithCount env v c (goIdx env v))
      (DDSketchWithExactSummaryStatistics.AddWithCount (toGenX env x) v c) :=
  XAddWithCount_rel env x v c (by simp [hc])

/-- `Add(value)`: the plain `Add`, then the statistics absorb `(value, 1)`.  The generated `Add` is the generated
    `AddWithCount(value, 1)` once the count test `1 == 0` is evaluated, so the two unify. -/
theorem XAdd_rel (env : MapEnv) (x : XSketch) (v : F64) :
    XStepRel env x (x.addWithCount env v (.fin 1) (goIdx env v))
      (DDSketchWithExactSummaryStatistics.Add (toGenX env x) v) :=
  XAddWithCount_rel_nonzero env x v (.fin 1) (by decide)

/-! #### the discrepancy, concretely

  `zeroCount = 1/3` is not a float64.  The model's exact `AddWithCount(0, 0)` returns the receiver
  unchanged; the Go code has run `zeroCount += 0`, which rounds `1/3` to the binary64 grid. -/

def discEnv : MapEnv :=
  { id := { kind := .log, gamma := .fin 2, indexOffset := .fin 0 }
    minIndexable := .fin (1 / 1000)
    maxIndexable := .fin 1000
    relAcc := .fin (1 / 3)
    value := fun i => .fin ((i.toNat : Rat) + 1)
    lowerBound := fun i => .fin (i.toNat : Rat)
    index := fun _ => 0 }

def discX : XSketch :=
  { sk := { mapping := some discEnv.id, pos := .sp [], neg := .sp [], zero := .fin (1 / 3) },
    st := Summary.new }

theorem exact_addWithCount_zero_discrepancy :
    XSketch.addWithCount discEnv discX (.fin 0) (.fin 0) (goIdx discEnv (.fin 0)) = some (.ok discX) ∧
    (DDSketchWithExactSummaryStatistics.AddWithCount (toGenX discEnv discX) (.fin 0) (.fin 0)).2 =
      GoErr.nil ∧
    (DDSketchWithExactSummaryStatistics.AddWithCount (toGenX discEnv discX) (.fin 0) (.fin 0)).1.DDSketch.zeroCount =
      .fin (6004799503160661 / 18014398509481984) ∧
    (DDSketchWithExactSummaryStatistics.AddWithCount (toGenX discEnv discX) (.fin 0) (.fin 0)).1 ≠
      toGenX discEnv discX := by
  have hlt1 : F64.lt (.fin 0) (.fin 0) = false := by decide +kernel
  have hlt2 : F64.lt (.fin (1 / 1000)) (.fin 0) = false := by decide +kernel
  have hlt3 : F64.lt (.fin 0) (F64.neg (.fin (1 / 1000))) = false := by decide +kernel
  have hadd : F64.add (.fin (1 / 3)) (.fin 0) = .fin (6004799503160661 / 18014398509481984) := by
    decide +kernel
  have hgen : DDSketchWithExactSummaryStatistics.AddWithCount (toGenX discEnv discX) (.fin 0) (.fin 0) =
      ({ toGenX discEnv discX with
          DDSketch := { toGen discEnv discX.sk with zeroCount := .fin (6004799503160661 / 18014398509481984) } },
        GoErr.nil) := by
    unfold DDSketchWithExactSummaryStatistics.AddWithCount DDSketch.AddWithCount
    simp [discEnv, discX, toGenX, toGen, hlt1, hlt2, hlt3, hadd, F64.isNaN, F64.eq]
  refine ⟨?_, ?_, ?_, ?_⟩
  · simp [XSketch.addWithCount, Sketch.addWithCount, discEnv, discX, F64.gt, hlt1, hlt2, hlt3,
      F64.isNaN, F64.eq, Sketch.ratOf?]
  · rw [hgen]
  · rw [hgen]
  · rw [hgen]
    intro h
    have := congrArg (fun g => g.DDSketch.zeroCount) h
    simp only [toGenX, toGen, discX] at this
    revert this
    decide +kernel

/-! ### `MergeWith`, `Reweight` of the exact variant -/

theorem XMergeWith_rel (env env' : MapEnv) (x o : XSketch)
    (hs : x.sk.mapping = some env.id) (ho : o.sk.mapping = some env'.id) :
    XStepRel env x (x.mergeWith o)
      (DDSketchWithExactSummaryStatistics.MergeWith (toGenX env x) (toGenX env' o)) := by
  have h := (MergeWith_rel env env' x.sk o.sk hs ho).lift (x.st.mergeWith o.st)
  rwa [← GenStat.mergeWith_ofModel] at h

theorem XMergeWith_rel_gen (g o : DDSketchWithExactSummaryStatistics MapEnv Store) :
    XStepRel g.DDSketch.IndexMapping (ofGenX g) ((ofGenX g).mergeWith (ofGenX o))
      (DDSketchWithExactSummaryStatistics.MergeWith g o) :=
  XMergeWith_rel g.DDSketch.IndexMapping o.DDSketch.IndexMapping (ofGenX g) (ofGenX o) rfl rfl

theorem XReweight_rel (env : MapEnv) (x : XSketch) (w : F64) :
    XStepRel env x (x.reweight w) (DDSketchWithExactSummaryStatistics.Reweight (toGenX env x) w) := by
  have h := (Reweight_rel env x.sk w).lift (x.st.reweight w)
  rwa [← GenStat.reweight_ofModel] at h

end DDS.GenSketch
