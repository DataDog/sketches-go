/-
  DDS.Proofs.GenPagSketch — the DEFAULT sketch entirely on regenerated code: the regenerated sketch
  (`DDS/Generated/CodeSketch.lean`, generic over the interfaces `MapI`, `StoreI`) instantiated with the
  REGENERATED buffered-paginated store (`DDS/Generated/CodePaginated.lean`) behaves exactly like the same
  regenerated sketch over the hand-written model's stores (`instance : StoreI Store`, `DDS/Proofs/GenSketch.lean`),
  to which `GenSketch2` / `Props/Lift` (C01 …) apply.

  1. `GPS grow` — the regenerated store with the growth oracle of the Go runtime (`append`'s capacity policy) fixed
     as a type index; `instance : StoreI (GPS grow)`: every method runs the regenerated function with a fuel
     computed from the state (`addFuel`, `keyFuel`, `minFuel`, `maxFuel`, `reweightFuel`, `mergeFuel`,
     `encodeFuel` of the model image `ofGen g`).  Conventions copied from `instance : StoreI Store`: a panicking
     (or fuel-starved) mutator leaves the receiver unchanged; a non-finite weight leaves the receiver unchanged;
     `TotalCount` is `.fin` of the rational total; `KeyAtRank` at `-Inf` is rank 0, at `+Inf`/NaN the maximum
     index (0 when empty).  `KeyAtRank` of the class returns the key only (the buffer sort it performs on the
     Go side is unobservable: `C04GenPag.gen_reads_preserve_content`).
     NOT covered by any theorem in this file: `ForEachList` (defined through the model image; the regenerated `ForEach`
     visits exactly that list) and `Encode` (the fuel `encodeFuel …` is sufficient: `GenPagCodec.Encode_inv`), both in
     `GenPagSketch2`; `DecodeAndMergeWith` (`gDecode`, in `GenPagSketch3`: the fuel `gDecodeFuel` is sufficient for the
     index-delta and the generic layouts, and for the contiguous layout when the announced count `v` is backed by
     bytes, `2·v ≤ 3·len(b) + 51`); the different-page-length fallback of `MergeWith` (never taken under the invariant).
  2. `Sim x st`: `x.g = toGen s cap`, `st = .pg s'`, both with `PStore.Inv`, SAME CONTENT.  Structural equality
     is impossible: the model instance's `AddWithCount` always passes the compaction bit `true`, the regenerated
     code compacts only when `len(buffer) == cap(buffer)` — the stores agree up to abstraction (`content`), and
     every observer is a function of the content (`C04Pag.observers_eq`).
     Method lemmas `sim_*`: related receivers give equal observations / related receivers again
     (`IsEmpty`, `TotalCount`, `MinIndex`, `MaxIndex`, `KeyAtRank`, `Add`, `AddWithCount`, `Clear`, `Copy`,
     `Reweight`, `MergeWith`).  Side condition for the adds: int32 index (finite weight `≥ 0`; other weights:
     both sides unchanged, no condition).
  3. `SkSim a b` for sketches (same mapping object, same zero count, stores in `Sim`) and the side condition
     `Routed32` (the index of the side a value is routed to is an int32).  Histories (`runAdds`) and `okOr` are in
     `DDS/Proofs/GenSketchRun.lean`; the parametricity theorems (`*_param`, `history_observers_param`) are instances
     of the generic ones and stand in `DDS/Proofs/GenPagSim.lean`; `DDS/Props/C01GenPag.lean` chains them with
     `GenSketch2` and `Props/Lift` to C01.

  No fuel hypothesis appears in the statements: the instance computes a sufficient fuel itself.
-/
import DDS.Proofs.GenPaginated
import DDS.Props.C04GenPag
import DDS.Proofs.GenSketchRun
import DDS.Generated.CodeStoreDecode

namespace DDS.GenPagSketch

open DDS DDS.GoSem DDS.PStore DDS.GenPag DDS.Gen.Paginated

/-- the regenerated store; the growth oracle of the runtime is a type index -/
structure GPS (grow : Int → Int → Int) where
  g : GP

variable {grow : Int → Int → Int}

instance : Inhabited (GPS grow) := ⟨⟨NewBufferedPaginatedStore⟩⟩

/-! ### the methods -/

def gAdd (x : GPS grow) (i : Int) : GPS grow :=
  ⟨okOr (BufferedPaginatedStore.Add (addFuel (ofGen x.g) i + 1) grow x.g i) x.g⟩

def gAddWithCount (x : GPS grow) (i : Int) (c : F64) : GPS grow :=
  match ratOfF64 c with
  | some w => ⟨okOr (BufferedPaginatedStore.AddWithCount (addFuel (ofGen x.g) i + 1) grow x.g i w) x.g⟩
  | none => x

def gCopy (x : GPS grow) : GPS grow := ⟨okOr (BufferedPaginatedStore.Copy 1 x.g) x.g⟩

def gClear (x : GPS grow) : GPS grow := ⟨okOr (BufferedPaginatedStore.Clear 1 x.g) x.g⟩

def gIsEmpty (x : GPS grow) : Bool := okOr (BufferedPaginatedStore.IsEmpty 1 x.g) true

def gTotalCount (x : GPS grow) : F64 := .fin (okOr (BufferedPaginatedStore.TotalCount 1 x.g) 0)

def gMinIndex (x : GPS grow) : Int × GoErr :=
  okOr (BufferedPaginatedStore.MinIndex (minFuel (ofGen x.g) + 1) x.g) (0, GenSketch.errUndefinedMinIndex)

def gMaxIndex (x : GPS grow) : Int × GoErr :=
  okOr (BufferedPaginatedStore.MaxIndex (maxFuel (ofGen x.g) + 1) x.g) (0, GenSketch.errUndefinedMaxIndex)

def gKeyAtRankQ (x : GPS grow) (r : Rat) : Int :=
  (okOr (BufferedPaginatedStore.KeyAtRank (keyFuel (ofGen x.g) + 1) x.g r) (x.g, 0)).2

/-- float rank: `-Inf` behaves as rank 0 (the store clamps negative ranks), `+Inf` and NaN are never below a
    cumulative count: the maximum index (as `Sketch.storeKeyAtRank`) -/
def gKeyAtRank (x : GPS grow) (r : F64) : Int :=
  match r with
  | .fin q => gKeyAtRankQ x q
  | .ninf => gKeyAtRankQ x 0
  | _ => (gMaxIndex x).1

def gMergeWith (x o : GPS grow) : GPS grow :=
  ⟨okOr (BufferedPaginatedStore.MergeWith (mergeFuel addFuel (ofGen x.g) (ofGen o.g) + 1) grow
    (fun s _ => .ok s) x.g o.g) x.g⟩

def gReweight (x : GPS grow) (w : F64) : GPS grow × GoErr :=
  if F64.le w (.fin 0) then (x, GenSketch.errStoreReweight)
  else match w with
    | .fin q =>
      match BufferedPaginatedStore.Reweight (reweightFuel (ofGen x.g) q + 1) grow x.g q with
      | .ok (g', e) => (⟨g'⟩, e)
      | _ => (x, GoErr.nil)
    | _ => (x, GoErr.nil)

def gEncode (x : GPS grow) (b : List (BitVec 8)) (t : Gen.Encoding.FlagType) : GPS grow × List (BitVec 8) :=
  match BufferedPaginatedStore.Encode (encodeFuel compactFuel (ofGen x.g) + 1) x.g b t with
  | .ok (g', b') => (⟨g'⟩, b')
  | _ => (x, b)

def gForEachList (x : GPS grow) : List (Int × F64) :=
  (ofGen x.g).binsList.map (fun p => (p.1, F64.fin p.2))

/-- the methods the generic `store.DecodeAndMergeWith` (the fallback of the paginated decoder) calls -/
@[reducible] def baseI : StoreI (GPS grow) where
  Add := gAdd
  AddWithCount := gAddWithCount
  Copy := gCopy
  Clear := gClear
  IsEmpty := gIsEmpty
  MaxIndex := gMaxIndex
  MinIndex := gMinIndex
  TotalCount := gTotalCount
  KeyAtRank := gKeyAtRank
  MergeWith := gMergeWith
  Reweight := gReweight
  Encode := gEncode
  ForEachList := gForEachList
  DecodeAndMergeWith x b _ := (x, b, GoErr.nil)

def gDecodeFuel (x : GPS grow) (b : List (BitVec 8)) : Nat :=
  deltasFuel compactFuel grow (ofGen x.g) x.g.bufferCap b + pageFuelMax + 3 * b.length + 64

def gDecode (x : GPS grow) (b : List (BitVec 8)) (sub : Gen.Encoding.SubFlag) :
    GPS grow × List (BitVec 8) × GoErr :=
  match BufferedPaginatedStore.DecodeAndMergeWith (gDecodeFuel x b) grow
      (fun g b sub =>
        match @Gen.StoreDecode.DecodeAndMergeWith (GPS grow) baseI (gDecodeFuel x b) ⟨g⟩ b sub with
        | .ok (y, b', e) => .ok (y.g, b', e)
        | .panic => .panic
        | .nofuel => .nofuel) x.g b sub with
  | .ok (g', b', e) => (⟨g'⟩, b', e)
  | _ => (x, b, GoErr.nil)

instance (priority := low) gpStoreI : StoreI (GPS grow) where
  Add := gAdd
  AddWithCount := gAddWithCount
  Copy := gCopy
  Clear := gClear
  IsEmpty := gIsEmpty
  MaxIndex := gMaxIndex
  MinIndex := gMinIndex
  TotalCount := gTotalCount
  KeyAtRank := gKeyAtRank
  MergeWith := gMergeWith
  Reweight := gReweight
  Encode := gEncode
  ForEachList := gForEachList
  DecodeAndMergeWith := gDecode

@[simp] theorem gps_add (x : GPS grow) (i : Int) : StoreI.Add x i = gAdd x i := rfl
@[simp] theorem gps_addWithCount (x : GPS grow) (i : Int) (c : F64) :
    StoreI.AddWithCount x i c = gAddWithCount x i c := rfl
@[simp] theorem gps_copy (x : GPS grow) : StoreI.Copy x = gCopy x := rfl
@[simp] theorem gps_clear (x : GPS grow) : StoreI.Clear x = gClear x := rfl
@[simp] theorem gps_isEmpty (x : GPS grow) : StoreI.IsEmpty x = gIsEmpty x := rfl
@[simp] theorem gps_maxIndex (x : GPS grow) : StoreI.MaxIndex x = gMaxIndex x := rfl
@[simp] theorem gps_minIndex (x : GPS grow) : StoreI.MinIndex x = gMinIndex x := rfl
@[simp] theorem gps_totalCount (x : GPS grow) : StoreI.TotalCount x = gTotalCount x := rfl
@[simp] theorem gps_keyAtRank (x : GPS grow) (r : F64) : StoreI.KeyAtRank x r = gKeyAtRank x r := rfl
@[simp] theorem gps_mergeWith (x o : GPS grow) : StoreI.MergeWith x o = gMergeWith x o := rfl
@[simp] theorem gps_reweight (x : GPS grow) (w : F64) : StoreI.Reweight x w = gReweight x w := rfl
@[simp] theorem gps_encode (x : GPS grow) (b : List (BitVec 8)) (t : Gen.Encoding.FlagType) :
    StoreI.Encode x b t = gEncode x b t := rfl
@[simp] theorem gps_forEachList (x : GPS grow) : StoreI.ForEachList x = gForEachList x := rfl

/-! ### the model image of an embedded store -/

theorem ofGen_toGen (s : PStore) (cap : Int) : ofGen (toGen s cap) = s := by
  cases s with
  | mk buffer trigger pages minPageIndex pageLenLog2 =>
    simp only [ofGen, toGen, pagesL, Int.toNat_natCast, List.map_map]
    congr 1
    apply Array.ext'
    simp [Function.comp_def]

/-! ### the simulation relation -/

/-- the regenerated store and the model store hold the same content (both inside the invariant) -/
def Sim (x : GPS grow) (st : Store) : Prop :=
  ∃ (s s' : PStore) (cap : Int), x.g = toGen s cap ∧ st = .pg s' ∧ Inv s ∧ Inv s' ∧ content s = content s'

theorem sim_new : Sim (⟨NewBufferedPaginatedStore⟩ : GPS grow) (Store.new .pag) :=
  ⟨PStore.new, PStore.new, 4, new_spec, rfl, PStore.inv_new, PStore.inv_new, rfl⟩

theorem errMin_eq : Gen.Paginated.errUndefinedMinIndex = GenSketch.errUndefinedMinIndex := rfl
theorem errMax_eq : Gen.Paginated.errUndefinedMaxIndex = GenSketch.errUndefinedMaxIndex := rfl

/-! ### observers -/

theorem sim_isEmpty {x : GPS grow} {st : Store} (h : Sim x st) :
    (StoreI.IsEmpty x : Bool) = StoreI.IsEmpty st := by
  obtain ⟨s, s', cap, hx, rfl, hi, hi', hc⟩ := h
  simp only [gps_isEmpty, gIsEmpty, hx, isEmpty_spec, okOr_ok, GenSketch.store_isEmpty, Store.isEmpty]
  rw [isEmpty_eq s hi, isEmpty_eq s' hi', hc]

theorem sim_totalCount {x : GPS grow} {st : Store} (h : Sim x st) :
    (StoreI.TotalCount x : F64) = StoreI.TotalCount st := by
  obtain ⟨s, s', cap, hx, rfl, hi, hi', hc⟩ := h
  simp only [gps_totalCount, gTotalCount, hx, totalCount_spec, okOr_ok, GenSketch.store_totalCount,
    Store.totalCount]
  rw [totalCount_eq s hi, totalCount_eq s' hi', hc]

theorem sim_minIndex {x : GPS grow} {st : Store} (h : Sim x st) :
    (StoreI.MinIndex x : Int × GoErr) = StoreI.MinIndex st := by
  obtain ⟨s, s', cap, hx, rfl, hi, hi', hc⟩ := h
  simp only [gps_minIndex, gMinIndex, hx, ofGen_toGen, GenSketch.store_minIndex, GenSketch.storeMinIndex,
    Store.minIndex?]
  rw [MinIndex_eq_of_inv s cap _ hi (Nat.le_succ _), okOr_ok,
    minIndex?_eq s hi, minIndex?_eq s' hi', hc, errMin_eq]
  cases (content s').minIndex? <;> rfl

theorem sim_maxIndex {x : GPS grow} {st : Store} (h : Sim x st) :
    (StoreI.MaxIndex x : Int × GoErr) = StoreI.MaxIndex st := by
  obtain ⟨s, s', cap, hx, rfl, hi, hi', hc⟩ := h
  simp only [gps_maxIndex, gMaxIndex, hx, ofGen_toGen, GenSketch.store_maxIndex, GenSketch.storeMaxIndex,
    Store.maxIndex?]
  rw [MaxIndex_eq s cap _ (Nat.le_succ _), okOr_ok,
    maxIndex?_eq s hi, maxIndex?_eq s' hi', hc, errMax_eq]
  cases (content s').maxIndex? <;> rfl

theorem sim_keyAtRankQ {x : GPS grow} {s' : PStore} (h : Sim x (.pg s')) (q : Rat) :
    gKeyAtRankQ x q = s'.keyAtRank q := by
  obtain ⟨s, s'', cap, hx, hst, hi, hi', hc⟩ := h
  cases hst
  simp only [gKeyAtRankQ, hx, ofGen_toGen]
  rw [KeyAtRank_eq s cap q _ (Nat.le_succ _), okOr_ok,
    keyAtRank_spec s hi q, keyAtRank_spec s' hi' q, hc]

theorem sim_keyAtRank {x : GPS grow} {st : Store} (h : Sim x st) (r : F64) :
    (StoreI.KeyAtRank x r : Int) = StoreI.KeyAtRank st r := by
  have hm := sim_maxIndex h
  obtain ⟨_, s', _, _, rfl, _⟩ := id h
  exact GenSketch.keyAtRankF_eq (fun q => sim_keyAtRankQ h q) hm r

/-! ### mutators -/

/-- `AddWithCount(i, c)`: int32 index, and a finite count is `≥ 0` (a non-finite count leaves both sides unchanged) -/
theorem sim_addWithCount {x : GPS grow} {st : Store} (h : Sim x st) (i : Int) (hi32 : Idx32 i) (c : F64)
    (hc : ∀ w, c = .fin w → 0 ≤ w) :
    Sim (StoreI.AddWithCount x i c : GPS grow) (StoreI.AddWithCount st i c) := by
  obtain ⟨s, s', cap, hx, rfl, hi, hi', hcs⟩ := id h
  cases c with
  | fin w =>
    have hw : 0 ≤ w := hc w rfl
    obtain ⟨s1, h1, hi1, hc1⟩ :=
      PStore.add_content s hi i hi32 w hw (decide ((s.buffer.length : Int) = cap))
    obtain ⟨s1', h1', hi1', hc1'⟩ := PStore.add_content s' hi' i hi32 w hw true
    have hspec := addWithCountSpec s cap grow i w (addFuel s i + 1) (Nat.le_succ _)
    rw [h1] at hspec
    obtain ⟨g', hg', cap1, rfl⟩ := hspec
    refine ⟨s1, s1', cap1, ?_, ?_, hi1, hi1', by rw [hc1, hc1', hcs]⟩
    · simp only [gps_addWithCount, gAddWithCount, ratOfF64, hx, ofGen_toGen, hg', okOr_ok]
    · simp only [GenSketch.store_addWithCount, GenSketch.storeAddF, Sketch.addF, Store.addWithCount, h1',
        Option.map_some, Option.getD_some]
  | pinf => exact h
  | ninf => exact h
  | nan => exact h

theorem addWithCount_one (s : PStore) (i : Int) (b : Bool) : s.addWithCount i 1 b = s.addUnit i b := by
  unfold PStore.addWithCount
  rw [if_neg (by decide), if_pos rfl]

theorem sim_add {x : GPS grow} {st : Store} (h : Sim x st) (i : Int) (hi32 : Idx32 i) :
    Sim (StoreI.Add x i : GPS grow) (StoreI.Add st i) := by
  obtain ⟨s, s', cap, hx, rfl, hi, hi', hcs⟩ := h
  obtain ⟨s1, h1, hi1, hc1⟩ :=
    PStore.addUnit_content s hi i hi32 (decide ((s.buffer.length : Int) = cap))
  obtain ⟨s1', h1', hi1', hc1'⟩ := PStore.add_content s' hi' i hi32 1 (by decide) true
  have hspec := addSpec s cap grow i (addFuel s i + 1) (Nat.le_succ _)
  rw [h1] at hspec
  obtain ⟨g', hg', cap1, rfl⟩ := hspec
  refine ⟨s1, s1', cap1, ?_, ?_, hi1, hi1', by rw [hc1, hc1', hcs]⟩
  · simp only [gps_add, gAdd, hx, ofGen_toGen, hg', okOr_ok]
  · simp only [GenSketch.store_add, Store.addWithCount, h1', Option.map_some, Option.getD_some]

theorem sim_clear {x : GPS grow} {st : Store} (h : Sim x st) :
    Sim (StoreI.Clear x : GPS grow) (StoreI.Clear st) := by
  obtain ⟨s, s', cap, hx, rfl, hi, hi', _⟩ := h
  obtain ⟨a1, a2⟩ := PStore.clear_content s hi
  obtain ⟨b1, b2⟩ := PStore.clear_content s' hi'
  refine ⟨s.clear, s'.clear, cap, ?_, rfl, a1, b1, by rw [a2, b2]⟩
  simp only [gps_clear, gClear, hx, GenPag.clear_spec, okOr_ok]

theorem sim_copy {x : GPS grow} {st : Store} (h : Sim x st) :
    Sim (StoreI.Copy x : GPS grow) (StoreI.Copy st) := by
  obtain ⟨s, s', cap, hx, rfl, hi, hi', hc⟩ := h
  refine ⟨s, s', (s.buffer.length : Int), ?_, rfl, hi, hi', hc⟩
  simp only [gps_copy, gCopy, hx, copy_spec, okOr_ok]

theorem sim_mergeWith {x y : GPS grow} {st so : Store} (h : Sim x st) (h' : Sim y so) :
    Sim (StoreI.MergeWith x y : GPS grow) (StoreI.MergeWith st so) := by
  obtain ⟨s, s', cap, hx, rfl, hi, hi', hc⟩ := h
  obtain ⟨o, o', cap', hy, rfl, ho, ho', hco⟩ := h'
  obtain ⟨g', s1, hg, ⟨cap1, rfl⟩, hi1, hc1⟩ :=
    Props.C04GenPag.gen_merge s o hi ho cap cap' grow (fun s _ => .ok s)
      (mergeFuel addFuel s o + 1) (Nat.le_succ _)
  obtain ⟨s1', hm', hi1', hc1'⟩ := PStore.mergeSame_content s' o' hi' ho'
  refine ⟨s1, s1', cap1, ?_, ?_, hi1, hi1', by rw [hc1, hc1', hc, hco]⟩
  · simp only [gps_mergeWith, gMergeWith, hx, hy, ofGen_toGen, hg, okOr_ok]
  · simp only [GenSketch.store_mergeWith, Store.mergeWith, hi'.log2, ho'.log2, if_true, hm', Option.map_some,
      Option.getD_some]

theorem sim_reweight {x : GPS grow} {st : Store} (h : Sim x st) (w : F64) :
    (StoreI.Reweight x w).2 = (StoreI.Reweight st w).2 ∧
      Sim (StoreI.Reweight x w).1 (StoreI.Reweight st w).1 := by
  -- both instances dispatch on the float as `GenSketch.reweightF`: finite factors `> 0` remain
  refine GenSketch.reweightF_rel Sim h _ _ (fun q hq => ?_) w
  obtain ⟨s, s', cap, hx, rfl, hi, hi', hc⟩ := h
  by_cases h1 : q = 1
  · subst h1
    simp only [hx, ofGen_toGen, reweight_one, Store.reweight, if_neg (Rat.not_le.2 hq), if_true]
    exact ⟨trivial, s, s', cap, rfl, rfl, hi, hi', hc⟩
  · obtain ⟨s1, hr, hi1, hc1⟩ := PStore.reweight_content s hi q hq
    obtain ⟨s1', hr', hi1', hc1'⟩ := PStore.reweight_content s' hi' q hq
    have hg := reweight_spec page_spec s cap grow q (reweightFuel s q + 1) hq h1 (Nat.le_succ _)
    rw [hr, GenDense.toRes_some] at hg
    simp only [hx, ofGen_toGen, hg, Store.reweight, if_neg (Rat.not_le.2 hq), if_neg h1, hr', Option.map_some]
    exact ⟨trivial, s1, s1', cap, rfl, rfl, hi1, hi1', by rw [hc1, hc1', hc]⟩

/-! ### sketches: the regenerated sketch code over the two store instances -/

section sketch

open DDS.Gen.Sketch

variable {M : Type} [MapI M] [Inhabited M]

/-- same mapping object, same zero count, stores in simulation -/
structure SkSim (a : DDSketch M (GPS grow)) (b : DDSketch M Store) : Prop where
  map : a.IndexMapping = b.IndexMapping
  pos : Sim a.positiveValueStore b.positiveValueStore
  neg : Sim a.negativeValueStore b.negativeValueStore
  zero : a.zeroCount = b.zeroCount

theorem skSim_new (m : M) :
    SkSim (NewDDSketch m (⟨NewBufferedPaginatedStore⟩ : GPS grow) ⟨NewBufferedPaginatedStore⟩)
      (NewDDSketch m (Store.new .pag) (Store.new .pag)) :=
  ⟨rfl, sim_new, sim_new, rfl⟩

/-- the index condition of `AddWithCount_param` for the mapping object `m` and the value `v` -/
def Routed32 (m : M) (v : F64) : Prop :=
  (F64.lt (MapI.MinIndexableValue m) v = true → Idx32 (MapI.Index m v)) ∧
  (F64.lt v (F64.neg (MapI.MinIndexableValue m)) = true → Idx32 (MapI.Index m (F64.neg v)))

end sketch

end DDS.GenPagSketch
