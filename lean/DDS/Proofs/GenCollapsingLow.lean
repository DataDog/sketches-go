/-
  DDS.Proofs.GenCollapsingLow — the REGENERATED `CollapsingLowestDenseStore`
  (`DDS/Generated/CodeDense.lean`, translated from
  `/repo/ddsketch/store/collapsing_lowest_dense_store.go` on every run) equals the HAND-WRITTEN model
  `DDS.DStore` of kind `.low n` (`DDS/Model/Dense.lean`), method by method, for ALL inputs.

  Every theorem has the form  `generated fuel (toLow n s) args = toRes (toLow n) (model s args)`
  (`GenDenseBase`): the model says `some t` ⇒ the generated code returns `.ok (toLow n t)`; the model
  says `none` (Go would panic) ⇒ the generated code returns `.panic`; `.nofuel` is never returned when
  the stated fuel bound holds.  The only hypothesis on the store is `s.kind = .low n` (the model
  dispatches on `kind`; the generated `maxNumBins : Int` is `(n : Int)`).  `adjust`, `Copy`, `Clear`
  do not look at `maxNumBins`, so they are stated for every `m : Int`.

    getNewLength_rel  any fuel                    (`min` with `maxNumBins`; result through `id`)
    adjust_rel        fuel ≥ s.bins.size + 2      (the summing loop `adjust.loop1` = the model's
                                                   `sumRange` fold; it stops after at most
                                                   `size + 1` reads even on a longer range)
    extendRange_rel   fuel ≥ lowFuel n s = s.bins.size + n + 2   (the array grows to ≤ size + n)
    normalize_rel     fuel ≥ lowFuel n s          (result `(toLow n t, arrayIndex)`)
    addWithCount_rel, add_rel, addBin_rel         fuel ≥ lowFuel n s
    copy_eq, clear_rel, new_eq                    no fuel
    mergeWith_rel     fuel ≥ mergeFuel n s o = max (lowFuel n s) (width of o's window + 1);
                      the model is `DStore.mergeSame`; the argument may have any limit `m'`.
                      The two loops and the final `if idx == o.maxIndex` step of the generated code
                      are the three segments of the model's single fold (`segments`).
  plus `addWithCount_gen`, `mergeWith_gen`, quantified over EVERY generated store with `0 ≤ maxNumBins`, and
  `…_ex : ∃ f0, ∀ fuel ≥ f0, …`, `…_RRel` (through `RRel`).

  What the lowest- and the highest-collapsing store share is in `GenDenseBase`: the rule for a loop that hands its
  state and counter on (`loop_up_elim`), the summing fold of `adjust` (`GenCollapsing.sumStep`), and, with the plain
  store, the frame of `MergeWith` and the step its loops fold (`mergeWith_frame`, `mergeStep o (mergeCell s)`, the
  latter in `DDS.Proofs.Dense`).

  Generated code and model do not disagree: every statement is an equation for all inputs (given the
  fuel bound).  Two differences are invisible in the result: (1) the generated
  merge loops read `s.bins[…]` before `o.bins[…]`, the model reads `o.bins` first — both panic iff one
  of the reads fails (`optL_comm`/`optR_comm`); (2) the generated merge splits the index range in
  three (`< s.minIndex`, `< o.maxIndex`, `== o.maxIndex`), the model tests `idx < s.minIndex` at each
  step of one fold.  A negative `maxNumBins` has no counterpart in the model (`low (n : Nat)`) and is
  outside these statements.
-/
import DDS.Proofs.GenDenseBase

namespace DDS.GenLow

open DDS DDS.GoSem DDS.DStore DDS.GenDense DDS.GenCollapsing

/-! ### `getNewLength` -/

theorem getNewLength_rel (fuel : Nat) (n : Nat) (s : DStore) (a b : Int) (hk : s.kind = .low n) :
    Gen.Dense.CollapsingLowestDenseStore.getNewLength fuel (toLow (n : Int) s) a b
      = toRes id (s.getNewLength a b) := by
  unfold Gen.Dense.CollapsingLowestDenseStore.getNewLength DStore.getNewLength
  rw [GenDense.getNewLength_rel, hk]
  cases denseNewLength a b with
  | none => rfl
  | some d => exact congrArg Res.ok (goMin_eq d n)

theorem getNewLength_le (n : Nat) (s : DStore) (hk : s.kind = .low n) (a b L : Int)
    (h : s.getNewLength a b = some L) : L ≤ n := by
  unfold DStore.getNewLength at h
  rw [hk] at h
  cases hd : denseNewLength a b with
  | none => rw [hd] at h; cases h
  | some d =>
    rw [hd] at h
    cases h
    exact Int.min_le_right d n

/-! ### `adjust` -/

/-- the summing loop of `adjust` is the model's `sumRange` fold -/
theorem sumLoop (newMin m : Int) (s : DStore) (K : Rat × Int → Res GLow) (fuel : Nat) (acc : Rat) (i : Int)
    (hf : (newMin - i).toNat < fuel ∨ (irange i fuel).foldlM (sumStep s) acc = none) :
    (Gen.Dense.CollapsingLowestDenseStore.adjust.loop1 newMin (toLow m s) fuel acc i).elim K =
      optR ((irange i (newMin - i).toNat).foldlM (sumStep s) acc) fun r => K (r, i + (newMin - i).toNat) := by
  refine loop_up_elim _ id (sumStep s) (fun i => (newMin - i).toNat) (fun _ _ => True) (fun f t i h => ?_)
    (fun f t i n _ h => ⟨(toNat_sub_succ h).2, fun _ _ => trivial, ?_⟩) K fuel acc i trivial hf
  · rw [Gen.Dense.CollapsingLowestDenseStore.adjust.loop1]
    exact if_neg (mt of_decide_eq_true (toNat_sub_zero h))
  · rw [Gen.Dense.CollapsingLowestDenseStore.adjust.loop1, if_pos (decide_eq_true (toNat_sub_succ h).1),
      sumStep, optL_map, ← idx_toList]
    rfl

theorem sumRange_below (s : DStore) (lo hi : Int) :
    s.sumRange lo (hi - 1) = (irange lo (hi - lo).toNat).foldlM (sumStep s) 0 := by
  rw [sumRange_eq, show hi - 1 - lo + 1 = hi - lo by omega]

theorem shiftCounts_rel' (fuel : Nat) (g : GS) (t : DStore) (shift : Int) (hg : g = toGen t)
    (hf : t.bins.size + 2 ≤ fuel) :
    Gen.Dense.DenseStore.shiftCounts fuel g shift = toRes toGen (t.shiftCounts shift) := by
  rw [hg, shiftCounts_rel fuel t shift hf]

theorem adjust_rel (fuel : Nat) (m : Int) (n : Nat) (s : DStore) (a b : Int) (hk : s.kind = .low n)
    (hf : s.bins.size + 2 ≤ fuel) :
    Gen.Dense.CollapsingLowestDenseStore.adjust fuel (toLow m s) a b = toRes (toLow m) (s.adjust a b) := by
  unfold Gen.Dense.CollapsingLowestDenseStore.adjust DStore.adjust
  simp only [hk, toLow_DenseStore, toLow_maxNumBins, toLow_isCollapsed, toGen_bins, toGen_offset,
    toGen_minIndex, toGen_maxIndex, toGen_count, len_toList, decide_eq_true_eq]
  rw [show s.len = (s.bins.size : Int) from rfl]
  by_cases hw : (s.bins.size : Int) < b - a + 1
  · rw [if_pos hw, if_pos hw, Option.bind_eq_bind, Option.pure_def, toRes_bind_some]
    unfold DStore.collapseLow
    by_cases h1 : s.maxIndex ≤ b - s.bins.size + 1
    · rw [if_pos h1, if_pos h1, mkSlice_eq, if_neg (Int.not_lt.2 (Int.natCast_nonneg _)), optR_some,
        Int.toNat_natCast, set_toList, optR_map]
      exact optR_toRes _ _ _ _ fun _ _ => rfl
    · rw [if_neg h1, if_neg h1]
      by_cases h2 : s.offset - (b - s.bins.size + 1) < 0
      · -- the sum, then `resetBins`, `+=` and `shiftCounts`, each against its `bind` of the model
        rw [if_pos h2, if_pos h2, sumRange_below, sumLoop _ _ _ _ _ _ _
          (Or.inr (sumFold_none s fuel 0 _ (fun _ => by omega) (by omega)))]
        refine optR_toRes _ _ _ _ fun r _ => ?_
        rw [resetBins_rel fuel s _ _ (Or.inl hf), bind_toRes]
        refine optR_toRes _ _ _ _ fun t ht => ?_
        rw [toGen_bins, toGen_offset, addAt_toList, optR_map]
        refine optR_toRes _ _ _ _ fun b1 hb => ?_
        rw [toGen_mk t.kind t.isCollapsed, shiftCounts_rel fuel _ _
          (by rw [show b1.size = s.bins.size from
            (addAt_size _ _ _ _ hb).trans (resetBins_frame _ _ _ _ ht).2.2]; exact hf), bind_toRes]
        exact optR_ok _ _ _ fun _ _ => rfl
      · rw [if_neg h2, if_neg h2, shiftCounts_rel fuel s _ hf, bind_toRes]
        exact optR_toRes _ _ _ _ fun _ _ => rfl
  · rw [if_neg hw, if_neg hw, centerCounts_rel fuel s a b hf, bind_toRes]
    exact optR_ok _ _ _ fun t ht => by rw [toLow, (centerCounts_frame s t a b ht).2.1]

/-! ### `extendRange` -/

def lowFuel (n : Nat) (s : DStore) : Nat := s.bins.size + n + 2

theorem extendRange_rel (fuel : Nat) (n : Nat) (s : DStore) (a b : Int) (hk : s.kind = .low n)
    (hf : lowFuel n s ≤ fuel) :
    Gen.Dense.CollapsingLowestDenseStore.extendRange fuel (toLow (n : Int) s) a b
      = toRes (toLow (n : Int)) (s.extendRange a b) := by
  unfold Gen.Dense.CollapsingLowestDenseStore.extendRange DStore.extendRange
  -- `-iota`: the pair `(newMinIndex, s)` is bound by a `match` on an `if`, which is decided below
  simp -iota only [goMin_eq, goMax_eq, toLow_DenseStore, toLow_maxNumBins, toLow_isCollapsed, toGen_minIndex,
    toGen_maxIndex, toGen_offset, toGen_bins, toGen_count, isEmpty_eq, len_toList,
    getNewLength_rel fuel n s _ _ hk, bind_toRes, Res.bind_ok_right, id, decide_eq_true_eq, Bool.and_eq_true,
    Option.bind_eq_bind, Option.pure_def]
  rw [hk, show s.len = (s.bins.size : Int) from rfl]
  by_cases h0 : s.count = 0
  · rw [if_pos ((isEmpty_iff_count s).2 h0), if_pos h0]
    refine optR_toRes _ _ _ _ fun L hL => ?_
    have hLn := getNewLength_le n s hk _ _ _ hL
    unfold DStore.grow
    rw [mkSlice_eq]
    by_cases hneg : L < 0
    · rw [if_pos hneg, if_pos hneg]
      rfl
    · rw [if_neg hneg, if_neg hneg, optR_some, Option.bind_some, ← Array.toList_append]
      by_cases hwide : L < max b s.maxIndex - min a s.minIndex + 1
      · simp only [if_pos hwide]
        refine .trans ?_ (adjust_rel fuel _ n _ _ _ hk (grow_fuel s.bins (Int.toNat_le.2 hLn) hf))
        rfl
      · simp only [if_neg hwide]
        refine .trans ?_ (adjust_rel fuel _ n _ _ _ hk (grow_fuel s.bins (Int.toNat_le.2 hLn) hf))
        rfl
  · rw [if_neg (mt (isEmpty_iff_count s).1 h0), if_neg h0]
    by_cases hin : s.offset ≤ min a s.minIndex ∧ max b s.maxIndex < s.offset + s.bins.size
    · rw [if_pos hin, if_pos hin]
      rfl
    · rw [if_neg hin, if_neg hin]
      refine optR_toRes _ _ _ _ fun L hL => ?_
      have hLn := getNewLength_le n s hk _ _ _ hL
      by_cases hgt : (s.bins.size : Int) < L
      · rw [if_pos hgt, if_pos hgt, DStore.grow, if_neg (by omega), Option.bind_some, append_replicate_toList]
        refine .trans ?_ (adjust_rel fuel _ n _ _ _ hk (grow_fuel s.bins (Int.toNat_le.2 (by omega)) hf))
        rfl
      · rw [if_neg hgt, if_neg hgt]
        exact adjust_rel fuel _ n s _ _ hk (Nat.le_trans (by unfold lowFuel; omega) hf)

/-! ### `normalize`, `AddWithCount`, `Add`, `AddBin` -/

theorem normalize_rel (fuel : Nat) (n : Nat) (s : DStore) (i : Int) (hk : s.kind = .low n)
    (hf : lowFuel n s ≤ fuel) :
    Gen.Dense.CollapsingLowestDenseStore.normalize fuel (toLow (n : Int) s) i
      = toRes (fun p : DStore × Int => (toLow (n : Int) p.1, p.2)) (s.normalize i) := by
  unfold Gen.Dense.CollapsingLowestDenseStore.normalize DStore.normalize
  rw [hk, extendRange_rel fuel n s i i hk hf]
  show (if decide (i < s.minIndex) then if s.isCollapsed then _ else _ else if decide (s.maxIndex < i) then _ else _) = _
  by_cases h1 : i < s.minIndex
  · rw [if_pos (decide_eq_true h1)]
    simp only [if_pos h1]
    by_cases hc : s.isCollapsed = true
    · rw [if_pos hc, if_pos hc]
      rfl
    · rw [if_neg hc, if_neg hc, bind_toRes]
      refine optR_toRes _ _ _ _ fun t _ => ?_
      show (if t.isCollapsed then _ else _) = _
      by_cases hc2 : t.isCollapsed = true
      · rw [if_pos hc2, if_pos hc2]
        rfl
      · rw [if_neg hc2, if_neg hc2]
        rfl
  · rw [if_neg (mt of_decide_eq_true h1)]
    simp only [if_neg h1]
    by_cases h2 : s.maxIndex < i
    · rw [if_pos (decide_eq_true h2), if_pos h2, bind_toRes]
      exact optR_toRes _ _ _ _ fun t _ => rfl
    · rw [if_neg (mt of_decide_eq_true h2), if_neg h2]
      rfl

theorem addWithCount_rel (fuel : Nat) (n : Nat) (s : DStore) (i : Int) (c : Rat) (hk : s.kind = .low n)
    (hf : lowFuel n s ≤ fuel) :
    Gen.Dense.CollapsingLowestDenseStore.AddWithCount fuel (toLow (n : Int) s) i c
      = toRes (toLow (n : Int)) (s.addWithCount i c) := by
  unfold Gen.Dense.CollapsingLowestDenseStore.AddWithCount DStore.addWithCount
  by_cases h0 : c = 0
  · rw [if_pos (beq_iff_eq.2 h0), if_pos h0]
    rfl
  · rw [if_neg (mt beq_iff_eq.1 h0), if_neg h0, normalize_rel fuel n s i hk hf, bind_toRes]
    refine optR_toRes _ _ _ _ fun p _ => ?_
    simp only [toLow_DenseStore, toGen_bins, addAt_toList, optR_map]
    exact optR_toRes _ _ _ _ fun _ _ => rfl

theorem add_rel (fuel : Nat) (n : Nat) (s : DStore) (i : Int) (hk : s.kind = .low n)
    (hf : lowFuel n s ≤ fuel) :
    Gen.Dense.CollapsingLowestDenseStore.Add fuel (toLow (n : Int) s) i
      = toRes (toLow (n : Int)) (s.addWithCount i 1) := by
  unfold Gen.Dense.CollapsingLowestDenseStore.Add
  rw [Res.bind_ok_right, addWithCount_rel fuel n s i 1 hk hf]

theorem addBin_rel (fuel : Nat) (n : Nat) (s : DStore) (bin : Gen.Dense.Bin) (hk : s.kind = .low n)
    (hf : lowFuel n s ≤ fuel) :
    Gen.Dense.CollapsingLowestDenseStore.AddBin fuel (toLow (n : Int) s) bin
      = toRes (toLow (n : Int)) (s.addWithCount bin.index bin.count) := by
  unfold Gen.Dense.CollapsingLowestDenseStore.AddBin Gen.Dense.Bin.Index Gen.Dense.Bin.Count
  by_cases h0 : bin.count = 0
  · rw [if_pos (beq_iff_eq.2 h0), DStore.addWithCount, if_pos h0]
    rfl
  · rw [if_neg (mt beq_iff_eq.1 h0), Res.bind_ok_right, addWithCount_rel fuel n s _ _ hk hf]

/-! ### `Copy`, `Clear`, constructor -/

theorem copy_eq (m : Int) (s : DStore) :
    Gen.Dense.CollapsingLowestDenseStore.Copy (toLow m s) = toLow m s := by
  simp [Gen.Dense.CollapsingLowestDenseStore.Copy, GoSem.copySlice, GoSem.len, toLow, toGen]

theorem clear_rel (fuel : Nat) (m : Int) (s : DStore) :
    Gen.Dense.CollapsingLowestDenseStore.Clear fuel (toLow m s) = .ok (toLow m s.clear) := by
  unfold Gen.Dense.CollapsingLowestDenseStore.Clear
  rw [toLow_DenseStore, GenDense.clear_rel]
  rfl

theorem new_eq (n : Nat) :
    Gen.Dense.NewCollapsingLowestDenseStore (n : Int) = toLow (n : Int) (DStore.new (.low n)) := rfl

/-! ### `MergeWith` (same-type fast path): the generated loops -/

theorem lt_min_succ {i mn mx : Int} : i < min mn (mx + 1) ↔ i < mn ∧ i ≤ mx := by omega

theorem irange_add (lo : Int) (a b : Nat) : irange lo (a + b) = irange lo a ++ irange (lo + a) b := by
  induction b with
  | zero => simp [irange_zero]
  | succ b ih =>
    rw [← Nat.add_assoc, irange_succ_right, ih, irange_succ_right, List.append_assoc]
    simp only [Int.natCast_add, Int.add_assoc]

/-- first loop of `MergeWith`: the indexes below `s.minIndex` go to bin 0 -/
theorem merge_loop2 (m m' : Int) (n : Nat) (o s : DStore) (hk : s.kind = .low n) (K : GLow × Int → Res GLow)
    (fuel : Nat) (b : Array Rat) (idx : Int) (hf : (min s.minIndex (o.maxIndex + 1) - idx).toNat < fuel) :
    (Gen.Dense.CollapsingLowestDenseStore.MergeWith.loop2 (toLow m' o) fuel (toLow m { s with bins := b })
        idx).elim K =
      optR ((irange idx (min s.minIndex (o.maxIndex + 1) - idx).toNat).foldlM (mergeStep o (mergeCell s)) b)
        fun b' => K (toLow m { s with bins := b' }, idx + (min s.minIndex (o.maxIndex + 1) - idx).toNat) := by
  refine loop_up_elim _ (fun b => toLow m { s with bins := b }) _
    (fun i => (min s.minIndex (o.maxIndex + 1) - i).toNat) (fun _ _ => True) (fun f b i h => ?_)
    (fun f b i k _ h => ⟨(toNat_sub_succ h).2, fun _ _ => trivial, ?_⟩) K fuel b idx trivial (Or.inl hf)
  · rw [Gen.Dense.CollapsingLowestDenseStore.MergeWith.loop2, if_neg]
    rw [Bool.and_eq_true, decide_eq_true_eq, decide_eq_true_eq]
    exact mt lt_min_succ.2 (toNat_sub_zero h)
  · have hc := lt_min_succ.1 (toNat_sub_succ h).1
    -- the loop condition speaks of `(toLow …).DenseStore.minIndex`: it is left open and closed last
    rw [Gen.Dense.CollapsingLowestDenseStore.MergeWith.loop2, if_pos, mergeStep, mergeCell_low hk, if_pos hc.1]
    · exact addFrom_toList_L b o.bins 0 _ _
    · rw [Bool.and_eq_true, decide_eq_true_eq, decide_eq_true_eq]
      exact hc

/-- second loop of `MergeWith`: the indexes in `[s.minIndex, o.maxIndex)` go to their own bin -/
theorem merge_loop1 (m m' : Int) (n : Nat) (o s : DStore) (hk : s.kind = .low n) (K : GLow × Int → Res GLow)
    (fuel : Nat) (b : Array Rat) (idx : Int) (hi : idx < o.maxIndex → s.minIndex ≤ idx)
    (hf : (o.maxIndex - idx).toNat < fuel) :
    (Gen.Dense.CollapsingLowestDenseStore.MergeWith.loop1 (toLow m' o) fuel (toLow m { s with bins := b })
        idx).elim K =
      optR ((irange idx (o.maxIndex - idx).toNat).foldlM (mergeStep o (mergeCell s)) b)
        fun b' => K (toLow m { s with bins := b' }, idx + (o.maxIndex - idx).toNat) := by
  refine loop_up_elim _ (fun b => toLow m { s with bins := b }) _ (fun i => (o.maxIndex - i).toNat)
    (fun _ i => i < o.maxIndex → s.minIndex ≤ i) (fun f b i h => ?_)
    (fun f b i k hi h => ⟨(toNat_sub_succ h).2, fun _ _ => by omega, ?_⟩) K fuel b idx hi (Or.inl hf)
  · rw [Gen.Dense.CollapsingLowestDenseStore.MergeWith.loop1]
    exact if_neg (mt of_decide_eq_true (toNat_sub_zero h))
  · rw [Gen.Dense.CollapsingLowestDenseStore.MergeWith.loop1, if_pos, mergeStep, mergeCell_low hk,
      if_neg (Int.not_lt.2 (hi (toNat_sub_succ h).1))]
    · exact addFrom_toList_L b o.bins _ _ _
    · exact decide_eq_true (toNat_sub_succ h).1

/-- how the two loops and the last step share the window `[lo, hi]` of the argument, `mn` being the
    `minIndex` of the receiver: the first loop takes `n2` indexes; either that leaves some, of which
    the second loop takes all (`n1`) but the last — or it leaves none -/
theorem segments (lo hi mn : Int) :
    ∃ n2 n1 : Nat, n2 = (min mn (hi + 1) - lo).toNat ∧ n1 = (hi - (lo + n2)).toNat ∧
      n2 ≤ (hi - lo + 1).toNat ∧ n1 ≤ (hi - lo + 1).toNat ∧
      ((hi - lo + 1).toNat = n2 + (n1 + 1) ∧ lo + n2 + n1 = hi ∧ mn ≤ lo + n2 ∧ ¬ lo + n2 + n1 < mn ∨
        (hi - lo + 1).toNat = n2 ∧ n1 = 0 ∧ lo + n2 ≠ hi ∧ ¬ lo + n2 < hi) := by
  refine ⟨(min mn (hi + 1) - lo).toNat, (hi - (lo + (min mn (hi + 1) - lo).toNat)).toNat, rfl, rfl, ?_⟩
  generalize hn2 : (min mn (hi + 1) - lo).toNat = n2
  have h2 : n2 ≤ (hi - lo + 1).toNat ∧ (lo + n2 ≤ hi → mn ≤ lo + n2) := by omega
  clear hn2
  by_cases he : lo + n2 ≤ hi
  · have hn1 : ((hi - (lo + n2)).toNat : Int) = hi - (lo + n2) := Int.toNat_of_nonneg (by omega)
    have hW : ((hi - lo + 1).toNat : Int) = hi - lo + 1 := Int.toNat_of_nonneg (by omega)
    generalize (hi - (lo + n2)).toNat = n1 at hn1 ⊢
    generalize (hi - lo + 1).toNat = W at h2 hW ⊢
    exact ⟨h2.1, by omega, .inl ⟨by omega, by omega, h2.2 he, by omega⟩⟩
  · have hn1 : (hi - (lo + n2)).toNat = 0 := Int.toNat_eq_zero.2 (by omega)
    rw [hn1]
    exact ⟨h2.1, Nat.zero_le _, .inr ⟨by omega, rfl, by omega, by omega⟩⟩

/-- fuel for `MergeWith`: the `extendRange` call and the loops over `[o.minIndex, o.maxIndex]` -/
def mergeFuel (n : Nat) (s o : DStore) : Nat :=
  max (lowFuel n s) ((o.maxIndex - o.minIndex + 1).toNat + 1)

/-- `MergeWith` of two lowest-collapsing stores (the same-type fast path): the two loops and the
    final step of the generated code are the model's single fold -/
theorem mergeWith_rel (fuel : Nat) (n : Nat) (m' : Int) (s o : DStore) (hk : s.kind = .low n)
    (hf : mergeFuel n s o ≤ fuel) :
    Gen.Dense.CollapsingLowestDenseStore.MergeWith fuel (toLow (n : Int) s) (toLow m' o)
      = toRes (toLow (n : Int)) (s.mergeSame o) := by
  unfold Gen.Dense.CollapsingLowestDenseStore.MergeWith
  refine mergeWith_frame (toLow n) s o _ _ (.low n) hk
    (extendRange_rel fuel n s _ _ hk (Nat.le_trans (Nat.le_max_left _ _) hf)) fun s hk => ?_
  -- after `extendRange`: the first loop, …
  obtain ⟨n2, n1, hn2, hn1, hle2, hle1, h⟩ := segments o.minIndex o.maxIndex s.minIndex
  have hlt : (o.maxIndex - o.minIndex + 1).toNat < fuel := Nat.lt_of_succ_le (Nat.le_trans (Nat.le_max_right _ _) hf)
  unfold mergeFold
  rw [toRes_bind_some, idxRange_eq]
  refine (merge_loop2 n m' n o s hk _ fuel s.bins o.minIndex (hn2 ▸ Nat.lt_of_le_of_lt hle2 hlt)).trans ?_
  rw [← hn2]
  rcases h with ⟨hW, hfin, hge, hge'⟩ | ⟨hW, h10, hne, hnlt⟩
  · -- … the second loop and the last step
    rw [hW, irange_add, List.foldlM_append]
    refine optR_toRes _ _ _ _ fun b2 _ => ?_
    refine (merge_loop1 n m' n o s hk _ fuel b2 (o.minIndex + n2) (fun _ => hge)
      (hn1 ▸ Nat.lt_of_le_of_lt hle1 hlt)).trans ?_
    rw [← hn1, irange_succ_right, List.foldlM_append]
    refine optR_toRes _ _ _ _ fun b1 _ => ?_
    show (if (_ == o.maxIndex) = true then _ else _) = _
    rw [if_pos (beq_iff_eq.2 hfin), foldlM_one, mergeStep, mergeCell_low hk, if_neg hge']
    exact (addFrom_toList b1 o.bins _ _ _).trans (optR_ok _ _ _ fun _ _ => rfl)
  · -- … which has taken all indexes: the second loop and the last step do nothing
    rw [hW]
    refine optR_ok _ _ _ fun b2 _ => ?_
    refine (merge_loop1 n m' n o s hk _ fuel b2 (o.minIndex + n2) (fun h => absurd h hnlt)
      (hn1 ▸ Nat.lt_of_le_of_lt hle1 hlt)).trans ?_
    rw [← hn1, h10, Int.natCast_zero, Int.add_zero]
    show (if (_ == o.maxIndex) = true then _ else _) = _
    rw [if_neg (mt beq_iff_eq.1 hne)]
    rfl

/-! ### the same for EVERY generated store with a non-negative limit -/

theorem addWithCount_gen (fuel : Nat) (g : GLow) (hn : 0 ≤ g.maxNumBins) (i : Int) (c : Rat)
    (hf : g.DenseStore.bins.length + g.maxNumBins.toNat + 2 ≤ fuel) :
    Gen.Dense.CollapsingLowestDenseStore.AddWithCount fuel g i c
      = toRes (toLow g.maxNumBins) ((ofLow g).addWithCount i c) := by
  have := addWithCount_rel fuel g.maxNumBins.toNat (ofLow g) i c rfl hf
  rwa [Int.toNat_of_nonneg hn, toLow_ofLow] at this

theorem mergeWith_gen (fuel : Nat) (g o : GLow) (hn : 0 ≤ g.maxNumBins)
    (hf : max (g.DenseStore.bins.length + g.maxNumBins.toNat + 2)
      ((o.DenseStore.maxIndex - o.DenseStore.minIndex + 1).toNat + 1) ≤ fuel) :
    Gen.Dense.CollapsingLowestDenseStore.MergeWith fuel g o
      = toRes (toLow g.maxNumBins) ((ofLow g).mergeSame (ofLow o)) := by
  have := mergeWith_rel fuel g.maxNumBins.toNat o.maxNumBins (ofLow g) (ofLow o) rfl hf
  rwa [Int.toNat_of_nonneg hn, toLow_ofLow, toLow_ofLow] at this

/-! ### enough fuel exists; the statements through `RRel` -/

theorem addWithCount_ex (n : Nat) (s : DStore) (i : Int) (c : Rat) (hk : s.kind = .low n) :
    ∃ f0, ∀ fuel, f0 ≤ fuel →
      Gen.Dense.CollapsingLowestDenseStore.AddWithCount fuel (toLow (n : Int) s) i c
        = toRes (toLow (n : Int)) (s.addWithCount i c) :=
  ⟨_, fun fuel hf => addWithCount_rel fuel n s i c hk hf⟩

theorem mergeWith_ex (n : Nat) (m' : Int) (s o : DStore) (hk : s.kind = .low n) :
    ∃ f0, ∀ fuel, f0 ≤ fuel →
      Gen.Dense.CollapsingLowestDenseStore.MergeWith fuel (toLow (n : Int) s) (toLow m' o)
        = toRes (toLow (n : Int)) (s.mergeSame o) :=
  ⟨_, fun fuel hf => mergeWith_rel fuel n m' s o hk hf⟩

theorem addWithCount_RRel (fuel : Nat) (n : Nat) (s : DStore) (i : Int) (c : Rat) (hk : s.kind = .low n)
    (hf : lowFuel n s ≤ fuel) :
    RRel (toLow (n : Int)) (s.addWithCount i c)
      (Gen.Dense.CollapsingLowestDenseStore.AddWithCount fuel (toLow (n : Int) s) i c) :=
  addWithCount_rel fuel n s i c hk hf

theorem mergeWith_RRel (fuel : Nat) (n : Nat) (m' : Int) (s o : DStore) (hk : s.kind = .low n)
    (hf : mergeFuel n s o ≤ fuel) :
    RRel (toLow (n : Int)) (s.mergeSame o)
      (Gen.Dense.CollapsingLowestDenseStore.MergeWith fuel (toLow (n : Int) s) (toLow m' o)) :=
  mergeWith_rel fuel n m' s o hk hf

end DDS.GenLow
