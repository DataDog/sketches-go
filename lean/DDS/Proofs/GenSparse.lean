/-
  DDS.Proofs.GenSparse — the REGENERATED sparse store (`DDS.Gen.Sparse.SparseStore` in
  `DDS/Generated/CodeSparse.lean`, translated from `/repo/ddsketch/store/sparse.go` on every run) is
  the HAND-WRITTEN model `Store.sp c` (`DDS/Model/Store.lean`, a canonical `Content`), FOR EVERY LAWFUL
  ITERATION ORDER of Go's `range` over the map (`GoSem.MapOrder.Lawful`: the oracle returns a
  permutation of the keys).  Order independence is proved, not assumed: the single lemma behind it is
  `mrange_perm` (a lawful `range` visits every entry exactly once), and each loop is shown to compute
  something invariant under permutation (a sum; a max/min; a sorted list; a sorted insertion of
  distinct keys; deletions; pointwise rewrites of distinct keys).

  REPRESENTATION.  `GoMap Rat` and `Content` are the same type (`List (Int × Rat)`).
  * `Rep g c  := g.counts = c ∧ c.WF`      (strictly increasing keys, weights `> 0`)
  * `RepS g c := g.counts = c ∧ c.Sorted`  (strictly increasing keys only)
  Every observer theorem needs `RepS` only — it also holds of a map carrying zero or negative entries,
  against the model functions run on that same (non-canonical) list.  `Rep` is needed exactly where a
  canonical content is: `AddWithCount` (below) and the denotation of the encoding.
  `Rep` is preserved by `NewSparseStore` (`rep_new`), `Add` / `AddWithCount` / `AddBin` with a weight
  `≥ 0` (`add_rep`, `addWithCount_rep`, `addBin_rep`; weight `0` is Go's early return and
  `Content.add _ _ 0 = id`; a whole history of them: `foldl_addWithCount_rep`), `Copy` (`copy_rep`),
  `Clear` (`clear_rep`), `Reweight` with `w > 0` (`reweight_rep`).
  WHY `0 ≤ w`: with a negative weight the Go map can hold an entry of weight `0` or below (it never
  deletes on `+=`), which a canonical `Content` cannot: `Content.add` drops an entry that becomes 0.
  The exact condition is "the touched entry does not become exactly 0" (`addWithCount_eq_of_sorted`);
  the kernel-checked `example` after `addBin_rep` shows the two sides parting outside it.

  THEOREMS (any `fuel` — the range loops are structural — and every lawful `ord`, unless said):
  * `new_eq`, `isEmpty_eq`
  * `addWithCount_eq`, `add_eq`, `addBin_eq`   `(g.AddWithCount i w).counts = c.add i w`  (`0 ≤ w`)
  * `totalCount_eq`     `TotalCount = .ok c.total`
  * `maxIndex_eq`, `minIndex_eq`   `= .ok (k, nil)` for `maxIndex? / minIndex? = some k`, and
                        `.ok (0, errUndefinedMaxIndex / errUndefinedMinIndex)` on the empty store
  * `orderedBins_eq`    `orderedBins = .ok (c.map toBin)`: the content's entries, ascending
  * `keyAtRank_eq`      `KeyAtRank r = .ok (Store.keyAtRank (.sp c) r)`, EVERY rational `r`
  * `reweight_nonpos`, `reweight_one`, `reweight_scale`, `reweight_eq` (the three cases vs `Store.reweight`)
  * `clear_eq`          `Clear = .ok NewSparseStore`
  * `copy_eq`           `Copy = .ok ⟨c⟩`
  * `encode_any_order`  (fuel `≥ 9`, `KeyRange c`) the bytes are those of ONE `deltasCounts` block listing
                        the entries in the order the oracle picked
  * `encode_ascending`  (+ `_pos`, `_neg`) with `ord = MapOrder.ascending`:
                        `Encode fuel ord g b t = .ok (b ++ bn (Wire.encBlocks blocks))` for the `blocks`
                        of `Sketch.encodeStore (.sp c) side`
  * `encode_any_order_denotes`  (`Rep`, `int32` keys, `WOK` weights — the hypotheses of the model's
                        `RoundTrip.encodeStore_sparse`) for ANY lawful order the bytes written parse
                        with `Wire.parseBlocks` to well-formed bins blocks of that side which denote
                        `c` (`Denotes`, hence `Wire.contentOf … = some c`): every iteration order is a
                        valid encoding of the same content (C07).

  SIDE CONDITIONS ON KEYS (all artefacts of `GoSem`'s unbounded `int`; true of every Go `int`/`int32`):
  * `MaxIndex`, `KeyAtRank`: no key below `minInt = -2^63` (the scan starts there);
    `MinIndex`: no key above `maxInt = 2^63 - 1`.  Kernel-checked `example`s at the end show the
    results parting for the keys `-2^63 - 1` and `2^63`.
  * `Encode`: `KeyRange c` — every key and every difference of two keys is an `int64`
    (`int64(index - previousIndex)`; the model's `encVarint64` takes the unbounded integer).  Implied
    by `int32` keys (`keyRange_of_keys32`).  Fuel `≥ 9` for the varint codecs called from the loop.

  DISAGREEMENTS between generated code and model within these hypotheses: NONE.  In particular
  * negative rank: neither `SparseStore.KeyAtRank` nor `Store.keyAtRank (.sp c)` clamps; equal for every
    `r` (on canonical contents both equal the clamping `Content.keyAtRank`: `Store.sp_keyAtRank`);
  * empty store: `KeyAtRank` is `0` on both sides (Go's FIXME branch), `MinIndex/MaxIndex` give the
    error values, `Encode` writes nothing;
  * phantom zero entries arise only from negative weights, outside the model's contract (see above);
  * the BYTES of `Encode` do depend on the iteration order (`example`s at the end: ascending
    `[5,2,6,2,8,3]`, descending `[5,2,14,3,7,2]` for `{3 ↦ 1, 7 ↦ 2}`); the model writes the ascending
    ones; any order denotes the same content (`encode_any_order_denotes`).
-/
import DDS.Generated.CodeSparse
import DDS.Proofs.Refine
import DDS.Proofs.GenDenseEncode
import DDS.Proofs.RoundTrip

namespace DDS.GenSparse

open DDS DDS.GoSem DDS.Gen.Sparse DDS.Gen.Encoding DDS.Codec DDS.GenEncoding
open DDS.RoundTrip (deltaRec deltaRec_length)

/-! ### 0. the representation relation -/

/-- the generated store holds exactly the canonical content `c` (a Go `map[int]float64` in `GoSem`
    is a key-sorted association list: the same type as `Content`) -/
def Rep (g : SparseStore) (c : Content) : Prop := g.counts = c ∧ c.WF

/-- the part of `Rep` that every observer except `AddWithCount` needs: strictly increasing keys
    (weights unconstrained — zero or negative entries allowed) -/
def RepS (g : SparseStore) (c : Content) : Prop := g.counts = c ∧ c.Sorted

theorem Rep.repS {g : SparseStore} {c : Content} (h : Rep g c) : RepS g c := ⟨h.1, h.2.1⟩

/-! ### 1. key-sorted association lists: `keys`, `mget`, `mset`, `mrange` -/

def keys (m : List (Int × Rat)) : List Int := m.map Prod.fst

@[simp] theorem keys_nil : keys [] = [] := rfl
@[simp] theorem keys_cons (p : Int × Rat) (m : List (Int × Rat)) : keys (p :: m) = p.1 :: keys m := rfl

theorem mem_keys {m : List (Int × Rat)} {k : Int} : k ∈ keys m ↔ ∃ p ∈ m, p.1 = k := by
  unfold keys
  simp only [List.mem_map]

theorem mem_keys_of_mem {m : List (Int × Rat)} {p : Int × Rat} (h : p ∈ m) : p.1 ∈ keys m :=
  mem_keys.2 ⟨p, h, rfl⟩

theorem sorted_iff_keys (m : Content) : m.Sorted ↔ (keys m).Pairwise (· < ·) := by
  rw [Content.sorted_iff_pairwise, keys, List.pairwise_map]

theorem keys_nodup {m : Content} (h : m.Sorted) : (keys m).Nodup := by
  have := (sorted_iff_keys m).1 h
  exact this.imp (fun hab => Int.ne_of_lt hab)

theorem mget_nil (k : Int) (z : Rat) : mget ([] : GoMap Rat) k z = z := rfl

theorem mget_cons (p : Int × Rat) (m : GoMap Rat) (k : Int) (z : Rat) :
    mget (p :: m) k z = if p.1 = k then p.2 else mget m k z := by
  unfold mget
  by_cases h : p.1 = k
  · rw [List.find?_cons, beq_iff_eq.2 h, if_pos h]; rfl
  · rw [List.find?_cons, beq_eq_false_iff_ne.2 h, if_neg h]

theorem mget_of_not_mem (m : GoMap Rat) (k : Int) (z : Rat) (h : ∀ p ∈ m, p.1 ≠ k) :
    mget m k z = z := by
  induction m with
  | nil => rfl
  | cons p rest ih =>
    rw [mget_cons, if_neg (h p (List.mem_cons_self ..))]
    exact ih (fun q hq => h q (List.mem_cons_of_mem _ hq))

theorem mget_eq_lookup (m : Content) (hs : m.Sorted) (k : Int) : mget m k 0 = m.lookup k := by
  induction m with
  | nil => rfl
  | cons p rest ih =>
    rw [mget_cons, Content.lookup_cons, ← ih hs.tail]
    by_cases h : p.1 = k
    · rw [if_pos h, if_pos h, mget_of_not_mem rest k 0 fun q hq => h ▸ Int.ne_of_gt (hs.head_lt q hq),
        Rat.add_zero]
    · rw [if_neg h, if_neg h, Rat.zero_add]

theorem mset_nil (k : Int) (v : Rat) : mset ([] : GoMap Rat) k v = [(k, v)] := rfl

/-- `m[k] = v` on `p :: m`, by the position of `k` relative to the first key -/
theorem mset_lt {p : Int × Rat} {k : Int} (h : k < p.1) (m : GoMap Rat) (v : Rat) :
    mset (p :: m) k v = (k, v) :: p :: m := by
  obtain ⟨k', v'⟩ := p; exact if_pos h
theorem mset_eq (p : Int × Rat) (m : GoMap Rat) (v : Rat) : mset (p :: m) p.1 v = (p.1, v) :: m := by
  obtain ⟨k', v'⟩ := p; exact (if_neg (Int.lt_irrefl _)).trans (if_pos rfl)
theorem mset_gt {p : Int × Rat} {k : Int} (h : p.1 < k) (m : GoMap Rat) (v : Rat) :
    mset (p :: m) k v = p :: mset m k v := by
  obtain ⟨k', v'⟩ := p; exact (if_neg (Int.lt_asymm h)).trans (if_neg (Int.ne_of_gt h))

theorem mem_mset {m : GoMap Rat} {k : Int} {v : Rat} {q : Int × Rat} (h : q ∈ mset m k v) :
    q = (k, v) ∨ q ∈ m := by
  induction m with
  | nil => exact .inl (List.mem_singleton.1 h)
  | cons p rest ih =>
    rcases Int.lt_trichotomy k p.1 with hk | rfl | hk
    · rw [mset_lt hk] at h; exact List.mem_cons.1 h
    · rw [mset_eq] at h; exact (List.mem_cons.1 h).imp_right (List.mem_cons_of_mem _)
    · rw [mset_gt hk] at h
      rcases List.mem_cons.1 h with h | h
      · exact .inr (h ▸ List.mem_cons_self ..)
      · exact (ih h).imp_right (List.mem_cons_of_mem _)

theorem mset_sorted (m : Content) (hs : m.Sorted) (k : Int) (v : Rat) :
    Content.Sorted (mset m k v) := by
  induction m with
  | nil => trivial
  | cons p rest ih =>
    rcases Int.lt_trichotomy k p.1 with hk | rfl | hk
    · rw [mset_lt hk]; exact (Content.sorted_cons_cons ..).2 ⟨hk, hs⟩
    · rw [mset_eq]; exact (Content.sorted_cons ..).2 ⟨hs.head_lt, hs.tail⟩
    · rw [mset_gt hk]
      refine (Content.sorted_cons ..).2 ⟨fun q hq => ?_, ih hs.tail⟩
      rcases mem_mset hq with rfl | hq
      · exact hk
      · exact hs.head_lt q hq

/-- writing a NEW key is a sorted insertion -/
theorem mset_perm (m : GoMap Rat) (k : Int) (v : Rat) (hk : ∀ p ∈ m, p.1 ≠ k) :
    (mset m k v).Perm ((k, v) :: m) := by
  induction m with
  | nil => exact .refl _
  | cons p rest ih =>
    rcases Int.lt_trichotomy k p.1 with h | h | h
    · rw [mset_lt h]
    · exact absurd h.symm (hk p (List.mem_cons_self ..))
    · rw [mset_gt h]
      exact ((ih fun q hq => hk q (List.mem_cons_of_mem _ hq)).cons p).trans (.swap ..)

/-- writing distinct keys, in any order, into a key-sorted map: the result is key-sorted and holds exactly the
    entries written -/
theorem foldl_mset (l : List (Int × Rat)) : ∀ acc : Content, acc.Sorted → (keys (acc ++ l)).Nodup →
    Content.Sorted (l.foldl (fun m p => mset m p.1 p.2) acc) ∧
      (l.foldl (fun m p => mset m p.1 p.2) acc).Perm (acc ++ l) := by
  induction l with
  | nil => exact fun acc hs _ => ⟨hs, by rw [List.append_nil]; exact .refl _⟩
  | cons p rest ih =>
    intro acc hs hnd
    have hk : ∀ q ∈ acc, q.1 ≠ p.1 := by
      unfold keys at hnd
      rw [List.map_append, List.nodup_append] at hnd
      exact fun q hq => hnd.2.2 q.1 (mem_keys_of_mem hq) p.1 (List.mem_cons_self ..)
    have hperm : (mset acc p.1 p.2 ++ rest).Perm (acc ++ p :: rest) :=
      ((mset_perm acc p.1 p.2 hk).append_right rest).trans List.perm_middle.symm
    exact (ih _ (mset_sorted acc hs ..) ((hperm.map Prod.fst).nodup_iff.2 hnd)).imp_right (·.trans hperm)

/-- the entries of a key-sorted map, written in ANY order into the empty map, give the map back -/
theorem foldl_mset_of_perm {c : Content} (hs : c.Sorted) {l : List (Int × Rat)} (hp : l.Perm c) :
    l.foldl (fun m p => mset m p.1 p.2) [] = c :=
  have h := foldl_mset l [] trivial ((hp.map Prod.fst).nodup_iff.2 (keys_nodup hs))
  Content.eq_of_perm_sorted (h.2.trans hp) h.1 hs

/-- **order independence, the one lemma**: whatever lawful order the oracle picks, `range` visits
    every entry of a (key-sorted) map exactly once -/
theorem mrange_perm (ord : MapOrder) (hl : ord.Lawful) (m : Content) (hs : m.Sorted) :
    (mrange ord m).Perm m :=
  mrange_perm_of_sorted ord hl m ((sorted_iff_keys m).1 hs)

theorem mrange_ascending (m : Content) (hs : m.Sorted) : mrange MapOrder.ascending m = m :=
  mrange_ascending_of_sorted m ((sorted_iff_keys m).1 hs)

theorem ascending_lawful : MapOrder.ascending.Lawful := fun l => List.Perm.refl l

/-- the reversed order is lawful too (used to show that the bytes DO depend on the order) -/
def descending : MapOrder := ⟨List.reverse⟩
theorem descending_lawful : descending.Lawful := fun l => List.reverse_perm l

/-! ### 2. `NewSparseStore`, `IsEmpty` -/

theorem new_eq : NewSparseStore = ⟨([] : Content)⟩ := rfl

theorem rep_new : Rep NewSparseStore [] := ⟨rfl, Content.wf_nil⟩

theorem isEmpty_eq_counts (g : SparseStore) : g.IsEmpty = Content.isEmpty g.counts := by
  unfold SparseStore.IsEmpty
  cases g.counts <;> rfl

theorem isEmpty_cons (g : SparseStore) (p : Int × Rat) (rest : Content) (h : g.counts = p :: rest) :
    g.IsEmpty = false := by
  rw [isEmpty_eq_counts, h]; rfl

theorem isEmpty_nil (g : SparseStore) (h : g.counts = []) : g.IsEmpty = true := by
  rw [isEmpty_eq_counts, h]; rfl

theorem isEmpty_eq {g : SparseStore} {c : Content} (h : RepS g c) :
    g.IsEmpty = (Store.sp c).isEmpty := by
  rw [isEmpty_eq_counts, h.1]; rfl

/-! ### 3. `Add`, `AddWithCount`, `AddBin` -/

/-- `m[i] += w` is `Content.add`, provided the entry does not become zero (then `Content.add`
    drops the key, the Go map keeps it with weight 0) and `w ≠ 0` -/
theorem mset_mget_add (c : Content) (hs : c.Sorted) (i : Int) (w : Rat) (hw : w ≠ 0)
    (hne : ∀ v, (i, v) ∈ c → v + w ≠ 0) :
    mset c i (mget c i 0 + w) = c.add i w := by
  induction c with
  | nil => rw [mget_nil, mset_nil, Content.add_nil, if_neg hw, Rat.zero_add]
  | cons p rest ih =>
    rw [Content.add_cons, if_neg hw, mget_cons]
    rcases Int.lt_trichotomy i p.1 with h | rfl | h
    · rw [mset_lt h, if_pos h, if_neg (Int.ne_of_gt h),
        mget_of_not_mem rest i 0 fun q hq => Int.ne_of_gt (Int.lt_trans h (hs.head_lt q hq)), Rat.zero_add]
    · rw [mset_eq, if_neg (Int.lt_irrefl _), if_pos rfl, if_pos rfl, if_neg (hne p.2 (List.mem_cons_self ..))]
    · rw [mset_gt h, if_neg (Int.lt_asymm h), if_neg (Int.ne_of_gt h), if_neg (Int.ne_of_lt h),
        ih hs.tail fun v hv => hne v (List.mem_cons_of_mem _ hv)]

/-- `AddWithCount` in its most general true form: sorted keys, and the touched entry does not
    become exactly zero -/
theorem addWithCount_eq_of_sorted (g : SparseStore) (i : Int) (w : Rat) (hs : Content.Sorted g.counts)
    (hne : w ≠ 0 → ∀ v, (i, v) ∈ g.counts → v + w ≠ 0) :
    (g.AddWithCount i w).counts = Content.add g.counts i w := by
  unfold SparseStore.AddWithCount
  by_cases hw : w = 0
  · rw [if_pos (beq_iff_eq.2 hw), hw, Content.add_zero_weight]
  · rw [if_neg fun h => hw (beq_iff_eq.1 h)]
    exact mset_mget_add _ hs i w hw (hne hw)

theorem addWithCount_eq {g : SparseStore} {c : Content} (h : Rep g c) (i : Int) (w : Rat) (hw : 0 ≤ w) :
    (g.AddWithCount i w).counts = c.add i w := by
  obtain ⟨rfl, hwf⟩ := h
  refine addWithCount_eq_of_sorted g i w hwf.1 fun _ v hv h0 => ?_
  have h2 : v + 0 ≤ v + w := Rat.add_le_add_left.2 hw
  rw [Rat.add_zero, h0] at h2
  exact Rat.not_le.2 (hwf.2 _ hv) h2

theorem addWithCount_rep {g : SparseStore} {c : Content} (h : Rep g c) (i : Int) (w : Rat) (hw : 0 ≤ w) :
    Rep (g.AddWithCount i w) (c.add i w) :=
  ⟨addWithCount_eq h i w hw, Content.wf_add c i w h.2 hw⟩

theorem foldl_addWithCount_rep (l : List (Int × Rat)) (hl : ∀ p ∈ l, 0 ≤ p.2) (g : SparseStore) (c : Content)
    (h : Rep g c) : Rep (l.foldl (fun g p => g.AddWithCount p.1 p.2) g) (c.merge l) := by
  induction l generalizing g c with
  | nil => exact h
  | cons p rest ih =>
    rw [List.foldl_cons, Content.merge_cons]
    exact ih (fun q hq => hl q (List.mem_cons_of_mem _ hq)) _ _
      (addWithCount_rep h p.1 p.2 (hl p (List.mem_cons_self ..)))

theorem addWithCount_model {g : SparseStore} {c : Content} (h : Rep g c) (i : Int) (w : Rat) (hw : 0 ≤ w) :
    (Store.sp c).addWithCount i w = some (.sp (g.AddWithCount i w).counts) := by
  rw [addWithCount_eq h i w hw]; rfl

theorem add_eq_addWithCount (g : SparseStore) (i : Int) : g.Add i = g.AddWithCount i 1 := rfl

theorem add_eq {g : SparseStore} {c : Content} (h : Rep g c) (i : Int) :
    (g.Add i).counts = c.add i 1 := by
  rw [add_eq_addWithCount]; exact addWithCount_eq h i 1 (by decide)

theorem add_rep {g : SparseStore} {c : Content} (h : Rep g c) (i : Int) : Rep (g.Add i) (c.add i 1) := by
  rw [add_eq_addWithCount]; exact addWithCount_rep h i 1 (by decide)

theorem addBin_eq {g : SparseStore} {c : Content} (h : Rep g c) (bin : Bin) (hw : 0 ≤ bin.count) :
    (g.AddBin bin).counts = c.add bin.index bin.count :=
  addWithCount_eq h _ _ hw

theorem addBin_rep {g : SparseStore} {c : Content} (h : Rep g c) (bin : Bin) (hw : 0 ≤ bin.count) :
    Rep (g.AddBin bin) (c.add bin.index bin.count) :=
  addWithCount_rep h _ _ hw

/-- WHY the weight must not cancel an entry: adding `-1` to a store holding `{5 ↦ 1}` leaves the Go
    map with the phantom entry `5 ↦ 0` (`IsEmpty` false, `MinIndex = 5`), where the canonical content
    is empty.  Outside the hypothesis (`0 ≤ w`) of every theorem above; the model is specified for
    non-negative weights only. -/
example : ((NewSparseStore.AddWithCount 5 1).AddWithCount 5 (-1)).counts = [(5, 0)] ∧
    (Content.add (Content.add [] 5 1) 5 (-1)) = [] := by decide +kernel

/-! ### 4. `TotalCount` -/

theorem totalCount_loop (l : List (Int × Rat)) (acc : Rat) :
    SparseStore.TotalCount.loop1 l acc = .done (acc + Content.total l) := by
  induction l generalizing acc with
  | nil => simp only [SparseStore.TotalCount.loop1, Content.total_nil, Rat.add_zero]
  | cons p rest ih =>
    obtain ⟨i, c⟩ := p
    simp only [SparseStore.TotalCount.loop1, ih, Content.total_cons, Rat.add_assoc]

theorem totalCount_eq {g : SparseStore} {c : Content} (h : RepS g c) (fuel : Nat) (ord : MapOrder)
    (hl : ord.Lawful) : g.TotalCount fuel ord = .ok (Store.sp c).totalCount := by
  obtain ⟨rfl, hs⟩ := h
  unfold SparseStore.TotalCount
  simp only [totalCount_loop, Loop.elim_done, Rat.zero_add, Content.total_perm (mrange_perm ord hl _ hs)]
  rfl

/-! ### 5. `MaxIndex`, `MinIndex`: one scan, read with `<` and with `>` -/

/-- the scan of both loops: keep the index seen so far unless the next one is `beyond` it -/
def scan (beyond : Int → Int → Bool) (l : List (Int × Rat)) (init : Int) : Int :=
  l.foldl (fun a p => if beyond a p.1 then p.1 else a) init

theorem maxIndex_loop (l : List (Int × Rat)) (init : Int) :
    SparseStore.MaxIndex.loop1 l init = .done (scan (fun a i => decide (a < i)) l init) := by
  induction l generalizing init with
  | nil => rfl
  | cons p rest ih => exact ih _

theorem minIndex_loop (l : List (Int × Rat)) (init : Int) :
    SparseStore.MinIndex.loop1 l init = .done (scan (fun a i => decide (i < a)) l init) := by
  induction l generalizing init with
  | nil => rfl
  | cons p rest ih => exact ih _

/-- the scan finds the index `k` that none of the indexes it is given is beyond — there is one such index at most
    (`tri`) -/
theorem scan_eq {beyond : Int → Int → Bool} (tri : ∀ a b, beyond a b = false → beyond b a = false → a = b)
    {l : List (Int × Rat)} {init k : Int} (hk : k ∈ init :: keys l)
    (hmax : ∀ j ∈ init :: keys l, beyond k j = false) : scan beyond l init = k := by
  induction l generalizing init with
  | nil => exact (List.mem_singleton.1 hk).symm
  | cons p rest ih =>
    rw [keys_cons, List.forall_mem_cons, List.forall_mem_cons] at hmax
    rw [keys_cons, List.mem_cons, List.mem_cons] at hk
    show scan beyond rest (if beyond init p.1 then p.1 else init) = k
    cases h : beyond init p.1
    · refine ih (List.mem_cons.2 ?_) (List.forall_mem_cons.2 ⟨hmax.1, hmax.2.2⟩)
      rcases hk with hk | hk | hk
      · exact .inl hk
      · exact .inl (hk ▸ (tri _ _ h (hk ▸ hmax.1)).symm)
      · exact .inr hk
    · refine ih (List.mem_cons.2 ?_) (List.forall_mem_cons.2 hmax.2)
      rcases hk with hk | hk | hk
      · rw [hk, h] at hmax; cases hmax.2.1
      · exact .inl hk
      · exact .inr hk

/-- what the Go pair `(index, error)` is for an optional index of the model -/
def idxRes (e : GoErr) : Option Int → Int × GoErr
  | some k => (k, GoErr.nil)
  | none => (0, e)

/-- the body of `MaxIndex` / `MinIndex` against the model's optional index `o`: `none` exactly on the empty
    content, otherwise a key that no key is beyond; the starting value is beyond no key — whatever the lawful order -/
theorem scan_index {beyond : Int → Int → Bool} (tri : ∀ a b, beyond a b = false → beyond b a = false → a = b)
    {g : SparseStore} {c : Content} (h : RepS g c) (ord : MapOrder) (hl : ord.Lawful) (init : Int) (e : GoErr)
    (o : Option Int) (hnone : o = none ↔ c = []) (hmem : ∀ k, o = some k → ∃ w, (k, w) ∈ c)
    (hmax : ∀ k, o = some k → ∀ p ∈ c, beyond k p.1 = false) (hinit : ∀ p ∈ c, beyond p.1 init = false) :
    (if g.IsEmpty then Res.ok (0, e) else Res.ok (scan beyond (mrange ord g.counts) init, GoErr.nil))
      = .ok (idxRes e o) := by
  obtain ⟨rfl, hs⟩ := h
  have hkeys : (keys (mrange ord g.counts)).Perm (keys g.counts) := (mrange_perm ord hl _ hs).map Prod.fst
  cases o with
  | none => rw [isEmpty_nil g (hnone.1 rfl)]; rfl
  | some k =>
    obtain ⟨w, hw⟩ := hmem k rfl
    rw [isEmpty_cons g _ _ (List.cons_head_tail (List.ne_nil_of_mem hw)).symm,
      scan_eq tri (List.mem_cons_of_mem _ (hkeys.mem_iff.2 (mem_keys_of_mem hw))) (List.forall_mem_cons.2
        ⟨hinit _ hw, fun j hj => (mem_keys.1 (hkeys.mem_iff.1 hj)).elim fun p hp => hp.2 ▸ hmax k rfl p hp.1⟩)]
    rfl

/-- `MaxIndex`: the model's `maxIndex?` (error `errUndefinedMaxIndex` on the empty store), for every
    lawful order.  The scan starts from `minInt = -2^63`, hence the hypothesis that the keys are not
    below it (true of every Go `int`; `GoSem` models `int` as an unbounded `Int`). -/
theorem maxIndex_eq {g : SparseStore} {c : Content} (h : RepS g c) (fuel : Nat) (ord : MapOrder)
    (hl : ord.Lawful) (hk : ∀ p ∈ c, -(2:Int)^63 ≤ p.1) :
    g.MaxIndex fuel ord = .ok (idxRes errUndefinedMaxIndex (Store.sp c).maxIndex?) := by
  simp only [SparseStore.MaxIndex, maxIndex_loop, Loop.elim_done]
  exact scan_index
    (fun a b h1 h2 => Int.le_antisymm (Int.not_lt.1 (of_decide_eq_false h2)) (Int.not_lt.1 (of_decide_eq_false h1)))
    h ord hl _ _ _ Content.maxIndex?_eq_none (Content.maxIndex_mem c)
    (fun k hk' p hp => decide_eq_false (Int.not_lt.2 (Content.le_maxIndex c h.2 k hk' p hp)))
    fun p hp => decide_eq_false (Int.not_lt.2 (hk p hp))

/-- `MinIndex`, symmetric: the scan starts from `maxInt = 2^63 - 1` -/
theorem minIndex_eq {g : SparseStore} {c : Content} (h : RepS g c) (fuel : Nat) (ord : MapOrder)
    (hl : ord.Lawful) (hk : ∀ p ∈ c, p.1 < (2:Int)^63) :
    g.MinIndex fuel ord = .ok (idxRes errUndefinedMinIndex (Store.sp c).minIndex?) := by
  simp only [SparseStore.MinIndex, minIndex_loop, Loop.elim_done]
  exact scan_index
    (fun a b h1 h2 => Int.le_antisymm (Int.not_lt.1 (of_decide_eq_false h1)) (Int.not_lt.1 (of_decide_eq_false h2)))
    h ord hl _ _ _ Content.minIndex?_eq_none (Content.minIndex_mem c)
    (fun k hk' p hp => decide_eq_false (Int.not_lt.2 (Content.minIndex_le c h.2 k hk' p hp)))
    fun p hp => decide_eq_false (Int.not_lt.2 (Int.le_of_lt_add_one (hk p hp)))

/-! ### 6. `orderedBins` (what `Bins()` enumerates) -/

def toBin (p : Int × Rat) : Bin := ⟨p.1, p.2⟩

theorem toBin_injective {p q : Int × Rat} (h : toBin p = toBin q) : p = q := by
  unfold toBin at h
  injection h with h1 h2
  exact Prod.ext h1 h2

theorem orderedBins_loop (l : List (Int × Rat)) (bins : List Bin) :
    SparseStore.orderedBins.loop1 l bins = .done (bins ++ l.map toBin) := by
  induction l generalizing bins with
  | nil => simp only [SparseStore.orderedBins.loop1, List.map_nil, List.append_nil]
  | cons p rest ih =>
    obtain ⟨i, c⟩ := p
    simp only [SparseStore.orderedBins.loop1, ih, List.map_cons, List.append_assoc, List.singleton_append]
    rfl

/-- sorting by index ANY permutation of a key-sorted content gives the content back -/
theorem sortOn_perm (c : Content) (hs : c.Sorted) (l : List (Int × Rat)) (hp : l.Perm c) :
    GoSem.sortOn (fun e : Bin => e.index) (l.map toBin) = c.map toBin := by
  have hpw : (c.map toBin).Pairwise (fun a b => decide (a.index ≤ b.index) = true) :=
    List.pairwise_map.2 (((Content.sorted_iff_pairwise c).1 hs).imp fun hab => decide_eq_true (Int.le_of_lt hab))
  have hsorted := List.pairwise_mergeSort (le := fun a b : Bin => decide (a.index ≤ b.index))
    (fun a b c h1 h2 => decide_eq_true (Int.le_trans (of_decide_eq_true h1) (of_decide_eq_true h2)))
    (fun a b => by rw [Bool.or_eq_true, decide_eq_true_eq, decide_eq_true_eq]; exact Int.le_total ..)
    (l.map toBin)
  have hperm : ((l.map toBin).mergeSort (fun a b => decide (a.index ≤ b.index))).Perm (c.map toBin) :=
    (List.mergeSort_perm _ _).trans (hp.map toBin)
  refine List.Perm.eq_of_pairwise (fun a b ha hb h1 h2 => ?_) hsorted hpw hperm
  obtain ⟨p, hp1, rfl⟩ := List.mem_map.1 (hperm.mem_iff.1 ha)
  obtain ⟨q, hq1, rfl⟩ := List.mem_map.1 hb
  rw [Content.eq_of_key_eq hs hp1 hq1 (Int.le_antisymm (of_decide_eq_true h1) (of_decide_eq_true h2))]

theorem orderedBins_eq {g : SparseStore} {c : Content} (h : RepS g c) (fuel : Nat) (ord : MapOrder)
    (hl : ord.Lawful) : g.orderedBins fuel ord = .ok (c.map toBin) := by
  obtain ⟨rfl, hs⟩ := h
  unfold SparseStore.orderedBins
  simp only [orderedBins_loop, Loop.elim_done, List.nil_append,
    sortOn_perm _ hs _ (mrange_perm ord hl _ hs)]

/-- in the vocabulary of the model: `Store.binsList (.sp c) = some c` -/
theorem orderedBins_model {g : SparseStore} {c : Content} (h : RepS g c) (fuel : Nat) (ord : MapOrder)
    (hl : ord.Lawful) :
    ∃ bins, g.orderedBins fuel ord = .ok bins ∧
      (Store.sp c).binsList = some (bins.map (fun b => (b.index, b.count))) := by
  refine ⟨_, orderedBins_eq h fuel ord hl, ?_⟩
  show some c = _
  have : (fun b : Bin => (b.index, b.count)) ∘ toBin = id := by funext p; rfl
  rw [List.map_map, this, List.map_id]

/-! ### 7. `KeyAtRank` -/

theorem keyAtRank_loop (rank : Rat) (c : Content) (acc : Rat) :
    SparseStore.KeyAtRank.loop1 rank (c.map toBin) acc =
      match c.firstExceeding acc rank with
      | some k => .ret k
      | none => .done (acc + c.total) := by
  induction c generalizing acc with
  | nil => exact congrArg Loop.done (Rat.add_zero acc).symm
  | cons p rest ih =>
    obtain ⟨i, w⟩ := p
    simp only [List.map_cons, SparseStore.KeyAtRank.loop1, toBin, Content.firstExceeding]
    by_cases hlt : rank < acc + w
    · rw [if_pos (decide_eq_true hlt), if_pos hlt]
    · rw [if_neg fun h => hlt (of_decide_eq_true h), if_neg hlt, ih, Content.total_cons, Rat.add_assoc]

/-- `KeyAtRank` is the model's `Store.keyAtRank` on the sparse store — for every rank (negative
    ones included: neither side clamps), every lawful order, the empty store included (both give 0) -/
theorem keyAtRank_eq {g : SparseStore} {c : Content} (h : RepS g c) (fuel : Nat) (ord : MapOrder)
    (hl : ord.Lawful) (hk : ∀ p ∈ c, -(2:Int)^63 ≤ p.1) (r : Rat) :
    g.KeyAtRank fuel ord r = .ok ((Store.sp c).keyAtRank r) := by
  unfold SparseStore.KeyAtRank
  rw [orderedBins_eq h fuel ord hl, Res.bind_ok]
  dsimp only
  rw [keyAtRank_loop, maxIndex_eq h fuel ord hl hk]
  show _ = Res.ok (match c.firstExceeding 0 r with
    | some k => k
    | none => (c.maxIndex?).getD 0)
  cases c.firstExceeding 0 r with
  | some k => rfl
  | none =>
    show (match idxRes errUndefinedMaxIndex (Content.maxIndex? c) with
      | (maxIndex, err) => if (err == GoErr.nil) = true then Res.ok maxIndex else Res.ok 0) = _
    cases Content.maxIndex? c with
    | none => exact if_neg (by decide)
    | some k => exact if_pos rfl

/-! ### 8. `Copy` -/

theorem copy_loop (l : List (Int × Rat)) : ∀ acc : GoMap Rat,
    SparseStore.Copy.loop1 l acc = .done (l.foldl (fun m p => mset m p.1 p.2) acc) := by
  induction l with
  | nil => exact fun _ => rfl
  | cons p rest ih => exact fun acc => ih _

theorem copy_eq {g : SparseStore} {c : Content} (h : RepS g c) (fuel : Nat) (ord : MapOrder)
    (hl : ord.Lawful) : g.Copy fuel ord = .ok ⟨c⟩ := by
  obtain ⟨rfl, hs⟩ := h
  simp only [SparseStore.Copy, copy_loop, Loop.elim_done, foldl_mset_of_perm hs (mrange_perm ord hl _ hs)]

theorem copy_rep {g : SparseStore} {c : Content} (h : Rep g c) (fuel : Nat) (ord : MapOrder)
    (hl : ord.Lawful) : ∃ g', g.Copy fuel ord = .ok g' ∧ Rep g' c ∧ g' = g :=
  ⟨⟨c⟩, copy_eq h.repS fuel ord hl, ⟨rfl, h.2⟩, by rw [← h.1]⟩

/-! ### 9. `Clear` -/

theorem clear_loop (l : List (Int × Rat)) (s : SparseStore) :
    ∃ r, SparseStore.Clear.loop1 l s = .done r ∧
      ∀ p, p ∈ r.counts ↔ p ∈ s.counts ∧ p.1 ∉ keys l := by
  induction l generalizing s with
  | nil => exact ⟨s, rfl, fun p => (and_iff_left List.not_mem_nil).symm⟩
  | cons q rest ih =>
    obtain ⟨r, h1, h2⟩ := ih { s with counts := mdelete s.counts q.1 }
    refine ⟨r, h1, fun p => (h2 p).trans ?_⟩
    simp only [mdelete, List.mem_filter, bne_iff_ne, ne_eq, keys_cons, List.mem_cons, not_or, and_assoc]

/-- `Clear` empties the map (deleting during the iteration, in any order) -/
theorem clear_eq {g : SparseStore} {c : Content} (h : RepS g c) (fuel : Nat) (ord : MapOrder)
    (hl : ord.Lawful) : g.Clear fuel ord = .ok NewSparseStore := by
  obtain ⟨rfl, hs⟩ := h
  unfold SparseStore.Clear
  obtain ⟨r, h1, h2⟩ := clear_loop (mrange ord g.counts) g
  simp only [h1, Loop.elim_done]
  have : r.counts = [] := by
    apply List.eq_nil_iff_forall_not_mem.2
    intro p hp
    have := (h2 p).1 hp
    exact this.2 (mem_keys_of_mem ((mrange_perm ord hl _ hs).mem_iff.2 this.1))
  obtain ⟨rc⟩ := r
  simp only at this
  rw [this]; rfl

theorem clear_rep {g : SparseStore} {c : Content} (h : Rep g c) (fuel : Nat) (ord : MapOrder)
    (hl : ord.Lawful) :
    ∃ g', g.Clear fuel ord = .ok g' ∧ Rep g' [] ∧ Store.sp g'.counts = (Store.sp c).clear :=
  ⟨_, clear_eq h.repS fuel ord hl, rep_new, rfl⟩

/-! ### 10. `Reweight` -/

theorem keys_map_if (m : Content) (P : Int → Prop) [DecidablePred P] (w : Rat) :
    keys (m.map (fun p => if P p.1 then (p.1, p.2 * w) else p)) = keys m := by
  unfold keys
  rw [List.map_map]
  apply List.map_congr_left
  intro p _
  simp only [Function.comp]
  split <;> rfl

/-- `m[k] *= w` on a present key rewrites that one entry -/
theorem mset_mget_scale (m : Content) (hs : m.Sorted) (k : Int) (w : Rat) (hk : k ∈ keys m) :
    mset m k (mget m k 0 * w) = m.map (fun p => if p.1 = k then (p.1, p.2 * w) else p) := by
  induction m with
  | nil => cases hk
  | cons p rest ih =>
    rw [mget_cons, List.map_cons]
    by_cases h : p.1 = k
    · subst h
      rw [mset_eq, if_pos rfl, if_pos rfl]
      exact congrArg _ ((List.map_congr_left fun q hq => if_neg (Int.ne_of_gt (hs.head_lt q hq))).trans
        (List.map_id rest)).symm
    · have hk' : k ∈ keys rest := (List.mem_cons.1 hk).resolve_left (Ne.symm h)
      obtain ⟨q, hq, rfl⟩ := mem_keys.1 hk'
      rw [mset_gt (hs.head_lt q hq), if_neg h, if_neg h, ih hs.tail hk']

theorem reweight_loop (w : Rat) (l : List (Int × Rat)) (s : SparseStore) (hs : Content.Sorted s.counts)
    (hnd : (keys l).Nodup) (hsub : ∀ k ∈ keys l, k ∈ keys s.counts) :
    SparseStore.Reweight.loop1 w l s =
      .done ⟨s.counts.map (fun p => if p.1 ∈ keys l then (p.1, p.2 * w) else p)⟩ := by
  induction l generalizing s with
  | nil =>
    exact congrArg (fun c => Loop.done (SparseStore.mk c))
      ((List.map_congr_left fun p _ => if_neg List.not_mem_nil).trans (List.map_id _)).symm
  | cons q rest ih =>
    rw [keys_cons, List.nodup_cons] at hnd
    have hkeys := keys_map_if s.counts (fun i => i = q.1) w
    show SparseStore.Reweight.loop1 w rest ⟨mset s.counts q.1 (mget s.counts q.1 0 * w)⟩ = _
    rw [mset_mget_scale _ hs q.1 w (hsub _ (List.mem_cons_self ..)),
      ih _ ((sorted_iff_keys _).2 (hkeys ▸ (sorted_iff_keys _).1 hs)) hnd.2
        (fun j hj => hkeys ▸ hsub j (List.mem_cons_of_mem _ hj)), List.map_map]
    refine congrArg (fun c => Loop.done (SparseStore.mk c)) (List.map_congr_left fun p _ => ?_)
    simp only [Function.comp, keys_cons, List.mem_cons]
    by_cases h : p.1 = q.1
    · simp only [h, if_true, true_or]
      rw [if_neg hnd.1]
    · simp only [h, if_false, false_or]

/-- `Reweight(w)`, `w ≤ 0`: the error, store unchanged (the model: `some (.error .nonPositive)`) -/
theorem reweight_nonpos (g : SparseStore) (fuel : Nat) (ord : MapOrder) (w : Rat) (hw : w ≤ 0) :
    g.Reweight fuel ord w = .ok (g, GoErr.named "can't reweight by a negative factor") :=
  if_pos (decide_eq_true hw)

theorem reweight_one (g : SparseStore) (fuel : Nat) (ord : MapOrder) :
    g.Reweight fuel ord 1 = .ok (g, GoErr.nil) := rfl

theorem reweight_scale {g : SparseStore} {c : Content} (h : RepS g c) (fuel : Nat) (ord : MapOrder)
    (hl : ord.Lawful) (w : Rat) (hw : 0 < w) (hw1 : w ≠ 1) :
    g.Reweight fuel ord w = .ok (⟨c.scale w⟩, GoErr.nil) := by
  obtain ⟨rfl, hs⟩ := h
  have hkp : (keys (mrange ord g.counts)).Perm (keys g.counts) := (mrange_perm ord hl _ hs).map Prod.fst
  unfold SparseStore.Reweight
  rw [if_neg fun h => Rat.not_le.2 hw (of_decide_eq_true h), if_neg fun h => hw1 (beq_iff_eq.1 h),
    reweight_loop w _ g hs (hkp.nodup_iff.2 (keys_nodup hs)) fun k hk => hkp.mem_iff.1 hk]
  exact congrArg (fun c => Res.ok (SparseStore.mk c, GoErr.nil))
    (List.map_congr_left fun p hp => if_pos (hkp.mem_iff.2 (mem_keys_of_mem hp)))

/-- the three cases together, against the model's `Store.reweight`; the factor 1 leaves the store as it is on both
    sides, and that is `c.scale 1` -/
theorem reweight_eq {g : SparseStore} {c : Content} (h : RepS g c) (fuel : Nat) (ord : MapOrder)
    (hl : ord.Lawful) (w : Rat) :
    (w ≤ 0 → (Store.sp c).reweight w = some (.error .nonPositive) ∧
      g.Reweight fuel ord w = .ok (g, GoErr.named "can't reweight by a negative factor")) ∧
    (0 < w → (Store.sp c).reweight w = some (.ok (.sp (c.scale w))) ∧
      g.Reweight fuel ord w = .ok (⟨c.scale w⟩, GoErr.nil)) := by
  refine ⟨fun hw => ⟨if_pos hw, reweight_nonpos g fuel ord w hw⟩, fun hw => ?_⟩
  have h0 : ¬ (w ≤ 0) := Rat.not_le.2 hw
  by_cases h1 : w = 1
  · subst h1
    rw [Content.scale_one]
    exact ⟨(if_neg h0).trans (if_pos rfl), h.1 ▸ reweight_one g fuel ord⟩
  · exact ⟨(if_neg h0).trans (if_neg h1), reweight_scale h fuel ord hl w hw h1⟩

theorem reweight_rep {g : SparseStore} {c : Content} (h : Rep g c) (fuel : Nat) (ord : MapOrder)
    (hl : ord.Lawful) (w : Rat) (hw : 0 < w) :
    ∃ g', g.Reweight fuel ord w = .ok (g', GoErr.nil) ∧ Rep g' (c.scale w) :=
  ⟨_, ((reweight_eq h.repS fuel ord hl w).2 hw).2, rfl, Content.wf_scale c w h.2 hw⟩

/-! ### 11. `Encode` -/

open DDS.GenDenseEncode (itemBytes block_bytes EncodeVarfloat64_fin bins_block_bytes)
open DDS.RoundTrip (Keys32 sideBins Denotes IsBins)

/-- the loop writes the items in the order it is given, provided the first delta and the difference of any two
    keys are `int64`s (`I64`): Go converts each delta with `int64(index - previousIndex)`, where the model's
    `encVarint64` takes the unbounded integer -/
theorem encode_loop (fuel : Nat) (hf : 9 ≤ fuel) (l : List (Int × Rat)) (b : List (BitVec 8)) (prev : Int)
    (h0 : ∀ p ∈ l, I64 (p.1 - prev)) (hp : ∀ p ∈ l, ∀ q ∈ l, I64 (q.1 - p.1)) :
    ∃ last, SparseStore.Encode.loop1 fuel l b prev =
      .done (b ++ bn ((deltaRec prev l).flatMap itemBytes), last) := by
  induction l generalizing b prev with
  | nil => exact ⟨prev, congrArg (fun x => Loop.done (x, prev)) (List.append_nil b).symm⟩
  | cons p rest ih =>
    have hm := List.mem_cons_self (a := p) (l := rest)
    obtain ⟨last, hl⟩ := ih (b ++ bn (encVarint64 (p.1 - prev)) ++ bn (encVarfloatBits (Sketch.vfBits p.2))) p.1
      (fun q hq => hp p hm q (List.mem_cons_of_mem _ hq))
      fun a ha c hc => hp a (List.mem_cons_of_mem _ ha) c (List.mem_cons_of_mem _ hc)
    refine ⟨last, ?_⟩
    unfold SparseStore.Encode.loop1
    rw [EncodeVarint64_ofInt fuel hf b (p.1 - prev) (h0 p hm).1 (h0 p hm).2, Res.bindL_ok,
      EncodeVarfloat64_fin fuel hf, Res.bindL_ok, hl]
    simp only [deltaRec, List.flatMap_cons, itemBytes, bn_append, List.append_assoc]

/-- the `int64` side conditions, on the content: every key is an `int64`, and so is every
    difference of two keys (what `int64(index - previousIndex)` needs whatever the order) -/
structure KeyRange (c : Content) : Prop where
  lo : ∀ p ∈ c, -(2:Int)^63 ≤ p.1
  hi : ∀ p ∈ c, p.1 < (2:Int)^63
  span : ∀ p ∈ c, ∀ q ∈ c, q.1 - p.1 < (2:Int)^63

theorem keyRange_of_keys32 {c : Content} (hk : Keys32 c) : KeyRange c :=
  ⟨fun p hp => Int.le_trans (by decide) (hk p hp).1, fun p hp => Int.lt_of_le_of_lt (hk p hp).2 (by decide),
    fun p hp q hq => Int.lt_of_le_of_lt (Int.sub_le_sub (hk q hq).2 (hk p hp).1) (by decide)⟩

theorem length_lt_of_range {c : Content} (hs : c.Sorted) (hr : KeyRange c) : c.length < 2 ^ 64 := by
  cases c with
  | nil => exact Nat.two_pow_pos 64
  | cons p rest =>
    obtain ⟨k, v⟩ := p
    refine Nat.lt_of_le_of_lt (Content.length_le_of_sorted_range _ hs k (2 ^ 63) fun q hq => ⟨?_, ?_⟩) (by decide)
    · exact Content.minIndex_le _ hs k rfl q hq
    · have := hr.span _ (List.mem_cons_self ..) q hq
      simp only at this
      omega

theorem i64_sub {a b : Int} (h1 : a - b < (2:Int)^63) (h2 : b - a < (2:Int)^63) : I64 (a - b) :=
  ⟨Int.neg_sub b a ▸ Int.neg_le_neg (Int.le_of_lt h2), h1⟩

theorem len_toNat (m : List (Int × Rat)) (h : m.length < 2 ^ 64) :
    (BitVec.ofInt 64 (GoSem.len m)).toNat = m.length := by
  unfold GoSem.len
  rw [BitVec.ofInt_natCast, BitVec.toNat_ofNat, Nat.mod_eq_of_lt h]

/-- **the bytes for an arbitrary order**: nothing for the empty store, otherwise one `deltasCounts` block whose
    items are the entries in the order the oracle picked (deltas from the previous VISITED index, starting at 0) -/
theorem encode_any_order {g : SparseStore} {c : Content} (h : RepS g c) (fuel : Nat) (hf : 9 ≤ fuel)
    (ord : MapOrder) (hl : ord.Lawful) (b : List (BitVec 8)) (t : FlagType) (side : Side)
    (ht : t.byte.toNat = Wire.sideType side) (hr : KeyRange c) :
    g.Encode fuel ord b t = .ok (b ++ bn (Wire.encBlocks
      (if c = [] then [] else [.bins side (.deltasCounts (deltaRec 0 (mrange ord c)))]))) := by
  obtain ⟨rfl, hs⟩ := h
  have hperm := mrange_perm ord hl _ hs
  unfold SparseStore.Encode
  cases hc : g.counts with
  | nil => rw [isEmpty_nil g hc, if_pos rfl, if_pos rfl]; exact congrArg Res.ok (List.append_nil b).symm
  | cons p rest =>
    rw [isEmpty_cons g p rest hc, if_neg Bool.false_ne_true, if_neg (List.cons_ne_nil _ _), ← hc]
    dsimp only
    rw [EncodeUvarint64_eq fuel hf, Res.bind_ok]
    obtain ⟨last, hloop⟩ := encode_loop fuel hf (mrange ord g.counts)
      (EncodeFlag b (NewFlag t BinEncodingIndexDeltasAndCounts) ++
        bn (encUvarint64 (BitVec.ofInt 64 (GoSem.len g.counts)).toNat)) 0
      (fun p hp => (Int.sub_zero p.1).symm ▸ ⟨hr.lo p (hperm.mem_iff.1 hp), hr.hi p (hperm.mem_iff.1 hp)⟩)
      fun p hp q hq => i64_sub (hr.span p (hperm.mem_iff.1 hp) q (hperm.mem_iff.1 hq))
        (hr.span q (hperm.mem_iff.1 hq) p (hperm.mem_iff.1 hp))
    rw [hloop]
    simp only [Loop.elim_done, EncodeFlag, Wire.encBlocks, List.flatMap_cons, List.flatMap_nil, List.append_nil,
      Wire.encBlock, Wire.encPayload, List.append_assoc]
    rw [← bn_append, ← List.append_assoc b, block_bytes b _ _ ((storeFlag_bytes side t ht).1),
      len_toNat _ (length_lt_of_range hs hr), deltaRec_length, hperm.length_eq]
    rfl

/-- with the ascending oracle the generated encoder writes exactly the bytes
    of the blocks of the hand-written `Sketch.encodeStore (.sp c) side` -/
theorem encode_ascending {g : SparseStore} {c : Content} (h : RepS g c) (fuel : Nat) (hf : 9 ≤ fuel)
    (b : List (BitVec 8)) (t : FlagType) (side : Side) (ht : t.byte.toNat = Wire.sideType side) (hr : KeyRange c) :
    ∃ blocks, Sketch.encodeStore (.sp c) side = some (.sp c, blocks) ∧
      g.Encode fuel MapOrder.ascending b t = .ok (b ++ bn (Wire.encBlocks blocks)) := by
  rw [encode_any_order h fuel hf _ ascending_lawful b t side ht hr, mrange_ascending c h.2]
  cases c with
  | nil => exact ⟨_, RoundTrip.encodeStore_sp_nil _, rfl⟩
  | cons p rest => exact ⟨_, RoundTrip.encodeStore_sp_cons p rest _, by rw [if_neg (List.cons_ne_nil _ _)]⟩

theorem encode_ascending_pos {g : SparseStore} {c : Content} (h : RepS g c) (fuel : Nat) (hf : 9 ≤ fuel)
    (b : List (BitVec 8)) (hr : KeyRange c) :
    ∃ blocks, Sketch.encodeStore (.sp c) .pos = some (.sp c, blocks) ∧
      g.Encode fuel MapOrder.ascending b FlagTypePositiveStore = .ok (b ++ bn (Wire.encBlocks blocks)) :=
  encode_ascending h fuel hf b _ .pos FlagTypePositiveStore_side hr

theorem encode_ascending_neg {g : SparseStore} {c : Content} (h : RepS g c) (fuel : Nat) (hf : 9 ≤ fuel)
    (b : List (BitVec 8)) (hr : KeyRange c) :
    ∃ blocks, Sketch.encodeStore (.sp c) .neg = some (.sp c, blocks) ∧
      g.Encode fuel MapOrder.ascending b FlagTypeNegativeStore = .ok (b ++ bn (Wire.encBlocks blocks)) :=
  encode_ascending h fuel hf b _ .neg FlagTypeNegativeStore_side hr

/-- The C07 statement for the generated sparse encoder: for EVERY
    lawful iteration order the bytes written parse, with the decoder written from the documentation,
    to well-formed bins blocks of the right side whose bins denote exactly the content `c`.
    Hypotheses as in the model's `RoundTrip.encodeStore_sparse`: `int32` keys, weights `w` such that
    `w` and `w + 1` are exactly representable (`WOK`). -/
theorem encode_any_order_denotes {g : SparseStore} {c : Content} (h : Rep g c) (fuel : Nat)
    (hf : 9 ≤ fuel) (ord : MapOrder) (hl : ord.Lawful) (b : List (BitVec 8)) (t : FlagType)
    (side : Side) (ht : t.byte.toNat = Wire.sideType side) (hk : Keys32 c) (hw : ∀ p ∈ c, WOK p.2) :
    ∃ bytes blocks, g.Encode fuel ord b t = .ok (b ++ bytes) ∧
      Wire.parseBlocks (nb bytes) = .ok blocks ∧
      (∀ blk ∈ blocks, blk.WF ∧ blk.FiniteWeights ∧ IsBins side blk) ∧
      Denotes (sideBins (Wire.interp blocks) side) c ∧
      Wire.contentOf (sideBins (Wire.interp blocks) side) = some c := by
  have hs := h.2.1
  have henc := encode_any_order h.repS fuel hf ord hl b t side ht (keyRange_of_keys32 hk)
  by_cases hne : c = []
  · rw [if_pos hne] at henc
    refine ⟨_, [], henc, rfl, by simp, ?_, ?_⟩
    · rw [hne, RoundTrip.sideBins_nil]; exact Denotes.nil
    · rw [hne, RoundTrip.sideBins_nil]; rfl
  · rw [if_neg hne] at henc
    have hperm := mrange_perm ord hl c hs
    obtain ⟨hblk, hbins⟩ := RoundTrip.deltasCounts_block side (mrange ord c)
      (by rw [hperm.length_eq]; exact RoundTrip.length_lt_of_keys32 c hs hk)
      (fun p hp => hk p (hperm.mem_iff.1 hp)) (fun p hp => hw p (hperm.mem_iff.1 hp))
    have hden : Denotes (sideBins (Wire.interp [.bins side (.deltasCounts (deltaRec 0 (mrange ord c)))]) side) c := by
      rw [hbins]
      exact ⟨mrange ord c, rfl, fun q hq => (h.2.2 q (hperm.mem_iff.1 hq)).le, Content.lookup_perm hperm⟩
    refine ⟨_, _, henc, ?_, hblk, hden, hden.contentOf h.2⟩
    rw [nb_bn _ fun x hx => bins_block_bytes side _ x (by
      simpa only [Wire.encBlocks, List.flatMap_cons, List.flatMap_nil, List.append_nil] using hx)]
    exact Wire.parseBlocks_encBlocks _ fun x hx => (hblk x hx).1

/-! ### 12. kernel-checked examples: the order matters for the bytes; the key-range hypotheses are needed -/

def exStore : SparseStore := (NewSparseStore.AddWithCount 3 1).AddWithCount 7 2

def okBytes : Res (List (BitVec 8)) → List Nat
  | .ok l => nb l
  | _ => []

example : exStore.counts = [(3, 1), (7, 2)] := by decide +kernel
example : okBytes (exStore.Encode 9 MapOrder.ascending [] FlagTypePositiveStore) = [5, 2, 6, 2, 8, 3] := by
  decide +kernel
example : okBytes (exStore.Encode 9 descending [] FlagTypePositiveStore) = [5, 2, 14, 3, 7, 2] := by
  decide +kernel
example : (Sketch.encodeStore (.sp exStore.counts) .pos).map (fun r => Wire.encBlocks r.2)
    = some [5, 2, 6, 2, 8, 3] := by decide +kernel
-- the descending bytes parse to a block with a NEGATIVE delta: a valid encoding of the same content
example : Wire.parseBlocks [5, 2, 14, 3, 7, 2]
    = .ok [.bins .pos (.deltasCounts [(7, 0x4008000000000000), (-4, 0x4000000000000000)])] := by
  decide +kernel

-- outside the key range (`GoSem`'s `int` is unbounded; no Go `int` is): the scans start from
-- `minInt` / `maxInt` and never see a key beyond them
example : (⟨[(-9223372036854775809, 1)]⟩ : SparseStore).MaxIndex 0 MapOrder.ascending
    = .ok (-9223372036854775808, GoErr.nil) := by rfl
example : (Store.sp [(-9223372036854775809, 1)]).maxIndex? = some (-9223372036854775809) := by rfl
example : (⟨[(9223372036854775808, 1)]⟩ : SparseStore).MinIndex 0 MapOrder.ascending
    = .ok (9223372036854775807, GoErr.nil) := by rfl
example : (Store.sp [(9223372036854775808, 1)]).minIndex? = some 9223372036854775808 := by rfl

end DDS.GenSparse
