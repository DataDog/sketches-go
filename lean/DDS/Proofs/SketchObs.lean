/-
  DDS.Proofs.SketchObs — the observers of a sketch depend only on the contents its stores refine:
  a sketch `s` with `s.Refines cp cn` (any store kinds) answers like the spec sketch
  `Sketch.spec s.mapping cp cn s.zero`.

  One observer needs a guard.  `GetValueAtQuantile` can send a rank to the POSITIVE store while that
  store is empty: with `count ≥ 2^54` the float `count - 1` rounds back to `count`, so for `q = 1`
  neither `rank < negCount` nor `rank < zero + negCount` holds and `positiveStore.KeyAtRank` is
  asked on an empty store, whose answer is store-specific (dense: the `maxIndex` sentinel
  `MinInt32`; sparse: 0).  `quantile_empty_pos_counterexample` exhibits the divergence;
  `quantile_congr` therefore assumes that the positive branch is not taken on an empty positive
  content (`usesPos … = false`), which `quantile_congr_of_pos` discharges when `cp ≠ []` and
  `DDS.Props.C12.usesPos_false_of_exact` discharges when counting is exact and `count - 1 ≠ count`.

  The branches of `GetValueAtQuantile` are written once, as `Sketch.qcases` with the five outcomes
  left open: the answered value is one instance (`quantile_eq_qcases`), the selected bin another
  (`DDS.Lift.selKey_eq_qcases`), so that what is proved of `qcases` serves both.

  Core Lean only.
-/
import DDS.Proofs.Refine

namespace DDS

theorem mapM_congr_mem {ε α β : Type} {f g : α → Except ε β} :
    ∀ l : List α, (∀ a ∈ l, f a = g a) → l.mapM f = l.mapM g
  | [], _ => rfl
  | a :: l, h => by
    rw [List.mapM_cons, List.mapM_cons, h a (List.mem_cons_self ..),
      mapM_congr_mem l fun b hb => h b (List.mem_cons_of_mem _ hb)]

namespace Sketch

variable {s : Sketch} {cp cn : Content}

/-! ### count, emptiness, extremes, enumeration -/

theorem getCount_congr (h : s.Refines cp cn) :
    s.getCount = (Sketch.spec s.mapping cp cn s.zero).getCount := by
  unfold getCount posTotal negTotal
  rw [h.pos.total, h.neg.total]
  rfl

theorem posTotal_congr (h : s.Refines cp cn) : s.posTotal = .fin cp.total := by
  simp only [posTotal, h.pos.total]

theorem negTotal_congr (h : s.Refines cp cn) : s.negTotal = .fin cn.total := by
  simp only [negTotal, h.neg.total]

theorem isEmpty_congr (h : s.Refines cp cn) :
    s.isEmpty = (Sketch.spec s.mapping cp cn s.zero).isEmpty := by
  unfold isEmpty
  rw [h.pos.empty, h.neg.empty]
  rfl

theorem getMax_congr (env : MapEnv) (h : s.Refines cp cn) :
    s.getMax env = (Sketch.spec s.mapping cp cn s.zero).getMax env := by
  unfold getMax
  rw [h.pos.empty, h.pos.max, h.neg.min]
  rfl

theorem getMin_congr (env : MapEnv) (h : s.Refines cp cn) :
    s.getMin env = (Sketch.spec s.mapping cp cn s.zero).getMin env := by
  unfold getMin
  rw [h.neg.empty, h.neg.max, h.pos.min]
  rfl

theorem forEachList_congr (env : MapEnv) (h : s.Refines cp cn) :
    s.forEachList env = (Sketch.spec s.mapping cp cn s.zero).forEachList env := by
  unfold forEachList
  rw [h.pos.bins, h.neg.bins]
  rfl

theorem getSum_congr (env : MapEnv) (h : s.Refines cp cn) :
    s.getSum env = (Sketch.spec s.mapping cp cn s.zero).getSum env := by
  unfold getSum
  rw [forEachList_congr env h]

/-! ### the branches of `GetValueAtQuantile` -/

/-- the rank `GetValueAtQuantile(q)` looks up -/
def qrank (s : Sketch) (q : F64) : F64 :=
  let rank0 := F64.mul q (F64.sub s.getCount F64.one)
  if F64.lt rank0 (.fin 0) then .fin 0 else rank0

theorem qrank_cases (s : Sketch) (q : F64) :
    s.qrank q = .nan ∨ s.qrank q = .pinf ∨ ∃ r : Rat, s.qrank q = .fin r ∧ 0 ≤ r := by
  unfold qrank
  simp only
  generalize F64.mul q (F64.sub s.getCount F64.one) = x
  cases x with
  | fin r =>
    by_cases hr : r < 0
    · right; right; exact ⟨0, by simp [F64.lt, hr], by grind⟩
    · right; right; exact ⟨r, by simp [F64.lt, hr], by grind⟩
  | pinf => right; left; rfl
  | ninf => right; right; exact ⟨0, rfl, by grind⟩
  | nan => left; rfl

/-- does `GetValueAtQuantile(q)` consult the positive store? -/
def usesPos (s : Sketch) (q : F64) : Bool :=
  !(F64.lt (s.qrank q) s.negTotal) && !(F64.lt (s.qrank q) (F64.add s.zero s.negTotal))

/-- the case analysis of `GetValueAtQuantile(q)` with its five outcomes left open: `q` refused,
    empty sketch, a key of the negative store, the zero bucket, a key of the positive store -/
def qcases {β : Type} (s : Sketch) (q : F64) (bad empty : β) (neg : Int → β) (zero : β)
    (pos : Int → β) : β :=
  if !(F64.le (.fin 0) q && F64.le q (.fin 1)) then bad
  else if F64.eq s.getCount (.fin 0) then empty
  else if F64.lt (s.qrank q) s.negTotal then
    neg (storeKeyAtRank s.neg (F64.sub (F64.sub s.negTotal F64.one) (s.qrank q)))
  else if F64.lt (s.qrank q) (F64.add s.zero s.negTotal) then zero
  else pos (storeKeyAtRank s.pos (F64.sub (F64.sub (s.qrank q) s.zero) s.negTotal))

theorem quantile_eq_qcases (env : MapEnv) (s : Sketch) (q : F64) :
    s.quantile env q = s.qcases q (.error .badQuantile) (.error .empty)
      (fun k => .ok (F64.neg (env.value k))) (.ok (.fin 0)) (fun k => .ok (env.value k)) :=
  rfl

theorem quantile_ok_cases (env : MapEnv) (s : Sketch) (q v : F64) (hq : s.quantile env q = .ok v) :
    (F64.le (.fin 0) q && F64.le q (.fin 1)) = true ∧ F64.eq s.getCount (.fin 0) = false ∧
    ((F64.lt (s.qrank q) s.negTotal = true ∧ v = F64.neg (env.value
        (storeKeyAtRank s.neg (F64.sub (F64.sub s.negTotal F64.one) (s.qrank q))))) ∨
     (F64.lt (s.qrank q) s.negTotal = false ∧
        F64.lt (s.qrank q) (F64.add s.zero s.negTotal) = true ∧ v = .fin 0) ∨
     (s.usesPos q = true ∧
        v = env.value (storeKeyAtRank s.pos (F64.sub (F64.sub (s.qrank q) s.zero) s.negTotal)))) := by
  rw [quantile_eq_qcases, qcases] at hq
  by_cases h1 : (!(F64.le (.fin 0) q && F64.le q (.fin 1))) = true
  · rw [if_pos h1] at hq; cases hq
  rw [if_neg h1] at hq
  by_cases h2 : F64.eq s.getCount (.fin 0) = true
  · rw [if_pos h2] at hq; cases hq
  rw [if_neg h2] at hq
  refine ⟨by simpa using h1, by simpa using h2, ?_⟩
  by_cases h3 : F64.lt (s.qrank q) s.negTotal = true
  · rw [if_pos h3] at hq
    cases hq
    exact Or.inl ⟨h3, rfl⟩
  rw [if_neg h3] at hq
  by_cases h4 : F64.lt (s.qrank q) (F64.add s.zero s.negTotal) = true
  · rw [if_pos h4] at hq
    cases hq
    exact Or.inr (Or.inl ⟨by simpa using h3, h4, rfl⟩)
  · rw [if_neg h4] at hq
    cases hq
    exact Or.inr (Or.inr ⟨by simp [usesPos, h3, h4], rfl⟩)

/-- the negative store is consulted only when it is not empty -/
theorem neg_nonempty_of_lt (s : Sketch) (q : F64) (cn : Content)
    (h : F64.lt (s.qrank q) (.fin cn.total) = true) : cn ≠ [] := by
  intro hc
  subst hc
  rcases qrank_cases s q with h1 | h1 | ⟨r, h1, hr⟩
  · rw [h1] at h; cases h
  · rw [h1] at h; cases h
  · rw [h1] at h
    simp only [F64.lt, Content.total_nil] at h
    grind

/-! ### the same answers as the spec sketch -/

theorem storeKeyAtRank_congr (st : Store) (c : Content) (h : st.Refines c) (hne : c ≠ [])
    (rank : F64) : storeKeyAtRank st rank = storeKeyAtRank (.sp c) rank := by
  have hs := Store.refines_sparse c h.wf
  cases rank with
  | fin r => exact (h.kar hne r).trans (hs.kar hne r).symm
  | ninf => exact (h.kar hne 0).trans (hs.kar hne 0).symm
  | pinf => simp only [storeKeyAtRank, h.max, hs.max]
  | nan => simp only [storeKeyAtRank, h.max, hs.max]

theorem usesPos_congr (h : s.Refines cp cn) (q : F64) :
    s.usesPos q = (Sketch.spec s.mapping cp cn s.zero).usesPos q := by
  unfold usesPos qrank
  rw [getCount_congr h, negTotal_congr h]
  rfl

theorem quantile_eq_of_keys (env : MapEnv) {s t : Sketch} (q : F64)
    (hcount : s.getCount = t.getCount) (hneg : s.negTotal = t.negTotal) (hzero : s.zero = t.zero)
    (hn : (F64.le (.fin 0) q && F64.le q (.fin 1)) = true → F64.eq t.getCount (.fin 0) = false →
      F64.lt (t.qrank q) t.negTotal = true →
      storeKeyAtRank s.neg (F64.sub (F64.sub t.negTotal F64.one) (t.qrank q)) =
        storeKeyAtRank t.neg (F64.sub (F64.sub t.negTotal F64.one) (t.qrank q)))
    (hp : (F64.le (.fin 0) q && F64.le q (.fin 1)) = true → F64.eq t.getCount (.fin 0) = false →
      t.usesPos q = true →
      storeKeyAtRank s.pos (F64.sub (F64.sub (t.qrank q) t.zero) t.negTotal) =
        storeKeyAtRank t.pos (F64.sub (F64.sub (t.qrank q) t.zero) t.negTotal)) :
    s.quantile env q = t.quantile env q := by
  have hrank : s.qrank q = t.qrank q := by unfold qrank; rw [hcount]
  rw [quantile_eq_qcases, quantile_eq_qcases, qcases, qcases, hrank, hcount, hneg, hzero]
  by_cases h1 : (!(F64.le (.fin 0) q && F64.le q (.fin 1))) = true
  · rw [if_pos h1, if_pos h1]
  rw [if_neg h1, if_neg h1]
  by_cases h2 : F64.eq t.getCount (.fin 0) = true
  · rw [if_pos h2, if_pos h2]
  rw [if_neg h2, if_neg h2]
  by_cases h3 : F64.lt (t.qrank q) t.negTotal = true
  · rw [if_pos h3, if_pos h3, hn (by simpa using h1) (by simpa using h2) h3]
  rw [if_neg h3, if_neg h3]
  by_cases h4 : F64.lt (t.qrank q) (F64.add t.zero t.negTotal) = true
  · rw [if_pos h4, if_pos h4]
  rw [if_neg h4, if_neg h4, hp (by simpa using h1) (by simpa using h2) (by simp [usesPos, h3, h4])]

theorem quantile_congr (env : MapEnv) (h : s.Refines cp cn) (q : F64)
    (hp : cp = [] → (F64.le (.fin 0) q && F64.le q (.fin 1)) = true →
      F64.eq s.getCount (.fin 0) = false → s.usesPos q = false) :
    s.quantile env q = (Sketch.spec s.mapping cp cn s.zero).quantile env q := by
  have hcount := getCount_congr h
  refine quantile_eq_of_keys env q hcount (negTotal_congr h) rfl (fun _ _ h3 => ?_) (fun h1 h2 h4 => ?_)
  · exact storeKeyAtRank_congr s.neg cn h.neg (neg_nonempty_of_lt _ q cn h3) _
  · refine storeKeyAtRank_congr s.pos cp h.pos (fun hc => ?_) _
    rw [← hcount] at h2
    rw [← usesPos_congr h q, hp hc h1 h2] at h4
    cases h4

theorem quantile_congr_of_pos (env : MapEnv) (h : s.Refines cp cn) (q : F64) (hp : cp ≠ []) :
    s.quantile env q = (Sketch.spec s.mapping cp cn s.zero).quantile env q :=
  quantile_congr env h q (fun hc => absurd hc hp)

/-- the guard in its simplest form -/
theorem quantile_congr' (env : MapEnv) (h : s.Refines cp cn) (q : F64)
    (hp : cp = [] → s.usesPos q = false) :
    s.quantile env q = (Sketch.spec s.mapping cp cn s.zero).quantile env q :=
  quantile_congr env h q (fun hc _ _ => hp hc)

theorem quantiles_congr (env : MapEnv) (h : s.Refines cp cn) (qs : List F64)
    (hp : cp = [] → ∀ q ∈ qs, s.usesPos q = false) :
    s.quantiles env qs = (Sketch.spec s.mapping cp cn s.zero).quantiles env qs :=
  mapM_congr_mem qs fun q hq => quantile_congr' env h q fun hc => hp hc q hq

/-! ### the guard of `quantile_congr` is needed -/

/-- total weight `2^54`, all of it negative, in a sketch whose positive store is a fresh dense one -/
def exBig : Sketch :=
  { mapping := none, pos := Store.new .dense, neg := .sp [(0, 18014398509481984)], zero := .fin 0 }

theorem exBig_refines : exBig.Refines [] [(0, 18014398509481984)] :=
  ⟨Store.refines_new_dense,
    Store.refines_sparse _ ((Content.wf_cons _ _).2 ⟨by decide +kernel, by simp, Content.wf_nil⟩)⟩

/-- `GetValueAtQuantile(1)` on `exBig` asks the EMPTY positive store for a key (`count - 1` rounds
    to `count = 2^54`, so the rank is not below `negCount`): the dense store answers with its
    `maxIndex` sentinel `MinInt32`, the spec (sparse) store with 0 — whatever the mapping is. -/
theorem quantile_empty_pos_counterexample (env : MapEnv) :
    exBig.usesPos (.fin 1) = true ∧
    exBig.quantile env (.fin 1) = .ok (env.value minInt32) ∧
    (Sketch.spec exBig.mapping [] [(0, 18014398509481984)] exBig.zero).quantile env (.fin 1) =
      .ok (env.value 0) := by
  refine ⟨by decide +kernel, ?_, ?_⟩
  · rw [quantile_eq_qcases, qcases, if_neg (by decide +kernel), if_neg (by decide +kernel),
      if_neg (by decide +kernel), if_neg (by decide +kernel)]
    have : storeKeyAtRank exBig.pos
        (F64.sub (F64.sub (exBig.qrank (.fin 1)) exBig.zero) exBig.negTotal) = minInt32 := by
      decide +kernel
    rw [this]
  · rw [quantile_eq_qcases, qcases, if_neg (by decide +kernel), if_neg (by decide +kernel),
      if_neg (by decide +kernel), if_neg (by decide +kernel)]
    have : storeKeyAtRank (Sketch.spec exBig.mapping [] [(0, 18014398509481984)] exBig.zero).pos
        (F64.sub (F64.sub ((Sketch.spec exBig.mapping [] [(0, 18014398509481984)] exBig.zero).qrank (.fin 1))
          (Sketch.spec exBig.mapping [] [(0, 18014398509481984)] exBig.zero).zero)
          (Sketch.spec exBig.mapping [] [(0, 18014398509481984)] exBig.zero).negTotal) = 0 := by
      decide +kernel
    rw [this]

end Sketch
end DDS
