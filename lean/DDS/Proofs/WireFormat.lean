/-
  DDS.Proofs.WireFormat — the block format of `DDS.Model.Wire`, and what the transcribed decoder of
  `DDS.Model.Sketch` needs of the codecs before it is taken apart (`DDS/Proofs/StoreParse.lean`, then
  `DDS/Proofs/Wire.lean`).  Core Lean only.

  On the format (`namespace Wire`): the flag byte and the constants; `Wire.Reads`, and the four codecs as
  `Reads`; the documentation decoder `parseBlock` / `parseBlocks` on encoded blocks, whole and cut; the
  sixteen defined flag bytes, every other byte refused; encoded blocks are bytes; the documentation
  content `interp` of a concatenation.
  For the transcribed decoder (`namespace Sketch`): the bins a payload denotes, as recursions along the
  running index; `addBins`; `Sketch.liftDec` and `decVarfloat64` on the results of the bit codecs; what
  the codecs leave of their input, `FiniteVarfloats`.
  Last, the items of an index-delta block as the encoders write them (`RoundTrip.deltaRec`).

  The flag constants are the generated `Consts.*` definitions; every fact about them is obtained
  by unfolding them, never assumed.

  Proof style (kernel pitfall): a decoder applied to a symbolic encoder output must never be
  reduced by definitional unfolding (`simp`/`show`/`rfl` across a `match` make the kernel evaluate
  `Nat.mod` on symbolic words and overflow its stack).  Every step lemma is therefore stated on
  OPAQUE byte lists with the sub-decoder results as hypotheses (`…_of_ok`, `…_of_error`), and the
  round-trip lemmas of `DDS.Proofs.Codec` are only ever plugged in as those hypotheses.
  `Wire.Reads` packages "reads exactly this encoding: untouched tail + every strict prefix is eof"
  so that whole/cut statements are proved together.
-/
import DDS.Model.Sketch
import DDS.Proofs.Codec

namespace DDS

open Codec

def I64 (v : Int) : Prop := -(2:Int)^63 ≤ v ∧ v < (2:Int)^63

def BinsPayload.WF : BinsPayload → Prop
  | .deltasCounts items => items.length < W64 ∧ ∀ p ∈ items, I64 p.1 ∧ p.2 < W64
  | .deltas items => items.length < W64 ∧ ∀ d ∈ items, I64 d
  | .contiguous start stride counts =>
    counts.length < W64 ∧ I64 start ∧ I64 stride ∧ ∀ c ∈ counts, c < W64

def Block.WF : Block → Prop
  | .zeroCount b => b < W64
  | .count b => b < W64
  | .sum b => b < W64
  | .min b => b < W64
  | .max b => b < W64
  | .mapping sub g o => sub ≤ 4 ∧ g < W64 ∧ o < W64
  | .bins _ p => p.WF

instance (v : Int) : Decidable (I64 v) := by unfold I64; infer_instance

instance : (p : BinsPayload) → Decidable p.WF
  | .deltasCounts _ => by unfold BinsPayload.WF; infer_instance
  | .deltas _ => by unfold BinsPayload.WF; infer_instance
  | .contiguous _ _ _ => by unfold BinsPayload.WF; infer_instance

instance : (b : Block) → Decidable b.WF
  | .zeroCount _ => by unfold Block.WF; infer_instance
  | .count _ => by unfold Block.WF; infer_instance
  | .sum _ => by unfold Block.WF; infer_instance
  | .min _ => by unfold Block.WF; infer_instance
  | .max _ => by unfold Block.WF; infer_instance
  | .mapping _ _ _ => by unfold Block.WF; infer_instance
  | .bins _ _ => by unfold Block.WF; infer_instance

namespace Wire

/-! ## flag bytes and the constants of the format -/

theorem flag_mk (t s : Nat) (ht : t < 2 ^ Consts.numBitsForType) :
    flagType (mkFlag t s) = t ∧ flagSub (mkFlag t s) = s := by
  unfold flagType flagSub mkFlag
  generalize 2 ^ Consts.numBitsForType = m at *
  constructor
  · rw [Nat.add_mul_mod_self_right, Nat.mod_eq_of_lt ht]
  · rw [Nat.add_mul_div_right _ _ (by omega), Nat.div_eq_of_lt ht, Nat.zero_add]

theorem mkFlag_type_sub (f : Nat) : mkFlag (flagType f) (flagSub f) = f := by
  unfold mkFlag flagType flagSub
  rw [Nat.add_comm, Nat.mul_comm]
  exact Nat.div_add_mod f _

theorem mkFlag_lt (t s : Nat) (ht : t < 4) (hs : s < 64) : mkFlag t s < 256 := by
  rw [mkFlag, show 2 ^ Consts.numBitsForType = 4 by decide]
  omega

theorem sideType_lt (side : Side) : sideType side < 2 ^ Consts.numBitsForType := by
  cases side <;> decide

theorem flagType_cases (f : Nat) : flagType f = Consts.flagTypePositiveStore ∨
    flagType f = Consts.flagTypeNegativeStore ∨ flagType f = Consts.flagTypeIndexMapping ∨
    flagType f = Consts.flagTypeSketchFeatures :=
  (by decide +kernel : ∀ t, t < 4 → t = Consts.flagTypePositiveStore ∨ t = Consts.flagTypeNegativeStore ∨
    t = Consts.flagTypeIndexMapping ∨ t = Consts.flagTypeSketchFeatures) _
    (Nat.mod_lt _ (by decide))

theorem negType_ne : Consts.flagTypeNegativeStore ≠ Consts.flagTypePositiveStore := by decide

theorem mappingType_ne : Consts.flagTypeIndexMapping ≠ Consts.flagTypePositiveStore ∧
    Consts.flagTypeIndexMapping ≠ Consts.flagTypeNegativeStore := by decide

theorem featuresType_ne : Consts.flagTypeSketchFeatures ≠ Consts.flagTypePositiveStore ∧
    Consts.flagTypeSketchFeatures ≠ Consts.flagTypeNegativeStore ∧
    Consts.flagTypeSketchFeatures ≠ Consts.flagTypeIndexMapping := by decide

theorem subs_ne : Consts.binEncodingIndexDeltas ≠ Consts.binEncodingIndexDeltasAndCounts ∧
    Consts.binEncodingContiguousCounts ≠ Consts.binEncodingIndexDeltasAndCounts ∧
    Consts.binEncodingContiguousCounts ≠ Consts.binEncodingIndexDeltas := by decide +kernel

/-! ## `Reads`: a parser that reads exactly one encoding -/

theorem take_append_cases (a R : Bytes) (k : Nat) (hk : k < (a ++ R).length) :
    (k < a.length ∧ (a ++ R).take k = a.take k) ∨
    (∃ k', k' < R.length ∧ k = a.length + k' ∧ (a ++ R).take k = a ++ R.take k') := by
  rcases Nat.lt_or_ge k a.length with h | h
  · exact .inl ⟨h, List.take_append_of_le_length (Nat.le_of_lt h)⟩
  · obtain ⟨k', rfl⟩ := Nat.exists_eq_add_of_le h
    rw [List.length_append, Nat.add_lt_add_iff_left] at hk
    exact .inr ⟨k', hk, rfl, List.take_length_add_append k'⟩

/-- the parser `P` reads exactly the bytes `e`, yielding `a`: whatever follows is left untouched,
    and every strict prefix of `e` is the error `eof` (an unexpected end of input) -/
structure Reads {ε α} (eof : ε) (P : Bytes → Except ε (α × Bytes)) (e : Bytes) (a : α) : Prop where
  full : ∀ rest, P (e ++ rest) = .ok (a, rest)
  cut : ∀ k, k < e.length → P (e.take k) = .error eof

theorem Reads.bind {ε α β} {eof : ε} {P : Bytes → Except ε (α × Bytes)}
    {f : α × Bytes → Except ε (β × Bytes)} {e e' : Bytes} {a : α} {b : β}
    (hP : Reads eof P e a) (hQ : Reads eof (fun bs => f (a, bs)) e' b) :
    Reads eof (fun bs => P bs >>= f) (e ++ e') b := by
  constructor
  · intro rest
    show (P (e ++ e' ++ rest) >>= f) = _
    rw [List.append_assoc, hP.full]
    exact hQ.full rest
  · intro k hk
    show (P ((e ++ e').take k) >>= f) = _
    rcases take_append_cases e e' k hk with ⟨h1, h2⟩ | ⟨k', h1, _, h2⟩
    · rw [h2, hP.cut k h1]; rfl
    · rw [h2, hP.full]
      exact hQ.cut k' h1

theorem Reads.ret {ε α β} {eof : ε} {P : Bytes → Except ε (α × Bytes)} (g : α → β) {e : Bytes}
    {a : α} (hP : Reads eof P e a) :
    Reads eof (fun bs => P bs >>= fun x => pure (g x.1, x.2)) e (g a) :=
  ⟨fun rest => by show (P _ >>= _) = _; rw [hP.full]; rfl,
   fun k hk => by show (P _ >>= _) = _; rw [hP.cut k hk]; rfl⟩

theorem Reads.map {ε α β} {eof : ε} {P : Bytes → Except ε (α × Bytes)} (g : α → β) {e : Bytes}
    {a : α} (hP : Reads eof P e a) :
    Reads eof (fun bs => (P bs).map fun (x, r) => (g x, r)) e (g a) :=
  ⟨fun rest => by show (P _).map _ = _; rw [hP.full]; rfl,
   fun k hk => by show (P _).map _ = _; rw [hP.cut k hk]; rfl⟩

theorem Reads.lift {α} {D : Bytes → Except DecErr (α × Bytes)} {e a} (h : Reads .eof D e a) :
    Reads .eof (fun bs => liftDec (D bs)) e a :=
  ⟨fun rest => congrArg liftDec (h.full rest), fun k hk => congrArg liftDec (h.cut k hk)⟩

theorem Reads.parseN {α} {item : Bytes → Except ParseErr (α × Bytes)} {enc : α → Bytes}
    {l : List α} (h : ∀ a ∈ l, Reads .eof item (enc a) a) :
    Reads .eof (Wire.parseN item l.length) (l.flatMap enc) l := by
  induction l with
  | nil => exact ⟨fun _ => rfl, fun _ hk => absurd hk (Nat.not_lt_zero _)⟩
  | cons a l ih =>
    have ha := h a (List.mem_cons_self ..)
    have ih := ih fun b hb => h b (List.mem_cons_of_mem _ hb)
    constructor
    · intro rest
      simp only [List.length_cons, List.flatMap_cons, List.append_assoc, Wire.parseN, ha.full,
        ih.full]
    · intro k hk
      simp only [List.length_cons, List.flatMap_cons, Wire.parseN] at hk ⊢
      rcases take_append_cases _ _ k hk with ⟨h1, h2⟩ | ⟨k', h1, _, h2⟩
      · rw [h2, ha.cut k h1]
      · simp only [h2, ha.full, ih.cut k' h1]

theorem reads_uvarint (v : Nat) (hv : v < W64) : Reads .eof decUvarint64 (encUvarint64 v) v :=
  ⟨decUvarint64_encUvarint64 v hv, decUvarint64_take v⟩

theorem reads_varint (v : Int) (hv : I64 v) : Reads .eof decVarint64 (encVarint64 v) v :=
  ⟨decVarint64_encVarint64 v hv.1 hv.2, decVarint64_take v⟩

theorem reads_varfloat (b : Nat) (hb : b < W64) :
    Reads .eof decVarfloatBits (encVarfloatBits b) b :=
  ⟨decVarfloatBits_encVarfloatBits b hb, decVarfloatBits_take b⟩

theorem reads_f64le (b : Nat) (hb : b < W64) : Reads .eof decF64LE (encF64LE b) b :=
  ⟨decF64LE_encF64LE b hb, fun k hk => decF64LE_take b k (by rwa [encF64LE_length] at hk)⟩

/-! ## the documentation decoder inverts the encoder, block by block -/

theorem parsePayload_reads (p : BinsPayload) (hp : p.WF) :
    Reads .eof (parsePayload (payloadSub p)) (encPayload p) p := by
  unfold parsePayload
  cases p with
  | deltasCounts items =>
    simp only [payloadSub, encPayload, if_pos]
    exact Reads.bind (reads_uvarint _ hp.1).lift (Reads.ret _ (Reads.parseN fun a ha =>
      Reads.bind (reads_varint _ (hp.2 a ha).1).lift
        (Reads.ret (fun c => (a.1, c)) (reads_varfloat _ (hp.2 a ha).2).lift)))
  | deltas items =>
    simp only [payloadSub, encPayload, if_neg subs_ne.1, if_pos]
    exact Reads.bind (reads_uvarint _ hp.1).lift
      (Reads.ret _ (Reads.parseN fun a ha => (reads_varint a (hp.2 a ha)).lift))
  | contiguous start stride counts =>
    simp only [payloadSub, encPayload, if_neg subs_ne.2.1, if_neg subs_ne.2.2, if_pos,
      List.append_assoc]
    refine Reads.bind (reads_uvarint _ hp.1).lift ?_
    dsimp only
    refine Reads.bind (reads_varint _ hp.2.1).lift ?_
    dsimp only
    exact Reads.bind (reads_varint _ hp.2.2.1).lift
      (Reads.ret (BinsPayload.contiguous start stride)
        (Reads.parseN fun a ha => (reads_varfloat a (hp.2.2.2 a ha)).lift))

theorem parseBlock_store (side : Side) (f : Nat) (bs : Bytes) (ht : flagType f = sideType side) :
    parseBlock (f :: bs) = (parsePayload (flagSub f) bs).map (fun (p, r) => (.bins side p, r)) := by
  cases side
  · have ht : flagType f = Consts.flagTypePositiveStore := ht
    show (if flagType f = _ then _ else _) = _
    rw [if_pos ht]
  · have ht : flagType f = Consts.flagTypeNegativeStore := ht
    show (if flagType f = _ then _ else if flagType f = _ then _ else _) = _
    rw [ht, if_neg negType_ne, if_pos rfl]

theorem Reads.flag {e : Bytes} {b : Block} (f : Nat)
    (h : Reads .eof (fun bs => parseBlock (f :: bs)) e b) : Reads .eof parseBlock (f :: e) b :=
  ⟨h.full, fun k hk => by
    cases k with
    | zero => rfl
    | succ k => exact h.cut k (Nat.lt_of_succ_lt_succ hk)⟩

theorem parseBlock_reads (b : Block) (hb : b.WF) : Reads .eof parseBlock (encBlock b) b := by
  cases b with
  | zeroCount x => exact .flag _ ((reads_varfloat x hb).lift.map Block.zeroCount)
  | count x => exact .flag _ ((reads_varfloat x hb).lift.map Block.count)
  | sum x => exact .flag _ ((reads_f64le x hb).lift.map Block.sum)
  | min x => exact .flag _ ((reads_f64le x hb).lift.map Block.min)
  | max x => exact .flag _ ((reads_f64le x hb).lift.map Block.max)
  | mapping sub g o =>
    obtain ⟨h1, h2⟩ := flag_mk Consts.flagTypeIndexMapping sub (by decide)
    refine .flag _ ?_
    simp only [parseBlock, h1, h2, hb.1, if_true, if_neg mappingType_ne.1,
      if_neg mappingType_ne.2]
    exact Reads.bind (reads_f64le g hb.2.1).lift
      (Reads.ret (Block.mapping sub g) (reads_f64le o hb.2.2).lift)
  | bins side p =>
    obtain ⟨h1, h2⟩ := flag_mk _ (payloadSub p) (sideType_lt side)
    refine .flag _ ?_
    simp only [parseBlock_store side _ _ h1, h2]
    exact (parsePayload_reads p hb).map (Block.bins side)

theorem parseBlock_encBlock (b : Block) (hb : b.WF) (rest : Bytes) :
    parseBlock (encBlock b ++ rest) = .ok (b, rest) := (parseBlock_reads b hb).full rest

/-! ## block lists: round trip and cuts -/

theorem encBlock_eq_cons (b : Block) : ∃ f e, encBlock b = f :: e := by
  cases b <;> exact ⟨_, _, rfl⟩

theorem encBlock_length_pos (b : Block) : 1 ≤ (encBlock b).length := by
  obtain ⟨f, e, h⟩ := encBlock_eq_cons b
  rw [h]
  exact Nat.le_add_left 1 _

theorem encBlock_append_ne_nil (b : Block) (r : Bytes) : encBlock b ++ r ≠ [] := by
  obtain ⟨f, e, h⟩ := encBlock_eq_cons b
  rw [h]
  exact List.cons_ne_nil _ _

theorem encBlocks_nil : encBlocks [] = [] := rfl
theorem encBlocks_cons (b : Block) (bs : List Block) :
    encBlocks (b :: bs) = encBlock b ++ encBlocks bs := List.flatMap_cons
theorem encBlocks_append (a b : List Block) : encBlocks (a ++ b) = encBlocks a ++ encBlocks b :=
  List.flatMap_append

theorem encBlocks_length_ge (bs : List Block) : bs.length ≤ (encBlocks bs).length := by
  induction bs with
  | nil => exact Nat.le_refl 0
  | cons b bs ih =>
    rw [encBlocks_cons, List.length_append, List.length_cons]
    have := encBlock_length_pos b
    omega

theorem encBlocks_take (bs : List Block) (k : Nat) (hk : k ≤ (encBlocks bs).length) :
    ∃ j, j ≤ bs.length ∧
      ((k = (encBlocks (bs.take j)).length ∧ (encBlocks bs).take k = encBlocks (bs.take j)) ∨
       (∃ b k', b ∈ bs ∧ 0 < k' ∧ k' < (encBlock b).length ∧
          (encBlocks bs).take k = encBlocks (bs.take j) ++ (encBlock b).take k')) := by
  induction bs generalizing k with
  | nil => exact ⟨0, Nat.le_refl 0, .inl ⟨Nat.le_zero.1 hk, List.take_nil⟩⟩
  | cons b bs ih =>
    rw [encBlocks_cons, List.length_append] at hk
    rw [encBlocks_cons, List.take_append]
    by_cases hkb : k < (encBlock b).length
    · rw [Nat.sub_eq_zero_of_le (Nat.le_of_lt hkb), List.take_zero, List.append_nil]
      refine ⟨0, Nat.zero_le _, ?_⟩
      rcases Nat.eq_zero_or_pos k with rfl | h0
      · exact .inl ⟨rfl, rfl⟩
      · exact .inr ⟨b, k, List.mem_cons_self .., h0, hkb, rfl⟩
    · rw [List.take_of_length_le (Nat.le_of_not_lt hkb)]
      obtain ⟨j, hj, hcase⟩ := ih (k - (encBlock b).length) (by omega)
      refine ⟨j + 1, Nat.succ_le_succ hj, ?_⟩
      rw [List.take_succ_cons, encBlocks_cons]
      rcases hcase with ⟨h1, h2⟩ | ⟨c, k', hc, h1, h2, h3⟩
      · exact .inl ⟨by rw [List.length_append]; omega, by rw [h2]⟩
      · exact .inr ⟨c, k', List.mem_cons_of_mem _ hc, h1, h2, by rw [h3, List.append_assoc]⟩

theorem parseBlocksFuel_nil (n : Nat) : parseBlocksFuel n [] = .ok [] := by cases n <;> rfl

theorem parseBlocksFuel_step_ok (n : Nat) (bs : Bytes) (b : Block) (rest : Bytes) (hne : bs ≠ [])
    (h : parseBlock bs = .ok (b, rest)) :
    parseBlocksFuel (n + 1) bs =
      (match parseBlocksFuel n rest with
       | .error e => .error e
       | .ok more => .ok (b :: more)) := by
  cases bs with
  | nil => exact absurd rfl hne
  | cons x xs => simp only [parseBlocksFuel]; rw [h]; rfl

theorem parseBlocksFuel_step_error (n : Nat) (bs : Bytes) (e : ParseErr) (hne : bs ≠ [])
    (h : parseBlock bs = .error e) : parseBlocksFuel (n + 1) bs = .error e := by
  cases bs with
  | nil => exact absurd rfl hne
  | cons x xs => simp only [parseBlocksFuel]; rw [h]

/-- one unit of fuel per block: the encoded blocks are peeled off, the tail is parsed with what is left -/
theorem parseBlocksFuel_encBlocks_append (bs : List Block) (h : ∀ b ∈ bs, b.WF) (tail : Bytes)
    (n : Nat) :
    parseBlocksFuel (n + bs.length) (encBlocks bs ++ tail) =
      (parseBlocksFuel n tail).map (bs ++ ·) := by
  induction bs with
  | nil =>
    show parseBlocksFuel n tail = _
    cases parseBlocksFuel n tail <;> rfl
  | cons b bs ih =>
    rw [encBlocks_cons, List.append_assoc, List.length_cons, ← Nat.add_assoc,
      parseBlocksFuel_step_ok _ _ b _ (encBlock_append_ne_nil b _)
        (parseBlock_encBlock b (h b (List.mem_cons_self ..)) _),
      ih fun c hc => h c (List.mem_cons_of_mem _ hc)]
    cases parseBlocksFuel n tail <;> rfl

theorem parseBlocks_encBlocks (bs : List Block) (h : ∀ b ∈ bs, b.WF) :
    parseBlocks (encBlocks bs) = .ok bs := by
  have := parseBlocksFuel_encBlocks_append bs h [] ((encBlocks bs).length - bs.length)
  rwa [Nat.sub_add_cancel (encBlocks_length_ge bs), List.append_nil, parseBlocksFuel_nil,
    Except.map, List.append_nil] at this

theorem parseBlocks_cut_inside (pre : List Block) (h : ∀ b ∈ pre, b.WF) (b : Block) (hb : b.WF)
    (k : Nat) (h0 : 0 < k) (hk : k < (encBlock b).length) :
    parseBlocks (encBlocks pre ++ (encBlock b).take k) = .error .eof := by
  obtain ⟨d, hd⟩ := Nat.exists_eq_add_of_le (encBlocks_length_ge pre)
  obtain ⟨k', rfl⟩ := Nat.exists_eq_succ_of_ne_zero (Nat.ne_of_gt h0)
  have hlen : ((encBlock b).take (k' + 1)).length = k' + 1 :=
    List.length_take_of_le (Nat.le_of_lt hk)
  have := parseBlocksFuel_encBlocks_append pre h ((encBlock b).take (k' + 1)) (d + k' + 1)
  rw [parseBlocksFuel_step_error _ _ _ (fun h0 => by rw [h0] at hlen; exact Nat.noConfusion hlen)
    ((parseBlock_reads b hb).cut _ hk)] at this
  unfold parseBlocks
  rw [List.length_append, hlen, hd]
  exact (congrArg (parseBlocksFuel · _) (by omega)).trans this

theorem parseBlocks_cut (bs : List Block) (h : ∀ b ∈ bs, b.WF) (k : Nat)
    (hk : k ≤ (encBlocks bs).length) :
    (∃ j, k = (encBlocks (bs.take j)).length ∧
        parseBlocks ((encBlocks bs).take k) = .ok (bs.take j))
    ∨ parseBlocks ((encBlocks bs).take k) = .error .eof := by
  have hwf : ∀ j, ∀ b ∈ bs.take j, b.WF := fun j b hb => h b (List.mem_of_mem_take hb)
  obtain ⟨j, _, ⟨h1, h2⟩ | ⟨b, k', hb, h1, h2, h3⟩⟩ := encBlocks_take bs k hk
  · exact .inl ⟨j, h1, by rw [h2]; exact parseBlocks_encBlocks _ (hwf j)⟩
  · exact .inr (by rw [h3]; exact parseBlocks_cut_inside _ (hwf j) b (h b hb) k' h1 h2)

/-! ## the defined flag bytes; every other byte is an unknown flag -/

/-- the flag bytes the format defines, as (type, sub-flag) pairs -/
def featureFlags : List (Nat × Nat) :=
  [(Consts.flagTypeSketchFeatures, Consts.subFlagZeroCountVarFloat),
   (Consts.flagTypeSketchFeatures, Consts.subFlagCount),
   (Consts.flagTypeSketchFeatures, Consts.subFlagSum),
   (Consts.flagTypeSketchFeatures, Consts.subFlagMin),
   (Consts.flagTypeSketchFeatures, Consts.subFlagMax)]
def mappingFlags : List (Nat × Nat) :=
  [(Consts.flagTypeIndexMapping, Consts.subFlagIndexMappingBaseLogarithmic),
   (Consts.flagTypeIndexMapping, Consts.subFlagIndexMappingBaseLinear),
   (Consts.flagTypeIndexMapping, Consts.subFlagIndexMappingBaseQuadratic),
   (Consts.flagTypeIndexMapping, Consts.subFlagIndexMappingBaseCubic),
   (Consts.flagTypeIndexMapping, Consts.subFlagIndexMappingBaseQuartic)]
def binFlags : List (Nat × Nat) :=
  [(Consts.flagTypePositiveStore, Consts.binEncodingIndexDeltasAndCounts),
   (Consts.flagTypePositiveStore, Consts.binEncodingIndexDeltas),
   (Consts.flagTypePositiveStore, Consts.binEncodingContiguousCounts),
   (Consts.flagTypeNegativeStore, Consts.binEncodingIndexDeltasAndCounts),
   (Consts.flagTypeNegativeStore, Consts.binEncodingIndexDeltas),
   (Consts.flagTypeNegativeStore, Consts.binEncodingContiguousCounts)]
def allFlags : List (Nat × Nat) := featureFlags ++ mappingFlags ++ binFlags
def definedFlagBytes : List Nat := allFlags.map (fun p => mkFlag p.1 p.2)

theorem flags_distinct :
    definedFlagBytes.Nodup ∧ definedFlagBytes.length = 16 ∧
    ∀ p ∈ allFlags, mkFlag p.1 p.2 < 256 ∧ flagType (mkFlag p.1 p.2) = p.1 ∧
      flagSub (mkFlag p.1 p.2) = p.2 := by decide +kernel

theorem mem_definedFlagBytes (f : Nat) :
    f ∈ definedFlagBytes ↔ (flagType f, flagSub f) ∈ allFlags := by
  constructor
  · intro hf
    obtain ⟨p, hp, rfl⟩ := List.mem_map.1 hf
    obtain ⟨_, h1, h2⟩ := flags_distinct.2.2 p hp
    rwa [h1, h2]
  · intro h
    have := List.mem_map_of_mem (f := fun p : Nat × Nat => mkFlag p.1 p.2) h
    rwa [mkFlag_type_sub] at this

def DefinedPair (t s : Nat) : Prop :=
  (t = Consts.flagTypeSketchFeatures ∧ (s = Consts.subFlagZeroCountVarFloat ∨
    s = Consts.subFlagCount ∨ s = Consts.subFlagSum ∨ s = Consts.subFlagMin ∨
    s = Consts.subFlagMax)) ∨
  (t = Consts.flagTypeIndexMapping ∧ s ≤ 4) ∨
  ((t = Consts.flagTypePositiveStore ∨ t = Consts.flagTypeNegativeStore) ∧
    (s = Consts.binEncodingIndexDeltasAndCounts ∨ s = Consts.binEncodingIndexDeltas ∨
      s = Consts.binEncodingContiguousCounts))

instance (t s : Nat) : Decidable (DefinedPair t s) := by unfold DefinedPair; infer_instance

theorem mem_allFlags (t s : Nat) : (t, s) ∈ allFlags ↔ DefinedPair t s := by
  constructor
  · exact (by decide +kernel : ∀ p ∈ allFlags, DefinedPair p.1 p.2) (t, s)
  · rintro (⟨rfl, h⟩ | ⟨rfl, h⟩ | ⟨h1, h2⟩)
    · rcases h with rfl | rfl | rfl | rfl | rfl <;> decide +kernel
    · exact (by decide +kernel : ∀ s < 5, (Consts.flagTypeIndexMapping, s) ∈ allFlags) s
        (Nat.lt_succ_of_le h)
    · rcases h1 with rfl | rfl <;> rcases h2 with rfl | rfl | rfl <;> decide +kernel

theorem parsePayload_unknown (sub : Nat) (bs : Bytes)
    (h : ¬ (sub = Consts.binEncodingIndexDeltasAndCounts ∨ sub = Consts.binEncodingIndexDeltas ∨
      sub = Consts.binEncodingContiguousCounts)) :
    parsePayload sub bs = .error (.unknownFlag sub) := by
  simp only [not_or] at h
  simp only [parsePayload, if_neg h.1, if_neg h.2.1, if_neg h.2.2]

theorem parseBlock_unknown_flag (f : Nat) (rest : Bytes) (hf : f ∉ definedFlagBytes) :
    ∃ g, parseBlock (f :: rest) = .error (.unknownFlag g) := by
  rw [mem_definedFlagBytes, mem_allFlags, DefinedPair] at hf
  rcases flagType_cases f with ht | ht | ht | ht
  · exact ⟨_, by rw [parseBlock_store .pos f rest ht,
      parsePayload_unknown _ _ fun h => hf (.inr (.inr ⟨.inl ht, h⟩))]; rfl⟩
  · exact ⟨_, by rw [parseBlock_store .neg f rest ht,
      parsePayload_unknown _ _ fun h => hf (.inr (.inr ⟨.inr ht, h⟩))]; rfl⟩
  · exact ⟨f, by simp only [parseBlock, ht, if_neg mappingType_ne.1, if_neg mappingType_ne.2,
      if_true, if_neg fun h => hf (.inr (.inl ⟨ht, h⟩))]⟩
  · have hs : ¬ _ := fun h => hf (.inl ⟨ht, h⟩)
    simp only [not_or] at hs
    exact ⟨f, by simp only [parseBlock, ht, if_neg featuresType_ne.1,
      if_neg featuresType_ne.2.1, if_neg featuresType_ne.2.2, if_neg hs.1, if_neg hs.2.1,
      if_neg hs.2.2.1, if_neg hs.2.2.2.1, if_neg hs.2.2.2.2]⟩

/-- success, or an unexpected end of input — never an unknown flag -/
def OkOrEof {α} (x : Except ParseErr α) : Prop := x = .error .eof ∨ ∃ a, x = .ok a

theorem OkOrEof.liftDec {α} (x : Except DecErr α) : OkOrEof (liftDec x) := by
  cases x with
  | ok a => exact .inr ⟨a, rfl⟩
  | error e => exact .inl rfl

theorem OkOrEof.bind {α β} {x : Except ParseErr α} {f : α → Except ParseErr β}
    (hx : OkOrEof x) (hf : ∀ a, OkOrEof (f a)) : OkOrEof (x >>= f) := by
  rcases hx with rfl | ⟨a, rfl⟩
  · exact .inl rfl
  · exact hf a

theorem OkOrEof.map {α β} {x : Except ParseErr α} (g : α → β) (hx : OkOrEof x) :
    OkOrEof (x.map g) := by
  rcases hx with rfl | ⟨a, rfl⟩
  · exact .inl rfl
  · exact .inr ⟨g a, rfl⟩

theorem OkOrEof.pure {α} (a : α) : OkOrEof (Pure.pure a : Except ParseErr α) := .inr ⟨a, rfl⟩

theorem OkOrEof.ite {α} {c : Prop} [Decidable c] {a b : Except ParseErr α} (ha : OkOrEof a)
    (hb : ¬ c → OkOrEof b) : OkOrEof (if c then a else b) := by
  split
  · exact ha
  · exact hb ‹_›

theorem OkOrEof.parseN {α} (item : Bytes → Except ParseErr (α × Bytes))
    (h : ∀ bs, OkOrEof (item bs)) (n : Nat) (bs : Bytes) : OkOrEof (Wire.parseN item n bs) := by
  induction n generalizing bs with
  | zero => exact .inr ⟨_, rfl⟩
  | succ n ih =>
    simp only [Wire.parseN]
    rcases h bs with h1 | ⟨⟨a, r⟩, h1⟩
    · rw [h1]; exact .inl rfl
    · rw [h1]
      rcases ih r with h2 | ⟨⟨as, r'⟩, h2⟩
      · simp only [h2]; exact .inl rfl
      · simp only [h2]; exact .inr ⟨_, rfl⟩

theorem OkOrEof.parsePayload (sub : Nat) (bs : Bytes)
    (h : sub = Consts.binEncodingIndexDeltasAndCounts ∨ sub = Consts.binEncodingIndexDeltas ∨
      sub = Consts.binEncodingContiguousCounts) : OkOrEof (parsePayload sub bs) := by
  unfold Wire.parsePayload
  refine .ite ?_ fun n1 => .ite ?_ fun n2 => .ite ?_ fun n3 => (h.elim n1 (·.elim n2 n3)).elim
  · exact .bind (.liftDec _) fun ⟨_, _⟩ => .bind (.parseN _ (fun _ =>
      .bind (.liftDec _) fun ⟨_, _⟩ => .bind (.liftDec _) fun ⟨_, _⟩ => .pure _) _ _)
      fun ⟨_, _⟩ => .pure _
  · exact .bind (.liftDec _) fun ⟨_, _⟩ =>
      .bind (.parseN _ (fun _ => .liftDec _) _ _) fun ⟨_, _⟩ => .pure _
  · exact .bind (.liftDec _) fun ⟨_, _⟩ => .bind (.liftDec _) fun ⟨_, _⟩ =>
      .bind (.liftDec _) fun ⟨_, _⟩ =>
        .bind (.parseN _ (fun _ => .liftDec _) _ _) fun ⟨_, _⟩ => .pure _

theorem parseBlock_defined_flag (f : Nat) (rest : Bytes) (hf : f ∈ definedFlagBytes) :
    OkOrEof (parseBlock (f :: rest)) := by
  rw [mem_definedFlagBytes, mem_allFlags] at hf
  rcases hf with ⟨ht, hs⟩ | ⟨ht, hs⟩ | ⟨ht | ht, hs⟩
  · have m {α} {x : Except DecErr (Nat × Bytes)} (g : Nat × Bytes → α) :
        OkOrEof ((Wire.liftDec x).map g) := .map _ (.liftDec _)
    simp only [parseBlock, ht, if_neg featuresType_ne.1, if_neg featuresType_ne.2.1,
      if_neg featuresType_ne.2.2]
    exact .ite (m _) fun n1 => .ite (m _) fun n2 => .ite (m _) fun n3 => .ite (m _) fun n4 =>
      .ite (m _) fun n5 => (hs.elim n1 (·.elim n2 (·.elim n3 (·.elim n4 n5)))).elim
  · simp only [parseBlock, ht, if_neg mappingType_ne.1, if_neg mappingType_ne.2, if_true,
      if_pos hs]
    exact .bind (.liftDec _) fun ⟨_, _⟩ => .bind (.liftDec _) fun ⟨_, _⟩ => .pure _
  · rw [parseBlock_store .pos f rest ht]
    exact .map _ (.parsePayload _ _ hs)
  · rw [parseBlock_store .neg f rest ht]
    exact .map _ (.parsePayload _ _ hs)

/-! ## encoded blocks are bytes -/

theorem encF64LE_bytes (b : Nat) : ∀ x ∈ encF64LE b, x < 256 := by
  intro x hx
  obtain ⟨i, _, rfl⟩ := List.mem_map.1 hx
  exact Nat.mod_lt _ (by decide)

theorem encUvarint64_bytes (v : Nat) : ∀ x ∈ encUvarint64 v, x < 256 := encU_bytes _ v
theorem encVarint64_bytes (v : Int) : ∀ x ∈ encVarint64 v, x < 256 := encU_bytes _ _
theorem encVarfloatBits_bytes (b : Nat) : ∀ x ∈ encVarfloatBits b, x < 256 := by
  rw [encVarfloatBits_eq]; exact encVF_bytes 8 _ (vfWord_lt b)

theorem encPayload_bytes (p : BinsPayload) : ∀ x ∈ encPayload p, x < 256 := by
  cases p with
  | deltasCounts items =>
    exact List.forall_mem_append.2 ⟨encUvarint64_bytes _, List.forall_mem_flatMap.2 fun a _ =>
      List.forall_mem_append.2 ⟨encVarint64_bytes _, encVarfloatBits_bytes _⟩⟩
  | deltas items =>
    exact List.forall_mem_append.2 ⟨encUvarint64_bytes _,
      List.forall_mem_flatMap.2 fun a _ => encVarint64_bytes a⟩
  | contiguous start stride counts =>
    exact List.forall_mem_append.2 ⟨List.forall_mem_append.2 ⟨List.forall_mem_append.2
      ⟨encUvarint64_bytes _, encVarint64_bytes _⟩, encVarint64_bytes _⟩,
      List.forall_mem_flatMap.2 fun a _ => encVarfloatBits_bytes a⟩

theorem encBlock_bytes (b : Block) (hb : b.WF) : ∀ x ∈ encBlock b, x < 256 := by
  cases b with
  | zeroCount v | count v =>
    exact List.forall_mem_cons.2 ⟨by decide, encVarfloatBits_bytes v⟩
  | sum v | min v | max v => exact List.forall_mem_cons.2 ⟨by decide, encF64LE_bytes v⟩
  | mapping sub g o =>
    exact List.forall_mem_cons.2 ⟨mkFlag_lt _ _ (by decide) (Nat.lt_of_le_of_lt hb.1 (by decide)),
      List.forall_mem_append.2 ⟨encF64LE_bytes g, encF64LE_bytes o⟩⟩
  | bins side p =>
    exact List.forall_mem_cons.2
      ⟨mkFlag_lt _ _ (sideType_lt side) (by cases p <;> simp only [payloadSub] <;> decide), encPayload_bytes p⟩

/-! ## the documentation content of a concatenation -/

def interpStep (d : Doc) (b : Block) : Doc :=
  match b with
  | .zeroCount x => { d with zero := F64.add d.zero (vfValue x) }
  | .count x => { d with count := d.count ++ [vfValue x] }
  | .sum x => { d with sum := d.sum ++ [F64.ofBits (UInt64.ofNat x)] }
  | .min x => { d with min := d.min ++ [F64.ofBits (UInt64.ofNat x)] }
  | .max x => { d with max := d.max ++ [F64.ofBits (UInt64.ofNat x)] }
  | .mapping s g o => { d with mappings := d.mappings ++ [(s, g, o)] }
  | .bins .pos p => { d with pos := d.pos ++ payloadBins p }
  | .bins .neg p => { d with neg := d.neg ++ payloadBins p }

theorem interp_eq (bs : List Block) : interp bs = bs.foldl interpStep {} := rfl

/-- the zero-count increments of a block list, in stream order -/
def zeroIncrements (bs : List Block) : List F64 :=
  bs.filterMap (fun b => match b with | .zeroCount x => some (vfValue x) | _ => none)

/-- `d` continued by `e`: every list of `e` appended, the zero count set to `z` -/
def Doc.app (d e : Doc) (z : F64) : Doc :=
  { zero := z, pos := d.pos ++ e.pos, neg := d.neg ++ e.neg, mappings := d.mappings ++ e.mappings,
    count := d.count ++ e.count, sum := d.sum ++ e.sum, min := d.min ++ e.min,
    max := d.max ++ e.max }

theorem interpStep_app (d : Doc) (b : Block) :
    interpStep d b = d.app (interpStep {} b) ((zeroIncrements [b]).foldl F64.add d.zero) := by
  cases b with
  | bins side p => cases side <;> simp only [interpStep, Doc.app, List.append_nil, List.nil_append] <;> rfl
  | _ => simp only [interpStep, Doc.app, List.append_nil, List.nil_append] <;> rfl

theorem foldl_interpStep (d : Doc) (bs : List Block) :
    bs.foldl interpStep d = d.app (interp bs) ((zeroIncrements bs).foldl F64.add d.zero) := by
  induction bs generalizing d with
  | nil => simp only [Doc.app, interp, zeroIncrements, List.foldl_nil, List.filterMap_nil,
      List.append_nil]
  | cons b bs ih =>
    rw [List.foldl_cons, ih, interp_eq (b :: bs), List.foldl_cons, ih, interpStep_app d b]
    simp only [Doc.app, List.append_assoc, zeroIncrements, List.filterMap_cons, List.filterMap_nil]
    cases b <;> rfl

theorem interp_append (a b : List Block) :
    (interp (a ++ b)).zero = (zeroIncrements b).foldl F64.add (interp a).zero ∧
    (interp (a ++ b)).pos = (interp a).pos ++ (interp b).pos ∧
    (interp (a ++ b)).neg = (interp a).neg ++ (interp b).neg ∧
    (interp (a ++ b)).mappings = (interp a).mappings ++ (interp b).mappings ∧
    (interp (a ++ b)).count = (interp a).count ++ (interp b).count ∧
    (interp (a ++ b)).sum = (interp a).sum ++ (interp b).sum ∧
    (interp (a ++ b)).min = (interp a).min ++ (interp b).min ∧
    (interp (a ++ b)).max = (interp a).max ++ (interp b).max := by
  rw [interp_eq (a ++ b), List.foldl_append, ← interp_eq a, foldl_interpStep]
  exact ⟨rfl, rfl, rfl, rfl, rfl, rfl, rfl, rfl⟩

theorem interp_zero (bs : List Block) :
    (interp bs).zero = (zeroIncrements bs).foldl F64.add (.fin 0) :=
  congrArg Doc.zero (foldl_interpStep {} bs)

end Wire
namespace Sketch
open Wire

/-! ## the bins a payload denotes, along the running index -/

def dcBins (idx : Int) : List (Int × Nat) → List (Int × F64)
  | [] => []
  | p :: rest => (idx + p.1, vfValue p.2) :: dcBins (idx + p.1) rest
def dBins (idx : Int) : List Int → List (Int × F64)
  | [] => []
  | d :: rest => (idx + d, F64.one) :: dBins (idx + d) rest
def ccBins (stride : Int) (idx : Int) : List Nat → List (Int × F64)
  | [] => []
  | c :: rest => (idx, vfValue c) :: ccBins stride (idx + stride) rest

theorem payloadBins_dc (items : List (Int × Nat)) :
    payloadBins (.deltasCounts items) = dcBins 0 items := by
  have (i0 : Int) (acc : List (Int × F64)) :
      (items.foldl (fun (acc : Int × List (Int × F64)) p =>
        (acc.1 + p.1, (acc.1 + p.1, vfValue p.2) :: acc.2)) (i0, acc)).2.reverse
      = acc.reverse ++ dcBins i0 items := by
    induction items generalizing i0 acc with
    | nil => simp [dcBins]
    | cons p items ih => simp [List.foldl_cons, ih, dcBins]
  exact this 0 []

theorem payloadBins_d (items : List Int) : payloadBins (.deltas items) = dBins 0 items := by
  have (i0 : Int) (acc : List (Int × F64)) :
      (items.foldl (fun (acc : Int × List (Int × F64)) d =>
        (acc.1 + d, (acc.1 + d, F64.one) :: acc.2)) (i0, acc)).2.reverse
      = acc.reverse ++ dBins i0 items := by
    induction items generalizing i0 acc with
    | nil => simp [dBins]
    | cons p items ih => simp [List.foldl_cons, ih, dBins]
  exact this 0 []

theorem payloadBins_cc (start stride : Int) (counts : List Nat) :
    payloadBins (.contiguous start stride counts) = ccBins stride start counts := by
  have (n : Nat) : (counts.zipIdx n).map (fun (c, k) => (start + stride * (k : Int), vfValue c))
      = ccBins stride (start + stride * (n : Int)) counts := by
    induction counts generalizing n with
    | nil => rfl
    | cons c counts ih =>
      rw [List.zipIdx_cons, List.map_cons, ccBins, ih (n + 1), Int.natCast_add, Int.mul_add,
        Int.add_assoc, Int.natCast_one, Int.mul_one]
  simpa [payloadBins] using this 0

/-! ## adding decoded bins to a store -/

/-- add decoded bins to a store in stream order (`none`: the store panics or a weight is not finite) -/
def addBins (st : Store) : List (Int × F64) → Option Store
  | [] => some st
  | p :: rest =>
    match addF st p.1 p.2 with
    | none => none
    | some st' => addBins st' rest

theorem addBins_append (st : Store) (a b : List (Int × F64)) :
    addBins st (a ++ b) = (match addBins st a with | none => none | some st' => addBins st' b) := by
  induction a generalizing st with
  | nil => rfl
  | cons p a ih =>
    simp only [List.cons_append, addBins]
    cases addF st p.1 p.2 with
    | none => rfl
    | some st' => exact ih st'

theorem addBins_prefix {st : Store} {pre l : List (Int × F64)} (h : pre <+: l)
    (hs : addBins st l ≠ none) : addBins st pre ≠ none := by
  obtain ⟨t, rfl⟩ := h
  intro h0
  rw [addBins_append, h0] at hs
  exact hs rfl

/-- the accumulation step of `Wire.contentOf` -/
def addPair (acc : Content) (p : Int × F64) : Option Content :=
  match p.2 with
  | .fin w => some (acc.add p.1 w)
  | _ => none

theorem contentOf_eq (l : List (Int × F64)) : contentOf l = l.foldlM addPair [] := rfl

theorem addBins_sp (c : Content) (l : List (Int × F64)) :
    addBins (.sp c) l = (l.foldlM addPair c).map Store.sp := by
  induction l generalizing c with
  | nil => rfl
  | cons p l ih =>
    obtain ⟨i, w⟩ := p
    cases w with
    | fin q => exact ih _
    | _ => rfl

def FiniteBins (l : List (Int × F64)) : Prop := ∀ p ∈ l, p.2.isFinite = true

theorem addF_sp_finite (c : Content) (i : Int) (w : F64) (hw : w.isFinite = true) :
    ∃ c', addF (.sp c) i w = some (.sp c') := by
  cases w with
  | fin q => exact ⟨_, rfl⟩
  | _ => cases hw

theorem addBins_sp_finite (c : Content) (l : List (Int × F64)) (h : FiniteBins l) :
    ∃ c', addBins (.sp c) l = some (.sp c') := by
  induction l generalizing c with
  | nil => exact ⟨c, rfl⟩
  | cons p l ih =>
    obtain ⟨c', hc⟩ := addF_sp_finite c p.1 p.2 (h p (List.mem_cons_self ..))
    rw [addBins, hc]
    exact ih c' fun q hq => h q (List.mem_cons_of_mem _ hq)

theorem sp_of_addBins {c : Content} {l : List (Int × F64)} {st : Store}
    (h : addBins (.sp c) l = some st) : ∃ c', st = .sp c' := by
  rw [addBins_sp] at h
  obtain ⟨c', _, rfl⟩ := Option.map_eq_some_iff.1 h
  exact ⟨c', rfl⟩

/-! ## the codecs as the transcribed decoder calls them: under `Sketch.liftDec`, the varfloat as a float -/

theorem sk_liftDec_of_ok {α} (x : Except DecErr α) (a : α) (h : x = .ok a) :
    Sketch.liftDec x = .ok a := by subst h; rfl
theorem sk_liftDec_of_error {α} (x : Except DecErr α) (e : DecErr) (h : x = .error e) :
    Sketch.liftDec x = .error .eof := by subst h; rfl

theorem liftDec_ok_inv {α} (x : Except DecErr α) (a : α) (h : Sketch.liftDec x = .ok a) :
    x = .ok a := by
  cases x with
  | ok b => exact congrArg _ (Except.ok.inj h)
  | error e => cases h

theorem _root_.DDS.Wire.Reads.skLift {α} {D : Bytes → Except DecErr (α × Bytes)} {e a}
    (h : Reads .eof D e a) : Reads .eof (fun bs => Sketch.liftDec (D bs)) e a :=
  ⟨fun rest => congrArg Sketch.liftDec (h.full rest),
   fun k hk => congrArg Sketch.liftDec (h.cut k hk)⟩

theorem decVarfloat64_of_ok (bs : Bytes) (b : Nat) (rest : Bytes)
    (h : decVarfloatBits bs = .ok (b, rest)) : decVarfloat64 bs = .ok (vfValue b, rest) := by
  unfold decVarfloat64; rw [h]; rfl

theorem decVarfloat64_of_error (bs : Bytes) (e : DecErr)
    (h : decVarfloatBits bs = .error e) : decVarfloat64 bs = .error e := by
  unfold decVarfloat64; rw [h]

theorem decVarfloat64_ok (bs : Bytes) (c : F64) (rest : Bytes)
    (h : decVarfloat64 bs = .ok (c, rest)) : ∃ k, 1 ≤ k ∧ k ≤ 9 ∧ rest = bs.drop k := by
  unfold decVarfloat64 at h
  split at h
  · rename_i u rest' heq
    cases h
    exact decVarfloatBits_ok _ _ _ heq
  · cases h

theorem reads_varfloat64 (b : Nat) (hb : b < W64) :
    Reads .eof decVarfloat64 (encVarfloatBits b) (vfValue b) :=
  ⟨fun rest => decVarfloat64_of_ok _ _ _ ((reads_varfloat b hb).full rest),
   fun k hk => decVarfloat64_of_error _ _ ((reads_varfloat b hb).cut k hk)⟩

/-! ## what the codecs leave of their input -/

theorem uvarint_suffix (bs : Bytes) (n : Nat) (r : Bytes) (h : decUvarint64 bs = .ok (n, r)) :
    r <:+ bs := by
  obtain ⟨k, _, _, hr, _⟩ := decUvarint64_ok bs n r h
  rw [hr]; exact List.drop_suffix k bs

theorem varint_suffix (bs : Bytes) (n : Int) (r : Bytes) (h : decVarint64 bs = .ok (n, r)) :
    r <:+ bs := by
  obtain ⟨k, _, _, hr, _⟩ := decVarint64_ok bs n r h
  rw [hr]; exact List.drop_suffix k bs

theorem varfloat_suffix (bs : Bytes) (c : F64) (r : Bytes) (h : decVarfloat64 bs = .ok (c, r)) :
    r <:+ bs := by
  obtain ⟨k, _, _, hr⟩ := decVarfloat64_ok bs c r h
  rw [hr]; exact List.drop_suffix k bs

theorem f64le_suffix (bs : Bytes) (b : Nat) (r : Bytes) (h : decF64LE bs = .ok (b, r)) :
    r <:+ bs := by
  unfold decF64LE at h
  split at h
  · cases h
  · cases h
    exact List.drop_suffix 8 bs

/-- wherever a varfloat can be read in the stream, it is a finite float -/
def FiniteVarfloats (bytes : Bytes) : Prop :=
  ∀ suf c rest, suf <:+ bytes → decVarfloat64 suf = .ok (c, rest) → c.isFinite = true

theorem FiniteVarfloats.suffix {bytes suf : Bytes} (h : FiniteVarfloats bytes) (hs : suf <:+ bytes) :
    FiniteVarfloats suf :=
  fun s c r hs' hd => h s c r (hs'.trans hs) hd

end Sketch

/-! ## the items of an index-delta block, as the encoders write them -/

namespace RoundTrip

/-- the `(index delta, count bits)` items the encoders write, starting from index `prev` -/
def deltaRec (prev : Int) : List (Int × Rat) → List (Int × Nat)
  | [] => []
  | p :: rest => (p.1 - prev, Sketch.vfBits p.2) :: deltaRec p.1 rest

theorem delta_foldl (l : List (Int × Rat)) (prev : Int) (acc : List (Int × Nat)) :
    (l.foldl (fun (acc : Int × List (Int × Nat)) p =>
        (p.1, (p.1 - acc.1, Sketch.vfBits p.2) :: acc.2)) (prev, acc)).2.reverse
      = acc.reverse ++ deltaRec prev l := by
  induction l generalizing prev acc with
  | nil => simp [deltaRec]
  | cons p l ih => simp [List.foldl_cons, ih, deltaRec]

theorem deltaRec_length (prev : Int) (l : List (Int × Rat)) : (deltaRec prev l).length = l.length := by
  induction l generalizing prev with
  | nil => rfl
  | cons p l ih => simp [deltaRec, ih]

end RoundTrip
end DDS
