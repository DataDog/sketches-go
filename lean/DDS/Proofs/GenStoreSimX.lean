/-
  DDS.Proofs.GenStoreSimX — parametricity in the store implementation of the EXACT-SUMMARY variant of the
  regenerated sketch (`DDSketchWithExactSummaryStatistics.*` of `DDS/Generated/CodeSketch.lean`: an embedded
  `DDSketch` plus the regenerated `SummaryStatistics`), proved ONCE for every `T : StoreSim S₁ S₂`
  (`DDS/Proofs/GenStoreSim.lean`) and every mapping implementation `M`.

  0. Decomposition of the four mutating methods (ANY `M`, `S`; no simulation involved): the embedded sketch and
     the returned error are those of the plain method, and the statistics are touched only when the plain method
     returned a nil error — `XAddWithCount_eq`, `XAdd_eq`, `XMergeWith_eq`, `XReweight_eq`, all four instances of
     one shape (`stats_after`).  (The exact variant calls the plain method FIRST; a refused call leaves the
     statistics as they were: "validation before the statistics".)  The statistics never read the stores.
  1. The batch queries of the PLAIN sketch on `SkSimG T`-related sketches: `goBatch_paramG`,
     `GetValuesAtQuantiles_paramG`.  `XSkSimG T a b`: embedded sketches in `SkSimG T`, statistics EQUAL.  Equal
     answers: `xobservers_paramG` (`GetCount`, `GetSum`, `GetMinValue`, `GetMaxValue`, `IsEmpty`, `GetZeroCount`, every
     `GetValueAtQuantile`, every `GetValuesAtQuantiles` at every fuel).  Same error and related receivers:
     `XClear_paramG`, `XCopy_paramG`, `XAddWithCount_paramG`, `XAdd_paramG` (side condition: the routed index is
     admissible, as for the plain sketch), `XMergeWith_paramG`, `XReweight_paramG`,
     `XFromData_paramG` (`NewDDSketchWithExactSummaryStatisticsFromData`: same error; related results when the
     error is nil — on a refusal the translation returns `default` stores, related only if `T.R default default`:
     `XFromData_paramG_default`).
  2. Histories: `xrunAdds` (a list of `AddWithCount(value, count)` calls on the exact variant),
     `xrunAdds_sk` / `xrunAdds_errs` (its embedded sketch / errors are those of `runAdds` on the embedded sketch),
     `xrunAdds_stats` (its statistics are the fold of the regenerated `SummaryStatistics.Add` over the ABSORBED
     calls `xabsorbed`: nil error and non-zero count), `xrunAdds_paramG`, `newX`, `xSkSimG_new`, and the payoff
     `xhistory_observers_paramG`: same errors, and every observer agrees.

  No fuel hypothesis anywhere (the two batch loops are structural; `GenSketch3`).
-/
import DDS.Proofs.GenStoreSim
import DDS.Proofs.GenSketch3

namespace DDS.GenStoreSim

open DDS DDS.GoSem DDS.Gen.Sketch DDS.Gen.Stat DDS.GenPagSketch

/-! ### the four mutating methods, decomposed (any mapping, any store) -/

section decomposition

variable {M S : Type} [MapI M] [StoreI S] [Inhabited M] [Inhabited S]

omit [MapI M] [StoreI S] [Inhabited M] [Inhabited S] in
/-- the shape of the four mutators of the exact variant: the plain method first (`r`); its sketch replaces the
    embedded one; the statistics are updated (`f`) only if it returned nil -/
theorem stats_after (g : DDSketchWithExactSummaryStatistics M S) (r : DDSketch M S × GoErr)
    (f : SummaryStatistics → SummaryStatistics) :
    (if (r.2 != GoErr.nil) = true then ({ g with DDSketch := r.1 }, r.2)
      else ({ DDSketch := r.1, summaryStatistics := f g.summaryStatistics }, GoErr.nil)) =
      (({ DDSketch := r.1, summaryStatistics :=
          if (r.2 != GoErr.nil) = true then g.summaryStatistics else f g.summaryStatistics } :
        DDSketchWithExactSummaryStatistics M S), r.2) := by
  by_cases he : (r.2 != GoErr.nil) = true
  · rw [if_pos he, if_pos he]
  · rw [if_neg he, if_neg he, GoErr.eq_nil_of_not_bne he]

/-- `AddWithCount` of the exact variant: the plain `AddWithCount` first; the statistics absorb `(value, count)`
    only if that call returned nil and the count is not zero -/
theorem XAddWithCount_eq (g : DDSketchWithExactSummaryStatistics M S) (v c : F64) :
    DDSketchWithExactSummaryStatistics.AddWithCount g v c =
      ({ DDSketch := (DDSketch.AddWithCount g.DDSketch v c).1,
         summaryStatistics :=
           if ((DDSketch.AddWithCount g.DDSketch v c).2 != GoErr.nil) = true then g.summaryStatistics
           else if F64.eq c (.fin 0) = true then g.summaryStatistics
           else SummaryStatistics.Add g.summaryStatistics v c },
       (DDSketch.AddWithCount g.DDSketch v c).2) := by
  refine Eq.trans ?_
    (stats_after g _ fun st => if F64.eq c (.fin 0) = true then st else SummaryStatistics.Add st v c)
  unfold DDSketchWithExactSummaryStatistics.AddWithCount
  cases F64.eq c (.fin 0) <;> rfl

theorem XAdd_eq (g : DDSketchWithExactSummaryStatistics M S) (v : F64) :
    DDSketchWithExactSummaryStatistics.Add g v =
      DDSketchWithExactSummaryStatistics.AddWithCount g v (.fin 1) := by
  rw [XAddWithCount_eq]
  unfold DDSketchWithExactSummaryStatistics.Add
  rw [Add_eq_AddWithCount]
  exact stats_after g _ (SummaryStatistics.Add · v (.fin 1))

theorem XMergeWith_eq (g o : DDSketchWithExactSummaryStatistics M S) :
    DDSketchWithExactSummaryStatistics.MergeWith g o =
      ({ DDSketch := (DDSketch.MergeWith g.DDSketch o.DDSketch).1,
         summaryStatistics :=
           if ((DDSketch.MergeWith g.DDSketch o.DDSketch).2 != GoErr.nil) = true then g.summaryStatistics
           else SummaryStatistics.MergeWith g.summaryStatistics o.summaryStatistics },
       (DDSketch.MergeWith g.DDSketch o.DDSketch).2) :=
  stats_after g _ (SummaryStatistics.MergeWith · o.summaryStatistics)

theorem XReweight_eq (g : DDSketchWithExactSummaryStatistics M S) (w : F64) :
    DDSketchWithExactSummaryStatistics.Reweight g w =
      ({ DDSketch := (DDSketch.Reweight g.DDSketch w).1,
         summaryStatistics :=
           if ((DDSketch.Reweight g.DDSketch w).2 != GoErr.nil) = true then g.summaryStatistics
           else SummaryStatistics.Reweight g.summaryStatistics w },
       (DDSketch.Reweight g.DDSketch w).2) :=
  stats_after g _ (SummaryStatistics.Reweight · w)

/-- a refused `AddWithCount` leaves the statistics alone, whatever the store ("validation first") -/
theorem XAddWithCount_refused_stats (g : DDSketchWithExactSummaryStatistics M S) (v c : F64)
    (h : (DDSketchWithExactSummaryStatistics.AddWithCount g v c).2 ≠ GoErr.nil) :
    (DDSketchWithExactSummaryStatistics.AddWithCount g v c).1.summaryStatistics = g.summaryStatistics := by
  rw [XAddWithCount_eq] at h ⊢
  exact if_pos (bne_iff_ne.2 h)

theorem XAddWithCount_sk (g : DDSketchWithExactSummaryStatistics M S) (v c : F64) :
    (DDSketchWithExactSummaryStatistics.AddWithCount g v c).1.DDSketch = (DDSketch.AddWithCount g.DDSketch v c).1 := by
  rw [XAddWithCount_eq]

theorem XAddWithCount_err (g : DDSketchWithExactSummaryStatistics M S) (v c : F64) :
    (DDSketchWithExactSummaryStatistics.AddWithCount g v c).2 = (DDSketch.AddWithCount g.DDSketch v c).2 := by
  rw [XAddWithCount_eq]

end decomposition

section sketch

variable {M : Type} [MapI M] [Inhabited M]
variable {S₁ S₂ : Type} [StoreI S₁] [StoreI S₂] [Inhabited S₁] [Inhabited S₂]
variable (T : StoreSim S₁ S₂)

/-! ### the batch queries of the plain sketch -/

theorem goBatch_paramG {a : DDSketch M S₁} {b : DDSketch M S₂} (h : SkSimG T a b) (qs : List F64) :
    GenSketch.goBatch a qs = GenSketch.goBatch b qs := by
  induction qs with
  | nil => rfl
  | cons q rest ih => simp only [GenSketch.goBatch, GetValueAtQuantile_paramG T h q, ih]

theorem GetValuesAtQuantiles_paramG {a : DDSketch M S₁} {b : DDSketch M S₂} (h : SkSimG T a b)
    (f₁ f₂ : Nat) (qs : List F64) :
    DDSketch.GetValuesAtQuantiles f₁ a qs = DDSketch.GetValuesAtQuantiles f₂ b qs := by
  rw [GenSketch.GetValuesAtQuantiles_eq, GenSketch.GetValuesAtQuantiles_eq, goBatch_paramG T h]

/-! ### the exact variant: observers -/

/-- embedded sketches in simulation, statistics equal -/
structure XSkSimG (a : DDSketchWithExactSummaryStatistics M S₁) (b : DDSketchWithExactSummaryStatistics M S₂) :
    Prop where
  sk : SkSimG T a.DDSketch b.DDSketch
  st : a.summaryStatistics = b.summaryStatistics

/-- every observer of the exact variant agrees on related sketches: each is a function of the statistics (equal)
    and of observers of the embedded sketch (`GetMinValue`/`GetMaxValue`: its emptiness test, which reads the
    stores; the quantile queries: its answers) -/
theorem xobservers_paramG {a : DDSketchWithExactSummaryStatistics M S₁}
    {b : DDSketchWithExactSummaryStatistics M S₂} (h : XSkSimG T a b) :
    DDSketchWithExactSummaryStatistics.GetCount a = DDSketchWithExactSummaryStatistics.GetCount b ∧
    DDSketchWithExactSummaryStatistics.GetSum a = DDSketchWithExactSummaryStatistics.GetSum b ∧
    DDSketchWithExactSummaryStatistics.GetMinValue a = DDSketchWithExactSummaryStatistics.GetMinValue b ∧
    DDSketchWithExactSummaryStatistics.GetMaxValue a = DDSketchWithExactSummaryStatistics.GetMaxValue b ∧
    DDSketchWithExactSummaryStatistics.IsEmpty a = DDSketchWithExactSummaryStatistics.IsEmpty b ∧
    DDSketchWithExactSummaryStatistics.GetZeroCount a = DDSketchWithExactSummaryStatistics.GetZeroCount b ∧
    (∀ q, DDSketchWithExactSummaryStatistics.GetValueAtQuantile a q =
      DDSketchWithExactSummaryStatistics.GetValueAtQuantile b q) ∧
    (∀ f₁ f₂ qs, DDSketchWithExactSummaryStatistics.GetValuesAtQuantiles f₁ a qs =
      DDSketchWithExactSummaryStatistics.GetValuesAtQuantiles f₂ b qs) := by
  have hst := h.st
  have he := IsEmpty_paramG T h.sk
  refine ⟨?_, ?_, ?_, ?_, ?_, h.sk.zero, fun q => ?_, fun f₁ f₂ qs => ?_⟩
  · unfold DDSketchWithExactSummaryStatistics.GetCount; rw [hst]
  · unfold DDSketchWithExactSummaryStatistics.GetSum; rw [hst]
  · unfold DDSketchWithExactSummaryStatistics.GetMinValue; rw [he, hst]
  · unfold DDSketchWithExactSummaryStatistics.GetMaxValue; rw [he, hst]
  · unfold DDSketchWithExactSummaryStatistics.IsEmpty; rw [hst]
  · unfold DDSketchWithExactSummaryStatistics.GetValueAtQuantile
    rw [GetValueAtQuantile_paramG T h.sk q, hst]
  · rw [GenSketch.XGetValuesAtQuantiles_eq, GenSketch.XGetValuesAtQuantiles_eq, goBatch_paramG T h.sk, hst]

/-! ### mutators -/

theorem XClear_paramG {a : DDSketchWithExactSummaryStatistics M S₁} {b : DDSketchWithExactSummaryStatistics M S₂}
    (h : XSkSimG T a b) :
    XSkSimG T (DDSketchWithExactSummaryStatistics.Clear a) (DDSketchWithExactSummaryStatistics.Clear b) :=
  ⟨Clear_paramG T h.sk, congrArg SummaryStatistics.Clear h.st⟩

theorem XCopy_paramG {a : DDSketchWithExactSummaryStatistics M S₁} {b : DDSketchWithExactSummaryStatistics M S₂}
    (h : XSkSimG T a b) :
    XSkSimG T (DDSketchWithExactSummaryStatistics.Copy a) (DDSketchWithExactSummaryStatistics.Copy b) :=
  ⟨Copy_paramG T h.sk, congrArg SummaryStatistics.Copy h.st⟩

/-- `AddWithCount(value, count)` of the exact variant: the same error, related receivers (statistics equal
    again).  Side conditions: those of the plain `AddWithCount_paramG`. -/
theorem XAddWithCount_paramG {a : DDSketchWithExactSummaryStatistics M S₁}
    {b : DDSketchWithExactSummaryStatistics M S₂} (h : XSkSimG T a b) (v c : F64)
    (hv : RoutedG T b.DDSketch.IndexMapping v) :
    (DDSketchWithExactSummaryStatistics.AddWithCount a v c).2 =
        (DDSketchWithExactSummaryStatistics.AddWithCount b v c).2 ∧
      XSkSimG T (DDSketchWithExactSummaryStatistics.AddWithCount a v c).1
        (DDSketchWithExactSummaryStatistics.AddWithCount b v c).1 := by
  obtain ⟨e1, s1⟩ := AddWithCount_paramG T h.sk v c hv
  rw [XAddWithCount_eq, XAddWithCount_eq]
  exact ⟨e1, s1, by dsimp only; rw [e1, h.st]⟩

theorem XAdd_paramG {a : DDSketchWithExactSummaryStatistics M S₁}
    {b : DDSketchWithExactSummaryStatistics M S₂} (h : XSkSimG T a b) (v : F64)
    (hp : F64.lt (MapI.MinIndexableValue b.DDSketch.IndexMapping) v = true →
      T.Adm (MapI.Index b.DDSketch.IndexMapping v))
    (hn : F64.lt v (F64.neg (MapI.MinIndexableValue b.DDSketch.IndexMapping)) = true →
      T.Adm (MapI.Index b.DDSketch.IndexMapping (F64.neg v))) :
    (DDSketchWithExactSummaryStatistics.Add a v).2 = (DDSketchWithExactSummaryStatistics.Add b v).2 ∧
      XSkSimG T (DDSketchWithExactSummaryStatistics.Add a v).1 (DDSketchWithExactSummaryStatistics.Add b v).1 := by
  rw [XAdd_eq, XAdd_eq]
  exact XAddWithCount_paramG T h v (.fin 1) ⟨hp, hn⟩

theorem XMergeWith_paramG {a a' : DDSketchWithExactSummaryStatistics M S₁}
    {b b' : DDSketchWithExactSummaryStatistics M S₂} (h : XSkSimG T a b) (h' : XSkSimG T a' b') :
    (DDSketchWithExactSummaryStatistics.MergeWith a a').2 = (DDSketchWithExactSummaryStatistics.MergeWith b b').2 ∧
      XSkSimG T (DDSketchWithExactSummaryStatistics.MergeWith a a').1
        (DDSketchWithExactSummaryStatistics.MergeWith b b').1 := by
  obtain ⟨e1, s1⟩ := MergeWith_paramG T h.sk h'.sk
  rw [XMergeWith_eq, XMergeWith_eq]
  exact ⟨e1, s1, by dsimp only; rw [e1, h.st, h'.st]⟩

theorem XReweight_paramG {a : DDSketchWithExactSummaryStatistics M S₁}
    {b : DDSketchWithExactSummaryStatistics M S₂} (h : XSkSimG T a b) (w : F64) :
    (DDSketchWithExactSummaryStatistics.Reweight a w).2 = (DDSketchWithExactSummaryStatistics.Reweight b w).2 ∧
      XSkSimG T (DDSketchWithExactSummaryStatistics.Reweight a w).1
        (DDSketchWithExactSummaryStatistics.Reweight b w).1 := by
  obtain ⟨e1, s1⟩ := Reweight_paramG T h.sk w
  rw [XReweight_eq, XReweight_eq]
  exact ⟨e1, s1, by dsimp only; rw [e1, h.st]⟩

/-- `NewDDSketchWithExactSummaryStatisticsFromData(sketch, statistics)`: the same verdict; accepted arguments
    are stored as they are, hence related -/
theorem XFromData_paramG {a : DDSketch M S₁} {b : DDSketch M S₂} (h : SkSimG T a b) (st : SummaryStatistics) :
    (NewDDSketchWithExactSummaryStatisticsFromData a st).2 =
        (NewDDSketchWithExactSummaryStatisticsFromData b st).2 ∧
      ((NewDDSketchWithExactSummaryStatisticsFromData b st).2 = GoErr.nil →
        XSkSimG T (NewDDSketchWithExactSummaryStatisticsFromData a st).1
          (NewDDSketchWithExactSummaryStatisticsFromData b st).1) := by
  unfold NewDDSketchWithExactSummaryStatisticsFromData
  rw [IsEmpty_paramG T h]
  by_cases hc : (DDSketch.IsEmpty b != F64.eq (SummaryStatistics.Count st) (.fin 0)) = true
  · rw [if_pos hc, if_pos hc]
    exact ⟨rfl, fun hx => by cases hx⟩
  · rw [if_neg hc, if_neg hc]
    exact ⟨rfl, fun _ => ⟨h, rfl⟩⟩

/-- … and on a refusal the translation returns the zero value (default mapping and stores): related as soon as
    the default stores are -/
theorem XFromData_paramG_default {a : DDSketch M S₁} {b : DDSketch M S₂} (h : SkSimG T a b)
    (st : SummaryStatistics) (hd : T.R default default) :
    XSkSimG T (NewDDSketchWithExactSummaryStatisticsFromData a st).1
      (NewDDSketchWithExactSummaryStatisticsFromData b st).1 := by
  unfold NewDDSketchWithExactSummaryStatisticsFromData
  rw [IsEmpty_paramG T h]
  by_cases hc : (DDSketch.IsEmpty b != F64.eq (SummaryStatistics.Count st) (.fin 0)) = true
  · rw [if_pos hc, if_pos hc]
    exact ⟨⟨rfl, hd, hd, rfl⟩, rfl⟩
  · rw [if_neg hc, if_neg hc]
    exact ⟨h, rfl⟩

end sketch

/-! ### histories of `AddWithCount` calls on the exact variant -/

section histories

variable {M : Type} [MapI M] [Inhabited M]

/-- a history of `AddWithCount(value, count)` calls on the exact variant: the final receiver and the errors
    returned, in order -/
def xrunAdds {S : Type} [StoreI S] [Inhabited S] (g : DDSketchWithExactSummaryStatistics M S) :
    List (F64 × F64) → DDSketchWithExactSummaryStatistics M S × List GoErr
  | [] => (g, [])
  | (v, c) :: rest =>
    let r := DDSketchWithExactSummaryStatistics.AddWithCount g v c
    let r' := xrunAdds r.1 rest
    (r'.1, r.2 :: r'.2)

/-- the calls the statistics absorb: those answered nil, with a non-zero count -/
def xabsorbed : List (F64 × F64) → List GoErr → List (F64 × F64)
  | p :: l, e :: es =>
    if (e != GoErr.nil) = true then xabsorbed l es
    else if F64.eq p.2 (.fin 0) = true then xabsorbed l es
    else p :: xabsorbed l es
  | _, _ => []

variable {S : Type} [StoreI S] [Inhabited S]

/-- embedded sketch and errors of the history are those of the plain history of the embedded sketch -/
theorem xrunAdds_run (l : List (F64 × F64)) : ∀ g : DDSketchWithExactSummaryStatistics M S,
    (xrunAdds g l).1.DDSketch = (runAdds g.DDSketch l).1 ∧ (xrunAdds g l).2 = (runAdds g.DDSketch l).2 := by
  induction l with
  | nil => exact fun g => ⟨rfl, rfl⟩
  | cons p rest ih =>
    intro g
    obtain ⟨v, c⟩ := p
    obtain ⟨h1, h2⟩ := ih (DDSketchWithExactSummaryStatistics.AddWithCount g v c).1
    rw [XAddWithCount_sk] at h1 h2
    exact ⟨h1, congr (congrArg List.cons (XAddWithCount_err g v c)) h2⟩

theorem xrunAdds_sk (l : List (F64 × F64)) (g : DDSketchWithExactSummaryStatistics M S) :
    (xrunAdds g l).1.DDSketch = (runAdds g.DDSketch l).1 := (xrunAdds_run l g).1

theorem xrunAdds_errs (l : List (F64 × F64)) : ∀ g : DDSketchWithExactSummaryStatistics M S,
    (xrunAdds g l).2 = (runAdds g.DDSketch l).2 := fun g => (xrunAdds_run l g).2

/-- the statistics of the history: the regenerated `SummaryStatistics.Add` folded over the absorbed calls — the
    stores are not consulted beyond the errors they caused -/
theorem xrunAdds_stats (l : List (F64 × F64)) : ∀ g : DDSketchWithExactSummaryStatistics M S,
    (xrunAdds g l).1.summaryStatistics =
      GenStat.genAddAllF g.summaryStatistics (xabsorbed l (xrunAdds g l).2) := by
  induction l with
  | nil => intro g; rfl
  | cons p rest ih =>
    intro g
    obtain ⟨v, c⟩ := p
    show (xrunAdds (DDSketchWithExactSummaryStatistics.AddWithCount g v c).1 rest).1.summaryStatistics =
      GenStat.genAddAllF g.summaryStatistics
        (xabsorbed ((v, c) :: rest) ((DDSketchWithExactSummaryStatistics.AddWithCount g v c).2 ::
          (xrunAdds (DDSketchWithExactSummaryStatistics.AddWithCount g v c).1 rest).2))
    rw [ih]
    generalize (xrunAdds (DDSketchWithExactSummaryStatistics.AddWithCount g v c).1 rest).2 = es
    rw [XAddWithCount_eq]
    dsimp only [xabsorbed]
    by_cases he : ((DDSketch.AddWithCount g.DDSketch v c).2 != GoErr.nil) = true
    · rw [if_pos he, if_pos he]
    · rw [if_neg he, if_neg he]
      by_cases h0 : F64.eq c (.fin 0) = true
      · rw [if_pos h0, if_pos h0]
      · rw [if_neg h0, if_neg h0]
        rfl

theorem xabsorbed_all (l : List (F64 × F64)) (hc : ∀ p ∈ l, F64.eq p.2 (.fin 0) = false) :
    xabsorbed l (List.replicate l.length GoErr.nil) = l := by
  induction l with
  | nil => rfl
  | cons p rest ih =>
    rw [List.forall_mem_cons] at hc
    show (if (GoErr.nil != GoErr.nil) = true then _ else if F64.eq p.2 (.fin 0) = true then _ else p :: _) = _
    rw [if_neg (by decide), hc.1, if_neg Bool.false_ne_true, ih hc.2]

end histories

section histories_param

variable {M : Type} [MapI M] [Inhabited M]
variable {S₁ S₂ : Type} [StoreI S₁] [StoreI S₂] [Inhabited S₁] [Inhabited S₂]
variable (T : StoreSim S₁ S₂)

theorem xrunAdds_paramG (l : List (F64 × F64)) :
    ∀ {a : DDSketchWithExactSummaryStatistics M S₁} {b : DDSketchWithExactSummaryStatistics M S₂},
      XSkSimG T a b → (∀ p ∈ l, RoutedG T b.DDSketch.IndexMapping p.1) →
      (xrunAdds a l).2 = (xrunAdds b l).2 ∧ XSkSimG T (xrunAdds a l).1 (xrunAdds b l).1 := by
  induction l with
  | nil => intro a b h _; exact ⟨rfl, h⟩
  | cons p rest ih =>
    intro a b h hl
    rw [List.forall_mem_cons] at hl
    obtain ⟨e1, s1⟩ := XAddWithCount_paramG T h p.1 p.2 hl.1
    obtain ⟨e2, s2⟩ := ih s1 (by rw [XAddWithCount_sk, AddWithCount_mapping]; exact hl.2)
    exact ⟨congr (congrArg List.cons e1) e2, s2⟩

/-- the empty exact-variant sketch over the given stores: `NewDDSketch(m, p, n)` with
    `NewSummaryStatistics()` (what Go's `NewDDSketchWithExactSummaryStatistics` builds) -/
def newX {S : Type} [StoreI S] [Inhabited S] (m : M) (p n : S) : DDSketchWithExactSummaryStatistics M S :=
  { DDSketch := NewDDSketch m p n, summaryStatistics := NewSummaryStatistics }

/-- … is what `NewDDSketchWithExactSummaryStatisticsFromData` accepts when the two stores are empty -/
theorem newX_fromData {S : Type} [StoreI S] [Inhabited S] (m : M) (p n : S)
    (hp : (StoreI.IsEmpty p : Bool) = true) (hn : (StoreI.IsEmpty n : Bool) = true) :
    NewDDSketchWithExactSummaryStatisticsFromData (NewDDSketch m p n) NewSummaryStatistics =
      (newX m p n, GoErr.nil) := by
  have h1 : DDSketch.IsEmpty (NewDDSketch m p n) = true := by
    unfold DDSketch.IsEmpty NewDDSketch
    dsimp only
    rw [hp, hn]
    rfl
  unfold NewDDSketchWithExactSummaryStatisticsFromData
  rw [h1]
  rfl

theorem xSkSimG_new (m : M) {p₁ n₁ : S₁} {p₂ n₂ : S₂} (hp : T.R p₁ p₂) (hn : T.R n₁ n₂) :
    XSkSimG T (newX m p₁ n₁) (newX m p₂ n₂) :=
  ⟨skSimG_new T m hp hn, rfl⟩

/-- **the payoff**: after any history of `AddWithCount` calls with admissible routed indexes on the exact
    variant, from the empty sketch on related stores, the errors returned and EVERY observer agree -/
theorem xhistory_observers_paramG (m : M) {p₁ n₁ : S₁} {p₂ n₂ : S₂} (hp : T.R p₁ p₂) (hn : T.R n₁ n₂)
    (l : List (F64 × F64)) (hl : ∀ p ∈ l, RoutedG T m p.1) :
    let a := xrunAdds (newX m p₁ n₁) l
    let b := xrunAdds (newX m p₂ n₂) l
    a.2 = b.2 ∧
    DDSketchWithExactSummaryStatistics.GetCount a.1 = DDSketchWithExactSummaryStatistics.GetCount b.1 ∧
    DDSketchWithExactSummaryStatistics.GetSum a.1 = DDSketchWithExactSummaryStatistics.GetSum b.1 ∧
    DDSketchWithExactSummaryStatistics.GetMinValue a.1 = DDSketchWithExactSummaryStatistics.GetMinValue b.1 ∧
    DDSketchWithExactSummaryStatistics.GetMaxValue a.1 = DDSketchWithExactSummaryStatistics.GetMaxValue b.1 ∧
    DDSketchWithExactSummaryStatistics.IsEmpty a.1 = DDSketchWithExactSummaryStatistics.IsEmpty b.1 ∧
    DDSketchWithExactSummaryStatistics.GetZeroCount a.1 = DDSketchWithExactSummaryStatistics.GetZeroCount b.1 ∧
    (∀ q, DDSketchWithExactSummaryStatistics.GetValueAtQuantile a.1 q =
      DDSketchWithExactSummaryStatistics.GetValueAtQuantile b.1 q) ∧
    (∀ f₁ f₂ qs, DDSketchWithExactSummaryStatistics.GetValuesAtQuantiles f₁ a.1 qs =
      DDSketchWithExactSummaryStatistics.GetValuesAtQuantiles f₂ b.1 qs) := by
  intro a b
  obtain ⟨he, hs⟩ := xrunAdds_paramG T l (xSkSimG_new T m hp hn) hl
  exact ⟨he, xobservers_paramG T hs⟩

end histories_param

end DDS.GenStoreSim
