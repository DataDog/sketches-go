/-
  DDS.Proofs.GenProtoSketch — the REGENERATED protobuf conversions
  (`DDS/Generated/CodeMappingProto.lean`, `CodeMappingFromProto.lean`, `CodeSketchProto.lean`, translated on every
  run from `ToProto` of the three mappings, `mapping.FromProto`, `DDSketch.ToProto` and
  `FromProtoWithStoreProvider`) against the hand-written protobuf model `DDS/Model/Proto.lean`.

  PART 1 — mappings.
  (a) for EVERY float type `F` with `[MOps F]` (nothing is assumed about the operations):
      `log_toProto / lin_toProto / cub_toProto` — the message is `(gamma, indexOffset, NONE | LINEAR | CUBIC)`;
      `ctorLog_err / …`, `ctorLog_ok / ctorLin_ok / ctorCub_ok` — a `…WithGamma` constructor refuses `gamma <= 1`
        with "Gamma must be greater than 1."; an accepted one stores its two arguments unchanged;
      the decision table of `FromProto`, for every fuel (no loop, never `.panic`, never `.nofuel`):
        `FromProto_nil`          nil message                  → error "cannot create IndexMapping from nil …",
        `FromProto_some`         non-nil message: the switch on the tag, of which the next rows are the cases;
        `FromProto_none/_linear/_cubic`  tag 0 / 1 / 3        → the `…WithGamma(Gamma, IndexOffset)` constructor,
        `FromProto_unsupported`  any other tag (QUADRATIC = 2: `FromProto_quadratic`) → "interpolation not supported",
        `FromProto_gamma_le_one`  `Gamma <= 1`                → "Gamma must be greater than 1." (C13/C19);
      round trip `log_roundtrip / lin_roundtrip / cub_roundtrip`: for `m` with `¬ m.gamma <= 1`,
        `FromProto (some (ToProto m))` is what the constructor builds from `(m.gamma, m.indexOffset)`: error nil,
        SAME KIND, same `gamma` and `indexOffset` (one statement `roundtrip_of` with the kind as a parameter);
      `log_roundtrip_ctor / …`: for every mapping the constructor itself built, `FromProto (some (ToProto m)) = m`
        exactly (all five fields), for every `F`.
  (b) over the real numbers (`DDS.Proofs.RealInst`, as `GenMapping` / `C03Gen`): `FromProto_real_ok` —
      `FromProto (some (ToProto (toGenLog ⟨.log, γ, o⟩))) = (toGenLog ⟨.log, γ, o⟩, nil)` for `1 < γ`, likewise
      for the two other kinds, and `FromProto_real_err` for `γ ≤ 1`.
  (c) over the exact float model `F64`.  The project has no instance `MOps F64` (the transcendental functions are
      not modelled); the statements hold for EVERY instance `[MOps F64]` whose guard `gamma <= 1` is the model's
      (`LeOne`: `MOps.le x (MOps.ofInt 1) = F64.le x (.fin 1)`; `witnessOps`, at the end, is one), nothing else is
      assumed.  `pbOfGo` projects a Go message to the model's `Proto.PbMapping` (bit patterns); `idOf` reads the
      identity `(kind, gamma, indexOffset)` off a result of `FromProto`.
        `log_toProto_model / …`: `pbOfGo (ToProto m) = Proto.mappingToProto (idLog m)`;
        `FromProto_model`: the generated `FromProto` and the model's `Proto.mappingFromProto` take the same branch
           on every message whose two floats survive `toBits/ofBits` (every Go float does): same refusal
           (`errOf`), or error nil and the identity of the result is the model's `MapId`.

  PART 2 — sketch level (`DDSketch.ToProto`, `FromProtoWithStoreProvider`; generic over the interfaces, the
  protobuf side of which are the classes `GoPb.MapPbI`, `GoPb.StorePbI`).
  * instances defined HERE from the model: `instMapPbI : MapPbI MapEnv` (`ToProto` = `Proto.mappingToProto` of the
    identity, embedded; `FromProto` = `Proto.mappingFromProto` on the projected message, the errors through `errOf`,
    the resulting object `envOf id` — defaults but the identity, the convention of `GenSketch.mapDecode`),
    `instStorePbI : StorePbI Store` (`Proto.storeToProto`, embedded; the empty message where the model panics).
    `goOfPb*` embed the model's messages (bit patterns) into the Go messages, `pb*OfGo` project back.
    `instance_FromProto_agrees / instance_ToProto_agrees`: these class methods agree with the REGENERATED
    `mapping.FromProto` / `ToProto` of Part 1 (same error, same identity; same message).
  * `ToProto_fields` (any instances): three non-nil sub-messages and the zero count.
    `ToProto_model`: `DDSketch.ToProto (toGen env s) = goOfPbSketch m` when `Proto.toProto s = some m`,
    `s.mapping = some env.id`, and `s.zero` survives `toBits/ofBits`; `ToProto_zero_bits` without that hypothesis.
  * `protoBins_pbStoreOfGo`: the projected message carries the bins of the Go message (`Lift.PB.protoBins` of the
    projection = `GenProtoStore.msgBins` under the ASCENDING oracle; message `WF`, floats surviving `toBits/ofBits`).
    `MergeWithProto_model`: hence the generic `MergeWithProto` on a store of the model (`instance : StoreI Store`)
    with the ascending oracle = the model's `Proto.mergeWithProto` on the projected message, wherever the model
    answers `some`, every fuel — both are `Lift.addList` of those bins.  The model enumerates `binCounts` by
    ascending key; Go's `range` order is unspecified: for another oracle the two stores hold the same bins
    (`Props/C09`, `Lift3`) but need not be the same structure — not claimed here.
  * `FromProto_eq` (any instances, any provider, oracle, fuel): provider, positive message, provider, negative
    message, mapping — `store.MergeWithProto` (generic, `GenProtoStore.mergeWithProto_eq_fold`) cannot fail, the
    only error is the one of `mapping.FromProto` (returned AFTER both stores are built, with the nil sketch), the
    only panic the provider's (`FromProto_panic`); no fuel is consumed.
  * NIL SUB-MESSAGES.  `FromProto_nil_stores`: a nil `PositiveValues` / `NegativeValues` is skipped — no error, no
    panic, the store is the provider's fresh store; the model does the same (`modelSide k none`): NO disagreement.
    `FromProto_nil_mapping`: a nil `Mapping` is the error "cannot create IndexMapping from nil protobuf index
    mapping", model `.nilMapping`: no disagreement.
  * `FromProto_sketch_model`: `FromProtoWithStoreProvider … pb (provider k)` against `Proto.fromProto k` on the
    projected message, under `MsgOK pb`: model `none` nothing claimed / model refusal `x` ⇒ `(nilSketch, errOf x)` /
    model `s` ⇒ `(toGen (envOf id) s, nil)`.  `exMsg_run`: a run through the `.ok` branch.
  No fuel bound anywhere in this file (no `for` with a condition).
-/
import DDS.Generated.CodeMappingProto
import DDS.Generated.CodeMappingFromProto
import DDS.Generated.CodeSketchProto
import DDS.Proofs.GenMapping
import DDS.Proofs.GenMapId
import DDS.Proofs.GenSketch7
import DDS.Proofs.Proto
import DDS.Proofs.GenProtoStore

set_option linter.unusedVariables false

namespace DDS.GenProtoSketch

open DDS DDS.GoSem DDS.Gen.Mapping DDS.Gen.MappingProto DDS.Gen.MappingFromProto

/-! ## Part 1 (a): every `F` -/

section generic
variable {F : Type} [MOps F]

/-- Go error values of `mapping.FromProto` and of the constructors it calls -/
def errNilMapping : GoErr := GoErr.named "cannot create IndexMapping from nil protobuf index mapping"
def errInterpolation : GoErr := GoErr.named "interpolation not supported: %d"
def errGamma : GoErr := GoErr.named "Gamma must be greater than 1."

theorem log_toProto (m : LogarithmicMapping F) :
    LogarithmicMapping.ToProto m =
      { Gamma := m.gamma, IndexOffset := m.indexOffset, Interpolation := GoPb.IndexMapping_NONE } := rfl

theorem lin_toProto (m : LinearlyInterpolatedMapping F) :
    LinearlyInterpolatedMapping.ToProto m =
      { Gamma := m.gamma, IndexOffset := m.indexOffset, Interpolation := GoPb.IndexMapping_LINEAR } := rfl

theorem cub_toProto (m : CubicallyInterpolatedMapping F) :
    CubicallyInterpolatedMapping.ToProto m =
      { Gamma := m.gamma, IndexOffset := m.indexOffset, Interpolation := GoPb.IndexMapping_CUBIC } := rfl

/-! ### the `…WithGamma` constructors: refusal, and what an accepted call stores -/

theorem ctorLog_err (g o : F) (h : MOps.le g (MOps.ofInt 1 : F) = true) :
    (NewLogarithmicMappingWithGamma g o).2 = errGamma := by
  unfold NewLogarithmicMappingWithGamma; rw [if_pos h]; rfl

theorem ctorLin_err (g o : F) (h : MOps.le g (MOps.ofInt 1 : F) = true) :
    (NewLinearlyInterpolatedMappingWithGamma g o).2 = errGamma := by
  unfold NewLinearlyInterpolatedMappingWithGamma; rw [if_pos h]; rfl

theorem ctorCub_err (g o : F) (h : MOps.le g (MOps.ofInt 1 : F) = true) :
    (NewCubicallyInterpolatedMappingWithGamma g o).2 = errGamma := by
  unfold NewCubicallyInterpolatedMappingWithGamma; rw [if_pos h]; rfl

theorem ctorLog_ok (g o : F) (h : MOps.le g (MOps.ofInt 1 : F) = false) :
    (NewLogarithmicMappingWithGamma g o).2 = GoErr.nil ∧
    (NewLogarithmicMappingWithGamma g o).1.gamma = g ∧
    (NewLogarithmicMappingWithGamma g o).1.indexOffset = o := by
  unfold NewLogarithmicMappingWithGamma
  rw [if_neg (ne_true_of_eq_false h)]
  exact ⟨rfl, rfl, rfl⟩

theorem ctorLin_ok (g o : F) (h : MOps.le g (MOps.ofInt 1 : F) = false) :
    (NewLinearlyInterpolatedMappingWithGamma g o).2 = GoErr.nil ∧
    (NewLinearlyInterpolatedMappingWithGamma g o).1.gamma = g ∧
    (NewLinearlyInterpolatedMappingWithGamma g o).1.indexOffset = o := by
  unfold NewLinearlyInterpolatedMappingWithGamma
  rw [if_neg (ne_true_of_eq_false h)]
  exact ⟨rfl, rfl, rfl⟩

theorem ctorCub_ok (g o : F) (h : MOps.le g (MOps.ofInt 1 : F) = false) :
    (NewCubicallyInterpolatedMappingWithGamma g o).2 = GoErr.nil ∧
    (NewCubicallyInterpolatedMappingWithGamma g o).1.gamma = g ∧
    (NewCubicallyInterpolatedMappingWithGamma g o).1.indexOffset = o := by
  unfold NewCubicallyInterpolatedMappingWithGamma
  rw [if_neg (ne_true_of_eq_false h)]
  exact ⟨rfl, rfl, rfl⟩

/-! ### decision table of `FromProto` -/

theorem FromProto_nil (fuel : Nat) :
    FromProto (F := F) fuel none = .ok (IndexMapping.nil, errNilMapping) := rfl

theorem FromProto_some (fuel : Nat) (pm : GoPb.IndexMapping F) :
    FromProto fuel (some pm) =
      if pm.Interpolation == GoPb.IndexMapping_NONE then
        .ok (.LogarithmicMapping (NewLogarithmicMappingWithGamma pm.Gamma pm.IndexOffset).1,
          (NewLogarithmicMappingWithGamma pm.Gamma pm.IndexOffset).2)
      else if pm.Interpolation == GoPb.IndexMapping_LINEAR then
        .ok (.LinearlyInterpolatedMapping (NewLinearlyInterpolatedMappingWithGamma pm.Gamma pm.IndexOffset).1,
          (NewLinearlyInterpolatedMappingWithGamma pm.Gamma pm.IndexOffset).2)
      else if pm.Interpolation == GoPb.IndexMapping_CUBIC then
        .ok (.CubicallyInterpolatedMapping (NewCubicallyInterpolatedMappingWithGamma pm.Gamma pm.IndexOffset).1,
          (NewCubicallyInterpolatedMappingWithGamma pm.Gamma pm.IndexOffset).2)
      else .ok (.nil, errInterpolation) := by
  unfold FromProto; rfl

theorem FromProto_none (fuel : Nat) (pm : GoPb.IndexMapping F) (h : pm.Interpolation = GoPb.IndexMapping_NONE) :
    FromProto fuel (some pm) =
      .ok (IndexMapping.LogarithmicMapping (NewLogarithmicMappingWithGamma pm.Gamma pm.IndexOffset).1,
           (NewLogarithmicMappingWithGamma pm.Gamma pm.IndexOffset).2) := by
  rw [FromProto_some, h]; rfl

theorem FromProto_linear (fuel : Nat) (pm : GoPb.IndexMapping F)
    (h : pm.Interpolation = GoPb.IndexMapping_LINEAR) :
    FromProto fuel (some pm) =
      .ok (IndexMapping.LinearlyInterpolatedMapping
             (NewLinearlyInterpolatedMappingWithGamma pm.Gamma pm.IndexOffset).1,
           (NewLinearlyInterpolatedMappingWithGamma pm.Gamma pm.IndexOffset).2) := by
  rw [FromProto_some, h]; rfl

theorem FromProto_cubic (fuel : Nat) (pm : GoPb.IndexMapping F)
    (h : pm.Interpolation = GoPb.IndexMapping_CUBIC) :
    FromProto fuel (some pm) =
      .ok (IndexMapping.CubicallyInterpolatedMapping
             (NewCubicallyInterpolatedMappingWithGamma pm.Gamma pm.IndexOffset).1,
           (NewCubicallyInterpolatedMappingWithGamma pm.Gamma pm.IndexOffset).2) := by
  rw [FromProto_some, h]; rfl

/-- every other tag (the enum is an `int32`: QUADRATIC and all undeclared values): an error, the nil interface
    value, whatever gamma and the offset are -/
theorem FromProto_unsupported (fuel : Nat) (pm : GoPb.IndexMapping F)
    (h0 : pm.Interpolation ≠ GoPb.IndexMapping_NONE) (h1 : pm.Interpolation ≠ GoPb.IndexMapping_LINEAR)
    (h3 : pm.Interpolation ≠ GoPb.IndexMapping_CUBIC) :
    FromProto fuel (some pm) = .ok (IndexMapping.nil, errInterpolation) := by
  rw [FromProto_some, if_neg (mt beq_iff_eq.1 h0), if_neg (mt beq_iff_eq.1 h1), if_neg (mt beq_iff_eq.1 h3)]

/-- QUADRATIC is declared in the `.proto` file and refused -/
theorem FromProto_quadratic (fuel : Nat) (g o : F) :
    FromProto fuel (some { Gamma := g, IndexOffset := o, Interpolation := GoPb.IndexMapping_QUADRATIC }) =
      .ok (IndexMapping.nil, errInterpolation) :=
  FromProto_unsupported fuel _
    (show GoPb.IndexMapping_QUADRATIC ≠ GoPb.IndexMapping_NONE by decide)
    (show GoPb.IndexMapping_QUADRATIC ≠ GoPb.IndexMapping_LINEAR by decide)
    (show GoPb.IndexMapping_QUADRATIC ≠ GoPb.IndexMapping_CUBIC by decide)

/-- `Gamma <= 1` is refused for each of the three supported tags (C13 / C19) -/
theorem FromProto_gamma_le_one (fuel : Nat) (pm : GoPb.IndexMapping F)
    (ht : pm.Interpolation = GoPb.IndexMapping_NONE ∨ pm.Interpolation = GoPb.IndexMapping_LINEAR ∨
      pm.Interpolation = GoPb.IndexMapping_CUBIC)
    (h : MOps.le pm.Gamma (MOps.ofInt 1 : F) = true) :
    ∃ r, FromProto fuel (some pm) = .ok (r, errGamma) := by
  rcases ht with ht | ht | ht
  · exact ⟨_, by rw [FromProto_none fuel pm ht, ctorLog_err _ _ h]⟩
  · exact ⟨_, by rw [FromProto_linear fuel pm ht, ctorLin_err _ _ h]⟩
  · exact ⟨_, by rw [FromProto_cubic fuel pm ht, ctorCub_err _ _ h]⟩

/-- the five cases are exhaustive and exclusive: `FromProto` never panics and never runs out of fuel -/
theorem FromProto_total (fuel : Nat) (pm? : Option (GoPb.IndexMapping F)) :
    ∃ r e, FromProto fuel pm? = .ok (r, e) := by
  cases pm? with
  | none => exact ⟨_, _, FromProto_nil fuel⟩
  | some pm =>
    by_cases h0 : pm.Interpolation = GoPb.IndexMapping_NONE
    · exact ⟨_, _, FromProto_none fuel pm h0⟩
    by_cases h1 : pm.Interpolation = GoPb.IndexMapping_LINEAR
    · exact ⟨_, _, FromProto_linear fuel pm h1⟩
    by_cases h3 : pm.Interpolation = GoPb.IndexMapping_CUBIC
    · exact ⟨_, _, FromProto_cubic fuel pm h3⟩
    exact ⟨_, _, FromProto_unsupported fuel pm h0 h1 h3⟩

theorem FromProto_fuel (fuel fuel' : Nat) (pm? : Option (GoPb.IndexMapping F)) :
    FromProto fuel pm? = FromProto fuel' pm? := rfl

/-! ### round trip, every `F` -/

section kind
/- one kind of mapping: its Go type `T`, its constructor `…WithGamma`, its two stored parameters, its `ToProto`, and
   its row `hP` of the decision table -/
variable {T : Type} (inj : T → IndexMapping F) (ctor : F → F → T × GoErr) (gam off : T → F)
  (toP : T → GoPb.IndexMapping F) (fuel : Nat)
  (hP : ∀ m, FromProto fuel (some (toP m)) = .ok (inj (ctor (gam m) (off m)).1, (ctor (gam m) (off m)).2))
include hP

theorem roundtrip_of (m : T) (hok : (ctor (gam m) (off m)).2 = GoErr.nil ∧
      gam (ctor (gam m) (off m)).1 = gam m ∧ off (ctor (gam m) (off m)).1 = off m) :
    ∃ m', FromProto fuel (some (toP m)) = .ok (inj m', GoErr.nil) ∧ gam m' = gam m ∧ off m' = off m :=
  ⟨_, by rw [hP, hok.1], hok.2⟩

theorem roundtrip_ctor_of (g o : F) (hok : (ctor g o).2 = GoErr.nil ∧ gam (ctor g o).1 = g ∧ off (ctor g o).1 = o) :
    FromProto fuel (some (toP (ctor g o).1)) = .ok (inj (ctor g o).1, GoErr.nil) := by
  rw [hP, hok.2.1, hok.2.2, hok.1]

end kind

/-- **logarithmic**: `FromProto (ToProto m)` is a logarithmic mapping again, error nil, same `gamma`, same
    `indexOffset`; the three derived fields are recomputed by the constructor -/
theorem log_roundtrip (fuel : Nat) (m : LogarithmicMapping F) (h : MOps.le m.gamma (MOps.ofInt 1 : F) = false) :
    ∃ m', FromProto fuel (some (LogarithmicMapping.ToProto m)) = .ok (IndexMapping.LogarithmicMapping m', GoErr.nil) ∧
      m'.gamma = m.gamma ∧ m'.indexOffset = m.indexOffset :=
  roundtrip_of .LogarithmicMapping NewLogarithmicMappingWithGamma (·.gamma) (·.indexOffset)
    LogarithmicMapping.ToProto fuel (fun _ => FromProto_none fuel _ rfl) m (ctorLog_ok _ _ h)

theorem lin_roundtrip (fuel : Nat) (m : LinearlyInterpolatedMapping F)
    (h : MOps.le m.gamma (MOps.ofInt 1 : F) = false) :
    ∃ m', FromProto fuel (some (LinearlyInterpolatedMapping.ToProto m)) =
        .ok (IndexMapping.LinearlyInterpolatedMapping m', GoErr.nil) ∧
      m'.gamma = m.gamma ∧ m'.indexOffset = m.indexOffset :=
  roundtrip_of .LinearlyInterpolatedMapping NewLinearlyInterpolatedMappingWithGamma (·.gamma) (·.indexOffset)
    LinearlyInterpolatedMapping.ToProto fuel (fun _ => FromProto_linear fuel _ rfl) m (ctorLin_ok _ _ h)

theorem cub_roundtrip (fuel : Nat) (m : CubicallyInterpolatedMapping F)
    (h : MOps.le m.gamma (MOps.ofInt 1 : F) = false) :
    ∃ m', FromProto fuel (some (CubicallyInterpolatedMapping.ToProto m)) =
        .ok (IndexMapping.CubicallyInterpolatedMapping m', GoErr.nil) ∧
      m'.gamma = m.gamma ∧ m'.indexOffset = m.indexOffset :=
  roundtrip_of .CubicallyInterpolatedMapping NewCubicallyInterpolatedMappingWithGamma (·.gamma) (·.indexOffset)
    CubicallyInterpolatedMapping.ToProto fuel (fun _ => FromProto_cubic fuel _ rfl) m (ctorCub_ok _ _ h)

/-- **exact round trip of every mapping the constructor built** (all five fields), for every `F`: the message
    carries the two arguments of the constructor, and the constructor is a function -/
theorem log_roundtrip_ctor (fuel : Nat) (g o : F) (h : MOps.le g (MOps.ofInt 1 : F) = false) :
    FromProto fuel (some (LogarithmicMapping.ToProto (NewLogarithmicMappingWithGamma g o).1)) =
      .ok (IndexMapping.LogarithmicMapping (NewLogarithmicMappingWithGamma g o).1, GoErr.nil) :=
  roundtrip_ctor_of .LogarithmicMapping NewLogarithmicMappingWithGamma (·.gamma) (·.indexOffset)
    LogarithmicMapping.ToProto fuel (fun _ => FromProto_none fuel _ rfl) g o (ctorLog_ok g o h)

theorem lin_roundtrip_ctor (fuel : Nat) (g o : F) (h : MOps.le g (MOps.ofInt 1 : F) = false) :
    FromProto fuel (some (LinearlyInterpolatedMapping.ToProto (NewLinearlyInterpolatedMappingWithGamma g o).1)) =
      .ok (IndexMapping.LinearlyInterpolatedMapping (NewLinearlyInterpolatedMappingWithGamma g o).1, GoErr.nil) :=
  roundtrip_ctor_of .LinearlyInterpolatedMapping NewLinearlyInterpolatedMappingWithGamma (·.gamma) (·.indexOffset)
    LinearlyInterpolatedMapping.ToProto fuel (fun _ => FromProto_linear fuel _ rfl) g o (ctorLin_ok g o h)

theorem cub_roundtrip_ctor (fuel : Nat) (g o : F) (h : MOps.le g (MOps.ofInt 1 : F) = false) :
    FromProto fuel (some (CubicallyInterpolatedMapping.ToProto (NewCubicallyInterpolatedMappingWithGamma g o).1)) =
      .ok (IndexMapping.CubicallyInterpolatedMapping (NewCubicallyInterpolatedMappingWithGamma g o).1, GoErr.nil) :=
  roundtrip_ctor_of .CubicallyInterpolatedMapping NewCubicallyInterpolatedMappingWithGamma (·.gamma) (·.indexOffset)
    CubicallyInterpolatedMapping.ToProto fuel (fun _ => FromProto_cubic fuel _ rfl) g o (ctorCub_ok g o h)

end generic

/-! ## Part 1 (b): over the real numbers -/

section real
open DDS.GenMapping DDS.RealMap

/-- over `ℝ` the refusal is exactly `γ ≤ 1`, for the three supported tags -/
theorem FromProto_real_err (fuel : Nat) (pm : GoPb.IndexMapping ℝ)
    (ht : pm.Interpolation = GoPb.IndexMapping_NONE ∨ pm.Interpolation = GoPb.IndexMapping_LINEAR ∨
      pm.Interpolation = GoPb.IndexMapping_CUBIC)
    (h : pm.Gamma ≤ 1) : ∃ r, FromProto fuel (some pm) = .ok (r, errGamma) :=
  FromProto_gamma_le_one fuel pm ht (by rw [gammaGuard]; exact decide_eq_true h)

/-- … and an accepted message yields a mapping with the message's parameters -/
theorem FromProto_real_ok (fuel : Nat) (γ o : ℝ) (h : 1 < γ) :
    FromProto fuel (some { Gamma := γ, IndexOffset := o, Interpolation := GoPb.IndexMapping_NONE }) =
      .ok (IndexMapping.LogarithmicMapping (toGenLog ⟨.log, γ, o⟩), GoErr.nil) ∧
    FromProto fuel (some { Gamma := γ, IndexOffset := o, Interpolation := GoPb.IndexMapping_LINEAR }) =
      .ok (IndexMapping.LinearlyInterpolatedMapping (toGenLinear ⟨.linear, γ, o⟩), GoErr.nil) ∧
    FromProto fuel (some { Gamma := γ, IndexOffset := o, Interpolation := GoPb.IndexMapping_CUBIC }) =
      .ok (IndexMapping.CubicallyInterpolatedMapping (toGenCubic ⟨.cubic, γ, o⟩), GoErr.nil) := by
  rw [FromProto_none fuel _ rfl, FromProto_linear fuel _ rfl, FromProto_cubic fuel _ rfl]
  dsimp only
  rw [newLog_withGamma γ o h, newLinear_withGamma γ o h, newCubic_withGamma γ o h]
  exact ⟨rfl, rfl, rfl⟩

example (fuel : Nat) (o : ℝ) :
    FromProto fuel (some (CubicallyInterpolatedMapping.ToProto (toGenCubic ⟨.cubic, 2, o⟩))) =
      .ok (IndexMapping.CubicallyInterpolatedMapping (toGenCubic ⟨.cubic, 2, o⟩), GoErr.nil) :=
  (FromProto_real_ok fuel 2 o (by norm_num)).2.2

example (fuel : Nat) (o : ℝ) :
    ∃ r, FromProto fuel (some { Gamma := (1 : ℝ), IndexOffset := o, Interpolation := GoPb.IndexMapping_LINEAR }) =
      .ok (r, errGamma) :=
  FromProto_real_err fuel _ (Or.inr (Or.inl rfl)) (le_refl (1 : ℝ))

end real

/-! ## Part 1 (c): over the exact float model, for every instance of the operations -/

/-- the identity of a generated mapping (the kind is the type) -/
def idLog (m : LogarithmicMapping F64) : MapId := { kind := .log, gamma := m.gamma, indexOffset := m.indexOffset }
def idLin (m : LinearlyInterpolatedMapping F64) : MapId :=
  { kind := .linear, gamma := m.gamma, indexOffset := m.indexOffset }
def idCub (m : CubicallyInterpolatedMapping F64) : MapId :=
  { kind := .cubic, gamma := m.gamma, indexOffset := m.indexOffset }

/-- the identity of a value of the interface (`none` for the nil interface value) -/
def idOf : IndexMapping F64 → Option MapId
  | .nil => none
  | .LogarithmicMapping v => some (idLog v)
  | .LinearlyInterpolatedMapping v => some (idLin v)
  | .CubicallyInterpolatedMapping v => some (idCub v)

/-- a Go `IndexMapping` message as a message of the model (floats as bit patterns, the enum as its number) -/
def pbOfGo (m : GoPb.IndexMapping F64) : Proto.PbMapping :=
  { gamma := Proto.f64bits m.Gamma, indexOffset := Proto.f64bits m.IndexOffset,
    interpolation := m.Interpolation.toNat }

/-- the Go error value of each refusal of the model's `mappingFromProto` -/
def errOf : Proto.FromErr → GoErr
  | .nilMapping => errNilMapping
  | .badInterpolation => errInterpolation
  | .badGamma => errGamma

theorem errOf_ne_nil (x : Proto.FromErr) : errOf x ≠ GoErr.nil := by cases x <;> decide

section f64
variable [MOps F64]

/-- the only thing asked of the instance: its guard `x <= 1` is the model's -/
def LeOne : Prop := ∀ x : F64, MOps.le x (MOps.ofInt 1 : F64) = F64.le x (.fin 1)

theorem log_toProto_model (m : LogarithmicMapping F64) :
    pbOfGo (LogarithmicMapping.ToProto m) = Proto.mappingToProto (idLog m) := rfl
theorem lin_toProto_model (m : LinearlyInterpolatedMapping F64) :
    pbOfGo (LinearlyInterpolatedMapping.ToProto m) = Proto.mappingToProto (idLin m) := rfl
theorem cub_toProto_model (m : CubicallyInterpolatedMapping F64) :
    pbOfGo (CubicallyInterpolatedMapping.ToProto m) = Proto.mappingToProto (idCub m) := rfl

omit [MOps F64] in
theorem model_supported (pm : GoPb.IndexMapping F64) (k : MKind)
    (hk : pm.Interpolation.toNat = Proto.interpolationOf k)
    (hg : F64.ofBits (F64.toBits pm.Gamma) = pm.Gamma)
    (ho : F64.ofBits (F64.toBits pm.IndexOffset) = pm.IndexOffset) :
    Proto.mappingFromProto (some (pbOfGo pm)) =
      if F64.le pm.Gamma (.fin 1) then .error .badGamma
      else .ok { kind := k, gamma := pm.Gamma, indexOffset := pm.IndexOffset } := by
  unfold Proto.mappingFromProto pbOfGo Proto.f64bits
  simp only [hk, MapId.kind_of_interpolation, MapId.ofNat_toBits, hg, ho]

omit [MOps F64] in
theorem model_unsupported (pm : GoPb.IndexMapping F64)
    (h0 : pm.Interpolation ≠ GoPb.IndexMapping_NONE) (h1 : pm.Interpolation ≠ GoPb.IndexMapping_LINEAR)
    (h3 : pm.Interpolation ≠ GoPb.IndexMapping_CUBIC) :
    Proto.mappingFromProto (some (pbOfGo pm)) = .error .badInterpolation := by
  have t0 : pm.Interpolation.toNat ≠ 0 := fun h => h0 (BitVec.eq_of_toNat_eq h)
  have t1 : pm.Interpolation.toNat ≠ 1 := fun h => h1 (BitVec.eq_of_toNat_eq h)
  have t3 : pm.Interpolation.toNat ≠ 3 := fun h => h3 (BitVec.eq_of_toNat_eq h)
  unfold Proto.mappingFromProto pbOfGo
  simp only [if_neg t0, if_neg t1, if_neg t3]

/-- one supported kind `k` (Go type `T`, constructor `ctor`): the constructor's answer against the model's
    `mappingFromProto` on a message with the tag of `k` -/
theorem model_of_ctor (hle : LeOne) {T : Type} (inj : T → IndexMapping F64) (ctor : F64 → F64 → T × GoErr)
    (gam off : T → F64) (k : MKind) (hid : ∀ m, idOf (inj m) = some ⟨k, gam m, off m⟩)
    (herr : ∀ g o, MOps.le g (MOps.ofInt 1 : F64) = true → (ctor g o).2 = errGamma)
    (hok : ∀ g o, MOps.le g (MOps.ofInt 1 : F64) = false →
      (ctor g o).2 = GoErr.nil ∧ gam (ctor g o).1 = g ∧ off (ctor g o).1 = o)
    (pm : GoPb.IndexMapping F64) (hk : pm.Interpolation.toNat = Proto.interpolationOf k)
    (hg : F64.ofBits (F64.toBits pm.Gamma) = pm.Gamma)
    (ho : F64.ofBits (F64.toBits pm.IndexOffset) = pm.IndexOffset) :
    match Proto.mappingFromProto (some (pbOfGo pm)) with
    | .error x => (ctor pm.Gamma pm.IndexOffset).2 = errOf x
    | .ok id => (ctor pm.Gamma pm.IndexOffset).2 = GoErr.nil ∧
        idOf (inj (ctor pm.Gamma pm.IndexOffset).1) = some id := by
  rw [model_supported pm k hk hg ho]
  cases hc : F64.le pm.Gamma (.fin 1)
  · obtain ⟨he, hg', ho'⟩ := hok pm.Gamma pm.IndexOffset (by rw [hle, hc])
    exact ⟨he, by rw [hid, hg', ho']⟩
  · exact herr _ _ (by rw [hle, hc])

/-- **the generated `FromProto` and the model's `mappingFromProto` take the same branch** on every message whose
    floats survive `toBits / ofBits`: the same refusal, or no error and the identity `(kind, gamma, indexOffset)`
    of the resulting mapping is the model's -/
theorem FromProto_model (hle : LeOne) (fuel : Nat) (pm? : Option (GoPb.IndexMapping F64))
    (hb : ∀ pm, pm? = some pm → F64.ofBits (F64.toBits pm.Gamma) = pm.Gamma ∧
      F64.ofBits (F64.toBits pm.IndexOffset) = pm.IndexOffset) :
    ∃ r e, FromProto fuel pm? = .ok (r, e) ∧
      (match Proto.mappingFromProto (pm?.map pbOfGo) with
        | .error x => e = errOf x
        | .ok id => e = GoErr.nil ∧ idOf r = some id) := by
  cases pm? with
  | none => exact ⟨_, _, FromProto_nil fuel, rfl⟩
  | some pm =>
    obtain ⟨hg, ho⟩ := hb pm rfl
    by_cases h0 : pm.Interpolation = GoPb.IndexMapping_NONE
    · exact ⟨_, _, FromProto_none fuel pm h0, model_of_ctor hle .LogarithmicMapping _ (·.gamma) (·.indexOffset) .log
        (fun _ => rfl) ctorLog_err ctorLog_ok pm (by rw [h0]; rfl) hg ho⟩
    by_cases h1 : pm.Interpolation = GoPb.IndexMapping_LINEAR
    · exact ⟨_, _, FromProto_linear fuel pm h1, model_of_ctor hle .LinearlyInterpolatedMapping _ (·.gamma)
        (·.indexOffset) .linear (fun _ => rfl) ctorLin_err ctorLin_ok pm (by rw [h1]; rfl) hg ho⟩
    by_cases h3 : pm.Interpolation = GoPb.IndexMapping_CUBIC
    · exact ⟨_, _, FromProto_cubic fuel pm h3, model_of_ctor hle .CubicallyInterpolatedMapping _ (·.gamma)
        (·.indexOffset) .cubic (fun _ => rfl) ctorCub_err ctorCub_ok pm (by rw [h3]; rfl) hg ho⟩
    · refine ⟨_, _, FromProto_unsupported fuel pm h0 h1 h3, ?_⟩
      rw [Option.map_some, model_unsupported pm h0 h1 h3]
      rfl

theorem FromProto_err_nil_iff (hle : LeOne) (fuel : Nat) (pm? : Option (GoPb.IndexMapping F64))
    (hb : ∀ pm, pm? = some pm → F64.ofBits (F64.toBits pm.Gamma) = pm.Gamma ∧
      F64.ofBits (F64.toBits pm.IndexOffset) = pm.IndexOffset) (r : IndexMapping F64) (e : GoErr)
    (h : FromProto fuel pm? = .ok (r, e)) :
    e = GoErr.nil ↔ ∃ id, Proto.mappingFromProto (pm?.map pbOfGo) = .ok id := by
  obtain ⟨r', e', h', hm⟩ := FromProto_model hle fuel pm? hb
  rw [h] at h'
  injection h' with h'
  injection h' with hr he
  subst hr; subst he
  cases hx : Proto.mappingFromProto (pm?.map pbOfGo) with
  | error x =>
    rw [hx] at hm
    simp only at hm
    constructor
    · intro hn; exact absurd (hm ▸ hn) (errOf_ne_nil x)
    · rintro ⟨id, hid⟩; cases hid
  | ok id =>
    rw [hx] at hm
    exact ⟨fun _ => ⟨id, rfl⟩, fun _ => hm.1⟩

end f64

/-! ## Part 2: the sketch level -/

section sketch
open DDS.GenSketch DDS.GenSketch7 DDS.Gen.SketchProto DDS.Gen.Sketch
open DDS.GenProtoStore (msgCalls wrap32 wrap32_of_I32 mergeWithProto_eq_fold)

/-- a binary64 bit pattern as a float -/
def bitsF (b : Nat) : F64 := F64.ofBits (UInt64.ofNat b)

theorem bitsF_f64bits (x : F64) (h : F64.ofBits (F64.toBits x) = x) : bitsF (Proto.f64bits x) = x := by
  unfold bitsF Proto.f64bits; rw [MapId.ofNat_toBits, h]

/-! ### messages of the model ↦ Go messages, and back -/

def goOfPbMapping (p : Proto.PbMapping) : GoPb.IndexMapping F64 :=
  { Gamma := bitsF p.gamma, IndexOffset := bitsF p.indexOffset, Interpolation := BitVec.ofNat 32 p.interpolation }

/-- `binCounts` in arrival order, later entries for a key win: `m[k] = v` entry by entry -/
def goOfPbStore (p : Proto.PbStore) : GoPb.Store F64 :=
  { BinCounts := p.binCounts.foldl (fun m e => mset m e.1 (bitsF e.2)) [],
    ContiguousBinCounts := p.contiguous.map bitsF,
    ContiguousBinIndexOffset := BitVec.ofInt 32 p.contiguousOffset }

def goOfPbSketch (p : Proto.PbSketch) : GoPb.DDSketch F64 :=
  { Mapping := p.mapping.map goOfPbMapping, PositiveValues := p.pos.map goOfPbStore,
    NegativeValues := p.neg.map goOfPbStore, ZeroCount := bitsF p.zero }

def pbStoreOfGo (m : GoPb.Store F64) : Proto.PbStore :=
  { binCounts := m.BinCounts.map (fun p => (p.1, Proto.f64bits p.2)),
    contiguous := m.ContiguousBinCounts.map Proto.f64bits,
    contiguousOffset := m.ContiguousBinIndexOffset.toInt }

def pbSketchOfGo (m : GoPb.DDSketch F64) : Proto.PbSketch :=
  { mapping := m.Mapping.map pbOfGo, pos := m.PositiveValues.map pbStoreOfGo,
    neg := m.NegativeValues.map pbStoreOfGo, zero := Proto.f64bits m.ZeroCount }

/-! ### the protobuf side of the two interfaces, implemented by the model -/

/-- `mapping.FromProto` through the model's `mappingFromProto` (the oracle functions of the resulting `MapEnv` are
    defaults: only the identity is in the message — the convention of `GenSketch.mapDecode`) -/
def mapFromProto (pm? : Option (GoPb.IndexMapping F64)) : MapEnv × GoErr :=
  match Proto.mappingFromProto (pm?.map pbOfGo) with
  | .ok id => ({ (default : MapEnv) with id := id }, GoErr.nil)
  | .error x => (default, errOf x)

instance instMapPbI : GoPb.MapPbI MapEnv where
  ToProto e := goOfPbMapping (Proto.mappingToProto e.id)
  FromProto := mapFromProto

/-- `Store.ToProto` through the model's `storeToProto`; where the model panics the empty message (nothing is
    claimed there) -/
instance instStorePbI : GoPb.StorePbI Store where
  ToProto st := goOfPbStore ((Proto.storeToProto st).getD {})

/-! ### … and the regenerated `mapping.FromProto` / `ToProto` agree with them -/

/-- the class method `MapPbI.FromProto` of `MapEnv` (defined from the model) and the REGENERATED `mapping.FromProto`
    return the same error, and on success the same identity — for every instance of the float operations with the
    model's guard, every message whose floats survive `toBits / ofBits` -/
theorem instance_FromProto_agrees [MOps F64] (hle : LeOne) (fuel : Nat) (pm? : Option (GoPb.IndexMapping F64))
    (hb : ∀ pm, pm? = some pm → F64.ofBits (F64.toBits pm.Gamma) = pm.Gamma ∧
      F64.ofBits (F64.toBits pm.IndexOffset) = pm.IndexOffset) :
    ∃ r, FromProto fuel pm? = .ok (r, (GoPb.MapPbI.FromProto (M := MapEnv) pm?).2) ∧
      ((GoPb.MapPbI.FromProto (M := MapEnv) pm?).2 = GoErr.nil →
        idOf r = some (GoPb.MapPbI.FromProto (M := MapEnv) pm?).1.id) := by
  obtain ⟨r, e, h, hm⟩ := FromProto_model hle fuel pm? hb
  have hI : GoPb.MapPbI.FromProto (M := MapEnv) pm? = mapFromProto pm? := rfl
  rw [hI]
  unfold mapFromProto
  cases hx : Proto.mappingFromProto (pm?.map pbOfGo) with
  | error x =>
    rw [hx] at hm
    simp only at hm
    subst hm
    exact ⟨r, h, fun hn => absurd hn (errOf_ne_nil x)⟩
  | ok id =>
    rw [hx] at hm
    obtain ⟨he, hid⟩ := hm
    subst he
    exact ⟨r, h, fun _ => hid⟩

/-- the class method `MapPbI.ToProto` of `MapEnv` and the regenerated `ToProto` of the mapping of the same
    identity: the same message (parameters surviving `toBits / ofBits`) -/
theorem instance_ToProto_agrees [MOps F64] (e : MapEnv)
    (hg : F64.ofBits (F64.toBits e.id.gamma) = e.id.gamma)
    (ho : F64.ofBits (F64.toBits e.id.indexOffset) = e.id.indexOffset) :
    (∀ m : LogarithmicMapping F64, idLog m = e.id → LogarithmicMapping.ToProto m = GoPb.MapPbI.ToProto e) ∧
    (∀ m : LinearlyInterpolatedMapping F64, idLin m = e.id →
      LinearlyInterpolatedMapping.ToProto m = GoPb.MapPbI.ToProto e) ∧
    (∀ m : CubicallyInterpolatedMapping F64, idCub m = e.id →
      CubicallyInterpolatedMapping.ToProto m = GoPb.MapPbI.ToProto e) := by
  -- the instance's message carries the identity's two floats and the tag of its kind
  have key : ∀ id : MapId, id = e.id → GoPb.MapPbI.ToProto e =
      { Gamma := id.gamma, IndexOffset := id.indexOffset,
        Interpolation := BitVec.ofNat 32 (Proto.interpolationOf id.kind) } := by
    rintro _ rfl
    show goOfPbMapping (Proto.mappingToProto e.id) = _
    rw [goOfPbMapping, Proto.mappingToProto, bitsF_f64bits _ hg, bitsF_f64bits _ ho]
  exact ⟨fun m h => (key _ h).symm, fun m h => (key _ h).symm, fun m h => (key _ h).symm⟩

/-! ### `DDSketch.ToProto` -/

/-- for ANY instances: the three sub-messages are never nil, the zero count is the field -/
theorem ToProto_fields {M S : Type} [MapI M] [StoreI S] [Inhabited M] [Inhabited S] [GoPb.MapPbI M]
    [GoPb.StorePbI S] (g : DDSketch M S) :
    DDSketch.ToProto g =
      { Mapping := some (GoPb.MapPbI.ToProto g.IndexMapping),
        PositiveValues := some (GoPb.StorePbI.ToProto g.positiveValueStore),
        NegativeValues := some (GoPb.StorePbI.ToProto g.negativeValueStore),
        ZeroCount := g.zeroCount } := rfl

theorem toProto_some {s : Sketch} {m : Proto.PbSketch} (h : Proto.toProto s = some m) :
    ∃ p n, Proto.storeToProto s.pos = some p ∧ Proto.storeToProto s.neg = some n ∧
      m = { mapping := s.mapping.map Proto.mappingToProto, pos := some p, neg := some n,
            zero := Proto.f64bits s.zero } := by
  unfold Proto.toProto at h
  cases hp : Proto.storeToProto s.pos with
  | none => rw [hp] at h; cases h
  | some p =>
    cases hn : Proto.storeToProto s.neg with
    | none => rw [hp, hn] at h; cases h
    | some n => rw [hp, hn] at h; exact ⟨p, n, rfl, rfl, (Option.some.inj h).symm⟩

/-- **`DDSketch.ToProto (toGen env s)` is the model's `Proto.toProto s`**, embedded (`s.zero` a float that survives
    `toBits / ofBits`, as every Go float does) -/
theorem ToProto_model (env : MapEnv) (s : Sketch) (hm : s.mapping = some env.id) (m : Proto.PbSketch)
    (h : Proto.toProto s = some m) (hz : F64.ofBits (F64.toBits s.zero) = s.zero) :
    DDSketch.ToProto (toGen env s) = goOfPbSketch m := by
  obtain ⟨p, n, hp, hn, rfl⟩ := toProto_some h
  have e : ∀ st : Store, GoPb.StorePbI.ToProto st = goOfPbStore ((Proto.storeToProto st).getD {}) := fun _ => rfl
  rw [ToProto_fields, toGen_mapping, toGen_pos, toGen_neg, toGen_zero, e, e, hp, hn, goOfPbSketch, hm,
    bitsF_f64bits _ hz]
  rfl

/-- whatever the zero count: the bits of the generated message's zero count are the model's -/
theorem ToProto_zero_bits (env : MapEnv) (s : Sketch) (m : Proto.PbSketch) (h : Proto.toProto s = some m) :
    Proto.f64bits (DDSketch.ToProto (toGen env s)).ZeroCount = m.zero := by
  obtain ⟨p, n, _, _, rfl⟩ := toProto_some h
  rfl

/-! ### the generic `MergeWithProto` on the model's stores is the model's `mergeWithProto` -/

/-- every float of the message survives `toBits / ofBits` (every Go float does; `F64.fin q` with `q` off the
    binary64 grid does not) -/
def StoreBitsOK (pb : GoPb.Store F64) : Prop :=
  (∀ p ∈ pb.BinCounts, F64.ofBits (F64.toBits p.2) = p.2) ∧
  ∀ c ∈ pb.ContiguousBinCounts, F64.ofBits (F64.toBits c) = c

theorem weightOf_f64bits (c : F64) (h : F64.ofBits (F64.toBits c) = c) :
    Proto.weightOf (Proto.f64bits c) = ratOfF64 c := by
  unfold Proto.weightOf Proto.f64bits
  rw [MapId.ofNat_toBits, h]
  cases c <;> rfl

/-- the sparse entries of a well-formed message are already in the model's canonical form (last entry per key, sorted) -/
theorem normBinCounts_pbStoreOfGo (pb : GoPb.Store F64) (hwf : pb.WF) :
    Proto.normBinCounts (pbStoreOfGo pb).binCounts = (pbStoreOfGo pb).binCounts :=
  Proto.normBinCounts_of_increasing _ (by
    have := hwf.2
    unfold pbStoreOfGo
    simp only [List.pairwise_map] at this ⊢
    exact this)

/-- **the projected message carries the bins of the Go message**: the model's `protoBins` of the projection are the
    rational bins of the calls the regenerated `MergeWithProto` makes under the ascending oracle -/
theorem protoBins_pbStoreOfGo (pb : GoPb.Store F64) (hwf : pb.WF) (hb : StoreBitsOK pb) :
    Lift.PB.protoBins (pbStoreOfGo pb) = GenProtoStore.msgBins MapOrder.ascending pb := by
  unfold Lift.PB.protoBins GenProtoStore.msgBins msgCalls
  rw [normBinCounts_pbStoreOfGo pb hwf, mrange_ascending_of_sorted _ hwf.2]
  unfold pbStoreOfGo
  simp only [List.map_append, List.map_map, List.zipIdx_map]
  congr 1
  · exact List.map_congr_left fun p hp => by
      simp only [Function.comp, weightOf_f64bits _ (hb.1 p hp), wrap32_of_I32 p.1 (hwf.1 p hp)]
  · exact List.map_congr_left fun cv hcv => by
      simp only [Function.comp, Prod.map, id, weightOf_f64bits _ (hb.2 cv.1 (List.fst_mem_of_mem_zipIdx hcv))]

theorem finite_of_defined (pb : GoPb.Store F64) (hwf : pb.WF) (hb : StoreBitsOK pb)
    (hd : Lift.PB.Defined (pbStoreOfGo pb)) : GenProtoStore.Finite pb := by
  have fin : ∀ c : F64, F64.ofBits (F64.toBits c) = c → (Proto.weightOf (Proto.f64bits c)).isSome = true →
      ∃ q, c = .fin q := by
    intro c hc hs
    rw [weightOf_f64bits c hc] at hs
    cases c with
    | fin q => exact ⟨q, rfl⟩
    | _ => cases hs
  obtain ⟨h1, h2⟩ := hd
  rw [normBinCounts_pbStoreOfGo pb hwf] at h1
  refine ⟨fun p hp => fin p.2 (hb.1 p hp) (h1 (p.1, Proto.f64bits p.2) (List.mem_map.2 ⟨p, hp, rfl⟩)),
    fun c hc => ?_⟩
  obtain ⟨i, hi⟩ := List.mem_iff_getElem?.1 hc
  exact fin c (hb.2 c hc) (h2 (Proto.f64bits c, i) (List.mk_mem_zipIdx_iff_getElem?.2 (by
    show (pb.ContiguousBinCounts.map Proto.f64bits)[i]? = _
    rw [List.getElem?_map, hi]; rfl)))

/-- where the model's `mergeWithProto` answers on the projected message (well formed, floats surviving
    `toBits / ofBits`), the calls of the Go message under the ASCENDING oracle, run on the model's store, give the
    model's store: both are `Lift.addList` of the same bins (`Lift.PB.mergeWithProto_addList`).  The model enumerates
    `binCounts` by ascending key; Go's `range` order is unspecified -/
theorem addAll_model (st st' : Store) (pb : GoPb.Store F64) (hwf : pb.WF) (hb : StoreBitsOK pb)
    (h : Proto.mergeWithProto st (pbStoreOfGo pb) = some st') :
    GenProtoStore.addAll st (msgCalls MapOrder.ascending pb) = st' := by
  rw [Lift.PB.mergeWithProto_addList] at h
  split at h
  · rename_i hd
    rw [protoBins_pbStoreOfGo pb hwf hb, ← Lift.addBins_finBins] at h
    rw [GenProtoStore.msgCalls_finBins _ pb (finite_of_defined pb hwf hb hd), GenProtoStore.addAll_of_addBins _ _ _ h]
  · cases h

/-- **the regenerated generic `MergeWithProto`, run on a store of the model with the ascending oracle, is the model's
    `mergeWithProto`** on the projected message, wherever the model does not answer `none` (panic / weight outside
    the model); message well formed (`GoPb.Store.WF`: keys are `int32` values, increasing), floats surviving
    `toBits / ofBits`; every fuel -/
theorem MergeWithProto_model (fuel : Nat) (st st' : Store) (pb : GoPb.Store F64) (hwf : pb.WF)
    (hb : StoreBitsOK pb) (h : Proto.mergeWithProto st (pbStoreOfGo pb) = some st') :
    Gen.StoreProto.MergeWithProto fuel MapOrder.ascending st pb = .ok st' := by
  rw [mergeWithProto_eq_fold, addAll_model st st' pb hwf hb h]

/-! ### `FromProtoWithStoreProvider`, any instances -/

section any
variable {M S : Type} [MapI M] [StoreI S] [Inhabited M] [Inhabited S] [GoPb.MapPbI M] [GoPb.StorePbI S]

/-- a store after an optional `Store` message: a nil sub-message is skipped (no error, no panic) -/
def mergeOpt (ord : MapOrder) (st : S) : Option (GoPb.Store F64) → S
  | some m => GenProtoStore.addAll st (msgCalls ord m)
  | none => st

omit [Inhabited S] [GoPb.StorePbI S] in
theorem mergeStep (fuel : Nat) (ord : MapOrder) (st : S) (m? : Option (GoPb.Store F64)) :
    (if Option.isSome m? then
        GoSem.optR m? (fun t => Res.bind (Gen.StoreProto.MergeWithProto fuel ord st t) (fun st => .ok st))
      else .ok st) = .ok (mergeOpt ord st m?) := by
  cases m? with
  | none => rfl
  | some m =>
    simp only [Option.isSome_some, if_true, optR_some, mergeWithProto_eq_fold, Res.bind_ok]
    rfl

/-- what the function returns next to an error of `mapping.FromProto` (Go: the nil pointer) -/
def nilSketch : DDSketch M S :=
  { IndexMapping := default, positiveValueStore := default, negativeValueStore := default, zeroCount := F64.fin 0 }

/-- the function, step by step: provider, positive message, provider, negative message, mapping; the only error
    is the one of `mapping.FromProto`, the only panic the provider's; no fuel is consumed -/
theorem FromProto_eq (fuel : Nat) (ord : MapOrder) (pb : GoPb.DDSketch F64) (p : Unit → Res S) :
    FromProtoWithStoreProvider (M := M) fuel ord pb p =
      Res.bind (p ()) (fun a => Res.bind (p ()) (fun b =>
        if (GoPb.MapPbI.FromProto (M := M) pb.Mapping).2 != GoErr.nil then
          .ok (nilSketch, (GoPb.MapPbI.FromProto (M := M) pb.Mapping).2)
        else
          .ok ({ IndexMapping := (GoPb.MapPbI.FromProto (M := M) pb.Mapping).1,
                 positiveValueStore := mergeOpt ord a pb.PositiveValues,
                 negativeValueStore := mergeOpt ord b pb.NegativeValues,
                 zeroCount := pb.ZeroCount }, GoErr.nil))) := by
  unfold FromProtoWithStoreProvider
  cases hp : p () with
  | ok a =>
    simp only [Res.bind_ok, mergeStep]
    rfl
  | panic => rfl
  | nofuel => rfl

end any

/-! ### nil sub-messages, a panicking provider -/

/-- **nil store sub-messages**: with `PositiveValues = nil` and `NegativeValues = nil` the generated function
    neither fails nor panics; both stores are the provider's fresh stores (any instances, any provider that
    answers, any oracle, any fuel) — the model's `fromProto` does the same (`modelSide k none = some (Store.new k)`) -/
theorem FromProto_nil_stores {M S : Type} [MapI M] [StoreI S] [Inhabited M] [Inhabited S] [GoPb.MapPbI M]
    [GoPb.StorePbI S] (fuel : Nat) (ord : MapOrder) (mp : Option (GoPb.IndexMapping F64)) (z : F64)
    (p : Unit → Res S) (a : S) (hp : p () = .ok a) (he : (GoPb.MapPbI.FromProto (M := M) mp).2 = GoErr.nil) :
    FromProtoWithStoreProvider (M := M) fuel ord
        { Mapping := mp, PositiveValues := none, NegativeValues := none, ZeroCount := z } p =
      .ok ({ IndexMapping := (GoPb.MapPbI.FromProto (M := M) mp).1, positiveValueStore := a,
             negativeValueStore := a, zeroCount := z }, GoErr.nil) := by
  rw [FromProto_eq, hp]
  simp only [Res.bind_ok, he]
  rfl

/-- **nil mapping sub-message**: the error of `mapping.FromProto`, the nil sketch — whatever the store
    sub-messages hold (they are merged first, and `MergeWithProto` cannot fail) -/
theorem FromProto_nil_mapping (fuel : Nat) (ord : MapOrder) (k : StoreKind)
    (pos neg : Option (GoPb.Store F64)) (z : F64) :
    FromProtoWithStoreProvider (M := MapEnv) fuel ord
        { Mapping := none, PositiveValues := pos, NegativeValues := neg, ZeroCount := z } (provider k) =
      .ok (nilSketch, errNilMapping) := by
  rw [FromProto_eq]
  rfl

/-- a panicking provider is the only panic -/
theorem FromProto_panic {M S : Type} [MapI M] [StoreI S] [Inhabited M] [Inhabited S] [GoPb.MapPbI M]
    [GoPb.StorePbI S] (fuel : Nat) (ord : MapOrder) (pb : GoPb.DDSketch F64) (p : Unit → Res S)
    (hp : p () = .panic) : FromProtoWithStoreProvider (M := M) fuel ord pb p = .panic := by
  rw [FromProto_eq, hp]; rfl

/-! ### `FromProtoWithStoreProvider` on the model's instances is the model's `fromProto` -/

/-- one side of the model's `fromProto`: a fresh store, the sub-message merged into it if there is one -/
def modelSide (k : StoreKind) : Option Proto.PbStore → Option Store
  | some pb => Proto.mergeWithProto (Store.new k) pb
  | none => some (Store.new k)

theorem model_fromProto_eq (k : StoreKind) (m : Proto.PbSketch) :
    Proto.fromProto k m =
      (modelSide k m.pos).bind (fun p => (modelSide k m.neg).bind (fun n =>
        match Proto.mappingFromProto m.mapping with
        | .error e => some (.error e)
        | .ok id => some (.ok { mapping := some id, pos := p, neg := n, zero := bitsF m.zero }))) := by
  unfold Proto.fromProto modelSide
  cases m.pos <;> cases m.neg <;> rfl

/-- the hypotheses on a sketch message: sub-messages well formed, floats surviving `toBits / ofBits` (nothing is
    asked of the mapping sub-message) -/
structure MsgOK (pb : GoPb.DDSketch F64) : Prop where
  pos : ∀ m, pb.PositiveValues = some m → m.WF ∧ StoreBitsOK m
  neg : ∀ m, pb.NegativeValues = some m → m.WF ∧ StoreBitsOK m
  zero : F64.ofBits (F64.toBits pb.ZeroCount) = pb.ZeroCount

theorem mergeOpt_model (k : StoreKind) (m? : Option (GoPb.Store F64))
    (hok : ∀ m, m? = some m → m.WF ∧ StoreBitsOK m) (st' : Store)
    (h : modelSide k (m?.map pbStoreOfGo) = some st') :
    mergeOpt MapOrder.ascending (Store.new k) m? = st' := by
  cases m? with
  | none => injection h
  | some m => exact addAll_model _ _ m (hok m rfl).1 (hok m rfl).2 h

/-- the mapping object `FromProto` of the instance builds for an identity -/
def envOf (id : MapId) : MapEnv := { (default : MapEnv) with id := id }

/-- **`FromProtoWithStoreProvider` (generated, over the model's instances, provider of kind `k`, ascending oracle)
    is the model's `Proto.fromProto k`** on the projected message, for every fuel:
      model `none` (a store panics / a weight is not finite): nothing claimed;
      model refusal `x` (nil mapping, unsupported interpolation, `gamma ≤ 1`): the nil sketch and the error `errOf x`
        — AFTER both stores have been built, as in Go;
      model `s`: exactly `toGen (envOf id) s`, error nil.
    A nil `PositiveValues` / `NegativeValues` is NOT an error and not a panic, on both sides: the store stays empty. -/
theorem FromProto_sketch_model (fuel : Nat) (k : StoreKind) (pb : GoPb.DDSketch F64) (hok : MsgOK pb) :
    match Proto.fromProto k (pbSketchOfGo pb) with
    | none => True
    | some (.error x) =>
        FromProtoWithStoreProvider (M := MapEnv) fuel MapOrder.ascending pb (provider k) = .ok (nilSketch, errOf x)
    | some (.ok s) => ∃ id, s.mapping = some id ∧
        FromProtoWithStoreProvider (M := MapEnv) fuel MapOrder.ascending pb (provider k) =
          .ok (toGen (envOf id) s, GoErr.nil) := by
  -- the generated side, the provider's two fresh stores filled in
  have hgen : FromProtoWithStoreProvider (M := MapEnv) fuel MapOrder.ascending pb (provider k) = _ :=
    FromProto_eq fuel MapOrder.ascending pb (provider k)
  rw [model_fromProto_eq]
  cases hp : modelSide k (pbSketchOfGo pb).pos with
  | none => trivial
  | some p =>
    cases hn : modelSide k (pbSketchOfGo pb).neg with
    | none => trivial
    | some n =>
      rw [show provider k () = .ok (Store.new k) from rfl, Res.bind_ok, Res.bind_ok,
        mergeOpt_model k _ hok.pos p hp, mergeOpt_model k _ hok.neg n hn,
        show GoPb.MapPbI.FromProto (M := MapEnv) pb.Mapping = mapFromProto pb.Mapping from rfl, mapFromProto] at hgen
      rw [Option.bind_some, Option.bind_some, show (pbSketchOfGo pb).mapping = pb.Mapping.map pbOfGo from rfl]
      cases hmf : Proto.mappingFromProto (pb.Mapping.map pbOfGo) with
      | error x =>
        rw [hmf] at hgen
        exact hgen.trans (if_pos (bne_iff_ne.2 (errOf_ne_nil x)))
      | ok id =>
        rw [hmf] at hgen
        refine ⟨id, rfl, hgen.trans ?_⟩
        rw [show bitsF (pbSketchOfGo pb).zero = pb.ZeroCount from bitsF_f64bits _ hok.zero]
        rfl

/-! ### the hypothesis `LeOne` is satisfiable -/

/-- an instance of the operations with the model's comparison (the functions that play no role here are
    placeholders) -/
@[reducible] def witnessOps : MOps F64 where
  add := F64.add
  sub := F64.sub
  mul := F64.mul
  div := F64.div
  neg := F64.neg
  ofInt n := .fin n
  ofRat q := .fin q
  lt := F64.lt
  le := F64.le
  log := id
  exp := id
  log2 := id
  exp2 := id
  pow a _ := a
  cbrt := id
  sqrt := id
  floor := id
  trunc _ := 0
  exponentOf := id
  significandPlusOne := id
  buildFloat _ x := x
  ln2 := .fin 1
  expOverflow := .fin 1
  minNormal := .fin 1

example : @LeOne witnessOps := fun _ => rfl

/-! ### a run through the `.ok` branch -/

/-- a message with a cubic mapping of `gamma = 2`, no store sub-messages -/
def exMsg : GoPb.DDSketch F64 :=
  { Mapping := some { Gamma := .fin 2, IndexOffset := .fin 0, Interpolation := GoPb.IndexMapping_CUBIC },
    PositiveValues := none, NegativeValues := none, ZeroCount := .fin 0 }

def exSketch : Sketch := { mapping := some ⟨.cubic, .fin 2, .fin 0⟩, pos := .sp [], neg := .sp [], zero := .fin 0 }

theorem bits_two : F64.ofBits (F64.toBits (.fin 2)) = .fin 2 := F64.toBits_ofBits_rep 2 (by decide +kernel)
theorem bits_zero : F64.ofBits (F64.toBits (.fin 0)) = .fin 0 := F64.toBits_ofBits_rep 0 (by decide +kernel)

theorem exMsg_ok : MsgOK exMsg := ⟨fun _ h => (by cases h), fun _ h => (by cases h), bits_zero⟩

theorem exMsg_model : Proto.fromProto .sparse (pbSketchOfGo exMsg) = some (.ok exSketch) := by
  rw [model_fromProto_eq]
  have hm : Proto.mappingFromProto (pbSketchOfGo exMsg).mapping = .ok ⟨.cubic, .fin 2, .fin 0⟩ := by
    show Proto.mappingFromProto (some (pbOfGo _)) = _
    rw [model_supported { Gamma := .fin 2, IndexOffset := .fin 0, Interpolation := GoPb.IndexMapping_CUBIC } .cubic rfl
      bits_two bits_zero]
    show (if F64.le (.fin 2) (.fin 1) = true then _ else _) = _
    rw [F64.le_fin]
    rfl
  have hz : bitsF (pbSketchOfGo exMsg).zero = .fin 0 := bitsF_f64bits _ bits_zero
  rw [hm, hz]
  rfl

/-- the generated function on that message, for every fuel: the model's sketch -/
theorem exMsg_run (fuel : Nat) :
    FromProtoWithStoreProvider (M := MapEnv) fuel MapOrder.ascending exMsg (provider .sparse) =
      .ok (toGen (envOf ⟨.cubic, .fin 2, .fin 0⟩) exSketch, GoErr.nil) := by
  have := FromProto_sketch_model fuel .sparse exMsg exMsg_ok
  rw [exMsg_model] at this
  obtain ⟨id, hid, h⟩ := this
  injection hid with hid
  subst hid
  exact h

end sketch

end DDS.GenProtoSketch
