/-
  DDS.Proofs.GenSketch — the REGENERATED sketch-level code (`DDS/Generated/CodeSketch.lean`,
  translated from `/repo/ddsketch/ddsketch.go` on every run: `DDSketch` and
  `DDSketchWithExactSummaryStatistics`, generic over the Go interfaces `mapping.IndexMapping` and
  `store.Store`) equals the HAND-WRITTEN model `DDS.Sketch` / `DDS.XSketch`
  (`DDS/Model/Sketch.lean`), method by method, for all inputs.

  How the two are tied together
  * `instance : MapI MapEnv`   — the interface `mapping.IndexMapping` is implemented by the model's
    mapping oracle `MapEnv`, field by field; `Equals a b := a.id.equals b.id` (the model's
    `MapId.equals`, i.e. what `Sketch.mappingEquals` computes on `some a.id`, `some b.id`).
  * `instance : StoreI Store`  — the interface `store.Store` is implemented by the model's stores.
    The model's store operations return `Option` (`none` = the Go code would panic); the class
    methods must be total, so a panicking operation falls back to the unchanged receiver
    (`.getD st`).  Every equivalence below that goes through such a method is stated against the
    model's result: where the model says `none` (panic / outside the model) NOTHING is claimed about
    the generated code, where it says `some …` the generated code returns exactly that.  The
    no-panic side is what the refinement theorems (`DDS/Proofs/Lift.lean`: `good_add`, `good_merge`,
    `good_reweight`) discharge.
      - `MaxIndex` / `MinIndex` of an empty store: index `0` with `errUndefinedMaxIndex` /
        `errUndefinedMinIndex` (store.go:29-30; every Go store returns `0, err…`);
      - `Reweight w`: error ≠ nil exactly when `w ≤ 0` (IEEE; the three Go stores test `w <= 0`).
  * `toGen env s` — the generated structure for the model sketch `s` with mapping object `env`;
    `ofGen` goes back (`mapping := some env.id`).  `toGenX` / `ofGenX` for the exact-summary variant
    (through `GenStat.ofModel` / `GenStat.toModel`).
  * results: `QRel` (value, error) and `StepRel` / `XStepRel` (new receiver, error) relate the
    model's `Except SkErr …` / `Option (Except SkErr …)` to Go's pairs.  `goErr?` gives the Go error
    value of each API refusal of the model.  `StepRel` INCLUDES THE FRAME CONDITION: on a refusal
    the returned receiver is the old one, unchanged.

  THIS FILE: the instances, the two structures and the result relations.  The method-by-method
  theorems (`AddWithCount_rel`, `GetValueAtQuantile_rel`, `MergeWith_rel`, `Reweight_rel`, …,
  `XAddWithCount_rel`, …) are in `DDS/Proofs/GenSketch2.lean`; property-level corollaries on the
  generated code in `DDS/Props/GenSketchProps.lean`.

  ERROR IDENTITY of `GetMaxValue` / `GetMinValue` on an empty sketch: the Go code hands back the
  store's `errUndefinedMinIndex`, not `errEmptySketch`; the model has the single refusal `.empty`.
  `GenSketch2.ExtRel` therefore names the store's error (values and nil-ness agree with `QRel`).

  DISCREPANCY found (model artefact, see `GenSketch2.exact_addWithCount_zero_discrepancy`): the model's
  `XSketch.addWithCount` with a zero count returns the receiver unchanged, whereas the Go code has
  already run the plain `AddWithCount(value, 0)`, which executes `zeroCount += 0` for a value in
  the zero bucket.  On a real float64 `z + 0 = z`; the model's `F64` also contains rationals that
  are not on the binary64 grid, and for those `z + 0` rounds.  The exact-variant theorem is stated
  under `F64.add zero 0 = zero` (true for every float64).

  Core Lean only.
-/
import DDS.Generated.CodeSketch
import DDS.Proofs.GenStat
import DDS.Proofs.SketchDefs
import DDS.Proofs.F64Cmp

namespace DDS.GenSketch

open DDS DDS.GoSem DDS.Gen.Sketch

/-! ### Go error values -/

/-- `errUndefinedMinIndex` (store/store.go:29) -/
def errUndefinedMinIndex : GoErr := GoErr.named "MinIndex of empty store is undefined"
/-- `errUndefinedMaxIndex` (store/store.go:30) -/
def errUndefinedMaxIndex : GoErr := GoErr.named "MaxIndex of empty store is undefined"
/-- the error of the three stores' `Reweight` (dense_store.go:266, sparse.go:165,
    buffered_paginated.go:580) -/
def errStoreReweight : GoErr := GoErr.named "can't reweight by a negative factor"
/-- `GetValueAtQuantile` (ddsketch.go:168) -/
def errBadQuantile : GoErr := GoErr.named "The quantile must be between 0 and 1."
/-- `MergeWith` (ddsketch.go:308) -/
def errMismatch : GoErr := GoErr.named "Cannot merge sketches with different index mappings."
/-- `Reweight` (ddsketch.go:531) -/
def errReweight : GoErr := GoErr.named "can't reweight by a negative factor"
/-- `NewDDSketchWithExactSummaryStatisticsFromData` (ddsketch.go:576) -/
def errStatsMismatch : GoErr := GoErr.named "sketch and summary statistics do not match"

/-- the Go error value of each API refusal of the model (`none`: a decoding error, not produced by
    any method of this file) -/
def goErr? : SkErr → Option GoErr
  | .negativeCount => some ErrNegativeCount
  | .tooHigh => some ErrUntrackableTooHigh
  | .tooLow => some ErrUntrackableTooLow
  | .nan => some ErrUntrackableNaN
  | .badQuantile => some errBadQuantile
  | .empty => some errEmptySketch
  | .mismatch => some errMismatch
  | .nonPositiveFactor => some errReweight
  | _ => none

theorem goErr?_ne_nil {e : SkErr} {g : GoErr} (h : goErr? e = some g) : g ≠ GoErr.nil := by
  cases e <;> cases h <;> decide

/-! ### the mapping interface, implemented by the oracle -/

instance : Inhabited MapEnv :=
  ⟨{ id := default, minIndexable := default, maxIndexable := default, relAcc := default,
     value := fun _ => default, lowerBound := fun _ => default, index := fun _ => default }⟩

/-- Go error values of `mapping.Decode` and of the constructors it calls -/
def errUnknownMapping : GoErr := GoErr.named "unknown mapping"
def errBadGamma : GoErr := GoErr.named "Gamma must be greater than 1."

/-- `mapping.Decode` through the model: the two little-endian floats after a mapping flag and `MapId.ofBlock`
    (the oracle functions of the resulting `MapEnv` are defaults: only its identity is decoded) -/
def mapDecode (b : List (BitVec 8)) (flag : Gen.Encoding.Flag) : List (BitVec 8) × MapEnv × GoErr :=
  let sub := Wire.flagSub flag.byte.toNat
  let known := sub = Consts.subFlagIndexMappingBaseLogarithmic ∨ sub = Consts.subFlagIndexMappingBaseLinear ∨
    sub = Consts.subFlagIndexMappingBaseCubic
  if ¬ known then (b, default, errUnknownMapping)
  else match Codec.decF64LE (b.map BitVec.toNat) with
    | .error _ => (b, default, GoErr.eof)
    | .ok (g, bs1) =>
      match Codec.decF64LE bs1 with
      | .error _ => (bs1.map (BitVec.ofNat 8), default, GoErr.eof)
      | .ok (o, bs2) =>
        match MapId.ofBlock sub g o with
        | .ok id => (bs2.map (BitVec.ofNat 8), { (default : MapEnv) with id := id }, GoErr.nil)
        | .error .unknownMapping => (bs2.map (BitVec.ofNat 8), default, errUnknownMapping)
        | .error .gammaTooSmall => (bs2.map (BitVec.ofNat 8), default, errBadGamma)

instance : MapI MapEnv where
  Equals a b := a.id.equals b.id
  Index e := e.index
  Value e := e.value
  LowerBound e := e.lowerBound
  RelativeAccuracy e := e.relAcc
  MinIndexableValue e := e.minIndexable
  MaxIndexableValue e := e.maxIndexable
  Encode e b := b ++ (Wire.encBlock e.id.toBlock).map (BitVec.ofNat 8)
  isNil _ := false
  Decode := mapDecode

@[simp] theorem map_equals (a b : MapEnv) : MapI.Equals a b = a.id.equals b.id := rfl
@[simp] theorem map_index (e : MapEnv) (v : F64) : MapI.Index e v = e.index v := rfl
@[simp] theorem map_value (e : MapEnv) (i : Int) : MapI.Value e i = e.value i := rfl
@[simp] theorem map_lowerBound (e : MapEnv) (i : Int) : MapI.LowerBound e i = e.lowerBound i := rfl
@[simp] theorem map_relAcc (e : MapEnv) : MapI.RelativeAccuracy e = e.relAcc := rfl
@[simp] theorem map_min (e : MapEnv) : MapI.MinIndexableValue e = e.minIndexable := rfl
@[simp] theorem map_max (e : MapEnv) : MapI.MaxIndexableValue e = e.maxIndexable := rfl

theorem map_equals_mappingEquals (a b : MapEnv) :
    MapI.Equals a b = Sketch.mappingEquals (some a.id) (some b.id) := rfl

/-! ### the store interface, implemented by the model's stores -/

/-- `AddWithCount(i, c)` with a float count; falls back to the receiver where the model panics or
    the count is not finite -/
def storeAddF (st : Store) (i : Int) (c : F64) : Store := (Sketch.addF st i c).getD st

def storeMaxIndex (st : Store) : Int × GoErr :=
  match st.maxIndex? with
  | some k => (k, GoErr.nil)
  | none => (0, errUndefinedMaxIndex)

def storeMinIndex (st : Store) : Int × GoErr :=
  match st.minIndex? with
  | some k => (k, GoErr.nil)
  | none => (0, errUndefinedMinIndex)

/-- `Reweight(w)`: refused exactly when `w <= 0`; otherwise the model's result (receiver unchanged
    where the model panics or the factor is not finite) -/
def storeReweight (st : Store) (w : F64) : Store × GoErr :=
  if F64.le w (.fin 0) then (st, errStoreReweight)
  else match w with
    | .fin q =>
      match st.reweight q with
      | some (.ok t) => (t, GoErr.nil)
      | _ => (st, GoErr.nil)
    | _ => (st, GoErr.nil)

/-- the side a store flag type stands for -/
def flagSide (t : Gen.Encoding.FlagType) : Side :=
  if t == Gen.Encoding.FlagTypePositiveStore then .pos else .neg

theorem flagSide_pos : flagSide Gen.Encoding.FlagTypePositiveStore = .pos := by decide
theorem flagSide_neg : flagSide Gen.Encoding.FlagTypeNegativeStore = .neg := by decide

/-- `Store.Encode` through the model's `Sketch.encodeStore` (blocks) and `Wire.encBlocks` (bytes); a panicking
    model operation leaves store and buffer unchanged (nothing is claimed there) -/
def storeEncode (st : Store) (b : List (BitVec 8)) (t : Gen.Encoding.FlagType) : Store × List (BitVec 8) :=
  match Sketch.encodeStore st (flagSide t) with
  | some (st', blocks) => (st', b ++ (Wire.encBlocks blocks).map (BitVec.ofNat 8))
  | none => (st, b)

/-- the Go error value of each decoding error of the model (`io.EOF`, the store's "unknown bin encoding",
    `errUnknownFlag` of the plain fallback, the errors of `mapping.Decode` and of the constructors it calls,
    the two `errors.New` of `decodeAndMergeWith`) -/
def decErr : SkErr → GoErr
  | .eof => GoErr.eof
  | .unknownBinEncoding => GoErr.named "unknown bin encoding"
  | .unknownFlag => errUnknownFlag
  | .unknownMapping => errUnknownMapping
  | .badGamma => errBadGamma
  | .mismatch => GoErr.named "index mapping mismatch"
  | .missingMapping => GoErr.named "missing index mapping"
  | _ => GoErr.named "decoding error"

/-- `Store.DecodeAndMergeWith` through the model's `Sketch.decodeStore`; on an error the store has absorbed
    the bins read so far in Go, which the model does not expose: the instance returns the unchanged store (the
    sketch-level decoder returns as soon as it sees the error).  The `SubFlag` the sketch decoder hands over is
    `flag.SubFlag()`, which keeps the sub-flag bits IN PLACE (`flag & 0xFC`); the model's `decodeStore` takes
    the sub-flag number `Wire.flagSub` (shifted down). -/
def storeDecode (st : Store) (b : List (BitVec 8)) (sub : Gen.Encoding.SubFlag) : Store × List (BitVec 8) × GoErr :=
  match Sketch.decodeStore st (Wire.flagSub sub.byte.toNat) (b.map BitVec.toNat) with
  | some (.ok (st', rest)) => (st', rest.map (BitVec.ofNat 8), GoErr.nil)
  | some (.error e) => (st, b, decErr e)
  | none => (st, b, GoErr.nil)

instance : StoreI Store where
  Add st i := (st.addWithCount i 1).getD st
  AddWithCount := storeAddF
  Copy st := st
  Clear st := st.clear
  IsEmpty st := st.isEmpty
  MaxIndex := storeMaxIndex
  MinIndex := storeMinIndex
  TotalCount st := .fin st.totalCount
  KeyAtRank := Sketch.storeKeyAtRank
  MergeWith st o := (st.mergeWith o).getD st
  Reweight := storeReweight
  Encode := storeEncode
  DecodeAndMergeWith := storeDecode
  ForEachList st := (st.binsList.getD []).map (fun p => (p.1, F64.fin p.2))

@[simp] theorem store_add (st : Store) (i : Int) : StoreI.Add st i = (st.addWithCount i 1).getD st := rfl
@[simp] theorem store_addWithCount (st : Store) (i : Int) (c : F64) :
    StoreI.AddWithCount st i c = storeAddF st i c := rfl
@[simp] theorem store_copy (st : Store) : StoreI.Copy st = st := rfl
@[simp] theorem store_clear (st : Store) : StoreI.Clear st = st.clear := rfl
@[simp] theorem store_isEmpty (st : Store) : StoreI.IsEmpty st = st.isEmpty := rfl
@[simp] theorem store_maxIndex (st : Store) : StoreI.MaxIndex st = storeMaxIndex st := rfl
@[simp] theorem store_minIndex (st : Store) : StoreI.MinIndex st = storeMinIndex st := rfl
@[simp] theorem store_totalCount (st : Store) : StoreI.TotalCount st = .fin st.totalCount := rfl
@[simp] theorem store_keyAtRank (st : Store) (r : F64) :
    StoreI.KeyAtRank st r = Sketch.storeKeyAtRank st r := rfl
@[simp] theorem store_mergeWith (st o : Store) : StoreI.MergeWith st o = (st.mergeWith o).getD st := rfl
@[simp] theorem store_reweight (st : Store) (w : F64) : StoreI.Reweight st w = storeReweight st w := rfl

/-! #### the instance is the model wherever the model does not panic -/

theorem store_addF_some (st st' : Store) (i : Int) (c : F64)
    (h : Sketch.addF st i c = some st') : StoreI.AddWithCount st i c = st' := by
  simp [storeAddF, h]

theorem store_addWithCount_some (st st' : Store) (i : Int) (w : Rat)
    (h : st.addWithCount i w = some st') : StoreI.AddWithCount st i (.fin w) = st' :=
  store_addF_some st st' i (.fin w) h

theorem store_add_some (st st' : Store) (i : Int)
    (h : st.addWithCount i 1 = some st') : StoreI.Add st i = st' := by
  simp [h]

theorem store_mergeWith_some (st o st' : Store) (h : st.mergeWith o = some st') :
    StoreI.MergeWith st o = st' := by
  simp [h]

theorem store_maxIndex_some (st : Store) (k : Int) (h : st.maxIndex? = some k) :
    StoreI.MaxIndex st = (k, GoErr.nil) := by
  simp [storeMaxIndex, h]

theorem store_maxIndex_none (st : Store) (h : st.maxIndex? = none) :
    StoreI.MaxIndex st = (0, errUndefinedMaxIndex) := by
  simp [storeMaxIndex, h]

theorem store_minIndex_some (st : Store) (k : Int) (h : st.minIndex? = some k) :
    StoreI.MinIndex st = (k, GoErr.nil) := by
  simp [storeMinIndex, h]

theorem store_minIndex_none (st : Store) (h : st.minIndex? = none) :
    StoreI.MinIndex st = (0, errUndefinedMinIndex) := by
  simp [storeMinIndex, h]

theorem store_maxIndex_err_iff (st : Store) :
    (StoreI.MaxIndex st).2 ≠ GoErr.nil ↔ st.maxIndex? = none := by
  cases h : st.maxIndex? <;> simp [storeMaxIndex, h, errUndefinedMaxIndex]

theorem store_minIndex_err_iff (st : Store) :
    (StoreI.MinIndex st).2 ≠ GoErr.nil ↔ st.minIndex? = none := by
  cases h : st.minIndex? <;> simp [storeMinIndex, h, errUndefinedMinIndex]

theorem store_reweight_refused (st : Store) (w : F64) (h : F64.le w (.fin 0) = true) :
    StoreI.Reweight st w = (st, errStoreReweight) :=
  if_pos h

theorem store_reweight_err_iff (st : Store) (w : F64) :
    (StoreI.Reweight st w).2 ≠ GoErr.nil ↔ F64.le w (.fin 0) = true := by
  show (storeReweight st w).2 ≠ _ ↔ _
  unfold storeReweight
  split
  next h => simp [h, errStoreReweight]
  next h =>
    repeat' split
    all_goals simpa using h

theorem reweight_pos_ok {st : Store} {q : Rat} {r : Except Store.RwErr Store} (hq : ¬ q ≤ 0)
    (h : st.reweight q = some r) : ∃ t, r = .ok t := by
  unfold Store.reweight at h
  rw [if_neg hq] at h
  split at h
  · exact ⟨_, (Option.some.inj h).symm⟩
  · cases st with
    | sp c => exact ⟨_, (Option.some.inj h).symm⟩
    | _ => obtain ⟨t, _, rfl⟩ := Option.map_eq_some_iff.1 h; exact ⟨_, rfl⟩

theorem store_reweight_error (st : Store) (q : Rat) (e : Store.RwErr)
    (h : st.reweight q = some (.error e)) : StoreI.Reweight st (.fin q) = (st, errStoreReweight) := by
  by_cases hq : q ≤ 0
  · exact store_reweight_refused st _ (by rw [F64.le_fin, decide_eq_true hq])
  · obtain ⟨t, ht⟩ := reweight_pos_ok hq h
    cases ht

theorem store_reweight_ok (st t : Store) (q : Rat) (h : st.reweight q = some (.ok t)) :
    StoreI.Reweight st (.fin q) = (t, GoErr.nil) := by
  have h0 : ¬ q ≤ 0 := by
    intro h0
    simp [Store.reweight, h0] at h
  simp [storeReweight, F64.le_fin, h0, h]

/-! ### the two structures -/

/-- the generated `DDSketch` of a model sketch, with the mapping object `env` -/
def toGen (env : MapEnv) (s : Sketch) : DDSketch MapEnv Store :=
  { IndexMapping := env, positiveValueStore := s.pos, negativeValueStore := s.neg, zeroCount := s.zero }

/-- … and back: the identity of the mapping object is the sketch's mapping -/
def ofGen (g : DDSketch MapEnv Store) : Sketch :=
  { mapping := some g.IndexMapping.id, pos := g.positiveValueStore, neg := g.negativeValueStore,
    zero := g.zeroCount }

@[simp] theorem toGen_ofGen (g : DDSketch MapEnv Store) : toGen g.IndexMapping (ofGen g) = g := rfl

theorem ofGen_toGen (env : MapEnv) (s : Sketch) (h : s.mapping = some env.id) :
    ofGen (toGen env s) = s := by
  cases s; simp only [ofGen, toGen] at *; simp [h]

@[simp] theorem ofGen_mapping (g : DDSketch MapEnv Store) : (ofGen g).mapping = some g.IndexMapping.id := rfl
@[simp] theorem toGen_mapping (env : MapEnv) (s : Sketch) : (toGen env s).IndexMapping = env := rfl
@[simp] theorem toGen_pos (env : MapEnv) (s : Sketch) : (toGen env s).positiveValueStore = s.pos := rfl
@[simp] theorem toGen_neg (env : MapEnv) (s : Sketch) : (toGen env s).negativeValueStore = s.neg := rfl
@[simp] theorem toGen_zero (env : MapEnv) (s : Sketch) : (toGen env s).zeroCount = s.zero := rfl

theorem toGen_injective (env : MapEnv) (s s' : Sketch) (hm : s.mapping = s'.mapping)
    (h : toGen env s = toGen env s') : s = s' := by
  cases s; cases s'
  simp only [toGen, DDSketch.mk.injEq] at h
  simp only [] at hm
  simp [h, hm]

def toGenX (env : MapEnv) (x : XSketch) : DDSketchWithExactSummaryStatistics MapEnv Store :=
  { DDSketch := toGen env x.sk, summaryStatistics := GenStat.ofModel x.st }

def ofGenX (g : DDSketchWithExactSummaryStatistics MapEnv Store) : XSketch :=
  { sk := ofGen g.DDSketch, st := GenStat.toModel g.summaryStatistics }

@[simp] theorem toGenX_ofGenX (g : DDSketchWithExactSummaryStatistics MapEnv Store) :
    toGenX g.DDSketch.IndexMapping (ofGenX g) = g := rfl

theorem ofGenX_toGenX (env : MapEnv) (x : XSketch) (h : x.sk.mapping = some env.id) :
    ofGenX (toGenX env x) = x := by
  cases x with | mk sk st =>
  simp only [ofGenX, toGenX, GenStat.toModel_ofModel]
  rw [ofGen_toGen env sk h]

@[simp] theorem toGenX_sk (env : MapEnv) (x : XSketch) : (toGenX env x).DDSketch = toGen env x.sk := rfl
@[simp] theorem toGenX_st (env : MapEnv) (x : XSketch) :
    (toGenX env x).summaryStatistics = GenStat.ofModel x.st := rfl

/-! ### result relations -/

/-- model `Except SkErr F64` vs Go `(float64, error)`: a value comes with a nil error; a refusal
    comes with NaN and the documented error -/
def QRel : Except SkErr F64 → F64 × GoErr → Prop
  | .ok v, r => r = (v, GoErr.nil)
  | .error e, r => r.1 = F64.nan ∧ goErr? e = some r.2

/-- model `Option (Except SkErr Sketch)` vs Go (new receiver, error), for a call on `toGen env s`:
    `none` (panic / outside the model): nothing claimed; a refusal: THE RECEIVER IS UNCHANGED and the
    error is the documented one; success: the new receiver is the model's, error nil -/
def StepRel (env : MapEnv) (s : Sketch) :
    Option (Except SkErr Sketch) → DDSketch MapEnv Store × GoErr → Prop
  | none, _ => True
  | some (.error e), r => r.1 = toGen env s ∧ goErr? e = some r.2
  | some (.ok s'), r => r = (toGen env s', GoErr.nil)

def XStepRel (env : MapEnv) (x : XSketch) :
    Option (Except SkErr XSketch) → DDSketchWithExactSummaryStatistics MapEnv Store × GoErr → Prop
  | none, _ => True
  | some (.error e), r => r.1 = toGenX env x ∧ goErr? e = some r.2
  | some (.ok x'), r => r = (toGenX env x', GoErr.nil)

theorem QRel.ok {m : Except SkErr F64} {r : F64 × GoErr} {v : F64} (h : QRel m r) (hm : m = .ok v) :
    r = (v, GoErr.nil) := by subst hm; exact h

theorem QRel.error {m : Except SkErr F64} {r : F64 × GoErr} {e : SkErr} (h : QRel m r)
    (hm : m = .error e) : ∃ g, goErr? e = some g ∧ r = (F64.nan, g) := by
  subst hm; exact ⟨r.2, h.2, Prod.ext h.1 rfl⟩

theorem QRel.nil_iff {m : Except SkErr F64} {r : F64 × GoErr} (h : QRel m r) :
    r.2 = GoErr.nil ↔ ∃ v, m = .ok v := by
  cases m with
  | ok v => simp only [QRel] at h; subst h; simp
  | error e => simp only [QRel] at h; simp only [reduceCtorEq, exists_false, iff_false]; exact goErr?_ne_nil h.2

theorem StepRel.ok {env : MapEnv} {s s' : Sketch} {m : Option (Except SkErr Sketch)}
    {r : DDSketch MapEnv Store × GoErr} (h : StepRel env s m r) (hm : m = some (.ok s')) :
    r = (toGen env s', GoErr.nil) := by subst hm; exact h

theorem StepRel.error {env : MapEnv} {s : Sketch} {e : SkErr} {m : Option (Except SkErr Sketch)}
    {r : DDSketch MapEnv Store × GoErr} (h : StepRel env s m r) (hm : m = some (.error e)) :
    ∃ g, goErr? e = some g ∧ r = (toGen env s, g) := by
  subst hm; exact ⟨r.2, h.2, Prod.ext h.1 rfl⟩

theorem XStepRel.ok {env : MapEnv} {x x' : XSketch} {m : Option (Except SkErr XSketch)}
    {r : DDSketchWithExactSummaryStatistics MapEnv Store × GoErr} (h : XStepRel env x m r)
    (hm : m = some (.ok x')) : r = (toGenX env x', GoErr.nil) := by subst hm; exact h

theorem XStepRel.error {env : MapEnv} {x : XSketch} {e : SkErr} {m : Option (Except SkErr XSketch)}
    {r : DDSketchWithExactSummaryStatistics MapEnv Store × GoErr} (h : XStepRel env x m r)
    (hm : m = some (.error e)) : ∃ g, goErr? e = some g ∧ r = (toGenX env x, g) := by
  subst hm; exact ⟨r.2, h.2, Prod.ext h.1 rfl⟩

/-- the shape of every mutating method of the exact variant: the plain method `r` on the embedded sketch first, and
    the new statistics `st` only if that returned a nil error; a refusal leaves the whole receiver unchanged -/
theorem StepRel.lift {env : MapEnv} {x : XSketch} {m : Option (Except SkErr Sketch)}
    {r : DDSketch MapEnv Store × GoErr} (h : StepRel env x.sk m r) (st : Summary) :
    XStepRel env x
      (match (generalizing := false) m with
        | none => none
        | some (.error e) => some (.error e)
        | some (.ok sk) => some (.ok { sk := sk, st := st }))
      (if r.2 != GoErr.nil then ({ toGenX env x with DDSketch := r.1 }, r.2)
        else ({ DDSketch := r.1, summaryStatistics := GenStat.ofModel st }, GoErr.nil)) := by
  cases m with
  | none => trivial
  | some m =>
    cases m with
    | error e =>
      obtain ⟨g, hg, rfl⟩ := h.error rfl
      rw [if_pos (by simpa using goErr?_ne_nil hg)]
      exact ⟨rfl, hg⟩
    | ok sk =>
      rw [h.ok rfl]
      rfl

end DDS.GenSketch
