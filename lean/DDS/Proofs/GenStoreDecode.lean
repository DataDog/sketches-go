/-
  DDS.Proofs.GenStoreDecode — the REGENERATED generic bin decoder of the stores
  (`DDS/Generated/CodeStoreDecode.lean`, translated from `store.DecodeAndMergeWith`,
  /repo/ddsketch/store/store.go:90, on every run; three loops over the regenerated codecs of
  `DDS/Generated/CodeEncoding.lean`) agrees with the HAND-WRITTEN model `DDS.Sketch.decodeStore`
  (`DDS/Model/Sketch.lean`), for all inputs, with explicit fuel.

  Conventions (as in `GenEncoding`): the generated code works on `b : List (BitVec 8)`, the model on
  `nb b : List Nat`; a model remainder `rest` comes back as `bn rest`.  The model's sub-flag number `sub`
  (`Wire.flagSub` of the flag byte, `< 64`) is Go's `subflag sub = newSubFlag sub`
  (`Flag_SubFlag_subflag`: `f.SubFlag() = subflag (flagSub f)`).  The store is the model's `Store` through
  `instance : StoreI Store` of `GenSketch`.

  The decoder never looks at the store: which calls it makes, and how it ends, depends on the bytes alone.  The model
  side of that is `Sketch.parseBins` (`DDS/Proofs/StoreParse.lean`: the bins a payload parses to and the outcome of
  the parse, `decodeStore st sub bs = finish (addBins st bins) outcome`); the code side is `decode_run` here: for EVERY
  implementation `S` of `store.Store` the generated decoder returns `replay s (goCalls sub bins)` — `Add(i)` /
  `AddWithCount(i, c)` for each parsed bin, in order, on the receiver (`GenDecodeWrap.replay`, defined at the head of
  this file) — with the Go error of the same outcome and, on success, the same remaining bytes.  Agreement with
  `decodeStore` on the model's stores and totality are read off that one equation.

  §1  the codecs of `GenEncoding` in the form the loops consume them (`U_ok / V_ok / F_ok`, `V_err / F_err`: on success a
      strictly shorter slice holding the model's rest; on failure the input, `io.EOF`).
  §2  `storeIndexes sub bs` — the indexes the model hands to the store (`storeIndexes_eq`: the index column of
      `parseBins`); `NoWrap sub bs` — all of them in `[-2^63, 2^63)`.
  §3  the three loops: what one iteration does, by what the model's item reader finds (`StepOf`; `loop1_step /
      loop2_step / loop3_step`), and the one induction along the items (`itemLoop_run`).
  §4  what the decoder returns (`Runs`), the headers (`header1 / header2 / header3`: the decoder has run, or it is the
      item loop on the bytes `parseHeader` leaves) and the three layouts (`run1 / run2 / run3`).
  §5  every `StoreI` implementation, fuel `len(b) + 9` (every item consumes ≥ 1 byte or fails, so the loop ends by
      `io.EOF` after ≤ `len(b) + 1` iterations even when `numBins` is `2^64 − 1`):
        `decode_run`                   every sub-flag number `< 64`; an undefined layout is refused (`decode_unknown`;
                                       the model refuses it too, `decodeStore_unknown`)
        `DecodeAndMergeWith_total`     every input, every `SubFlag`: the generated decoder returns normally; the error
                                       is nil, `io.EOF` or "unknown bin encoding"
  §6  against `decodeStore` on the model's stores, same fuel:
        `DecodeAndMergeWith_agrees`    the two halves in one statement, every sub-flag number, the refusal `e` as the
                                       Go error `decErr e`
        `DecodeAndMergeWith_ok`        model `some (.ok (st', rest))` ∧ `NoWrap` ⟹ `.ok (st', bn rest, nil)`
        `DecodeAndMergeWith_ok_bytes`  … without `NoWrap`: still `.ok (_, bn rest, nil)` (same bytes consumed)
        `DecodeAndMergeWith_error`     model `some (.error e)` ⟹ `.ok (_, _, io.EOF)` with `e = .eof` (defined
                                       layout), or `.ok (st, b, "unknown bin encoding")` with
                                       `e = .unknownBinEncoding`; no hypothesis on the indexes
      model `none` (a store operation of the model panics, or a count is not finite): nothing claimed, except the
      totality of §5.
  §7  THE DOCUMENTED DIFFERENCE, `wrap_counterexample`: Go accumulates the index in `int64` with wrap-around,
      the model in `Int`.  Two deltas of `2^62`: the model adds bins `2^62, 2^63`, the Go code `2^62, −2^63`.
      `NoWrap` is exactly what excludes this (`BitVec.ofInt 64 idx` is Go's index unconditionally).
      Observation `eof_after_partial_merge_example`: on `io.EOF` the Go store has already absorbed the bins
      read before the cut (the model's error carries no store, so this is not a disagreement).

  Property-level corollaries (C07 / C08 on the generated decoder): `DDS/Props/C07Gen.lean`.
  No other disagreement was found: same success/failure, same bytes consumed, same error class.
-/
import DDS.Generated.CodeStoreDecode
import DDS.Proofs.GenEncoding
import DDS.Proofs.GenSketch
import DDS.Proofs.Wire
import DDS.Proofs.StoreParse

set_option linter.unusedVariables false

namespace DDS.GenDecodeWrap
open DDS DDS.GoSem

/-- one call of the decoder on its receiver: `AddWithCount(i, c)` (`some c`) or `Add(i)` (`none`) -/
abbrev Call := Int × Option F64

section factor
variable {S : Type} [StoreI S]

def applyCall (s : S) : Call → S
  | (i, some c) => StoreI.AddWithCount s i c
  | (i, none) => StoreI.Add s i

/-- run the recorded calls, oldest first -/
def replay (s : S) (l : List Call) : S := l.foldl applyCall s

@[simp] theorem replay_nil (s : S) : replay s [] = s := rfl

theorem replay_snoc (s : S) (l : List Call) (c : Call) : replay s (l ++ [c]) = applyCall (replay s l) c := by
  unfold replay
  rw [List.foldl_append]; rfl

theorem replay_cons (s : S) (c : Call) (l : List Call) : replay s (c :: l) = replay (applyCall s c) l := rfl

end factor

end DDS.GenDecodeWrap

namespace DDS.GenStoreDecode

open DDS DDS.GoSem DDS.Gen.Encoding DDS.Gen.StoreDecode DDS.Codec DDS.GenEncoding
open DDS.GenDecodeWrap (Call applyCall replay replay_cons)
open DDS.Sketch

/-! ## 1. the three codecs, in the form the loops use them

  success: the generated decoder returns a slice `b'` whose bytes are the model's rest, strictly shorter
  than its input; failure: `(input, zero value, io.EOF)`. -/

/-- a decoder that consumed `k ≥ 1` bytes of a non-empty `b` -/
theorem strict_drop (b : List (BitVec 8)) (rest : Bytes) (k : Nat) (hk : 1 ≤ k)
    (hr : rest = (nb b).drop k) (hne : nb b ≠ []) :
    nb (suffixOf b rest) = rest ∧ (suffixOf b rest).length < b.length := by
  have hpos : 0 < b.length := by
    rw [← nb_length]; exact List.length_pos_iff.mpr hne
  rw [hr, ← nb_drop, suffixOf_drop, List.length_drop]
  exact ⟨rfl, by omega⟩

theorem U_ok (fuel : Nat) (hf : 9 ≤ fuel) (b : List (BitVec 8)) (v : Nat) (rest : Bytes)
    (h : decUvarint64 (nb b) = .ok (v, rest)) :
    ∃ b', DecodeUvarint64 fuel b = .ok (b', BitVec.ofNat 64 v, GoErr.nil) ∧ nb b' = rest ∧
      b'.length < b.length ∧ v < W64 := by
  obtain ⟨k, hk1, _, hk3, hv⟩ := decUvarint64_ok _ _ _ h
  obtain ⟨h1, h2⟩ := strict_drop b rest k hk1 hk3 (by rintro h0; rw [h0] at h; cases h)
  exact ⟨suffixOf b rest, by rw [DecodeUvarint64_eq fuel hf, h]; rfl, h1, h2, hv⟩

theorem V_ok (fuel : Nat) (hf : 9 ≤ fuel) (b : List (BitVec 8)) (d : Int) (rest : Bytes)
    (h : decVarint64 (nb b) = .ok (d, rest)) :
    ∃ b', DecodeVarint64 fuel b = .ok (b', BitVec.ofInt 64 d, GoErr.nil) ∧ nb b' = rest ∧
      b'.length < b.length ∧ I64 d := by
  obtain ⟨k, hk1, _, hk3, hd⟩ := decVarint64_ok _ _ _ h
  obtain ⟨h1, h2⟩ := strict_drop b rest k hk1 hk3 (by rintro h0; rw [h0] at h; cases h)
  exact ⟨suffixOf b rest, by rw [DecodeVarint64_eq fuel hf, h]; rfl, h1, h2, hd⟩

theorem V_err (fuel : Nat) (hf : 9 ≤ fuel) (b : List (BitVec 8)) (e : DecErr)
    (h : decVarint64 (nb b) = .error e) :
    DecodeVarint64 fuel b = .ok (b, 0#64, GoErr.eof) := by
  rw [DecodeVarint64_eq fuel hf, h]; rfl

theorem F_ok (fuel : Nat) (hf : 9 ≤ fuel) (b : List (BitVec 8)) (c : F64) (rest : Bytes)
    (h : decVarfloat64 (nb b) = .ok (c, rest)) :
    ∃ b', DecodeVarfloat64 fuel b = .ok (b', c, GoErr.nil) ∧ nb b' = rest ∧ b'.length < b.length := by
  obtain ⟨k, hk1, _, hk3⟩ := DDS.Sketch.decVarfloat64_ok _ _ _ h
  obtain ⟨h1, h2⟩ := strict_drop b rest k hk1 hk3 (by rintro h0; rw [h0] at h; cases h)
  exact ⟨suffixOf b rest, by rw [DecodeVarfloat64_eq fuel hf, h], h1, h2⟩

theorem F_err (fuel : Nat) (hf : 9 ≤ fuel) (b : List (BitVec 8)) (e : DecErr)
    (h : decVarfloat64 (nb b) = .error e) :
    DecodeVarfloat64 fuel b = .ok (b, F64.fin (0 : Rat), GoErr.eof) := by
  rw [DecodeVarfloat64_eq fuel hf, h]

theorem error_or_ok {ε α} (x : Except ε α) : (∃ e, x = .error e) ∨ ∃ a, x = .ok a := by
  cases x with
  | error e => exact .inl ⟨e, rfl⟩
  | ok a => exact .inr ⟨a, rfl⟩

/-! ## 2. the indexes handed to the store, and the no-wrap hypothesis

  The Go code keeps the running index in an `int64` (`index += indexDelta`, wrap-around) and hands
  `int(index)` to the store; the model adds in unbounded `Int`.  `BitVec.ofInt 64` of the model's index IS
  the Go index at every step (unconditionally); the value handed to the store is the same integer exactly
  when the model's index lies in the int64 range. -/

/-- layout "index deltas and counts": the indexes the model passes to the store, in order, until the
    items or the parsable input run out -/
def dcTrace : Nat → Int → Bytes → List Int
  | 0, _, _ => []
  | n + 1, idx, bs =>
    match decVarint64 bs with
    | .error _ => []
    | .ok (d, bs1) =>
      match decVarfloat64 bs1 with
      | .error _ => []
      | .ok (_, bs2) => (idx + d) :: dcTrace n (idx + d) bs2

/-- layout "index deltas" -/
def dTrace : Nat → Int → Bytes → List Int
  | 0, _, _ => []
  | n + 1, idx, bs =>
    match decVarint64 bs with
    | .error _ => []
    | .ok (d, bs1) => (idx + d) :: dTrace n (idx + d) bs1

/-- layout "contiguous counts" -/
def ccTrace (stride : Int) : Nat → Int → Bytes → List Int
  | 0, _, _ => []
  | n + 1, idx, bs =>
    match decVarfloat64 bs with
    | .error _ => []
    | .ok (_, bs1) => idx :: ccTrace stride n (idx + stride) bs1

/-- every index `decodeStore st sub bs` passes to the store (independent of the store) -/
def storeIndexes (sub : Nat) (bs : Bytes) : List Int :=
  if sub = Consts.binEncodingIndexDeltasAndCounts then
    match decUvarint64 bs with
    | .error _ => []
    | .ok (n, bs) => dcTrace n 0 bs
  else if sub = Consts.binEncodingIndexDeltas then
    match decUvarint64 bs with
    | .error _ => []
    | .ok (n, bs) => dTrace n 0 bs
  else if sub = Consts.binEncodingContiguousCounts then
    match decUvarint64 bs with
    | .error _ => []
    | .ok (n, bs) =>
      match decVarint64 bs with
      | .error _ => []
      | .ok (start, bs) =>
        match decVarint64 bs with
        | .error _ => []
        | .ok (stride, bs) => ccTrace stride n start bs
  else []

/-- **the hypothesis under which Go's `int64` running index and the model's `Int` agree**: every index
    handed to the store (every partial sum of the deltas; `start + k·stride` for the contiguous layout)
    lies in `[-2^63, 2^63)` -/
def NoWrap (sub : Nat) (bs : Bytes) : Prop := ∀ u ∈ storeIndexes sub bs, I64 u

theorem ofInt_add_ofInt (a b : Int) : BitVec.ofInt 64 a + BitVec.ofInt 64 b = BitVec.ofInt 64 (a + b) :=
  (BitVec.ofInt_add ..).symm

theorem toInt_ofInt_I64 (i : Int) (h : I64 i) : (BitVec.ofInt 64 i).toInt = i :=
  toInt_ofInt64 i h.1 h.2

/-! The three traces are the index column of the parsed items (`Sketch.parseItems`), `storeIndexes` that of
    `Sketch.parseBins`. -/

theorem dcTrace_eq : ∀ n idx bs, dcTrace n idx bs = (parseItems rdDC n idx bs).1.map Prod.fst := by
  intro n
  induction n with
  | zero => intros; rfl
  | succ n ih =>
    intro idx bs
    rw [dcTrace]
    cases h1 : decVarint64 bs with
    | error e => rw [parseItems_none n (rdDC_of_error1 h1)]; rfl
    | ok p =>
      obtain ⟨d, b1⟩ := p
      dsimp only
      cases h2 : decVarfloat64 b1 with
      | error e => rw [parseItems_none n (rdDC_of_error2 h1 h2)]; rfl
      | ok q => obtain ⟨c, b2⟩ := q; rw [parseItems_some n (rdDC_of_ok h1 h2)]; exact congrArg _ (ih _ _)

theorem dTrace_eq : ∀ n idx bs, dTrace n idx bs = (parseItems rdD n idx bs).1.map Prod.fst := by
  intro n
  induction n with
  | zero => intros; rfl
  | succ n ih =>
    intro idx bs
    rw [dTrace]
    cases h1 : decVarint64 bs with
    | error e => rw [parseItems_none n (rdD_of_error h1)]; rfl
    | ok p => obtain ⟨d, b1⟩ := p; rw [parseItems_some n (rdD_of_ok h1)]; exact congrArg _ (ih _ _)

theorem ccTrace_eq (stride : Int) :
    ∀ n idx bs, ccTrace stride n idx bs = (parseItems (rdCC stride) n idx bs).1.map Prod.fst := by
  intro n
  induction n with
  | zero => intros; rfl
  | succ n ih =>
    intro idx bs
    rw [ccTrace]
    cases h1 : decVarfloat64 bs with
    | error e => rw [parseItems_none n (rdCC_of_error h1)]; rfl
    | ok p => obtain ⟨c, b1⟩ := p; rw [parseItems_some n (rdCC_of_ok h1)]; exact congrArg _ (ih _ _)

theorem storeIndexes_eq (sub : Nat) (bs : Bytes) : storeIndexes sub bs = (parseBins sub bs).1.map Prod.fst := by
  unfold storeIndexes
  split
  · rename_i h; subst h
    cases h1 : decUvarint64 bs with
    | error e => rw [parseBins_of_error (parseHeader_eof (.inl rfl) h1)]; rfl
    | ok p => obtain ⟨n, b1⟩ := p; rw [parseBins_of_ok (parseHeader_dc h1)]; exact dcTrace_eq _ _ _
  split
  · rename_i h; subst h
    cases h1 : decUvarint64 bs with
    | error e => rw [parseBins_of_error (parseHeader_eof (.inr (.inl rfl)) h1)]; rfl
    | ok p => obtain ⟨n, b1⟩ := p; rw [parseBins_of_ok (parseHeader_d h1)]; exact dTrace_eq _ _ _
  split
  · rename_i h; subst h
    cases h1 : decUvarint64 bs with
    | error e => rw [parseBins_of_error (parseHeader_eof (.inr (.inr rfl)) h1)]; rfl
    | ok p =>
      obtain ⟨n, b1⟩ := p
      dsimp only
      cases h2 : decVarint64 b1 with
      | error e => rw [parseBins_of_error (parseHeader_cc_eof2 h1 h2)]; rfl
      | ok q =>
        obtain ⟨start, b2⟩ := q
        dsimp only
        cases h3 : decVarint64 b2 with
        | error e => rw [parseBins_of_error (parseHeader_cc_eof3 h1 h2 h3)]; rfl
        | ok r =>
          obtain ⟨stride, b3⟩ := r
          rw [parseBins_of_ok (parseHeader_cc_ok h1 h2 h3)]; exact ccTrace_eq _ _ _ _
  · rename_i h1 h2 h3
    rw [parseBins_of_error (parseHeader_unknown bs (fun h => h.elim h1 (fun h => h.elim h2 h3)))]; rfl

/-! ## 3. the three loops

  Each is a generated function of its own; what one iteration does is read off the code once per loop
  (`loop1_step`, `loop2_step`, `loop3_step`: by what the model's item reader finds, for every store implementation).
  The induction along the items (`itemLoop_run`) is the same for the three.  Go keeps the running index in an
  `int64`: it is `BitVec.ofInt 64` of the model's unbounded index at every step, and the wrap-around is only seen in
  the index a call receives (`callOf`). -/

/-! ### the `uint64` counter of the loops -/

theorem ult_of_lt (i n : BitVec 64) (h : i.toNat < n.toNat) : BitVec.ult i n = true := by
  rw [BitVec.ult_eq_decide]; simpa using h

theorem ult_of_not_lt (i n : BitVec 64) (h : ¬ i.toNat < n.toNat) : BitVec.ult i n = false :=
  decide_eq_false h

theorem ult_of_eq (i n : BitVec 64) (h : n.toNat = i.toNat) : BitVec.ult i n = false :=
  ult_of_not_lt i n (h ▸ Nat.lt_irrefl _)

theorem toNat_succ (i n : BitVec 64) (k : Nat) (h : n.toNat = i.toNat + (k + 1)) :
    n.toNat = (i + 1#64).toNat + k := by
  show n.toNat = (i.toNat + 1) % 2 ^ 64 + k
  rw [Nat.mod_eq_of_lt (Nat.lt_of_le_of_lt (Nat.add_le_add_left (Nat.le_add_left 1 k) _) (h ▸ n.isLt)), h,
    Nat.add_assoc, Nat.add_comm 1 k]

theorem ofNat64_toNat (n : Nat) (h : n < W64) : (BitVec.ofNat 64 n).toNat = (0#64).toNat + n := by
  rw [BitVec.toNat_ofNat, Nat.mod_eq_of_lt (show n < 2 ^ 64 from h)]; simp

/-! ### one iteration (`StepOf`), the induction along the items (`itemLoop_run`), the three instances -/

/-- a generated item loop: fuel, slice, running index, store, counter -/
abbrev ItemLoop (S τ : Type) :=
  Nat → List (BitVec 8) → BitVec 64 → S → BitVec 64 → Loop τ (S × List (BitVec 8) × GoErr)

/-- the call a parsed bin becomes: Go's `int(index)` of the `int64` running index; `AddWithCount(i, c)`, or `Add(i)` in
    the layout without counts -/
def callOf (withCount : Bool) (p : Int × F64) : Call :=
  ((BitVec.ofInt 64 p.1).toInt, if withCount then some p.2 else none)

/-- the Go error of the outcome of a parse -/
def outErr : Except SkErr Bytes → GoErr
  | .ok _ => GoErr.nil
  | .error e => GenSketch.decErr e

/-- how a generated item loop `L` does one iteration, by what the model's item reader `rd` finds: `io.EOF`, or the
    call of the bin on the receiver and on with the rest -/
def StepOf {S τ : Type} [StoreI S] (L : ItemLoop S τ) (numBins : BitVec 64) (rd : ItemRd) (wc : Bool) : Prop :=
  ∀ fuel b idx (s : S) i, 9 ≤ fuel → i.toNat < numBins.toNat →
    match rd idx (nb b) with
    | none => ∃ b', L (fuel + 1) b (BitVec.ofInt 64 idx) s i = .ret (s, b', GoErr.eof)
    | some (bin, idx', r) => ∃ b', nb b' = r ∧ b'.length < b.length ∧
        L (fuel + 1) b (BitVec.ofInt 64 idx) s i
          = L fuel b' (BitVec.ofInt 64 idx') (applyCall s (callOf wc bin)) (i + 1#64)

/-- **an item loop replays the calls of `parseItems` on its receiver and ends as `parseItems` does**, for every store
    implementation.  Fuel `len b + 10` is enough however large `numBins` is: every item consumes at least one byte, so
    the loop ends by `io.EOF` after at most `len b + 1` iterations. -/
theorem itemLoop_run {S τ : Type} [StoreI S] (L : ItemLoop S τ) (k : τ → Res (S × List (BitVec 8) × GoErr))
    (numBins : BitVec 64) (rd : ItemRd) (wc : Bool)
    (hdone : ∀ fuel b x s i, ¬ i.toNat < numBins.toNat →
      Loop.elim (L (fuel + 1) b x s i) k = .ok (s, b, GoErr.nil))
    (hstep : StepOf L numBins rd wc) :
    ∀ (n fuel : Nat) (b : List (BitVec 8)) (idx : Int) (s : S) (i : BitVec 64),
      numBins.toNat = i.toNat + n → b.length + 10 ≤ fuel →
      ∃ b', Loop.elim (L fuel b (BitVec.ofInt 64 idx) s i) k =
          .ok (replay s ((parseItems rd n idx (nb b)).1.map (callOf wc)), b', outErr (parseItems rd n idx (nb b)).2) ∧
        ∀ r, (parseItems rd n idx (nb b)).2 = .ok r → b' = bn r := by
  intro n
  induction n with
  | zero =>
    intro fuel b idx s i hn hf
    obtain ⟨fuel, rfl⟩ := Nat.exists_eq_add_one.mpr (Nat.zero_lt_of_lt hf)
    exact ⟨b, hdone fuel b _ s i (by omega), fun r hr => by cases hr; exact (bn_nb b).symm⟩
  | succ n ih =>
    intro fuel b idx s i hn hf
    obtain ⟨fuel, rfl⟩ := Nat.exists_eq_add_one.mpr (Nat.zero_lt_of_lt hf)
    have h := hstep fuel b idx s i (by omega) (by omega)
    cases hr : rd idx (nb b) with
    | none =>
      rw [hr] at h
      obtain ⟨b', hb'⟩ := h
      rw [parseItems_none n hr, hb']
      exact ⟨b', rfl, fun r hr => nomatch hr⟩
    | some p =>
      obtain ⟨bin, idx', r⟩ := p
      rw [hr] at h
      obtain ⟨b', rfl, hl, hL⟩ := h
      rw [parseItems_some n hr, hL]
      exact ih fuel b' idx' _ (i + 1#64) (toNat_succ i numBins n hn) (by omega)

section loops
variable {S : Type} [StoreI S] (numBins : BitVec 64) (fuel : Nat) (b : List (BitVec 8)) (x : BitVec 64)
  (s : S) (i : BitVec 64)

/-- how `DecodeAndMergeWith` finishes a loop that ran to its end (loops 1 and 2; loop 3) -/
abbrev fin12 : List (BitVec 8) × BitVec 64 × S × BitVec 64 → Res (S × List (BitVec 8) × GoErr) :=
  fun (b, _, s, _) => .ok (s, b, GoErr.nil)
abbrev fin3 : List (BitVec 8) × S × BitVec 64 × BitVec 64 → Res (S × List (BitVec 8) × GoErr) :=
  fun (b, s, _, _) => .ok (s, b, GoErr.nil)

theorem loop1_done (hi : ¬ i.toNat < numBins.toNat) :
    Loop.elim (DecodeAndMergeWith.loop1 numBins (fuel + 1) b x s i) fin12 = .ok (s, b, GoErr.nil) := by
  rw [DecodeAndMergeWith.loop1, if_neg (ne_true_of_eq_false (ult_of_not_lt i numBins hi))]; rfl

theorem loop2_done (hi : ¬ i.toNat < numBins.toNat) :
    Loop.elim (DecodeAndMergeWith.loop2 numBins (fuel + 1) b x s i) fin12 = .ok (s, b, GoErr.nil) := by
  rw [DecodeAndMergeWith.loop2, if_neg (ne_true_of_eq_false (ult_of_not_lt i numBins hi))]; rfl

theorem loop3_done (indexDelta : BitVec 64) (hi : ¬ i.toNat < numBins.toNat) :
    Loop.elim (DecodeAndMergeWith.loop3 numBins indexDelta (fuel + 1) b s x i) fin3 = .ok (s, b, GoErr.nil) := by
  rw [DecodeAndMergeWith.loop3, if_neg (ne_true_of_eq_false (ult_of_not_lt i numBins hi))]; rfl

end loops

section steps
variable {S : Type} [StoreI S] (numBins : BitVec 64)

theorem loop1_step : StepOf (S := S) (DecodeAndMergeWith.loop1 numBins) numBins rdDC true := by
  intro fuel b idx s i hf hi
  rw [DecodeAndMergeWith.loop1, if_pos (ult_of_lt i numBins hi), rdDC]
  rcases error_or_ok (decVarint64 (nb b)) with ⟨e, hV⟩ | ⟨⟨d, r⟩, hV⟩
  · rw [hV, V_err fuel hf b e hV]; exact ⟨b, rfl⟩
  obtain ⟨b1, hV1, rfl, hl1, _⟩ := V_ok fuel hf b d r hV
  rw [hV, hV1]
  rcases error_or_ok (decVarfloat64 (nb b1)) with ⟨e, hF⟩ | ⟨⟨c, r'⟩, hF⟩
  · simp only [hF, F_err fuel hf b1 e hF, Res.bindL_ok, GoErr.nil_bne_nil, GoErr.eof_bne_nil,
      Bool.false_eq_true, if_false, if_true]
    exact ⟨b1, rfl⟩
  obtain ⟨b2, hF1, hb2, hl2⟩ := F_ok fuel hf b1 c r' hF
  simp only [hF, hF1, Res.bindL_ok, GoErr.nil_bne_nil, Bool.false_eq_true, if_false, ofInt_add_ofInt]
  exact ⟨b2, hb2, by omega, rfl⟩

theorem loop2_step : StepOf (S := S) (DecodeAndMergeWith.loop2 numBins) numBins rdD false := by
  intro fuel b idx s i hf hi
  rw [DecodeAndMergeWith.loop2, if_pos (ult_of_lt i numBins hi), rdD]
  rcases error_or_ok (decVarint64 (nb b)) with ⟨e, hV⟩ | ⟨⟨d, r⟩, hV⟩
  · rw [hV, V_err fuel hf b e hV]; exact ⟨b, rfl⟩
  obtain ⟨b1, hV1, hb1, hl1, _⟩ := V_ok fuel hf b d r hV
  simp only [hV, hV1, Res.bindL_ok, GoErr.nil_bne_nil, Bool.false_eq_true, if_false, ofInt_add_ofInt]
  exact ⟨b1, hb1, hl1, rfl⟩

/-- the index is used first and incremented afterwards, so the increment past the last bin may wrap without
    being seen -/
theorem loop3_step (stride : Int) :
    StepOf (S := S) (fun fuel b x s i => DecodeAndMergeWith.loop3 numBins (BitVec.ofInt 64 stride) fuel b s x i)
      numBins (rdCC stride) true := by
  intro fuel b idx s i hf hi
  dsimp only
  rw [DecodeAndMergeWith.loop3, if_pos (ult_of_lt i numBins hi), rdCC]
  rcases error_or_ok (decVarfloat64 (nb b)) with ⟨e, hF⟩ | ⟨⟨c, r⟩, hF⟩
  · rw [hF, F_err fuel hf b e hF]; exact ⟨b, rfl⟩
  obtain ⟨b1, hF1, hb1, hl1⟩ := F_ok fuel hf b c r hF
  simp only [hF, hF1, Res.bindL_ok, GoErr.nil_bne_nil, Bool.false_eq_true, if_false, ofInt_add_ofInt]
  exact ⟨b1, hb1, hl1, rfl⟩

end steps

/-! ## 4. `DecodeAndMergeWith`, layout by layout -/

/-- the calls of a payload on the Go side: layout "index deltas" calls `Add`, the two others `AddWithCount` -/
def goCalls (sub : Nat) (bins : List (Int × F64)) : List Call :=
  bins.map (callOf (decide (sub ≠ Consts.binEncodingIndexDeltas)))

/-- what the generated decoder returns on the receiver `s`, layout `sub`, input `b`: the calls of the parsed bins
    replayed on the receiver, the error of the parse and, on success, the bytes the parse leaves -/
def Runs {S : Type} [StoreI S] (s : S) (sub : Nat) (b : List (BitVec 8)) (D : Res (S × List (BitVec 8) × GoErr)) :
    Prop :=
  ∃ b', D = .ok (replay s (goCalls sub (parseBins sub (nb b)).1), b', outErr (parseBins sub (nb b)).2) ∧
    ∀ r, (parseBins sub (nb b)).2 = .ok r → b' = bn r

section runs
variable {S : Type} [StoreI S] {s : S} {sub : Nat} {b : List (BitVec 8)}

/-- a header that fails: `io.EOF`, the receiver untouched -/
theorem runs_eof (b' : List (BitVec 8)) (hh : parseHeader sub (nb b) = .error .eof) :
    Runs s sub b (.ok (s, b', GoErr.eof)) := by
  unfold Runs
  rw [parseBins_of_error hh]
  exact ⟨b', rfl, fun r hr => nomatch hr⟩

/-- a header that succeeds, followed by what `itemLoop_run` says of the loop -/
theorem runs_items {n : Nat} {start : Int} {rd : ItemRd} {b1 : List (BitVec 8)} {wc : Bool}
    {D : Res (S × List (BitVec 8) × GoErr)}
    (hh : parseHeader sub (nb b) = .ok (n, start, rd, nb b1)) (hwc : wc = decide (sub ≠ Consts.binEncodingIndexDeltas))
    (hD : ∃ b', D = .ok (replay s ((parseItems rd n start (nb b1)).1.map (callOf wc)), b',
        outErr (parseItems rd n start (nb b1)).2) ∧
      ∀ r, (parseItems rd n start (nb b1)).2 = .ok r → b' = bn r) : Runs s sub b D := by
  subst hwc
  unfold Runs goCalls
  rw [parseBins_of_ok hh]
  exact hD

end runs

/-! The headers: the decoder has already run (`io.EOF` inside the header), or it is the item loop of the layout on the
    bytes `parseHeader` leaves. -/

section headers
variable {S : Type} [StoreI S] (fuel : Nat) (hf : 9 ≤ fuel) (s : S) (b : List (BitVec 8))
include hf

theorem header1 :
    Runs s Consts.binEncodingIndexDeltasAndCounts b (DecodeAndMergeWith fuel s b BinEncodingIndexDeltasAndCounts) ∨
    ∃ n b', parseHeader Consts.binEncodingIndexDeltasAndCounts (nb b) = .ok (n, 0, rdDC, nb b') ∧
      b'.length < b.length ∧ n < W64 ∧
      DecodeAndMergeWith fuel s b BinEncodingIndexDeltasAndCounts =
        Loop.elim (DecodeAndMergeWith.loop1 (BitVec.ofNat 64 n) fuel b' 0#64 s 0#64) fin12 := by
  generalize hD : DecodeAndMergeWith fuel s b BinEncodingIndexDeltasAndCounts = D
  rw [DecodeAndMergeWith, if_pos (by decide)] at hD
  rcases error_or_ok (decUvarint64 (nb b)) with ⟨e, hU⟩ | ⟨⟨n, r⟩, hU⟩
  · simp only [DecodeUvarint64_eof fuel hf b e hU, Res.bind_ok, GoErr.eof_bne_nil, if_true] at hD
    exact .inl (hD ▸ runs_eof b (parseHeader_eof (.inl rfl) hU))
  obtain ⟨b1, hU1, rfl, hl1, hv⟩ := U_ok fuel hf b n r hU
  simp only [hU1, Res.bind_ok, GoErr.nil_bne_nil, Bool.false_eq_true, if_false] at hD
  exact .inr ⟨n, b1, parseHeader_dc hU, hl1, hv, hD.symm⟩

theorem header2 :
    Runs s Consts.binEncodingIndexDeltas b (DecodeAndMergeWith fuel s b BinEncodingIndexDeltas) ∨
    ∃ n b', parseHeader Consts.binEncodingIndexDeltas (nb b) = .ok (n, 0, rdD, nb b') ∧
      b'.length < b.length ∧ n < W64 ∧
      DecodeAndMergeWith fuel s b BinEncodingIndexDeltas =
        Loop.elim (DecodeAndMergeWith.loop2 (BitVec.ofNat 64 n) fuel b' 0#64 s 0#64) fin12 := by
  generalize hD : DecodeAndMergeWith fuel s b BinEncodingIndexDeltas = D
  rw [DecodeAndMergeWith, if_neg (by decide), if_pos (by decide)] at hD
  rcases error_or_ok (decUvarint64 (nb b)) with ⟨e, hU⟩ | ⟨⟨n, r⟩, hU⟩
  · simp only [DecodeUvarint64_eof fuel hf b e hU, Res.bind_ok, GoErr.eof_bne_nil, if_true] at hD
    exact .inl (hD ▸ runs_eof b (parseHeader_eof (.inr (.inl rfl)) hU))
  obtain ⟨b1, hU1, rfl, hl1, hv⟩ := U_ok fuel hf b n r hU
  simp only [hU1, Res.bind_ok, GoErr.nil_bne_nil, Bool.false_eq_true, if_false] at hD
  exact .inr ⟨n, b1, parseHeader_d hU, hl1, hv, hD.symm⟩

/-- the header of the layout "contiguous counts": the number of bins, the first index, the stride; `io.EOF` inside
    any of the three leaves the slice where the last complete read left it -/
theorem header3 :
    Runs s Consts.binEncodingContiguousCounts b (DecodeAndMergeWith fuel s b BinEncodingContiguousCounts) ∨
    ∃ n start stride b', parseHeader Consts.binEncodingContiguousCounts (nb b) = .ok (n, start, rdCC stride, nb b') ∧
      b'.length < b.length ∧ n < W64 ∧
      DecodeAndMergeWith fuel s b BinEncodingContiguousCounts =
        Loop.elim (DecodeAndMergeWith.loop3 (BitVec.ofNat 64 n) (BitVec.ofInt 64 stride) fuel b' s
          (BitVec.ofInt 64 start) 0#64) fin3 := by
  generalize hD : DecodeAndMergeWith fuel s b BinEncodingContiguousCounts = D
  rw [DecodeAndMergeWith, if_neg (by decide), if_neg (by decide), if_pos (by decide)] at hD
  rcases error_or_ok (decUvarint64 (nb b)) with ⟨e, hU⟩ | ⟨⟨n, r⟩, hU⟩
  · simp only [DecodeUvarint64_eof fuel hf b e hU, Res.bind_ok, GoErr.eof_bne_nil, if_true] at hD
    exact .inl (hD ▸ runs_eof b (parseHeader_eof (.inr (.inr rfl)) hU))
  obtain ⟨b1, hU1, rfl, hl1, hv⟩ := U_ok fuel hf b n r hU
  simp only [hU1, Res.bind_ok, GoErr.nil_bne_nil, Bool.false_eq_true, if_false] at hD
  rcases error_or_ok (decVarint64 (nb b1)) with ⟨e, hS⟩ | ⟨⟨start, r2⟩, hS⟩
  · simp only [V_err fuel hf b1 e hS, Res.bind_ok, GoErr.eof_bne_nil, if_true] at hD
    exact .inl (hD ▸ runs_eof b1 (parseHeader_cc_eof2 hU hS))
  obtain ⟨b2, hS1, rfl, hl2, _⟩ := V_ok fuel hf b1 start r2 hS
  simp only [hS1, Res.bind_ok, GoErr.nil_bne_nil, Bool.false_eq_true, if_false] at hD
  rcases error_or_ok (decVarint64 (nb b2)) with ⟨e, hT⟩ | ⟨⟨stride, r3⟩, hT⟩
  · simp only [V_err fuel hf b2 e hT, Res.bind_ok, GoErr.eof_bne_nil, if_true] at hD
    exact .inl (hD ▸ runs_eof b2 (parseHeader_cc_eof3 hU hS hT))
  obtain ⟨b3, hT1, rfl, hl3, _⟩ := V_ok fuel hf b2 stride r3 hT
  simp only [hT1, Res.bind_ok, GoErr.nil_bne_nil, Bool.false_eq_true, if_false] at hD
  exact .inr ⟨n, start, stride, b3, parseHeader_cc_ok hU hS hT, by omega, hv, hD.symm⟩

end headers

section layouts
variable {S : Type} [StoreI S] (s : S) (b : List (BitVec 8)) (fuel : Nat) (hf : b.length + 9 ≤ fuel)
include hf

theorem run1 : Runs s Consts.binEncodingIndexDeltasAndCounts b
    (DecodeAndMergeWith fuel s b BinEncodingIndexDeltasAndCounts) := by
  rcases header1 fuel (by omega) s b with h | ⟨n, b1, hh, hl, hv, h⟩
  · exact h
  · rw [h]
    exact runs_items hh rfl
      (itemLoop_run _ fin12 _ rdDC true (loop1_done _)
        (loop1_step (BitVec.ofNat 64 n)) n fuel b1 0 s 0#64 (ofNat64_toNat n hv) (by omega))

theorem run2 : Runs s Consts.binEncodingIndexDeltas b (DecodeAndMergeWith fuel s b BinEncodingIndexDeltas) := by
  rcases header2 fuel (by omega) s b with h | ⟨n, b1, hh, hl, hv, h⟩
  · exact h
  · rw [h]
    exact runs_items hh rfl
      (itemLoop_run _ fin12 _ rdD false (loop2_done _)
        (loop2_step (BitVec.ofNat 64 n)) n fuel b1 0 s 0#64 (ofNat64_toNat n hv) (by omega))

theorem run3 : Runs s Consts.binEncodingContiguousCounts b
    (DecodeAndMergeWith fuel s b BinEncodingContiguousCounts) := by
  rcases header3 fuel (by omega) s b with h | ⟨n, start, stride, b1, hh, hl, hv, h⟩
  · exact h
  · rw [h]
    exact runs_items hh rfl
      (itemLoop_run _ fin3 _ (rdCC stride) true
        (fun fuel b x s i => loop3_done _ fuel b x s i _)
        (loop3_step (BitVec.ofNat 64 n) stride) n fuel b1 start s 0#64 (ofNat64_toNat n hv) (by omega))

end layouts

/-! ## 5. every implementation of the store interface -/

/-- the Go `SubFlag` of a model sub-flag number (`Wire.flagSub` of the flag byte, `< 64`) -/
def subflag (sub : Nat) : SubFlag := newSubFlag (BitVec.ofNat 8 sub)

theorem subflag_beq : ∀ sub, sub < 64 →
    (subflag sub == BinEncodingIndexDeltasAndCounts) = decide (sub = Consts.binEncodingIndexDeltasAndCounts) ∧
    (subflag sub == BinEncodingIndexDeltas) = decide (sub = Consts.binEncodingIndexDeltas) ∧
    (subflag sub == BinEncodingContiguousCounts) = decide (sub = Consts.binEncodingContiguousCounts) := by
  decide +kernel

theorem Flag_SubFlag_subflag (f : Gen.Encoding.Flag) : f.SubFlag = subflag (Wire.flagSub f.byte.toNat) := by
  have hlt : Wire.flagSub f.byte.toNat < 64 := Nat.div_lt_of_lt_mul f.byte.isLt
  have h256 : Wire.flagSub f.byte.toNat % 2 ^ 8 = Wire.flagSub f.byte.toNat :=
    Nat.mod_eq_of_lt (Nat.lt_trans hlt (by decide))
  rw [subflag, Flag_SubFlag_eq f _ (by rw [BitVec.toNat_ofNat, h256]; exact hlt), BitVec.toNat_ofNat, h256]

def KnownSub (sub : Nat) : Prop :=
  sub = Consts.binEncodingIndexDeltasAndCounts ∨ sub = Consts.binEncodingIndexDeltas ∨
    sub = Consts.binEncodingContiguousCounts

theorem knownSub_lt {sub : Nat} (hk : KnownSub sub) : sub < 64 := by
  rcases hk with rfl | rfl | rfl <;> decide

theorem decode_unknown {S₁ : Type} [StoreI S₁] (s : S₁) (sub : Nat) (hsub : sub < 64) (hk : ¬ KnownSub sub)
    (b : List (BitVec 8)) (fuel : Nat) :
    DecodeAndMergeWith fuel s b (subflag sub) = .ok (s, b, GoErr.named "unknown bin encoding") := by
  obtain ⟨e1, e2, e3⟩ := subflag_beq sub hsub
  unfold DecodeAndMergeWith
  rw [e1, e2, e3, if_neg (fun h => hk (Or.inl (of_decide_eq_true h))),
    if_neg (fun h => hk (Or.inr (Or.inl (of_decide_eq_true h)))),
    if_neg (fun h => hk (Or.inr (Or.inr (of_decide_eq_true h))))]

/-- the regenerated generic decoder, for EVERY store implementation, every input and every sub-flag number
    (fuel `len(b) + 9`): the calls of the parsed bins replayed on the receiver, the error of the parse, the bytes it
    leaves.  Never `.panic`, never `.nofuel`. -/
theorem decode_run {S : Type} [StoreI S] (s : S) (sub : Nat) (hsub : sub < 64) (b : List (BitVec 8)) (fuel : Nat)
    (hf : b.length + 9 ≤ fuel) : Runs s sub b (DecodeAndMergeWith fuel s b (subflag sub)) := by
  by_cases hk : KnownSub sub
  · rcases hk with rfl | rfl | rfl
    · exact run1 s b fuel hf
    · exact run2 s b fuel hf
    · exact run3 s b fuel hf
  · unfold Runs
    rw [decode_unknown s sub hsub hk b fuel, parseBins_of_error (parseHeader_unknown _ hk)]
    exact ⟨b, rfl, fun r hr => nomatch hr⟩

/-! Totality, independently of the model (so also where the model says `none`): with fuel `len(b) + 9` the generated
  decoder returns normally on every input — also when `numBins` is far larger than the input (up to
  `2^64 − 1`): every item consumes at least one byte, so the loop ends by `io.EOF` after at most
  `len(b) + 1` iterations. -/

section total
variable {S : Type} [StoreI S]

theorem DecodeAndMergeWith_total (s : S) (b : List (BitVec 8)) (sf : SubFlag) (fuel : Nat)
    (hf : b.length + 9 ≤ fuel) :
    ∃ s' b' err, DecodeAndMergeWith fuel s b sf = .ok (s', b', err) ∧
      (err = GoErr.nil ∨ err = GoErr.eof ∨ err = GoErr.named "unknown bin encoding") := by
  have key : ∀ sub D, Runs s sub b D → ∃ s' b' err, D = .ok (s', b', err) ∧
      (err = GoErr.nil ∨ err = GoErr.eof ∨ err = GoErr.named "unknown bin encoding") := by
    rintro sub D ⟨b', rfl, _⟩
    refine ⟨_, b', _, rfl, ?_⟩
    cases hp : (parseBins sub (nb b)).2 with
    | ok r => exact .inl rfl
    | error e =>
      rcases parseBins_error sub _ e hp with ⟨_, rfl⟩ | ⟨_, rfl, _⟩
      · exact .inr (.inl rfl)
      · exact .inr (.inr rfl)
  by_cases h1 : sf = BinEncodingIndexDeltasAndCounts
  · subst h1; exact key _ _ (run1 s b fuel hf)
  by_cases h2 : sf = BinEncodingIndexDeltas
  · subst h2; exact key _ _ (run2 s b fuel hf)
  by_cases h3 : sf = BinEncodingContiguousCounts
  · subst h3; exact key _ _ (run3 s b fuel hf)
  · refine ⟨s, b, _, ?_, .inr (.inr rfl)⟩
    simp only [DecodeAndMergeWith, beq_eq_false_iff_ne.mpr h1, beq_eq_false_iff_ne.mpr h2,
      beq_eq_false_iff_ne.mpr h3, Bool.false_eq_true, if_false]

end total

/-! ## 6. against `Sketch.decodeStore`, on the model's stores -/

theorem decodeStore_unknown (st : Store) (sub : Nat) (bs : Bytes) (hk : ¬ KnownSub sub) :
    decodeStore st sub bs = some (.error .unknownBinEncoding) :=
  decodeStore_of_header_error st (parseHeader_unknown bs hk)

theorem knownSub_of_ok {st : Store} {sub : Nat} {bs : Bytes} {r : Store × Bytes}
    (h : decodeStore st sub bs = some (.ok r)) : KnownSub sub :=
  Classical.byContradiction fun hk => by rw [decodeStore_unknown st sub bs hk] at h; cases h

/-- on the model's stores the calls of bins whose indexes are `int64` values, replayed, are the model's `addBins` -/
theorem replay_addBins (wc : Bool) : ∀ (l : List (Int × F64)) (st st' : Store), (∀ p ∈ l, I64 p.1) →
    (wc = false → ∀ p ∈ l, p.2 = F64.one) →
    addBins st l = some st' → replay st (l.map (callOf wc)) = st' := by
  intro l
  induction l with
  | nil => intro st st' _ _ h; exact Option.some.inj h
  | cons p l ih =>
    intro st st' hi h1 h
    rw [addBins] at h
    cases ha : addF st p.1 p.2 with
    | none => rw [ha] at h; cases h
    | some st1 =>
      rw [ha] at h
      have hc : applyCall st (callOf wc p) = st1 := by
        unfold callOf
        rw [toInt_ofInt_I64 _ (hi p (List.mem_cons_self ..))]
        cases wc with
        | true => exact GenSketch.store_addF_some st st1 _ _ ha
        | false =>
          rw [h1 rfl p (List.mem_cons_self ..)] at ha
          exact GenSketch.store_add_some st st1 _ ha
      rw [List.map_cons, replay_cons, hc]
      exact ih st1 st' (fun q hq => hi q (List.mem_cons_of_mem _ hq))
        (fun hw q hq => h1 hw q (List.mem_cons_of_mem _ hq)) h

/-- against the model on the model's stores (`instance : StoreI Store`; every input, every sub-flag number,
    fuel `len(b) + 9`): a refusal `e` of the model is the Go error `decErr e` in the generated code (whatever the store
    absorbed meanwhile); a success of the model is a success of the generated code on the same bytes, with the model's
    store provided no index wrapped -/
theorem DecodeAndMergeWith_agrees (st : Store) (sub : Nat) (hsub : sub < 64) (b : List (BitVec 8))
    (fuel : Nat) (hf : b.length + 9 ≤ fuel) :
    (∀ e, decodeStore st sub (nb b) = some (.error e) →
      ∃ s' b', DecodeAndMergeWith fuel st b (subflag sub) = .ok (s', b', GenSketch.decErr e)) ∧
    (∀ st' rest, decodeStore st sub (nb b) = some (.ok (st', rest)) →
      ∃ s', DecodeAndMergeWith fuel st b (subflag sub) = .ok (s', bn rest, GoErr.nil) ∧
        (NoWrap sub (nb b) → s' = st')) := by
  obtain ⟨b', hD, hok⟩ := decode_run st sub hsub b fuel hf
  rw [decodeStore_parse, hD]
  refine ⟨fun e he => ?_, fun st' rest h => ?_⟩
  · rw [finish_error he]
    exact ⟨_, b', rfl⟩
  · obtain ⟨ha, ho⟩ := finish_ok h
    rw [ho, hok rest ho]
    refine ⟨_, rfl, fun hw => ?_⟩
    unfold NoWrap at hw
    rw [storeIndexes_eq] at hw
    exact replay_addBins _ _ st st' (fun p hp => hw p.1 (List.mem_map_of_mem hp))
      (fun hwc p hp => by
        have : sub = Consts.binEncodingIndexDeltas := by simpa using hwc
        subst this
        exact parseBins_deltas_one _ p hp) ha

theorem DecodeAndMergeWith_ok (st st' : Store) (sub : Nat) (b : List (BitVec 8)) (rest : Bytes)
    (fuel : Nat) (hf : b.length + 9 ≤ fuel) (hw : NoWrap sub (nb b))
    (h : decodeStore st sub (nb b) = some (.ok (st', rest))) :
    DecodeAndMergeWith fuel st b (subflag sub) = .ok (st', bn rest, GoErr.nil) := by
  obtain ⟨s', h1, h2⟩ := (DecodeAndMergeWith_agrees st sub (knownSub_lt (knownSub_of_ok h)) b fuel hf).2 st' rest h
  rw [h1, h2 hw]

/-- without the no-wrap hypothesis: still a success on exactly the same bytes (only the store may differ, see
    `wrap_counterexample`) -/
theorem DecodeAndMergeWith_ok_bytes (st st' : Store) (sub : Nat) (b : List (BitVec 8)) (rest : Bytes)
    (fuel : Nat) (hf : b.length + 9 ≤ fuel)
    (h : decodeStore st sub (nb b) = some (.ok (st', rest))) :
    ∃ s', DecodeAndMergeWith fuel st b (subflag sub) = .ok (s', bn rest, GoErr.nil) := by
  obtain ⟨s', h1, _⟩ := (DecodeAndMergeWith_agrees st sub (knownSub_lt (knownSub_of_ok h)) b fuel hf).2 st' rest h
  exact ⟨s', h1⟩

theorem DecodeAndMergeWith_ok_model (st st' : Store) (sub : Nat) (bs rest : Bytes)
    (hb : ∀ x ∈ bs, x < 256) (fuel : Nat) (hf : bs.length + 9 ≤ fuel) (hw : NoWrap sub bs)
    (h : decodeStore st sub bs = some (.ok (st', rest))) :
    DecodeAndMergeWith fuel st (bn bs) (subflag sub) = .ok (st', bn rest, GoErr.nil) := by
  have hnb := nb_bn bs hb
  exact DecodeAndMergeWith_ok st st' sub (bn bs) rest fuel (by rw [bn_length]; exact hf)
    (by rw [hnb]; exact hw) (by rw [hnb]; exact h)

/-- If the model refuses, the generated code returns normally (never `.panic` / `.nofuel`)
    with a non-nil error of the same class: `io.EOF` for truncated input, "unknown bin encoding"
    (store and input untouched) for an undefined layout.  No hypothesis on the indexes. -/
theorem DecodeAndMergeWith_error (st : Store) (sub : Nat) (hsub : sub < 64) (b : List (BitVec 8))
    (e : SkErr) (fuel : Nat) (hf : b.length + 9 ≤ fuel)
    (h : decodeStore st sub (nb b) = some (.error e)) :
    (KnownSub sub ∧ e = .eof ∧ ∃ s' b', DecodeAndMergeWith fuel st b (subflag sub) = .ok (s', b', GoErr.eof)) ∨
    (¬ KnownSub sub ∧ e = .unknownBinEncoding ∧
      DecodeAndMergeWith fuel st b (subflag sub) = .ok (st, b, GoErr.named "unknown bin encoding")) := by
  have hr := (DecodeAndMergeWith_agrees st sub hsub b fuel hf).1 e h
  rw [decodeStore_parse] at h
  rcases parseBins_error sub (nb b) e (finish_error h) with ⟨hk, rfl⟩ | ⟨hk, rfl, _⟩
  · exact Or.inl ⟨hk, rfl, hr⟩
  · exact Or.inr ⟨hk, rfl, decode_unknown st sub hsub hk b fuel⟩

theorem DecodeAndMergeWith_error_ne_nil (st : Store) (sub : Nat) (hsub : sub < 64) (b : List (BitVec 8))
    (e : SkErr) (fuel : Nat) (hf : b.length + 9 ≤ fuel)
    (h : decodeStore st sub (nb b) = some (.error e)) :
    ∃ s' b' err, DecodeAndMergeWith fuel st b (subflag sub) = .ok (s', b', err) ∧ err ≠ GoErr.nil := by
  rcases DecodeAndMergeWith_error st sub hsub b e fuel hf h with ⟨_, _, s', b', hr⟩ | ⟨_, _, hr⟩
  · exact ⟨s', b', _, hr, by decide⟩
  · exact ⟨st, b, _, hr, by decide⟩

/-! ## 7. the documented difference: `int64` wrap-around of the running index

  Input: layout "index deltas", 2 bins, two deltas of `2^62` (each the 9-byte varint `80 80 80 80 80 80 80 80 80`
  of the zig-zag value `2^63`).  The model's indexes are `2^62, 2^63`; Go's `int64` index wraps to `-2^63`
  at the second bin.  Both succeed and consume all 19 bytes; the stores differ. -/

def wrapInput : List (BitVec 8) := 2#8 :: List.replicate 18 128#8

def isSp (r : Option (Except SkErr (Store × Bytes))) (c : Content) : Bool :=
  match r with
  | some (.ok (.sp c', rest)) => c' == c && rest == []
  | _ => false

def isSpG (r : Res (Store × List (BitVec 8) × GoErr)) (c : Content) : Bool :=
  match r with
  | .ok (.sp c', rest, err) => c' == c && rest == [] && err == GoErr.nil
  | _ => false

theorem isSp_eq (r : Option (Except SkErr (Store × Bytes))) (c : Content) (h : isSp r c = true) :
    r = some (.ok (.sp c, [])) := by
  unfold isSp at h
  split at h
  · simp only [Bool.and_eq_true, beq_iff_eq] at h
    rw [h.1, h.2]
  · cases h

theorem isSpG_eq (r : Res (Store × List (BitVec 8) × GoErr)) (c : Content) (h : isSpG r c = true) :
    r = .ok (.sp c, [], GoErr.nil) := by
  unfold isSpG at h
  split at h
  · simp only [Bool.and_eq_true, beq_iff_eq] at h
    rw [h.1.1, h.1.2, h.2]
  · cases h

/-- **the wrap-around counterexample** (evaluated by the kernel): on `wrapInput` the model adds the bins
    `2^62` and `2^63`, the generated Go code the bins `2^62` and `-2^63`; `NoWrap` fails, as it must. -/
theorem wrap_counterexample :
    decodeStore (Store.sp []) Consts.binEncodingIndexDeltas (nb wrapInput)
      = some (.ok (Store.sp [(2 ^ 62, 1), (2 ^ 63, 1)], [])) ∧
    DecodeAndMergeWith 28 (Store.sp []) wrapInput (subflag Consts.binEncodingIndexDeltas)
      = .ok (Store.sp [(-2 ^ 63, 1), (2 ^ 62, 1)], [], GoErr.nil) ∧
    storeIndexes Consts.binEncodingIndexDeltas (nb wrapInput) = [2 ^ 62, 2 ^ 63] ∧
    ¬ NoWrap Consts.binEncodingIndexDeltas (nb wrapInput) := by
  have htr : storeIndexes Consts.binEncodingIndexDeltas (nb wrapInput) = [2 ^ 62, 2 ^ 63] := by
    decide +kernel
  refine ⟨isSp_eq _ _ (by decide +kernel), isSpG_eq _ _ (by decide +kernel), htr, ?_⟩
  intro hw
  have := (hw (2 ^ 63) (by rw [htr]; simp)).2
  omega

/-- the two resulting stores are different stores (maximum index `2^63` — not even an `int` of Go — against
    `2^62`) -/
theorem wrap_counterexample_stores_differ :
    (Store.sp [(2 ^ 62, 1), (2 ^ 63, 1)]).maxIndex? = some (2 ^ 63) ∧
    (Store.sp [(-2 ^ 63, 1), (2 ^ 62, 1)]).maxIndex? = some (2 ^ 62) ∧
    (Store.sp [(-2 ^ 63, 1), (2 ^ 62, 1)]).minIndex? = some (-2 ^ 63) := by
  refine ⟨rfl, rfl, rfl⟩

/-! ### an observation on the error path (no disagreement: the model's error carries no store)

  When the input ends inside a payload, the bins read before the cut HAVE ALREADY been merged into the Go
  store (a pointer receiver): the `s'` of `DecodeAndMergeWith_error` is in general not the store the call
  started with.  Example: 2 bins announced, one delta `5` present. -/

theorem eof_after_partial_merge_example :
    decodeStore (Store.sp []) Consts.binEncodingIndexDeltas (nb [2#8, 10#8]) = some (.error .eof) ∧
    DecodeAndMergeWith 11 (Store.sp []) [2#8, 10#8] (subflag Consts.binEncodingIndexDeltas)
      = .ok (Store.sp [(5, 1)], [], GoErr.eof) := by
  constructor
  · have h : (match decodeStore (Store.sp []) Consts.binEncodingIndexDeltas (nb [2#8, 10#8]) with
        | some (.error e) => e == SkErr.eof
        | _ => false) = true := by decide +kernel
    split at h
    · rename_i e he
      rw [he, beq_iff_eq.mp h]
    · cases h
  · have h : (match DecodeAndMergeWith 11 (Store.sp []) [2#8, 10#8] (subflag Consts.binEncodingIndexDeltas) with
        | .ok (.sp c', rest, err) => c' == [(5, 1)] && rest == [] && err == GoErr.eof
        | _ => false) = true := by decide +kernel
    split at h
    · rename_i c' rest err he
      simp only [Bool.and_eq_true, beq_iff_eq] at h
      rw [he, h.1.1, h.1.2, h.2]
    · cases h

end DDS.GenStoreDecode
