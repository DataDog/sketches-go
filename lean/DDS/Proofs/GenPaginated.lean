/-
  DDS.Proofs.GenPaginated — the proof files of the regenerated buffered-paginated store under one import; it holds no
  declaration.  The interface hypotheses of DDS/Proofs/GenPagDefs.lean are proved as `page_spec` (GenPagBase) and
  `compactSpec`, `addSpec`, `addWithCountSpec` (end of GenPagAdd); the theorems of GenPagIter and GenPagCodec that take
  them as hypotheses are applied to these proofs by their users (`Props/C04GenPag`, `Props/C06GenPag`, `GenPagSketch`).
-/
import DDS.Proofs.GenPagBase
import DDS.Proofs.GenPagRead
import DDS.Proofs.GenPagIter
import DDS.Proofs.GenPagAdd
import DDS.Proofs.GenPagCodec

namespace DDS.GenPag
end DDS.GenPag
