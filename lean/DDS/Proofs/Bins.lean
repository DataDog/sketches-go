/-
  DDS.Proofs.Bins — machine-checked lemmas about the SPEC stratum `DDS.Content`
  (core Lean only).

  A. Sorted lists and the two canonical forms: `WF` (increasing keys, positive weights) and the weak
     form `NZ` (increasing keys, non-zero weights) that `add` keeps from weights of any sign.
  B. Every weight read off a content — `lookup` (one key), `total` (all keys), `cumul` (the keys up
     to `k`) — is an instance of `wsum P` (the keys satisfying `P`).  Sign facts ask for non-negative
     weights only (`WF.nonneg` gives them).
  C. What `add`, `merge`, `scale`, `ofList` do to a weight is proved once, for `wsum`.
  D. Equalities between canonical contents go through `ext` (equal lookups) and these equations;
     `ext` is the positive-weight case of `ext_nz`, whence the order of a merge never matters
     (`merge_perm`).
  E. Extreme keys, and the rank search: a hit of `firstExceeding` on a weakly sorted list with
     non-negative weights brackets the rank between two cumulative weights (`firstExceeding_some`),
     so the search depends only on the cumulative weights (`firstExceeding_congr`) and `keyAtRank`
     is the least index whose cumulative weight exceeds the rank (`keyAtRank_least`), which
     determines it (`keyAtRank_eq_of_least`).
  F. `relabel`; under a monotone relabelling of the keys (`foldLow`, `foldHigh`, `Clamp.key`) the
     extremes and the answer of `keyAtRank` are relabelled (`keyAtRank_relabel`); the clamped specs
     `specLow`, `specHigh` and the laws they share with "no clamping" (`Clamp`).
-/
import DDS.Model.Bins

namespace DDS

/-! ## order facts on `Rat` used throughout -/

theorem rat_le_add {a b : Rat} (hb : 0 ≤ b) : a ≤ a + b := by
  have := (Rat.add_le_add_left (c := a)).2 hb
  rwa [Rat.add_zero] at this

theorem rat_add_pos_left {a b : Rat} (ha : 0 < a) (hb : 0 ≤ b) : 0 < a + b :=
  Std.lt_of_lt_of_le ha (rat_le_add hb)

theorem rat_add_pos_right {a b : Rat} (ha : 0 ≤ a) (hb : 0 < b) : 0 < a + b :=
  Rat.add_comm b a ▸ rat_add_pos_left hb ha

theorem rat_add_le_add {a b c d : Rat} (h₁ : a ≤ b) (h₂ : c ≤ d) : a + c ≤ b + d :=
  Rat.le_trans (Rat.add_le_add_right.2 h₁) (Rat.add_le_add_left.2 h₂)

theorem clamp_nonneg (r : Rat) : (0 : Rat) ≤ if r < 0 then 0 else r := by
  split
  · exact Rat.le_refl
  · exact Rat.not_lt.1 ‹_›

theorem ite_iff {α : Sort _} {p q : Prop} [Decidable p] [Decidable q] (h : p ↔ q) (x y : α) :
    (if p then x else y) = if q then x else y :=
  ite_congr (propext h) (fun _ => rfl) (fun _ => rfl)

/-- a monadic fold of a partial step succeeds, and stays related to the fold of a total step, when every
    single step on an element of the list does -/
theorem foldlM_sim {σ α β : Type} {step : σ → α → Option σ} {spec : β → α → β} {R : σ → β → Prop}
    (l : List α) (h : ∀ a ∈ l, ∀ s b, R s b → ∃ s', step s a = some s' ∧ R s' (spec b a))
    {s : σ} {b : β} (hR : R s b) : ∃ s', l.foldlM step s = some s' ∧ R s' (l.foldl spec b) := by
  induction l generalizing s b with
  | nil => exact ⟨s, rfl, hR⟩
  | cons a l ih =>
    obtain ⟨s₁, h1, hR₁⟩ := h a (List.mem_cons_self ..) s b hR
    obtain ⟨s', h2, hR'⟩ := ih (fun x hx => h x (List.mem_cons_of_mem _ hx)) hR₁
    exact ⟨s', by rw [List.foldlM_cons, h1]; exact h2, hR'⟩

namespace Content

/-! ## A. sorted lists; the canonical forms `WF` and `NZ` -/

@[simp] theorem sorted_nil : Sorted [] := trivial

@[simp] theorem sorted_singleton (p : Int × Rat) : Sorted [p] := trivial

theorem sorted_cons_cons (p q : Int × Rat) (rest : Content) :
    Sorted (p :: q :: rest) ↔ p.1 < q.1 ∧ Sorted (q :: rest) := Iff.rfl

/-- the workable form of `Sorted`: the head key is below every later key -/
theorem sorted_cons (p : Int × Rat) (rest : Content) :
    Sorted (p :: rest) ↔ (∀ q ∈ rest, p.1 < q.1) ∧ Sorted rest := by
  induction rest generalizing p with
  | nil => exact ⟨fun _ => ⟨fun _ h => (nomatch h), trivial⟩, fun _ => trivial⟩
  | cons q r ih =>
    rw [sorted_cons_cons, ih q, List.forall_mem_cons]
    exact ⟨fun ⟨h1, h2, h3⟩ => ⟨⟨h1, fun x hx => Int.lt_trans h1 (h2 x hx)⟩, h2, h3⟩,
      fun ⟨h1, h2⟩ => ⟨h1.1, h2⟩⟩

theorem Sorted.tail {p : Int × Rat} {rest : Content} (h : Sorted (p :: rest)) : Sorted rest :=
  ((sorted_cons p rest).1 h).2

theorem Sorted.head_lt {p : Int × Rat} {rest : Content} (h : Sorted (p :: rest)) :
    ∀ q ∈ rest, p.1 < q.1 := ((sorted_cons p rest).1 h).1

theorem sorted_iff_pairwise (m : Content) : Sorted m ↔ m.Pairwise (fun a b => a.1 < b.1) := by
  induction m with
  | nil => simp
  | cons p rest ih => rw [sorted_cons, List.pairwise_cons, ih]

theorem eq_of_perm_sorted {a b : Content} (hp : a.Perm b) (ha : a.Sorted) (hb : b.Sorted) : a = b :=
  List.Perm.eq_of_pairwise (le := fun x y => x.1 < y.1)
    (fun x y _ _ h1 h2 => by omega) ((sorted_iff_pairwise a).1 ha) ((sorted_iff_pairwise b).1 hb) hp

theorem length_le_of_sorted_range (c : Content) (h : Sorted c) (lo : Int) (n : Nat)
    (hr : ∀ p ∈ c, lo ≤ p.1 ∧ p.1 < lo + (n : Int)) : c.length ≤ n := by
  induction c generalizing lo n with
  | nil => exact Nat.zero_le _
  | cons p rest ih =>
    rw [List.forall_mem_cons] at hr
    have := ih h.tail (lo + 1) (n - 1) fun q hq => by
      have := h.head_lt q hq
      have := hr.2 q hq
      omega
    rw [List.length_cons]
    omega

theorem WF.tail {p : Int × Rat} {rest : Content} (h : WF (p :: rest)) : WF rest :=
  ⟨h.1.tail, fun q hq => h.2 q (List.mem_cons_of_mem _ hq)⟩

@[simp] theorem wf_nil : WF [] := ⟨trivial, fun _ h => nomatch h⟩

theorem wf_cons (p : Int × Rat) (rest : Content) :
    WF (p :: rest) ↔ 0 < p.2 ∧ (∀ q ∈ rest, p.1 < q.1) ∧ WF rest := by
  rw [WF, WF, sorted_cons, List.forall_mem_cons]
  exact ⟨fun ⟨⟨h1, h2⟩, h3, h4⟩ => ⟨h3, h1, h2, h4⟩, fun ⟨h3, h1, h2, h4⟩ => ⟨⟨h1, h2⟩, h3, h4⟩⟩

theorem wf_iff (m : Content) :
    WF m ↔ m.Pairwise (fun a b => a.1 < b.1) ∧ ∀ p ∈ m, 0 < p.2 := by
  unfold WF; rw [sorted_iff_pairwise]

theorem nonneg_of_pos {m : Content} (h : ∀ p ∈ m, 0 < p.2) : ∀ p ∈ m, 0 ≤ p.2 :=
  fun p hp => Rat.le_of_lt (h p hp)

theorem WF.nonneg {m : Content} (h : WF m) : ∀ p ∈ m, 0 ≤ p.2 := nonneg_of_pos h.2

/-! ### weak canonical form: what `add` guarantees from weights of any sign; extensional without positivity -/

def NZ (m : Content) : Prop := Sorted m ∧ ∀ p ∈ m, p.2 ≠ 0

theorem nz_nil : NZ [] := ⟨trivial, by simp⟩

theorem nz_of_wf {m : Content} (h : WF m) : NZ m := ⟨h.1, fun p hp => Rat.ne_of_gt (h.2 p hp)⟩

theorem nz_cons (p : Int × Rat) (rest : Content) :
    NZ (p :: rest) ↔ p.2 ≠ 0 ∧ (∀ q ∈ rest, p.1 < q.1) ∧ NZ rest := by
  simp only [NZ, sorted_cons, List.mem_cons, forall_eq_or_imp]
  constructor
  · rintro ⟨⟨h1, h2⟩, h3, h4⟩; exact ⟨h3, h1, h2, h4⟩
  · rintro ⟨h3, h1, h2, h4⟩; exact ⟨⟨h1, h2⟩, h3, h4⟩

/-! ## B. `wsum P`, the weight on the keys satisfying `P`; its instances `lookup`, `total`, `cumul` -/

@[simp] theorem lookup_nil (j : Int) : lookup [] j = 0 := rfl

@[simp] theorem lookup_cons (p : Int × Rat) (rest : Content) (j : Int) :
    lookup (p :: rest) j = (if p.1 = j then p.2 else 0) + lookup rest j := by
  rw [lookup]
  split
  · rfl
  · exact (Rat.zero_add _).symm

@[simp] theorem total_nil : total [] = 0 := rfl

@[simp] theorem total_cons (p : Int × Rat) (rest : Content) :
    total (p :: rest) = p.2 + total rest := rfl

/-- total weight carried by the keys satisfying `P` (no assumption on the list) -/
def wsum (P : Int → Bool) (m : Content) : Rat := ((m.filter (fun p => P p.1)).map (·.2)).sum

@[simp] theorem wsum_nil (P : Int → Bool) : wsum P [] = 0 := rfl

@[simp] theorem wsum_cons (P : Int → Bool) (p : Int × Rat) (rest : Content) :
    wsum P (p :: rest) = (if P p.1 then p.2 else 0) + wsum P rest := by
  unfold wsum
  rw [List.filter_cons]
  split
  · rfl
  · exact (Rat.zero_add _).symm

/-- cumulative weight: the sum of the weights of the entries with key `≤ k` -/
def cumul : Content → Int → Rat
  | [], _ => 0
  | p :: rest, k => (if p.1 ≤ k then p.2 else 0) + cumul rest k

@[simp] theorem cumul_nil (k : Int) : cumul [] k = 0 := rfl

@[simp] theorem cumul_cons (p : Int × Rat) (rest : Content) (k : Int) :
    cumul (p :: rest) k = (if p.1 ≤ k then p.2 else 0) + cumul rest k := rfl

theorem lookup_eq_wsum (m : Content) (j : Int) : m.lookup j = wsum (fun i => decide (i = j)) m := by
  induction m with
  | nil => rfl
  | cons p rest ih => simp only [lookup_cons, wsum_cons, ih, decide_eq_true_eq]

theorem total_eq_wsum (m : Content) : m.total = wsum (fun _ => true) m := by
  induction m with
  | nil => rfl
  | cons p rest ih => simp only [total_cons, wsum_cons, ih, if_true]

theorem cumul_eq_wsum (m : Content) (k : Int) : cumul m k = wsum (fun i => decide (i ≤ k)) m := by
  induction m with
  | nil => rfl
  | cons p rest ih => simp only [cumul_cons, wsum_cons, ih, decide_eq_true_eq]

theorem total_eq_sum (m : Content) : m.total = (m.map (·.2)).sum := by
  induction m with
  | nil => rfl
  | cons p rest ih => rw [total_cons, ih, List.map_cons, List.sum_cons]

/-! ### appended, re-keyed and permuted lists -/

theorem wsum_append (P : Int → Bool) (a b : Content) : wsum P (a ++ b) = wsum P a + wsum P b := by
  induction a with
  | nil => exact (Rat.zero_add _).symm
  | cons p a ih => rw [List.cons_append, wsum_cons, wsum_cons, ih, Rat.add_assoc]

theorem lookup_append (a b : Content) (j : Int) : lookup (a ++ b) j = lookup a j + lookup b j := by
  simp only [lookup_eq_wsum, wsum_append]

theorem total_append (a b : Content) : total (a ++ b) = total a + total b := by
  simp only [total_eq_wsum, wsum_append]

theorem wsum_map_key (P : Int → Bool) (f : Int → Int) (m : Content) :
    wsum P (m.map (fun p => (f p.1, p.2))) = wsum (fun i => P (f i)) m := by
  induction m with
  | nil => rfl
  | cons p rest ih => simp only [List.map_cons, wsum_cons, ih]

theorem wsum_perm (P : Int → Bool) {l₁ l₂ : List (Int × Rat)} (h : l₁.Perm l₂) : wsum P l₁ = wsum P l₂ := by
  induction h with
  | nil => rfl
  | cons x _ ih => simp only [wsum_cons, ih]
  | swap x y l => simp only [wsum_cons]; grind
  | trans _ _ ih₁ ih₂ => rw [ih₁, ih₂]

theorem lookup_perm {l₁ l₂ : List (Int × Rat)} (h : l₁.Perm l₂) (j : Int) :
    lookup l₁ j = lookup l₂ j := by
  rw [lookup_eq_wsum, lookup_eq_wsum, wsum_perm _ h]

theorem total_perm {l₁ l₂ : List (Int × Rat)} (h : l₁.Perm l₂) : total l₁ = total l₂ := by
  rw [total_eq_wsum, total_eq_wsum, wsum_perm _ h]

/-! ### which keys count -/

theorem wsum_congr_keys {P Q : Int → Bool} (m : Content) (h : ∀ p ∈ m, P p.1 = Q p.1) :
    wsum P m = wsum Q m := by
  induction m with
  | nil => rfl
  | cons q rest ih =>
    rw [List.forall_mem_cons] at h
    rw [wsum_cons, wsum_cons, h.1, ih h.2]

theorem wsum_congr (P Q : Int → Bool) (m : Content) (h : ∀ i, P i = Q i) : wsum P m = wsum Q m :=
  wsum_congr_keys m fun p _ => h p.1

theorem wsum_eq_zero (P : Int → Bool) (m : Content) (h : ∀ p ∈ m, P p.1 = false) : wsum P m = 0 := by
  induction m with
  | nil => rfl
  | cons q rest ih =>
    rw [List.forall_mem_cons] at h
    rw [wsum_cons, h.1, ih h.2]
    exact Rat.add_zero _

theorem wsum_false (m : Content) : wsum (fun _ => false) m = 0 := wsum_eq_zero _ m fun _ _ => rfl

theorem wsum_add_wsum_not (P : Int → Bool) (m : Content) :
    wsum P m + wsum (fun i => !P i) m = wsum (fun _ => true) m := by
  induction m with
  | nil => exact Rat.add_zero 0
  | cons p rest ih =>
    rw [wsum_cons, wsum_cons, wsum_cons, ← ih, if_pos rfl]
    cases P p.1
    · rw [if_neg Bool.false_ne_true, if_pos (by decide), Rat.zero_add, Rat.add_left_comm]
    · rw [if_pos rfl, if_neg (by decide), Rat.zero_add, Rat.add_assoc]

theorem lookup_eq_zero_of_not_mem (m : Content) (j : Int) (h : ∀ p ∈ m, p.1 ≠ j) :
    m.lookup j = 0 :=
  (lookup_eq_wsum m j).trans (wsum_eq_zero _ m fun p hp => decide_eq_false (h p hp))

theorem lookup_eq_zero_of_lt (m : Content) (j : Int) (h : ∀ p ∈ m, j < p.1) : m.lookup j = 0 :=
  lookup_eq_zero_of_not_mem m j (fun p hp => by have := h p hp; omega)

theorem lookup_all_zero (l : List (Int × Rat)) (h : ∀ p ∈ l, p.2 = 0) (j : Int) : lookup l j = 0 := by
  induction l with
  | nil => rfl
  | cons p l ih =>
    have h1 := h p (List.mem_cons_self ..)
    have h2 := ih (fun q hq => h q (List.mem_cons_of_mem _ hq))
    simp only [lookup_cons, h1, h2]; grind

theorem cumul_eq_zero_of_lt (m : Content) (k : Int) (h : ∀ p ∈ m, k < p.1) : cumul m k = 0 :=
  (cumul_eq_wsum m k).trans (wsum_eq_zero _ m fun p hp => decide_eq_false (by have := h p hp; omega))

theorem cumul_eq_total (c : Content) (k : Int) (h : ∀ p ∈ c, p.1 ≤ k) : cumul c k = total c := by
  rw [cumul_eq_wsum, total_eq_wsum]
  exact wsum_congr_keys c fun p hp => decide_eq_true (h p hp)

theorem cumul_step (c : Content) (k : Int) : c.cumul k = c.cumul (k - 1) + c.lookup k := by
  induction c with
  | nil => exact (Rat.add_zero 0).symm
  | cons p rest ih =>
    simp only [cumul_cons, lookup_cons, ih]
    by_cases h1 : p.1 ≤ k - 1
    · rw [if_pos h1, if_pos (by omega), if_neg (by omega), Rat.zero_add, Rat.add_assoc]
    · rw [if_neg h1, Rat.zero_add]
      by_cases h2 : p.1 = k
      · rw [if_pos (by omega), if_pos h2, ← Rat.add_assoc, ← Rat.add_assoc, Rat.add_comm p.2]
      · rw [if_neg (by omega), if_neg h2, Rat.zero_add, Rat.zero_add]

/-! ### non-negative weights -/

theorem wsum_nonneg (P : Int → Bool) (m : Content) (h : ∀ p ∈ m, 0 ≤ p.2) : 0 ≤ wsum P m := by
  induction m with
  | nil => exact Rat.le_refl
  | cons q rest ih =>
    rw [List.forall_mem_cons] at h
    rw [wsum_cons]
    refine Rat.add_nonneg ?_ (ih h.2)
    split
    · exact h.1
    · exact Rat.le_refl

theorem wsum_pos (P : Int → Bool) (m : Content) (h : ∀ p ∈ m, 0 ≤ p.2)
    (hex : ∃ p ∈ m, P p.1 = true ∧ 0 < p.2) : 0 < wsum P m := by
  induction m with
  | nil => obtain ⟨p, hp, _⟩ := hex; nomatch hp
  | cons q rest ih =>
    rw [List.forall_mem_cons] at h
    rw [wsum_cons]
    obtain ⟨p, hp, hP, hpos⟩ := hex
    rcases List.mem_cons.1 hp with rfl | hp
    · rw [if_pos hP]; exact rat_add_pos_left hpos (wsum_nonneg P rest h.2)
    · refine rat_add_pos_right ?_ (ih h.2 ⟨p, hp, hP, hpos⟩)
      split
      · exact h.1
      · exact Rat.le_refl

theorem wsum_mono {P Q : Int → Bool} (m : Content) (h : ∀ p ∈ m, 0 ≤ p.2)
    (hPQ : ∀ i, P i = true → Q i = true) : wsum P m ≤ wsum Q m := by
  induction m with
  | nil => exact Rat.le_refl
  | cons q rest ih =>
    rw [List.forall_mem_cons] at h
    rw [wsum_cons, wsum_cons]
    refine rat_add_le_add ?_ (ih h.2)
    by_cases hP : P q.1 = true
    · rw [if_pos hP, if_pos (hPQ _ hP)]; exact Rat.le_refl
    · rw [if_neg hP]
      split
      · exact h.1
      · exact Rat.le_refl

theorem lookup_nonneg (m : Content) (h : ∀ p ∈ m, 0 ≤ p.2) (j : Int) : 0 ≤ m.lookup j :=
  lookup_eq_wsum m j ▸ wsum_nonneg _ m h

theorem total_nonneg (m : Content) (h : ∀ p ∈ m, 0 ≤ p.2) : 0 ≤ m.total :=
  total_eq_wsum m ▸ wsum_nonneg _ m h

theorem total_pos (m : Content) (h : ∀ p ∈ m, 0 < p.2) (hne : m ≠ []) : 0 < m.total := by
  obtain ⟨p, hp⟩ := List.exists_mem_of_ne_nil m hne
  exact total_eq_wsum m ▸ wsum_pos _ m (nonneg_of_pos h) ⟨p, hp, rfl, h p hp⟩

theorem isEmpty_iff_total_zero (m : Content) (h : WF m) : m.isEmpty = true ↔ m.total = 0 := by
  cases m with
  | nil => exact ⟨fun _ => rfl, fun _ => rfl⟩
  | cons p rest =>
    exact ⟨fun h' => (nomatch h'),
      fun h' => absurd h' (Rat.ne_of_gt (total_pos _ h.2 (List.cons_ne_nil _ _)))⟩

theorem cumul_nonneg (c : Content) (h : ∀ p ∈ c, 0 ≤ p.2) (k : Int) : 0 ≤ cumul c k :=
  cumul_eq_wsum c k ▸ wsum_nonneg _ c h

theorem cumul_le_total (c : Content) (h : ∀ p ∈ c, 0 ≤ p.2) (k : Int) : cumul c k ≤ total c := by
  rw [cumul_eq_wsum, total_eq_wsum]
  exact wsum_mono c h fun _ _ => rfl

theorem cumul_mono (c : Content) (h : ∀ p ∈ c, 0 ≤ p.2) (j k : Int) (hjk : j ≤ k) :
    cumul c j ≤ cumul c k := by
  rw [cumul_eq_wsum, cumul_eq_wsum]
  exact wsum_mono c h fun i hi => decide_eq_true (Int.le_trans (of_decide_eq_true hi) hjk)

/-! ### sorted lists: the entries are the non-zero lookups -/

theorem lookup_of_mem_sorted (m : Content) (h : Sorted m) (p : Int × Rat) (hp : p ∈ m) :
    m.lookup p.1 = p.2 := by
  induction m with
  | nil => nomatch hp
  | cons q rest ih =>
    have hlt := h.head_lt
    rw [lookup_cons]
    rcases List.mem_cons.1 hp with rfl | hp
    · rw [if_pos rfl, lookup_eq_zero_of_lt rest p.1 hlt, Rat.add_zero]
    · rw [if_neg (by have := hlt p hp; omega), ih h.tail hp, Rat.zero_add]

theorem eq_of_key_eq {m : Content} (h : m.Sorted) {p q : Int × Rat} (hp : p ∈ m) (hq : q ∈ m)
    (hk : p.1 = q.1) : p = q := by
  have h1 := lookup_of_mem_sorted m h p hp
  have h2 := lookup_of_mem_sorted m h q hq
  rw [hk, h2] at h1
  exact Prod.ext hk h1.symm

theorem lookup_pos_iff (m : Content) (h : WF m) (j : Int) :
    0 < m.lookup j ↔ ∃ w, (j, w) ∈ m := by
  constructor
  · intro hj
    apply Classical.byContradiction
    intro hn
    rw [lookup_eq_zero_of_not_mem m j fun p hp hpj => hn ⟨p.2, hpj ▸ hp⟩] at hj
    exact Rat.lt_irrefl hj
  · rintro ⟨w, hw⟩
    rw [lookup_of_mem_sorted m h.1 _ hw]
    exact h.2 _ hw

/-! ## C. the operations, through `wsum` -/

/-! ### `add` -/

theorem add_nil (i : Int) (w : Rat) : add [] i w = if w = 0 then [] else [(i, w)] := rfl

theorem add_cons (p : Int × Rat) (rest : Content) (i : Int) (w : Rat) :
    add (p :: rest) i w =
      if w = 0 then p :: rest
      else if i < p.1 then (i, w) :: p :: rest
      else if i = p.1 then (if p.2 + w = 0 then rest else (p.1, p.2 + w) :: rest)
      else p :: add rest i w := rfl

@[simp] theorem add_zero_weight (m : Content) (i : Int) : m.add i 0 = m := by
  cases m with
  | nil => rfl
  | cons p rest => rw [add_cons, if_pos rfl]

theorem wsum_cons_add (P : Int → Bool) (i : Int) (c w : Rat) (rest : Content) :
    wsum P ((i, c + w) :: rest) = wsum P ((i, c) :: rest) + if P i then w else 0 := by
  simp only [wsum_cons]
  split
  · rw [Rat.add_assoc, Rat.add_assoc, Rat.add_comm w]
  · exact (Rat.add_zero _).symm

theorem wsum_add (P : Int → Bool) (m : Content) (i : Int) (w : Rat) :
    wsum P (m.add i w) = wsum P m + (if P i then w else 0) := by
  fun_induction add m i w with
  | case1 | case3 => rw [ite_self, Rat.add_zero]
  | case2 => rw [wsum_cons, wsum_nil, Rat.add_zero, Rat.zero_add]
  | case4 => rw [wsum_cons, Rat.add_comm]
  | case5 c rest i w _ hc => rw [← wsum_cons_add, hc, wsum_cons, ite_self, Rat.zero_add]
  | case6 => exact wsum_cons_add ..
  | case7 k c rest i w _ _ _ ih => rw [wsum_cons, ih, wsum_cons, Rat.add_assoc]

theorem lookup_add (m : Content) (i : Int) (w : Rat) (j : Int) :
    (m.add i w).lookup j = m.lookup j + (if j = i then w else 0) := by
  rw [lookup_eq_wsum, wsum_add, ← lookup_eq_wsum]
  exact congrArg _ (ite_iff (decide_eq_true_iff.trans eq_comm) _ _)

theorem total_add (m : Content) (i : Int) (w : Rat) : (m.add i w).total = m.total + w := by
  rw [total_eq_wsum, wsum_add, ← total_eq_wsum, if_pos rfl]

theorem cumul_add (m : Content) (i : Int) (w : Rat) (k : Int) :
    cumul (m.add i w) k = cumul m k + if i ≤ k then w else 0 := by
  rw [cumul_eq_wsum, cumul_eq_wsum, wsum_add]
  exact congrArg _ (ite_iff decide_eq_true_iff _ _)

/-- what the entries of `m.add i w` are: the old ones, and at most one new one, at key `i`, whose
    weight is not 0 and is `w` or `c + w` for an old entry `(i, c)` -/
theorem mem_add_weight {m : Content} {i : Int} {w : Rat} {p : Int × Rat} (hp : p ∈ m.add i w) :
    p ∈ m ∨ p.1 = i ∧ p.2 ≠ 0 ∧ (p.2 = w ∨ ∃ c, (i, c) ∈ m ∧ p.2 = c + w) := by
  fun_induction add m i w with
  | case1 | case3 => exact .inl hp
  | case2 i w hw0 => exact .inr (List.mem_singleton.1 hp ▸ ⟨rfl, hw0, .inl rfl⟩)
  | case4 k c rest i w hw0 =>
    exact (List.mem_cons.1 hp).elim (fun e => .inr (e ▸ ⟨rfl, hw0, .inl rfl⟩)) .inl
  | case5 => exact .inl (List.mem_cons_of_mem _ hp)
  | case6 c rest i w _ hne =>
    exact (List.mem_cons.1 hp).elim
      (fun e => .inr (e ▸ ⟨rfl, hne, .inr ⟨c, List.mem_cons_self .., rfl⟩⟩))
      (.inl ∘ List.mem_cons_of_mem _)
  | case7 k c rest i w _ _ _ ih =>
    rcases List.mem_cons.1 hp with rfl | hp
    · exact .inl (List.mem_cons_self ..)
    · exact (ih hp).imp (List.mem_cons_of_mem _) fun ⟨h1, h2, h3⟩ =>
        ⟨h1, h2, h3.imp_right fun ⟨c', hc', e⟩ => ⟨c', List.mem_cons_of_mem _ hc', e⟩⟩

theorem mem_add {m : Content} {i : Int} {w : Rat} {p : Int × Rat} (hp : p ∈ m.add i w) :
    p ∈ m ∨ p.1 = i := (mem_add_weight hp).imp_right And.left

theorem sorted_add (m : Content) (i : Int) (w : Rat) (h : Sorted m) : Sorted (m.add i w) := by
  fun_induction add m i w with
  | case1 | case2 => trivial
  | case3 => exact h
  | case4 k c rest i w _ hlt => exact (sorted_cons_cons ..).2 ⟨hlt, h⟩
  | case5 => exact h.tail
  | case6 c rest i w => exact (sorted_cons ..).2 ((sorted_cons (i, c) rest).1 h)
  | case7 k c rest i w _ hlt hne ih =>
    refine (sorted_cons ..).2 ⟨fun q hq => ?_, ih h.tail⟩
    rcases mem_add hq with hq | hq
    · exact h.head_lt q hq
    · show k < q.1; omega

theorem pos_add (m : Content) (i : Int) (w : Rat) (h : ∀ p ∈ m, 0 < p.2) (hw : 0 ≤ w) :
    ∀ p ∈ m.add i w, 0 < p.2 := fun p hp => by
  rcases mem_add_weight hp with hp | ⟨_, h0, e | ⟨c, hc, e⟩⟩
  · exact h p hp
  · exact Rat.lt_of_le_of_ne (e ▸ hw) (Ne.symm h0)
  · exact e ▸ rat_add_pos_left (h _ hc) hw

theorem wf_add (m : Content) (i : Int) (w : Rat) (h : WF m) (hw : 0 ≤ w) : WF (m.add i w) :=
  ⟨sorted_add m i w h.1, pos_add m i w h.2 hw⟩

theorem nonzero_add (m : Content) (i : Int) (w : Rat) (h : ∀ p ∈ m, p.2 ≠ 0) :
    ∀ p ∈ m.add i w, p.2 ≠ 0 := fun p hp => (mem_add_weight hp).elim (h p) (·.2.1)

theorem nz_add (m : Content) (i : Int) (w : Rat) (h : NZ m) : NZ (m.add i w) :=
  ⟨sorted_add m i w h.1, nonzero_add m i w h.2⟩

theorem add_append_of_lt (pre m : Content) (i : Int) (w : Rat) (h : ∀ p ∈ pre, p.1 < i) :
    add (pre ++ m) i w = pre ++ add m i w := by
  by_cases hw : w = 0
  · rw [hw, add_zero_weight, add_zero_weight]
  induction pre with
  | nil => rfl
  | cons q pre ih =>
    have hq := h q (List.mem_cons_self ..)
    rw [List.cons_append, add_cons, if_neg hw, if_neg (by omega), if_neg (by omega),
      ih fun p hp => h p (List.mem_cons_of_mem _ hp)]
    rfl

/-! ### `merge` -/

@[simp] theorem merge_nil_right (a : Content) : a.merge [] = a := rfl

theorem merge_cons (a : Content) (p : Int × Rat) (b : Content) :
    a.merge (p :: b) = (a.add p.1 p.2).merge b := rfl

theorem add_eq_merge_singleton (m : Content) (i : Int) (w : Rat) : m.add i w = m.merge [(i, w)] :=
  rfl

theorem merge_append (a : Content) (l₁ l₂ : List (Int × Rat)) :
    a.merge (l₁ ++ l₂) = (a.merge l₁).merge l₂ := by
  unfold merge; rw [List.foldl_append]

theorem wsum_merge (P : Int → Bool) (a b : Content) :
    wsum P (a.merge b) = wsum P a + wsum P b := by
  induction b generalizing a with
  | nil => exact (Rat.add_zero _).symm
  | cons p b ih => rw [merge_cons, ih, wsum_add, wsum_cons, Rat.add_assoc]

@[simp] theorem lookup_merge (a b : Content) (j : Int) :
    (a.merge b).lookup j = a.lookup j + b.lookup j := by
  simp only [lookup_eq_wsum, wsum_merge]

@[simp] theorem total_merge (a b : Content) : (a.merge b).total = a.total + b.total := by
  simp only [total_eq_wsum, wsum_merge]

theorem cumul_merge (a b : Content) (k : Int) : cumul (a.merge b) k = cumul a k + cumul b k := by
  simp only [cumul_eq_wsum, wsum_merge]

theorem mem_merge {a b : Content} {p : Int × Rat} (hp : p ∈ a.merge b) :
    p ∈ a ∨ ∃ q ∈ b, q.1 = p.1 := by
  induction b generalizing a with
  | nil => exact Or.inl hp
  | cons q b ih =>
    rcases ih hp with h | ⟨x, hx, hxp⟩
    · exact (mem_add h).imp_right fun h => ⟨q, List.mem_cons_self .., h.symm⟩
    · exact Or.inr ⟨x, List.mem_cons_of_mem _ hx, hxp⟩

theorem wf_merge_of_nonneg (a b : Content) (ha : WF a) (hb : ∀ p ∈ b, 0 ≤ p.2) :
    WF (a.merge b) := by
  induction b generalizing a with
  | nil => exact ha
  | cons q b ih =>
    rw [List.forall_mem_cons] at hb
    exact ih _ (wf_add a q.1 q.2 ha hb.1) hb.2

theorem wf_merge (a b : Content) (ha : WF a) (hb : WF b) : WF (a.merge b) :=
  wf_merge_of_nonneg a b ha hb.nonneg

theorem nz_merge (a : Content) (l : List (Int × Rat)) (h : NZ a) : NZ (a.merge l) := by
  induction l generalizing a with
  | nil => exact h
  | cons q l ih => rw [merge_cons]; exact ih _ (nz_add a q.1 q.2 h)

theorem merge_append_of_lt (pre m l : Content) (h : ∀ p ∈ pre, ∀ q ∈ l, p.1 < q.1) :
    merge (pre ++ m) l = pre ++ merge m l := by
  induction l generalizing m with
  | nil => rfl
  | cons q l ih =>
    rw [merge_cons, merge_cons, add_append_of_lt pre m q.1 q.2 fun p hp => h p hp q (List.mem_cons_self ..),
      ih _ fun p hp q' hq' => h p hp q' (List.mem_cons_of_mem _ hq')]

/-! ### `scale` -/

@[simp] theorem scale_nil (w : Rat) : scale [] w = [] := rfl

@[simp] theorem scale_cons (p : Int × Rat) (rest : Content) (w : Rat) :
    scale (p :: rest) w = (p.1, p.2 * w) :: scale rest w := rfl

theorem scale_one (c : Content) : c.scale 1 = c := by
  unfold scale
  conv => rhs; rw [← List.map_id c]
  apply List.map_congr_left
  intro p _
  simp [Rat.mul_one]

theorem mem_scale {m : Content} {w : Rat} {q : Int × Rat} (hq : q ∈ m.scale w) :
    ∃ p ∈ m, q = (p.1, p.2 * w) := by
  obtain ⟨p, hp, rfl⟩ := List.mem_map.1 hq
  exact ⟨p, hp, rfl⟩

theorem wsum_scale (P : Int → Bool) (m : Content) (w : Rat) :
    wsum P (m.scale w) = wsum P m * w := by
  induction m with
  | nil => exact (Rat.zero_mul w).symm
  | cons p rest ih =>
    simp only [scale_cons, wsum_cons, ih, Rat.add_mul]
    split
    · rfl
    · rw [Rat.zero_mul]

@[simp] theorem lookup_scale (m : Content) (w : Rat) (j : Int) :
    (m.scale w).lookup j = m.lookup j * w := by
  simp only [lookup_eq_wsum, wsum_scale]

@[simp] theorem total_scale (m : Content) (w : Rat) : (m.scale w).total = m.total * w := by
  simp only [total_eq_wsum, wsum_scale]

theorem cumul_scale (m : Content) (w : Rat) (k : Int) : cumul (m.scale w) k = cumul m k * w := by
  simp only [cumul_eq_wsum, wsum_scale]

theorem sorted_scale (m : Content) (w : Rat) (h : Sorted m) : Sorted (m.scale w) := by
  induction m with
  | nil => trivial
  | cons p rest ih =>
    refine (sorted_cons ..).2 ⟨fun q hq => ?_, ih h.tail⟩
    obtain ⟨x, hx, rfl⟩ := mem_scale hq
    exact h.head_lt x hx

theorem wf_scale (m : Content) (w : Rat) (h : WF m) (hw : 0 < w) : WF (m.scale w) := by
  refine ⟨sorted_scale m w h.1, fun q hq => ?_⟩
  obtain ⟨x, hx, rfl⟩ := mem_scale hq
  exact Rat.mul_pos (h.2 x hx) hw

/-! ### `ofList`: a list of bins (what `ForEach` hands over), canonicalised -/

theorem wsum_ofList (P : Int → Bool) (l : List (Int × Rat)) : wsum P (ofList l) = wsum P l :=
  (wsum_merge P [] l).trans (Rat.zero_add _)

theorem wf_ofList (l : List (Int × Rat)) (hl : ∀ p ∈ l, 0 ≤ p.2) : WF (ofList l) :=
  wf_merge_of_nonneg [] l wf_nil hl

theorem lookup_ofList (l : List (Int × Rat)) (j : Int) : (ofList l).lookup j = lookup l j := by
  simp only [lookup_eq_wsum, wsum_ofList]

theorem total_ofList (l : List (Int × Rat)) : (ofList l).total = total l := by
  simp only [total_eq_wsum, wsum_ofList]

theorem cumul_ofList (l : List (Int × Rat)) (k : Int) : (ofList l).cumul k = cumul l k := by
  simp only [cumul_eq_wsum, wsum_ofList]

theorem mem_ofList {l : List (Int × Rat)} {p : Int × Rat} (hp : p ∈ ofList l) :
    ∃ q ∈ l, q.1 = p.1 :=
  (mem_merge (a := []) hp).resolve_left (fun h => nomatch h)

/-! ## D. extensionality: a canonical content is known by its lookups -/

theorem ext_nz (a b : Content) (ha : NZ a) (hb : NZ b) (h : ∀ j, a.lookup j = b.lookup j) :
    a = b := by
  -- the first key of one list cannot lie below every key of the other
  have key : ∀ (p : Int × Rat) (ra b : Content), NZ (p :: ra) → (∀ q ∈ b, p.1 < q.1) →
      (∀ j, lookup (p :: ra) j = lookup b j) → False := fun p ra b ha hlt h =>
    ha.2 p (List.mem_cons_self ..) (by
      rw [← lookup_of_mem_sorted _ ha.1 p (List.mem_cons_self ..), h, lookup_eq_zero_of_lt b p.1 hlt])
  induction a generalizing b with
  | nil =>
    cases b with
    | nil => rfl
    | cons q rb => exact (key q rb [] hb (fun _ hq => nomatch hq) (fun j => (h j).symm)).elim
  | cons p ra ih =>
    cases b with
    | nil => exact (key p ra [] ha (fun _ hq => nomatch hq) h).elim
    | cons q rb =>
      obtain ⟨hp, hpl, hra⟩ := (nz_cons p ra).1 ha
      obtain ⟨hq, hql, hrb⟩ := (nz_cons q rb).1 hb
      have hk : p.1 = q.1 := by
        rcases Int.lt_trichotomy p.1 q.1 with hlt | heq | hgt
        · refine (key p ra _ ha (fun x hx => ?_) h).elim
          rcases List.mem_cons.1 hx with rfl | hx
          · exact hlt
          · exact Int.lt_trans hlt (hql x hx)
        · exact heq
        · refine (key q rb _ hb (fun x hx => ?_) (fun j => (h j).symm)).elim
          rcases List.mem_cons.1 hx with rfl | hx
          · exact hgt
          · exact Int.lt_trans hgt (hpl x hx)
      have hpq : p = q := Prod.ext hk (by
        rw [← lookup_of_mem_sorted _ ha.1 p (List.mem_cons_self ..), h, hk,
          lookup_of_mem_sorted _ hb.1 q (List.mem_cons_self ..)])
      subst hpq
      exact congrArg (p :: ·) (ih rb hra hrb fun j => Rat.add_left_cancel _ (by
        have := h j; rwa [lookup_cons, lookup_cons] at this))

theorem ext (a b : Content) (ha : WF a) (hb : WF b) (h : ∀ j, a.lookup j = b.lookup j) :
    a = b :=
  ext_nz a b (nz_of_wf ha) (nz_of_wf hb) h

/-- merging the same multiset of `(index, weight)` pairs — of ANY sign — in a different order yields
    the same content, from any start in weak canonical form -/
theorem merge_perm (a : Content) (ha : NZ a) {l₁ l₂ : List (Int × Rat)} (h : l₁.Perm l₂) :
    a.merge l₁ = a.merge l₂ :=
  ext_nz _ _ (nz_merge a l₁ ha) (nz_merge a l₂ ha) fun j => by
    rw [lookup_merge, lookup_merge, lookup_perm h j]

theorem foldl_add_perm (a : Content) (ha : a.WF) {l₁ l₂ : List (Int × Rat)} (h : l₁.Perm l₂)
    (h₁ : ∀ p ∈ l₁, 0 ≤ p.2) :
    l₁.foldl (fun acc p => acc.add p.1 p.2) a = l₂.foldl (fun acc p => acc.add p.1 p.2) a :=
  -- the sign of the weights plays no part
  merge_perm a (nz_of_wf ha) h

theorem merge_comm (a b : Content) (ha : WF a) (hb : WF b) : a.merge b = b.merge a :=
  ext _ _ (wf_merge a b ha hb) (wf_merge b a hb ha) fun j => by
    rw [lookup_merge, lookup_merge, Rat.add_comm]

theorem merge_assoc (a b c : Content) (ha : WF a) (hb : WF b) (hc : WF c) :
    (a.merge b).merge c = a.merge (b.merge c) :=
  ext _ _ (wf_merge _ c (wf_merge a b ha hb) hc) (wf_merge a _ ha (wf_merge b c hb hc)) fun j => by
    simp only [lookup_merge, Rat.add_assoc]

theorem merge_nil_left (a : Content) (ha : WF a) : Content.merge [] a = a :=
  ext _ _ (wf_merge [] a wf_nil ha) ha fun j => by rw [lookup_merge, lookup_nil, Rat.zero_add]

theorem ofList_of_wf (l : Content) (h : WF l) : ofList l = l := merge_nil_left l h

theorem scale_add (m : Content) (i : Int) (c w : Rat) (h : WF m) (hc : 0 ≤ c) (hw : 0 < w) :
    (m.add i c).scale w = (m.scale w).add i (c * w) :=
  ext _ _ (wf_scale _ w (wf_add m i c h hc) hw)
    (wf_add _ i _ (wf_scale m w h hw) (Rat.mul_nonneg hc (Rat.le_of_lt hw))) fun j => by
    rw [lookup_scale, lookup_add, lookup_add, lookup_scale, Rat.add_mul]
    split
    · rfl
    · rw [Rat.zero_mul]

theorem scale_merge (a b : Content) (w : Rat) (ha : WF a) (hb : WF b) (hw : 0 < w) :
    (a.merge b).scale w = (a.scale w).merge (b.scale w) :=
  ext _ _ (wf_scale _ w (wf_merge a b ha hb) hw)
    (wf_merge _ _ (wf_scale a w ha hw) (wf_scale b w hb hw)) fun j => by
    simp only [lookup_scale, lookup_merge, Rat.add_mul]

/-- canonicalising a list bin by bin, the first bin can be added last -/
theorem ofList_cons (p : Int × Rat) (l : List (Int × Rat)) : ofList (p :: l) = (ofList l).add p.1 p.2 := by
  show Content.merge [] (p :: l) = _
  rw [← merge_perm [] nz_nil (List.perm_append_singleton p l)]
  exact List.foldl_append

theorem merge_ofList (a : Content) (l : List (Int × Rat)) (ha : WF a) (hl : ∀ p ∈ l, 0 ≤ p.2) :
    a.merge (ofList l) = a.merge l :=
  ext _ _ (wf_merge a _ ha (wf_ofList l hl)) (wf_merge_of_nonneg a l ha hl) fun j => by
    rw [lookup_merge, lookup_merge, lookup_ofList]

theorem canon_append (l₁ l₂ : List (Int × Rat)) (h₁ : ∀ p ∈ l₁, 0 ≤ p.2) (h₂ : ∀ p ∈ l₂, 0 ≤ p.2) :
    Content.merge [] (l₁ ++ l₂) = (Content.merge [] l₁).merge (Content.merge [] l₂) :=
  (merge_append [] l₁ l₂).trans (merge_ofList _ l₂ (wf_ofList l₁ h₁) h₂).symm

theorem key_mem_merge (a b : Content) (ha : WF a) (hb : WF b) (k : Int) :
    (∃ w, (k, w) ∈ a.merge b) ↔ (∃ w, (k, w) ∈ a) ∨ (∃ w, (k, w) ∈ b) := by
  rw [← lookup_pos_iff _ (wf_merge a b ha hb), ← lookup_pos_iff _ ha, ← lookup_pos_iff _ hb,
    lookup_merge]
  have h1 := lookup_nonneg a ha.nonneg k
  have h2 := lookup_nonneg b hb.nonneg k
  refine ⟨fun h => ?_, fun h => h.elim (rat_add_pos_left · h2) (rat_add_pos_right h1)⟩
  refine Classical.byContradiction fun hn => ?_
  rw [not_or, Rat.not_lt, Rat.not_lt] at hn
  rw [Rat.le_antisymm hn.1 h1, Rat.le_antisymm hn.2 h2, Rat.add_zero] at h
  exact Rat.lt_irrefl h

/-! ## E. extremes and the rank search -/

/-! ### `minIndex?`, `maxIndex?` -/

@[simp] theorem minIndex?_nil : minIndex? [] = none := rfl

@[simp] theorem minIndex?_cons (p : Int × Rat) (rest : Content) :
    minIndex? (p :: rest) = some p.1 := rfl

@[simp] theorem maxIndex?_nil : maxIndex? [] = none := rfl

@[simp] theorem maxIndex?_singleton (p : Int × Rat) : maxIndex? [p] = some p.1 := rfl

@[simp] theorem maxIndex?_cons_cons (p q : Int × Rat) (rest : Content) :
    maxIndex? (p :: q :: rest) = maxIndex? (q :: rest) := rfl

theorem minIndex?_eq_none {m : Content} : m.minIndex? = none ↔ m = [] := by
  cases m <;> simp

theorem maxIndex?_eq_none {m : Content} : m.maxIndex? = none ↔ m = [] := by
  induction m with
  | nil => simp
  | cons p rest ih =>
    cases rest with
    | nil => simp
    | cons q r => rw [maxIndex?_cons_cons]; simp [ih]

theorem maxIndex?_isSome (m : Content) (hne : m ≠ []) : ∃ k, m.maxIndex? = some k := by
  cases h : m.maxIndex? with
  | none => exact absurd (maxIndex?_eq_none.1 h) hne
  | some k => exact ⟨k, rfl⟩

theorem minIndex?_scale (m : Content) (w : Rat) : (m.scale w).minIndex? = m.minIndex? := by
  cases m <;> rfl

theorem maxIndex?_scale (m : Content) (w : Rat) : (m.scale w).maxIndex? = m.maxIndex? := by
  induction m with
  | nil => rfl
  | cons p rest ih =>
    cases rest with
    | nil => rfl
    | cons q r => exact ih

theorem minIndex_le (m : Content) (h : Sorted m) (k : Int) (hk : m.minIndex? = some k) :
    ∀ p ∈ m, k ≤ p.1 := by
  cases m with
  | nil => nomatch hk
  | cons q rest =>
    cases hk
    exact List.forall_mem_cons.2 ⟨Int.le_refl _, fun p hp => Int.le_of_lt (h.head_lt p hp)⟩

theorem minIndex_mem (m : Content) (k : Int) (hk : m.minIndex? = some k) : ∃ w, (k, w) ∈ m := by
  cases m with
  | nil => nomatch hk
  | cons q rest => cases hk; exact ⟨q.2, List.mem_cons_self ..⟩

theorem maxIndex_mem (m : Content) (k : Int) (hk : m.maxIndex? = some k) : ∃ w, (k, w) ∈ m := by
  induction m with
  | nil => nomatch hk
  | cons q rest ih =>
    cases rest with
    | nil => cases hk; exact ⟨q.2, List.mem_cons_self ..⟩
    | cons q' r => exact (ih hk).imp fun w hw => List.mem_cons_of_mem _ hw

theorem le_maxIndex (m : Content) (h : Sorted m) (k : Int)
    (hk : m.maxIndex? = some k) : ∀ p ∈ m, p.1 ≤ k := by
  induction m with
  | nil => exact fun _ hp => nomatch hp
  | cons q rest ih =>
    cases rest with
    | nil => cases hk; exact List.forall_mem_singleton.2 (Int.le_refl _)
    | cons q' r =>
      have ih' := ih h.tail hk
      refine List.forall_mem_cons.2 ⟨?_, ih'⟩
      have := h.head_lt q' (List.mem_cons_self ..)
      have := ih' q' (List.mem_cons_self ..)
      omega

theorem maxIndex?_eq_of (m : Content) (h : Sorted m) (k : Int) (hmem : ∃ w, (k, w) ∈ m)
    (hub : ∀ p ∈ m, p.1 ≤ k) : m.maxIndex? = some k := by
  obtain ⟨w, hw⟩ := hmem
  obtain ⟨k', hk'⟩ := maxIndex?_isSome m (List.ne_nil_of_mem hw)
  obtain ⟨w', hw'⟩ := maxIndex_mem m k' hk'
  have h1 : k' ≤ k := hub _ hw'
  have h2 : k ≤ k' := le_maxIndex m h k' hk' _ hw
  rw [hk', Int.le_antisymm h1 h2]

theorem minIndex?_eq_of (m : Content) (h : Sorted m) (k : Int) (hmem : ∃ w, (k, w) ∈ m)
    (hlb : ∀ p ∈ m, k ≤ p.1) : m.minIndex? = some k := by
  obtain ⟨w, hw⟩ := hmem
  cases m with
  | nil => nomatch hw
  | cons q rest =>
    have h1 : k ≤ q.1 := hlb q (List.mem_cons_self ..)
    have h2 : q.1 ≤ k := minIndex_le _ h q.1 rfl _ hw
    rw [minIndex?_cons, Int.le_antisymm h2 h1]

theorem minIndex?_of_lookup (c : Content) (h : c.WF) (k : Int) (hk : 0 < c.lookup k)
    (hz : ∀ j, j < k → c.lookup j = 0) : c.minIndex? = some k :=
  minIndex?_eq_of c h.1 k ((lookup_pos_iff c h k).1 hk) fun p hp =>
    Int.not_lt.1 fun hlt => Rat.lt_irrefl (hz p.1 hlt ▸ lookup_of_mem_sorted c h.1 p hp ▸ h.2 p hp)

theorem maxIndex?_of_lookup (c : Content) (h : c.WF) (k : Int) (hk : 0 < c.lookup k)
    (hz : ∀ j, k < j → c.lookup j = 0) : c.maxIndex? = some k :=
  maxIndex?_eq_of c h.1 k ((lookup_pos_iff c h k).1 hk) fun p hp =>
    Int.not_lt.1 fun hlt => Rat.lt_irrefl (hz p.1 hlt ▸ lookup_of_mem_sorted c h.1 p hp ▸ h.2 p hp)

theorem maxIndex?_merge (a b : Content) (ha : WF a) (hb : WF b) :
    (a.merge b).maxIndex? = Option.merge max a.maxIndex? b.maxIndex? := by
  cases hka : a.maxIndex? with
  | none => rw [maxIndex?_eq_none.1 hka, merge_nil_left b hb]; cases b.maxIndex? <;> rfl
  | some ka =>
    cases hkb : b.maxIndex? with
    | none => rw [maxIndex?_eq_none.1 hkb]; exact hka
    | some kb =>
      refine maxIndex?_eq_of _ (wf_merge a b ha hb).1 _ ((key_mem_merge a b ha hb _).2 ?_) fun p hp => ?_
      · rcases Int.le_total ka kb with h | h
        · rw [Int.max_eq_right h]; exact .inr (maxIndex_mem b kb hkb)
        · rw [Int.max_eq_left h]; exact .inl (maxIndex_mem a ka hka)
      · rcases (key_mem_merge a b ha hb p.1).1 ⟨p.2, hp⟩ with ⟨w, hw⟩ | ⟨w, hw⟩
        · exact Int.le_trans (le_maxIndex a ha.1 ka hka (p.1, w) hw) (Int.le_max_left ..)
        · exact Int.le_trans (le_maxIndex b hb.1 kb hkb (p.1, w) hw) (Int.le_max_right ..)

theorem minIndex?_merge (a b : Content) (ha : WF a) (hb : WF b) :
    (a.merge b).minIndex? = Option.merge min a.minIndex? b.minIndex? := by
  cases hka : a.minIndex? with
  | none => rw [minIndex?_eq_none.1 hka, merge_nil_left b hb]; cases b.minIndex? <;> rfl
  | some ka =>
    cases hkb : b.minIndex? with
    | none => rw [minIndex?_eq_none.1 hkb]; exact hka
    | some kb =>
      refine minIndex?_eq_of _ (wf_merge a b ha hb).1 _ ((key_mem_merge a b ha hb _).2 ?_) fun p hp => ?_
      · rcases Int.le_total ka kb with h | h
        · rw [Int.min_eq_left h]; exact .inl (minIndex_mem a ka hka)
        · rw [Int.min_eq_right h]; exact .inr (minIndex_mem b kb hkb)
      · rcases (key_mem_merge a b ha hb p.1).1 ⟨p.2, hp⟩ with ⟨w, hw⟩ | ⟨w, hw⟩
        · exact Int.le_trans (Int.min_le_left ..) (minIndex_le a ha.1 ka hka (p.1, w) hw)
        · exact Int.le_trans (Int.min_le_right ..) (minIndex_le b hb.1 kb hkb (p.1, w) hw)

/-! ### `firstExceeding`, `keyAtRank` -/

theorem firstExceeding_cons (p : Int × Rat) (rest : Content) (acc r : Rat) :
    firstExceeding (p :: rest) acc r =
      if r < acc + p.2 then some p.1 else firstExceeding rest (acc + p.2) r := rfl

theorem firstExceeding_mem (m : Content) (acc r : Rat) (k : Int)
    (hk : firstExceeding m acc r = some k) : ∃ w, (k, w) ∈ m := by
  induction m generalizing acc with
  | nil => nomatch hk
  | cons q rest ih =>
    rw [firstExceeding_cons] at hk
    split at hk
    · cases hk; exact ⟨q.2, List.mem_cons_self ..⟩
    · exact (ih _ hk).imp fun w hw => List.mem_cons_of_mem _ hw

/-- `keyAtRank` with a running accumulator -/
def karAux (m : Content) (acc r : Rat) : Int :=
  match firstExceeding m acc r with
  | some k => k
  | none => (maxIndex? m).getD 0

theorem keyAtRank_eq_karAux (m : Content) (r : Rat) :
    m.keyAtRank r = karAux m 0 (if r < 0 then 0 else r) := rfl

theorem karAux_singleton (p : Int × Rat) (acc r : Rat) : karAux [p] acc r = p.1 := by
  unfold karAux
  rw [firstExceeding_cons]
  by_cases h : r < acc + p.2 <;> simp [h, firstExceeding]

theorem karAux_cons_cons (p q : Int × Rat) (rest : Content) (acc r : Rat) :
    karAux (p :: q :: rest) acc r =
      if r < acc + p.2 then p.1 else karAux (q :: rest) (acc + p.2) r := by
  unfold karAux
  rw [firstExceeding_cons (p := p), maxIndex?_cons_cons]
  by_cases h : r < acc + p.2 <;> simp [h]

theorem karAux_mem (m : Content) (acc r : Rat) (h : m ≠ []) : ∃ w, (karAux m acc r, w) ∈ m := by
  unfold karAux
  cases hfe : firstExceeding m acc r with
  | some k => exact firstExceeding_mem m acc r k hfe
  | none =>
    obtain ⟨k, hk⟩ := maxIndex?_isSome m h
    rw [hk]
    exact maxIndex_mem m k hk

theorem keyAtRank_mem (m : Content) (r : Rat) (h : m ≠ []) : ∃ w, (m.keyAtRank r, w) ∈ m :=
  karAux_mem m 0 _ h

theorem karAux_mono (m : Content) (h : Sorted m) (acc r₁ r₂ : Rat) (hr : r₁ ≤ r₂) :
    karAux m acc r₁ ≤ karAux m acc r₂ := by
  induction m generalizing acc with
  | nil => exact Int.le_refl _
  | cons p rest ih =>
    cases rest with
    | nil => rw [karAux_singleton, karAux_singleton]; exact Int.le_refl _
    | cons q r =>
      rw [karAux_cons_cons, karAux_cons_cons]
      by_cases h2 : r₂ < acc + p.2
      · rw [if_pos (Std.lt_of_le_of_lt hr h2), if_pos h2]; exact Int.le_refl _
      · rw [if_neg h2]
        split
        · obtain ⟨w, hw⟩ := karAux_mem (q :: r) (acc + p.2) r₂ (List.cons_ne_nil _ _)
          exact Int.le_of_lt (h.head_lt _ hw)
        · exact ih h.tail _

theorem keyAtRank_mono (m : Content) (h : Sorted m) (r₁ r₂ : Rat) (hr : r₁ ≤ r₂) :
    m.keyAtRank r₁ ≤ m.keyAtRank r₂ := by
  rw [keyAtRank_eq_karAux, keyAtRank_eq_karAux]
  apply karAux_mono m h
  by_cases h2 : r₂ < 0
  · rw [if_pos (Std.lt_of_le_of_lt hr h2), if_pos h2]; exact Rat.le_refl
  · rw [if_neg h2]
    split
    · exact Rat.not_lt.1 h2
    · exact hr

theorem keyAtRank_neg (c : Content) (r : Rat) (hr : r < 0) : c.keyAtRank r = c.keyAtRank 0 := by
  unfold keyAtRank
  rw [if_pos hr, if_neg Rat.lt_irrefl]

theorem keyAtRank_le_max (c : Content) (hc : c.WF) (r : Rat) :
    c.keyAtRank r ≤ (c.maxIndex?).getD 0 := by
  cases hcc : c with
  | nil => exact Int.le_refl _
  | cons p rest =>
    rw [← hcc]
    have hne : c ≠ [] := by rw [hcc]; simp
    obtain ⟨k, hk⟩ := maxIndex?_isSome c hne
    obtain ⟨w, hw⟩ := keyAtRank_mem c r hne
    rw [hk]
    exact le_maxIndex c hc.1 k hk _ hw

theorem firstExceeding_append (a b : Content) (acc r : Rat) :
    firstExceeding (a ++ b) acc r =
      match firstExceeding a acc r with
      | some k => some k
      | none => firstExceeding b (acc + total a) r := by
  induction a generalizing acc with
  | nil => rw [List.nil_append, total_nil, Rat.add_zero]; rfl
  | cons p a ih =>
    simp only [List.cons_append, firstExceeding_cons, total_cons]
    split
    · rfl
    · rw [ih, Rat.add_assoc]

theorem firstExceeding_none_spec (m : Content) (acc r : Rat) (hacc : acc ≤ r)
    (hk : firstExceeding m acc r = none) : acc + m.total ≤ r := by
  induction m generalizing acc with
  | nil => exact (Rat.add_zero acc).symm ▸ hacc
  | cons q rest ih =>
    rw [firstExceeding_cons] at hk
    split at hk
    · nomatch hk
    · rw [total_cons, ← Rat.add_assoc]
      exact ih _ (Rat.not_lt.1 ‹_›) hk

theorem firstExceeding_some (m : Content) (hs : m.Pairwise (fun a b => a.1 ≤ b.1))
    (hnn : ∀ p ∈ m, 0 ≤ p.2) (acc r : Rat) (hacc : acc ≤ r) (k : Int)
    (hk : firstExceeding m acc r = some k) :
    acc + cumul m (k - 1) ≤ r ∧ r < acc + cumul m k := by
  induction m generalizing acc with
  | nil => cases hk
  | cons q rest ih =>
    obtain ⟨hq, hrest⟩ := List.pairwise_cons.1 hs
    have hq0 := hnn q (List.mem_cons_self ..)
    have hnn' : ∀ p ∈ rest, 0 ≤ p.2 := fun p hp => hnn p (List.mem_cons_of_mem _ hp)
    rw [firstExceeding_cons] at hk
    split at hk
    · rename_i hlt
      cases hk
      have h0 : cumul rest (q.1 - 1) = 0 :=
        cumul_eq_zero_of_lt rest _ (fun p hp => by have := hq p hp; omega)
      have h1 : q.2 + 0 ≤ q.2 + cumul rest q.1 := Rat.add_le_add_left.2 (cumul_nonneg rest hnn' q.1)
      rw [Rat.add_zero] at h1
      rw [cumul_cons, cumul_cons, if_neg (by omega), if_pos (Int.le_refl _), h0, Rat.add_zero, Rat.add_zero]
      exact ⟨hacc, Rat.not_le.1 fun h => Rat.not_le.2 hlt
        (Rat.le_trans (Rat.add_le_add_left.2 h1) h)⟩
    · rename_i hnlt
      obtain ⟨w, hw⟩ := firstExceeding_mem _ _ _ _ hk
      obtain ⟨h1, h2⟩ := ih hrest hnn' (acc + q.2) (Rat.not_lt.1 hnlt) hk
      rw [cumul_cons, cumul_cons, if_pos (hq _ hw), ← Rat.add_assoc, ← Rat.add_assoc]
      refine ⟨Rat.le_trans (Rat.add_le_add_right.2 (Rat.add_le_add_left.2 ?_)) h1, h2⟩
      split
      · exact Rat.le_refl
      · exact hq0

theorem firstExceeding_congr (m₁ m₂ : Content)
    (hs₁ : m₁.Pairwise (fun a b => a.1 ≤ b.1)) (hnn₁ : ∀ p ∈ m₁, 0 ≤ p.2)
    (hs₂ : m₂.Pairwise (fun a b => a.1 ≤ b.1)) (hnn₂ : ∀ p ∈ m₂, 0 ≤ p.2)
    (hc : ∀ k, cumul m₁ k = cumul m₂ k) (acc r : Rat) (hacc : acc ≤ r) :
    firstExceeding m₁ acc r = firstExceeding m₂ acc r := by
  -- a miss on one side is a hit on neither: the total bounds every cumulative weight
  have miss : ∀ (m m' : Content) (k : Int), (∀ p ∈ m, 0 ≤ p.2) → (∀ k, cumul m k = cumul m' k) →
      firstExceeding m acc r = none → r < acc + cumul m' k → False := by
    intro m m' k hnn hc hn hlt
    have h1 := firstExceeding_none_spec m acc r hacc hn
    have h2 := cumul_le_total m hnn k
    rw [hc k] at h2
    exact Rat.not_le.2 hlt (Rat.le_trans (Rat.add_le_add_left.2 h2) h1)
  -- two hits: the cumulative weight is monotone, so the brackets `(k-1, k]` coincide
  have hit : ∀ (m m' : Content) (k k' : Int), (∀ p ∈ m, 0 ≤ p.2) → (∀ k, cumul m k = cumul m' k) →
      acc + cumul m (k - 1) ≤ r → r < acc + cumul m' k' → k ≤ k' := by
    intro m m' k k' hnn hc h1 h2
    refine Int.not_lt.1 fun hlt => ?_
    have h3 := cumul_mono m hnn k' (k - 1) (by omega)
    rw [hc k'] at h3
    exact Rat.not_le.2 h2 (Rat.le_trans (Rat.add_le_add_left.2 h3) h1)
  cases h1 : firstExceeding m₁ acc r with
  | none =>
    cases h2 : firstExceeding m₂ acc r with
    | none => rfl
    | some k₂ => exact (miss m₁ m₂ k₂ hnn₁ hc h1 (firstExceeding_some m₂ hs₂ hnn₂ acc r hacc k₂ h2).2).elim
  | some k₁ =>
    obtain ⟨ha₁, hb₁⟩ := firstExceeding_some m₁ hs₁ hnn₁ acc r hacc k₁ h1
    cases h2 : firstExceeding m₂ acc r with
    | none => exact (miss m₂ m₁ k₁ hnn₂ (fun k => (hc k).symm) h2 hb₁).elim
    | some k₂ =>
      obtain ⟨ha₂, hb₂⟩ := firstExceeding_some m₂ hs₂ hnn₂ acc r hacc k₂ h2
      exact congrArg some (Int.le_antisymm (hit m₁ m₂ k₁ k₂ hnn₁ hc ha₁ hb₂)
        (hit m₂ m₁ k₂ k₁ hnn₂ (fun k => (hc k).symm) ha₂ hb₁))

/-- `keyAtRank` answers the least index whose cumulative weight exceeds the rank (negative ranks
    clamped to 0); when none does, the maximum index.  The weights being non-negative, the bracket of
    `firstExceeding_some` bounds the cumulative weight at every index below the answer. -/
theorem keyAtRank_least (m : Content) (h : WF m) (hne : m ≠ []) (r : Rat) :
    let k := m.keyAtRank r
    let r' := if r < 0 then 0 else r
    (r' < cumul m k ∧ ∀ j, j < k → cumul m j ≤ r') ∨
      (m.total ≤ r' ∧ m.maxIndex? = some k) := by
  intro k r'
  cases hfe : firstExceeding m 0 r' with
  | some k' =>
    have hk : k = k' := by show karAux m 0 r' = k'; rw [karAux, hfe]
    obtain ⟨h1, h2⟩ := firstExceeding_some m (((sorted_iff_pairwise m).1 h.1).imp Int.le_of_lt)
      h.nonneg 0 r' (clamp_nonneg r) k' hfe
    rw [Rat.zero_add] at h1 h2
    exact .inl ⟨hk ▸ h2, fun j hj => Rat.le_trans (cumul_mono m h.nonneg j (k' - 1) (by omega)) h1⟩
  | none =>
    obtain ⟨k', hk'⟩ := maxIndex?_isSome m hne
    have hk : k = k' := by show karAux m 0 r' = k'; rw [karAux, hfe, hk']; rfl
    have := firstExceeding_none_spec m 0 r' (clamp_nonneg r) hfe
    rw [Rat.zero_add] at this
    exact .inr ⟨this, hk ▸ hk'⟩

theorem keyAtRank_spec (m : Content) (h : WF m) (hne : m ≠ []) (r : Rat) :
    let k := m.keyAtRank r
    let r' := if r < 0 then 0 else r
    (r' < cumul m k ∧ ∀ p ∈ m, p.1 < k → cumul m p.1 ≤ r') ∨
      (m.total ≤ r' ∧ m.maxIndex? = some k) :=
  (keyAtRank_least m h hne r).imp_left fun ⟨h1, h2⟩ => ⟨h1, fun p _ hp => h2 p.1 hp⟩

/-- the specification of `keyAtRank_least` determines the key -/
theorem keyAtRank_eq_of_least (m : Content) (h : m.WF) (r : Rat) (k : Int)
    (hspec : ((if r < 0 then 0 else r) < m.cumul k ∧
        ∀ j, j < k → m.cumul j ≤ (if r < 0 then 0 else r)) ∨
      (m.total ≤ (if r < 0 then 0 else r) ∧ m.maxIndex? = some k)) :
    m.keyAtRank r = k := by
  have hne : m ≠ [] := by
    rintro rfl
    rcases hspec with ⟨b1, _⟩ | ⟨_, b2⟩
    · exact Rat.lt_irrefl (Std.lt_of_le_of_lt (clamp_nonneg r) b1)
    · nomatch b2
  have A := keyAtRank_least m h hne r
  simp only at A
  generalize m.keyAtRank r = k0 at A ⊢
  generalize (if r < 0 then 0 else r) = r' at A hspec
  have hle := cumul_le_total m h.nonneg
  rcases A with ⟨a1, a2⟩ | ⟨a1, a2⟩ <;> rcases hspec with ⟨b1, b2⟩ | ⟨b1, b2⟩
  · rcases Int.lt_trichotomy k0 k with hlt | heq | hgt
    · exact absurd (Std.lt_of_lt_of_le a1 (b2 k0 hlt)) Rat.lt_irrefl
    · exact heq
    · exact absurd (Std.lt_of_lt_of_le b1 (a2 k hgt)) Rat.lt_irrefl
  · exact absurd (Std.lt_of_lt_of_le a1 (Rat.le_trans (hle k0) b1)) Rat.lt_irrefl
  · exact absurd (Std.lt_of_lt_of_le b1 (Rat.le_trans (hle k) a1)) Rat.lt_irrefl
  · exact Option.some.inj (a2.symm.trans b2)

/-! ## F. relabelling, folds, clamped specs -/

/-! ### `relabel`: the re-keyed list, canonicalised -/

@[simp] theorem relabel_nil (f : Int → Int) : relabel f [] = [] := rfl

theorem relabel_eq_ofList (f : Int → Int) (m : Content) :
    relabel f m = ofList (m.map (fun p => (f p.1, p.2))) := by
  unfold relabel ofList
  rw [List.foldl_map]

theorem wsum_relabel (P : Int → Bool) (f : Int → Int) (m : Content) :
    wsum P (relabel f m) = wsum (fun i => P (f i)) m := by
  rw [relabel_eq_ofList, wsum_ofList, wsum_map_key]

theorem lookup_relabel (f : Int → Int) (m : Content) (j : Int) :
    (relabel f m).lookup j = ((m.filter (fun p => f p.1 = j)).map (·.2)).sum := by
  rw [lookup_eq_wsum, wsum_relabel]; rfl

@[simp] theorem total_relabel (f : Int → Int) (m : Content) : (relabel f m).total = m.total := by
  rw [total_eq_wsum, wsum_relabel, ← total_eq_wsum]

theorem wf_relabel (f : Int → Int) (m : Content) (h : WF m) : WF (relabel f m) := by
  rw [relabel_eq_ofList]
  refine wf_ofList _ fun p hp => ?_
  obtain ⟨q, hq, rfl⟩ := List.mem_map.1 hp
  exact h.nonneg q hq

theorem mem_relabel {f : Int → Int} {m : Content} {p : Int × Rat} (hp : p ∈ relabel f m) :
    ∃ q ∈ m, f q.1 = p.1 := by
  rw [relabel_eq_ofList] at hp
  obtain ⟨x, hx, hxp⟩ := mem_ofList hp
  obtain ⟨q, hq, rfl⟩ := List.mem_map.1 hx
  exact ⟨q, hq, hxp⟩

theorem key_mem_relabel (f : Int → Int) (m : Content) (h : WF m) (q : Int × Rat) (hq : q ∈ m) :
    ∃ w, (f q.1, w) ∈ relabel f m := by
  rw [← lookup_pos_iff _ (wf_relabel f m h), lookup_eq_wsum, wsum_relabel]
  exact wsum_pos _ m h.nonneg ⟨q, hq, decide_eq_true rfl, h.2 q hq⟩

theorem relabel_relabel (f g : Int → Int) (m : Content) (h : WF m) :
    relabel g (relabel f m) = relabel (g ∘ f) m :=
  ext _ _ (wf_relabel g _ (wf_relabel f m h)) (wf_relabel (g ∘ f) m h) fun j => by
    simp only [lookup_eq_wsum, wsum_relabel]; rfl

theorem relabel_merge (f : Int → Int) (a b : Content) (ha : WF a) (hb : WF b) :
    relabel f (a.merge b) = (relabel f a).merge (relabel f b) :=
  ext _ _ (wf_relabel f _ (wf_merge a b ha hb))
    (wf_merge _ _ (wf_relabel f a ha) (wf_relabel f b hb)) fun j => by
    simp only [lookup_eq_wsum, wsum_relabel, wsum_merge]

theorem relabel_scale (f : Int → Int) (m : Content) (w : Rat) (h : WF m) (hw : 0 < w) :
    relabel f (m.scale w) = (relabel f m).scale w :=
  ext _ _ (wf_relabel f _ (wf_scale m w h hw)) (wf_scale _ w (wf_relabel f m h) hw) fun j => by
    simp only [lookup_eq_wsum, wsum_relabel, wsum_scale]

theorem relabel_eq_self (f : Int → Int) (m : Content) (h : WF m) (hf : ∀ p ∈ m, f p.1 = p.1) :
    relabel f m = m :=
  ext _ _ (wf_relabel f m h) h fun j => by
    rw [lookup_eq_wsum, wsum_relabel, lookup_eq_wsum]
    exact wsum_congr_keys m fun p hp => by rw [hf p hp]

/-! ### a monotone relabelling of the keys -/

theorem maxIndex_relabel (f : Int → Int) (hf : ∀ i j, i ≤ j → f i ≤ f j) (m : Content) (h : m.WF)
    (mx : Int) (hmx : m.maxIndex? = some mx) : (relabel f m).maxIndex? = some (f mx) := by
  obtain ⟨w, hw⟩ := maxIndex_mem m mx hmx
  refine maxIndex?_eq_of _ (wf_relabel f m h).1 _ (key_mem_relabel f m h _ hw) fun p hp => ?_
  obtain ⟨q, hq, hqp⟩ := mem_relabel hp
  exact hqp ▸ hf _ _ (le_maxIndex m h.1 mx hmx q hq)

theorem minIndex_relabel (f : Int → Int) (hf : ∀ i j, i ≤ j → f i ≤ f j) (m : Content) (h : m.WF)
    (mn : Int) (hmn : m.minIndex? = some mn) : (relabel f m).minIndex? = some (f mn) := by
  obtain ⟨w, hw⟩ := minIndex_mem m mn hmn
  refine minIndex?_eq_of _ (wf_relabel f m h).1 _ (key_mem_relabel f m h _ hw) fun p hp => ?_
  obtain ⟨q, hq, hqp⟩ := mem_relabel hp
  exact hqp ▸ hf _ _ (minIndex_le m h.1 mn hmn q hq)

theorem lookup_relabel_out {f : Int → Int} (hf : ∀ i j, i ≤ j → f i ≤ f j) {m : Content}
    {mn mx : Int} (hk : ∀ p ∈ m, mn ≤ p.1 ∧ p.1 ≤ mx) {j : Int} (hj : j < f mn ∨ f mx < j) :
    (relabel f m).lookup j = 0 :=
  lookup_eq_zero_of_not_mem _ j fun p hp hpj => by
    obtain ⟨q, hq, hqp⟩ := mem_relabel hp
    have := hf _ _ (hk q hq).1
    have := hf _ _ (hk q hq).2
    omega

/-- relabelling the keys by a monotone map (which merges runs of neighbouring bins) relabels the
    answer of `KeyAtRank`: the cumulative weight at `f k` is at least that at `k`, and below `f k`
    only keys below `k` contribute -/
theorem keyAtRank_relabel (f : Int → Int) (hf : ∀ i j, i ≤ j → f i ≤ f j) (m : Content) (h : m.WF)
    (hne : m ≠ []) (r : Rat) : (relabel f m).keyAtRank r = f (m.keyAtRank r) := by
  have A := keyAtRank_least m h hne r
  simp only at A
  generalize m.keyAtRank r = k at A ⊢
  apply keyAtRank_eq_of_least _ (wf_relabel f m h) r
  generalize (if r < 0 then 0 else r) = r' at A ⊢
  have hcum : ∀ j, (relabel f m).cumul j = wsum (fun i => decide (f i ≤ j)) m := fun j => by
    rw [cumul_eq_wsum, wsum_relabel]
  rcases A with ⟨a1, a2⟩ | ⟨a1, a2⟩
  · refine Or.inl ⟨?_, fun j (hj : j < f k) => ?_⟩
    · rw [hcum]
      refine Std.lt_of_lt_of_le a1 ?_
      rw [cumul_eq_wsum]
      exact wsum_mono m h.nonneg (fun i hi => decide_eq_true (hf i k (of_decide_eq_true hi)))
    · rw [hcum]
      refine Rat.le_trans ?_ (a2 (k - 1) (by omega))
      rw [cumul_eq_wsum]
      refine wsum_mono m h.nonneg (fun i hi => ?_)
      have hi' : f i ≤ j := of_decide_eq_true hi
      have : ¬ k ≤ i := fun hc => by have := hf k i hc; omega
      exact decide_eq_true (by omega)
  · exact Or.inr ⟨by rw [total_relabel]; exact a1, maxIndex_relabel f hf m h k a2⟩

/-! ### the two fold maps: everything below (above) the edge `e` onto `e` -/

/-- the map of `foldLow` -/
def lowMap (e : Int) : Int → Int := fun i => if i < e then e else i

/-- the map of `foldHigh` -/
def highMap (e : Int) : Int → Int := fun i => if e < i then e else i

theorem foldLow_eq_relabel (m : Content) (e : Int) : foldLow m e = relabel (lowMap e) m := rfl

theorem foldHigh_eq_relabel (m : Content) (e : Int) : foldHigh m e = relabel (highMap e) m := rfl

theorem lowMap_eq_max (e i : Int) : lowMap e i = max i e := by
  unfold lowMap; split <;> omega

theorem highMap_eq_min (e i : Int) : highMap e i = min i e := by
  unfold highMap; split <;> omega

theorem lowMap_mono (e : Int) : ∀ i j, i ≤ j → lowMap e i ≤ lowMap e j := fun i j h => by
  rw [lowMap_eq_max, lowMap_eq_max]; omega

theorem highMap_mono (e : Int) : ∀ i j, i ≤ j → highMap e i ≤ highMap e j := fun i j h => by
  rw [highMap_eq_min, highMap_eq_min]; omega

theorem maxIndex_foldLow (m : Content) (h : m.WF) (e mx : Int) (hmx : m.maxIndex? = some mx) :
    (foldLow m e).maxIndex? = some (max mx e) := by
  rw [foldLow_eq_relabel, maxIndex_relabel _ (lowMap_mono e) m h mx hmx, lowMap_eq_max]

theorem minIndex_foldLow (m : Content) (h : m.WF) (e mn : Int) (hmn : m.minIndex? = some mn) :
    (foldLow m e).minIndex? = some (max mn e) := by
  rw [foldLow_eq_relabel, minIndex_relabel _ (lowMap_mono e) m h mn hmn, lowMap_eq_max]

theorem maxIndex_foldHigh (m : Content) (h : m.WF) (e mx : Int) (hmx : m.maxIndex? = some mx) :
    (foldHigh m e).maxIndex? = some (min mx e) := by
  rw [foldHigh_eq_relabel, maxIndex_relabel _ (highMap_mono e) m h mx hmx, highMap_eq_min]

theorem minIndex_foldHigh (m : Content) (h : m.WF) (e mn : Int) (hmn : m.minIndex? = some mn) :
    (foldHigh m e).minIndex? = some (min mn e) := by
  rw [foldHigh_eq_relabel, minIndex_relabel _ (highMap_mono e) m h mn hmn, highMap_eq_min]

theorem foldLow_foldLow (m : Content) (h : WF m) (e₁ e₂ : Int) (he : e₁ ≤ e₂) :
    foldLow (foldLow m e₁) e₂ = foldLow m e₂ :=
  (relabel_relabel _ _ m h).trans (congrArg (relabel · m) (funext fun i => by
    simp only [Function.comp]; grind))

theorem foldHigh_foldHigh (m : Content) (h : WF m) (e₁ e₂ : Int) (he : e₂ ≤ e₁) :
    foldHigh (foldHigh m e₁) e₂ = foldHigh m e₂ :=
  (relabel_relabel _ _ m h).trans (congrArg (relabel · m) (funext fun i => by
    simp only [Function.comp]; grind))

theorem foldLow_merge (a b : Content) (ha : WF a) (hb : WF b) (e : Int) :
    foldLow (a.merge b) e = (foldLow a e).merge (foldLow b e) := relabel_merge _ a b ha hb

theorem foldHigh_merge (a b : Content) (ha : WF a) (hb : WF b) (e : Int) :
    foldHigh (a.merge b) e = (foldHigh a e).merge (foldHigh b e) := relabel_merge _ a b ha hb

/-! ### `specLow`, `specHigh` -/

theorem specLow_of_max (N : Nat) (m : Content) (mx : Int) (hmx : m.maxIndex? = some mx) :
    specLow N m = foldLow m (mx - (N : Int) + 1) := by
  unfold specLow; rw [hmx]

theorem specHigh_of_min (N : Nat) (m : Content) (mn : Int) (hmn : m.minIndex? = some mn) :
    specHigh N m = foldHigh m (mn + (N : Int) - 1) := by
  unfold specHigh; rw [hmn]

@[simp] theorem specLow_nil (N : Nat) : specLow N [] = [] := rfl

@[simp] theorem specHigh_nil (N : Nat) : specHigh N [] = [] := rfl

theorem wf_specLow (N : Nat) (m : Content) (h : WF m) : WF (specLow N m) := by
  unfold specLow
  split
  · exact wf_nil
  · exact wf_relabel _ m h

theorem wf_specHigh (N : Nat) (m : Content) (h : WF m) : WF (specHigh N m) := by
  unfold specHigh
  split
  · exact wf_nil
  · exact wf_relabel _ m h

theorem maxIndex?_specLow (N : Nat) (hN : 1 ≤ N) (m : Content) (h : WF m) :
    (specLow N m).maxIndex? = m.maxIndex? := by
  cases hmx : m.maxIndex? with
  | none => rw [maxIndex?_eq_none.1 hmx]; rfl
  | some mx =>
    rw [specLow_of_max N m mx hmx, maxIndex_foldLow m h _ mx hmx, Int.max_eq_left (by omega)]

theorem minIndex?_specHigh (N : Nat) (hN : 1 ≤ N) (m : Content) (h : WF m) :
    (specHigh N m).minIndex? = m.minIndex? := by
  cases hmn : m.minIndex? with
  | none => rw [minIndex?_eq_none.1 hmn]; rfl
  | some mn =>
    rw [specHigh_of_min N m mn hmn, minIndex_foldHigh m h _ mn hmn, Int.min_eq_left (by omega)]

theorem specLow_length (N : Nat) (hN : 1 ≤ N) (m : Content) (h : WF m) :
    (specLow N m).length ≤ N := by
  cases hmx : m.maxIndex? with
  | none => rw [maxIndex?_eq_none.1 hmx]; exact Nat.zero_le _
  | some mx =>
    refine length_le_of_sorted_range _ (wf_specLow N m h).1 (mx - (N : Int) + 1) N fun p hp => ?_
    rw [specLow_of_max N m mx hmx] at hp
    obtain ⟨q, hq, hqp⟩ := mem_relabel hp
    have := le_maxIndex m h.1 mx hmx q hq
    split at hqp <;> omega

theorem specHigh_length (N : Nat) (hN : 1 ≤ N) (m : Content) (h : WF m) :
    (specHigh N m).length ≤ N := by
  cases hmn : m.minIndex? with
  | none => rw [minIndex?_eq_none.1 hmn]; exact Nat.zero_le _
  | some mn =>
    refine length_le_of_sorted_range _ (wf_specHigh N m h).1 mn N fun p hp => ?_
    rw [specHigh_of_min N m mn hmn] at hp
    obtain ⟨q, hq, hqp⟩ := mem_relabel hp
    have := minIndex_le m h.1 mn hmn q hq
    split at hqp <;> omega

@[simp] theorem total_specLow (N : Nat) (m : Content) : (specLow N m).total = m.total := by
  cases hmx : m.maxIndex? with
  | none => rw [maxIndex?_eq_none.1 hmx]; rfl
  | some mx => rw [specLow_of_max N m mx hmx]; exact total_relabel _ m

@[simp] theorem total_specHigh (N : Nat) (m : Content) : (specHigh N m).total = m.total := by
  cases hmn : m.minIndex? with
  | none => rw [minIndex?_eq_none.1 hmn]; rfl
  | some mn => rw [specHigh_of_min N m mn hmn]; exact total_relabel _ m

theorem isEmpty_specLow (N : Nat) (c : Content) (h : c.WF) : (specLow N c).isEmpty = c.isEmpty := by
  rw [Bool.eq_iff_iff, isEmpty_iff_total_zero _ (wf_specLow N c h), isEmpty_iff_total_zero c h,
    total_specLow]

theorem isEmpty_specHigh (N : Nat) (c : Content) (h : c.WF) :
    (specHigh N c).isEmpty = c.isEmpty := by
  rw [Bool.eq_iff_iff, isEmpty_iff_total_zero _ (wf_specHigh N c h), isEmpty_iff_total_zero c h,
    total_specHigh]

theorem specLow_scale (N : Nat) (m : Content) (hm : WF m) (w : Rat) (hw : 0 < w) :
    specLow N (m.scale w) = (specLow N m).scale w := by
  cases hmx : m.maxIndex? with
  | none => rw [maxIndex?_eq_none.1 hmx]; rfl
  | some mx =>
    rw [specLow_of_max N _ mx ((maxIndex?_scale m w).trans hmx), specLow_of_max N m mx hmx]
    exact relabel_scale _ m w hm hw

theorem specHigh_scale (N : Nat) (m : Content) (hm : WF m) (w : Rat) (hw : 0 < w) :
    specHigh N (m.scale w) = (specHigh N m).scale w := by
  cases hmn : m.minIndex? with
  | none => rw [minIndex?_eq_none.1 hmn]; rfl
  | some mn =>
    rw [specHigh_of_min N _ mn ((minIndex?_scale m w).trans hmn), specHigh_of_min N m mn hmn]
    exact relabel_scale _ m w hm hw

/-- clamping the receiver first changes nothing: the merged maximum is the same, and folding at
    the receiver's own edge is absorbed by folding at the merged one -/
theorem specLow_merge_specLow (N : Nat) (hN : 1 ≤ N) (a b : Content) (ha : WF a) (hb : WF b) :
    specLow N ((specLow N a).merge b) = specLow N (a.merge b) := by
  cases hmx : a.maxIndex? with
  | none => rw [maxIndex?_eq_none.1 hmx]; rfl
  | some mxa =>
    obtain ⟨M, hM, hle⟩ : ∃ M, (a.merge b).maxIndex? = some M ∧ mxa ≤ M := by
      rw [maxIndex?_merge a b ha hb, hmx]
      cases b.maxIndex? with
      | none => exact ⟨mxa, rfl, Int.le_refl _⟩
      | some kb => exact ⟨max mxa kb, rfl, Int.le_max_left ..⟩
    have h1 : ((specLow N a).merge b).maxIndex? = some M := by
      rw [maxIndex?_merge _ b (wf_specLow N a ha) hb, maxIndex?_specLow N hN a ha,
        ← maxIndex?_merge a b ha hb, hM]
    rw [specLow_of_max N _ _ h1, specLow_of_max N _ _ hM, specLow_of_max N a mxa hmx,
      foldLow_merge (foldLow a _) b (wf_relabel _ a ha) hb, foldLow_merge a b ha hb,
      foldLow_foldLow a ha _ _ (by omega)]

theorem specHigh_merge_specHigh (N : Nat) (hN : 1 ≤ N) (a b : Content) (ha : WF a) (hb : WF b) :
    specHigh N ((specHigh N a).merge b) = specHigh N (a.merge b) := by
  cases hmn : a.minIndex? with
  | none => rw [minIndex?_eq_none.1 hmn]; rfl
  | some mna =>
    obtain ⟨M, hM, hle⟩ : ∃ M, (a.merge b).minIndex? = some M ∧ M ≤ mna := by
      rw [minIndex?_merge a b ha hb, hmn]
      cases b.minIndex? with
      | none => exact ⟨mna, rfl, Int.le_refl _⟩
      | some kb => exact ⟨min mna kb, rfl, Int.min_le_left ..⟩
    have h1 : ((specHigh N a).merge b).minIndex? = some M := by
      rw [minIndex?_merge _ b (wf_specHigh N a ha) hb, minIndex?_specHigh N hN a ha,
        ← minIndex?_merge a b ha hb, hM]
    rw [specHigh_of_min N _ _ h1, specHigh_of_min N _ _ hM, specHigh_of_min N a mna hmn,
      foldHigh_merge (foldHigh a _) b (wf_relabel _ a ha) hb, foldHigh_merge a b ha hb,
      foldHigh_foldHigh a ha _ _ (by omega)]

theorem specLow_idem (N : Nat) (hN : 1 ≤ N) (m : Content) (h : WF m) :
    specLow N (specLow N m) = specLow N m :=
  specLow_merge_specLow N hN m [] h wf_nil

theorem specHigh_idem (N : Nat) (hN : 1 ≤ N) (m : Content) (h : WF m) :
    specHigh N (specHigh N m) = specHigh N m :=
  specHigh_merge_specHigh N hN m [] h wf_nil

end Content

/-! ## clamping rules: what `specLow N` and `specHigh N` share with "no clamping" -/

namespace Clamp

/-- admissible clamping rules: a collapsing store has at least one bin -/
def OK : Clamp → Prop
  | .none => True
  | .low n => 1 ≤ n
  | .high n => 1 ≤ n

/-- the index map of a clamping rule on the content `c`: `cl.apply c` is `c` moved along it
    (`apply_eq_relabel`) -/
def key : Clamp → Content → Int → Int
  | .none, _ => id
  | .low N, c => match c.maxIndex? with
    | Option.some mx => Content.lowMap (mx - (N : Int) + 1)
    | Option.none => id
  | .high N, c => match c.minIndex? with
    | Option.some mn => Content.highMap (mn + (N : Int) - 1)
    | Option.none => id

theorem key_mono (cl : Clamp) (c : Content) : ∀ i j, i ≤ j → cl.key c i ≤ cl.key c j := by
  cases cl with
  | none => exact fun _ _ h => h
  | low N =>
    cases hmx : c.maxIndex? with
    | none => simp only [key, hmx]; exact fun _ _ h => h
    | some mx => simp only [key, hmx]; exact Content.lowMap_mono _
  | high N =>
    cases hmn : c.minIndex? with
    | none => simp only [key, hmn]; exact fun _ _ h => h
    | some mn => simp only [key, hmn]; exact Content.highMap_mono _

theorem apply_eq_relabel (cl : Clamp) (c : Content) (h : c.WF) :
    cl.apply c = Content.relabel (cl.key c) c := by
  cases cl with
  | none => exact (Content.relabel_eq_self id c h fun _ _ => rfl).symm
  | low N =>
    cases hmx : c.maxIndex? with
    | none => rw [Content.maxIndex?_eq_none.1 hmx]; rfl
    | some mx => simp only [apply, key, hmx]; exact Content.specLow_of_max N c mx hmx
  | high N =>
    cases hmn : c.minIndex? with
    | none => rw [Content.minIndex?_eq_none.1 hmn]; rfl
    | some mn => simp only [apply, key, hmn]; exact Content.specHigh_of_min N c mn hmn

theorem key_low {N : Nat} {c : Content} {mx : Int} (hmx : c.maxIndex? = some mx) :
    (Clamp.low N).key c = Content.lowMap (mx - (N : Int) + 1) := by
  simp only [key, hmx]

theorem key_high {N : Nat} {c : Content} {mn : Int} (hmn : c.minIndex? = some mn) :
    (Clamp.high N).key c = Content.highMap (mn + (N : Int) - 1) := by
  simp only [key, hmn]

/-- the index map of an admissible rule sends the span `[mn, mx]` of the content into itself -/
theorem key_mem (cl : Clamp) (hcl : cl.OK) {c : Content} {mn mx : Int}
    (hmn : c.minIndex? = some mn) (hmx : c.maxIndex? = some mx) (i : Int) (h1 : mn ≤ i)
    (h2 : i ≤ mx) : mn ≤ cl.key c i ∧ cl.key c i ≤ mx := by
  cases cl with
  | none => exact ⟨h1, h2⟩
  | low N =>
    have hN : 1 ≤ N := hcl
    rw [key_low hmx, Content.lowMap_eq_max]; omega
  | high N =>
    have hN : 1 ≤ N := hcl
    rw [key_high hmn, Content.highMap_eq_min]; omega

theorem apply_nil (cl : Clamp) : cl.apply [] = [] := by cases cl <;> rfl

theorem wf_apply (cl : Clamp) (E : Content) (h : E.WF) : (cl.apply E).WF := by
  cases cl with
  | none => exact h
  | low n => exact Content.wf_specLow n E h
  | high n => exact Content.wf_specHigh n E h

theorem total_apply (cl : Clamp) (E : Content) : (cl.apply E).total = E.total := by
  cases cl with
  | none => rfl
  | low n => exact Content.total_specLow n E
  | high n => exact Content.total_specHigh n E

theorem apply_scale (cl : Clamp) (E : Content) (hE : E.WF) (w : Rat) (hw : 0 < w) :
    cl.apply (E.scale w) = (cl.apply E).scale w := by
  cases cl with
  | none => rfl
  | low n => exact Content.specLow_scale n E hE w hw
  | high n => exact Content.specHigh_scale n E hE w hw

theorem apply_merge_apply (cl : Clamp) (hcl : cl.OK) (a b : Content) (ha : a.WF) (hb : b.WF) :
    cl.apply ((cl.apply a).merge b) = cl.apply (a.merge b) := by
  cases cl with
  | none => rfl
  | low n => exact Content.specLow_merge_specLow n hcl a b ha hb
  | high n => exact Content.specHigh_merge_specHigh n hcl a b ha hb

/-- "clamp at every step" = "clamp once" -/
theorem apply_add_apply (cl : Clamp) (hcl : cl.OK) (E : Content) (hE : E.WF) (i : Int) (w : Rat)
    (hw : 0 ≤ w) : cl.apply ((cl.apply E).add i w) = cl.apply (E.add i w) := by
  by_cases hw0 : w = 0
  · have := cl.apply_merge_apply hcl E [] hE Content.wf_nil
    rwa [hw0, Content.add_zero_weight, Content.add_zero_weight]
  · rw [Content.add_eq_merge_singleton, Content.add_eq_merge_singleton]
    exact cl.apply_merge_apply hcl E _ hE
      ((Content.wf_cons _ _).2 ⟨Rat.lt_of_le_of_ne hw (Ne.symm hw0), by simp, Content.wf_nil⟩)

end Clamp
end DDS
