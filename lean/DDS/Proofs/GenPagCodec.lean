/-
  DDS.Proofs.GenPagCodec — the binary codec of the REGENERATED buffered-paginated store
  (`DDS.Gen.Paginated.BufferedPaginatedStore.Encode` / `.DecodeAndMergeWith` in
  `DDS/Generated/CodePaginated.lean`, translated on every run from `/repo/ddsketch/store/buffered_paginated.go`)
  against the HAND-WRITTEN model (`Sketch.encodeStore (.pg s)`, `Sketch.decodeStore (.pg s)` in
  `DDS/Model/Sketch.lean`).  Interfaces taken as hypotheses: `CompactSpec cf` (GenPagAdd), `PageSpec` (GenPagBase).

  1. ENCODE.  `Encode_eq` (and `Encode_compact`, `Encode_pos`, `Encode_neg`): for all stores `s`, capacities, prefixes
     `b`, sides,
        `Encode fuel (toGen s cap) b t = toRes (fun (st', blocks) => (toGen st' cap, b ++ bytes of blocks))
                                              (Sketch.encodeStore (.pg s) side)`:
     the store is compacted (same capacity), the bytes appended are exactly those of the model's blocks
     (`pagBlocks`: one `IndexDeltas` block for a non-empty buffer, one `ContiguousCounts` block — first index,
     stride 1, counts — per non-empty page), `.panic` exactly when the model says `none` (`compact` panics), never
     `.nofuel`.  Fuel: `encodeFuel cf s = max (cf s) 9` (the three loops of `Encode` are structural).
     Hypothesis `PEncRange` on the COMPACTED store: `len(buffer)`, `len(page) < 2^64`, the buffer deltas (from 0)
     and the first index of every non-empty page in the `int64` range — the `uint64(..)`/`int64(..)` conversions
     of the Go code; no hypothesis on the weights (`F64.fin w` enters the float codec for every rational), none on
     the invariant.  `pEncRange_of_inv`: it follows from `PStore.Inv` and `len(buffer) < 2^64`;
     `Encode_inv`: on a store with the invariant `Encode` succeeds, same content, model bytes.

  2. DECODE (`DecAgrees r m`: model error `.eof` ⇒ `.ok (_, _, io.EOF)`; model `.ok (st', rest)` ⇒
     `.ok (toGen s' cap', bn rest, nil)` with `Inv s'`, `st' = .pg st''`, `Inv st''`, `content s' = content st''`;
     the model never says `none` under the hypotheses).  The model adds bin by bin, the Go code appends to the
     buffer in batches / adds page-wise, so the stores agree up to abstraction (content) only: the loop invariants
     `DInv` / `CCInv` carry "both stores have the invariant and the same content", and one lemma each
     (`DInv.step`, `CCInv.step`) moves them over a decoded item.  The model store may therefore be ANY store `st` with
     the invariant and the content of `s` (`DecodeAndMergeWith_deltas(_gen)`, `DecodeAndMergeWith_contiguous_rel`: what
     the sketch-level simulation `GenPagSketch.Sim` hands over); `st := s` gives the statements on one store.
     * `DecodeAndMergeWith_deltas` — layout `BinEncodingIndexDeltas`, in full: batches whose size depends on
       the capacity and the `grow` oracle, `compact()` in between (`dec_loop2`, `dec_loop1`).  Hypotheses: `Inv s`;
       `len(buffer) ≤ max(cap, trigger)` (true of a Go slice; otherwise the first batch size is negative and
       `remaining` grows); announced count `v < 2^63`; every decoded index an int32.  Fuel
       `deltasFuel cf grow s cap b` = `3v + 21` + the maximum of `cf` over `deltaStates …`, the stores handed to
       `compact()` (a function of the store, the capacity, the oracle and the input).
       `DecodeAndMergeWith_deltas_bound`: the same with fuel `F + 3v + 21`, `F` any bound of `cf` on the stores with
       the invariant whose buffer has at most `L ≥ len(buffer) + v` entries (`…_gen`: common generalisation).
     * `DecodeAndMergeWith_contiguous` — layout `BinEncodingContiguousCounts`, in full: any start, any stride
       (also 0 or negative), any number of pages (`dec_loop4`, `dec_loop3`).  Hypotheses: `Inv s`; every announced
       index `start + j·stride` an int32; every decoded count finite and `≥ 0`.  Fuel
       `pageFuelMax + 2·numBins + 13` (`pageFuel_le`: `pageFuelMax = 268435500` suffices for `page` under `Inv`).
     * `DecodeAndMergeWith_fallback` — every other sub-flag is the oracle `decodeFallback`.

  DISAGREEMENT FOUND (`deltas_negative_count_model` / `deltas_negative_count_gen`, kernel-checked): a block of
  layout `IndexDeltas` announcing `numBins ≥ 2^63`: `remaining := int(numBins)` is negative, so is the batch
  size, no index is read, `remaining -= batchSize` gives 0 and Go returns `nil` (block accepted, nothing merged);
  the model — and the generic `store.DecodeAndMergeWith` the other stores use — tries to read the bins and fails
  with `io.EOF`.  Only on malformed input; hence the hypothesis `v < 2^63`.
  Observations, not disagreements: on `io.EOF` in the middle of a block the Go store keeps the bins read so far
  (the model's error carries no store); the `ContiguousCounts` path materialises the page of an index before it
  reads its count, and adds zero counts to a materialised page (the model skips them) — same content.
-/
import DDS.Proofs.GenPagDefs
import DDS.Proofs.GenPagBase
import DDS.Proofs.GenPagIter
import DDS.Proofs.GenDenseEncode
import DDS.Proofs.RoundTrip
import DDS.Proofs.GenStoreDecode

namespace DDS.GenPag

open DDS DDS.GoSem DDS.Gen.Encoding DDS.Codec DDS.GenEncoding DDS.GenDense
open DDS.GenDenseEncode (EncodeVarfloat64_fin block_bytes flatMap_vfBits)
open DDS.RoundTrip (dRec deltasFrom0_eq dRec_length pageBlocksFrom encodeStore_pg_eq)

/-! ### 1. `Encode` -/

/-- `int64(x)` does not wrap -/
def I64r (v : Int) : Prop := -(2:Int)^63 ≤ v ∧ v < (2:Int)^63

/-- the blocks the model's encoder writes for the (already compacted) store `s` -/
def pagBlocks (s : PStore) (side : Side) : List Block :=
  (if s.buffer.isEmpty then [] else [.bins side (.deltas (Sketch.deltasFrom0 s.buffer))])
    ++ pageBlocksFrom s side s.pages.toList 0

theorem encodeStore_pg (s : PStore) (side : Side) :
    Sketch.encodeStore (.pg s) side = s.compact.map (fun s' => (Store.pg s', pagBlocks s' side)) := by
  cases h : s.compact with
  | none => simp only [Sketch.encodeStore, h, Option.bind_eq_bind, Option.bind_none, Option.map_none]
  | some s' => rw [encodeStore_pg_eq s s' side h]; rfl

theorem cdc_ofInt_nat (n : Nat) (h : n < 2 ^ 64) : (BitVec.ofInt 64 (n : Int)).toNat = n := by
  rw [BitVec.ofInt_natCast, BitVec.toNat_ofNat, Nat.mod_eq_of_lt h]

/-- the counts of one page -/
theorem Encode_loop2 (fuel : Nat) (hf : 9 ≤ fuel) (page : List Rat) : ∀ (b : List (BitVec 8)),
    Gen.Paginated.BufferedPaginatedStore.Encode.loop2 fuel page b
      = .done (b ++ bn (page.flatMap fun c => encVarfloatBits (Sketch.vfBits c))) := by
  induction page with
  | nil => intro b; simp [Gen.Paginated.BufferedPaginatedStore.Encode.loop2, bn]
  | cons c page ih =>
    intro b
    unfold Gen.Paginated.BufferedPaginatedStore.Encode.loop2
    rw [EncodeVarfloat64_fin fuel hf, Res.bindL_ok, ih]
    simp only [List.flatMap_cons, bn_append, List.append_assoc]

/-- the index deltas of the buffer -/
theorem Encode_loop3 (fuel : Nat) (hf : 9 ≤ fuel) (buf : List Int) : ∀ (b : List (BitVec 8)) (prev : Int),
    (∀ d ∈ dRec prev buf, I64r d) →
    ∃ last, Gen.Paginated.BufferedPaginatedStore.Encode.loop3 fuel buf b prev
      = .done (b ++ bn ((dRec prev buf).flatMap encVarint64), last) := by
  induction buf with
  | nil => intro b prev _; exact ⟨prev, by simp [Gen.Paginated.BufferedPaginatedStore.Encode.loop3, dRec, bn]⟩
  | cons x buf ih =>
    intro b prev h
    have hx : I64r (x - prev) := h _ (by simp [dRec])
    obtain ⟨last, hl⟩ := ih (b ++ bn (encVarint64 (x - prev))) x (fun d hd => h d (by simp [dRec, hd]))
    refine ⟨last, ?_⟩
    unfold Gen.Paginated.BufferedPaginatedStore.Encode.loop3
    rw [EncodeVarint64_ofInt fuel hf b _ hx.1 hx.2, Res.bindL_ok, hl]
    simp only [dRec, List.flatMap_cons, bn_append, List.append_assoc]

theorem pageBlocksFrom_cons (s : PStore) (side : Side) (pg : Array Rat) (xs : List (Array Rat)) (n : Nat) :
    pageBlocksFrom s side (pg :: xs) n =
      (if pg.size = 0 then [] else [.bins side (.contiguous (s.index (s.minPageIndex + (n : Int)) 0) 1
        (pg.toList.map Sketch.vfBits))]) ++ pageBlocksFrom s side xs (n + 1) := by
  simp only [pageBlocksFrom, List.zipIdx_cons, List.filterMap_cons]
  by_cases h0 : pg.size = 0 <;> simp [h0]

/-- one block per non-empty page -/
theorem Encode_loop1 (fuel : Nat) (hf : 9 ≤ fuel) (t : FlagType) (side : Side)
    (ht : t.byte.toNat = Wire.sideType side) (s : PStore) (cap : Int) (xs : List (Array Rat)) :
    ∀ (n : Nat) (b : List (BitVec 8)),
    (∀ pg ∈ xs, pg.size < 2 ^ 64) →
    (∀ q ∈ xs.zipIdx n, q.1.size ≠ 0 → I64r (s.index (s.minPageIndex + (q.2 : Int)) 0)) →
    Gen.Paginated.BufferedPaginatedStore.Encode.loop1 fuel t (toGen s cap) (xs.map Array.toList) (n : Int) b
      = .done (b ++ bn (Wire.encBlocks (pageBlocksFrom s side xs n))) := by
  induction xs with
  | nil =>
    intro n b _ _
    simp [Gen.Paginated.BufferedPaginatedStore.Encode.loop1, pageBlocksFrom, Wire.encBlocks, bn]
  | cons pg xs ih =>
    intro n b hsz hidx
    have ih' := fun b => ih (n + 1) b (fun q hq => hsz q (by simp [hq]))
      (fun q hq => hidx q (by rw [List.zipIdx_cons]; exact List.mem_cons_of_mem _ hq))
    rw [List.map_cons]
    unfold Gen.Paginated.BufferedPaginatedStore.Encode.loop1
    rw [pageBlocksFrom_cons, Wire.encBlocks_append, bn_append]
    by_cases h0 : pg.size = 0
    · have hlen : ¬ ((0 : Int) < GoSem.len pg.toList) := by
        unfold GoSem.len; rw [Array.length_toList]; omega
      simp only [hlen, decide_false, Bool.false_eq_true, if_false, h0, if_true]
      rw [← Int.natCast_add_one, ih']
      simp [Wire.encBlocks, bn]
    · have hlen : (0 : Int) < GoSem.len pg.toList := by
        unfold GoSem.len; rw [Array.length_toList]; omega
      have hI := hidx (pg, n) (by rw [List.zipIdx_cons]; exact List.mem_cons_self ..) h0
      have hs := hsz pg (by simp)
      simp only [hlen, decide_true, if_true, h0, if_false, toGen_minPageIndex]
      rw [EncodeUvarint64_eq fuel hf, Res.bindL_ok, show (0 : Int) = ((0 : Nat) : Int) from rfl, gen_index_nat,
        EncodeVarint64_ofInt fuel hf _ _ hI.1 hI.2, Res.bindL_ok,
        EncodeVarint64_eq fuel hf, Res.bindL_ok, Encode_loop2 fuel hf]
      simp only [Loop.elimL]
      rw [← Int.natCast_add_one, ih']
      congr 1
      simp only [EncodeFlag, Wire.encBlocks, List.flatMap_cons, List.flatMap_nil, List.append_nil,
        Wire.encBlock, Wire.encPayload, List.length_map, List.append_assoc]
      rw [← bn_append, ← bn_append, ← bn_append, ← List.append_assoc b, ← List.append_assoc (b ++ _),
        block_bytes b _ _ ((storeFlag_bytes side t ht).2.2)]
      unfold GoSem.len
      rw [Array.length_toList, cdc_ofInt_nat _ hs, flatMap_vfBits, show (1#64).toInt = 1 by decide]
      simp only [bn, Wire.payloadSub, List.map_append, List.map_cons, List.append_assoc, List.cons_append]

/-- the `int64` / `uint64` conversions of `Encode` do not wrap around (asked of the COMPACTED store) -/
structure PEncRange (s : PStore) : Prop where
  /-- `uint64(len(buffer))` -/
  bufLen : s.buffer.length < 2 ^ 64
  /-- `int64(index - previousIndex)`, from 0 -/
  bufDeltas : ∀ d ∈ dRec 0 s.buffer, I64r d
  /-- `uint64(len(page))` -/
  pageLen : ∀ pg ∈ s.pages.toList, pg.size < 2 ^ 64
  /-- `int64(s.index(minPageIndex + pageOffset, 0))` of a non-empty page -/
  pageIdx : ∀ q ∈ s.pages.toList.zipIdx 0, q.1.size ≠ 0 → I64r (s.index (s.minPageIndex + (q.2 : Int)) 0)

def storePg : Store → PStore
  | .pg s => s
  | _ => default

/-- fuel for `Encode`: what `compact` needs, and 9 for the codecs (the three loops of `Encode` itself are
    structural on the buffer / pages) -/
def encodeFuel (cf : PStore → Nat) (s : PStore) : Nat := max (cf s) 9

/-- **MAIN (structural form).**  `Encode` compacts (`s' = compact s`, returned with the same capacity) and
    appends the bytes of the model's blocks for `s'`: the buffer as one `IndexDeltas` block (if non-empty),
    then one `ContiguousCounts` block per non-empty page; `.panic` exactly when `compact` panics. -/
theorem Encode_compact (cf : PStore → Nat) (hcompact : CompactSpec cf) (fuel : Nat) (s : PStore) (cap : Int)
    (side : Side) (t : FlagType) (ht : t.byte.toNat = Wire.sideType side) (b : List (BitVec 8))
    (hr : ∀ s', s.compact = some s' → PEncRange s') (hf : encodeFuel cf s ≤ fuel) :
    Gen.Paginated.BufferedPaginatedStore.Encode fuel (toGen s cap) b t
      = toRes (fun s' => (toGen s' cap, b ++ bn (Wire.encBlocks (pagBlocks s' side)))) s.compact := by
  have hf1 : cf s ≤ fuel := Nat.le_trans (Nat.le_max_left _ _) hf
  have hf9 : 9 ≤ fuel := Nat.le_trans (Nat.le_max_right _ _) hf
  unfold Gen.Paginated.BufferedPaginatedStore.Encode
  rw [hcompact s cap fuel hf1]
  cases hc : s.compact with
  | none => rfl
  | some s' =>
    obtain ⟨r1, r2, r3, r4⟩ := hr s' hc
    have hl1 := fun b => Encode_loop1 fuel hf9 t side ht s' cap s'.pages.toList 0 b r3 r4
    simp only [toRes_some, Res.bind_ok, toGen_buffer, toGen_pages, pagesL]
    simp only [Int.natCast_zero] at hl1
    unfold pagBlocks
    rw [Wire.encBlocks_append, bn_append]
    by_cases he : s'.buffer = []
    · have hlen : ¬ ((0 : Int) < GoSem.len s'.buffer) := by rw [he]; decide
      simp only [hlen, decide_false, Bool.false_eq_true, if_false, hl1, Loop.elim_done]
      simp only [he, List.isEmpty_nil, if_true]
      simp [Wire.encBlocks, bn]
    · have hlen : (0 : Int) < GoSem.len s'.buffer := by
        unfold GoSem.len
        have : s'.buffer.length ≠ 0 := fun h => he (List.eq_nil_of_length_eq_zero h)
        omega
      have hemp : s'.buffer.isEmpty = false := by
        cases hb : s'.buffer with
        | nil => exact absurd hb he
        | cons _ _ => rfl
      obtain ⟨last, hl3⟩ := Encode_loop3 fuel hf9 s'.buffer
        (EncodeFlag b (NewFlag t BinEncodingIndexDeltas) ++ bn (encUvarint64 s'.buffer.length)) 0 r2
      simp only [hlen, decide_true, if_true, hemp, Bool.false_eq_true, if_false]
      rw [EncodeUvarint64_eq fuel hf9, Res.bind_ok]
      unfold GoSem.len
      rw [cdc_ofInt_nat _ r1, hl3]
      simp only [Loop.elim_done, hl1]
      congr 2
      simp only [EncodeFlag, Wire.encBlocks, List.flatMap_cons, List.flatMap_nil, List.append_nil,
        Wire.encBlock, Wire.encPayload, List.append_assoc]
      rw [← bn_append, ← List.append_assoc b, ← List.append_assoc (b ++ _),
        block_bytes b _ _ ((storeFlag_bytes side t ht).2.1), deltasFrom0_eq, dRec_length]
      simp only [bn, Wire.payloadSub, List.map_append, List.map_cons, List.append_assoc, List.cons_append]

/-- **MAIN.**  The regenerated `Encode` against the model's `Sketch.encodeStore (.pg s) side`: same new store
    (compacted), the bytes of the model's blocks appended to `b`, `.panic` exactly when the model says `none`;
    never `.nofuel`. -/
theorem Encode_eq (cf : PStore → Nat) (hcompact : CompactSpec cf) (fuel : Nat) (s : PStore) (cap : Int)
    (side : Side) (t : FlagType) (ht : t.byte.toNat = Wire.sideType side) (b : List (BitVec 8))
    (hr : ∀ s', s.compact = some s' → PEncRange s') (hf : encodeFuel cf s ≤ fuel) :
    Gen.Paginated.BufferedPaginatedStore.Encode fuel (toGen s cap) b t
      = toRes (fun (p : Store × List Block) => (toGen (storePg p.1) cap, b ++ bn (Wire.encBlocks p.2)))
          (Sketch.encodeStore (.pg s) side) := by
  rw [Encode_compact cf hcompact fuel s cap side t ht b hr hf, encodeStore_pg]
  cases s.compact <;> rfl

theorem Encode_pos (cf : PStore → Nat) (hcompact : CompactSpec cf) (fuel : Nat) (s : PStore) (cap : Int)
    (b : List (BitVec 8)) (hr : ∀ s', s.compact = some s' → PEncRange s') (hf : encodeFuel cf s ≤ fuel) :
    Gen.Paginated.BufferedPaginatedStore.Encode fuel (toGen s cap) b FlagTypePositiveStore
      = toRes (fun (p : Store × List Block) => (toGen (storePg p.1) cap, b ++ bn (Wire.encBlocks p.2)))
          (Sketch.encodeStore (.pg s) .pos) :=
  Encode_eq cf hcompact fuel s cap .pos _ FlagTypePositiveStore_side b hr hf

theorem Encode_neg (cf : PStore → Nat) (hcompact : CompactSpec cf) (fuel : Nat) (s : PStore) (cap : Int)
    (b : List (BitVec 8)) (hr : ∀ s', s.compact = some s' → PEncRange s') (hf : encodeFuel cf s ≤ fuel) :
    Gen.Paginated.BufferedPaginatedStore.Encode fuel (toGen s cap) b FlagTypeNegativeStore
      = toRes (fun (p : Store × List Block) => (toGen (storePg p.1) cap, b ++ bn (Wire.encBlocks p.2)))
          (Sketch.encodeStore (.pg s) .neg) :=
  Encode_eq cf hcompact fuel s cap .neg _ FlagTypeNegativeStore_side b hr hf

/-! #### under the store invariant the range hypotheses hold -/

open DDS.PStore (Idx32 content)

theorem cdc_idx32_i64 (i : Int) (h : Idx32 i) : DDS.I64 i := by
  unfold PStore.Idx32 minInt32 maxInt32 at h
  unfold DDS.I64
  omega

theorem pEncRange_of_inv (s : PStore) (hI : PStore.Inv s) (hlen : s.buffer.length < 2 ^ 64) : PEncRange s := by
  have hL := hI.pageLen_eq
  refine ⟨hlen, ?_, ?_, ?_⟩
  · intro d hd
    exact DDS.RoundTrip.dRec_wf 0 DDS.RoundTrip.idx32_zero s.buffer hI.bufRange d hd
  · intro pg hpg
    have := PStore.pages_size_le s hI pg hpg
    omega
  · intro q hq hne
    obtain ⟨pg, off⟩ := q
    have hq' := List.mem_zipIdx hq
    simp only [Nat.zero_add, Nat.sub_zero, Nat.zero_le, true_and, Array.length_toList,
      Array.getElem_toList] at hq'
    obtain ⟨h1, h2⟩ := hq'
    have hget : s.pages.getD off #[] = pg := by
      simp [Array.getD_eq_getD_getElem?, h1, h2]
    have := hI.pageRange off (by rw [hget]; exact hne)
    apply cdc_idx32_i64
    apply PStore.idx32_of_pageIdx32 s hL
    rw [PStore.pageIndex_index s _ 0 (by omega)]
    exact this

/-- **`Encode` on a store with the invariant** (buffer shorter than `2^64`): it succeeds, returns the compacted store
    `s'` (invariant, same content, same capacity) and appends exactly the bytes of the model's blocks. -/
theorem Encode_inv (cf : PStore → Nat) (hcompact : CompactSpec cf) (fuel : Nat) (s : PStore) (cap : Int)
    (side : Side) (t : FlagType) (ht : t.byte.toNat = Wire.sideType side) (b : List (BitVec 8))
    (hI : PStore.Inv s) (hlen : s.buffer.length < 2 ^ 64) (hf : encodeFuel cf s ≤ fuel) :
    ∃ s' blocks, Sketch.encodeStore (.pg s) side = some (.pg s', blocks) ∧
      Gen.Paginated.BufferedPaginatedStore.Encode fuel (toGen s cap) b t
        = .ok (toGen s' cap, b ++ bn (Wire.encBlocks blocks)) ∧
      PStore.Inv s' ∧ content s' = content s := by
  obtain ⟨s', hc, hI', hcont⟩ := PStore.compact_content s hI
  have hlen' := (DDS.RoundTrip.compact_buffer s s' hc).1
  refine ⟨s', pagBlocks s' side, by rw [encodeStore_pg, hc]; rfl, ?_, hI', hcont⟩
  rw [Encode_compact cf hcompact fuel s cap side t ht b
    (fun s'' h'' => by
      rw [hc] at h''; cases h''
      exact pEncRange_of_inv s' hI' (by omega)) hf, hc]
  rfl

/-! ### 2. `DecodeAndMergeWith`

  The model (`Sketch.decodeStore (.pg st)`) hands every bin to `addWithCount`; the paginated store decodes
  two layouts itself (appending to the buffer in batches with `compact()` in between / adding page-wise),
  so the two results are equal up to abstraction only: same bytes consumed, same error, and the resulting
  generated store is the image of a model store satisfying the invariant whose CONTENT is the content of
  the model's result. -/

open DDS.GenStoreDecode (dTrace ccTrace V_ok V_err U_ok F_ok F_err)

/-- a generated decoder result against the model's -/
def DecAgrees (r : Res (GP × List (BitVec 8) × GoErr)) (m : Option (Except SkErr (Store × Bytes))) : Prop :=
  match m with
  | none => False
  | some (.error e) => e = .eof ∧ ∃ g' b', r = .ok (g', b', GoErr.eof)
  | some (.ok (st', rest)) => ∃ s' cap' st'', r = .ok (toGen s' cap', bn rest, GoErr.nil) ∧ st' = .pg st'' ∧
      PStore.Inv s' ∧ PStore.Inv st'' ∧ content s' = content st''

theorem cdc_toInt (i : Int) (h : Idx32 i) : (BitVec.ofInt 64 i).toInt = i :=
  DDS.GenStoreDecode.toInt_ofInt_I64 i (cdc_idx32_i64 i h)

/-- the model's add on a store satisfying the invariant -/
theorem pg_add (st : PStore) (h : PStore.Inv st) (i : Int) (hi : Idx32 i) (w : Rat) (hw : 0 ≤ w) :
    ∃ st1, (Store.pg st).addWithCount i w = some (.pg st1) ∧ PStore.Inv st1 ∧ content st1 = (content st).add i w := by
  obtain ⟨st1, h1, h2, h3⟩ := PStore.add_content st h i hi w hw true
  exact ⟨st1, by simp only [Store.addWithCount, h1, Option.map_some], h2, h3⟩

/-! #### layout `BinEncodingIndexDeltas` -/

/-- read `k` index deltas from index `idx`: the indexes, the last index, the remaining bytes -/
def readDeltas : Nat → Int → Bytes → Option (List Int × Int × Bytes)
  | 0, idx, bs => some ([], idx, bs)
  | k + 1, idx, bs =>
    match decVarint64 bs with
    | .error _ => none
    | .ok (d, bs1) => (readDeltas k (idx + d) bs1).map (fun r => ((idx + d) :: r.1, r.2.1, r.2.2))

/-- the capacity after `k` appends to a buffer of length `len` and capacity `cap` -/
def capAfter (grow : Int → Int → Int) : Nat → Int → Nat → Int
  | 0, cap, _ => cap
  | k + 1, cap, len => capAfter grow k (if (len : Int) = cap then grow cap ((len : Int) + 1) else cap) (len + 1)

def appendBuf (s : PStore) (l : List Int) : PStore := { s with buffer := s.buffer ++ l }

/-- the stores on which the `IndexDeltas` decoder calls `compact()` (the model store with one batch appended to
    its buffer), in order; `M` bounds the number of rounds.  A function of the store, the capacity, the `grow`
    oracle and the input: the fuel that `compact` needs is the maximum of `cf` over this list. -/
def deltaStates (grow : Int → Int → Int) : Nat → PStore → Int → Int → Bytes → Nat → List PStore
  | 0, _, _, _, _, _ => []
  | M + 1, s, cap, idx, bs, n =>
    match readDeltas (min (n : Int) (max cap (s.trigger : Int) - (s.buffer.length : Int))).toNat idx bs with
    | none => []
    | some (l, idx1, bs1) =>
      if n - (min (n : Int) (max cap (s.trigger : Int) - (s.buffer.length : Int))).toNat = 0 then []
      else
        appendBuf s l :: (match (appendBuf s l).compact with
          | none => []
          | some s2 => deltaStates grow M s2
              (capAfter grow (min (n : Int) (max cap (s.trigger : Int) - (s.buffer.length : Int))).toNat cap
                s.buffer.length) idx1 bs1
              (n - (min (n : Int) (max cap (s.trigger : Int) - (s.buffer.length : Int))).toNat))

/-- one round of `deltaStates`: a batch of `k` of the `k + m` items, `m ≠ 0` left -/
theorem deltaStates_round (grow : Int → Int → Int) (M : Nat) (s : PStore) (cap idx : Int) (bs : Bytes) (k m : Nat)
    (l : List Int) (idx1 : Int) (bs1 : Bytes) (s2 : PStore)
    (hk : (k : Int) = min ((k + m : Nat) : Int) (max cap (s.trigger : Int) - (s.buffer.length : Int)))
    (hr : readDeltas k idx bs = some (l, idx1, bs1)) (hm : m ≠ 0) (hc : (appendBuf s l).compact = some s2) :
    deltaStates grow (M + 1) s cap idx bs (k + m)
      = appendBuf s l :: deltaStates grow M s2 (capAfter grow k cap s.buffer.length) idx1 bs1 m := by
  have e : (min ((k + m : Nat) : Int) (max cap (s.trigger : Int) - (s.buffer.length : Int))).toNat = k := by
    rw [← hk]; rfl
  simp only [deltaStates, e, hr, Nat.add_sub_cancel_left, hm, if_false, hc]

/-- the loop invariant of the `IndexDeltas` decoder: `n` items to go, the generated store is the image of `s`, the
    model holds `st` -/
structure DInv (n : Nat) (s st : PStore) (idx : Int) (b : List (BitVec 8)) : Prop where
  inv : PStore.Inv s
  invM : PStore.Inv st
  cont : content st = content s
  trace : ∀ u ∈ dTrace n idx (nb b), Idx32 u

/-- one decoded delta: the model adds the index, the invariant moves on to the store with the index buffered -/
theorem DInv.step {n : Nat} {s st : PStore} {idx d : Int} {b b1 : List (BitVec 8)} (h : DInv (n + 1) s st idx b)
    (hV : decVarint64 (nb b) = .ok (d, nb b1)) :
    Idx32 (idx + d) ∧ ∃ st1, Sketch.decItems (Sketch.itemOf Sketch.rdD) (n + 1) (.pg st) idx (nb b)
        = Sketch.decItems (Sketch.itemOf Sketch.rdD) n (.pg st1) (idx + d) (nb b1) ∧
      DInv n (appendBuf s [idx + d]) st1 (idx + d) b1 := by
  have htr : dTrace (n + 1) idx (nb b) = (idx + d) :: dTrace n (idx + d) (nb b1) := by simp only [dTrace, hV]
  have hx : Idx32 (idx + d) := h.trace _ (htr ▸ List.mem_cons_self ..)
  obtain ⟨st1, ha1, hIt1, hc1⟩ := pg_add st h.invM (idx + d) hx 1 (by decide)
  have hit := Sketch.itemOf_some (.pg st) (Sketch.rdD_of_ok (idx := idx) hV)
  rw [show Sketch.addF (.pg st) (idx + d) F64.one = some (.pg st1) from ha1, Option.map_some] at hit
  exact ⟨hx, st1, Sketch.decItems_ok n (.pg st) idx (nb b) (.pg st1) (idx + d) (nb b1) hit,
    PStore.inv_append_buffer s h.inv _ hx, hIt1,
    by rw [hc1, h.cont]; exact (PStore.content_add_of_wt h.inv (PStore.inv_append_buffer s h.inv _ hx) _ 1 (by decide)
      (PStore.wt_append_buffer s _)).symm,
    fun u hu => h.trace u (htr ▸ List.mem_cons_of_mem _ hu)⟩

/-- one batch of the `IndexDeltas` layout (`loop2`) and what follows it (`K`, then `K₁`): `k` items appended to the
    buffer (no compaction), against the first `k` of the model's `k + m` items; an input that ends early is `io.EOF` on
    both sides -/
theorem dec_loop2 (grow : Int → Int → Int) (batchSize : Int) (m : Nat)
    (K : List (BitVec 8) × BitVec 64 × GP × Int →
      Loop (List (BitVec 8) × BitVec 64 × GP × Int) (GP × List (BitVec 8) × GoErr))
    (K₁ : List (BitVec 8) × BitVec 64 × GP × Int → Res (GP × List (BitVec 8) × GoErr)) :
    ∀ (k fuel : Nat) (b : List (BitVec 8)) (s : PStore) (cap : Int) (i : Int) (st : PStore) (idx : Int),
    batchSize - i = (k : Int) → k + 10 ≤ fuel → DInv (k + m) s st idx b →
    -- when the batch `l` is in the buffer, what follows agrees with the model on the `m` items left
    (∀ l idx1 b1 st1, readDeltas k idx (nb b) = some (l, idx1, nb b1) → l.length = k → DInv m (appendBuf s l) st1 idx1 b1 →
      DecAgrees ((K (b1, BitVec.ofInt 64 idx1, toGen (appendBuf s l) (capAfter grow k cap s.buffer.length),
          batchSize)).elim K₁)
        (Sketch.decItems (Sketch.itemOf Sketch.rdD) m (.pg st1) idx1 (nb b1))) →
    DecAgrees (((Gen.Paginated.BufferedPaginatedStore.DecodeAndMergeWith.loop2 grow batchSize fuel b
        (BitVec.ofInt 64 idx) (toGen s cap) i).elimL K).elim K₁)
      (Sketch.decItems (Sketch.itemOf Sketch.rdD) (k + m) (.pg st) idx (nb b)) := by
  intro k
  induction k with
  | zero =>
    intro fuel b s cap i st idx hk hf hinv hK
    obtain ⟨fuel, rfl, rfl⟩ : ∃ f, fuel = f + 1 ∧ i = batchSize := ⟨fuel - 1, by omega⟩
    rw [Nat.zero_add] at hinv ⊢
    rw [Gen.Paginated.BufferedPaginatedStore.DecodeAndMergeWith.loop2, if_neg (by simp)]
    have := hK [] idx b st rfl rfl (by rwa [appendBuf, List.append_nil])
    rwa [appendBuf, List.append_nil] at this
  | succ k ih =>
    intro fuel b s cap i st idx hk hf hinv hK
    obtain ⟨fuel, rfl, hf9, hi, hk', hf'⟩ : ∃ f, fuel = f + 1 ∧ 9 ≤ f ∧ i < batchSize ∧
        batchSize - (i + 1) = (k : Int) ∧ k + 10 ≤ f := ⟨fuel - 1, by omega⟩
    rw [Nat.add_right_comm] at hinv ⊢
    cases hV : decVarint64 (nb b) with
    | error e1 =>
      rw [Sketch.decItems_err _ _ idx (nb b) _ (Sketch.itemOf_none _ (Sketch.rdD_of_error hV))]
      simp only [Gen.Paginated.BufferedPaginatedStore.DecodeAndMergeWith.loop2, hi, decide_true, if_true,
        V_err fuel hf9 b e1 hV, Res.bindL_ok, GoErr.eof_bne_nil]
      exact ⟨rfl, _, _, rfl⟩
    | ok p1 =>
      obtain ⟨d, r1⟩ := p1
      obtain ⟨b1, hV1, rfl, _, _⟩ := V_ok fuel hf9 b d r1 hV
      obtain ⟨hx, st1, hm, hinv1⟩ := hinv.step hV
      have hl : Gen.Paginated.BufferedPaginatedStore.DecodeAndMergeWith.loop2 grow batchSize (fuel + 1) b
            (BitVec.ofInt 64 idx) (toGen s cap) i
          = Gen.Paginated.BufferedPaginatedStore.DecodeAndMergeWith.loop2 grow batchSize fuel b1
            (BitVec.ofInt 64 (idx + d))
            (toGen (appendBuf s [idx + d])
              (if (s.buffer.length : Int) = cap then grow cap ((s.buffer.length : Int) + 1) else cap))
            (i + 1) := by
        have hb : (GoSem.len (toGen s cap).buffer == (toGen s cap).bufferCap) = decide ((s.buffer.length : Int) = cap) :=
          Bool.beq_eq_decide_eq _ _
        simp only [Gen.Paginated.BufferedPaginatedStore.DecodeAndMergeWith.loop2, hi, decide_true, if_true, hV1,
          Res.bindL_ok, GoErr.nil_bne_nil, Bool.false_eq_true, if_false, ← BitVec.ofInt_add, cdc_toInt _ hx, hb]
        by_cases hcap : (s.buffer.length : Int) = cap
        · rw [decide_eq_true hcap, if_pos hcap]; rfl
        · rw [decide_eq_false hcap, if_neg hcap]; rfl
      rw [hl, hm]
      refine ih fuel b1 (appendBuf s [idx + d]) _ (i + 1) st1 (idx + d) hk' hf' hinv1 (fun l idx2 b2 st2 h1 h2 h5 => ?_)
      have happ : appendBuf (appendBuf s [idx + d]) l = appendBuf s ((idx + d) :: l) := by
        simp only [appendBuf, List.append_assoc, List.singleton_append]
      have := hK ((idx + d) :: l) idx2 b2 st2 (by simp only [readDeltas, hV, h1, Option.map_some])
        (by rw [List.length_cons, h2]) (happ ▸ h5)
      rw [happ]
      simpa only [capAfter, appendBuf, List.length_append, List.length_singleton] using this

/-- the arithmetic of one round of the `IndexDeltas` decoder (`T` = `max cap trigger`, `len` buffered entries): the
    batch takes `k` of the `n = k + m` items; when `m ≠ 0` are left, either `k ≥ 1` or this was the one empty round of
    a full buffer -/
theorem round_arith {n M F L fuel len : Nat} {T : Int}
    (hM : 2 * n + (if (len : Int) < T then 0 else 1) < M + 1) (hf : F + (M + 1) + n + 11 ≤ fuel) (hL : len + n ≤ L)
    (hcap : (len : Int) ≤ T) :
    ∃ k m f : Nat, (k : Int) = min (n : Int) (T - (len : Int)) ∧ n = k + m ∧ fuel = f + 1 ∧
      (k + 10 ≤ f ∧ F ≤ f ∧ len + k ≤ L) ∧ (m ≠ 0 → (2 * m + 0 < M ∧ F + M + m + 11 ≤ f) ∧ len + k + m ≤ L) := by
  obtain ⟨f, rfl⟩ := Nat.exists_eq_add_one_of_ne_zero (Nat.ne_of_gt (Nat.lt_of_lt_of_le (Nat.succ_pos _) hf))
  -- the batch: all of `n`, or what fits below `T`
  obtain ⟨k, m, hk, rfl, hkm⟩ : ∃ k m : Nat, (k : Int) = min (n : Int) (T - (len : Int)) ∧ n = k + m ∧
      (m ≠ 0 → (k : Int) = T - (len : Int)) := by
    clear hM hf hL
    rcases Int.le_total (n : Int) (T - (len : Int)) with hn | hn
    · exact ⟨n, 0, (Int.min_eq_left hn).symm, rfl, fun h => absurd rfl h⟩
    · obtain ⟨k, hk⟩ : ∃ k : Nat, (k : Int) = T - (len : Int) := ⟨(T - (len : Int)).toNat, by omega⟩
      exact ⟨k, n - k, by rw [hk]; exact (Int.min_eq_right hn).symm, by omega, fun _ => hk⟩
  have hfu : k + 10 ≤ f ∧ F ≤ f ∧ F + M + m + 11 ≤ f := by clear hM hL hcap hk hkm; omega
  refine ⟨k, m, f, hk, rfl, rfl, ⟨hfu.1, hfu.2.1, Nat.le_trans (Nat.add_le_add_left (Nat.le_add_right k m) len) hL⟩,
    fun hm => ⟨⟨?_, hfu.2.2⟩, Nat.add_assoc len k m ▸ hL⟩⟩
  have hk' := hkm hm
  clear hf hL hfu hk hkm
  split at hM <;> omega

theorem cdc_goMin (x y : Int) : Gen.Paginated.goMin x y = min x y := by
  unfold Gen.Paginated.goMin
  rcases Int.lt_or_le x y with h | h
  · rw [if_pos (decide_eq_true h), Int.min_eq_left (Int.le_of_lt h)]
  · rw [if_neg (by rw [decide_eq_true_eq]; exact Int.not_lt.2 h), Int.min_eq_right h]

theorem cdc_goMax (x y : Int) : Gen.Paginated.goMax x y = max x y := by
  unfold Gen.Paginated.goMax
  rcases Int.lt_or_le y x with h | h
  · rw [if_pos (decide_eq_true h), Int.max_eq_left (Int.le_of_lt h)]
  · rw [if_neg (by rw [decide_eq_true_eq]; exact Int.not_lt.2 h), Int.max_eq_right h]

theorem compact_trigger (s s' : PStore) (h : s.compact = some s') :
    s'.trigger = s'.buffer.length + s'.pageLen := by
  obtain ⟨s₁, -, h⟩ := PStore.compact_run h
  rw [congrArg PStore.pageLen h]
  exact congrArg PStore.trigger h

/-- the batches of the `IndexDeltas` layout (`loop1`): batch, `compact()`, batch, … against the model's `n` items.
    `M` bounds the number of rounds (`2n`, `+1` when the first batch is empty because the buffer is full);
    `F` is enough fuel for every `compact` on a store (with the invariant) whose buffer has at most `L` entries. -/
theorem dec_loop1 (cf : PStore → Nat) (hcompact : CompactSpec cf) (grow : Int → Int → Int) (F L : Nat) :
    ∀ (M n fuel : Nat) (b : List (BitVec 8)) (s : PStore) (cap : Int) (st : PStore) (idx : Int),
    (∀ s' ∈ deltaStates grow M s cap idx (nb b) n, PStore.Inv s' → s'.buffer.length ≤ L → cf s' ≤ F) →
    2 * n + (if (s.buffer.length : Int) < max cap (s.trigger : Int) then 0 else 1) < M →
    F + M + n + 11 ≤ fuel → s.buffer.length + n ≤ L →
    (s.buffer.length : Int) ≤ max cap (s.trigger : Int) → DInv n s st idx b →
    ∀ K, DecAgrees (Loop.elim (Gen.Paginated.BufferedPaginatedStore.DecodeAndMergeWith.loop1 grow fuel b
        (BitVec.ofInt 64 idx) (toGen s cap) (n : Int)) K)
      (Sketch.decItems (Sketch.itemOf Sketch.rdD) n (.pg st) idx (nb b)) := by
  intro M
  induction M with
  | zero => intro n _ _ _ _ _ _ _ hM; exact absurd hM (Nat.not_lt_zero _)
  | succ M ih =>
    intro n fuel b s cap st idx hcf hM hf hL hcap hinv K
    obtain ⟨k, m, fuel, hk, rfl, rfl, hfk, hnext⟩ := round_arith hM hf hL hcap
    rw [Gen.Paginated.BufferedPaginatedStore.DecodeAndMergeWith.loop1]
    simp only [cdc_goMin, cdc_goMax, toGen_bufferCap, toGen_trigger, toGen_buffer, GoSem.len, ← hk]
    refine dec_loop2 grow (k : Int) m _ K k fuel b s cap 0 st idx (Int.sub_zero _) hfk.1 hinv
      (fun l idx1 b1 st1 hrd hlen hinv1 => ?_)
    by_cases hm0 : m = 0
    · subst hm0
      rw [if_pos (by rw [beq_iff_eq]; omega)]
      exact ⟨appendBuf s l, _, st1, by rw [bn_nb]; rfl, rfl, hinv1.inv, hinv1.invM, hinv1.cont.symm⟩
    · rw [if_neg (by rw [beq_iff_eq]; omega), show ((k + m : Nat) : Int) - (k : Int) = (m : Int) by omega]
      have hlen1 : (appendBuf s l).buffer.length = s.buffer.length + k := by
        rw [appendBuf, List.length_append, hlen]
      obtain ⟨s2, hcp, hI2, hc2⟩ := PStore.compact_content _ hinv1.inv
      rw [deltaStates_round grow M s cap idx (nb b) k m l idx1 (nb b1) s2 hk hrd hm0 hcp] at hcf
      rw [hcompact _ _ fuel (Nat.le_trans (hcf _ (List.mem_cons_self ..) hinv1.inv (hlen1 ▸ hfk.2.2)) hfk.2.1), hcp,
        toRes_some, Res.bindL_ok]
      obtain ⟨⟨a1, a2⟩, a3⟩ := hnext hm0
      have hlen2 : s2.buffer.length ≤ s.buffer.length + k := hlen1 ▸ (DDS.RoundTrip.compact_buffer _ s2 hcp).1
      have hlt : (s2.buffer.length : Int) < max (capAfter grow k cap s.buffer.length) (s2.trigger : Int) :=
        Int.lt_of_lt_of_le (by rw [compact_trigger _ s2 hcp]; exact Int.ofNat_lt.2 (Nat.lt_add_of_pos_right (Nat.two_pow_pos _)))
          (Int.le_max_right _ _)
      exact ih m fuel b1 s2 _ st1 idx1 (fun s' hs' => hcf s' (List.mem_cons_of_mem _ hs')) (by rwa [if_pos hlt]) a2
        (Nat.le_trans (Nat.add_le_add_right hlen2 m) a3) (Int.le_of_lt hlt)
        ⟨hI2, hinv1.invM, hinv1.cont.trans hc2.symm, hinv1.trace⟩ K

theorem beqDeltas : (BinEncodingIndexDeltas == BinEncodingIndexDeltas) = true := by decide

/-- general form of the two theorems below: `F` bounds `cf` on the stores handed to `compact()` (`deltaStates`)
    that satisfy the invariant and have at most `L` buffered entries -/
theorem DecodeAndMergeWith_deltas_gen (cf : PStore → Nat) (hcompact : CompactSpec cf) (grow : Int → Int → Int)
    (fb : GP → List (BitVec 8) → SubFlag → Res (GP × List (BitVec 8) × GoErr))
    (F L : Nat) (fuel : Nat) (s st : PStore) (cap : Int) (b : List (BitVec 8)) (hI : PStore.Inv s)
    (hIt : PStore.Inv st) (hc : content st = content s)
    (hcap : (s.buffer.length : Int) ≤ max cap (s.trigger : Int)) (hf9 : 9 ≤ fuel)
    (hn : ∀ v rest, decUvarint64 (nb b) = .ok (v, rest) →
      v < 2 ^ 63 ∧ s.buffer.length + v ≤ L ∧ F + 3 * v + 21 ≤ fuel ∧
      ∀ s' ∈ deltaStates grow (2 * v + 2) s cap 0 rest v, PStore.Inv s' → s'.buffer.length ≤ L → cf s' ≤ F)
    (hidx : ∀ u ∈ DDS.GenStoreDecode.storeIndexes Consts.binEncodingIndexDeltas (nb b), Idx32 u) :
    DecAgrees (Gen.Paginated.BufferedPaginatedStore.DecodeAndMergeWith fuel grow fb (toGen s cap) b
        BinEncodingIndexDeltas)
      (Sketch.decodeStore (.pg st) Consts.binEncodingIndexDeltas (nb b)) := by
  unfold Gen.Paginated.BufferedPaginatedStore.DecodeAndMergeWith
  simp only [beqDeltas, if_true]
  cases hU : decUvarint64 (nb b) with
  | error e =>
    rw [DecodeUvarint64_eof fuel hf9 b e hU,
      Sketch.decodeStore_of_header_error _ (Sketch.parseHeader_eof (.inr (.inl rfl)) hU)]
    simp only [Res.bind_ok, GoErr.eof_bne_nil, if_true]
    exact ⟨rfl, _, _, rfl⟩
  | ok p =>
    obtain ⟨v, rest⟩ := p
    obtain ⟨hv, hL, hf, hcf⟩ := hn v rest hU
    obtain ⟨b1, hU1, hb1, _, _⟩ := U_ok fuel hf9 b v rest hU
    rw [hU1, Sketch.decodeStore_of_header_ok _ (Sketch.parseHeader_d hU)]
    simp only [Res.bind_ok, GoErr.nil_bne_nil, Bool.false_eq_true, if_false]
    have hti : (BitVec.ofNat 64 v).toInt = (v : Int) := by
      rw [← BitVec.ofInt_natCast]
      exact DDS.GenStoreDecode.toInt_ofInt_I64 _ ⟨Int.le_trans (by decide) (Int.natCast_nonneg v), by exact_mod_cast hv⟩
    have htr : ∀ u ∈ dTrace v 0 (nb b1), Idx32 u := by
      intro u hu
      apply hidx u
      simp only [DDS.GenStoreDecode.storeIndexes, hU,
        show Consts.binEncodingIndexDeltas ≠ Consts.binEncodingIndexDeltasAndCounts by decide, if_false, if_true]
      rw [hb1] at hu; exact hu
    rw [hti, show (0#64) = BitVec.ofInt 64 0 from rfl, ← hb1]
    exact dec_loop1 cf hcompact grow F L (2 * v + 2) v fuel b1 s cap st 0 (by rw [hb1]; exact hcf)
      (Nat.add_lt_add_left (by split <;> decide) _) (by omega) hL hcap ⟨hI, hIt, hc, htr⟩ _

theorem le_foldl_max (l : List Nat) (a x : Nat) (h : x ≤ a ∨ x ∈ l) : x ≤ l.foldl max a := by
  induction l generalizing a with
  | nil =>
    rcases h with h | h
    · exact h
    · cases h
  | cons y l ih =>
    rw [List.foldl_cons]
    apply ih
    rcases h with h | h
    · exact Or.inl (by omega)
    · rcases List.mem_cons.1 h with rfl | h
      · exact Or.inl (by omega)
      · exact Or.inr h

/-- the fuel `DecodeAndMergeWith` needs on an `IndexDeltas` block: a function of the store, the capacity, the
    `grow` oracle and the input (`v` = announced number of bins): `3v + 21` for its own loops and the codecs, plus
    the maximum of `cf` over the stores it compacts -/
def deltasFuel (cf : PStore → Nat) (grow : Int → Int → Int) (s : PStore) (cap : Int) (b : List (BitVec 8)) : Nat :=
  match decUvarint64 (nb b) with
  | .error _ => 9
  | .ok (v, rest) => ((deltaStates grow (2 * v + 2) s cap 0 rest v).map cf).foldl max 0 + 3 * v + 21

/-- **`DecodeAndMergeWith`, layout `BinEncodingIndexDeltas`** (batches of appends with `compact()` in between, for
    every capacity, every `grow` oracle, every fallback), against `Sketch.decodeStore (.pg st)` for any model store `st`
    with the invariant and the content of `s`:
    same error (`io.EOF` ↔ `.eof`), same remaining bytes, and the resulting store is the image of a model store
    with the invariant and the CONTENT of the model's result; the model does not panic and the generated code
    neither panics nor runs out of fuel.

    Hypotheses: the invariant of both stores; `len(buffer) ≤ max(cap(buffer), trigger)` (true of every Go slice; without
    it the first batch size is negative and `remaining` GROWS); the announced number of bins `v` fits `int`
    (`v < 2^63`, see `deltas_negative_count_gen` for what happens otherwise); every decoded index is an int32
    (`Idx32`, needed by the invariant).  Fuel: `deltasFuel cf grow s cap b`. -/
theorem DecodeAndMergeWith_deltas (cf : PStore → Nat) (hcompact : CompactSpec cf) (grow : Int → Int → Int)
    (fb : GP → List (BitVec 8) → SubFlag → Res (GP × List (BitVec 8) × GoErr))
    (fuel : Nat) (s st : PStore) (cap : Int) (b : List (BitVec 8)) (hI : PStore.Inv s)
    (hIt : PStore.Inv st) (hc : content st = content s)
    (hcap : (s.buffer.length : Int) ≤ max cap (s.trigger : Int))
    (hn : ∀ v rest, decUvarint64 (nb b) = .ok (v, rest) → v < 2 ^ 63)
    (hidx : ∀ u ∈ DDS.GenStoreDecode.storeIndexes Consts.binEncodingIndexDeltas (nb b), Idx32 u)
    (hf : deltasFuel cf grow s cap b ≤ fuel) :
    DecAgrees (Gen.Paginated.BufferedPaginatedStore.DecodeAndMergeWith fuel grow fb (toGen s cap) b
        BinEncodingIndexDeltas)
      (Sketch.decodeStore (.pg st) Consts.binEncodingIndexDeltas (nb b)) := by
  cases hU : decUvarint64 (nb b) with
  | error e =>
    apply DecodeAndMergeWith_deltas_gen cf hcompact grow fb 0 0 fuel s st cap b hI hIt hc hcap
      (by simp only [deltasFuel, hU] at hf; exact hf) (fun v rest h => by rw [hU] at h; cases h) hidx
  | ok p =>
    obtain ⟨v, rest⟩ := p
    simp only [deltasFuel, hU] at hf
    apply DecodeAndMergeWith_deltas_gen cf hcompact grow fb
      (((deltaStates grow (2 * v + 2) s cap 0 rest v).map cf).foldl max 0) (s.buffer.length + v) fuel s st cap b hI
      hIt hc hcap (by omega) ?_ hidx
    intro v' rest' h
    rw [hU] at h
    cases h
    refine ⟨hn v rest hU, Nat.le_refl _, hf, fun s' hs' _ _ => ?_⟩
    exact le_foldl_max _ 0 _ (Or.inr (List.mem_map_of_mem hs'))

/-- the same with a closed fuel bound: `F` enough for `compact` on ANY store with the invariant and a buffer of at
    most `L ≥ len(buffer) + v` entries; fuel `F + 3v + 21` -/
theorem DecodeAndMergeWith_deltas_bound (cf : PStore → Nat) (hcompact : CompactSpec cf) (grow : Int → Int → Int)
    (fb : GP → List (BitVec 8) → SubFlag → Res (GP × List (BitVec 8) × GoErr))
    (F L : Nat) (hcf : ∀ s', PStore.Inv s' → s'.buffer.length ≤ L → cf s' ≤ F)
    (fuel : Nat) (s : PStore) (cap : Int) (b : List (BitVec 8)) (hI : PStore.Inv s)
    (hcap : (s.buffer.length : Int) ≤ max cap (s.trigger : Int)) (hf9 : 9 ≤ fuel)
    (hn : ∀ v rest, decUvarint64 (nb b) = .ok (v, rest) →
      v < 2 ^ 63 ∧ s.buffer.length + v ≤ L ∧ F + 3 * v + 21 ≤ fuel)
    (hidx : ∀ u ∈ DDS.GenStoreDecode.storeIndexes Consts.binEncodingIndexDeltas (nb b), Idx32 u) :
    DecAgrees (Gen.Paginated.BufferedPaginatedStore.DecodeAndMergeWith fuel grow fb (toGen s cap) b
        BinEncodingIndexDeltas)
      (Sketch.decodeStore (.pg s) Consts.binEncodingIndexDeltas (nb b)) :=
  DecodeAndMergeWith_deltas_gen cf hcompact grow fb F L fuel s s cap b hI hI rfl hcap hf9
    (fun v rest h => by
      obtain ⟨h1, h2, h3⟩ := hn v rest h
      exact ⟨h1, h2, h3, fun s' _ hI' hl' => hcf s' hI' hl'⟩) hidx

/-! #### a disagreement on malformed input: an announced bin count `≥ 2^63`

  `remaining := int(numBins)` is negative, so is `batchSize`, nothing is read, `remaining -= batchSize` is 0 and
  the Go function returns `nil` having consumed only the count; the model (and the generic decoder used by the
  other stores) tries to read the bins and reports `io.EOF`.  Kernel-checked on the empty store. -/

def isErrEof : Option (Except SkErr (Store × Bytes)) → Bool
  | some (.error .eof) => true
  | _ => false

def isOkNilEmpty : Res (GP × List (BitVec 8) × GoErr) → Bool
  | .ok (g, [], GoErr.nil) => g.buffer.isEmpty && g.pages.isEmpty
  | _ => false

/-- the uvarint `2^63` -/
def hugeCount : List (BitVec 8) := List.replicate 9 128#8

theorem deltas_negative_count_model :
    isErrEof (Sketch.decodeStore (.pg PStore.new) Consts.binEncodingIndexDeltas (nb hugeCount)) = true := by
  decide +kernel

theorem deltas_negative_count_gen :
    isOkNilEmpty (Gen.Paginated.BufferedPaginatedStore.DecodeAndMergeWith 20 (fun _ n => n)
      (fun s b _ => .ok (s, b, GoErr.nil)) Gen.Paginated.NewBufferedPaginatedStore hugeCount
      BinEncodingIndexDeltas) = true := by
  decide +kernel

/-! #### layout `BinEncodingContiguousCounts` -/

/-- the counts the model decodes, until the items or the parsable input run out -/
def ccCounts : Nat → Bytes → List F64
  | 0, _ => []
  | n + 1, bs =>
    match decVarfloat64 bs with
    | .error _ => []
    | .ok (c, bs1) => c :: ccCounts n bs1

def NonnegFin (c : F64) : Prop := ∃ w : Rat, c = .fin w ∧ 0 ≤ w

/-- adding `w` at line `ln` of the full page in slot `k` succeeds, adds it at the index of that line, and leaves the
    table where it is -/
theorem addAtPage_full (s : PStore) (hI : PStore.Inv s) (k ln : Nat) (hk : k < s.pages.size)
    (hsz : (s.pages.getD k #[]).size = 32) (hln : ln < 32) (w : Rat) (hw : 0 ≤ w) :
    ∃ s', s.addAtPage k ln w = some s' ∧ PStore.Inv s' ∧
      content s' = (content s).add (s.index (s.minPageIndex + (k : Int)) ln) w ∧
      s'.minPageIndex = s.minPageIndex ∧ k < s'.pages.size ∧ (s'.pages.getD k #[]).size = 32 := by
  have hL := hI.pageLen_eq
  have hslot : s.slot? (s.pageIndex (s.index (s.minPageIndex + (k : Int)) ln)) = some k := by
    rw [PStore.pageIndex_index s _ ln (hL ▸ hln)]; exact (PStore.slot?_eq_some_iff s _ k).2 ⟨hk, rfl⟩
  obtain ⟨s', hadd, hI', hwt'⟩ := PStore.addAtPage_spec s hI _ k hslot (by rw [hsz]; decide) w hw
  rw [PStore.lineIndex_index s _ ln (hL ▸ hln)] at hadd
  refine ⟨s', hadd, hI', PStore.content_add_of_wt hI hI' _ w hw hwt', ?_⟩
  rw [addAtPage_def, if_pos ⟨hk, hsz ▸ hln⟩] at hadd
  cases hadd
  exact ⟨rfl, by rw [Array.size_setIfInBounds]; exact hk,
    by rw [PStore.getD_setIfInBounds, if_pos ⟨rfl, hk⟩, Array.size_setIfInBounds]; exact hsz⟩

/-- the loop invariant of the `ContiguousCounts` decoder: `r` items to go, the generated store is the image of `s`,
    the model holds `st` -/
structure CCInv (numBins : BitVec 64) (stride : Int) (r : Nat) (s st : PStore) (idx : Int) (b : List (BitVec 8))
    (i : BitVec 64) : Prop where
  count : numBins.toNat = i.toNat + r
  inv : PStore.Inv s
  invM : PStore.Inv st
  cont : content st = content s
  range : ∀ j : Nat, j < r → Idx32 (idx + (j : Int) * stride)
  counts : ∀ c ∈ ccCounts r (nb b), NonnegFin c

/-- one decoded count: it is a finite weight `w ≥ 0`, the model adds it at `idx`, and the invariant moves on to
    any store that did the same -/
theorem CCInv.step {numBins : BitVec 64} {stride : Int} {r : Nat} {s st : PStore} {idx : Int}
    {b b1 : List (BitVec 8)} {i : BitVec 64} {c : F64} (h : CCInv numBins stride (r + 1) s st idx b i)
    (hF : decVarfloat64 (nb b) = .ok (c, nb b1)) :
    ∃ w, c = .fin w ∧ 0 ≤ w ∧ ∀ s', PStore.Inv s' → content s' = (content s).add idx w →
      ∃ st1, Sketch.decItems (Sketch.itemOf (Sketch.rdCC stride)) (r + 1) (.pg st) idx (nb b)
          = Sketch.decItems (Sketch.itemOf (Sketch.rdCC stride)) r (.pg st1) (idx + stride) (nb b1) ∧
        CCInv numBins stride r s' st1 (idx + stride) b1 (i + 1#64) := by
  have hcc : ccCounts (r + 1) (nb b) = c :: ccCounts r (nb b1) := by simp only [ccCounts, hF]
  obtain ⟨w, rfl, hw⟩ := h.counts c (hcc ▸ List.mem_cons_self ..)
  refine ⟨w, rfl, hw, fun s' hI' hc' => ?_⟩
  have hx : Idx32 idx := by simpa using h.range 0 (Nat.succ_pos r)
  obtain ⟨st1, ha1, hIt1, hc1⟩ := pg_add st h.invM idx hx w hw
  have hit := Sketch.itemOf_some (.pg st) (Sketch.rdCC_of_ok (stride := stride) (idx := idx) hF)
  rw [show Sketch.addF (.pg st) idx (.fin w) = some (.pg st1) from ha1, Option.map_some] at hit
  refine ⟨st1, Sketch.decItems_ok r (.pg st) idx (nb b) (.pg st1) (idx + stride) (nb b1) hit,
    DDS.GenStoreDecode.toNat_succ i numBins r h.count, hI', hIt1, by rw [hc1, h.cont, hc'], fun j hj => ?_,
    fun c hc => h.counts c (hcc ▸ List.mem_cons_of_mem _ hc)⟩
  have := h.range (j + 1) (Nat.succ_lt_succ hj)
  rwa [Int.natCast_add, Int.add_mul, Int.natCast_one, Int.one_mul, Int.add_comm _ stride, ← Int.add_assoc] at this

/-- the lines of one page (`loop4`) and what follows it (`K`, then `K₃`): while the line stays on the page, one
    count per line; an input that ends early is `io.EOF` on both sides -/
theorem dec_loop4 (numBins : BitVec 64) (stride : Int) (hstride : DDS.I64 stride) (cap : Int)
    (K : List (BitVec 8) × List Rat × GP × Int × BitVec 64 × BitVec 64 →
      Loop (GP × List (BitVec 8) × BitVec 64 × BitVec 64) (GP × List (BitVec 8) × GoErr))
    (K₃ : GP × List (BitVec 8) × BitVec 64 × BitVec 64 → Res (GP × List (BitVec 8) × GoErr)) :
    ∀ (r fuel : Nat) (b : List (BitVec 8)) (s : PStore) (k : Nat) (line : Int) (idx : Int) (i : BitVec 64)
      (st : PStore),
    CCInv numBins stride r s st idx b i → r + 10 ≤ fuel →
    k < s.pages.size → (s.pages.getD k #[]).size = 32 → idx = (s.minPageIndex + (k : Int)) * 32 + line →
    -- where the loop falls through with `r'` items left (fewer, if it ran at all), what follows agrees with the model
    (∀ (r' : Nat) (s1 st1 : PStore) (idx1 : Int) (b1 : List (BitVec 8)) (page1 : List Rat) (line1 : Int) (i1 : BitVec 64),
      r' ≤ r → (0 ≤ line → line < 32 → 0 < r → r' < r) → CCInv numBins stride r' s1 st1 idx1 b1 i1 →
      DecAgrees ((K (b1, page1, toGen s1 cap, line1, BitVec.ofInt 64 idx1, i1)).elim K₃)
        (Sketch.decItems (Sketch.itemOf (Sketch.rdCC stride)) r' (.pg st1) idx1 (nb b1))) →
    DecAgrees (((Gen.Paginated.BufferedPaginatedStore.DecodeAndMergeWith.loop4 32 numBins (k : Int)
        (BitVec.ofInt 64 stride) fuel b (s.pages.getD k #[]).toList (toGen s cap) line (BitVec.ofInt 64 idx) i).elimL K).elim K₃)
      (Sketch.decItems (Sketch.itemOf (Sketch.rdCC stride)) r (.pg st) idx (nb b)) := by
  intro r
  induction r with
  | zero =>
    intro fuel b s k line idx i st hinv hf hk hsz hidx hK
    obtain ⟨fuel, rfl⟩ := Nat.exists_eq_add_one_of_ne_zero (Nat.ne_of_gt (Nat.lt_of_lt_of_le (Nat.succ_pos 9) hf))
    rw [Gen.Paginated.BufferedPaginatedStore.DecodeAndMergeWith.loop4,
      DDS.GenStoreDecode.ult_of_eq i numBins hinv.count, Bool.and_false]
    exact hK 0 s st idx b _ line i (Nat.le_refl _) (fun _ _ h => h) hinv
  | succ r ih =>
    intro fuel b s k line idx i st hinv hf hk hsz hidx hK
    obtain ⟨fuel, rfl⟩ := Nat.exists_eq_add_one_of_ne_zero (Nat.ne_of_gt (Nat.lt_of_lt_of_le (Nat.succ_pos _) hf))
    have hf9 : 9 ≤ fuel := by omega
    have hu := DDS.GenStoreDecode.ult_of_lt i numBins (hinv.count ▸ Nat.lt_add_of_pos_right (Nat.succ_pos r))
    by_cases hline : 0 ≤ line ∧ line < 32
    · have hcond : ((decide ((0 : Int) ≤ line) && decide (line < 32)) && BitVec.ult i numBins) = true := by
        rw [hu, decide_eq_true hline.1, decide_eq_true hline.2]; rfl
      cases hF : decVarfloat64 (nb b) with
      | error e1 =>
        rw [Sketch.decItems_err r _ idx (nb b) _ (Sketch.itemOf_none _ (Sketch.rdCC_of_error hF))]
        simp only [Gen.Paginated.BufferedPaginatedStore.DecodeAndMergeWith.loop4, hcond, if_true,
          F_err fuel hf9 b e1 hF, Res.bindL_ok, GoSem.ratOfF64, optL_some, GoErr.eof_bne_nil]
        exact ⟨rfl, _, _, rfl⟩
      | ok p1 =>
        obtain ⟨c, r1⟩ := p1
        obtain ⟨b1, hF1, rfl, _⟩ := F_ok fuel hf9 b c r1 hF
        obtain ⟨w, rfl, hw, hstep⟩ := hinv.step hF
        obtain ⟨ln, rfl⟩ : ∃ ln : Nat, line = (ln : Int) := ⟨line.toNat, (Int.toNat_of_nonneg hline.1).symm⟩
        have hln : ln < 32 := Int.ofNat_lt.1 hline.2
        obtain ⟨s', hadd, hI', hc', hmin, hk', hsz'⟩ := addAtPage_full s hinv.inv k ln hk hsz hln w hw
        have hidx' : s.index (s.minPageIndex + (k : Int)) ln = idx := by
          rw [hidx, PStore.index, hinv.inv.pageLen_eq]; rfl
        obtain ⟨st1, hm, hinv1⟩ := hstep _ hI' (hidx' ▸ hc')
        rw [hm, Gen.Paginated.BufferedPaginatedStore.DecodeAndMergeWith.loop4]
        simp only [hcond, if_true, hF1, Res.bindL_ok, GoSem.ratOfF64, optL_some, GoErr.nil_bne_nil, Bool.false_eq_true, if_false,
          DDS.GenStoreDecode.toInt_ofInt_I64 stride hstride, ← BitVec.ofInt_add]
        -- the page and the store stand in the middle of the loop's arguments: the continuation is given in full
        rw [addAtPage_L s cap k ln w (fun pg g => Gen.Paginated.BufferedPaginatedStore.DecodeAndMergeWith.loop4 32 numBins
          (k : Int) (BitVec.ofInt 64 stride) fuel b1 pg g _ _ _), hadd]
        exact ih fuel b1 s' k ((ln : Int) + stride) (idx + stride) (i + 1#64) st1 hinv1
          (by omega) hk' hsz' (by rw [hidx, hmin, Int.add_assoc])
          (fun r' s2 st2 idx2 b2 page2 line2 i2 h1 _ h3 => hK r' s2 st2 idx2 b2 page2 line2 i2 (Nat.le_succ_of_le h1)
            (fun _ _ _ => Nat.lt_succ_of_le h1) h3)
    · have hcond : (decide ((0 : Int) ≤ line) && decide (line < 32)) = false := by
        rw [← Bool.decide_and, decide_eq_false hline]
      rw [Gen.Paginated.BufferedPaginatedStore.DecodeAndMergeWith.loop4, hcond, Bool.false_and]
      exact hK (r + 1) s st idx b _ line i (Nat.le_refl _) (fun h0 h1 => absurd ⟨h0, h1⟩ hline) hinv

/-- enough fuel for `page` on any store with the invariant and any page index of an int32 index -/
def pageFuelMax : Nat := 268435500

theorem pageFuel_le (s : PStore) (h : PStore.Inv s) (p : Int) (hp : PStore.PageIdx32 p) :
    pageFuel s p ≤ pageFuelMax := by
  unfold pageFuel pageFuelMax
  unfold PStore.PageIdx32 at hp
  split
  · omega
  · rename_i hc
    have := h.range.2 (fun h0 => hc (Or.inl h0))
    omega

/-- the pages of the `ContiguousCounts` layout (`loop3`) -/
theorem dec_loop3 (hpage : PageSpec) (numBins : BitVec 64) (stride : Int) (hstride : DDS.I64 stride) (cap : Int) :
    ∀ (r fuel : Nat) (b : List (BitVec 8)) (s : PStore) (idx : Int) (i : BitVec 64) (st : PStore),
    CCInv numBins stride r s st idx b i → pageFuelMax + 2 * r + 12 ≤ fuel →
    ∀ K, (∀ g b o i, K (g, b, o, i) = .ok (g, b, GoErr.nil)) →
    DecAgrees (Loop.elim (Gen.Paginated.BufferedPaginatedStore.DecodeAndMergeWith.loop3 numBins 32
        (BitVec.ofInt 64 stride) fuel (toGen s cap) b (BitVec.ofInt 64 idx) i) K)
      (Sketch.decItems (Sketch.itemOf (Sketch.rdCC stride)) r (.pg st) idx (nb b)) := by
  intro r
  induction r using Nat.strongRecOn with
  | _ r ih =>
    intro fuel b s idx i st hinv hf K hK
    cases r with
    | zero =>
      obtain ⟨fuel, rfl⟩ := Nat.exists_eq_add_one_of_ne_zero (Nat.ne_of_gt (Nat.lt_of_lt_of_le (Nat.succ_pos _) hf))
      rw [Gen.Paginated.BufferedPaginatedStore.DecodeAndMergeWith.loop3, DDS.GenStoreDecode.ult_of_eq i numBins hinv.count]
      exact ⟨s, cap, st, by rw [bn_nb]; exact hK _ _ _ _, rfl, hinv.inv, hinv.invM, hinv.cont.symm⟩
    | succ r =>
      obtain ⟨fuel, rfl, hf4, hfp, hfi⟩ : ∃ f, fuel = f + 1 ∧ r + 1 + 10 ≤ f ∧ pageFuelMax ≤ f ∧
          pageFuelMax + 2 * r + 12 ≤ f := ⟨fuel - 1, by omega⟩
      rw [Gen.Paginated.BufferedPaginatedStore.DecodeAndMergeWith.loop3]
      have hx : Idx32 idx := by simpa using hinv.range 0 (Nat.succ_pos r)
      have hI := hinv.inv
      have hp := PStore.pageIdx32_of_idx32 s hI.pageLen_eq idx hx
      obtain ⟨s₁, k?, hpg, hI₁, hwt₁, hk₁⟩ := PStore.page_spec s hI (s.pageIndex idx) hp true
      obtain ⟨k, rfl, hslot, hsz⟩ := hk₁ rfl
      have hL₁ := hI₁.pageLen_eq
      have hgp := hpage s cap (s.pageIndex idx) true fuel (Nat.le_trans (pageFuel_le s hI _ hp) hfp)
      rw [hpg, toRes_some] at hgp
      have hinv₁ : CCInv numBins stride (r + 1) s₁ st idx b i :=
        { hinv with
          inv := hI₁
          cont := hinv.cont.trans (PStore.content_congr hI hI₁ hwt₁).symm }
      obtain ⟨hks, hkp⟩ := (PStore.slot?_eq_some_iff s₁ _ k).1 hslot
      have hkm : s.pageIndex idx - s₁.minPageIndex = (k : Int) := by rw [hkp]; exact add_sub_cancel_left ..
      have hidx : idx = (s₁.minPageIndex + (k : Int)) * 32 + ((s₁.lineIndex idx : Nat) : Int) := by
        rw [← hkp, show s.pageIndex idx = s₁.pageIndex idx by rw [PStore.pageIndex, PStore.pageIndex, hL₁, hI.pageLen_eq]]
        exact (PStore.index_pageIndex_lineIndex s₁ hL₁ idx).symm.trans (by rw [PStore.index, hL₁]; rfl)
      simp only [DDS.GenStoreDecode.ult_of_lt i numBins (hinv.count ▸ Nat.lt_add_of_pos_right (Nat.succ_pos r)),
        if_true, cdc_toInt _ hx, gen_pageIndex, hgp, Res.bindL_ok, toGen_minPageIndex, gen_lineIndex, pageOf, hkm]
      refine dec_loop4 numBins stride hstride cap _ K (r + 1) fuel b s₁ k _ idx i st hinv₁ hf4 hks (by rw [hsz, hL₁]) hidx
        (fun r' s2 st2 idx2 b2 page2 line2 i2 _ h3 h5 => ?_)
      have hr' := h3 (Int.natCast_nonneg _) (Int.ofNat_lt.2 (Nat.lt_of_lt_of_eq (PStore.lineIndex_lt_pageLen s₁ idx) hL₁)) (Nat.succ_pos r)
      exact ih r' hr' fuel b2 s2 idx2 i2 st2 h5
        (Nat.le_trans (Nat.add_le_add_right (Nat.add_le_add_left (Nat.mul_le_mul_left 2 (Nat.le_of_lt_succ hr')) _) _) hfi) K hK

theorem beqCC1 : (BinEncodingContiguousCounts == BinEncodingIndexDeltas) = false := by decide
theorem beqCC2 : (BinEncodingContiguousCounts == BinEncodingContiguousCounts) = true := by decide

/-- the layout `BinEncodingContiguousCounts` against the model's decoder on ANY model store `st` with the invariant and
    the content of `s` (`DecodeAndMergeWith_contiguous` below is `st := s`; a sketch-level simulation has another) -/
theorem DecodeAndMergeWith_contiguous_rel (hpage : PageSpec) (grow : Int → Int → Int)
    (fb : GP → List (BitVec 8) → SubFlag → Res (GP × List (BitVec 8) × GoErr))
    (fuel : Nat) (s st : PStore) (cap : Int) (b : List (BitVec 8)) (hI : PStore.Inv s) (hIt : PStore.Inv st)
    (hc : content st = content s) (hf9 : 9 ≤ fuel)
    (hn : ∀ v r0 start r1 stride r2, decUvarint64 (nb b) = .ok (v, r0) → decVarint64 r0 = .ok (start, r1) →
      decVarint64 r1 = .ok (stride, r2) →
      pageFuelMax + 2 * v + 13 ≤ fuel ∧ (∀ j : Nat, j < v → Idx32 (start + (j : Int) * stride)) ∧
        (∀ c ∈ ccCounts v r2, NonnegFin c)) :
    DecAgrees (Gen.Paginated.BufferedPaginatedStore.DecodeAndMergeWith fuel grow fb (toGen s cap) b
        BinEncodingContiguousCounts)
      (Sketch.decodeStore (.pg st) Consts.binEncodingContiguousCounts (nb b)) := by
  unfold Gen.Paginated.BufferedPaginatedStore.DecodeAndMergeWith
  simp only [beqCC1, beqCC2, Bool.false_eq_true, if_false, if_true]
  cases hU : decUvarint64 (nb b) with
  | error e =>
    rw [DecodeUvarint64_eof fuel hf9 b e hU,
      Sketch.decodeStore_of_header_error _ (Sketch.parseHeader_eof (.inr (.inr rfl)) hU)]
    simp only [Res.bind_ok, GoErr.eof_bne_nil, if_true]
    exact ⟨rfl, _, _, rfl⟩
  | ok p =>
    obtain ⟨v, r0⟩ := p
    obtain ⟨b0, hU1, hb0, _, hv⟩ := U_ok fuel hf9 b v r0 hU
    rw [hU1]
    simp only [Res.bind_ok, GoErr.nil_bne_nil, Bool.false_eq_true, if_false]
    cases hS : decVarint64 r0 with
    | error e =>
      rw [V_err fuel hf9 b0 e (by rw [hb0]; exact hS),
        Sketch.decodeStore_of_header_error _ (Sketch.parseHeader_cc_eof2 hU hS)]
      simp only [Res.bind_ok, GoErr.eof_bne_nil, if_true]
      exact ⟨rfl, _, _, rfl⟩
    | ok p =>
      obtain ⟨start, r1⟩ := p
      obtain ⟨b1, hS1, hb1, _, _⟩ := V_ok fuel hf9 b0 start r1 (by rw [hb0]; exact hS)
      rw [hS1]
      simp only [Res.bind_ok, GoErr.nil_bne_nil, Bool.false_eq_true, if_false]
      cases hD : decVarint64 r1 with
      | error e =>
        rw [V_err fuel hf9 b1 e (by rw [hb1]; exact hD),
          Sketch.decodeStore_of_header_error _ (Sketch.parseHeader_cc_eof3 hU hS hD)]
        simp only [Res.bind_ok, GoErr.eof_bne_nil, if_true]
        exact ⟨rfl, _, _, rfl⟩
      | ok p =>
        obtain ⟨stride, r2⟩ := p
        obtain ⟨b2, hD1, hb2, _, hstride⟩ := V_ok fuel hf9 b1 stride r2 (by rw [hb1]; exact hD)
        obtain ⟨hf, hrange, hcnt⟩ := hn v r0 start r1 stride r2 hU hS hD
        rw [hD1, Sketch.decodeStore_of_header_ok _ (Sketch.parseHeader_cc_ok hU hS hD)]
        simp only [Res.bind_ok, GoErr.nil_bne_nil, Bool.false_eq_true, if_false]
        rw [gen_pageLen, hI.pageLen_eq, ← hb2]
        have hnb := DDS.GenStoreDecode.ofNat64_toNat v hv
        exact dec_loop3 hpage (BitVec.ofNat 64 v) stride hstride cap v fuel b2 s start 0#64 st
          ⟨hnb, hI, hIt, hc, hrange, by rw [hb2]; exact hcnt⟩ (by omega) _ (fun _ _ _ _ => rfl)

/-- **`DecodeAndMergeWith`, layout `BinEncodingContiguousCounts`** (page-wise adds, any start, any stride, any
    number of pages), against `Sketch.decodeStore (.pg s)`: same error, same remaining bytes, and the resulting
    store is the image (same capacity) of a model store with the invariant and the CONTENT of the model's
    result; neither side panics, the generated code does not run out of fuel.

    Hypotheses: the invariant; every announced index `start + j·stride` (`j < numBins`) is an int32 (the Go code
    fetches the page of an index BEFORE it reads the count, so also the index of a count that is cut off
    matters); every decoded count is finite and non-negative (the invariant and the model's content need it).
    Fuel: `pageFuelMax + 2·numBins + 13`. -/
theorem DecodeAndMergeWith_contiguous (hpage : PageSpec) (grow : Int → Int → Int)
    (fb : GP → List (BitVec 8) → SubFlag → Res (GP × List (BitVec 8) × GoErr))
    (fuel : Nat) (s : PStore) (cap : Int) (b : List (BitVec 8)) (hI : PStore.Inv s) (hf9 : 9 ≤ fuel)
    (hn : ∀ v r0 start r1 stride r2, decUvarint64 (nb b) = .ok (v, r0) → decVarint64 r0 = .ok (start, r1) →
      decVarint64 r1 = .ok (stride, r2) →
      pageFuelMax + 2 * v + 13 ≤ fuel ∧ (∀ j : Nat, j < v → Idx32 (start + (j : Int) * stride)) ∧
        (∀ c ∈ ccCounts v r2, NonnegFin c)) :
    DecAgrees (Gen.Paginated.BufferedPaginatedStore.DecodeAndMergeWith fuel grow fb (toGen s cap) b
        BinEncodingContiguousCounts)
      (Sketch.decodeStore (.pg s) Consts.binEncodingContiguousCounts (nb b)) :=
  DecodeAndMergeWith_contiguous_rel hpage grow fb fuel s s cap b hI hI rfl hf9 hn

/-! #### every other layout -/

/-- the third layout (`BinEncodingIndexDeltasAndCounts`) and every unknown sub-flag go to the oracle `decodeFallback`
    (the generic `store.DecodeAndMergeWith`, tied to the model in `GenStoreDecode`) -/
theorem DecodeAndMergeWith_fallback (grow : Int → Int → Int)
    (fb : GP → List (BitVec 8) → SubFlag → Res (GP × List (BitVec 8) × GoErr))
    (fuel : Nat) (g : GP) (b : List (BitVec 8)) (m : SubFlag)
    (h1 : (m == BinEncodingIndexDeltas) = false) (h2 : (m == BinEncodingContiguousCounts) = false) :
    Gen.Paginated.BufferedPaginatedStore.DecodeAndMergeWith fuel grow fb g b m = fb g b m := by
  unfold Gen.Paginated.BufferedPaginatedStore.DecodeAndMergeWith
  simp only [h1, h2, Bool.false_eq_true, if_false]
  cases fb g b m <;> rfl

end DDS.GenPag
