/-
  DDS.Proofs.CollapsingHigh — refinement proofs for the highest-collapsing dense store
  (`kind = .high N` : `CollapsingHighestDenseStore`), section for section and lemma for lemma as
  `DDS.Proofs.Collapsing` for the lowest-collapsing one; see there for how the sections hang together.

  The store keeps at most `N` bins `[mn, e]`, `e = mn + N - 1`: whatever lies above `e` is added to the
  bin `e`, so that the store holds `content s` moved along `Content.highMap e` (`Content.foldHigh`).  The
  mass from an index up is `cumH s e = Σ_{k ≥ e} wt s k`, defined as the complement of `cum`; with the
  pointwise fold `foldWH` it serves the transcription of `collapseHigh` and is tied to
  `Content.foldHigh` by `Content.lookup_foldHigh`.

  Only the transcription is mirrored (`collapseHigh`, `adjust`, `extendRange`, `normalize` are not
  mirror images of their lowest-collapsing counterparts in the model): `ExtHigh N s t mn mx` says that
  `t` holds `content s` moved along `Content.highMap (mn + N - 1)`.  It is `Relaid` along that map
  (`ExtHigh.relaid`), and the steps that add weights, tightness and the content equation are those of
  `DDS.Proofs.CollapsingBase` and `DDS.Proofs.Dense`, which do not look at the direction.
-/
import DDS.Proofs.CollapsingBase

namespace DDS
namespace DStore

/-! ## the mass from an index up -/

/-- `Σ_{k ≥ e} wt s k` -/
def cumH (s : DStore) (e : Int) : Rat := s.bins.toList.sum - cum s (e - 1)

theorem cumH_step (s : DStore) (e : Int) : cumH s e = cumH s (e + 1) + wt s e := by
  unfold cumH
  rw [show e + 1 - 1 = e by omega, cum_step' s e]
  grind

theorem cumH_zero_of_gt (s : DStore) (M : Int) (hz : ∀ j, M < j → wt s j = 0) (e : Int) (he : M < e) :
    cumH s e = 0 := by
  unfold cumH
  rw [cum_eq_total s M hz (e - 1) (by omega)]
  exact Rat.sub_self

theorem cumH_eq_wt_of_ge (s : DStore) (M : Int) (hz : ∀ j, M < j → wt s j = 0) (e : Int) (he : M ≤ e) :
    cumH s e = wt s e := by
  rw [cumH_step, cumH_zero_of_gt s M hz (e + 1) (by omega), Rat.zero_add]

theorem cumH_eq_total (s : DStore) (m : Int) (hz : ∀ j, j < m → wt s j = 0) (e : Int) (he : e ≤ m) :
    cumH s e = s.bins.toList.sum := by
  unfold cumH
  rw [cum_zero_of_lt s m hz (e - 1) (by omega)]
  grind

theorem cumH_congr (s t : DStore) (h : ∀ j, wt t j = wt s j) (e : Int) : cumH t e = cumH s e := by
  unfold cumH
  rw [cum_congr s t h, sum_eq_of_wt s.bins t.bins s.offset t.offset h]

theorem cumH_eq_to (s : DStore) (M : Int) (hz : ∀ j, M < j → wt s j = 0) (e : Int) :
    cumH s e = rsum (wt s) e (M - e + 1).toNat := by
  suffices H : ∀ (n : Nat) (e : Int), (M - e + 1).toNat = n → cumH s e = rsum (wt s) e n from H _ e rfl
  intro n
  induction n with
  | zero => intro e he; exact cumH_zero_of_gt s M hz e (by omega)
  | succ n ih =>
    intro e he
    rw [cumH_step, ih (e + 1) (by omega), rsum_succ_left, Rat.add_comm]

/-! ## folding a weight function at an index -/

/-- the weight function after folding everything above `e` into `e`; `c` is the folded mass
    `Σ_{k ≥ e} f k` -/
def foldWH (f : Int → Rat) (c : Rat) (e : Int) (j : Int) : Rat :=
  if e < j then 0 else if j = e then c else f j

theorem foldWH_gt {f : Int → Rat} {c : Rat} {e j : Int} (h : e < j) : foldWH f c e j = 0 := if_pos h

theorem foldWH_self (f : Int → Rat) (c : Rat) (e : Int) : foldWH f c e e = c := by
  unfold foldWH
  rw [if_neg (Int.lt_irrefl e), if_pos rfl]

theorem foldWH_lt {f : Int → Rat} {c : Rat} {e j : Int} (h : j < e) : foldWH f c e j = f j := by
  unfold foldWH
  rw [if_neg (by omega), if_neg (by omega)]

theorem eq_foldWH {g f : Int → Rat} {c : Rat} {e : Int} (h1 : ∀ j, e < j → g j = 0) (h2 : g e = c)
    (h3 : ∀ j, j < e → g j = f j) (j : Int) : g j = foldWH f c e j := by
  rcases Int.lt_trichotomy j e with h | h | h
  · rw [foldWH_lt h, h3 j h]
  · rw [h, foldWH_self, h2]
  · rw [foldWH_gt h, h1 j h]

theorem foldWH_congr {f g : Int → Rat} (h : ∀ j, f j = g j) (c : Rat) (e j : Int) :
    foldWH f c e j = foldWH g c e j := by
  rw [show f = g from funext h]

theorem foldWH_out {f : Int → Rat} {c : Rat} {e mn mx : Int}
    (hf : ∀ j, (j < mn ∨ mx < j) → f j = 0) (hc : mx < e → c = 0) (he : mn ≤ e) (j : Int)
    (hj : j < mn ∨ min mx e < j) : foldWH f c e j = 0 := by
  rcases Int.lt_trichotomy j e with h | h | h
  · rw [foldWH_lt h]; exact hf j (by omega)
  · rw [h, foldWH_self]; exact hc (by omega)
  · exact foldWH_gt h

theorem foldWH_cumH_of_ge (s : DStore) (M : Int) (hz : ∀ j, M < j → wt s j = 0) (e : Int) (he : M ≤ e)
    (j : Int) : foldWH (wt s) (cumH s e) e j = wt s j :=
  (eq_foldWH (fun j hj => hz j (by omega)) (cumH_eq_wt_of_ge s M hz e he).symm (fun _ _ => rfl) j).symm

theorem foldWH_cumH_out (s : DStore) {mn mx : Int} (hz : ∀ j, (j < mn ∨ mx < j) → wt s j = 0)
    {e : Int} (he : mn ≤ e) (j : Int) (hj : j < mn ∨ min mx e < j) :
    foldWH (wt s) (cumH s e) e j = 0 :=
  foldWH_out hz (cumH_zero_of_gt s mx (fun k hk => hz k (Or.inr hk)) e) he j hj

/-! ## `collapseHigh` -/

theorem collapseHigh_spec (t : DStore) (nMin nM : Int) (hnM : nM = nMin + t.len - 1) (hz : ZeroOut t)
    (hmm : t.minIndex ≤ t.maxIndex) (hlo : t.offset ≤ t.minIndex)
    (hhi : t.maxIndex < t.offset + t.len) (hcnt : t.count = t.bins.toList.sum)
    (hfit : nMin ≤ t.minIndex) :
    ∃ nb, t.collapseHigh nMin nM = some { t with bins := nb, offset := nMin, maxIndex := nM } ∧
      nb.size = t.bins.size ∧ ∀ j, at0 nb (j - nMin) = foldWH (wt t) (cumH t nM) nM j := by
  have hlen : t.len = (t.bins.size : Int) := rfl
  have hzlo : ∀ j, j < t.minIndex → wt t j = 0 := fun j hj => hz j (Or.inl hj)
  have hzhi : ∀ j, t.maxIndex < j → wt t j = 0 := fun j hj => hz j (Or.inr hj)
  unfold collapseHigh
  by_cases h1 : nM ≤ t.minIndex
  · -- everything in the last bucket
    obtain ⟨b, hb, hsz, hat⟩ := setAt_eq (Array.replicate t.bins.size 0) (t.len - 1) t.count
      (by rw [Array.size_replicate]; omega)
    rw [if_pos h1]
    simp only [hb, Option.bind_eq_bind, Option.bind_some]
    refine ⟨b, rfl, by rw [hsz, Array.size_replicate], eq_foldWH (fun j hj => ?_) ?_ (fun j hj => ?_)⟩
    · rw [hat, if_neg (by omega), at0_replicate_zero]
    · rw [hat, if_pos (by omega), hcnt, cumH_eq_total t t.minIndex hzlo nM h1]
    · rw [hat, if_neg (by omega), at0_replicate_zero, hzlo j (by omega)]
  · rw [if_neg h1]
    by_cases h2 : t.offset - nMin > 0
    · -- the mass above `nM` is moved into `nM`, then the window is shifted
      obtain ⟨nb1, hr, hsz1, hw1⟩ := resetBins_spec t (nM + 1) t.maxIndex (Or.inr ⟨by omega, hhi⟩)
      obtain ⟨b, hb, hszb, hatb⟩ := addAt_eq nb1 (nM - t.offset) (cumH t (nM + 1)) (by rw [hsz1]; omega)
      rw [if_pos h2, sumRange_spec t (nM + 1) t.maxIndex (Or.inr ⟨by omega, hhi⟩),
        ← cumH_eq_to t t.maxIndex hzhi, hr]
      simp only [Option.bind_eq_bind, Option.bind_some, hb]
      -- the state handed to `shiftCounts` already holds the fold
      have hwt2 : ∀ j, wt ({ t with bins := b, maxIndex := nM } : DStore) j =
          foldWH (wt t) (cumH t nM) nM j :=
        eq_foldWH (g := fun j => at0 b (j - t.offset))
          (fun j hj => by
            rw [hatb, if_neg (by omega), hw1, Rat.add_zero]
            split
            · rfl
            · exact hzhi j (by omega))
          (by rw [hatb, if_pos rfl, hw1, if_neg (by omega), cumH_step t nM, Rat.add_comm])
          (fun j hj => by rw [hatb, if_neg (by omega), hw1, if_neg (by omega), Rat.add_zero])
      obtain ⟨nb, hsc, hsznb, hwnb⟩ := shiftCounts_spec
        ({ t with bins := b, maxIndex := nM } : DStore) (t.offset - nMin)
        (fun j (hj : j < t.minIndex ∨ nM < j) => by
          rw [hwt2]; exact foldWH_cumH_out t hz (by omega) j (by omega))
        (by show t.minIndex ≤ nM; omega) hlo
        (by show nM < t.offset + (b.size : Int); rw [hszb, hsz1]; omega)
        (by show 0 ≤ t.minIndex - t.offset + (t.offset - nMin); omega)
        (by show nM - t.offset + (t.offset - nMin) < (b.size : Int); rw [hszb, hsz1]; omega)
      rw [Int.sub_sub_self] at hsc hwnb
      exact ⟨nb, hsc, by rw [hsznb]; show b.size = _; rw [hszb, hsz1], fun j => by rw [hwnb, hwt2]⟩
    · obtain ⟨nb, hsc, hsznb, hwnb⟩ := shiftCounts_spec t (t.offset - nMin) hz hmm hlo hhi
        (by omega) (by omega)
      rw [Int.sub_sub_self] at hsc hwnb
      rw [if_neg h2, hsc]
      exact ⟨nb, rfl, hsznb, fun j => by rw [hwnb, foldWH_cumH_of_ge t _ hzhi nM (by omega)]⟩

end DStore

/-! ## `Content.foldHigh`, pointwise -/

namespace Content

/-- `Σ_{k ≥ e}` of a content -/
def cumulH (m : Content) (e : Int) : Rat := wsum (fun i => decide (e ≤ i)) m

theorem cumulH_eq_sub (m : Content) (e : Int) : cumulH m e = m.total - m.cumul (e - 1) := by
  have h : wsum (fun i => !decide (e ≤ i)) m = m.cumul (e - 1) := by
    rw [cumul_eq_wsum]
    exact wsum_congr _ _ m fun i => by rw [← decide_not]; exact decide_eq_decide.2 (by omega)
  rw [total_eq_wsum, ← wsum_add_wsum_not (fun i => decide (e ≤ i)) m, h]
  exact Rat.add_sub_cancel.symm

theorem lookup_foldHigh (m : Content) (e j : Int) :
    (foldHigh m e).lookup j = DStore.foldWH m.lookup (m.cumulH e) e j := by
  unfold foldHigh DStore.foldWH
  rw [lookup_eq_wsum, wsum_relabel]
  by_cases h1 : e < j
  · rw [if_pos h1, ← wsum_false m]
    apply wsum_congr
    intro i
    simp only [decide_eq_false_iff_not]
    split <;> omega
  · rw [if_neg h1]
    by_cases h2 : j = e
    · rw [if_pos h2, cumulH]
      apply wsum_congr
      intro i
      simp only [decide_eq_decide]
      split <;> omega
    · rw [if_neg h2, lookup_eq_wsum]
      apply wsum_congr
      intro i
      simp only [decide_eq_decide]
      split <;> omega

end Content

namespace DStore

theorem cumulH_eq_cumH (s : DStore) (c : Content) (hc : Content.WF c)
    (hl : ∀ j, c.lookup j = wt s j) (e : Int) : c.cumulH e = cumH s e := by
  rw [Content.cumulH_eq_sub, cumH, total_eq_sum_gen s c hc hl, cumul_eq_cum s c hc hl]

/-! ## the invariant of the highest-collapsing store -/

/-- Invariant of `CollapsingHighestDenseStore` with limit `N` (arbitrary `Int` indexes). -/
structure InvHigh (N : Nat) (s : DStore) : Prop where
  kind    : s.kind = .high N
  hN      : 1 ≤ N
  nonneg  : ∀ j, 0 ≤ at0 s.bins j
  countEq : s.count = s.bins.toList.sum
  empty   : s.count = 0 → s.bins.size = 0 ∧ s.minIndex = maxInt32 ∧ s.maxIndex = minInt32 ∧
              s.isCollapsed = false
  window  : s.count ≠ 0 → s.offset ≤ s.minIndex ∧ s.minIndex ≤ s.maxIndex ∧
              s.maxIndex < s.offset + s.len
  outside : ∀ i, (i < s.minIndex ∨ s.maxIndex < i) → wt s i = 0
  lenLe   : s.bins.size ≤ N
  collapsed : s.isCollapsed = true →
              s.offset = s.minIndex ∧ s.bins.size = N ∧ s.maxIndex - s.minIndex + 1 = N

theorem InvHigh.core {N : Nat} {s : DStore} (h : InvHigh N s) : Core s :=
  ⟨h.nonneg, h.countEq, fun h0 => let ⟨a, b, c, _⟩ := h.empty h0; ⟨a, b, c⟩, h.window, h.outside⟩

theorem invHigh_iff {N : Nat} {s : DStore} : InvHigh N s ↔ s.kind = .high N ∧ Coll N s :=
  ⟨fun h => ⟨h.kind, h.core, h.hN, fun h0 => (h.empty h0).2.2.2, h.lenLe, h.collapsed⟩,
    fun ⟨k, c⟩ => ⟨k, c.hN, c.nonneg, c.countEq,
      fun h0 => let ⟨a, b, d⟩ := c.empty h0; ⟨a, b, d, c.fresh h0⟩,
      c.window, c.outside, c.lenLe, c.collapsed⟩⟩

theorem InvHigh.coll {N : Nat} {s : DStore} (h : InvHigh N s) : Coll N s := (invHigh_iff.1 h).2

theorem invHigh_new (N : Nat) (hN : 1 ≤ N) : InvHigh N (DStore.new (.high N)) :=
  invHigh_iff.2 ⟨rfl, coll_of_no_bins hN rfl rfl rfl rfl rfl⟩

theorem Core.lookup_foldHigh_self {s : DStore} (h : Core s) (e : Int)
    (he : s.count ≠ 0 → s.maxIndex ≤ e) (j : Int) :
    wt s j = (Content.foldHigh (content s) e).lookup j := by
  rw [Content.foldHigh_eq_relabel, Content.relabel_eq_self _ _ h.content_wf fun p hp => by
    have hk := h.key_in_window hp
    have := he (h.count_ne_zero (by omega))
    rw [Content.highMap_eq_min]; omega]
  exact (h.lookup_content j).symm

/-! ## `adjust` and `extendRange` of the highest-collapsing store -/

/-- what `extendRange` (or doing nothing) establishes: the window `[mn, min mx e]` with
    `e = mn + N - 1`, the content folded at `e` -/
structure ExtHigh (N : Nat) (s t : DStore) (mn mx : Int) : Prop where
  kind  : t.kind = .high N
  count : t.count = s.count
  minI  : t.minIndex = mn
  maxI  : t.maxIndex = min mx (mn + N - 1)
  off   : t.offset ≤ t.minIndex
  hi    : t.maxIndex < t.offset + t.len
  lenLe : t.bins.size ≤ N
  coll  : t.isCollapsed = true →
            t.offset = t.minIndex ∧ t.bins.size = N ∧ t.maxIndex - t.minIndex + 1 = N
  collOf : mn + N - 1 < mx → t.isCollapsed = true
  wtEq  : ∀ j, wt t j = (Content.foldHigh (content s) (mn + N - 1)).lookup j

theorem ExtHigh.self {N : Nat} {s : DStore} (h : InvHigh N s) (h0 : s.count ≠ 0) :
    ExtHigh N s s s.minIndex s.maxIndex := by
  obtain ⟨w1, w2, w3⟩ := h.window h0
  have hsp := h.core.span_le h.lenLe h0
  exact
    { kind := h.kind, count := rfl, minI := rfl, maxI := by omega, off := w1, hi := w3
      lenLe := h.lenLe, coll := h.collapsed, collOf := fun hc => by omega
      wtEq := h.core.lookup_foldHigh_self _ (fun _ => by omega) }

/-- `adjust t nMin nMax` on a state `t` holding the weights of `s` in a window inside `[nMin, nMax]`
    (`t` is `s`, or `s` with a longer array, or the freshly allocated array of an empty `s`).
    The result is an extension of `s` to `[nMin, mx]` for any `mx` that gives the same upper end,
    `nMax` itself in particular. -/
theorem high_adjust_spec (N : Nat) (s t : DStore) (nMin nMax mx K : Int) (x : Handed s t K)
    (hk : t.kind = .high N) (hs : Core s) (hlen : K ≤ N) (hsub : nMin ≤ t.minIndex ∧ t.maxIndex ≤ nMax)
    (hbig : nMax - nMin + 1 > K → K = N)
    (hcol : t.isCollapsed = true → K = N ∧ N ≤ nMax - nMin + 1)
    (hmx : nMax = mx ∨ (nMax < mx ∧ nMax = nMin + N - 1)) (hcf : nMax < mx → t.isCollapsed = true) :
    ∃ t', t.adjust nMin nMax = some t' ∧ ExtHigh N s t' nMin mx := by
  have hz := x.zeroOut
  have hcnt := x.countEq hs
  obtain ⟨hc, hw, -, hmm, hlo, hK, hhi⟩ := x
  subst hK
  have hlen' : t.len = (t.bins.size : Int) := rfl
  have hzhi : ∀ j, t.maxIndex < j → wt t j = 0 := fun j hj => hz j (Or.inr hj)
  have hfold : ∀ j, foldWH (wt t) (cumH t (nMin + N - 1)) (nMin + N - 1) j
      = (Content.foldHigh (content s) (nMin + N - 1)).lookup j := fun j => by
    rw [Content.lookup_foldHigh, cumulH_eq_cumH s _ hs.content_wf hs.lookup_content,
      cumH_congr s t hw]
    exact foldWH_congr (fun k => (hw k).trans (hs.lookup_content k).symm) ..
  unfold adjust
  simp only [hk]
  by_cases hgt : nMax - nMin + 1 > t.len
  · have hN' := hbig hgt
    obtain ⟨nb, hcl, hsz, hwn⟩ := collapseHigh_spec t nMin (nMin + t.len - 1) rfl hz hmm hlo hhi hcnt
      hsub.1
    rw [if_pos hgt, hcl]
    refine ⟨_, rfl, ?_⟩
    exact
      { kind := hk, count := hc, minI := rfl
        maxI := show nMin + t.len - 1 = _ by omega
        off := Int.le_refl _
        hi := show nMin + t.len - 1 < nMin + (nb.size : Int) by omega
        lenLe := show nb.size ≤ N by omega
        coll := fun _ => ⟨rfl, show nb.size = N by omega, show nMin + t.len - 1 - nMin + 1 = N by omega⟩
        collOf := fun _ => rfl
        wtEq := fun j => by
          show at0 nb (j - nMin) = _
          rw [hwn, hN', hfold] }
  · obtain ⟨nb, off', hcc, hsz, h1, h2, hwn⟩ :=
      centerCounts_spec t nMin nMax hz hmm hlo hhi (by omega) hsub
    rw [if_neg hgt, hcc]
    refine ⟨_, rfl, ?_⟩
    exact
      { kind := hk, count := hc, minI := rfl
        maxI := show nMax = _ by omega
        off := h1
        hi := show nMax < off' + (nb.size : Int) by rw [hsz]; exact h2
        lenLe := show nb.size ≤ N by omega
        coll := fun hcc => by
          have := hcol hcc
          exact ⟨show off' = nMin by omega, show nb.size = N by omega, show nMax - nMin + 1 = N by omega⟩
        collOf := fun hlt => hcf (by omega)
        wtEq := fun j => by
          show at0 nb (j - off') = _
          rw [hwn, ← hfold, foldWH_cumH_of_ge t t.maxIndex hzhi _ (by omega)] }

theorem high_extendRange_spec (hG : GrowthOK) (N : Nat) (s : DStore) (h : InvHigh N s) (a b : Int)
    (hab : a ≤ b) (hspan : SpanOK s a b) :
    ∃ t, s.extendRange a b = some t ∧ ExtHigh N s t (min a s.minIndex) (max b s.maxIndex) := by
  have hN := h.hN
  have hmn : min a s.minIndex ≤ s.minIndex := Int.min_le_right ..
  have hmx : s.maxIndex ≤ max b s.maxIndex := Int.le_max_right ..
  have hle : min a s.minIndex ≤ max b s.maxIndex := by omega
  obtain ⟨L, hL, hLN, hLge⟩ := getNewLength_coll hG s N (.inr h.kind) _ _ hle hspan
  simp only [extendRange]
  generalize min a s.minIndex = mn at *
  generalize max b s.maxIndex = mx at *
  clear hspan hab
  have hls : s.len = (s.bins.size : Int) := rfl
  by_cases h0 : s.count = 0
  · obtain ⟨-, -, -, hcol⟩ := h.empty h0
    rw [if_pos h0, hL]
    simp only [Option.bind_eq_bind, Option.bind_some]
    rw [grow_spec s L (by omega)]
    simp only [Option.bind_some, h.kind]
    -- the freshly allocated state handed to `adjust`, for either value of `wide`
    have key : ∀ (nM : Int) (c : Bool), nM - mn + 1 ≤ L → (nM = mx ∨ (nM < mx ∧ nM = mn + N - 1)) →
        (c = true → L = N ∧ N ≤ nM - mn + 1) → (nM < mx → c = true) →
        ∃ t, DStore.adjust { s with
            kind := .high N, bins := s.bins ++ Array.replicate L.toNat 0, offset := mn, minIndex := mn,
            maxIndex := nM, isCollapsed := c } mn nM = some t ∧ ExtHigh N s t mn mx := by
      intro nM c hfit hnM hc1 hc2
      exact high_adjust_spec N s _ mn nM mx L
        (Handed.fresh h.core h0 (by omega) _ mn nM c (by omega) (by omega)) rfl h.core hLN
        ⟨Int.le_refl mn, Int.le_refl nM⟩ (fun hh => absurd hfit (by omega)) hc1 hnM hc2
    by_cases hwide : mx - mn + 1 > L
    · simp only [hwide, if_true]
      exact key (mn + L - 1) true (by omega) (Or.inr (by omega)) (fun _ => by omega) (fun _ => rfl)
    · simp only [hwide, if_false]
      exact key mx s.isCollapsed (by omega) (Or.inl rfl) (fun hc => by rw [hcol] at hc; cases hc)
        (fun hlt => absurd hlt (Int.lt_irrefl mx))
  · obtain ⟨w1, w2, w3⟩ := h.window h0
    have hsp := h.core.span_le h.lenLe h0
    have hlenLe := h.lenLe
    rw [if_neg h0]
    by_cases hin : mn ≥ s.offset ∧ mx < s.offset + s.len
    · rw [if_pos hin]
      refine ⟨_, rfl, ?_⟩
      exact
        { kind := h.kind, count := rfl, minI := rfl
          maxI := show mx = _ by omega
          off := hin.1, hi := hin.2, lenLe := h.lenLe
          coll := fun hc => by
            have := h.collapsed hc
            show s.offset = mn ∧ s.bins.size = N ∧ mx - mn + 1 = N
            omega
          collOf := fun hlt => by omega
          wtEq := h.core.lookup_foldHigh_self _ (fun _ => by omega) }
    · rw [if_neg hin, hL]
      simp only [Option.bind_eq_bind, Option.bind_some]
      have hcoll : s.isCollapsed = true → s.len = N ∧ N ≤ mx - mn + 1 := fun hc => by
        have := h.collapsed hc; omega
      by_cases hgt : L > s.len
      · rw [if_pos hgt, grow_spec s _ (by omega)]
        simp only [Option.bind_some]
        exact high_adjust_spec N s _ mn mx mx _ (Handed.grown h.core h0 (by omega)) h.kind h.core
          (by omega) ⟨hmn, hmx⟩ (fun hh => by have := hLge.resolve_left (by omega); omega)
          (fun hc => by have := hcoll hc; omega) (Or.inl rfl)
          (fun hlt => absurd hlt (Int.lt_irrefl mx))
      · rw [if_neg hgt]
        simp only [Option.pure_def, Option.bind_some]
        exact high_adjust_spec N s s mn mx mx _ (Handed.self h.core h0) h.kind h.core (by omega)
          ⟨hmn, hmx⟩ (by omega) hcoll (Or.inl rfl) (fun hlt => absurd hlt (Int.lt_irrefl mx))

/-! ## consequences of `ExtHigh` -/

/-- an index of the range `[mn, mx]` that lies above the window lies above the folding index,
    which is where the window and the array end -/
theorem ExtHigh.above {N : Nat} {s t : DStore} {mn mx : Int} (x : ExtHigh N s t mn mx) (k : Int)
    (h1 : k ≤ mx) (h2 : t.maxIndex < k) :
    mn + N - 1 < k ∧ t.offset + t.len - 1 = mn + N - 1 := by
  have hma := x.maxI
  have hmi := x.minI
  have := x.coll (x.collOf (by omega))
  unfold len
  omega

theorem ExtHigh.relaid {N : Nat} {s t : DStore} {mn mx : Int} (x : ExtHigh N s t mn mx)
    (h : InvHigh N s) : Relaid N s t (Content.highMap (mn + N - 1)) mn mx :=
  have hN := h.hN
  ⟨⟨x.kind.trans h.kind.symm, x.count, x.minI.trans (by rw [Content.highMap_eq_min]; omega),
    x.maxI.trans (by rw [Content.highMap_eq_min]), x.off, x.hi, x.wtEq⟩, x.lenLe, x.coll⟩

/-! ## `normalize` / `addWithCount` of the highest-collapsing store -/

/-- the bin that receives the index `i` is `min i maxIndex` of the extended store -/
theorem high_normalize_spec (hG : GrowthOK) (N : Nat) (s : DStore) (h : InvHigh N s) (i : Int)
    (hsp : SpanOK s i i) :
    ∃ t, s.normalize i = some (t, min i t.maxIndex - t.offset) ∧
      ExtHigh N s t (min i s.minIndex) (max i s.maxIndex) := by
  have hN := h.hN
  unfold normalize
  simp only [h.kind]
  by_cases h1 : i > s.maxIndex
  · rw [if_pos h1]
    by_cases hc : s.isCollapsed = true
    · obtain ⟨c1, c2, c3⟩ := h.collapsed hc
      have x := ExtHigh.self h (h.core.count_ne_zero (by omega))
      have hlen : s.len = (s.bins.size : Int) := rfl
      rw [if_pos hc, Int.min_eq_right (show s.minIndex ≤ i by omega)]
      exact ⟨s, by congr 2; omega, { x with maxI := by omega, collOf := fun _ => hc }⟩
    · obtain ⟨t, ht, x⟩ := high_extendRange_spec hG N s h i i (Int.le_refl _) hsp
      have hma := x.maxI
      have hlen : t.len = (t.bins.size : Int) := rfl
      rw [if_neg hc, ht]
      simp only [Option.bind_eq_bind, Option.bind_some, Option.pure_def]
      refine ⟨t, ?_, x⟩
      by_cases htc : t.isCollapsed = true
      · have := x.coll htc
        rw [if_pos htc]
        congr 2; omega
      · have : ¬ (min i s.minIndex + N - 1 < max i s.maxIndex) := fun hh => htc (x.collOf hh)
        rw [if_neg htc]
        congr 2; omega
  · rw [if_neg h1]
    by_cases h2 : i < s.minIndex
    · obtain ⟨t, ht, x⟩ := high_extendRange_spec hG N s h i i (Int.le_refl _) hsp
      have hma := x.maxI
      rw [if_pos h2, ht]
      exact ⟨t, by show some (t, i - t.offset) = _; congr 2; omega, x⟩
    · have h0 := h.core.count_ne_zero (by omega)
      rw [if_neg h2, Int.min_eq_right (Int.not_lt.1 h2), Int.max_eq_right (Int.not_lt.1 h1)]
      exact ⟨s, by rw [Int.min_eq_left (Int.not_lt.1 h1)]; rfl, ExtHigh.self h h0⟩

/-- no panic, invariant kept, weight conserved, and the new store holds "exact add, then fold at
    `min + N − 1`" — for any `Int` index within a span of `2^33` (`hsp`; automatic for int32
    indexes, `Core.spanOK`) -/
theorem high_addWithCount_full (hG : GrowthOK) (N : Nat) (s : DStore) (h : InvHigh N s) (i : Int)
    (w : Rat) (hw : 0 ≤ w) (hsp : SpanOK s i i) :
    ∃ s', s.addWithCount i w = some s' ∧ InvHigh N s' ∧ s'.count = s.count + w ∧ (w = 0 → s' = s) ∧
      (w ≠ 0 → Holds s' (Content.highMap (min i s.minIndex + N - 1)) ((content s).add i w)
        (min i s.minIndex) (max i s.maxIndex)) := by
  unfold addWithCount
  by_cases hw0 : w = 0
  · rw [if_pos hw0]
    exact ⟨s, rfl, h, by rw [hw0, Rat.add_zero], fun _ => rfl, fun hne => absurd hw0 hne⟩
  · obtain ⟨t, hn, x⟩ := high_normalize_spec hG N s h i hsp
    have hwpos : 0 < w := Rat.lt_of_le_of_ne hw (Ne.symm hw0)
    obtain ⟨nb, hadd, hsz, hc, hh⟩ := (x.relaid h).add h.core (Content.highMap_mono _)
      (Int.min_le_right ..) (Int.le_max_right ..) i ⟨Int.min_le_left .., Int.le_max_left ..⟩ w hwpos
    have hpos : Content.highMap (min i s.minIndex + N - 1) i = min i t.maxIndex := by
      have := x.maxI
      rw [Content.highMap_eq_min]; omega
    rw [hpos] at hadd
    rw [if_neg hw0, hn]
    simp only [Option.bind_eq_bind, Option.bind_some, hadd, Option.pure_def]
    exact ⟨_, rfl, invHigh_iff.2 ⟨x.kind, (x.relaid h).coll_of_core h.coll hsz hc hwpos⟩,
      congrArg (· + w) x.count, fun h0 => absurd h0 hw0, fun _ => hh⟩

/-! ## `mergeSame` of the highest-collapsing store -/

/-- the merge loop on an extended receiver `s1`: the weights of `o`, folded, are added -/
theorem high_mergeSame_cont (N M : Nat) (s o s1 : DStore) (hs : InvHigh N s) (ho : InvHigh M o)
    (h0 : o.count ≠ 0) (mn mx : Int) (hmn : mn ≤ s.minIndex) (hmx : s.maxIndex ≤ mx)
    (hmno : mn ≤ o.minIndex) (hmxo : o.maxIndex ≤ mx) (x : ExtHigh N s s1 mn mx) :
    ∃ s', mergeFold s1 o = some s' ∧
      InvHigh N s' ∧ s'.count = s.count + o.count ∧
      Holds s' (Content.highMap (mn + N - 1)) ((content s).merge (content o)) mn mx := by
  have hma := x.maxI
  -- an index above the window goes to the last position, where the folding index sits
  obtain ⟨nb, hb, hsz, hc, hh⟩ := (x.relaid hs).merge hs.core (Content.highMap_mono _) hmn hmx
    ho.core h0 hmno hmxo fun k h1 h2 => by
      rw [Content.highMap_eq_min, mergeCell_high x.kind]
      by_cases hk : k > s1.maxIndex
      · obtain ⟨hke, hoe⟩ := x.above k (by omega) hk
        rw [if_pos hk]; omega
      · rw [if_neg hk]; omega
  exact ⟨_, hb, invHigh_iff.2 ⟨x.kind, (x.relaid hs).coll_of_core hs.coll hsz hc
    (Rat.lt_of_le_of_ne ho.core.count_nonneg (Ne.symm h0))⟩, congrArg (· + o.count) x.count, hh⟩

/-- EVERY same-kind merge is safe — whatever the two limits `N`, `M`, the widths and the emptiness
    of the two stores — keeps the invariant, conserves the weight, and the new store holds
    "exact pointwise sum, then fold at `min + N − 1`" (any `Int` indexes within a span of
    `2^33`, `hsp`; automatic under `Tight32`) -/
theorem high_mergeSame_full (hG : GrowthOK) (N M : Nat) (s o : DStore) (hs : InvHigh N s)
    (ho : InvHigh M o) (hsp : SpanOK s o.minIndex o.maxIndex) :
    ∃ s', s.mergeSame o = some s' ∧ InvHigh N s' ∧ s'.count = s.count + o.count ∧
      (o.count = 0 → s' = s) ∧
      (o.count ≠ 0 → Holds s' (Content.highMap (min o.minIndex s.minIndex + N - 1))
        ((content s).merge (content o)) (min o.minIndex s.minIndex) (max o.maxIndex s.maxIndex)) := by
  by_cases he : o.isEmpty = true
  · have h0 := (isEmpty_iff_count o).1 he
    exact ⟨s, by rw [mergeSame, if_pos he], hs, by rw [h0, Rat.add_zero], fun _ => rfl, fun hne => absurd h0 hne⟩
  · have h0 : o.count ≠ 0 := fun h0 => he ((isEmpty_iff_count o).2 h0)
    have ow2 := (ho.window h0).2.1
    obtain ⟨s', k1, k2, k3, k4⟩ := mergeSame_of_fold he
      (fun _ => high_extendRange_spec hG N s hs o.minIndex o.maxIndex ow2 hsp)
      (fun hc => by
        have x := ExtHigh.self hs (hs.core.count_ne_zero (by omega))
        rwa [← Int.min_eq_right (show s.minIndex ≤ o.minIndex by omega),
          ← Int.max_eq_right (show o.maxIndex ≤ s.maxIndex by omega)] at x)
      fun s1 => high_mergeSame_cont N M s o s1 hs ho h0 _ _ (Int.min_le_right ..)
        (Int.le_max_right ..) (Int.min_le_left ..) (Int.le_max_left ..)
    exact ⟨s', k1, k2, k3, fun h => absurd h h0, fun _ => k4⟩

/-! ## `clear` -/

theorem invHigh_clear (N : Nat) (s : DStore) (h : InvHigh N s) : InvHigh N s.clear :=
  invHigh_iff.2 ⟨h.kind, coll_of_no_bins h.hN rfl rfl rfl rfl rfl⟩

/-! ## the main theorems at the level of contents (int32 indexes) -/

theorem high_content_fixed (N : Nat) (s : DStore) (h : InvHigh N s) (ht : Tight32 s) :
    Content.specHigh N (content s) = content s := by
  by_cases h0 : s.count = 0
  · rw [h.core.content_empty h0]; rfl
  · have hsp := h.core.span_le h.lenLe h0
    rw [Content.specHigh_of_min N _ _ (h.core.content_extremes ht h0).2,
      Content.foldHigh_eq_relabel]
    exact Content.relabel_eq_self _ _ h.core.content_wf fun p hp => by
      have := h.core.key_in_window hp
      rw [Content.highMap_eq_min]; omega

theorem high_reweight_ok (N : Nat) (s : DStore) (h : InvHigh N s) (ht : Tight32 s) (w : Rat)
    (hw : 0 < w) :
    ∃ s', s.reweight w = some s' ∧ InvHigh N s' ∧ Tight32 s' ∧ s'.count = s.count * w ∧
      content s' = (content s).scale w := by
  obtain ⟨s', h1, hc, hk, hwt, hcnt, hmi, hma⟩ := h.coll.reweight w hw
  obtain ⟨t, e⟩ := h.core.reweight_content hc.toCore ht hw hwt hcnt hmi hma
  exact ⟨s', h1, invHigh_iff.2 ⟨hk.trans h.kind, hc⟩, t, hcnt, e⟩

theorem high_keyAtRank_spec (N : Nat) (s : DStore) (h : InvHigh N s) (r : Rat) :
    let k := s.keyAtRank r
    let r' := if r < 0 then 0 else r
    (r' < cum s k ∧ ∀ j, j < k → cum s j ≤ r') ∨ (s.count ≤ r' ∧ k = s.maxIndex) :=
  keyAtRank_spec_gen s h.countEq r

/-! ## discrepancy for indexes above the int32 range

Mirror image of `low_below_int32_discrepancy`: the empty store starts from the sentinel
`minIndex = MaxInt32`; adding `i > MaxInt32` leaves `minIndex = MaxInt32`, so the store folds at
`MaxInt32 + N − 1` instead of `i + N − 1`.  With `N = 3`, the weight added at `MaxInt32 + 5` is
stored at `MaxInt32 + 2`, whereas `specHigh 3` keeps it at `MaxInt32 + 5`. -/
theorem high_above_int32_discrepancy (hG : GrowthOK) :
    ∃ s', (DStore.new (.high 3)).addWithCount (maxInt32 + 5) 1 = some s' ∧
      s'.minIndex = maxInt32 ∧ wt s' (maxInt32 + 5) = 0 ∧ wt s' (maxInt32 + 2) = 1 ∧
      (Content.specHigh 3 ((content (DStore.new (.high 3))).add (maxInt32 + 5) 1)).lookup
        (maxInt32 + 5) = 1 := by
  obtain ⟨s', h1, _, _, _, h4⟩ := high_addWithCount_full hG 3 (DStore.new (.high 3))
    (invHigh_new 3 (by omega)) (maxInt32 + 5) 1 (by decide) (by unfold SpanOK; decide)
  have hf := h4 (by decide)
  have hc : content (DStore.new (.high 3)) = [] := (core_new _).content_empty rfl
  have hadd : Content.add [] (maxInt32 + 5) 1 = [(maxInt32 + 5, 1)] := by
    rw [Content.add_nil, if_neg (by decide)]
  have hmin : min (maxInt32 + 5) (DStore.new (.high 3)).minIndex = maxInt32 := by
    simp only [DStore.new, maxInt32]; omega
  rw [hmin, hc, hadd] at hf
  -- the single bin, moved along `highMap e`, sits at `min i e`
  have hw : ∀ j, wt s' j
      = if min (maxInt32 + 5) (maxInt32 + ((3 : Nat) : Int) - 1) = j then 1 else 0 := fun j => by
    rw [hf.wtEq, Content.lookup_eq_wsum, Content.wsum_relabel, Content.wsum_cons, Content.wsum_nil,
      Rat.add_zero, Content.highMap_eq_min]
    exact ite_iff decide_eq_true_iff _ _
  refine ⟨s', h1, hf.minI.trans (by rw [Content.highMap_eq_min]; omega), ?_, ?_, ?_⟩
  · rw [hw, if_neg (by simp only [maxInt32]; omega)]
  · rw [hw, if_pos (by simp only [maxInt32]; omega)]
  · rw [hc, hadd, Content.specHigh_of_min 3 _ (maxInt32 + 5) (by simp), Content.lookup_foldHigh,
      foldWH_lt (by simp only [maxInt32]; omega)]
    simp only [Content.lookup_cons, Content.lookup_nil]
    grind

end DStore
end DDS
