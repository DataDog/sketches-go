/-
  DDS.Proofs.Num — the exact rational model of IEEE-754 binary64 rounding (`DDS.Model.Num`)
  behaves like IEEE.  The model rounds through a tower: `pow2`, `floorLog2`, `roundHalfEven`,
  `quantumExp`, `roundPos` (its value before the overflow test is `rpv`), `roundF64` (its signed value
  is `rv`).  The file follows it, each level with its lemmas, up to `roundF64`: monotone, overflow
  included (on the order `leX` of the non-NaN floats, `DDS.Proofs.F64Cmp`), sign-symmetric, exact on
  representable dyadics, idempotent, within `2^-53` relatively in the normal range.  Then the
  arithmetic: operations whose result is representable; subtraction, division and multiplication on
  `leX`; a chain of roundings in the normal range; the `toBits`/`ofBits` round trip.  Then three
  consequences: the rank product `q * (count - 1)` of a quantile query, varfloat exactness of the
  naturals below `2^53`, the dense store's growth function (`getNewLength`).
-/
import Mathlib.Tactic.Linarith
import Mathlib.Tactic.Ring
import Mathlib.Tactic.FieldSimp
import Mathlib.Tactic.Positivity
import Mathlib.Tactic.NormNum
import Mathlib.Data.Rat.Floor
import Mathlib.Algebra.Order.Field.Rat
import Mathlib.Algebra.Order.Floor.Ring
import DDS.Model.Num
import DDS.Proofs.F64Cmp
import DDS.Model.Codec
import DDS.Model.Dense

set_option linter.unusedVariables false

namespace DDS

/-! ## `pow2` -/

theorem pow2_eq_zpow (e : Int) : pow2 e = (2:Rat)^e := by
  unfold pow2
  split
  · rename_i h
    obtain ⟨n, rfl⟩ := Int.eq_ofNat_of_zero_le h
    simp
  · rename_i h
    have : e = -((-e).toNat : Int) := by omega
    generalize (-e).toNat = n at this
    subst this
    simp

theorem pow2_pos (e : Int) : 0 < pow2 e := by
  rw [pow2_eq_zpow]; exact zpow_pos (by norm_num) e

theorem pow2_ne_zero (e : Int) : pow2 e ≠ 0 := (pow2_pos e).ne'

theorem pow2_add (a b : Int) : pow2 (a + b) = pow2 a * pow2 b := by
  simp only [pow2_eq_zpow]; exact zpow_add₀ (by norm_num) a b

theorem pow2_sub (a b : Int) : pow2 (a - b) = pow2 a / pow2 b := by
  simp only [pow2_eq_zpow]; exact zpow_sub₀ (by norm_num) a b

theorem pow2_zero : pow2 0 = 1 := by simp [pow2_eq_zpow]

theorem pow2_one : pow2 1 = 2 := by simp [pow2_eq_zpow]

theorem pow2_succ (a : Int) : pow2 (a + 1) = 2 * pow2 a := by
  rw [pow2_add, pow2_one, mul_comm]

theorem pow2_ofNat (n : Nat) : pow2 (n : Int) = (2:Rat)^n := by
  simp [pow2_eq_zpow]

theorem pow2_neg53 : pow2 (-53) = 1 / 2^53 := by
  simp [pow2_eq_zpow, zpow_neg]

theorem pow2_strictMono {a b : Int} (h : a < b) : pow2 a < pow2 b := by
  simp only [pow2_eq_zpow]; exact zpow_lt_zpow_right₀ (by norm_num) h

theorem pow2_mono {a b : Int} (h : a ≤ b) : pow2 a ≤ pow2 b := by
  simp only [pow2_eq_zpow]; exact zpow_le_zpow_right₀ (by norm_num) h

theorem pow2_lt_iff {a b : Int} : pow2 a < pow2 b ↔ a < b := by
  constructor
  · intro h; by_contra hc; exact absurd (pow2_mono (not_lt.mp hc)) (not_le.mpr h)
  · exact pow2_strictMono

theorem pow2_le_iff {a b : Int} : pow2 a ≤ pow2 b ↔ a ≤ b := by
  constructor
  · intro h; by_contra hc; exact absurd (pow2_strictMono (not_le.mp hc)) (not_lt.mpr h)
  · exact pow2_mono

namespace F64

theorem pow2_52 : pow2 52 = (((2:Int)^52 : Int) : Rat) := by
  rw [show (52:Int) = ((52:Nat):Int) from rfl, pow2_ofNat]; norm_num

theorem pow2_53 : pow2 53 = (((2:Int)^53 : Int) : Rat) := by
  rw [show (53:Int) = ((53:Nat):Int) from rfl, pow2_ofNat]; norm_num

/-! ## `floorLog2` -/

theorem log2_bounds (n : Nat) (h : n ≠ 0) : pow2 n.log2 ≤ n ∧ (n : Rat) < pow2 (n.log2 + 1) := by
  rw [← Nat.cast_succ, pow2_ofNat, pow2_ofNat]
  exact ⟨by exact_mod_cast Nat.log2_self_le h, by exact_mod_cast Nat.lt_log2_self⟩

theorem floorLog2_spec (x : Rat) (hx : 0 < x) :
    pow2 (floorLog2 x) ≤ x ∧ x < pow2 (floorLog2 x + 1) := by
  have hnum : 0 < x.num := Rat.num_pos.mpr hx
  -- `x = n / d` with `2^a ≤ n < 2^(a+1)` and `2^b ≤ d < 2^(b+1)`, so `2^(a-b-1) < x < 2^(a-b+1)`
  obtain ⟨n, hn⟩ : ∃ n : Nat, (n : Int) = x.num := ⟨x.num.toNat, by omega⟩
  have hxeq : (n : Rat) / x.den = x := by
    rw [← Int.cast_natCast n, hn]; exact Rat.num_div_den x
  have hd : (0 : Rat) < x.den := by exact_mod_cast x.den_pos
  obtain ⟨hn1, hn2⟩ := log2_bounds n (by omega)
  obtain ⟨hd1, hd2⟩ := log2_bounds x.den x.den_nz
  have hlow : pow2 ((n.log2 : Int) - x.den.log2 - 1) < x := by
    rw [sub_sub, pow2_sub]
    have := (div_lt_div_of_pos_left (pow2_pos _) hd hd2).trans_le
      (div_le_div_of_nonneg_right hn1 hd.le)
    rwa [hxeq] at this
  have hhigh : x < pow2 ((n.log2 : Int) - x.den.log2 + 1) := by
    rw [sub_add_eq_add_sub, pow2_sub]
    have := (div_lt_div_of_pos_right hn2 hd).trans_le
      (div_le_div_of_nonneg_left (pow2_pos _).le (pow2_pos _) hd1)
    rwa [hxeq] at this
  have hn' : x.num.toNat = n := by omega
  unfold floorLog2
  simp only [hn']
  generalize (n.log2 : Int) - x.den.log2 = e0 at hlow hhigh
  split_ifs with h1 h2
  · exact absurd hhigh (not_lt.mpr h2)
  · exact ⟨h1, not_le.mp h2⟩
  · exact ⟨hlow.le, by rw [sub_add_cancel]; exact not_le.mp h1⟩

theorem floorLog2_unique {x : Rat} {e : Int} (h1 : pow2 e ≤ x) (h2 : x < pow2 (e + 1)) :
    floorLog2 x = e := by
  have hx : 0 < x := lt_of_lt_of_le (pow2_pos e) h1
  obtain ⟨s1, s2⟩ := floorLog2_spec x hx
  have a : e < floorLog2 x + 1 := pow2_lt_iff.mp (lt_of_le_of_lt h1 s2)
  have b : floorLog2 x < e + 1 := pow2_lt_iff.mp (lt_of_le_of_lt s1 h2)
  omega

theorem floorLog2_mono {x y : Rat} (hx : 0 < x) (hxy : x ≤ y) : floorLog2 x ≤ floorLog2 y := by
  obtain ⟨s1, _⟩ := floorLog2_spec x hx
  obtain ⟨_, t2⟩ := floorLog2_spec y (lt_of_lt_of_le hx hxy)
  have : floorLog2 x < floorLog2 y + 1 := pow2_lt_iff.mp (lt_of_le_of_lt (le_trans s1 hxy) t2)
  omega

theorem floorLog2_pow2 (e : Int) : floorLog2 (pow2 e) = e :=
  floorLog2_unique le_rfl (pow2_strictMono (by omega))

theorem floorLog2_natCast_mul_pow2 {M n : Nat} (k : Int) (h1 : 2 ^ n ≤ M) (h2 : M < 2 ^ (n + 1)) :
    floorLog2 ((M : Rat) * pow2 k) = n + k := by
  apply floorLog2_unique
  · rw [pow2_add, pow2_ofNat]
    exact mul_le_mul_of_nonneg_right (by exact_mod_cast h1) (pow2_pos k).le
  · rw [add_right_comm, pow2_add, ← Nat.cast_succ, pow2_ofNat]
    exact mul_lt_mul_of_pos_right (by exact_mod_cast h2) (pow2_pos k)

/-! ## `roundHalfEven` -/

theorem roundHalfEven_cases (x : Rat) :
    roundHalfEven x = x.floor ∧ x - x.floor ≤ 1 / 2 ∨
      roundHalfEven x = x.floor + 1 ∧ 1 / 2 ≤ x - x.floor := by
  unfold roundHalfEven
  simp only
  split_ifs with h1 h2 h3
  · exact .inl ⟨rfl, h1.le⟩
  · exact .inr ⟨rfl, h2.le⟩
  · exact .inl ⟨rfl, not_lt.mp h2⟩
  · exact .inr ⟨rfl, not_lt.mp h1⟩

theorem roundHalfEven_spec (x : Rat) (hx : 0 ≤ x) :
    |((roundHalfEven x : Int) : Rat) - x| ≤ 1/2 := by
  rcases roundHalfEven_cases x with ⟨e, h⟩ | ⟨e, h⟩
  · rw [e, abs_sub_comm, abs_of_nonneg (sub_nonneg.mpr (Rat.floor_le x))]; exact h
  · have h2 := Rat.lt_floor_add_one x
    rw [e, abs_of_nonneg (sub_nonneg.mpr (by exact_mod_cast h2.le))]
    push_cast
    linarith only [h]

theorem roundHalfEven_int (n : Int) (hn : 0 ≤ n) : roundHalfEven (n : Rat) = n := by
  unfold roundHalfEven
  simp [Rat.floor_intCast]

theorem roundHalfEven_pow2 (n : Nat) : roundHalfEven (pow2 n) = 2 ^ n := by
  rw [pow2_ofNat]; exact_mod_cast roundHalfEven_int (2 ^ n) (by positivity)

theorem roundHalfEven_floor_le (x : Rat) : x.floor ≤ roundHalfEven x := by
  rcases roundHalfEven_cases x with ⟨e, -⟩ | ⟨e, -⟩ <;> omega

theorem roundHalfEven_le_floor_add_one (x : Rat) : roundHalfEven x ≤ x.floor + 1 := by
  rcases roundHalfEven_cases x with ⟨e, -⟩ | ⟨e, -⟩ <;> omega

theorem roundHalfEven_nonneg {x : Rat} (hx : 0 ≤ x) : 0 ≤ roundHalfEven x :=
  (Int.floor_nonneg.mpr hx).trans (roundHalfEven_floor_le x)

theorem roundHalfEven_mono' {x y : Rat} (hxy : x ≤ y) : roundHalfEven x ≤ roundHalfEven y := by
  have hf := Rat.floor_monotone hxy
  rcases roundHalfEven_cases x with ⟨ex, hx⟩ | ⟨ex, hx⟩
  · exact ex ▸ hf.trans (roundHalfEven_floor_le y)
  · rcases roundHalfEven_cases y with ⟨ey, hy⟩ | ⟨ey, hy⟩
    · -- `x` goes up and `y` down: they lie in different unit intervals, or both at the same midpoint
      rcases hf.lt_or_eq with hlt | heq
      · omega
      · rw [heq] at hx
        rw [le_antisymm hxy (by linarith)]
    · omega

theorem roundHalfEven_mono {x y : Rat} (hx : 0 ≤ x) (hxy : x ≤ y) :
    roundHalfEven x ≤ roundHalfEven y := roundHalfEven_mono' hxy

/-! ## `quantumExp` and the scaled significand -/

theorem quantumExp_ge (x : Rat) : -1074 ≤ quantumExp x := by
  unfold quantumExp; simp only; split <;> omega

theorem quantumExp_of_normal {x : Rat} (h : -1022 ≤ floorLog2 x) :
    quantumExp x = floorLog2 x - 52 := by
  unfold quantumExp; simp only; split <;> omega

theorem quantumExp_of_subnormal {x : Rat} (h : floorLog2 x < -1022) :
    quantumExp x = -1074 := by
  unfold quantumExp; simp only; split <;> omega

theorem quantumExp_mono {x y : Rat} (hx : 0 < x) (hxy : x ≤ y) : quantumExp x ≤ quantumExp y := by
  have := floorLog2_mono hx hxy
  unfold quantumExp; simp only; split <;> split <;> omega

theorem scaled_lt {x : Rat} (hx : 0 < x) : x / pow2 (quantumExp x) < pow2 53 := by
  rw [div_lt_iff₀ (pow2_pos _), ← pow2_add]
  obtain ⟨_, h2⟩ := floorLog2_spec x hx
  refine lt_of_lt_of_le h2 (pow2_mono ?_)
  unfold quantumExp; simp only; split <;> omega

theorem scaled_ge {x : Rat} (hx : 0 < x) (hn : -1022 ≤ floorLog2 x) :
    pow2 52 ≤ x / pow2 (quantumExp x) := by
  rw [le_div_iff₀ (pow2_pos _), ← pow2_add, quantumExp_of_normal hn]
  obtain ⟨h1, _⟩ := floorLog2_spec x hx
  simpa using h1

theorem scaled_lt_sub {x : Rat} (hx : 0 < x) (hn : floorLog2 x < -1022) :
    x / pow2 (quantumExp x) < pow2 52 := by
  rw [div_lt_iff₀ (pow2_pos _), ← pow2_add, quantumExp_of_subnormal hn]
  obtain ⟨_, h2⟩ := floorLog2_spec x hx
  exact lt_of_lt_of_le h2 (pow2_mono (by omega))

theorem sig_nonneg {x : Rat} (hx : 0 ≤ x) : 0 ≤ roundHalfEven (x / pow2 (quantumExp x)) :=
  roundHalfEven_nonneg (div_nonneg hx (pow2_pos _).le)

theorem sig_le {x : Rat} (hx : 0 < x) : roundHalfEven (x / pow2 (quantumExp x)) ≤ 2^53 :=
  (roundHalfEven_mono' (scaled_lt hx).le).trans_eq (roundHalfEven_pow2 53)

theorem sig_ge {x : Rat} (hx : 0 < x) (hn : -1022 ≤ floorLog2 x) :
    2^52 ≤ roundHalfEven (x / pow2 (quantumExp x)) :=
  (roundHalfEven_pow2 52).symm.trans_le (roundHalfEven_mono' (scaled_ge hx hn))

theorem sig_le_sub {x : Rat} (hx : 0 < x) (hn : floorLog2 x < -1022) :
    roundHalfEven (x / pow2 (quantumExp x)) ≤ 2^52 :=
  (roundHalfEven_mono' (scaled_lt_sub hx hn).le).trans_eq (roundHalfEven_pow2 52)

/-! ## `roundPos` -/

/-- the value computed by `roundPos` before the overflow test -/
def rpv (x : Rat) : Rat :=
  (roundHalfEven (x / pow2 (quantumExp x)) : Rat) * pow2 (quantumExp x)

theorem roundPos_eq (x : Rat) :
    roundPos x = if pow2 1024 ≤ rpv x then .pinf else .fin (rpv x) := rfl

theorem rpv_nonneg {x : Rat} (hx : 0 ≤ x) : 0 ≤ rpv x :=
  mul_nonneg (by exact_mod_cast sig_nonneg hx) (pow2_pos _).le

/-- the result stays in the closed binade of `x` -/
theorem rpv_le {x : Rat} (hx : 0 < x) : rpv x ≤ pow2 (quantumExp x + 53) := by
  unfold rpv
  rw [pow2_add, mul_comm (pow2 (quantumExp x))]
  apply mul_le_mul_of_nonneg_right _ (pow2_pos _).le
  rw [pow2_53]; exact_mod_cast sig_le hx

theorem rpv_ge {x : Rat} (hx : 0 < x) (hn : -1022 ≤ floorLog2 x) :
    pow2 (floorLog2 x) ≤ rpv x := by
  unfold rpv
  have : floorLog2 x = 52 + quantumExp x := by rw [quantumExp_of_normal hn]; ring
  rw [this, pow2_add]
  apply mul_le_mul_of_nonneg_right _ (pow2_pos _).le
  rw [pow2_52]; exact_mod_cast sig_ge hx hn

theorem rpv_le_sub {x : Rat} (hx : 0 < x) (hn : floorLog2 x < -1022) :
    rpv x ≤ pow2 (-1022) := by
  unfold rpv
  rw [quantumExp_of_subnormal hn, show (-1022:Int) = 52 + -1074 by norm_num, pow2_add]
  apply mul_le_mul_of_nonneg_right _ (pow2_pos _).le
  have := sig_le_sub hx hn
  rw [quantumExp_of_subnormal hn] at this
  rw [pow2_52]; exact_mod_cast this

theorem rpv_mono {x y : Rat} (hx : 0 < x) (hxy : x ≤ y) : rpv x ≤ rpv y := by
  have hy : 0 < y := lt_of_lt_of_le hx hxy
  have hq := quantumExp_mono hx hxy
  rcases hq.lt_or_eq with hlt | heq
  · -- different quanta: `y` is normal and in a higher binade
    have hny : -1022 ≤ floorLog2 y := by
      by_contra hc
      rw [quantumExp_of_subnormal (not_le.mp hc)] at hlt
      have := quantumExp_ge x; omega
    have h1 := rpv_le hx
    have h2 := rpv_ge hy hny
    refine le_trans h1 (le_trans (pow2_mono ?_) h2)
    rw [quantumExp_of_normal hny] at hlt; omega
  · unfold rpv
    rw [heq]
    apply mul_le_mul_of_nonneg_right _ (pow2_pos _).le
    have : x / pow2 (quantumExp y) ≤ y / pow2 (quantumExp y) :=
      div_le_div_of_nonneg_right hxy (pow2_pos _).le
    exact_mod_cast roundHalfEven_mono' this

/-- a positive value on its own grid is a fixed point -/
theorem rpv_of_grid {x : Rat} (hx : 0 < x) (N : Int) (h : x = (N : Rat) * pow2 (quantumExp x)) :
    rpv x = x := by
  have hN : 0 ≤ N := by
    by_contra hc
    have : (N : Rat) < 0 := by exact_mod_cast not_le.mp hc
    have := mul_neg_of_neg_of_pos this (pow2_pos (quantumExp x))
    linarith
  have hdiv : x / pow2 (quantumExp x) = (N : Rat) := by
    rw [div_eq_iff (pow2_ne_zero _)]; exact h
  unfold rpv
  rw [hdiv, roundHalfEven_int N hN]; exact h.symm

theorem grid_of_dyadic {m : Int} {k : Int} (hm0 : 0 < m) (hm : m < 2^53) (hk : -1074 ≤ k) :
    ∃ N : Int, (m : Rat) * pow2 k = (N : Rat) * pow2 (quantumExp ((m : Rat) * pow2 k)) := by
  have hx : (0:Rat) < (m : Rat) * pow2 k := mul_pos (by exact_mod_cast hm0) (pow2_pos k)
  obtain ⟨h1, _⟩ := floorLog2_spec _ hx
  have hlt : (m : Rat) * pow2 k < pow2 (53 + k) := by
    rw [pow2_add, pow2_53]
    apply mul_lt_mul_of_pos_right _ (pow2_pos k)
    exact_mod_cast hm
  have he : floorLog2 ((m : Rat) * pow2 k) < 53 + k := pow2_lt_iff.mp (lt_of_le_of_lt h1 hlt)
  have hq : quantumExp ((m : Rat) * pow2 k) ≤ k := by
    unfold quantumExp; simp only; split <;> omega
  generalize quantumExp ((m : Rat) * pow2 k) = qe at hq
  obtain ⟨d, rfl⟩ : ∃ d : Nat, k = qe + d := ⟨(k - qe).toNat, by omega⟩
  refine ⟨m * 2 ^ d, ?_⟩
  rw [pow2_add, pow2_ofNat]; push_cast; ring

theorem rpv_dyadic {m : Int} {k : Int} (hm0 : 0 < m) (hm : m ≤ 2^53) (hk : -1074 ≤ k) :
    rpv ((m : Rat) * pow2 k) = (m : Rat) * pow2 k := by
  rcases hm.lt_or_eq with hlt | heq
  · obtain ⟨N, hN⟩ := grid_of_dyadic hm0 hlt hk
    exact rpv_of_grid (mul_pos (by exact_mod_cast hm0) (pow2_pos k)) N hN
  · have : (m : Rat) * pow2 k = ((2^52 : Int) : Rat) * pow2 (k + 1) := by
      rw [heq, pow2_succ]; push_cast; ring
    rw [this]
    obtain ⟨N, hN⟩ := grid_of_dyadic (m := 2^52) (k := k + 1) (by norm_num) (by norm_num) (by omega)
    exact rpv_of_grid (mul_pos (by norm_num) (pow2_pos _)) N hN

theorem rpv_abs_err {x : Rat} (hx : 0 < x) : |rpv x - x| ≤ pow2 (quantumExp x) / 2 := by
  have hq := pow2_pos (quantumExp x)
  have h := roundHalfEven_spec (x / pow2 (quantumExp x)) (div_nonneg hx.le hq.le)
  have : rpv x - x
      = ((roundHalfEven (x / pow2 (quantumExp x)) : Rat) - x / pow2 (quantumExp x))
          * pow2 (quantumExp x) := by
    unfold rpv; field_simp
  rw [this, abs_mul, abs_of_pos hq]
  calc _ ≤ 1/2 * pow2 (quantumExp x) := mul_le_mul_of_nonneg_right h hq.le
    _ = _ := by ring

theorem rpv_rel_err {x : Rat} (hx : pow2 (-1022) ≤ x) : |rpv x - x| ≤ x * pow2 (-53) := by
  have hpos : 0 < x := lt_of_lt_of_le (pow2_pos _) hx
  obtain ⟨h1, h2⟩ := floorLog2_spec x hpos
  have hn : -1022 ≤ floorLog2 x := by
    have := pow2_lt_iff.mp (lt_of_le_of_lt hx h2); omega
  refine le_trans (rpv_abs_err hpos) ?_
  rw [quantumExp_of_normal hn]
  have : floorLog2 x - 52 = floorLog2 x + -53 + 1 := by ring
  rw [this, pow2_succ, pow2_add]
  have := mul_le_mul_of_nonneg_right h1 (pow2_pos (-53)).le
  linarith

/-! ## the signed value `rv` -/

/-- the signed value computed by `roundF64` before the overflow tests -/
def rv (x : Rat) : Rat := if x = 0 then 0 else if 0 < x then rpv x else -rpv (-x)

theorem rv_zero : rv 0 = 0 := by simp [rv]

theorem rv_of_pos {x : Rat} (hx : 0 < x) : rv x = rpv x := by
  simp [rv, hx.ne', hx]

theorem rv_of_neg {x : Rat} (hx : x < 0) : rv x = -rpv (-x) := by
  simp [rv, hx.ne, not_lt.mpr hx.le]

theorem rv_neg (x : Rat) : rv (-x) = -rv x := by
  rcases lt_trichotomy x 0 with h | h | h
  · rw [rv_of_neg h, rv_of_pos (by linarith : 0 < -x)]; simp
  · subst h; simp [rv_zero]
  · rw [rv_of_pos h, rv_of_neg (by linarith : -x < 0)]; simp

theorem rv_nonneg {x : Rat} (hx : 0 ≤ x) : 0 ≤ rv x := by
  rcases hx.lt_or_eq with h | h
  · rw [rv_of_pos h]; exact rpv_nonneg hx
  · subst h; simp [rv_zero]

theorem rv_nonpos {x : Rat} (hx : x ≤ 0) : rv x ≤ 0 := by
  have := rv_nonneg (x := -x) (by linarith)
  rw [rv_neg] at this; linarith

theorem rv_mono {x y : Rat} (hxy : x ≤ y) : rv x ≤ rv y := by
  rcases lt_trichotomy x 0 with hx | hx | hx
  · rcases lt_trichotomy y 0 with hy | hy | hy
    · rw [rv_of_neg hx, rv_of_neg hy]
      have := rpv_mono (x := -y) (y := -x) (by linarith) (by linarith)
      linarith
    · exact le_trans (rv_nonpos hx.le) (rv_nonneg hy.ge)
    · exact le_trans (rv_nonpos hx.le) (rv_nonneg hy.le)
  · subst hx; rw [rv_zero]; exact rv_nonneg hxy
  · rw [rv_of_pos hx, rv_of_pos (lt_of_lt_of_le hx hxy)]
    exact rpv_mono hx hxy

theorem rv_dyadic (m : Int) (k : Int) (hm : |m| ≤ 2^53) (hk : -1074 ≤ k) :
    rv ((m : Rat) * pow2 k) = (m : Rat) * pow2 k := by
  have habs := abs_le.mp hm
  rcases lt_trichotomy m 0 with h | h | h
  · have hpos : (0:Rat) < ((-m : Int) : Rat) * pow2 k :=
      mul_pos (by exact_mod_cast (by omega : 0 < -m)) (pow2_pos k)
    have h1 := rpv_dyadic (m := -m) (k := k) (by omega) (by omega) hk
    have h2 : (m : Rat) * pow2 k = -(((-m : Int) : Rat) * pow2 k) := by push_cast; ring
    rw [h2, rv_neg, rv_of_pos hpos, h1]
  · subst h; simp [rv_zero]
  · have hpos : (0:Rat) < (m : Rat) * pow2 k := mul_pos (by exact_mod_cast h) (pow2_pos k)
    rw [rv_of_pos hpos]; exact rpv_dyadic h (by omega) hk

theorem rv_int (n : Int) (hn : |n| ≤ 2^53) : rv (n : Rat) = (n : Rat) := by
  have := rv_dyadic n 0 hn (by norm_num)
  rwa [pow2_zero, mul_one] at this

theorem rv_pow2 (k : Int) (hk : -1074 ≤ k) : rv (pow2 k) = pow2 k := by
  have := rv_dyadic 1 k (by norm_num) hk
  simpa using this

theorem rv_is_dyadic (x : Rat) :
    ∃ m k : Int, |m| ≤ 2^53 ∧ -1074 ≤ k ∧ rv x = (m : Rat) * pow2 k := by
  rcases lt_trichotomy x 0 with h | h | h
  · have hx : 0 < -x := by linarith
    refine ⟨-roundHalfEven (-x / pow2 (quantumExp (-x))), quantumExp (-x), ?_, quantumExp_ge _, ?_⟩
    · rw [abs_neg, abs_of_nonneg (sig_nonneg hx.le)]; exact sig_le hx
    · rw [rv_of_neg h, rpv]; push_cast; ring
  · subst h; exact ⟨0, 0, by norm_num, by norm_num, by simp [rv_zero]⟩
  · refine ⟨roundHalfEven (x / pow2 (quantumExp x)), quantumExp x, ?_, quantumExp_ge _, ?_⟩
    · rw [abs_of_nonneg (sig_nonneg h.le)]; exact sig_le h
    · rw [rv_of_pos h, rpv]

theorem rv_idem (x : Rat) : rv (rv x) = rv x := by
  obtain ⟨m, k, hm, hk, h⟩ := rv_is_dyadic x
  rw [h]; exact rv_dyadic m k hm hk

/-- above half the smallest subnormal, rounding does not flush to zero: the error is at most half a
    quantum, and half a quantum is below `x` (`2^(e-53)` against `2^e ≤ x` in the normal range,
    `2^-1075` below it) -/
theorem rv_pos_of_gt {x : Rat} (h : pow2 (-1075) < x) : 0 < rv x := by
  have hx : 0 < x := (pow2_pos _).trans h
  have herr := (abs_le.mp (rpv_abs_err hx)).1
  have hq : pow2 (quantumExp x) / 2 < x := by
    by_cases hn : -1022 ≤ floorLog2 x
    · have h1 := (floorLog2_spec x hx).1
      have h2 : pow2 (quantumExp x) ≤ pow2 (floorLog2 x) :=
        pow2_mono (by rw [quantumExp_of_normal hn]; omega)
      linarith only [h1, h2, pow2_pos (quantumExp x)]
    · rw [quantumExp_of_subnormal (not_le.mp hn), show (-1074 : Int) = -1075 + 1 by norm_num,
        pow2_succ]
      linarith only [h]
  rw [rv_of_pos hx]
  linarith only [herr, hq]

theorem rv_rel_err {x : Rat} (hx : pow2 (-1022) ≤ |x|) : |rv x - x| ≤ |x| * pow2 (-53) := by
  rcases le_or_gt 0 x with h | h
  · rw [abs_of_nonneg h] at hx ⊢
    have hpos : 0 < x := lt_of_lt_of_le (pow2_pos _) hx
    rw [rv_of_pos hpos]; exact rpv_rel_err hx
  · rw [abs_of_neg h] at hx ⊢
    rw [rv_of_neg h]
    have := rpv_rel_err hx
    rwa [show -rpv (-x) - x = -(rpv (-x) - -x) by ring, abs_neg]

/-! ## `roundF64` -/

theorem roundF64_eq (x : Rat) :
    roundF64 x = if pow2 1024 ≤ rv x then .pinf
                 else if rv x ≤ -pow2 1024 then .ninf else .fin (rv x) := by
  have hp := pow2_pos 1024
  rcases lt_trichotomy x 0 with hx | hx | hx
  · have h1 : ¬ (0 < x) := not_lt.mpr hx.le
    have hnn := rpv_nonneg (x := -x) (by linarith)
    rw [rv_of_neg hx]
    unfold roundF64
    rw [if_neg hx.ne, if_neg h1, roundPos_eq]
    by_cases hov : pow2 1024 ≤ rpv (-x)
    · rw [if_pos hov, if_neg (by linarith), if_pos (by linarith)]
    · rw [if_neg hov, if_neg (by linarith), if_neg (by linarith)]
  · subst hx
    rw [rv_zero]
    unfold roundF64
    rw [if_pos rfl, if_neg (by linarith), if_neg (by linarith)]
  · have hnn := rpv_nonneg hx.le
    rw [rv_of_pos hx]
    unfold roundF64
    rw [if_neg hx.ne', if_pos hx, roundPos_eq]
    by_cases hov : pow2 1024 ≤ rpv x
    · rw [if_pos hov, if_pos hov]
    · rw [if_neg hov, if_neg hov, if_neg (by linarith)]

theorem round_cases (x : Rat) :
    (roundF64 x = .pinf ∧ pow2 1024 ≤ rv x) ∨ (roundF64 x = .ninf ∧ rv x ≤ -pow2 1024) ∨
      (roundF64 x = .fin (rv x) ∧ -pow2 1024 < rv x ∧ rv x < pow2 1024) := by
  rw [roundF64_eq]
  split_ifs with h1 h2
  · exact .inl ⟨rfl, h1⟩
  · exact .inr (.inl ⟨rfl, h2⟩)
  · exact .inr (.inr ⟨rfl, not_le.mp h2, not_le.mp h1⟩)

theorem roundF64_fin_iff {x r : Rat} :
    roundF64 x = .fin r ↔ r = rv x ∧ -pow2 1024 < rv x ∧ rv x < pow2 1024 := by
  rw [roundF64_eq]
  split_ifs with h1 h2
  · simp; intro _ _; linarith
  · simp; intro _ h; linarith
  · simp only [F64.fin.injEq]
    constructor
    · intro h; exact ⟨h.symm, not_le.mp h2, not_le.mp h1⟩
    · intro h; exact h.1.symm

theorem roundF64_of_bounds {x : Rat} (h1 : -pow2 1024 < rv x) (h2 : rv x < pow2 1024) :
    roundF64 x = .fin (rv x) := roundF64_fin_iff.mpr ⟨rfl, h1, h2⟩

theorem roundF64_zero : roundF64 0 = .fin 0 := by
  unfold roundF64; simp

theorem roundF64_neg (x : Rat) : roundF64 (-x) = F64.neg (roundF64 x) := by
  have hp := pow2_pos 1024
  rw [roundF64_eq, roundF64_eq, rv_neg]
  by_cases h1 : pow2 1024 ≤ rv x
  · rw [if_pos h1, if_neg (by linarith), if_pos (by linarith)]; rfl
  · rw [if_neg h1]
    by_cases h2 : rv x ≤ -pow2 1024
    · rw [if_pos h2, if_pos (by linarith)]; rfl
    · rw [if_neg h2, if_neg (by linarith), if_neg (by linarith)]; rfl

/-! ### monotonicity -/

/-- rounding is monotone, overflow included: of the nine pairs of outcomes, `rv x ≤ rv y` gives the
    claim for six and refutes the other three -/
theorem roundF64_leX {x y : Rat} (h : x ≤ y) : leX (roundF64 x) (roundF64 y) := by
  have := rv_mono h
  have hp := pow2_pos 1024
  rcases round_cases x with ⟨hx, bx⟩ | ⟨hx, bx⟩ | ⟨hx, bx, bx'⟩ <;>
  rcases round_cases y with ⟨hy, bY⟩ | ⟨hy, bY⟩ | ⟨hy, bY, bY'⟩ <;>
  rw [hx, hy] <;> first | exact True.intro | (show _ ≤ _; linarith) | (exfalso; linarith)

theorem leX_round_pinf (x : Rat) : leX (roundF64 x) .pinf := by
  rcases round_cases x with ⟨hx, _⟩ | ⟨hx, _⟩ | ⟨hx, _⟩ <;> rw [hx] <;> exact True.intro

theorem ninf_leX_round (x : Rat) : leX .ninf (roundF64 x) := by
  rcases round_cases x with ⟨hx, _⟩ | ⟨hx, _⟩ | ⟨hx, _⟩ <;> rw [hx] <;> exact True.intro

theorem roundF64_mono {x y : Rat} (hxy : x ≤ y) {a b : Rat}
    (hx : roundF64 x = .fin a) (hy : roundF64 y = .fin b) : a ≤ b := by
  have := roundF64_leX hxy
  rwa [hx, hy] at this

theorem roundF64_nonneg {x r : Rat} (hx : 0 ≤ x) (h : roundF64 x = .fin r) : 0 ≤ r :=
  roundF64_mono hx roundF64_zero h

theorem roundF64_nonpos {x r : Rat} (hx : x ≤ 0) (h : roundF64 x = .fin r) : r ≤ 0 :=
  roundF64_mono hx h roundF64_zero

theorem roundF64_between {a b x : Rat} (ha : roundF64 a = .fin a) (hb : roundF64 b = .fin b)
    (h1 : a ≤ x) (h2 : x ≤ b) : roundF64 x = .fin (rv x) ∧ a ≤ rv x ∧ rv x ≤ b := by
  have l := roundF64_leX h1
  have u := roundF64_leX h2
  rw [ha] at l
  rw [hb] at u
  rcases round_cases x with ⟨hx, -⟩ | ⟨hx, -⟩ | ⟨hx, -⟩ <;> rw [hx] at l u
  · exact u.elim
  · exact l.elim
  · exact ⟨hx, l, u⟩

/-! ### representable values -/

theorem roundF64_dyadic (m : Int) (e : Int) (hm : |m| ≤ 2^53) (he : -1074 ≤ e)
    (hlt : |(m : Rat)| * pow2 e < pow2 1024) :
    roundF64 ((m : Rat) * pow2 e) = .fin ((m : Rat) * pow2 e) := by
  have h := rv_dyadic m e hm he
  have habs : |(m : Rat) * pow2 e| < pow2 1024 := by
    rw [abs_mul, abs_of_pos (pow2_pos e)]; exact hlt
  have := abs_lt.mp habs
  rw [roundF64_fin_iff, h]
  exact ⟨rfl, this.1, this.2⟩

theorem roundF64_int (n : Int) (hn : |n| ≤ 2^53) : roundF64 (n : Rat) = .fin (n : Rat) := by
  have h := roundF64_dyadic n 0 hn (by norm_num) (by
    rw [pow2_zero, mul_one]
    have h1 : |(n : Rat)| ≤ pow2 53 := by
      rw [pow2_53]; exact_mod_cast hn
    exact lt_of_le_of_lt h1 (pow2_strictMono (by norm_num)))
  rwa [pow2_zero, mul_one] at h

theorem roundF64_nat (n : Nat) (hn : n ≤ 2^53) : roundF64 (n : Rat) = .fin (n : Rat) := by
  have := roundF64_int (n : Int) (abs_le.mpr ⟨by omega, by exact_mod_cast hn⟩)
  simpa using this

theorem round_between (x : Rat) (lo hi : Int) (h1 : (lo : Rat) ≤ x) (h2 : x ≤ (hi : Rat))
    (hlo : -2 ^ 53 ≤ lo) (hhi : hi ≤ 2 ^ 53) :
    ∃ r, roundF64 x = .fin r ∧ (lo : Rat) ≤ r ∧ r ≤ (hi : Rat) := by
  have hle : lo ≤ hi := by exact_mod_cast h1.trans h2
  exact ⟨_, roundF64_between (roundF64_int lo (abs_le.mpr ⟨hlo, by omega⟩))
    (roundF64_int hi (abs_le.mpr ⟨by omega, hhi⟩)) h1 h2⟩

theorem roundF64_idem (x r : Rat) (h : roundF64 x = .fin r) : roundF64 r = .fin r := by
  obtain ⟨h1, h2, h3⟩ := roundF64_fin_iff.mp h
  subst h1
  rw [roundF64_fin_iff, rv_idem]
  exact ⟨rfl, h2, h3⟩

theorem roundF64_of_isRep {x : Rat} (h : isRep x = true) : roundF64 x = .fin x := by
  unfold isRep at h; exact eq_of_beq h

theorem isRep_of_roundF64 {x r : Rat} (h : roundF64 x = .fin r) : isRep r = true := by
  unfold isRep; rw [roundF64_idem x r h]; exact beq_self_eq_true _

theorem isRep_dyadic (m : Int) (e : Int) (hm : |m| ≤ 2^53) (he : -1074 ≤ e)
    (hlt : |(m : Rat)| * pow2 e < pow2 1024) : isRep ((m : Rat) * pow2 e) = true := by
  unfold isRep; rw [roundF64_dyadic m e hm he hlt]; exact beq_self_eq_true _

theorem isRep_int (n : Int) (hn : |n| ≤ 2^53) : isRep (n : Rat) = true := by
  unfold isRep; rw [roundF64_int n hn]; exact beq_self_eq_true _

theorem isRep_nat (n : Nat) (h : n ≤ 2 ^ 53) : isRep (n : Rat) = true := by
  unfold isRep; rw [roundF64_nat n h]; exact beq_self_eq_true _

theorem isRep_zero : isRep 0 = true := by
  unfold isRep; rw [roundF64_zero]; exact beq_self_eq_true _

theorem isRep_neg {q : Rat} (h : isRep q = true) : isRep (-q) = true := by
  unfold isRep
  rw [roundF64_neg, roundF64_of_isRep h]
  exact beq_self_eq_true _

/-! ### relative error in the normal range -/

theorem roundF64_rel_err (x r : Rat) (hx : pow2 (-1022) ≤ |x|) (h : roundF64 x = .fin r) :
    |r - x| ≤ |x| * pow2 (-53) := by
  rw [(roundF64_fin_iff.mp h).1]; exact rv_rel_err hx

theorem roundF64_pos_bounds {x : Rat} {j k : Int} (hj : -1022 ≤ j) (hk : k ≤ 1023)
    (h1 : pow2 j ≤ x) (h2 : x ≤ pow2 k) :
    ∃ r, roundF64 x = .fin r ∧ pow2 j ≤ r ∧ r ≤ pow2 k ∧
      x * (1 - pow2 (-53)) ≤ r ∧ r ≤ x * (1 + pow2 (-53)) := by
  have hjk : j ≤ k := pow2_le_iff.mp (le_trans h1 h2)
  have hpos : 0 < x := lt_of_lt_of_le (pow2_pos j) h1
  have hlo : pow2 j ≤ rv x := by
    have := rv_mono h1; rwa [rv_pow2 j (by omega)] at this
  have hhi : rv x ≤ pow2 k := by
    have := rv_mono h2; rwa [rv_pow2 k (by omega)] at this
  have hk' : pow2 k < pow2 1024 := pow2_strictMono (by omega)
  have hj' := pow2_pos j
  have hnorm : pow2 (-1022) ≤ |x| := by
    rw [abs_of_pos hpos]; exact le_trans (pow2_mono hj) h1
  have herr := rv_rel_err hnorm
  rw [abs_of_pos hpos] at herr
  have := abs_le.mp herr
  exact ⟨rv x, roundF64_of_bounds (by linarith only [hlo, hj', pow2_pos 1024]) (hhi.trans_lt hk'), hlo,
    hhi, by linarith only [this.1], by linarith only [this.2]⟩

/-! ## exact operations -/

theorem sub_fin (a b : Rat) : F64.sub (.fin a) (.fin b) = roundF64 (a - b) := by
  show roundF64 (a + -b) = _
  rw [sub_eq_add_neg]

theorem add_exact (a b : Rat) (h : isRep (a + b) = true) :
    F64.add (.fin a) (.fin b) = .fin (a + b) := roundF64_of_isRep h

theorem sub_exact (a b : Rat) (h : isRep (a - b) = true) :
    F64.sub (.fin a) (.fin b) = .fin (a - b) := by
  rw [sub_fin]; exact roundF64_of_isRep h

theorem mul_exact (a b : Rat) (h : isRep (a * b) = true) :
    F64.mul (.fin a) (.fin b) = .fin (a * b) := roundF64_of_isRep h

theorem add_nat (a b : Nat) (h : a + b ≤ 2 ^ 53) :
    F64.add (.fin (a : Rat)) (.fin (b : Rat)) = .fin ((a + b : Nat) : Rat) := by
  show roundF64 ((a : Rat) + (b : Rat)) = _
  rw [← Nat.cast_add]; exact roundF64_nat _ h

theorem add_one_nat (n : Nat) (h : n + 1 ≤ 2 ^ 53) :
    F64.add (.fin (n : Rat)) F64.one = .fin ((n + 1 : Nat) : Rat) :=
  add_nat n 1 h

theorem add_int (a b : Int) (h : |a + b| ≤ 2^53) :
    F64.add (.fin a) (.fin b) = .fin ((a + b : Int) : Rat) := by
  show roundF64 ((a : Rat) + (b : Rat)) = _
  rw [← Int.cast_add]; exact roundF64_int _ h

theorem sub_int (a b : Int) (h : |a - b| ≤ 2^53) :
    F64.sub (.fin a) (.fin b) = .fin ((a - b : Int) : Rat) := by
  rw [sub_fin, ← Int.cast_sub]; exact roundF64_int _ h

theorem sub_one_nat (n : Nat) (h : n ≤ 2 ^ 53) :
    F64.sub (.fin (n : Rat)) F64.one = .fin ((n : Rat) - 1) := by
  have := sub_int (n : Int) 1 (abs_le.2 ⟨by omega, by omega⟩)
  push_cast at this
  exact this

theorem mul_int (a b : Int) (h : |a * b| ≤ 2^53) :
    F64.mul (.fin a) (.fin b) = .fin ((a * b : Int) : Rat) := by
  show roundF64 ((a : Rat) * (b : Rat)) = _
  rw [← Int.cast_mul]; exact roundF64_int _ h

theorem add_zero_exact (p : Rat) (h : isRep p = true) : F64.add (.fin p) (.fin 0) = .fin p := by
  have := add_exact p 0 (by rwa [add_zero])
  rwa [add_zero] at this

theorem zero_add_exact (p : Rat) (h : isRep p = true) : F64.add (.fin 0) (.fin p) = .fin p := by
  have := add_exact 0 p (by rwa [zero_add])
  rwa [zero_add] at this

theorem sub_zero_exact (p : Rat) (h : isRep p = true) : F64.sub (.fin p) (.fin 0) = .fin p := by
  have := sub_exact p 0 (by rwa [sub_zero])
  rwa [sub_zero] at this

theorem sub_self_fin (p : Rat) : F64.sub (.fin p) (.fin p) = .fin 0 := by
  have := sub_exact p p (by rw [sub_self]; exact isRep_zero)
  rwa [sub_self] at this

theorem sub_add_cancel_exact (sm p : Rat) (h : isRep p = true) :
    F64.sub (.fin (sm + p)) (.fin sm) = .fin p := by
  have := sub_exact (sm + p) sm (by rwa [add_sub_cancel_left])
  rwa [add_sub_cancel_left] at this

theorem zero_mul_fin (w : Rat) : F64.mul (.fin 0) (.fin w) = .fin 0 := by
  have := mul_exact 0 w (by rw [zero_mul]; exact isRep_zero)
  rwa [zero_mul] at this

theorem mul_zero_fin (w : Rat) : F64.mul (.fin w) (.fin 0) = .fin 0 := by
  have := mul_exact w 0 (by rw [mul_zero]; exact isRep_zero)
  rwa [mul_zero] at this

/-! ## arithmetic on the order `leX` -/

theorem sub_fin_isNaN (x : F64) (g : Rat) : (F64.sub x (.fin g)).isNaN = x.isNaN := by
  cases x <;> first | rfl | skip
  rw [sub_fin]
  rcases round_cases _ with ⟨e, -⟩ | ⟨e, -⟩ | ⟨e, -⟩ <;> rw [e] <;> rfl

/-- subtraction is monotone in the first argument and antitone in the second, where it is not NaN -/
theorem sub_leX {a a' b b' : F64} (ha : leX a a') (hb : leX b' b) :
    F64.sub a b = .nan ∨ F64.sub a' b' = .nan ∨ leX (F64.sub a b) (F64.sub a' b') := by
  cases a <;> cases a' <;> first | exact ha.elim | skip
  all_goals cases b <;> cases b' <;> first | exact hb.elim | skip
  case fin.fin.fin.fin x x' y y' =>
    rw [sub_fin, sub_fin]
    exact .inr (.inr (roundF64_leX (sub_le_sub ha hb)))
  -- an infinite operand decides its difference: one of the two is `∞ − ∞`, a NaN, or the left one is
  -- `−∞`, or the right one is `+∞`; the other difference is then an infinity or a rounding
  all_goals first
    | exact .inl rfl
    | exact .inr (.inl rfl)
    | exact .inr (.inr True.intro)
    | exact .inr (.inr (leX_round_pinf _))
    | exact .inr (.inr (ninf_leX_round _))

theorem sub_leX_zero {a b : F64} (h : leX a b) : F64.sub a b = .nan ∨ leX (F64.sub a b) (.fin 0) := by
  cases a <;> cases b
  case fin.fin x y =>
    rw [sub_fin, ← roundF64_zero]
    exact .inr (roundF64_leX (sub_nonpos.mpr h))
  all_goals first | exact h.elim | exact .inl rfl | exact .inr True.intro

/-- a positive number divided by one that is not smaller: the rounded quotient, a number of `[0, 1]` -/
theorem div_fin_unit {x s : Rat} (hx : 0 < x) (h : x ≤ s) :
    F64.div (.fin x) (.fin s) = .fin (rv (x / s)) ∧ 0 ≤ rv (x / s) ∧ rv (x / s) ≤ 1 := by
  have hs0 : 0 < s := hx.trans_le h
  have one : roundF64 1 = .fin 1 := by simpa using roundF64_int 1 (by norm_num)
  obtain ⟨e, q⟩ := roundF64_between roundF64_zero one (div_nonneg hx.le hs0.le) ((div_le_one hs0).mpr h)
  refine ⟨?_, q⟩
  show (if s = 0 then F64.nan else _) = _
  rw [if_neg hs0.ne', e]

/-- a positive float divided by one that is not smaller: NaN (`∞/∞`) or a number of `[0, 1]` -/
theorem div_unit {x s : F64} (hx : ¬ leX x (.fin 0)) (h : leX x s) :
    F64.div x s = .nan ∨ ∃ q, F64.div x s = .fin q ∧ 0 ≤ q ∧ q ≤ 1 := by
  cases x <;> cases s
  case fin.fin x s => exact .inr ⟨_, div_fin_unit (not_le.mp hx) h⟩
  case fin.pinf x => exact .inr ⟨0, rfl, le_rfl, zero_le_one⟩
  case pinf.pinf => exact .inl rfl
  all_goals first | exact h.elim | exact absurd True.intro hx

/-- a product of two floats that are not negative is not negative, or NaN (`0 · ∞`) -/
theorem mul_nonneg_leX {p c : F64} (hp : leX (.fin 0) p) (hc : leX (.fin 0) c) :
    F64.mul p c = .nan ∨ leX (.fin 0) (F64.mul p c) := by
  -- a number times `+∞`, as `F64.mul` writes it
  have inf : ∀ q : Rat, 0 ≤ q →
      (if 0 < q then F64.pinf else if q < 0 then .ninf else .nan) = .nan ∨
        leX (.fin 0) (if 0 < q then F64.pinf else if q < 0 then .ninf else .nan) := fun q hq => by
    split_ifs with h1 h2
    · exact .inr True.intro
    · exact absurd hq (not_le.mpr h2)
    · exact .inl rfl
  cases p <;> cases c
  case fin.fin q r =>
    show _ ∨ leX _ (roundF64 _)
    rw [← roundF64_zero]
    exact .inr (roundF64_leX (mul_nonneg hp hc))
  case fin.pinf q => exact inf q hp
  case pinf.fin r => exact inf r hc
  case pinf.pinf => exact .inr True.intro
  all_goals first | exact hp.elim | exact hc.elim

/-! ## a chain of roundings inside the normal range -/

theorem one_sub_three_mul_le {u : Rat} (h0 : 0 ≤ u) (h1 : u ≤ 1) :
    1 - 3 * u ≤ (1 - u) * (1 - u) * (1 - u) := by
  have e : (1 - u) * (1 - u) * (1 - u) - (1 - 3 * u) = u * u * (3 - u) := by ring
  exact sub_nonneg.mp (e ▸ mul_nonneg (mul_nonneg h0 h0) (by linarith only [h1]))

/-- `(x / c + 1) * c` in binary64 for `2^j ≤ c ≤ 1` and `1 ≤ x / c ≤ 2^k`: the three roundings all
    happen in the normal range, so each loses at most a factor `1 - 2^-53` -/
theorem div_add_one_mul_ge {x c : Rat} {j k : Int} (hj : -1022 ≤ j) (hk0 : 0 ≤ k) (hk : k < 1023)
    (hc1 : pow2 j ≤ c) (hc2 : c ≤ 1) (hx1 : pow2 0 ≤ x / c) (hx2 : x / c ≤ pow2 k) :
    ∃ r, F64.mul (F64.add (F64.div (.fin x) (.fin c)) F64.one) (.fin c) = .fin r ∧
      x * (1 - 3 * pow2 (-53)) ≤ r := by
  have hc : 0 < c := lt_of_lt_of_le (pow2_pos j) hc1
  obtain ⟨r1, e1, l1, h1, b1, -⟩ := roundF64_pos_bounds (by norm_num) (by omega) hx1 hx2
  have h0 : (1 : Rat) ≤ pow2 k := pow2_zero ▸ pow2_mono hk0
  obtain ⟨r2, e2, l2, h2, b2, -⟩ := roundF64_pos_bounds (x := r1 + 1) (j := 0) (k := k + 1)
    (by norm_num) (by omega) (l1.trans (le_add_of_nonneg_right zero_le_one))
    (by rw [pow2_succ]; linarith only [h1, h0])
  obtain ⟨r3, e3, -, -, b3, -⟩ := roundF64_pos_bounds (x := r2 * c) (j := j) (k := k + 1) hj (by omega)
    (one_mul (pow2 j) ▸ mul_le_mul (pow2_zero ▸ l2) hc1 (pow2_pos j).le ((pow2_pos 0).le.trans l2))
    (mul_one (pow2 (k + 1)) ▸ mul_le_mul h2 hc2 hc.le (pow2_pos _).le)
  refine ⟨r3, by simp only [F64.div, F64.add, F64.mul, F64.one, if_neg hc.ne', e1, e2, e3], ?_⟩
  have hu : pow2 (-53) ≤ 1 := pow2_zero ▸ pow2_mono (by norm_num)
  have hx : 0 < x := (div_pos_iff_of_pos_right hc).mp ((pow2_pos 0).trans_le hx1)
  have hu0 := (pow2_pos (-53)).le
  generalize pow2 (-53) = u at *
  have hv : 0 ≤ 1 - u := sub_nonneg.mpr hu
  have s2 : x / c * (1 - u) * (1 - u) ≤ r2 :=
    le_trans (mul_le_mul_of_nonneg_right (b1.trans (le_add_of_nonneg_right zero_le_one)) hv) b2
  have s3 : x / c * (1 - u) * (1 - u) * c * (1 - u) ≤ r3 :=
    le_trans (mul_le_mul_of_nonneg_right (mul_le_mul_of_nonneg_right s2 hc.le) hv) b3
  calc x * (1 - 3 * u) ≤ x * ((1 - u) * (1 - u) * (1 - u)) :=
        mul_le_mul_of_nonneg_left (one_sub_three_mul_le hu0 hu) hx.le
    _ = x / c * (1 - u) * (1 - u) * c * (1 - u) := by
        rw [← div_mul_cancel₀ x hc.ne', mul_div_cancel_right₀ _ hc.ne']; ring
    _ ≤ r3 := s3

/-! ## bit patterns -/

/-- `ofBits` on the natural number of the pattern; the decoder on `BitVec 64` of `DDS.Proofs.GenBits` is the
    same function -/
def decodeNat (n : Nat) : F64 :=
  let sign : Nat := n / 2 ^ 63
  let ex : Nat := (n / 2 ^ 52) % 2048
  let frac : Nat := n % 2 ^ 52
  if ex = 2047 then
    if frac = 0 then (if sign = 0 then .pinf else .ninf) else .nan
  else
    let mag : Rat :=
      if ex = 0 then ((frac : Nat) : Rat) * pow2 (-1074)
      else (((2 ^ 52 + frac : Nat)) : Rat) * pow2 (((ex : Nat) : Int) - 1075)
    .fin (if sign = 0 then mag else -mag)

theorem ofBits_eq (b : UInt64) : ofBits b = decodeNat b.toNat := rfl

theorem fields_eq (s ex frac : Nat) (hs : s < 2) (hex : ex < 2048) (hfrac : frac < 2^52) :
    (s * 2^63 + ex * 2^52 + frac) / 2^63 = s ∧ (s * 2^63 + ex * 2^52 + frac) / 2^52 % 2048 = ex ∧
      (s * 2^63 + ex * 2^52 + frac) % 2^52 = frac :=
  ⟨by omega, by omega, by omega⟩

theorem fields_of_lt {n : Nat} (h : n < 2^64) :
    ∃ s ex frac, s < 2 ∧ ex < 2048 ∧ frac < 2^52 ∧ n = s * 2^63 + ex * 2^52 + frac :=
  ⟨n / 2^63, n / 2^52 % 2048, n % 2^52, by omega, by omega, by omega, by omega⟩

/-- the magnitude a pattern with exponent field `ex` and fraction field `frac` stands for -/
def fval (ex frac : Nat) : Rat :=
  if ex = 0 then (frac : Rat) * pow2 (-1074)
  else ((2 ^ 52 + frac : Nat) : Rat) * pow2 ((ex : Int) - 1075)

theorem fval_pos {ex frac : Nat} (h : ex ≠ 0 ∨ frac ≠ 0) : 0 < fval ex frac := by
  unfold fval
  split
  · rename_i he
    exact mul_pos (Nat.cast_pos.mpr (Nat.pos_of_ne_zero (h.resolve_left (not_not_intro he)))) (pow2_pos _)
  · exact mul_pos (Nat.cast_pos.mpr (Nat.add_pos_left (Nat.pow_pos (by decide)) _)) (pow2_pos _)

theorem decodeNat_fields (s ex frac : Nat) (hs : s < 2) (hex : ex < 2047) (hfrac : frac < 2^52) :
    decodeNat (s * 2^63 + ex * 2^52 + frac) = .fin (if s = 0 then fval ex frac else -fval ex frac) := by
  obtain ⟨h1, h2, h3⟩ := fields_eq s ex frac hs (by omega) hfrac
  simp only [decodeNat, h1, h2, h3, if_neg hex.ne, fval]

theorem floor_natCast (n : Nat) : ((n : Rat)).floor = (n : Int) := by
  have := Rat.floor_intCast (n : Int)
  simpa using this

/-- the bits of the magnitude with fields `(ex, frac) ≠ (0, 0)` are `ex · 2^52 + frac`: a subnormal
    (`ex = 0`) has the significand `frac < 2^52` on the last quantum, a normal one `2^52 + frac` -/
theorem bitsOfPos_fval (ex frac : Nat) (h2 : frac < 2^52) (h0 : ex ≠ 0 ∨ frac ≠ 0) :
    bitsOfPos (fval ex frac) = ex * 2^52 + frac := by
  unfold fval bitsOfPos
  split
  · rename_i he
    have h1 : 1 ≤ frac := Nat.pos_of_ne_zero (h0.resolve_left (not_not_intro he))
    have hfl := floorLog2_natCast_mul_pow2 (M := frac) (-1074) (Nat.log2_self_le (by omega))
      Nat.lt_log2_self
    have hlog : frac.log2 < 52 := (Nat.log2_lt (by omega)).mpr h2
    simp only
    rw [quantumExp_of_subnormal (by rw [hfl]; omega), mul_div_assoc, div_self (pow2_ne_zero _), mul_one,
      floor_natCast, Int.toNat_natCast, if_pos h2, he, Nat.zero_mul, Nat.zero_add]
  · rename_i he
    have hfl := floorLog2_natCast_mul_pow2 (M := 2 ^ 52 + frac) (n := 52) ((ex : Int) - 1075)
      (Nat.le_add_right ..) (by omega)
    have hq : quantumExp (((2^52 + frac : Nat) : Rat) * pow2 ((ex : Int) - 1075)) = (ex : Int) - 1075 := by
      rw [quantumExp_of_normal (by rw [hfl]; omega), hfl]; omega
    simp only
    rw [hq, mul_div_assoc, div_self (pow2_ne_zero _), mul_one, floor_natCast, Int.toNat_natCast,
      if_neg (by omega), show ((ex : Int) - 1075 + 52 + 1023).toNat = ex by omega, Nat.add_sub_cancel_left]

theorem toBits_signed {q : Rat} (hq : 0 < q) (s : Nat) (hs : s < 2) :
    toBits (.fin (if s = 0 then q else -q)) = UInt64.ofNat (s * 2^63 + bitsOfPos q) := by
  obtain rfl | rfl : s = 0 ∨ s = 1 := by omega
  · simp only [toBits, if_true, if_neg hq.ne', if_pos hq, Nat.zero_mul, Nat.zero_add]
  · simp only [toBits, if_neg Nat.one_ne_zero, neg_eq_zero, if_neg hq.ne', neg_pos, if_neg hq.le.not_gt, _root_.neg_neg, Nat.one_mul]

theorem rep_pos_fields {x : Rat} (hx : 0 < x) (h : isRep x = true) :
    ∃ ex frac : Nat, ex ≤ 2046 ∧ frac < 2^52 ∧ (ex ≠ 0 ∨ frac ≠ 0) ∧ x = fval ex frac := by
  -- the middle component (`-pow2 1024 < rv x`) must not stay in the context: `norm_cast` below would try to evaluate it
  obtain ⟨h1, -, h3⟩ := roundF64_fin_iff.mp (roundF64_of_isRep h)
  rw [rv_of_pos hx] at h1 h3
  have hlt : x < pow2 1024 := by rwa [← h1] at h3
  have hr : rpv x = x := h1.symm
  -- `x = N · 2^qe` with `N` its scaled significand, an integer
  unfold rpv at hr
  generalize roundHalfEven (x / pow2 (quantumExp x)) = N at hr
  have hdiv : x / pow2 (quantumExp x) = N := by rw [div_eq_iff (pow2_ne_zero _)]; exact hr.symm
  have hN0 : 0 < N := by
    have := div_pos hx (pow2_pos (quantumExp x)); rw [hdiv] at this; exact_mod_cast this
  have hN53 : N < 2^53 := by
    have := scaled_lt hx; rw [hdiv, pow2_53] at this; exact_mod_cast this
  by_cases hn : -1022 ≤ floorLog2 x
  · have hN52 : 2^52 ≤ N := by
      have := scaled_ge hx hn; rw [hdiv, pow2_52] at this; exact_mod_cast this
    have hfl : floorLog2 x < 1024 := pow2_lt_iff.mp ((floorLog2_spec x hx).1.trans_lt hlt)
    refine ⟨(floorLog2 x + 1023).toNat, (N - 2^52).toNat, by omega, by omega, .inl (by omega), ?_⟩
    rw [quantumExp_of_normal hn] at hr
    rw [fval, if_neg (by omega)]
    refine hr.symm.trans ?_
    congr 1
    · norm_cast; omega
    · congr 1; omega
  · have hn' := not_le.mp hn
    have hN52 : N < 2^52 := by
      have := scaled_lt_sub hx hn'; rw [hdiv, pow2_52] at this; exact_mod_cast this
    refine ⟨0, N.toNat, by omega, by omega, .inr (by omega), ?_⟩
    rw [quantumExp_of_subnormal hn'] at hr
    rw [fval, if_pos rfl]
    refine hr.symm.trans ?_
    congr 1
    norm_cast; omega

theorem toBits_ofBits_rep (q : Rat) (h : isRep q = true) : ofBits (toBits (.fin q)) = .fin q := by
  have key {q : Rat} (hq : 0 < q) (h : isRep q = true) (s : Nat) (hs : s < 2) :
      ofBits (toBits (.fin (if s = 0 then q else -q))) = .fin (if s = 0 then q else -q) := by
    obtain ⟨ex, frac, hex, hfrac, h0, rfl⟩ := rep_pos_fields hq h
    rw [toBits_signed hq s hs, bitsOfPos_fval ex frac hfrac h0, ofBits_eq, UInt64.toNat_ofNat',
      Nat.mod_eq_of_lt (by omega), ← Nat.add_assoc, decodeNat_fields s ex frac hs (by omega) hfrac]
  rcases lt_trichotomy q 0 with hq | rfl | hq
  · simpa using key (neg_pos.mpr hq) (isRep_neg h) 1 (by norm_num)
  · simp [toBits, ofBits]
  · exact key hq h 0 (by norm_num)

/-- Every bit pattern that is neither a NaN nor `-0` survives decode/encode.
    Patterns are `UInt64`, as in the model; "not NaN" is `ofBits b ≠ .nan`
    (exponent field all ones with a non-zero fraction), "not −0" is `b ≠ 0x8000000000000000`. -/
theorem ofBits_toBits_fin (b : UInt64) (hnan : ofBits b ≠ .nan) (hnz : b ≠ 0x8000000000000000) :
    toBits (ofBits b) = b := by
  obtain ⟨s, ex, frac, hs, hex, hfrac, hn⟩ := fields_of_lt b.toNat_lt
  rw [ofBits_eq, hn] at hnan ⊢
  rw [← UInt64.ofNat_toNat (x := b), hn] at hnz ⊢
  clear hn
  by_cases hinf : ex = 2047
  · obtain ⟨h1, h2, h3⟩ := fields_eq s ex frac hs hex hfrac
    simp only [decodeNat, h1, h2, h3, if_pos hinf] at hnan ⊢
    have hf : frac = 0 := by
      by_contra hc; rw [if_neg hc] at hnan; exact hnan rfl
    rw [if_pos hf, hinf, hf]
    obtain rfl | rfl : s = 0 ∨ s = 1 := by omega
    · rfl
    · rfl
  · rw [decodeNat_fields s ex frac hs (by omega) hfrac]
    by_cases hz : ex = 0 ∧ frac = 0
    · obtain ⟨rfl, rfl⟩ := hz
      obtain rfl : s = 0 := by
        by_contra hc
        obtain rfl : s = 1 := by omega
        exact hnz rfl
      simp [toBits, fval]
    · have h0 : ex ≠ 0 ∨ frac ≠ 0 := by omega
      rw [toBits_signed (fval_pos h0) s hs, bitsOfPos_fval ex frac hfrac h0, Nat.add_assoc]

/-! ## the rank product `q * (count - 1)` of a quantile query -/

theorem rat_ceil_eq (x : Rat) : x.ceil = ⌈x⌉ := by
  rw [Rat.ceil_eq_neg_floor_neg]; rfl

/-- Rounding a product `q * n` (`0 ≤ q ≤ 1`, `0 ≤ n ≤ 2^53`) lies between the neighbouring
    integers.  `⌊·⌋ / ⌈·⌉` are Mathlib's `Int.floor / Int.ceil` on `ℚ`, which are definitionally
    (`⌊x⌋ = x.floor` by `rfl`) resp. provably (`rat_ceil_eq`) core's `Rat.floor / Rat.ceil`. -/
theorem mul_between_floor_ceil (q : Rat) (n : Int) (hq0 : 0 ≤ q) (hq1 : q ≤ 1) (hn0 : 0 ≤ n)
    (hn : n ≤ 2^53) :
    ∃ r : Rat, F64.mul (.fin q) (.fin n) = .fin r ∧
      ((⌊q * n⌋ : Int) : Rat) ≤ r ∧ r ≤ ((⌈q * n⌉ : Int) : Rat) := by
  have hnr : (0:Rat) ≤ (n : Rat) := by exact_mod_cast hn0
  have hx0 : 0 ≤ q * n := mul_nonneg hq0 hnr
  have hx1 : q * n ≤ ((2^53 : Int) : Rat) :=
    (mul_le_of_le_one_left hnr hq1).trans (by exact_mod_cast hn)
  have hf0 : 0 ≤ ⌊q * n⌋ := Int.floor_nonneg.mpr hx0
  exact round_between _ _ _ (Int.floor_le _) (Int.le_ceil _) (by omega) (Int.ceil_le.mpr hx1)

/-- the same with core's `Rat.floor` / `Rat.ceil` -/
theorem mul_between_floor_ceil' (q : Rat) (n : Int) (hq0 : 0 ≤ q) (hq1 : q ≤ 1) (hn0 : 0 ≤ n)
    (hn : n ≤ 2^53) :
    ∃ r : Rat, F64.mul (.fin q) (.fin n) = .fin r ∧
      (((q * n).floor : Int) : Rat) ≤ r ∧ r ≤ (((q * n).ceil : Int) : Rat) := by
  rw [rat_ceil_eq]; exact mul_between_floor_ceil q n hq0 hq1 hn0 hn

theorem mul_pred_between (q : Rat) (n : Nat) (hq0 : 0 ≤ q) (hq1 : q ≤ 1) (hn1 : 1 ≤ n)
    (hn2 : n ≤ 2 ^ 53) :
    ∃ r : Rat, F64.mul (.fin q) (.fin ((n : Rat) - 1)) = .fin r ∧ 0 ≤ r ∧
      ((⌊q * ((n : Rat) - 1)⌋ : Int) : Rat) ≤ r ∧ r ≤ ((⌈q * ((n : Rat) - 1)⌉ : Int) : Rat) := by
  have e : (n : Rat) - 1 = (((n : Int) - 1 : Int) : Rat) := by push_cast; rfl
  rw [e]
  obtain ⟨r, hr, hlo, hhi⟩ := mul_between_floor_ceil q ((n : Int) - 1) hq0 hq1 (by omega) (by omega)
  have h0 : (0 : Int) ≤ ⌊q * (((n : Int) - 1 : Int) : Rat)⌋ :=
    Int.floor_nonneg.2 (mul_nonneg hq0 (by exact_mod_cast (show (0 : Int) ≤ (n : Int) - 1 by omega)))
  exact ⟨r, hr, le_trans (by exact_mod_cast h0) hlo, hlo, hhi⟩

end F64

/-! ## varfloat exactness -/

theorem varfloatExact_nat (n : Nat) (hn : n < 2^53) : Codec.VarfloatExact (n : Rat) = true := by
  unfold Codec.VarfloatExact
  rw [F64.add_one_nat n (by omega)]
  simp

/-! ## the dense store's growth function -/

theorem growthIncrement_eq :
    F64.ofBits (UInt64.ofNat Consts.arrayLengthGrowthIncrementBits)
      = .fin (3602879701896397 / 36028797018963968) := by
  simp [F64.ofBits, Consts.arrayLengthGrowthIncrementBits, pow2_eq_zpow]
  norm_num

/-- Go's `getNewLength` never under-allocates as long as `span + overhead` converts to a float
    exactly: the three roundings lose at most `3 · 2^-53` of it, less than the overhead. -/
theorem denseNewLength_ge_of_exact (a b : Int) (hab : a ≤ b) (hspan : b - a + 64 ≤ 2^53) :
    ∃ L, DStore.denseNewLength a b = some L ∧ b - a + 1 ≤ L := by
  obtain ⟨X, hX⟩ : ∃ X : Int, X = b - a + 1 + ((64 : Nat) : Int) - 1 := ⟨_, rfl⟩
  have hX1 : (64 : Rat) ≤ X := by exact_mod_cast (by omega : 64 ≤ X)
  have hX2 : (X : Rat) ≤ 2 ^ 53 := by exact_mod_cast (by omega : X ≤ 2 ^ 53)
  obtain ⟨r, hr, hle⟩ := F64.div_add_one_mul_ge (x := X)
    (c := 3602879701896397 / 36028797018963968) (j := -4) (k := 57) (by norm_num) (by norm_num) (by norm_num)
    (by rw [pow2_eq_zpow]; norm_num) (by norm_num)
    (by rw [pow2_zero, le_div_iff₀ (by norm_num)]; linarith only [hX1])
    (by rw [pow2_eq_zpow, div_le_iff₀ (by norm_num)]; norm_num; linarith only [hX2])
  rw [pow2_neg53] at hle
  have hr0 : 0 ≤ r := by linarith only [hle, hX1]
  refine ⟨r.floor, ?_, ?_⟩
  · unfold DStore.denseNewLength
    simp only [growthIncrement_eq, Consts.arrayLengthOverhead, ← hX, F64.ofInt,
      F64.roundF64_int X (abs_le.mpr ⟨by omega, by omega⟩), hr, F64.truncToInt, if_pos hr0]
  · rw [Rat.le_floor_iff, show b - a + 1 = X - 63 by omega]
    push_cast
    linarith only [hle, hX2]

theorem denseNewLength_ge (a b : Int) (hab : a ≤ b) (hspan : b - a < 2^33) :
    ∃ L, DStore.denseNewLength a b = some L ∧ b - a + 1 ≤ L :=
  denseNewLength_ge_of_exact a b hab (by omega)

end DDS
