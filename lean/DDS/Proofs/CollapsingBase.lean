/-
  DDS.Proofs.CollapsingBase — what the two collapsing dense kinds share, the direction apart: `sumRange`,
  `getNewLength` under a bin limit (`getNewLength_coll`), `Coll N`
  (everything `InvLow N` and `InvHigh N` say but the kind; `reweight` is proved of it), and a collapsing store re-laid
  along a monotone index map (`Relaid`: `Relaid0` of `DDS.Proofs.Dense`, whose steps `add` and `merge` end
  `addWithCount` and `mergeSame` of every dense kind, with what is kept of the bin limit).
-/
import DDS.Proofs.Dense
import DDS.Proofs.Bins

namespace DDS
namespace DStore

/-! ## `sumRange` -/

theorem sumRange_loop (a : Array Rat) (off : Int) (n : Nat) (lo : Int)
    (hin : ∀ idx, lo ≤ idx → idx < lo + n → 0 ≤ idx - off ∧ idx - off < a.size) :
    (irange lo n).foldlM (fun acc idx => (rd a (idx - off)).map (acc + ·)) 0
      = some (rsum (fun j => at0 a (j - off)) lo n) := by
  induction n with
  | zero => rfl
  | succ n ih =>
    rw [irange_succ_right, List.foldlM_append, ih (fun idx h1 h2 => hin idx h1 (by omega))]
    simp only [Option.bind_eq_bind, Option.bind_some, List.foldlM_cons, List.foldlM_nil,
      rd_eq a _ (hin (lo + n) (by omega) (by omega)), Option.map_some, Option.pure_def, rsum]

theorem sumRange_spec (s : DStore) (a b : Int)
    (h : b < a ∨ (s.offset ≤ a ∧ b < s.offset + s.len)) :
    s.sumRange a b = some (rsum (wt s) a (b - a + 1).toNat) := by
  unfold sumRange
  rw [idxRange_eq]
  exact sumRange_loop s.bins s.offset _ a (fun idx h1 h2 => by unfold len at h; omega)

/-! ## a collapsing store of either direction -/

theorem getNewLength_coll (hG : GrowthOK) (s : DStore) (N : Nat) (hk : s.kind = .low N ∨ s.kind = .high N)
    (a b : Int) (hab : a ≤ b) (hsp : b - a < 2^33) :
    ∃ L, s.getNewLength a b = some L ∧ L ≤ N ∧ (b - a + 1 ≤ L ∨ L = N) := by
  obtain ⟨d, hd, hge⟩ := hG a b hab hsp
  refine ⟨min d N, ?_, by omega, by omega⟩
  unfold getNewLength
  rcases hk with hk | hk <;> rw [hd, hk] <;> rfl

/-- everything `InvLow N` and `InvHigh N` say, the kind apart -/
structure Coll (N : Nat) (s : DStore) : Prop extends Core s where
  hN : 1 ≤ N
  fresh : s.count = 0 → s.isCollapsed = false
  lenLe : s.bins.size ≤ N
  collapsed : s.isCollapsed = true →
    s.offset = s.minIndex ∧ s.bins.size = N ∧ s.maxIndex - s.minIndex + 1 = N

/-- a collapsing store without array, with zero count and the sentinel window (`new`, `clear`) -/
theorem coll_of_no_bins {N : Nat} (hN : 1 ≤ N) {s : DStore} (hb : s.bins = #[]) (hc : s.count = 0)
    (hmn : s.minIndex = maxInt32) (hmx : s.maxIndex = minInt32) (hf : s.isCollapsed = false) :
    Coll N s :=
  { core_of_no_bins hb hc hmn hmx with
    hN := hN, fresh := fun _ => hf, lenLe := by rw [hb]; exact Nat.zero_le _
    collapsed := fun h => absurd (hf ▸ h) (by decide) }

theorem Coll.reweight {N : Nat} {s : DStore} (h : Coll N s) (w : Rat) (hw : 0 < w) :
    ∃ s', s.reweight w = some s' ∧ Coll N s' ∧ s'.kind = s.kind ∧ (∀ j, wt s' j = wt s j * w) ∧
      s'.count = s.count * w ∧ s'.minIndex = s.minIndex ∧ s'.maxIndex = s.maxIndex := by
  obtain ⟨s', h1, hc, hwt, he, hsz⟩ := h.toCore.reweight w hw
  have hcnt : s'.count = s.count * w := by rw [he]
  refine ⟨s', h1, ?_, by rw [he], hwt, hcnt, by rw [he], by rw [he]⟩
  have hcz : s'.count = 0 → s.count = 0 := fun hz =>
    (Rat.mul_eq_zero.1 (hcnt ▸ hz)).resolve_right (Rat.ne_of_gt hw)
  have e1 : s'.isCollapsed = s.isCollapsed := by rw [he]
  have e2 : s'.offset = s.offset := by rw [he]
  have e3 : s'.minIndex = s.minIndex := by rw [he]
  have e4 : s'.maxIndex = s.maxIndex := by rw [he]
  exact { hc with
    hN := h.hN, fresh := fun hz => e1.trans (h.fresh (hcz hz)), lenLe := hsz ▸ h.lenLe
    collapsed := fun hcc => by rw [e2, e3, e4, hsz]; exact h.collapsed (e1 ▸ hcc) }

/-! ## a collapsing store re-laid along an index map, for both directions

`extendRange`/`normalize` turn `s` into a store `t` that holds the content of `s` moved along a
monotone `φ` (`Content.lowMap e` in `DDS.Proofs.Collapsing`, `Content.highMap e` in `DDS.Proofs.CollapsingHigh`) in the
window `[φ mn, φ mx]`; `addWithCount` and `mergeSame` then add, at the array position of `φ k`,
what they are given for the index `k` (`Relaid0.add`, `Relaid0.merge` in `DDS.Proofs.Dense`).  Nothing below looks at
the direction. -/

/-- `Relaid0` (`DDS.Proofs.Dense`) with what a collapsing store keeps of its bin limit -/
structure Relaid (N : Nat) (s t : DStore) (φ : Int → Int) (mn mx : Int) : Prop
    extends Relaid0 s t φ mn mx where
  lenLe : t.bins.size ≤ N
  coll  : t.isCollapsed = true →
            t.offset = t.minIndex ∧ t.bins.size = N ∧ t.maxIndex - t.minIndex + 1 = N

/-- the store that `Relaid0.add` / `Relaid0.merge` return keeps the bin limit -/
theorem Relaid.coll_of_core {N : Nat} {s t : DStore} {φ : Int → Int} {mn mx : Int}
    (x : Relaid N s t φ mn mx) (h : Coll N s) {nb : Array Rat} {d : Rat} (hsz : nb.size = t.bins.size)
    (hc : Core { t with bins := nb, count := t.count + d }) (hd : 0 < d) :
    Coll N { t with bins := nb, count := t.count + d } :=
  { hc with
    hN := h.hN
    fresh := fun h0 => absurd h0 (Rat.ne_of_gt (rat_add_pos_right (x.count ▸ h.count_nonneg) hd))
    lenLe := hsz ▸ x.lenLe
    collapsed := fun hcc => by
      show t.offset = t.minIndex ∧ nb.size = N ∧ t.maxIndex - t.minIndex + 1 = N
      rw [hsz]; exact x.coll hcc }

end DStore
end DDS
