/-
  DDS.Proofs.GenEncoding — the regenerated codecs of `/repo/ddsketch/encoding` (`DDS/Generated/CodeEncoding.lean`)
  against the model's `Codec`/`Wire` functions on `List Nat`: `nb`/`bn` carry bytes across, the encoders append the
  model's bytes, the decoders walk the slice by an index where the model recurses on the list.  Uvarint64 and the
  zig-zag varints (64 and 32 bit) in both directions, the varfloat64 decoder, the float64-LE encoder, the flags.
  (`EncodeVarfloat64_eq` stands with the size functions in `GenDenseEncode`, `DecodeFloat64LE` (`f64LESpec`) in
  `GenF64LE`.)
-/
import DDS.Generated.CodeEncoding
import DDS.Props.C18Bits
import DDS.Proofs.Wire
import DDS.Proofs.GoSemLemmas

namespace DDS.GenEncoding
open DDS DDS.GoSem DDS.Gen.Encoding DDS.Codec DDS.Props.C18Bits

/-! ### bridge between `List (BitVec 8)` and the model's `List Nat` -/

def nb (l : List (BitVec 8)) : List Nat := l.map BitVec.toNat
def bn (l : List Nat) : List (BitVec 8) := l.map (BitVec.ofNat 8)

@[simp] theorem nb_nil : nb [] = [] := rfl
@[simp] theorem nb_cons (x : BitVec 8) (l) : nb (x :: l) = x.toNat :: nb l := rfl
@[simp] theorem nb_append (a b) : nb (a ++ b) = nb a ++ nb b := by simp [nb]
@[simp] theorem nb_length (a) : (nb a).length = a.length := by simp [nb]
theorem nb_drop (a) (k : Nat) : nb (a.drop k) = (nb a).drop k := by simp [nb, List.map_drop]
theorem nb_take (a) (k : Nat) : nb (a.take k) = (nb a).take k := by simp [nb, List.map_take]
@[simp] theorem bn_length (a) : (bn a).length = a.length := by simp [bn]

theorem bn_nb (l : List (BitVec 8)) : bn (nb l) = l := by
  induction l with
  | nil => rfl
  | cons x l ih =>
    show BitVec.ofNat 8 x.toNat :: bn (nb l) = x :: l
    rw [ih, BitVec.ofNat_toNat, BitVec.setWidth_eq]

theorem bn_append (a b : List Nat) : bn (a ++ b) = bn a ++ bn b := List.map_append

theorem nb_bn (l : List Nat) (h : ∀ x ∈ l, x < 256) : nb (bn l) = l := by
  induction l with
  | nil => rfl
  | cons x l ih =>
    show (BitVec.ofNat 8 x).toNat :: nb (bn l) = x :: l
    rw [ih (fun y hy => h y (List.mem_cons_of_mem _ hy)), BitVec.toNat_ofNat,
      Nat.mod_eq_of_lt (h x (List.mem_cons_self ..))]

theorem nb_lt (l : List (BitVec 8)) : ∀ x ∈ nb l, x < 256 := by
  intro x hx
  obtain ⟨y, _, rfl⟩ := List.mem_map.mp hx
  exact y.isLt

theorem nb_inj {a b : List (BitVec 8)} (h : nb a = nb b) : a = b := by
  rw [← bn_nb a, ← bn_nb b, h]

theorem eq_bn_of_nb {a : List (BitVec 8)} {l : List Nat} (h : nb a = l) : a = bn l := by
  rw [← h, bn_nb]

theorem single_bn (x : BitVec 8) (n : Nat) (h : x.toNat = n) : [x] = bn [n] :=
  eq_bn_of_nb (by rw [nb_cons, nb_nil, h])

theorem cons_bn (x : BitVec 8) (n : Nat) (l : List Nat) (h : x.toNat = n) :
    x :: bn l = bn (n :: l) := by
  show _ = BitVec.ofNat 8 n :: bn l
  rw [← h, BitVec.ofNat_toNat, BitVec.setWidth_eq]

/-- the suffix of `b` that corresponds to the model's remaining bytes `rest` -/
def suffixOf (b : List (BitVec 8)) (rest : Bytes) : List (BitVec 8) := b.drop (b.length - rest.length)

theorem suffixOf_drop (b : List (BitVec 8)) (k : Nat) : suffixOf b (nb (b.drop k)) = b.drop k := by
  unfold suffixOf
  rw [nb_length, List.length_drop]
  by_cases h : k ≤ b.length
  · rw [Nat.sub_sub_self h]
  · have h := Nat.le_of_not_le h
    rw [Nat.sub_eq_zero_of_le h, Nat.sub_zero, List.drop_length, List.drop_of_length_le h]

/-! ### facts on 64-bit words that several codecs share -/

theorem setWidth64_toNat (n : BitVec 8) : (BitVec.setWidth 64 n).toNat = n.toNat :=
  BitVec.toNat_setWidth_of_le (by decide)

theorem and127_toNat (n : BitVec 8) : (n &&& 127#8).toNat = n.toNat % 128 :=
  Nat.and_two_pow_sub_one_eq_mod n.toNat 7

theorem eq_ofNat_of_toNat {x : BitVec 64} {v : Nat} (h : x.toNat = v) : x = BitVec.ofNat 64 v := by
  rw [← h, BitVec.ofNat_toNat, BitVec.setWidth_eq]

theorem add_shl_lt {a m s w : Nat} (ha : a < 2 ^ s) (hm : m < 2 ^ w) : a + m * 2 ^ s < 2 ^ (s + w) :=
  calc a + m * 2 ^ s < (m + 1) * 2 ^ s := by rw [Nat.add_mul, Nat.one_mul]; omega
    _ ≤ 2 ^ w * 2 ^ s := Nat.mul_le_mul_right _ hm
    _ = 2 ^ (s + w) := by rw [Nat.pow_add, Nat.mul_comm]

theorem or_disjoint_nat (a b k : Nat) (ha : 2 ^ k ∣ a) (hb : b < 2 ^ k) : a ||| b = a + b := by
  obtain ⟨q, rfl⟩ := ha
  rw [Nat.mul_comm, ← Nat.shiftLeft_eq]
  exact (Nat.shiftLeft_add_eq_or_of_lt hb q).symm

/-! ### EncodeUvarint64 -/

/-- the loop after `j` continuation bytes, against the model's `encU` with `k = 8 - j` of them to go -/
theorem encUvarint64_loop (k : Nat) : ∀ (fuel j : Nat) (b : List (BitVec 8)) (v : BitVec 64),
    j + k = 8 → k < fuel →
    Loop.elim (EncodeUvarint64.loop1 fuel b v j)
        (fun (b, v, _) => .ok (b ++ [BitVec.setWidth 8 v]))
      = .ok (b ++ bn (encU k v.toNat)) := by
  induction k with
  | zero =>
    intro fuel j b v hj hf
    obtain ⟨fuel, rfl⟩ := Nat.exists_eq_add_one.mpr hf
    have h8 : ¬ (j : Int) < 8 := by omega
    simp only [EncodeUvarint64.loop1, h8, decide_false, Bool.false_eq_true, if_false, Loop.elim_done, encU]
    rw [single_bn _ _ (BitVec.toNat_setWidth 8 v)]
  | succ k ih =>
    intro fuel j b v hj hf
    obtain ⟨fuel, rfl⟩ := Nat.exists_eq_add_one.mpr (Nat.zero_lt_of_lt hf)
    have h8 : (j : Int) < 8 := by omega
    have h128 : (128#64).toNat = 128 := rfl
    simp only [EncodeUvarint64.loop1, h8, decide_true, if_true, BitVec.ult_eq_decide, h128, encU]
    by_cases hv : v.toNat < 128
    · simp only [hv, decide_true, if_true, Loop.elim_done]
      rw [single_bn _ v.toNat (by rw [BitVec.toNat_setWidth]; omega)]
    · obtain ⟨h1, h2⟩ := uvarint_step_bits v
      simp only [hv, decide_false, Bool.false_eq_true, if_false]
      refine (ih fuel (j + 1) _ _ (by omega) (Nat.lt_of_succ_lt_succ hf)).trans ?_
      rw [h2, List.append_assoc, List.singleton_append, cons_bn _ _ _ h1]

theorem EncodeUvarint64_eq (fuel : Nat) (hf : 9 ≤ fuel) (b : List (BitVec 8)) (v : BitVec 64) :
    EncodeUvarint64 fuel b v = .ok (b ++ bn (encUvarint64 v.toNat)) := by
  rw [encUvarint64_eq]
  exact encUvarint64_loop 8 fuel 0 b v rfl hf

theorem nb_bn_encUvarint64 (n : Nat) : nb (bn (encUvarint64 n)) = encUvarint64 n :=
  nb_bn _ (encU_bytes _ _)

theorem EncodeUvarint64_spec (fuel : Nat) (hf : 9 ≤ fuel) (b : List (BitVec 8)) (v : BitVec 64) :
    ∃ bs, EncodeUvarint64 fuel b v = .ok (b ++ bs) ∧ nb bs = encUvarint64 v.toNat :=
  ⟨_, EncodeUvarint64_eq fuel hf b v, nb_bn_encUvarint64 _⟩

/-! ### DecodeUvarint64

The decoders walk the slice `b` by an index `j` where the model recurses on the list: `b.drop j` is what
the model still sees; the reader is at the end of `b` (`len_le_of_drop_nil`) or at a byte `b[j]` (`idx_drop`). -/

/-- `x | uint64(m) << s` adds the byte when `x` lies below bit `s`; up to `s = 56` nothing is shifted out -/
theorem or_shl_lo (acc s : Nat) (m : BitVec 8) (hs : s ≤ 56) (ha : acc < 2 ^ s) :
    BitVec.ofNat 64 acc ||| BitVec.setWidth 64 m <<< BitVec.ofNat 64 s
      = BitVec.ofNat 64 (acc + m.toNat * 2 ^ s) := by
  have h64 : acc + m.toNat * 2 ^ s < 2 ^ 64 :=
    Nat.lt_of_lt_of_le (add_shl_lt ha m.isLt) (Nat.pow_le_pow_right (by decide) (by omega))
  have hacc : (BitVec.ofNat 64 acc).toNat = acc := by
    rw [BitVec.toNat_ofNat]; omega
  apply eq_ofNat_of_toNat
  rw [BitVec.shiftLeft_eq', BitVec.toNat_ofNat, Nat.mod_eq_of_lt (by omega),
    acc_or_bits _ _ _ (by rw [hacc]; exact ha), hacc, setWidth64_toNat]
  exact Nat.mod_eq_of_lt h64

theorem DecodeUvarint64.loop1_succ (fuel : Nat) (b : List (BitVec 8)) (x s : BitVec 64) (j : Nat) :
    DecodeUvarint64.loop1 (fuel + 1) b x s j = match b.drop j with
      | [] => .ret (b, 0#64, GoErr.eof)
      | n :: _ =>
        if n.toNat < 128 ∨ (j : Int) = 8 then
          .ret (b.drop (j + 1), x ||| BitVec.setWidth 64 n <<< s, GoErr.nil)
        else DecodeUvarint64.loop1 fuel b (x ||| BitVec.setWidth 64 (n &&& 127#8) <<< s) (s + 7#64)
          (j + 1) := by
  rw [DecodeUvarint64.loop1]
  cases hd : b.drop j with
  | nil => exact if_pos (decide_eq_true (len_le_of_drop_nil b j hd))
  | cons n tl =>
    obtain ⟨hlen, hidx, hsl, _⟩ := idx_drop b j n tl hd
    simp only [hlen, decide_false, Bool.false_eq_true, if_false, hidx, hsl, optL_some,
      BitVec.ult_eq_decide, Bool.or_eq_true, decide_eq_true_eq, beq_iff_eq]
    rfl

/-- the loop at index `j` with shift `s = 7 j`, against the model's `decU` with `k = 8 - j` continuation
    bytes to go -/
theorem decUvarint64_loop (b : List (BitVec 8)) (k : Nat) : ∀ (fuel j s acc : Nat),
    j + k = 8 → s + 7 * k = 56 → k < fuel → acc < 2 ^ s →
    DecodeUvarint64.loop1 fuel b (BitVec.ofNat 64 acc) (BitVec.ofNat 64 s) (j : Int)
      = match decU k s acc (nb (b.drop j)) with
        | .error _ => .ret (b, 0#64, GoErr.eof)
        | .ok (v, rest) => .ret (suffixOf b rest, BitVec.ofNat 64 v, GoErr.nil) := by
  induction k with
  | zero =>
    intro fuel j s acc hj hs hf ha
    obtain ⟨fuel, rfl⟩ := Nat.exists_eq_add_one.mpr hf
    rw [DecodeUvarint64.loop1_succ]
    cases hd : b.drop j with
    | nil => rfl
    | cons n tl =>
      obtain ⟨_, _, _, rfl⟩ := idx_drop b j n _ hd
      simp only [nb_cons, decU]
      rw [if_pos (Or.inr (by omega)), or_shl_lo acc s n (Nat.le.intro hs) ha]
      simp only [suffixOf_drop]
  | succ k ih =>
    intro fuel j s acc hj hs hf ha
    obtain ⟨fuel, rfl⟩ := Nat.exists_eq_add_one.mpr (Nat.zero_lt_of_lt hf)
    have ⟨hj8, hj', hs'⟩ : (j : Int) ≠ 8 ∧ j + 1 + k = 8 ∧ s + 7 + 7 * k = 56 := by omega
    rw [DecodeUvarint64.loop1_succ]
    cases hd : b.drop j with
    | nil => rfl
    | cons n tl =>
      obtain ⟨_, _, _, rfl⟩ := idx_drop b j n _ hd
      simp only [nb_cons, decU]
      rw [or_shl_lo acc s _ (Nat.le.intro hs) ha, or_shl_lo acc s _ (Nat.le.intro hs) ha, and127_toNat]
      by_cases hn : n.toNat < 128
      · rw [if_pos (Or.inl hn), if_pos hn]
        simp only [suffixOf_drop]
      · rw [if_neg (not_or.mpr ⟨hn, hj8⟩), if_neg hn, BitVec.ofNat_add_ofNat]
        exact ih fuel (j + 1) (s + 7) _ hj' hs' (Nat.lt_of_succ_lt_succ hf)
          (add_shl_lt ha (Nat.mod_lt _ (by decide)))

/-- what the generated decoders return, given the model's result -/
def decRes {α β} (b : List (BitVec 8)) (zero : β) (f : α → β) :
    Except DecErr (α × Bytes) → Res (List (BitVec 8) × β × GoErr)
  | .error _ => .ok (b, zero, GoErr.eof)
  | .ok (v, rest) => .ok (suffixOf b rest, f v, GoErr.nil)

theorem ofNat64_mod (v : Nat) : BitVec.ofNat 64 (v % W64) = BitVec.ofNat 64 v := by
  show BitVec.ofNat 64 (v % 2 ^ 64) = _
  rw [← BitVec.toNat_ofNat, BitVec.ofNat_toNat, BitVec.setWidth_eq]

/-- eof leaves the input untouched, success returns the value and the corresponding suffix of the input;
    never `.panic`/`.nofuel`. -/
theorem DecodeUvarint64_eq (fuel : Nat) (hf : 9 ≤ fuel) (b : List (BitVec 8)) :
    DecodeUvarint64 fuel b = decRes b 0#64 (BitVec.ofNat 64) (decUvarint64 (nb b)) := by
  have h : DecodeUvarint64.loop1 fuel b 0#64 0#64 0 = _ :=
    decUvarint64_loop b 8 fuel 0 0 0 rfl rfl hf (by decide)
  unfold DecodeUvarint64
  show Loop.elim (DecodeUvarint64.loop1 fuel b 0#64 0#64 0) _ = _
  rw [h]
  cases hd : decU 8 0 0 (nb b) with
  | error e => rw [decUvarint64_of_error _ _ hd, List.drop_zero, hd]; rfl
  | ok p => rw [decUvarint64_of_ok _ _ _ hd, List.drop_zero, hd, decRes, ofNat64_mod]; rfl

theorem DecodeUvarint64_eof (fuel : Nat) (hf : 9 ≤ fuel) (b : List (BitVec 8)) (e : DecErr)
    (h : decUvarint64 (nb b) = .error e) :
    DecodeUvarint64 fuel b = .ok (b, 0#64, GoErr.eof) := by
  rw [DecodeUvarint64_eq fuel hf, h]; rfl

theorem DecodeUvarint64_ok (fuel : Nat) (hf : 9 ≤ fuel) (b : List (BitVec 8)) (v : Nat) (rest : Bytes)
    (h : decUvarint64 (nb b) = .ok (v, rest)) :
    ∃ b', DecodeUvarint64 fuel b = .ok (b', BitVec.ofNat 64 v, GoErr.nil) ∧ nb b' = rest ∧
      ∃ k, 1 ≤ k ∧ k ≤ 9 ∧ b' = b.drop k := by
  obtain ⟨k, h1, h2, rfl, _⟩ := decUvarint64_ok _ _ _ h
  rw [← nb_drop] at h ⊢
  exact ⟨b.drop k, by rw [DecodeUvarint64_eq fuel hf, h, decRes, suffixOf_drop], rfl, k, h1, h2, rfl⟩

theorem decU_error (f s a : Nat) (bs : Bytes) (e : DecErr) (h : decU f s a bs = .error e) : e = .eof := by
  induction f generalizing s a bs with
  | zero => cases bs <;> simp [decU] at h; exact h.symm
  | succ f ih =>
    cases bs with
    | nil => simp [decU] at h; exact h.symm
    | cons n tl =>
      simp only [decU] at h
      split at h
      · cases h
      · exact ih _ _ _ h

/-! ### zig-zag varints -/

/-- the `int64` argument is the `BitVec 64` read as signed -/
theorem EncodeVarint64_eq (fuel : Nat) (hf : 9 ≤ fuel) (b : List (BitVec 8)) (v : BitVec 64) :
    EncodeVarint64 fuel b v = .ok (b ++ bn (encVarint64 v.toInt)) := by
  unfold EncodeVarint64
  rw [EncodeUvarint64_eq fuel hf, Res.bind_ok, zigzag_bits]
  rfl

theorem EncodeVarint64_spec (fuel : Nat) (hf : 9 ≤ fuel) (b : List (BitVec 8)) (v : BitVec 64) :
    ∃ bs, EncodeVarint64 fuel b v = .ok (b ++ bs) ∧ nb bs = encVarint64 v.toInt :=
  ⟨_, EncodeVarint64_eq fuel hf b v, nb_bn_encUvarint64 _⟩

theorem toInt_ofInt64 (i : Int) (h1 : -(2:Int)^63 ≤ i) (h2 : i < (2:Int)^63) :
    (BitVec.ofInt 64 i).toInt = i :=
  BitVec.toInt_ofInt_eq_self (w := 64) (by decide) h1 h2

theorem EncodeVarint64_ofInt (fuel : Nat) (hf : 9 ≤ fuel) (b : List (BitVec 8)) (i : Int)
    (h1 : -(2:Int)^63 ≤ i) (h2 : i < (2:Int)^63) :
    EncodeVarint64 fuel b (BitVec.ofInt 64 i) = .ok (b ++ bn (encVarint64 i)) := by
  rw [EncodeVarint64_eq fuel hf, toInt_ofInt64 i h1 h2]

theorem unzigzag_ofNat (u : Nat) :
    ((BitVec.ofNat 64 u >>> 1) ^^^ -(BitVec.ofNat 64 u &&& 1#64)) = BitVec.ofInt 64 (unzigzag (u % W64)) := by
  rw [show W64 = 2 ^ 64 from rfl, ← BitVec.toNat_ofNat, ← unzigzag_bits, BitVec.ofInt_toInt]

theorem DecodeVarint64_eq (fuel : Nat) (hf : 9 ≤ fuel) (b : List (BitVec 8)) :
    DecodeVarint64 fuel b = decRes b 0#64 (BitVec.ofInt 64) (decVarint64 (nb b)) := by
  unfold DecodeVarint64 decVarint64
  rw [DecodeUvarint64_eq fuel hf]
  cases hd : decUvarint64 (nb b) with
  | error e => rfl
  | ok p =>
    obtain ⟨_, _, _, _, hu⟩ := decUvarint64_ok _ _ _ hd
    simp only [decRes, Res.bind_ok]
    rw [unzigzag_ofNat, Nat.mod_eq_of_lt hu]

/-- truncation to `int32`: `2^32 ∣ 2^64`, so reducing modulo `2^64` first changes nothing -/
theorem setWidth32_ofInt (v : Int) : BitVec.setWidth 32 (BitVec.ofInt 64 v) = BitVec.ofInt 32 v := by
  apply BitVec.eq_of_toNat_eq
  rw [BitVec.toNat_setWidth, BitVec.toNat_ofInt, BitVec.toNat_ofInt,
    ← Int.emod_emod_of_dvd v (Int.natCast_dvd_natCast.mpr (Nat.pow_dvd_pow 2 (by decide : 32 ≤ 64))),
    Int.toNat_emod (Int.emod_nonneg _ (by decide)) (by decide), Int.toNat_natCast]

/-- On overflow Go has already advanced the slice: the generated function
    returns the *advanced* slice together with `errVarint32Overflow` (the model returns
    `.error .overflow32` and, by convention, leaves the caller's input alone). -/
theorem DecodeVarint32_eq (fuel : Nat) (hf : 9 ≤ fuel) (b : List (BitVec 8)) :
    DecodeVarint32 fuel b =
      match decVarint64 (nb b) with
      | .error _ => .ok (b, 0#32, GoErr.eof)
      | .ok (v, rest) =>
        if v > 2147483647 ∨ v < -2147483648 then .ok (suffixOf b rest, 0#32, errVarint32Overflow)
        else .ok (suffixOf b rest, BitVec.ofInt 32 v, GoErr.nil) := by
  unfold DecodeVarint32
  rw [DecodeVarint64_eq fuel hf]
  cases hd : decVarint64 (nb b) with
  | error e => rfl
  | ok p =>
    obtain ⟨v, rest⟩ := p
    obtain ⟨_, _, _, _, h1, h2⟩ := decVarint64_ok _ _ _ hd
    have hv := toInt_ofInt64 v h1 h2
    have hmax : (2147483647#64).toInt = 2147483647 := by decide
    have hmin : (BitVec.ofInt 64 (-2147483648)).toInt = -2147483648 := by decide
    have hnil : (GoErr.nil != GoErr.nil) = false := rfl
    simp only [decRes, Res.bind_ok, hnil, Bool.false_eq_true, if_false, BitVec.slt_eq_decide, hv, hmax,
      hmin, Bool.or_eq_true, decide_eq_true_eq, setWidth32_ofInt]

theorem DecodeVarint32_ok (fuel : Nat) (hf : 9 ≤ fuel) (b : List (BitVec 8)) (v : Int) (rest : Bytes)
    (h : decVarint32 (nb b) = .ok (v, rest)) :
    DecodeVarint32 fuel b = .ok (suffixOf b rest, BitVec.ofInt 32 v, GoErr.nil) := by
  rw [DecodeVarint32_eq fuel hf]
  unfold decVarint32 at h
  cases hd : decVarint64 (nb b) with
  | error e => rw [hd] at h; cases h
  | ok p =>
    obtain ⟨w, r⟩ := p
    rw [hd] at h
    simp only at h ⊢
    split at h
    · cases h
    · rename_i hov
      simp only [Except.ok.injEq, Prod.mk.injEq] at h
      rw [if_neg hov, h.1, h.2]

theorem DecodeVarint32_overflow (fuel : Nat) (hf : 9 ≤ fuel) (b : List (BitVec 8))
    (h : decVarint32 (nb b) = .error .overflow32) :
    ∃ v rest, decVarint64 (nb b) = .ok (v, rest) ∧
      DecodeVarint32 fuel b = .ok (suffixOf b rest, 0#32, errVarint32Overflow) := by
  rw [DecodeVarint32_eq fuel hf]
  unfold decVarint32 at h
  cases hd : decVarint64 (nb b) with
  | error e =>
    rw [hd] at h
    simp only [Except.error.injEq] at h
    unfold decVarint64 decUvarint64 at hd
    cases hu : decU (Consts.maxVarLen64 - 1) 0 0 (nb b) with
    | error e' =>
      rw [hu] at hd
      simp only [Except.error.injEq] at hd
      have := decU_error _ _ _ _ _ hu
      subst this; subst hd; cases h
    | ok p => rw [hu] at hd; cases hd
  | ok p =>
    obtain ⟨w, r⟩ := p
    rw [hd] at h
    simp only at h ⊢
    split at h
    · rename_i hov
      exact ⟨w, r, rfl, by rw [if_pos hov]⟩
    · cases h

theorem DecodeVarint32_eof (fuel : Nat) (hf : 9 ≤ fuel) (b : List (BitVec 8))
    (h : decVarint32 (nb b) = .error .eof) :
    DecodeVarint32 fuel b = .ok (b, 0#32, GoErr.eof) := by
  rw [DecodeVarint32_eq fuel hf]
  unfold decVarint32 at h
  cases hd : decVarint64 (nb b) with
  | error e => rfl
  | ok p =>
    obtain ⟨w, r⟩ := p
    rw [hd] at h
    simp only at h
    split at h <;> cases h

/-! ### DecodeVarfloat64 -/

theorem float64bits_one : GoSem.float64bits (F64.fin (1 : Rat)) = BitVec.ofNat 64 oneBits := by
  decide +kernel

/-- `x | uint64(m) << s` is an addition when `x` only has bits from `s + w` upwards and `m` has `w` bits
    (the varfloat decoder fills the word from the top) -/
theorem or_shift_hi_toNat (x : BitVec 64) (m : BitVec 8) (s w : Nat) (hsw : s + w ≤ 64) (hw : 0 < w)
    (hx : 2 ^ (s + w) ∣ x.toNat) (hm : m.toNat < 2 ^ w) :
    (x ||| BitVec.setWidth 64 m <<< BitVec.ofNat 64 s).toNat = x.toNat + m.toNat * 2 ^ s := by
  have hms : m.toNat * 2 ^ s < 2 ^ (s + w) := by
    rw [Nat.pow_add, Nat.mul_comm]
    exact Nat.mul_lt_mul_of_pos_left hm (Nat.pow_pos (by decide))
  have h64 : 2 ^ (s + w) ≤ 2 ^ 64 := Nat.pow_le_pow_right (by decide) hsw
  rw [BitVec.toNat_or, BitVec.shiftLeft_eq', BitVec.toNat_ofNat, Nat.mod_eq_of_lt (by omega),
    BitVec.toNat_shiftLeft, Nat.shiftLeft_eq, setWidth64_toNat,
    Nat.mod_eq_of_lt (by omega), or_disjoint_nat _ _ _ hx hms]

theorem DecodeVarfloat64.loop1_succ (b : List (BitVec 8)) (fuel : Nat) (x s : BitVec 64) (j : Nat) :
    DecodeVarfloat64.loop1 b (fuel + 1) x j s = match b.drop j with
      | [] => .ret (b, F64.fin (0 : Rat), GoErr.eof)
      | n :: _ =>
        if (j : Int) = 8 then .done (x ||| BitVec.setWidth 64 n, j, s)
        else if n.toNat < 128 then .done (x ||| BitVec.setWidth 64 n <<< s, j, s)
        else DecodeVarfloat64.loop1 b fuel (x ||| BitVec.setWidth 64 (n &&& 127#8) <<< s) (j + 1)
          (s - 7#64) := by
  rw [DecodeVarfloat64.loop1]
  cases hd : b.drop j with
  | nil => exact if_pos (decide_eq_true (len_le_of_drop_nil b j hd))
  | cons n tl =>
    obtain ⟨hlen, hidx, _⟩ := idx_drop b j n tl hd
    simp only [hlen, decide_false, Bool.false_eq_true, if_false, hidx, optL_some,
      BitVec.ult_eq_decide, decide_eq_true_eq, beq_iff_eq]
    rfl

/-- the loop at index `j` with shift `s = 57 - 7 j` and every bit of `x` at or above `s + 7`, against the
    model's `decVF` with `k = 8 - j` continuation bytes to go; `G` is what the caller does with the word -/
theorem decVarfloat64_loop (G : BitVec 64 → F64) (b : List (BitVec 8)) (k : Nat) :
    ∀ (fuel j s : Nat) (x : BitVec 64),
    j + k = 8 → 7 * k < s → s + 7 ≤ 64 → k < fuel → 2 ^ (s + 7) ∣ x.toNat →
    Loop.elim (DecodeVarfloat64.loop1 b fuel x (j : Int) (BitVec.ofNat 64 s))
        (fun (x, i, _) => GoSem.optR (GoSem.sliceFrom b (i + (1 : Int))) (fun t1 =>
          .ok (t1, G x, GoErr.nil)))
      = match decVF k s x.toNat (nb (b.drop j)) with
        | .error _ => .ok (b, F64.fin (0 : Rat), GoErr.eof)
        | .ok (v, rest) => .ok (suffixOf b rest, G (BitVec.ofNat 64 v), GoErr.nil) := by
  induction k with
  | zero =>
    intro fuel j s x hj hs hs64 hf hx
    obtain ⟨fuel, rfl⟩ := Nat.exists_eq_add_one.mpr hf
    rw [DecodeVarfloat64.loop1_succ]
    cases hd : b.drop j with
    | nil => rfl
    | cons n tl =>
      obtain ⟨_, _, hsl, rfl⟩ := idx_drop b j n _ hd
      -- the last byte carries eight bits and is not shifted
      have h : (x ||| BitVec.setWidth 64 n).toNat = x.toNat + n.toNat := by
        rw [BitVec.toNat_or, setWidth64_toNat,
          or_disjoint_nat _ _ 8 (Nat.dvd_trans (Nat.pow_dvd_pow 2 (by omega)) hx) n.isLt]
      simp only [nb_cons, decVF]
      rw [if_pos (by omega), Loop.elim_done, hsl, optR_some, eq_ofNat_of_toNat h]
      simp only [suffixOf_drop]
  | succ k ih =>
    intro fuel j s x hj hs hs64 hf hx
    obtain ⟨fuel, rfl⟩ := Nat.exists_eq_add_one.mpr (Nat.zero_lt_of_lt hf)
    obtain ⟨t, rfl, hj8, hj', ht, ht64⟩ :
        ∃ t, s = t + 7 ∧ (j : Int) ≠ 8 ∧ j + 1 + k = 8 ∧ 7 * k < t ∧ t + 7 ≤ 64 :=
      ⟨s - 7, by clear hx; omega⟩
    rw [DecodeVarfloat64.loop1_succ]
    cases hd : b.drop j with
    | nil => rfl
    | cons n tl =>
      obtain ⟨_, _, hsl, rfl⟩ := idx_drop b j n _ hd
      simp only [nb_cons, decVF]
      rw [if_neg hj8]
      by_cases hn : n.toNat < 128
      · have h := or_shift_hi_toNat x n _ 7 hs64 (by decide) hx hn
        rw [if_pos hn, if_pos hn, Loop.elim_done, hsl, optR_some, eq_ofNat_of_toNat h]
        simp only [suffixOf_drop]
      · have h := or_shift_hi_toNat x (n &&& 127#8) _ 7 hs64 (by decide) hx
          (by rw [and127_toNat]; exact Nat.mod_lt _ (by decide))
        have e : BitVec.ofNat 64 (t + 7) - 7#64 = BitVec.ofNat 64 t := by
          rw [BitVec.ofNat_add, BitVec.add_sub_cancel]
        rw [and127_toNat] at h
        rw [if_neg hn, if_neg hn, ← h, e, Nat.add_sub_cancel]
        refine ih fuel (j + 1) t _ hj' ht ht64 (Nat.lt_of_succ_lt_succ hf) ?_
        rw [h]
        exact Nat.dvd_add (Nat.dvd_trans (Nat.pow_dvd_pow 2 (Nat.le_add_right _ 7)) hx)
          (Nat.dvd_mul_left _ _)

theorem rotateLeft64_neg6 (x : BitVec 64) : GoSem.rotateLeft64 x (-6 : Int) = x.rotateRight 6 := by
  unfold GoSem.rotateLeft64
  show x.rotateLeft 58 = _
  apply BitVec.eq_of_getLsbD_eq
  intro i hi
  simp [BitVec.getLsbD_rotateLeft, BitVec.getLsbD_rotateRight]

/-- the float the Go decoder builds from the accumulated word is the model's -/
theorem varfloat_value (v : Nat) :
    F64.sub (GoSem.float64frombits ((GoSem.rotateLeft64 (BitVec.ofNat 64 v) (-6 : Int))
        + (GoSem.float64bits (F64.fin (1 : Rat))))) (F64.fin (1 : Rat))
      = Wire.vfValue (vfUnword (v % W64)) := by
  rw [rotateLeft64_neg6, float64bits_one]
  have h := vfUnword_bits (BitVec.ofNat 64 v)
  rw [BitVec.toNat_ofNat] at h
  rw [show W64 = 2 ^ 64 from rfl, ← h, Wire.vfValue, UInt64.ofNat_bitVecToNat]
  rfl

/-- eof leaves the input untouched (value 0), success returns the model's float and the corresponding suffix of
    the input.  Never `.panic` / `.nofuel`. -/
theorem DecodeVarfloat64_eq (fuel : Nat) (hf : 9 ≤ fuel) (b : List (BitVec 8)) :
    DecodeVarfloat64 fuel b = match decVarfloat64 (nb b) with
      | .error _ => .ok (b, F64.fin (0 : Rat), GoErr.eof)
      | .ok (c, rest) => .ok (suffixOf b rest, c, GoErr.nil) := by
  refine Eq.trans (decVarfloat64_loop (fun x => F64.sub (GoSem.float64frombits
    (GoSem.rotateLeft64 x (-6 : Int) + GoSem.float64bits (F64.fin (1 : Rat)))) (F64.fin (1 : Rat)))
    b 8 fuel 0 57 0#64 rfl (by decide) (by decide) hf (Nat.dvd_zero _)) ?_
  show (match decVF 8 57 0 (nb b) with
    | .error _ => _
    | .ok (v, rest) => Res.ok (suffixOf b rest, _, GoErr.nil)) = _
  cases hd : decVF 8 57 0 (nb b) with
  | error e => rw [DDS.Sketch.decVarfloat64_of_error _ _ (decVarfloatBits_of_error _ _ hd)]
  | ok p =>
    rw [DDS.Sketch.decVarfloat64_of_ok _ _ _ (decVarfloatBits_of_ok _ _ _ hd)]
    exact congrArg (fun c => Res.ok (suffixOf b p.2, c, GoErr.nil)) (varfloat_value p.1)

/-! ### EncodeFloat64LE -/

theorem le64_eq (v : BitVec 64) : GoSem.le64 v = bn (encF64LE v.toNat) := by
  unfold GoSem.le64 encF64LE bn
  rw [List.map_map]
  apply List.map_congr_left
  intro i _
  apply BitVec.eq_of_toNat_eq
  rw [Function.comp_apply, Props.C18Bits.f64le_byte_bits, BitVec.toNat_ofNat]
  omega

theorem putU64At_end (b : List (BitVec 8)) (v : BitVec 64) :
    GoSem.putU64At (b ++ List.replicate 8 0#8) (GoSem.len (b ++ List.replicate 8 0#8) - 8) v
      = some (b ++ GoSem.le64 v) := by
  unfold GoSem.putU64At GoSem.len
  have hl : (b ++ List.replicate 8 (0#8 : BitVec 8)).length = b.length + 8 := by simp
  rw [hl]
  have hlo : ((b.length + 8 : Nat) : Int) - 8 = (b.length : Int) := by omega
  rw [hlo]
  have hc : ¬ ((b.length : Int) < 0 ∨ ((b.length + 8 : Nat) : Int) < (b.length : Int) + 8) := by omega
  rw [if_neg hc, Int.toNat_natCast, List.take_left' rfl,
    List.drop_of_length_le (Nat.le_of_eq hl), List.append_nil]

/-- **`EncodeFloat64LE` appends the model's little-endian bytes of the bit pattern** — for every
    fuel (no loop), every float (NaN, infinities included), never `.panic`/`.nofuel` -/
theorem EncodeFloat64LE_eq (fuel : Nat) (b : List (BitVec 8)) (v : F64) :
    EncodeFloat64LE fuel b v = .ok (b ++ bn (encF64LE v.toBits.toNat)) := by
  unfold EncodeFloat64LE
  show GoSem.optR (GoSem.putU64At (b ++ List.replicate 8 0#8)
      (GoSem.len (b ++ List.replicate 8 0#8) - 8) (GoSem.float64bits v)) _ = _
  rw [putU64At_end, optR_some, le64_eq]
  rfl

/-! ### flags (flag.go) against `Wire.mkFlag` / `Wire.flagType` / `Wire.flagSub` -/

theorem newSubFlag_toNat (s : BitVec 8) (hs : s.toNat < 64) : (newSubFlag s).byte.toNat = s.toNat * 4 := by
  show (s <<< 2).toNat = s.toNat * 2 ^ 2
  rw [BitVec.toNat_shiftLeft, Nat.shiftLeft_eq, Nat.mod_eq_of_lt (by omega)]

theorem newSubFlag_byte (s : BitVec 8) (hs : s.toNat < 64) :
    (newSubFlag s).byte.toNat = Wire.mkFlag 0 s.toNat :=
  (newSubFlag_toNat s hs).trans (Nat.zero_add _).symm

/-- 2-bit type, 6-bit sub-flag -/
theorem NewFlag_newSubFlag (t s : BitVec 8) (ht : t.toNat < 4) (hs : s.toNat < 64) :
    (NewFlag ⟨t⟩ (newSubFlag s)).byte.toNat = Wire.mkFlag t.toNat s.toNat := by
  show (t ||| (newSubFlag s).byte).toNat = t.toNat + s.toNat * 4
  rw [BitVec.toNat_or, newSubFlag_toNat s hs, Nat.or_comm, Nat.add_comm]
  exact or_disjoint_nat _ _ 2 ⟨_, Nat.mul_comm ..⟩ ht

example : ∃ t s : BitVec 8, t.toNat < 4 ∧ s.toNat < 64 := ⟨3#8, 40#8, by decide, by decide⟩

theorem Flag_Type (f : Flag) : f.Type.byte.toNat = Wire.flagType f.byte.toNat :=
  Nat.and_two_pow_sub_one_eq_mod f.byte.toNat 2

theorem and252 : ∀ n, n < 256 → n &&& 252 = n / 4 * 4 := by
  decide +kernel

/-- `Flag.SubFlag` keeps the sub-flag bits in place: it is `flagSub` shifted back -/
theorem Flag_SubFlag (f : Flag) :
    f.SubFlag.byte.toNat = Wire.flagSub f.byte.toNat * 2 ^ Consts.numBitsForType :=
  and252 _ f.byte.isLt

/-- `f.SubFlag() == newSubFlag s` is how the decoder dispatches: it is `flagSub f = s` -/
theorem Flag_SubFlag_eq (f : Flag) (s : BitVec 8) (hs : s.toNat < 64) :
    f.SubFlag = newSubFlag s ↔ Wire.flagSub f.byte.toNat = s.toNat := by
  have h : f.SubFlag = newSubFlag s ↔ f.SubFlag.byte.toNat = (newSubFlag s).byte.toNat :=
    ⟨fun h => by rw [h], fun h => congrArg SubFlag.mk (BitVec.eq_of_toNat_eq h)⟩
  rw [h, Flag_SubFlag, newSubFlag_toNat s hs]
  exact Nat.mul_left_inj (by decide)

theorem Flag_Type_eq (f : Flag) (t : FlagType) :
    f.Type = t ↔ Wire.flagType f.byte.toNat = t.byte.toNat := by
  rw [← Flag_Type]
  exact ⟨fun h => by rw [h], fun h => congrArg FlagType.mk (BitVec.eq_of_toNat_eq h)⟩

/-- `Type`/`SubFlag` of a built flag give the parts back (what the Go tests call round trip) -/
theorem mkFlag_parts (t s : BitVec 8) (ht : t.toNat < 4) (hs : s.toNat < 64) :
    (NewFlag ⟨t⟩ (newSubFlag s)).Type = ⟨t⟩ ∧ (NewFlag ⟨t⟩ (newSubFlag s)).SubFlag = newSubFlag s := by
  rw [Flag_Type_eq, Flag_SubFlag_eq _ _ hs, NewFlag_newSubFlag t s ht hs]
  exact Wire.flag_mk _ _ ht

/-! the package-level flag values -/

theorem flagTypeSketchFeatures_byte : flagTypeSketchFeatures.byte.toNat = Consts.flagTypeSketchFeatures := by decide
theorem FlagTypeIndexMapping_byte : FlagTypeIndexMapping.byte.toNat = Consts.flagTypeIndexMapping := by decide
theorem FlagTypePositiveStore_byte : FlagTypePositiveStore.byte.toNat = Consts.flagTypePositiveStore := by decide
theorem FlagTypeNegativeStore_byte : FlagTypeNegativeStore.byte.toNat = Consts.flagTypeNegativeStore := by decide
theorem FlagTypePositiveStore_side : FlagTypePositiveStore.byte.toNat = Wire.sideType .pos := by decide
theorem FlagTypeNegativeStore_side : FlagTypeNegativeStore.byte.toNat = Wire.sideType .neg := by decide

theorem FlagZeroCountVarFloat_byte : FlagZeroCountVarFloat.byte.toNat
    = Wire.mkFlag Consts.flagTypeSketchFeatures Consts.subFlagZeroCountVarFloat := by decide
theorem FlagCount_byte : FlagCount.byte.toNat
    = Wire.mkFlag Consts.flagTypeSketchFeatures Consts.subFlagCount := by decide
theorem FlagSum_byte : FlagSum.byte.toNat
    = Wire.mkFlag Consts.flagTypeSketchFeatures Consts.subFlagSum := by decide
theorem FlagMin_byte : FlagMin.byte.toNat
    = Wire.mkFlag Consts.flagTypeSketchFeatures Consts.subFlagMin := by decide
theorem FlagMax_byte : FlagMax.byte.toNat
    = Wire.mkFlag Consts.flagTypeSketchFeatures Consts.subFlagMax := by decide
theorem FlagIndexMappingBaseLogarithmic_byte : FlagIndexMappingBaseLogarithmic.byte.toNat
    = Wire.mkFlag Consts.flagTypeIndexMapping Consts.subFlagIndexMappingBaseLogarithmic := by decide
theorem FlagIndexMappingBaseLinear_byte : FlagIndexMappingBaseLinear.byte.toNat
    = Wire.mkFlag Consts.flagTypeIndexMapping Consts.subFlagIndexMappingBaseLinear := by decide
theorem FlagIndexMappingBaseQuadratic_byte : FlagIndexMappingBaseQuadratic.byte.toNat
    = Wire.mkFlag Consts.flagTypeIndexMapping Consts.subFlagIndexMappingBaseQuadratic := by decide
theorem FlagIndexMappingBaseCubic_byte : FlagIndexMappingBaseCubic.byte.toNat
    = Wire.mkFlag Consts.flagTypeIndexMapping Consts.subFlagIndexMappingBaseCubic := by decide
theorem FlagIndexMappingBaseQuartic_byte : FlagIndexMappingBaseQuartic.byte.toNat
    = Wire.mkFlag Consts.flagTypeIndexMapping Consts.subFlagIndexMappingBaseQuartic := by decide

/-- the bins sub-flags are `newSubFlag` of the model's constants … -/
theorem BinEncodingIndexDeltasAndCounts_byte : BinEncodingIndexDeltasAndCounts.byte.toNat
    = Wire.mkFlag 0 Consts.binEncodingIndexDeltasAndCounts := by decide
theorem BinEncodingIndexDeltas_byte : BinEncodingIndexDeltas.byte.toNat
    = Wire.mkFlag 0 Consts.binEncodingIndexDeltas := by decide
theorem BinEncodingContiguousCounts_byte : BinEncodingContiguousCounts.byte.toNat
    = Wire.mkFlag 0 Consts.binEncodingContiguousCounts := by decide

/-- … so that the store flags `NewFlag storeFlagType binEncoding` are the bytes `encBlock` writes -/
theorem storeFlag_bytes :
    (∀ side (t : FlagType), t.byte.toNat = Wire.sideType side →
      (NewFlag t BinEncodingIndexDeltasAndCounts).byte.toNat
          = Wire.mkFlag (Wire.sideType side) (Wire.payloadSub (.deltasCounts [])) ∧
      (NewFlag t BinEncodingIndexDeltas).byte.toNat
          = Wire.mkFlag (Wire.sideType side) (Wire.payloadSub (.deltas [])) ∧
      (NewFlag t BinEncodingContiguousCounts).byte.toNat
          = Wire.mkFlag (Wire.sideType side) (Wire.payloadSub (.contiguous 0 0 []))) := by
  intro side t ht
  have hlt : t.byte.toNat < 4 := by rw [ht]; cases side <;> decide
  cases t with
  | mk tb =>
    simp only at ht hlt
    refine ⟨?_, ?_, ?_⟩
    · rw [← ht]; exact NewFlag_newSubFlag tb 1#8 hlt (by decide)
    · rw [← ht]; exact NewFlag_newSubFlag tb 2#8 hlt (by decide)
    · rw [← ht]; exact NewFlag_newSubFlag tb 3#8 hlt (by decide)

/-- `EncodeFlag` appends the flag byte (the model conses it in front of the payload) -/
theorem EncodeFlag_eq (b : List (BitVec 8)) (f : Flag) :
    nb (EncodeFlag b f) = nb b ++ [f.byte.toNat] := by
  simp only [EncodeFlag, nb_append, nb_cons, nb_nil]

/-- `DecodeFlag`: eof on empty input (input untouched), otherwise first byte and tail —
    exactly the `[]` / `f :: bs` match of `Wire.parseBlock`. -/
theorem DecodeFlag_eq (fuel : Nat) (b : List (BitVec 8)) :
    DecodeFlag fuel b = match b with
      | [] => .ok ([], ⟨0#8⟩, GoErr.eof)
      | n :: tl => .ok (tl, ⟨n⟩, GoErr.nil) := by
  cases b with
  | nil => rfl
  | cons n tl =>
    unfold DecodeFlag
    have h0 : (GoSem.len (n :: tl) == (0 : Int)) = false := by
      rw [beq_eq_false_iff_ne]; unfold GoSem.len; simp only [List.length_cons]; omega
    simp only [h0, Bool.false_eq_true, if_false]
    have h1 : GoSem.idx (n :: tl) 0 = some n := by simp [GoSem.idx]
    have h2 : GoSem.sliceFrom (n :: tl) 1 = some tl := by
      have := sliceFrom_natCast (n :: tl) 1 (by simp)
      simpa using this
    rw [h1, optR_some, h2, optR_some]

theorem DecodeFlag_nb (fuel : Nat) (b : List (BitVec 8)) :
    (nb b = [] → DecodeFlag fuel b = .ok (b, ⟨0#8⟩, GoErr.eof)) ∧
    (∀ f bs, nb b = f :: bs → ∃ b', DecodeFlag fuel b = .ok (b', ⟨BitVec.ofNat 8 f⟩, GoErr.nil) ∧ nb b' = bs) := by
  rw [DecodeFlag_eq]
  cases b with
  | nil => exact ⟨fun _ => rfl, fun f bs h => (by cases h)⟩
  | cons n tl =>
    refine ⟨fun h => (by cases h), fun f bs h => ?_⟩
    simp only [nb_cons, List.cons.injEq] at h
    refine ⟨tl, ?_, h.2⟩
    rw [← h.1, BitVec.ofNat_toNat, BitVec.setWidth_eq]

end DDS.GenEncoding
