/-
  DDS.Proofs.Dense — the dense stores of `DDS.Model.Dense`: first what holds of a `DStore` of any of the
  three kinds, then the refinement proofs for the plain `DenseStore` (`kind = .plain`), then the vocabulary of
  operation histories.  The collapsing kinds are in `DDS.Proofs.Collapsing`/`CollapsingHigh`, the three kinds
  under one invariant in `DDS.Proofs.DenseKinds`.

  Every kind.
  * `GrowthOK` abstracts the float computation `denseNewLength`: for spans below `2^33` it
    returns a length that covers the span.  It is PROVED (`DDS.DStore.growthOK` in
    `DDS.Proofs.Growth`, from `DDS.denseNewLength_ge` of `DDS.Proofs.Num`); it is kept as a hypothesis here only
    because this file uses core Lean and the float proof needs Mathlib.  Without the span bound the
    statement is FALSE (`GrowthOKUnbounded`, `not_growthOK_unbounded`): the float
    computation under-allocates from spans of about `2^60` on and overflows to `+Inf` for
    astronomically large ones.  Hence every theorem about an operation that may grow the
    array carries a span hypothesis `SpanOK` (automatic for int32 indexes:
    `Core.spanOK`).
  * Arrays are read through `at0` (zero outside the array); sums are handled through
    `rsum f lo n = Σ_{lo ≤ j < lo+n} f j` and `sum_eq_window` (the array sum is the sum of the
    weights over any window containing the support), from which `sum_eq_of_wt`, `sum_point`,
    `sum_mul_of_wt` follow.
  * Content is observed pointwise through `wt s i = at0 s.bins (i - s.offset)`.  `Core` is what the
    invariants of the three kinds share (`Inv` below, `InvLow N`, `InvHigh N` in
    `DDS.Proofs.Collapsing`/`CollapsingHigh`), `countEq` being kept as `count = bins.toList.sum`; `Tight32`
    says that both ends of the window carry weight and are int32.
  * The primitives `resetBins`, `shiftCounts`, `centerCounts`; `Handed s t K` is the state `extendRange`
    hands to `adjust`.
  * The cumulative weight `cum` and the rank lookup (`keyAtRank_spec_gen`); the content `content s` a
    store reports, its canonical form and `lookup = wt` (`Core.content_spec`), with `cumul_eq_cum`,
    `total_eq_sum_gen`, `keyAtRank_eq_content_gen`, and the int32 facts under `Tight32`
    (`Core.content_extremes`).  A store is known by its weights (`Core.content_eq`).
  * What extending the window and then adding weights gives is proved once:
    `Relaid0 s t φ mn mx` (`t` holds `content s` moved along the monotone index map `φ`, in the
    window `[φ mn, φ mx]`; `Ext` is `Relaid0` along `id`, the collapsing stores' `ExtLow`/`ExtHigh`
    along `Content.lowMap e` / `highMap e`), `Relaid0.add` and `Relaid0.merge` (the steps of
    `addWithCount` and `mergeSame`), ending in `Holds s' φ m mn mx` (`s'` holds the exact sum `m`
    moved along `φ`), from which tightness and the content equation follow for any monotone `φ`
    (`Holds.spec`).
  * The same-kind merge of every kind is "extend the range if needed, then ONE fold `mergeFold` over the
    window of the argument", each index going to the cell `mergeCell` (`mergeSame_eq`); a proof about
    `mergeSame` supplies what `extendRange` returns and what the fold does (`mergeSame_of_fold`; the loop is
    `scatter_loop`).  The proofs about the regenerated code (`DDS.Proofs.GenDense*`, `GenCollapsing*`) rest
    on the same equation.
  * `reweight` keeps `Core` and scales the content (`reweight_spec`, `Core.reweight`,
    `Core.reweight_content`).

  The plain store.
  * `Inv` is its invariant; it holds of `DStore.new .plain` (`inv_new`) and is
    preserved by `addWithCount`, `mergeSame`, `clear`, `reweight` (`*_ok`); `mergeBins` and
    histories of `Op`s are in `DDS.Proofs.DenseKinds`, for the three kinds at once.
  * The tightness clauses of `Inv` carry an alternative, `0 < wt s s.minIndex ∨ minIndex = maxInt32` /
    `0 < wt s s.maxIndex ∨ maxIndex = minInt32`: without it they are false for indexes outside int32
    (`minIndex_counterexample`, `maxIndex_counterexample`; reproduced on the Go code).  With
    `Bounded32` (all weight on int32 indexes, preserved by every operation given int32 arguments) the
    exact statements `minIndex_spec` / `maxIndex_spec` hold.
  * `Ext s t lo hi` says that `t` holds the weights of `s` re-laid over the window `[lo, hi]`: it
    is what `extendRange` and `normalize` return.  The operations go through `Ext.relaid0`, `Relaid0.add` /
    `Relaid0.merge`, and get back from `Core` + `Holds` to `Inv` by `inv_of_holds`.
  * Far-apart indexes make the store panic (`addWithCount_far_panics`): the reason for `SpanOK`.

  Only core Lean is used (no Mathlib): `omega` for indexes, the order lemmas of `Rat` (those
  missing from core are at the head of `DDS.Proofs.Bins`) for weights.
-/
import DDS.Model.Dense
import DDS.Proofs.Bins

namespace DDS
namespace DStore

/-! ## `GrowthOK` -/

/-- hypothesis on the float computation `denseNewLength`: for spans below `2^33` it returns
    a length covering the span.  Proved outright in `DDS.Proofs.Growth` (`growthOK`). -/
def GrowthOK : Prop :=
  ∀ a b : Int, a ≤ b → b - a < 2^33 →
    ∃ L, DStore.denseNewLength a b = some L ∧ b - a + 1 ≤ L

/-- the hypothesis without the bound on the span: false (`not_growthOK_unbounded`) -/
def GrowthOKUnbounded : Prop :=
  ∀ a b : Int, a ≤ b → ∃ L, DStore.denseNewLength a b = some L ∧ b - a + 1 ≤ L

/-- FINDING: the float computation of `getNewLength` under-allocates for huge spans:
    for the span `[0, 2^62]` (`2^62 + 1` indexes) it returns `2^62`. -/
theorem denseNewLength_underallocates :
    DStore.denseNewLength 0 (2^62) = some (2^62) := by decide +kernel

/-- … and for astronomically large spans the float overflows: `int(+Inf)` (modelled as a
    panic; in Go the conversion is implementation-defined and the following `make` panics) -/
theorem denseNewLength_overflows : DStore.denseNewLength 0 (2^1100) = none := by decide +kernel

/-- FINDING: the unbounded hypothesis is false (a theorem assuming it would be vacuous) -/
theorem not_growthOK_unbounded : ¬ GrowthOKUnbounded := by
  intro h
  obtain ⟨L, hL, hge⟩ := h 0 (2^62) (by decide)
  rw [denseNewLength_underallocates] at hL
  cases hL
  exact absurd hge (by decide)

/-! ## `at0` and the array primitives -/

theorem at0_out (a : Array Rat) (j : Int) (h : ¬ (0 ≤ j ∧ j < a.size)) : at0 a j = 0 := if_neg h

theorem at0_neg (a : Array Rat) (j : Int) (h : j < 0) : at0 a j = 0 :=
  at0_out a j (by omega)

theorem at0_ge (a : Array Rat) (j : Int) (h : (a.size : Int) ≤ j) : at0 a j = 0 :=
  at0_out a j (by omega)

theorem at0_empty (j : Int) : at0 #[] j = 0 :=
  at0_out _ j (fun h => by have : ((#[] : Array Rat).size : Int) = 0 := rfl; omega)

theorem at0_nat (a : Array Rat) (k : Nat) : at0 a (k : Int) = a[k]?.getD 0 := by
  unfold at0
  split
  · rw [Array.getD_eq_getD_getElem?]; rfl
  · rw [getElem?_neg _ _ (by omega)]; rfl

/-- case split used for every `at0` lemma -/
theorem int_cases (j : Int) : j < 0 ∨ ∃ k : Nat, j = (k : Int) :=
  if h : j < 0 then .inl h else .inr ⟨j.toNat, by omega⟩

@[simp] theorem size_tabulate (n : Nat) (f : Int → Rat) : (tabulate n f).size = n :=
  Array.size_ofFn

theorem at0_tabulate (n : Nat) (f : Int → Rat) (j : Int) :
    at0 (tabulate n f) j = if 0 ≤ j ∧ j < n then f j else 0 := by
  rcases int_cases j with h | ⟨k, rfl⟩
  · rw [at0_neg _ _ h, if_neg (by omega)]
  · rw [at0_nat]
    by_cases hk : k < n
    · rw [if_pos (by omega)]; simp [tabulate, hk]
    · rw [if_neg (by omega)]; simp [tabulate, hk]

theorem at0_setIfInBounds (a : Array Rat) (k : Nat) (v : Rat) (j : Int) :
    at0 (a.setIfInBounds k v) j = if j = (k : Int) ∧ k < a.size then v else at0 a j := by
  rcases int_cases j with h | ⟨m, rfl⟩
  · rw [at0_neg _ _ h, at0_neg _ _ h, if_neg (by omega)]
  · rw [at0_nat, at0_nat, Array.getElem?_setIfInBounds]
    by_cases hk : k = m
    · subst hk
      by_cases h2 : k < a.size <;> simp [h2]
    · rw [if_neg hk, if_neg (by omega)]

theorem at0_append_replicate (a : Array Rat) (k : Nat) (j : Int) :
    at0 (a ++ Array.replicate k 0) j = at0 a j := by
  rcases int_cases j with h | ⟨m, rfl⟩
  · rw [at0_neg _ _ h, at0_neg _ _ h]
  · rw [at0_nat, at0_nat, Array.getElem?_append]
    split
    · rfl
    · rw [Array.getElem?_replicate, getElem?_neg a m (by omega)]
      split <;> rfl

theorem at0_replicate_zero (n : Nat) (j : Int) : at0 (Array.replicate n (0 : Rat)) j = 0 := by
  have := at0_append_replicate #[] n j
  simp only [Array.empty_append] at this
  rw [this, at0_empty]

theorem rd_eq (a : Array Rat) (i : Int) (h : 0 ≤ i ∧ i < a.size) : rd a i = some (at0 a i) := by
  rw [rd, at0, if_pos h, if_pos h]

theorem rd_none (a : Array Rat) (i : Int) (h : ¬ (0 ≤ i ∧ i < a.size)) : rd a i = none := if_neg h

theorem at0_set (a : Array Rat) (i : Int) (v : Rat) (h : 0 ≤ i ∧ i < a.size) (j : Int) :
    at0 (a.setIfInBounds i.toNat v) j = if j = i then v else at0 a j := by
  rw [at0_setIfInBounds]
  exact ite_iff (by omega) _ _

theorem setAt_eq (a : Array Rat) (i : Int) (v : Rat) (h : 0 ≤ i ∧ i < a.size) :
    ∃ b, setAt a i v = some b ∧ b.size = a.size ∧
      ∀ j, at0 b j = if j = i then v else at0 a j :=
  ⟨_, if_pos h, Array.size_setIfInBounds, at0_set a i v h⟩

theorem addAt_eq (a : Array Rat) (i : Int) (v : Rat) (h : 0 ≤ i ∧ i < a.size) :
    ∃ b, addAt a i v = some b ∧ b.size = a.size ∧
      ∀ j, at0 b j = at0 a j + if j = i then v else 0 := by
  refine ⟨_, if_pos h, Array.size_setIfInBounds, fun j => ?_⟩
  rw [at0_set a i _ h]
  split
  · subst j; rw [at0, if_pos h]
  · rw [Rat.add_zero]

theorem addAt_none (a : Array Rat) (i : Int) (v : Rat) (h : ¬ (0 ≤ i ∧ i < a.size)) :
    addAt a i v = none := if_neg h

/-! ## finite sums over integer windows -/

/-- `Σ_{k<n} f (lo + k)` -/
def rsum (f : Int → Rat) (lo : Int) : Nat → Rat
  | 0 => 0
  | n+1 => rsum f lo n + f (lo + n)

theorem rsum_congr {f g : Int → Rat} (lo : Int) (n : Nat)
    (h : ∀ j, lo ≤ j → j < lo + n → f j = g j) : rsum f lo n = rsum g lo n := by
  induction n with
  | zero => rfl
  | succ n ih =>
    rw [rsum, rsum, ih (fun j h1 h2 => h j h1 (by omega)), h (lo + n) (by omega) (by omega)]

theorem rsum_zero {f : Int → Rat} (lo : Int) (n : Nat)
    (h : ∀ j, lo ≤ j → j < lo + n → f j = 0) : rsum f lo n = 0 := by
  induction n with
  | zero => rfl
  | succ n ih =>
    rw [rsum, ih (fun j h1 h2 => h j h1 (by omega)), h (lo + n) (by omega) (by omega), Rat.add_zero]

theorem rsum_append (f : Int → Rat) (lo : Int) (m n : Nat) :
    rsum f lo (m + n) = rsum f lo m + rsum f (lo + m) n := by
  induction n with
  | zero => exact (Rat.add_zero _).symm
  | succ n ih =>
    rw [← Nat.add_assoc, rsum, rsum, ih, Rat.add_assoc, Int.natCast_add, Int.add_assoc]

theorem rsum_succ_left (f : Int → Rat) (lo : Int) (n : Nat) :
    rsum f lo (n + 1) = f lo + rsum f (lo + 1) n := by
  rw [Nat.add_comm, rsum_append]
  simp only [rsum, Int.natCast_zero, Int.add_zero, Int.natCast_one, Rat.zero_add]

theorem rsum_shift (f : Int → Rat) (d lo : Int) (n : Nat) :
    rsum (fun j => f (j + d)) lo n = rsum f (lo + d) n := by
  induction n with
  | zero => rfl
  | succ n ih => rw [rsum, rsum, ih, Int.add_right_comm]

theorem rsum_add (f g : Int → Rat) (lo : Int) (n : Nat) :
    rsum (fun j => f j + g j) lo n = rsum f lo n + rsum g lo n := by
  induction n with
  | zero => exact (Rat.add_zero _).symm
  | succ n ih =>
    simp only [rsum, ih]
    rw [Rat.add_assoc, Rat.add_assoc, Rat.add_left_comm (rsum g lo n)]

theorem rsum_mul (f : Int → Rat) (w : Rat) (lo : Int) (n : Nat) :
    rsum (fun j => f j * w) lo n = rsum f lo n * w := by
  induction n with
  | zero => exact (Rat.zero_mul _).symm
  | succ n ih => simp only [rsum, ih, Rat.add_mul]

theorem rsum_nonneg {f : Int → Rat} (lo : Int) (n : Nat) (h : ∀ j, 0 ≤ f j) :
    0 ≤ rsum f lo n := by
  induction n with
  | zero => exact Rat.le_refl
  | succ n ih => exact Rat.add_nonneg ih (h _)

theorem rsum_point (i : Int) (w : Rat) (lo : Int) (n : Nat) :
    rsum (fun j => if j = i then w else 0) lo n = if lo ≤ i ∧ i < lo + n then w else 0 := by
  induction n with
  | zero => exact (if_neg (by omega)).symm
  | succ n ih =>
    simp only [rsum, ih]
    by_cases h1 : lo + (n : Int) = i
    · rw [if_neg (by omega), if_pos h1, if_pos (by omega), Rat.zero_add]
    · rw [if_neg h1, Rat.add_zero]
      exact ite_iff (by omega) _ _

theorem rsum_pos {f : Int → Rat} (lo : Int) (n : Nat) (h : ∀ j, 0 ≤ f j)
    (i : Int) (hi : lo ≤ i ∧ i < lo + n) (hp : 0 < f i) : 0 < rsum f lo n := by
  induction n with
  | zero => omega
  | succ n ih =>
    by_cases h1 : lo + (n : Int) = i
    · exact rat_add_pos_right (rsum_nonneg lo n h) (h1 ▸ hp)
    · exact rat_add_pos_left (ih (by omega)) (h _)

theorem rsum_widen {f : Int → Rat} (lo : Int) (n : Nat) (lo' : Int) (n' : Nat)
    (hsupp : ∀ j, j < lo ∨ lo + n ≤ j → f j = 0) (h1 : lo' ≤ lo) (h2 : lo + n ≤ lo' + n') :
    rsum f lo' n' = rsum f lo n := by
  obtain ⟨a, rfl⟩ : ∃ a : Nat, lo = lo' + a := ⟨(lo - lo').toNat, by omega⟩
  obtain ⟨c, rfl⟩ : ∃ c : Nat, n' = a + n + c := ⟨n' - (a + n), by omega⟩
  rw [rsum_append, rsum_append, rsum_zero lo' a (fun j h1 h2 => hsupp j (by omega)),
    rsum_zero _ c (fun j h1 h2 => hsupp j (by omega)), Rat.zero_add, Rat.add_zero]

theorem list_sum_rsum (l : List Rat) (f : Int → Rat) (lo : Int)
    (h : ∀ k : Nat, k < l.length → f (lo + k) = l[k]?.getD 0) : l.sum = rsum f lo l.length := by
  induction l generalizing lo with
  | nil => rfl
  | cons x l ih =>
    have h0 : f (lo + (0 : Nat)) = x := h 0 (Nat.zero_lt_succ _)
    rw [Int.natCast_zero, Int.add_zero] at h0
    rw [List.length_cons, rsum_succ_left, List.sum_cons, h0, ih (lo + 1)]
    intro k hk
    rw [Int.add_assoc, Int.add_comm 1]
    exact h (k + 1) (Nat.succ_lt_succ hk)

theorem sum_eq_rsum (a : Array Rat) (off : Int) :
    a.toList.sum = rsum (fun j => at0 a (j - off)) off a.size := by
  rw [← Array.length_toList]
  refine list_sum_rsum _ _ _ (fun k _ => ?_)
  rw [show off + (k : Int) - off = k by omega, at0_nat, Array.getElem?_toList]

theorem exists_cover (o₁ o₂ : Int) (n₁ n₂ : Nat) :
    ∃ (lo : Int) (n : Nat), (lo ≤ o₁ ∧ o₁ + n₁ ≤ lo + n) ∧ (lo ≤ o₂ ∧ o₂ + n₂ ≤ lo + n) :=
  ⟨o₁ - (o₁ - o₂).toNat, (o₁ - o₂).toNat + (o₂ - o₁).toNat + n₁ + n₂, by omega⟩

theorem sum_eq_window (a : Array Rat) (off lo : Int) (n : Nat)
    (hsupp : ∀ j, j < lo ∨ lo + n ≤ j → at0 a (j - off) = 0) :
    a.toList.sum = rsum (fun j => at0 a (j - off)) lo n := by
  obtain ⟨L, N, h1, h2⟩ := exists_cover off lo a.size n
  rw [sum_eq_rsum a off, ← rsum_widen off a.size L N (fun j hj => at0_out _ _ (by omega)) h1.1 h1.2]
  exact rsum_widen lo n L N hsupp h2.1 h2.2

theorem sum_eq_cover (a : Array Rat) (off lo : Int) (n : Nat) (h : lo ≤ off ∧ off + a.size ≤ lo + n) :
    a.toList.sum = rsum (fun j => at0 a (j - off)) lo n :=
  sum_eq_window a off lo n (fun j hj => at0_out _ _ (by omega))

theorem sum_eq_of_wt (a b : Array Rat) (oa ob : Int)
    (h : ∀ j, at0 b (j - ob) = at0 a (j - oa)) : b.toList.sum = a.toList.sum := by
  obtain ⟨lo, n, h1, h2⟩ := exists_cover oa ob a.size b.size
  rw [sum_eq_cover a oa lo n h1, sum_eq_cover b ob lo n h2]
  exact rsum_congr lo n (fun j _ _ => h j)

theorem sum_mul_of_wt (a c : Array Rat) (oa oc : Int) (w : Rat)
    (h : ∀ j, at0 c (j - oc) = at0 a (j - oa) * w) :
    c.toList.sum = a.toList.sum * w := by
  obtain ⟨lo, n, h1, h2⟩ := exists_cover oa oc a.size c.size
  rw [sum_eq_cover a oa lo n h1, sum_eq_cover c oc lo n h2, ← rsum_mul]
  exact rsum_congr lo n (fun j _ _ => h j)

theorem sum_point (a b : Array Rat) (i : Int) (w : Rat) (hi : 0 ≤ i ∧ i < a.size)
    (hsz : b.size = a.size) (h : ∀ j, at0 b j = at0 a j + if j = i then w else 0) :
    b.toList.sum = a.toList.sum + w := by
  rw [sum_eq_rsum a 0, sum_eq_rsum b 0, hsz,
    rsum_congr (g := fun j => at0 a (j - 0) + (if j = i then w else 0)) 0 a.size
      (fun j _ _ => by rw [Int.sub_zero]; exact h j),
    rsum_add (fun j => at0 a (j - 0)), rsum_point, if_pos (by omega)]

theorem sum_nonneg_of (a : Array Rat) (h : ∀ j, 0 ≤ at0 a j) : 0 ≤ a.toList.sum := by
  rw [sum_eq_rsum a 0]
  exact rsum_nonneg _ _ (fun j => h _)

theorem sum_pos_of (a : Array Rat) (h : ∀ j, 0 ≤ at0 a j) (i : Int) (hp : 0 < at0 a i) :
    0 < a.toList.sum := by
  rw [sum_eq_rsum a 0]
  have hi : 0 ≤ i ∧ i < a.size := Classical.byContradiction fun hc =>
    Rat.lt_irrefl (at0_out a i hc ▸ hp)
  exact rsum_pos 0 a.size (fun j => h _) i (by omega) (by rwa [Int.sub_zero])

theorem all_zero_of_sum_zero (a : Array Rat) (h : ∀ j, 0 ≤ at0 a j) (hs : a.toList.sum = 0) :
    ∀ j, at0 a j = 0 := fun j =>
  Classical.byContradiction fun hne =>
    Rat.lt_irrefl (hs ▸ sum_pos_of a h j (Rat.lt_of_le_of_ne (h j) (Ne.symm hne)))

theorem wsum_eq_rsum (P : Int → Bool) (c : Content) (lo : Int) (n : Nat)
    (hk : ∀ p ∈ c, lo ≤ p.1 ∧ p.1 < lo + n) :
    Content.wsum P c = rsum (fun k => if P k then c.lookup k else 0) lo n := by
  induction c with
  | nil => exact (rsum_zero lo n fun k _ _ => ite_self _).symm
  | cons p rest ih =>
    rw [List.forall_mem_cons] at hk
    have hpt := rsum_point p.1 (if P p.1 then p.2 else 0) lo n
    rw [if_pos hk.1] at hpt
    rw [Content.wsum_cons, ih hk.2, ← hpt, ← rsum_add]
    refine rsum_congr lo n fun k _ _ => ?_
    rw [Content.lookup_cons]
    by_cases hP : P k = true
    · rw [if_pos hP, if_pos hP]
      by_cases hpk : k = p.1
      · rw [if_pos hpk, if_pos hpk.symm, ← hpk, if_pos hP]
      · rw [if_neg hpk, if_neg (Ne.symm hpk)]
    · rw [if_neg hP, if_neg hP, Rat.add_zero]
      split
      · subst_vars; exact if_neg hP
      · rfl

/-! ## the weights `wt`, the window, and what the three invariants share (`Core`) -/

/-- the weight held at index `i` -/
def wt (s : DStore) (i : Int) : Rat := at0 s.bins (i - s.offset)

theorem at0_eq_wt (s : DStore) (p : Int) : at0 s.bins p = wt s (p + s.offset) := by
  rw [wt, Int.add_sub_cancel]

theorem nonneg_of_wt (s : DStore) (h : ∀ j, 0 ≤ wt s j) : ∀ p, 0 ≤ at0 s.bins p :=
  fun p => at0_eq_wt s p ▸ h _

/-- "zero outside the window `[minIndex, maxIndex]`" -/
def ZeroOut (s : DStore) : Prop := ∀ i, (i < s.minIndex ∨ s.maxIndex < i) → wt s i = 0

/-- all the weight sits on indexes representable as int32 -/
def Bounded32 (s : DStore) : Prop := ∀ j, wt s j ≠ 0 → minInt32 ≤ j ∧ j ≤ maxInt32

/-- the window the store would have to cover after absorbing the indexes `[a, b]` spans
    fewer than `2^33` indexes: what `GrowthOK` needs.  Automatic when all indexes are int32
    (`Core.spanOK`); false e.g. for a store holding index `0` asked to absorb `2^62`
    (`addWithCount_far_panics`). -/
def SpanOK (s : DStore) (a b : Int) : Prop := max b s.maxIndex - min a s.minIndex < 2^33

/-- both ends of the window carry weight and lie in the int32 range (the sentinels
    `MaxInt32`/`MinInt32` of the empty store make this false for arbitrary `Int` indexes,
    exactly as for the plain store) -/
def Tight32 (s : DStore) : Prop :=
  s.count ≠ 0 → 0 < wt s s.minIndex ∧ 0 < wt s s.maxIndex ∧ minInt32 ≤ s.minIndex ∧ s.maxIndex ≤ maxInt32

/-- What the invariants of the three kinds (`Inv`, `InvLow N`, `InvHigh N`) share: non-negative
    weights summing to `count`, all of them inside the window, the window inside the array; the
    empty store has no array and the sentinel window.  Content and observers need no more
    (`Core.content_spec`, `Core.refines` in `DDS.Proofs.Refine`). -/
structure Core (s : DStore) : Prop where
  nonneg  : ∀ j, 0 ≤ at0 s.bins j
  countEq : s.count = s.bins.toList.sum
  empty   : s.count = 0 → s.bins.size = 0 ∧ s.minIndex = maxInt32 ∧ s.maxIndex = minInt32
  window  : s.count ≠ 0 → s.offset ≤ s.minIndex ∧ s.minIndex ≤ s.maxIndex ∧
              s.maxIndex < s.offset + s.len
  outside : ∀ i, (i < s.minIndex ∨ s.maxIndex < i) → wt s i = 0

/-- a store without array, with zero count and the sentinel window (`new`, `clear`) -/
theorem core_of_no_bins {s : DStore} (hb : s.bins = #[]) (hc : s.count = 0)
    (hmn : s.minIndex = maxInt32) (hmx : s.maxIndex = minInt32) : Core s where
  nonneg := fun j => hb ▸ (at0_empty j).symm ▸ Rat.le_refl
  countEq := by rw [hc, hb]; rfl
  empty := fun _ => ⟨by rw [hb]; rfl, hmn, hmx⟩
  window := fun h => absurd hc h
  outside := fun _ _ => by unfold wt; rw [hb]; exact at0_empty _

namespace Core
variable {s : DStore} (h : Core s)
include h

theorem count_nonneg : 0 ≤ s.count := h.countEq ▸ sum_nonneg_of _ h.nonneg

theorem wt_nonneg (j : Int) : 0 ≤ wt s j := h.nonneg _

theorem wt_zero_of_empty (h0 : s.count = 0) (j : Int) : wt s j = 0 :=
  at0_out _ _ (by have := (h.empty h0).1; omega)

theorem count_zero_iff : s.count = 0 ↔ ∀ j, wt s j = 0 :=
  ⟨h.wt_zero_of_empty, fun hz => by
    rw [h.countEq, sum_eq_rsum s.bins s.offset]
    exact rsum_zero _ _ (fun j _ _ => hz j)⟩

theorem pos_of_only (h0 : s.count ≠ 0) (k : Int) (hk : ∀ j, wt s j ≠ 0 → j = k) : 0 < wt s k :=
  Rat.lt_of_le_of_ne (h.wt_nonneg k) fun hz =>
    h0 (h.count_zero_iff.2 fun j => Classical.byContradiction fun hj => hj (hk j hj ▸ hz.symm))

/-- a non-empty window means a non-empty store: the empty one carries the sentinels -/
theorem count_ne_zero (hw : s.minIndex ≤ s.maxIndex) : s.count ≠ 0 := fun h0 => by
  obtain ⟨_, h1, h2⟩ := h.empty h0
  rw [h1, h2] at hw
  exact absurd hw (by decide)

theorem window_in (idx : Int) (h1 : s.minIndex ≤ idx)
    (h2 : idx < s.minIndex + ((s.maxIndex - s.minIndex + 1).toNat : Int)) :
    0 ≤ idx - s.offset ∧ idx - s.offset < s.bins.size := by
  obtain ⟨w1, _, w3⟩ := h.window (h.count_ne_zero (by omega))
  unfold len at w3
  omega

theorem span_le {N : Nat} (hl : s.bins.size ≤ N) (h0 : s.count ≠ 0) :
    s.maxIndex - s.minIndex + 1 ≤ N := by
  obtain ⟨w1, w2, w3⟩ := h.window h0
  unfold len at w3
  omega

/-! with tight int32 window bounds -/

variable (ht : Tight32 s)
include ht

/-- the window bounds are int32 (sentinels of the empty store included) -/
theorem window32 :
    (minInt32 ≤ s.minIndex ∧ s.minIndex ≤ maxInt32) ∧ (minInt32 ≤ s.maxIndex ∧ s.maxIndex ≤ maxInt32) := by
  by_cases h0 : s.count = 0
  · obtain ⟨_, h1, h2⟩ := h.empty h0
    rw [h1, h2]; simp only [maxInt32, minInt32]; omega
  · obtain ⟨_, _, t3, t4⟩ := ht h0
    have := (h.window h0).2.1
    omega

/-- int32 indexes never need a span of `2^33` or more -/
theorem spanOK (a b : Int) (ha : minInt32 ≤ a ∧ a ≤ maxInt32) (hb : minInt32 ≤ b ∧ b ≤ maxInt32) :
    SpanOK s a b := by
  obtain ⟨⟨w1, w2⟩, w3, w4⟩ := h.window32 ht
  unfold SpanOK
  simp only [maxInt32, minInt32] at *
  omega

/-- adding a weight function that is positive at `k` makes the lower end `min k minIndex` of the
    new window carry weight: either `k` is that end, or the store is non-empty (its sentinel
    `minIndex = MaxInt32` is not below an int32 `k`) and tight -/
theorem pos_min (g : Int → Rat) (hg : ∀ j, 0 ≤ g j) (k : Int) (hk : 0 < g k) (hk32 : k ≤ maxInt32) :
    0 < wt s (min k s.minIndex) + g (min k s.minIndex) := by
  by_cases hle : k ≤ s.minIndex
  · rw [Int.min_eq_left hle]
    exact rat_add_pos_right (h.wt_nonneg k) hk
  · rw [Int.min_eq_right (by omega)]
    have h0 : s.count ≠ 0 := fun h0 => by have := (h.empty h0).2.1; omega
    exact rat_add_pos_left (ht h0).1 (hg _)

theorem pos_max (g : Int → Rat) (hg : ∀ j, 0 ≤ g j) (k : Int) (hk : 0 < g k) (hk32 : minInt32 ≤ k) :
    0 < wt s (max k s.maxIndex) + g (max k s.maxIndex) := by
  by_cases hle : s.maxIndex ≤ k
  · rw [Int.max_eq_left hle]
    exact rat_add_pos_right (h.wt_nonneg k) hk
  · rw [Int.max_eq_right (by omega)]
    have h0 : s.count ≠ 0 := fun h0 => by have := (h.empty h0).2.2; omega
    exact rat_add_pos_left (ht h0).2.1 (hg _)

theorem bounded32 : Bounded32 s := fun j hj => by
  have := (ht fun h0 => hj (h.wt_zero_of_empty h0 j)).2.2
  have : ¬ (j < s.minIndex ∨ s.maxIndex < j) := fun hc => hj (h.outside j hc)
  omega

end Core

theorem core_new (k : DKind) : Core (DStore.new k) := core_of_no_bins rfl rfl rfl rfl

theorem core_clear (s : DStore) : Core s.clear := core_of_no_bins rfl rfl rfl rfl

theorem tight32_new (k : DKind) : Tight32 (DStore.new k) := fun h => absurd rfl h

theorem tight32_clear (s : DStore) : Tight32 s.clear := fun h => absurd rfl h

/-! ## `resetBins`, `shiftCounts`, `centerCounts` -/

theorem resetBins_spec (s : DStore) (a b : Int)
    (h : b < a ∨ (s.offset ≤ a ∧ b < s.offset + s.len)) :
    ∃ nb, s.resetBins a b = some { s with bins := nb } ∧ nb.size = s.bins.size ∧
      ∀ j, at0 nb (j - s.offset) = if a ≤ j ∧ j ≤ b then 0 else wt s j := by
  simp only [resetBins]
  by_cases hba : b < a
  · exact ⟨s.bins, if_pos (by omega), rfl, fun j => (if_neg (by omega)).symm⟩
  · have h' : s.offset ≤ a ∧ b < s.offset + s.bins.size := h.resolve_left hba
    refine ⟨_, by rw [if_neg (by omega), if_pos (by unfold len; omega)], size_tabulate _ _, fun j => ?_⟩
    rw [at0_tabulate]
    by_cases hj : a ≤ j ∧ j ≤ b
    · rw [if_pos hj, if_pos (by omega), if_pos (by omega)]
    · rw [if_neg hj]
      split
      · exact if_neg (by omega)
      · exact (at0_out _ _ ‹_›).symm

theorem resetBins_none (s : DStore) (a b : Int) (hab : a ≤ b)
    (h : ¬ (s.offset ≤ a ∧ b < s.offset + s.len)) : s.resetBins a b = none := by
  simp only [resetBins]
  rw [if_neg (by omega), if_neg (by omega)]

theorem resetBins_isSome_iff (s : DStore) (a b : Int) :
    (s.resetBins a b).isSome ↔ (b < a ∨ (s.offset ≤ a ∧ b < s.offset + s.len)) := by
  constructor
  · intro h
    apply Classical.byContradiction
    intro hc
    rw [resetBins_none s a b (by omega) (by omega)] at h
    exact absurd h (by decide)
  · intro h
    obtain ⟨nb, h1, _⟩ := resetBins_spec s a b h
    rw [h1]; rfl

/-- the `memmove` of `shiftCounts`: the `n = hi + 1 - lo` entries from `lo` on are copied `d`
    places up -/
theorem at0_move (a : Array Rat) (lo hi d n : Int) (hn : n = hi + 1 - lo) (h1 : 0 ≤ lo + d)
    (h2 : hi + d < a.size) (p : Int) :
    at0 (tabulate a.size fun j => if lo + d ≤ j ∧ j < lo + d + n then at0 a (j - d) else at0 a j) p
      = if lo + d ≤ p ∧ p ≤ hi + d then at0 a (p - d) else at0 a p := by
  rw [at0_tabulate]
  by_cases hp : lo + d ≤ p ∧ p ≤ hi + d
  · rw [if_pos (by omega), if_pos (by omega), if_pos hp]
  · rw [if_neg hp]
    split
    · exact if_neg (by omega)
    · exact (at0_out _ _ ‹_›).symm

/-- after the move by `d` and the reset of the positions `R`, position `p` holds what position
    `p - d` held: the reset spares the moved window and covers what else remains of the old one -/
theorem shift_fun (f : Int → Rat) (lo hi d p : Int) (R : Prop) [Decidable R]
    (hf : ∀ q, q < lo ∨ hi < q → f q = 0)
    (hdis : R → ¬ (lo + d ≤ p ∧ p ≤ hi + d))
    (hcov : lo ≤ p ∧ p ≤ hi → R ∨ (lo + d ≤ p ∧ p ≤ hi + d)) :
    (if R then 0 else if lo + d ≤ p ∧ p ≤ hi + d then f (p - d) else f p) = f (p - d) := by
  by_cases hq : lo + d ≤ p ∧ p ≤ hi + d
  · rw [if_neg fun hR => hdis hR hq, if_pos hq]
  · rw [hf (p - d) (by omega)]
    by_cases hR : R
    · rw [if_pos hR]
    · rw [if_neg hR, if_neg hq]
      exact hf p (by have := mt hcov (not_or.2 ⟨hR, hq⟩); omega)

theorem shiftCounts_spec (s : DStore) (shift : Int) (hz : ZeroOut s)
    (hmm : s.minIndex ≤ s.maxIndex) (hlo : s.offset ≤ s.minIndex)
    (hhi : s.maxIndex < s.offset + s.len)
    (h1 : 0 ≤ s.minIndex - s.offset + shift) (h2 : s.maxIndex - s.offset + shift < s.len) :
    ∃ nb, s.shiftCounts shift = some { s with bins := nb, offset := s.offset - shift } ∧
      nb.size = s.bins.size ∧ ∀ j, at0 nb (j - (s.offset - shift)) = wt s j := by
  have hlen : s.len = (s.bins.size : Int) := rfl
  have hz' : ∀ q, q < s.minIndex - s.offset ∨ s.maxIndex - s.offset < q → at0 s.bins q = 0 :=
    fun q hq => by
      have := hz (q + s.offset) (by omega)
      rwa [wt, Int.add_sub_cancel] at this
  simp only [shiftCounts]
  rw [if_neg (by omega)]
  -- `mb`: the array after the memmove; what remains is the reset of the vacated range `[a, b]`
  generalize hmb : tabulate s.bins.size _ = mb
  have hsz : mb.size = s.bins.size := by rw [← hmb]; exact size_tabulate _ _
  have hfin : ∀ a b, (b < a ∨ (s.offset ≤ a ∧ b < s.offset + s.len)) →
      (∀ j, a ≤ j ∧ j ≤ b → ¬ (s.minIndex + shift ≤ j ∧ j ≤ s.maxIndex + shift)) →
      (∀ j, s.minIndex ≤ j ∧ j ≤ s.maxIndex →
        (a ≤ j ∧ j ≤ b) ∨ (s.minIndex + shift ≤ j ∧ j ≤ s.maxIndex + shift)) →
      ∃ nb, Option.map (fun t : DStore => { t with offset := t.offset - shift })
          (resetBins { s with bins := mb } a b) = some { s with bins := nb, offset := s.offset - shift } ∧
        nb.size = s.bins.size ∧ ∀ j, at0 nb (j - (s.offset - shift)) = wt s j := by
    intro a b hab hdis hcov
    obtain ⟨nb, hr1, hsz1, hw⟩ := resetBins_spec { s with bins := mb } a b
      (by unfold len; rw [hsz]; exact hab)
    refine ⟨nb, by rw [hr1]; rfl, hsz1.trans hsz, fun j => ?_⟩
    rw [show j - (s.offset - shift) = j + shift - s.offset by omega]
    refine (hw (j + shift)).trans ?_
    show (if _ then 0 else at0 mb (j + shift - s.offset)) = at0 s.bins (j - s.offset)
    rw [← hmb, at0_move s.bins _ (s.maxIndex - s.offset) shift _ (by omega) h1 (by omega),
      show j - s.offset = j + shift - s.offset - shift by omega]
    exact shift_fun _ _ _ _ _ _ hz' (fun hR hq => hdis _ hR (by omega))
      fun hp => (hcov (j + shift) (by omega)).imp_right (by omega)
  by_cases hs : shift > 0
  · rw [if_pos hs]
    exact hfin _ _ (by omega) (fun j => by omega) (fun j => by omega)
  · rw [if_neg hs]
    exact hfin _ _ (by omega) (fun j => by omega) (fun j => by omega)

/-- `centerCounts` re-centres the array on the middle of `[newMin, newMax]`; it succeeds as soon as
    the OLD window still fits after the shift -/
theorem centerCounts_eq (s : DStore) (newMin newMax off' : Int) (hz : ZeroOut s)
    (hmm : s.minIndex ≤ s.maxIndex) (hlo : s.offset ≤ s.minIndex)
    (hhi : s.maxIndex < s.offset + s.len) (hd : 0 ≤ newMax - newMin + 1)
    (hoff : off' = newMin + (newMax - newMin + 1) / 2 - s.len / 2)
    (h1 : off' ≤ s.minIndex) (h2 : s.maxIndex < off' + s.len) :
    ∃ nb, s.centerCounts newMin newMax =
        some { s with bins := nb, offset := off', minIndex := newMin, maxIndex := newMax } ∧
      nb.size = s.bins.size ∧ ∀ j, at0 nb (j - off') = wt s j := by
  have hl : 0 ≤ s.len := Int.natCast_nonneg _
  obtain ⟨nb, hsc, hsz, hw⟩ := shiftCounts_spec s (s.offset - off') hz hmm hlo hhi (by omega) (by omega)
  rw [Int.sub_sub_self] at hsc hw
  refine ⟨nb, ?_, hsz, hw⟩
  simp only [centerCounts]
  rw [Int.tdiv_eq_ediv_of_nonneg hd, Int.tdiv_eq_ediv_of_nonneg hl,
    show s.offset + s.len / 2 - (newMin + (newMax - newMin + 1) / 2) = s.offset - off' by omega, hsc]
  rfl

theorem centerCounts_spec (s : DStore) (newMin newMax : Int) (hz : ZeroOut s)
    (hmm : s.minIndex ≤ s.maxIndex) (hlo : s.offset ≤ s.minIndex)
    (hhi : s.maxIndex < s.offset + s.len)
    (hfit : newMax - newMin + 1 ≤ s.len) (hsub : newMin ≤ s.minIndex ∧ s.maxIndex ≤ newMax) :
    ∃ nb off', s.centerCounts newMin newMax =
        some { s with bins := nb, offset := off', minIndex := newMin, maxIndex := newMax } ∧
      nb.size = s.bins.size ∧ off' ≤ newMin ∧ newMax < off' + s.len ∧
      ∀ j, at0 nb (j - off') = wt s j := by
  obtain ⟨off', hoff⟩ : ∃ o, o = newMin + (newMax - newMin + 1) / 2 - s.len / 2 := ⟨_, rfl⟩
  have ho : off' ≤ newMin ∧ newMax < off' + s.len := by omega
  obtain ⟨nb, h, hsz, hw⟩ := centerCounts_eq s newMin newMax off' hz hmm hlo hhi (by omega) hoff
    (by omega) (by omega)
  exact ⟨nb, off', h, hsz, ho.1, ho.2, hw⟩

/-! ## what `extendRange` hands to `adjust` -/

theorem grow_spec (s : DStore) (k : Int) (hk : 0 ≤ k) :
    s.grow k = some { s with bins := s.bins ++ Array.replicate k.toNat 0 } := if_neg (by omega)

theorem size_grow (b : Array Rat) (k : Int) (hk : 0 ≤ k) :
    ((b ++ Array.replicate k.toNat (0 : Rat)).size : Int) = b.size + k := by
  rw [Array.size_append, Array.size_replicate, Int.natCast_add, Int.toNat_of_nonneg hk]

/-- What `extendRange` hands to `adjust`, for every kind: `t` holds the weights and the count of
    `s`; its window holds all of them and lies in its array, of length `K`.  `t` is `s`
    (`Handed.self`), `s` with a longer array (`Handed.grown`) or, for an empty `s`, the freshly
    allocated array placed at the new window (`Handed.fresh`). -/
structure Handed (s t : DStore) (K : Int) : Prop where
  count : t.count = s.count
  wtEq  : ∀ j, wt t j = wt s j
  zero  : ∀ j, (j < t.minIndex ∨ t.maxIndex < j) → wt s j = 0
  mm    : t.minIndex ≤ t.maxIndex
  lo    : t.offset ≤ t.minIndex
  len   : t.len = K
  hi    : t.maxIndex < t.offset + K

theorem Handed.zeroOut {s t : DStore} {K : Int} (x : Handed s t K) : ZeroOut t :=
  fun j hj => (x.wtEq j).trans (x.zero j hj)

theorem Handed.countEq {s t : DStore} {K : Int} (x : Handed s t K) (h : Core s) :
    t.count = t.bins.toList.sum := by
  rw [x.count, h.countEq, sum_eq_of_wt s.bins t.bins s.offset t.offset x.wtEq]

theorem Handed.self {s : DStore} (h : Core s) (h0 : s.count ≠ 0) : Handed s s s.len :=
  let ⟨w1, w2, w3⟩ := h.window h0
  ⟨rfl, fun _ => rfl, h.outside, w2, w1, rfl, w3⟩

theorem Handed.grown {s : DStore} (h : Core s) (h0 : s.count ≠ 0) {k : Int} (hk : 0 ≤ k) :
    Handed s { s with bins := s.bins ++ Array.replicate k.toNat 0 } (s.len + k) :=
  let ⟨w1, w2, w3⟩ := h.window h0
  ⟨rfl, fun _ => at0_append_replicate .., h.outside, w2, w1, size_grow s.bins k hk,
    show s.maxIndex < s.offset + (s.len + k) by omega⟩

theorem Handed.fresh {s : DStore} (h : Core s) (h0 : s.count = 0) {L : Int} (hL : 0 ≤ L)
    (k : DKind) (nm nM : Int) (c : Bool) (hle : nm ≤ nM) (hfit : nM < nm + L) :
    Handed s ⟨k, s.bins ++ Array.replicate L.toNat 0, s.count, nm, nm, nM, c⟩ L :=
  ⟨rfl, fun j => (at0_append_replicate ..).trans
      ((at0_out _ _ (by have := (h.empty h0).1; omega)).trans (h.wt_zero_of_empty h0 j).symm),
    fun j _ => h.wt_zero_of_empty h0 j, hle, Int.le_refl nm,
    (size_grow s.bins L hL).trans (by have := (h.empty h0).1; omega), hfit⟩

/-! ## `isEmpty`, `minIndex?`, `maxIndex?` by the count -/

theorem isEmpty_iff_count (s : DStore) : s.isEmpty = true ↔ s.count = 0 := by
  simp [isEmpty]

theorem isEmpty_of_count_ne {s : DStore} (h0 : s.count ≠ 0) : s.isEmpty = false :=
  Bool.eq_false_iff.2 fun he => h0 ((isEmpty_iff_count s).1 he)

theorem minIndex?_of_count_ne {s : DStore} (h0 : s.count ≠ 0) : s.minIndex? = some s.minIndex := by
  rw [minIndex?, isEmpty_of_count_ne h0]; rfl

theorem maxIndex?_of_count_ne {s : DStore} (h0 : s.count ≠ 0) : s.maxIndex? = some s.maxIndex := by
  rw [maxIndex?, isEmpty_of_count_ne h0]; rfl

theorem minIndex?_eq (s : DStore) (k : Int) (hk : s.minIndex? = some k) :
    s.count ≠ 0 ∧ k = s.minIndex := by
  by_cases h0 : s.count = 0
  · rw [minIndex?, (isEmpty_iff_count s).2 h0] at hk; cases hk
  · exact ⟨h0, Option.some.inj ((minIndex?_of_count_ne h0 ▸ hk).symm)⟩

theorem maxIndex?_eq (s : DStore) (k : Int) (hk : s.maxIndex? = some k) :
    s.count ≠ 0 ∧ k = s.maxIndex := by
  by_cases h0 : s.count = 0
  · rw [maxIndex?, (isEmpty_iff_count s).2 h0] at hk; cases hk
  · exact ⟨h0, Option.some.inj ((maxIndex?_of_count_ne h0 ▸ hk).symm)⟩

/-! ## loops over `idxRange` -/

def irange (lo : Int) (n : Nat) : List Int := (List.range n).map (fun (k : Nat) => lo + (k : Int))

theorem idxRange_eq (lo hi : Int) : idxRange lo hi = irange lo (hi - lo + 1).toNat := rfl

theorem irange_zero (lo : Int) : irange lo 0 = [] := rfl

theorem irange_succ_left (lo : Int) (n : Nat) : irange lo (n + 1) = lo :: irange (lo + 1) n := by
  simp only [irange, List.range_succ_eq_map, List.map_cons, List.map_map]
  congr 1
  · simp
  · apply List.map_congr_left
    intro k _
    simp only [Function.comp]
    omega

theorem irange_succ_right (lo : Int) (n : Nat) : irange lo (n + 1) = irange lo n ++ [lo + n] := by
  simp [irange, List.range_succ]

/-! ## `binsList` -/

theorem bins_loop (a : Array Rat) (off : Int) (n : Nat) (lo : Int)
    (hin : ∀ idx, lo ≤ idx → idx < lo + n → 0 ≤ idx - off ∧ idx - off < a.size) :
    ∃ l, (irange lo n).foldrM (fun idx acc => do
            let c ← rd a (idx - off)
            pure (if c > 0 then (idx, c) :: acc else acc)) [] = some l ∧
      (∀ p : Int × Rat, p ∈ l ↔ (lo ≤ p.1 ∧ p.1 < lo + n ∧ 0 < p.2 ∧ p.2 = at0 a (p.1 - off))) ∧
      l.Pairwise (fun x y => x.1 < y.1) := by
  induction n generalizing lo with
  | zero => exact ⟨[], rfl, fun p => ⟨fun h => (nomatch h), fun h => absurd h.2.1 (by omega)⟩, List.Pairwise.nil⟩
  | succ n ih =>
    obtain ⟨l, hl, hmem, hpw⟩ := ih (lo + 1) (fun idx h1 h2 => hin idx (by omega) (by omega))
    rw [irange_succ_left, List.foldrM_cons, hl]
    simp only [Option.bind_eq_bind, Option.bind_some, rd_eq a (lo - off) (hin lo (by omega) (by omega)),
      Option.pure_def]
    by_cases hpos : at0 a (lo - off) > 0
    · rw [if_pos hpos]
      refine ⟨_, rfl, fun p => ?_, List.pairwise_cons.2 ⟨fun p hp => ?_, hpw⟩⟩
      · rw [List.mem_cons, hmem]
        constructor
        · rintro (rfl | ⟨h1, h2, h3⟩)
          · exact ⟨Int.le_refl _, by show lo < _; omega, hpos, rfl⟩
          · exact ⟨by omega, by omega, h3⟩
        · rintro ⟨h1, h2, h3, h4⟩
          by_cases hp : p.1 = lo
          · exact .inl (Prod.ext hp (hp ▸ h4))
          · exact .inr ⟨by omega, by omega, h3, h4⟩
      · have := ((hmem p).1 hp).1
        show lo < p.1
        omega
    · rw [if_neg hpos]
      refine ⟨l, rfl, fun p => ?_, hpw⟩
      rw [hmem]
      constructor
      · rintro ⟨h1, h2, h3⟩
        exact ⟨by omega, by omega, h3⟩
      · rintro ⟨h1, h2, h3, h4⟩
        by_cases hp : p.1 = lo
        · rw [hp] at h4; exact absurd (h4 ▸ h3) hpos
        · exact ⟨by omega, by omega, h3, h4⟩

/-! ## `keyAtRank` -/

/-- cumulative weight `Σ_{j ≤ k} wt s j` (the array starts at `offset`; nothing lies below) -/
def cum (s : DStore) (k : Int) : Rat := rsum (wt s) s.offset (k - s.offset + 1).toNat

theorem cum_of_lt (s : DStore) (k : Int) (hk : k < s.offset) : cum s k = 0 := by
  unfold cum
  rw [show (k - s.offset + 1).toNat = 0 by omega]; rfl

theorem cum_at (s : DStore) (m : Nat) : cum s (m + s.offset) = rsum (at0 s.bins) 0 (m + 1) := by
  unfold cum
  rw [show ((m : Int) + s.offset - s.offset + 1).toNat = m + 1 by omega,
    ← Int.add_right_neg s.offset, ← rsum_shift]
  rfl

theorem cum_step' (s : DStore) (e : Int) : cum s e = cum s (e - 1) + wt s e := by
  by_cases he : s.offset ≤ e
  · unfold cum
    rw [show (e - s.offset + 1).toNat = (e - 1 - s.offset + 1).toNat + 1 by omega]
    simp only [rsum]
    congr 2
    omega
  · rw [cum_of_lt s e (by omega), cum_of_lt s (e - 1) (by omega), wt, at0_neg _ _ (by omega)]
    exact (Rat.add_zero 0).symm

theorem cum_zero_of_lt (s : DStore) (m : Int) (hz : ∀ j, j < m → wt s j = 0) (e : Int) (he : e < m) :
    cum s e = 0 :=
  rsum_zero _ _ (fun j _ h2 => hz j (by omega))

theorem cum_eq_wt_of_le (s : DStore) (m : Int) (hz : ∀ j, j < m → wt s j = 0) (e : Int) (he : e ≤ m) :
    cum s e = wt s e := by
  rw [cum_step', cum_zero_of_lt s m hz (e - 1) (by omega), Rat.zero_add]

theorem cum_eq_from (s : DStore) (m : Int) (hz : ∀ j, j < m → wt s j = 0) (e : Int) :
    cum s e = rsum (wt s) m (e - m + 1).toNat := by
  suffices H : ∀ (n : Nat) (e : Int), (e - m + 1).toNat = n → cum s e = rsum (wt s) m n from H _ e rfl
  intro n
  induction n with
  | zero => exact fun e he => cum_zero_of_lt s m hz e (by omega)
  | succ n ih =>
    intro e he
    rw [cum_step', ih (e - 1) (by omega), show e = m + n by omega]
    rfl

theorem cum_eq (s : DStore) (k lo : Int) (hlo : lo ≤ s.offset) :
    cum s k = rsum (wt s) lo (k - lo + 1).toNat :=
  cum_eq_from s lo (fun j hj => at0_neg _ _ (by omega)) k

theorem cum_congr (s t : DStore) (h : ∀ j, wt t j = wt s j) (e : Int) : cum t e = cum s e := by
  rw [cum_eq s e (min s.offset t.offset) (by omega), cum_eq t e (min s.offset t.offset) (by omega)]
  exact rsum_congr _ _ (fun j _ _ => h j)

theorem cum_eq_total (s : DStore) (M : Int) (hz : ∀ j, M < j → wt s j = 0) (e : Int) (he : M ≤ e) :
    cum s e = s.bins.toList.sum := by
  rw [sum_eq_window s.bins s.offset (min s.offset e) (e - (min s.offset e) + 1).toNat
    (fun j hj => by
      rcases hj with hj | hj
      · exact at0_neg _ _ (by omega)
      · exact hz j (by omega))]
  exact cum_eq s e _ (by omega)

theorem cum_nonneg (s : DStore) (hnn : ∀ j, 0 ≤ wt s j) (e : Int) : 0 ≤ cum s e :=
  rsum_nonneg _ _ hnn

theorem cum_ge_wt (s : DStore) (hnn : ∀ j, 0 ≤ wt s j) (e : Int) : wt s e ≤ cum s e := by
  rw [cum_step']
  rw [Rat.add_comm]
  exact rat_le_add (cum_nonneg s hnn (e - 1))

theorem cum_mono (s : DStore) (hnn : ∀ j, 0 ≤ wt s j) (m e : Int) (hme : m ≤ e) : cum s m ≤ cum s e := by
  obtain ⟨n, rfl⟩ : ∃ n : Nat, e = m + n := ⟨(e - m).toNat, by omega⟩
  induction n with
  | zero => rw [Int.natCast_zero, Int.add_zero]; exact Rat.le_refl
  | succ n ih =>
    rw [cum_step' s (m + (n + 1 : Nat)), show m + ((n + 1 : Nat) : Int) - 1 = m + n by omega]
    exact Rat.le_trans (ih (by omega)) (rat_le_add (hnn _))

theorem cum_le_total (s : DStore) (hnn : ∀ j, 0 ≤ wt s j) (e : Int) : cum s e ≤ s.bins.toList.sum := by
  have h1 := cum_mono s hnn e (max e (s.offset + s.bins.size)) (by omega)
  rwa [cum_eq_total s (s.offset + s.bins.size) (fun j hj => at0_ge _ _ (by omega))
    (max e (s.offset + s.bins.size)) (by omega)] at h1

theorem wt_le_cum (s : DStore) (hnn : ∀ j, 0 ≤ wt s j) (m e : Int) (hme : m ≤ e) : wt s m ≤ cum s e :=
  Rat.le_trans (cum_ge_wt s hnn m) (cum_mono s hnn m e hme)

theorem keyAtRank_go_spec (s : DStore) (rank : Rat) (f : Int → Rat) (l : List Rat) (i : Int) (n : Rat)
    (hf : ∀ k : Nat, k < l.length → f (i + k) = l[k]?.getD 0) (hn : n ≤ rank) :
    (∃ m : Nat, m < l.length ∧ keyAtRank.go s rank l i n = i + m + s.offset ∧
        rank < n + rsum f i (m + 1) ∧ ∀ m' : Nat, m' ≤ m → n + rsum f i m' ≤ rank) ∨
    (n + rsum f i l.length ≤ rank ∧ keyAtRank.go s rank l i n = s.maxIndex) := by
  induction l generalizing i n with
  | nil => exact .inr ⟨(Rat.add_zero n).symm ▸ hn, rfl⟩
  | cons b rest ih =>
    have h0 : f (i + (0 : Nat)) = b := hf 0 (Nat.zero_lt_succ _)
    rw [Int.natCast_zero, Int.add_zero] at h0
    -- peeling the head off a window: the scan continues at `i + 1` with `n + b` accumulated
    have key : ∀ k, n + rsum f i (k + 1) = n + b + rsum f (i + 1) k := fun k => by
      rw [rsum_succ_left, h0, Rat.add_assoc]
    have h00 : n + rsum f i 0 ≤ rank := (Rat.add_zero n).symm ▸ hn
    rw [keyAtRank.go]
    by_cases hgt : n + b > rank
    · rw [if_pos hgt]
      refine .inl ⟨0, Nat.zero_lt_succ _, by rw [Int.natCast_zero, Int.add_zero], ?_, fun m' hm' => ?_⟩
      · rw [key, rsum, Rat.add_zero]; exact hgt
      · rw [Nat.le_zero.1 hm']; exact h00
    · rw [if_neg hgt]
      have hf' : ∀ k : Nat, k < rest.length → f (i + 1 + k) = rest[k]?.getD 0 := fun k hk => by
        rw [Int.add_assoc, Int.add_comm 1]
        exact hf (k + 1) (Nat.succ_lt_succ hk)
      rcases ih (i + 1) (n + b) hf' (Rat.not_lt.1 hgt) with ⟨m, hm, hgo, hlt, hall⟩ | ⟨hle, hgo⟩
      · refine .inl ⟨m + 1, Nat.succ_lt_succ hm, by rw [hgo]; push_cast; omega, key _ ▸ hlt,
          fun m' hm' => ?_⟩
        cases m' with
        | zero => exact h00
        | succ m'' => exact key _ ▸ hall m'' (Nat.le_of_succ_le_succ hm')
      · exact .inr ⟨List.length_cons ▸ key _ ▸ hle, hgo⟩

theorem keyAtRank_spec_gen (s : DStore) (hcnt : s.count = s.bins.toList.sum) (r : Rat) :
    let k := s.keyAtRank r
    let r' := if r < 0 then 0 else r
    (r' < cum s k ∧ ∀ j, j < k → cum s j ≤ r') ∨ (s.count ≤ r' ∧ k = s.maxIndex) := by
  intro k r'
  have hr' : (0 : Rat) ≤ r' := clamp_nonneg r
  have hf : ∀ m : Nat, m < s.bins.toList.length → at0 s.bins (0 + m) = s.bins.toList[m]?.getD 0 :=
    fun m _ => by rw [Int.zero_add, at0_nat, Array.getElem?_toList]
  rcases keyAtRank_go_spec s r' (at0 s.bins) s.bins.toList 0 0 hf hr' with
    ⟨m, hm, hgo, hlt, hall⟩ | ⟨hle, hgo⟩
  · have hk : k = m + s.offset := hgo.trans (by omega)
    rw [Rat.zero_add] at hlt
    rw [hk, cum_at]
    refine .inl ⟨hlt, fun j hj => ?_⟩
    by_cases hjo : j < s.offset
    · rw [cum_of_lt s j hjo]; exact hr'
    · obtain ⟨m', rfl⟩ : ∃ m' : Nat, j = m' + s.offset := ⟨(j - s.offset).toNat, by omega⟩
      have := hall (m' + 1) (by omega)
      rwa [cum_at, ← Rat.zero_add (rsum _ _ _)]
  · refine .inr ⟨?_, hgo⟩
    rw [Rat.zero_add, Array.length_toList] at hle
    rw [hcnt, sum_eq_rsum s.bins 0]
    simpa only [Int.sub_zero] using hle

/-! ## the content of a store (any kind) -/

/-- the content a caller observes through `Bins()`/`ForEach` -/
def content (s : DStore) : Content := (s.binsList).getD []

theorem content_spec_gen (s : DStore) (hnn : ∀ j, 0 ≤ wt s j)
    (hout : ∀ i, (i < s.minIndex ∨ s.maxIndex < i) → wt s i = 0)
    (hin : ∀ idx, s.minIndex ≤ idx →
      idx < s.minIndex + ((s.maxIndex - s.minIndex + 1).toNat : Int) →
      0 ≤ idx - s.offset ∧ idx - s.offset < s.bins.size) :
    s.binsList = some (content s) ∧ Content.WF (content s) ∧
      ∀ j, (content s).lookup j = wt s j := by
  obtain ⟨l, hl, hmem, hpw⟩ := bins_loop s.bins s.offset _ s.minIndex hin
  have hc : content s = l := congrArg (·.getD []) (hl : s.binsList = some l)
  have hs := (Content.sorted_iff_pairwise l).2 hpw
  rw [hc]
  refine ⟨hl, ⟨hs, fun p hp => ((hmem p).1 hp).2.2.1⟩, fun j => ?_⟩
  by_cases hj : 0 < wt s j
  · have : ¬ (j < s.minIndex ∨ s.maxIndex < j) := fun hc => Rat.lt_irrefl (hout j hc ▸ hj)
    exact Content.lookup_of_mem_sorted l hs _
      ((hmem (j, wt s j)).2 ⟨by show s.minIndex ≤ j; omega, by show j < _; omega, hj, rfl⟩)
  · rw [Rat.le_antisymm (Rat.not_lt.1 hj) (hnn j)]
    refine Content.lookup_eq_zero_of_not_mem l j fun p hp hpj => hj ?_
    obtain ⟨_, _, h3, h4⟩ := (hmem p).1 hp
    rw [← hpj]
    exact (h4 ▸ h3 : 0 < at0 s.bins (p.1 - s.offset))

theorem wt_pos_of_mem {s : DStore} {c : Content} (hc : c.WF) (hl : ∀ j, c.lookup j = wt s j)
    {p : Int × Rat} (hp : p ∈ c) : 0 < wt s p.1 := by
  rw [← hl, Content.lookup_of_mem_sorted c hc.1 p hp]
  exact hc.2 p hp

theorem cumul_eq_cum (s : DStore) (c : Content) (hc : Content.WF c)
    (hl : ∀ j, c.lookup j = wt s j) (e : Int) : c.cumul e = cum s e := by
  suffices H : ∀ (n : Nat) (e : Int), e - s.offset + 1 ≤ n → c.cumul e = cum s e from
    H (e - s.offset + 1).toNat e (by omega)
  intro n
  induction n with
  | zero =>
    intro e he
    rw [cum_of_lt s e (by omega)]
    -- a key below the array would carry weight
    exact Content.cumul_eq_zero_of_lt c e fun p hp => Int.not_le.1 fun hle =>
      Rat.lt_irrefl ((at0_neg _ _ (by omega) : wt s p.1 = 0) ▸ wt_pos_of_mem hc hl hp)
  | succ n ih =>
    intro e he
    rw [Content.cumul_step, cum_step', ih (e - 1) (by omega), hl]

theorem total_eq_sum_gen (s : DStore) (c : Content) (hc : Content.WF c)
    (hl : ∀ j, c.lookup j = wt s j) : c.total = s.bins.toList.sum := by
  rw [← cum_eq_total s (s.offset + s.bins.size) (fun j hj => at0_ge _ _ (by omega)) _
    (Int.le_refl _), ← cumul_eq_cum s c hc hl]
  exact (Content.cumul_eq_total c _ fun p hp => Int.not_lt.1 fun hlt =>
    Rat.lt_irrefl ((at0_ge _ _ (by omega) : wt s p.1 = 0) ▸ wt_pos_of_mem hc hl hp)).symm

theorem isEmpty_eq_of_total (s : DStore) (c : Content) (hc : c.WF) (ht : s.count = c.total) :
    s.isEmpty = c.isEmpty := by
  rw [Bool.eq_iff_iff, isEmpty_iff_count, Content.isEmpty_iff_total_zero c hc, ht]

/-- the rank lookup of the store is that of its content: both answer the first index whose
    cumulative weight exceeds the rank, else the maximum index -/
theorem keyAtRank_eq_content_gen (s : DStore) (c : Content) (hwf : Content.WF c)
    (hlk : ∀ j, c.lookup j = wt s j) (hcnt : s.count = s.bins.toList.sum)
    (hmax : c.maxIndex? = some s.maxIndex) (r : Rat) :
    s.keyAtRank r = c.keyAtRank r := by
  have htot : c.total = s.count := (total_eq_sum_gen s c hwf hlk).trans hcnt.symm
  have A := keyAtRank_spec_gen s hcnt r
  simp only [← cumul_eq_cum s c hwf hlk, ← htot] at A
  exact (Content.keyAtRank_eq_of_least c hwf r _ (A.imp_right fun ⟨d1, d2⟩ => ⟨d1, d2 ▸ hmax⟩)).symm

/-! ## content and observers of a store of any kind, from `Core` -/

namespace Core
variable {s : DStore} (h : Core s)
include h

theorem content_spec :
    s.binsList = some (content s) ∧ Content.WF (content s) ∧ ∀ j, (content s).lookup j = wt s j :=
  content_spec_gen s h.wt_nonneg h.outside h.window_in

theorem content_wf : (content s).WF := h.content_spec.2.1

theorem lookup_content (j : Int) : (content s).lookup j = wt s j := h.content_spec.2.2 j

/-- a store is known by its weights -/
theorem content_eq (c : Content) (hc : c.WF) (hl : ∀ j, wt s j = c.lookup j) : content s = c :=
  Content.ext _ _ h.content_wf hc fun j => (h.lookup_content j).trans (hl j)

theorem content_empty (h0 : s.count = 0) : content s = [] :=
  h.content_eq [] Content.wf_nil (h.wt_zero_of_empty h0)

theorem total : s.totalCount = (content s).total :=
  h.countEq.trans (total_eq_sum_gen s _ h.content_wf h.lookup_content).symm

theorem isEmpty : s.isEmpty = (content s).isEmpty := isEmpty_eq_of_total s _ h.content_wf h.total

theorem key_in_window {p : Int × Rat} (hp : p ∈ content s) :
    s.minIndex ≤ p.1 ∧ p.1 ≤ s.maxIndex := by
  have : ¬ (p.1 < s.minIndex ∨ s.maxIndex < p.1) := fun hc =>
    Rat.lt_irrefl (h.outside p.1 hc ▸ wt_pos_of_mem h.content_wf h.lookup_content hp)
  omega

theorem content_length_le {N : Nat} (hl : s.bins.size ≤ N) : (content s).length ≤ N := by
  by_cases h0 : s.count = 0
  · rw [h.content_empty h0]; exact Nat.zero_le _
  · exact Content.length_le_of_sorted_range _ h.content_wf.1 s.minIndex N fun p hp => by
      have := h.key_in_window hp
      have := h.span_le hl h0
      omega

theorem content_extremes (ht : Tight32 s) (h0 : s.count ≠ 0) :
    (content s).maxIndex? = some s.maxIndex ∧ (content s).minIndex? = some s.minIndex :=
  ⟨Content.maxIndex?_of_lookup _ h.content_wf _ (h.lookup_content _ ▸ (ht h0).2.1) fun j hj =>
      (h.lookup_content j).trans (h.outside j (.inr hj)),
    Content.minIndex?_of_lookup _ h.content_wf _ (h.lookup_content _ ▸ (ht h0).1) fun j hj =>
      (h.lookup_content j).trans (h.outside j (.inl hj))⟩

end Core

/-! ## a store holding a content moved along an index map

What folding does to the weights is said through `Content.relabel φ` on the model side too: the
collapsing stores hold the exact content moved along `Content.lowMap e` / `Content.highMap e`. -/

/-- `s'` holds the content `m` moved along `φ`; its window is the image of `[mn, mx]` -/
structure Holds (s' : DStore) (φ : Int → Int) (m : Content) (mn mx : Int) : Prop where
  minI : s'.minIndex = φ mn
  maxI : s'.maxIndex = φ mx
  wtEq : ∀ j, wt s' j = (Content.relabel φ m).lookup j

theorem Holds.spec {s' : DStore} {φ : Int → Int} {m : Content} {mn mx : Int}
    (x : Holds s' φ m mn mx) (h' : Core s') (hφ : ∀ i j, i ≤ j → φ i ≤ φ j) (hm : m.WF)
    (hmn : m.minIndex? = some mn) (hmx : m.maxIndex? = some mx)
    (b1 : minInt32 ≤ φ mn) (b2 : φ mx ≤ maxInt32) :
    Tight32 s' ∧ content s' = Content.relabel φ m := by
  have hwf := Content.wf_relabel φ m hm
  refine ⟨fun _ => ⟨?_, ?_, x.minI ▸ b1, x.maxI ▸ b2⟩, h'.content_eq _ hwf x.wtEq⟩
  · rw [x.minI, x.wtEq, Content.lookup_pos_iff _ hwf]
    exact Content.minIndex_mem _ _ (Content.minIndex_relabel φ hφ m hm mn hmn)
  · rw [x.maxI, x.wtEq, Content.lookup_pos_iff _ hwf]
    exact Content.maxIndex_mem _ _ (Content.maxIndex_relabel φ hφ m hm mx hmx)

theorem Core.sum_extremes {s : DStore} (h : Core s) (ht : Tight32 s) {g : Int → Rat}
    (hg : ∀ j, 0 ≤ g j) {a b : Int} (ha : 0 < g a) (hb : 0 < g b) (ha32 : a ≤ maxInt32)
    (hb32 : minInt32 ≤ b) (hgo : ∀ j, j < a ∨ b < j → g j = 0) {m : Content} (hm : m.WF)
    (hlm : ∀ k, m.lookup k = wt s k + g k) :
    m.minIndex? = some (min a s.minIndex) ∧ m.maxIndex? = some (max b s.maxIndex) :=
  ⟨Content.minIndex?_of_lookup m hm _ (hlm _ ▸ h.pos_min ht g hg a ha ha32) fun j hj => by
      rw [hlm, h.outside j (Or.inl (by omega)), hgo j (Or.inl (by omega)), Rat.add_zero],
    Content.maxIndex?_of_lookup m hm _ (hlm _ ▸ h.pos_max ht g hg b hb hb32) fun j hj => by
      rw [hlm, h.outside j (Or.inr (by omega)), hgo j (Or.inr (by omega)), Rat.add_zero]⟩

/-! ## extending the window, then adding weights: once for the three kinds

`extendRange`/`normalize` turn `s` into a store `t` that holds the content of `s` moved along a
monotone `φ` in the window `[φ mn, φ mx]` (`Relaid0`: `φ = id` for the plain store,
`Content.lowMap e` / `Content.highMap e` for the collapsing ones).  `addWithCount` and `mergeSame`
then add, at the array position of `φ k`, what they are given for the index `k`
(`Relaid0.add`, `Relaid0.merge`), and the result holds the exact sum moved along `φ` (`Holds`). -/

/-- `t` holds the content of `s` moved along `φ`, in the window `[φ mn, φ mx]` -/
structure Relaid0 (s t : DStore) (φ : Int → Int) (mn mx : Int) : Prop where
  kind  : t.kind = s.kind
  count : t.count = s.count
  minI  : t.minIndex = φ mn
  maxI  : t.maxIndex = φ mx
  off   : t.offset ≤ t.minIndex
  hi    : t.maxIndex < t.offset + t.len
  wtEq  : ∀ j, wt t j = (Content.relabel φ (content s)).lookup j

/-- the common last step of `addWithCount` and `mergeSame`: the content `mg` (keys in `[mn, mx]`),
    moved along `φ`, is added to the re-laid store -/
theorem Relaid0.absorb {s t : DStore} {φ : Int → Int} {mn mx : Int} (x : Relaid0 s t φ mn mx)
    (h : Core s) (hφ : ∀ i j, i ≤ j → φ i ≤ φ j) (hmn : mn ≤ s.minIndex) (hmx : s.maxIndex ≤ mx)
    (hle : mn ≤ mx) (mg : Content) (hg : mg.WF) (hne : mg ≠ [])
    (hgk : ∀ p ∈ mg, mn ≤ p.1 ∧ p.1 ≤ mx) (nb : Array Rat) (hsz : nb.size = t.bins.size)
    (hat : ∀ j, at0 nb (j - t.offset) = wt t j + (Content.relabel φ mg).lookup j)
    (hsum : nb.toList.sum = t.bins.toList.sum + mg.total) :
    Core { t with bins := nb, count := t.count + mg.total } ∧
      Holds { t with bins := nb, count := t.count + mg.total } φ ((content s).merge mg) mn mx := by
  have hws := Content.wf_relabel φ _ h.content_wf
  have hwg := Content.wf_relabel φ _ hg
  have hwt : ∀ j, wt { t with bins := nb, count := t.count + mg.total } j
      = (Content.relabel φ (content s)).lookup j + (Content.relabel φ mg).lookup j :=
    fun j => (hat j).trans (by rw [x.wtEq])
  have hsk : ∀ p ∈ content s, mn ≤ p.1 ∧ p.1 ≤ mx := fun p hp => by
    have := h.key_in_window hp; omega
  refine ⟨?_, x.minI, x.maxI, fun j => by
    rw [hwt]; simp only [Content.lookup_eq_wsum, Content.wsum_relabel, Content.wsum_merge]⟩
  exact
    { nonneg := nonneg_of_wt _ fun j => hwt j ▸
        Rat.add_nonneg (Content.lookup_nonneg _ hws.nonneg j) (Content.lookup_nonneg _ hwg.nonneg j)
      -- the array of `t` sums to the total of `relabel φ (content s)`, that of `content s`
      countEq := by
        show t.count + mg.total = nb.toList.sum
        rw [hsum, x.count, ← total_eq_sum_gen t _ hws fun j => (x.wtEq j).symm,
          Content.total_relabel]
        exact congrArg (· + _) h.total
      empty := fun h0 => absurd h0 (Rat.ne_of_gt (rat_add_pos_right
        (x.count ▸ h.count_nonneg) (Content.total_pos mg hg.2 hne)))
      window := fun _ => ⟨x.off, show t.minIndex ≤ t.maxIndex by
        rw [x.minI, x.maxI]; exact hφ _ _ hle, by simp only [len, hsz]; exact x.hi⟩
      outside := fun j (hj : j < t.minIndex ∨ t.maxIndex < j) => by
        rw [x.minI, x.maxI] at hj
        rw [hwt, Content.lookup_relabel_out hφ hsk hj, Content.lookup_relabel_out hφ hgk hj,
          Rat.add_zero] }

theorem Relaid0.add {s t : DStore} {φ : Int → Int} {mn mx : Int} (x : Relaid0 s t φ mn mx)
    (h : Core s) (hφ : ∀ i j, i ≤ j → φ i ≤ φ j) (hmn : mn ≤ s.minIndex) (hmx : s.maxIndex ≤ mx)
    (i : Int) (hi : mn ≤ i ∧ i ≤ mx) (w : Rat) (hw : 0 < w) :
    ∃ nb, addAt t.bins (φ i - t.offset) w = some nb ∧ nb.size = t.bins.size ∧
      Core { t with bins := nb, count := t.count + w } ∧
      Holds { t with bins := nb, count := t.count + w } φ ((content s).add i w) mn mx := by
  have hin : 0 ≤ φ i - t.offset ∧ φ i - t.offset < t.bins.size := by
    have := x.minI; have := x.maxI; have := x.off; have := x.hi; have := hφ _ _ hi.1
    have := hφ _ _ hi.2
    unfold len at *
    omega
  obtain ⟨nb, hadd, hsz, hat⟩ := addAt_eq t.bins _ w hin
  have hwf : Content.WF [(i, w)] := (Content.wf_cons _ _).2 ⟨hw, by simp, Content.wf_nil⟩
  have := x.absorb h hφ hmn hmx (by omega) [(i, w)] hwf (by simp) (by simpa using hi) nb hsz
    (fun j => by
      rw [hat, Content.lookup_eq_wsum, Content.wsum_relabel, Content.wsum_cons, Content.wsum_nil,
        Rat.add_zero]
      refine congrArg _ (ite_iff ?_ _ _)
      simp only [decide_eq_true_eq]; omega)
    (by rw [sum_point t.bins nb _ w hin hsz hat, Content.total_cons, Content.total_nil,
      Rat.add_zero])
  simp only [Content.total_cons, Content.total_nil, Rat.add_zero,
    ← Content.add_eq_merge_singleton] at this
  exact ⟨nb, hadd, hsz, this⟩

/-! ### the same-kind merge: extend the range if needed, then one fold over the window of the argument -/

/-- the cell of the receiver that takes index `idx` of the argument -/
def mergeCell (s : DStore) (idx : Int) : Int :=
  match s.kind with
  | .plain => idx - s.offset
  | .low _ => if idx < s.minIndex then 0 else idx - s.offset
  | .high _ => if idx > s.maxIndex then s.len - 1 else idx - s.offset

theorem mergeCell_plain {s : DStore} (hk : s.kind = .plain) (idx : Int) : mergeCell s idx = idx - s.offset := by
  rw [mergeCell, hk]

theorem mergeCell_low {s : DStore} {n : Nat} (hk : s.kind = .low n) (idx : Int) :
    mergeCell s idx = if idx < s.minIndex then 0 else idx - s.offset := by
  rw [mergeCell, hk]

theorem mergeCell_high {s : DStore} {n : Nat} (hk : s.kind = .high n) (idx : Int) :
    mergeCell s idx = if idx > s.maxIndex then s.len - 1 else idx - s.offset := by
  rw [mergeCell, hk]

/-- one step of the merge fold: `o.bins[idx - o.offset]` is added to cell `cell idx` -/
def mergeStep (o : DStore) (cell : Int → Int) (b : Array Rat) (idx : Int) : Option (Array Rat) :=
  (rd o.bins (idx - o.offset)).bind fun c => addAt b (cell idx) c

/-- the merge fold of the model after the range has been extended -/
def mergeFold (s o : DStore) : Option DStore :=
  ((idxRange o.minIndex o.maxIndex).foldlM (mergeStep o (mergeCell s)) s.bins).bind fun b =>
    some { s with bins := b, count := s.count + o.count }

theorem mergeSame_eq (s o : DStore) :
    s.mergeSame o =
      if o.isEmpty then some s
      else (if o.minIndex < s.minIndex ∨ o.maxIndex > s.maxIndex then s.extendRange o.minIndex o.maxIndex
            else some s).bind (mergeFold · o) := by
  unfold DStore.mergeSame
  extract_lets idxs F
  have key : ∀ s1, F s1 = mergeFold s1 o := by
    intro s1
    unfold mergeFold mergeStep mergeCell
    show (match s1.kind with | .plain => _ | .low _ => _ | .high _ => _) = _
    have ite_arg : ∀ (c : Prop) [Decidable c] (b : Array Rat) (p q : Int) (v : Rat),
        (if c then addAt b p v else addAt b q v) = addAt b (if c then p else q) v :=
      fun c _ b p q v => by split <;> rfl
    split
    · rfl
    · simp only [ite_arg]; rfl
    · simp only [ite_arg]; rfl
  by_cases he : o.isEmpty = true
  · rw [if_pos he, if_pos he]
  · rw [if_neg he, if_neg he]
    by_cases hc : o.minIndex < s.minIndex ∨ o.maxIndex > s.maxIndex
    · rw [if_pos hc, if_pos hc]
      exact congrArg _ (funext key)
    · rw [if_neg hc, if_neg hc]
      exact key s

/-- `mergeSame` with a non-empty argument: `X t` is what is known of the receiver once it covers both windows
    (`extendRange`'s result, or the receiver itself) -/
theorem mergeSame_of_fold {s o : DStore} (he : ¬ o.isEmpty = true) {X Q : DStore → Prop}
    (hext : o.minIndex < s.minIndex ∨ o.maxIndex > s.maxIndex →
      ∃ t, s.extendRange o.minIndex o.maxIndex = some t ∧ X t)
    (hself : ¬ (o.minIndex < s.minIndex ∨ o.maxIndex > s.maxIndex) → X s)
    (hfold : ∀ t, X t → ∃ s', mergeFold t o = some s' ∧ Q s') :
    ∃ s', s.mergeSame o = some s' ∧ Q s' := by
  rw [mergeSame_eq, if_neg he]
  by_cases hc : o.minIndex < s.minIndex ∨ o.maxIndex > s.maxIndex
  · obtain ⟨t, ht, x⟩ := hext hc
    rw [if_pos hc, ht]
    exact hfold t x
  · rw [if_neg hc]
    exact hfold s (hself hc)

/-- a merge loop: every bin of `ob` in the window is added at the array position `p idx` -/
theorem scatter_loop (ob : Array Rat) (oo : Int) (p : Int → Int) (n : Nat) (lo : Int) (b : Array Rat)
    (hin : ∀ idx, lo ≤ idx → idx < lo + n →
      (0 ≤ idx - oo ∧ idx - oo < ob.size) ∧ 0 ≤ p idx ∧ p idx < b.size) :
    ∃ b', (irange lo n).foldlM (fun b idx => do
            let c ← rd ob (idx - oo)
            addAt b (p idx) c) b = some b' ∧
      b'.size = b.size ∧
      b'.toList.sum = b.toList.sum + rsum (fun k => at0 ob (k - oo)) lo n ∧
      ∀ q, at0 b' q = at0 b q + rsum (fun k => if q = p k then at0 ob (k - oo) else 0) lo n := by
  induction n with
  | zero => exact ⟨b, rfl, rfl, (Rat.add_zero _).symm, fun q => (Rat.add_zero _).symm⟩
  | succ n ih =>
    obtain ⟨b1, hb1, hsz1, hsum1, hat1⟩ := ih (fun idx h1 h2 => hin idx h1 (by omega))
    obtain ⟨hi1, hi2⟩ := hin (lo + n) (by omega) (by omega)
    obtain ⟨b2, hb2, hsz2, hat2⟩ := addAt_eq b1 (p (lo + n)) (at0 ob (lo + n - oo)) (by rw [hsz1]; exact hi2)
    refine ⟨b2, ?_, by rw [hsz2, hsz1], ?_, fun q => ?_⟩
    · rw [irange_succ_right, List.foldlM_append, hb1]
      simp only [Option.bind_eq_bind, Option.bind_some, List.foldlM_cons, List.foldlM_nil,
        rd_eq ob _ hi1, hb2, Option.pure_def]
    · rw [sum_point b1 b2 _ _ (by rw [hsz1]; exact hi2) hsz2 hat2, hsum1, Rat.add_assoc]
      rfl
    · rw [hat2, hat1, Rat.add_assoc]
      rfl

/-- the merge loop on a re-laid receiver: every bin of `o` is added at the array position `p k`
    of `φ k` -/
theorem Relaid0.merge {s t : DStore} {φ : Int → Int} {mn mx : Int} (x : Relaid0 s t φ mn mx)
    (h : Core s) (hφ : ∀ i j, i ≤ j → φ i ≤ φ j) (hmn : mn ≤ s.minIndex) (hmx : s.maxIndex ≤ mx)
    {o : DStore} (ho : Core o) (h0 : o.count ≠ 0) (hmno : mn ≤ o.minIndex) (hmxo : o.maxIndex ≤ mx)
    (hp : ∀ k, o.minIndex ≤ k → k ≤ o.maxIndex → mergeCell t k = φ k - t.offset) :
    ∃ nb, mergeFold t o = some { t with bins := nb, count := t.count + o.count } ∧
      nb.size = t.bins.size ∧ Core { t with bins := nb, count := t.count + o.count } ∧
      Holds { t with bins := nb, count := t.count + o.count } φ ((content s).merge (content o))
        mn mx := by
  obtain ⟨_, ow2, _⟩ := ho.window h0
  have hozlo : ∀ j, j < o.minIndex → wt o j = 0 := fun j hj => ho.outside j (Or.inl hj)
  have hozhi : ∀ j, o.minIndex + ((o.maxIndex - o.minIndex + 1).toNat : Int) ≤ j → wt o j = 0 :=
    fun j hj => ho.outside j (Or.inr (by omega))
  obtain ⟨nb, hb, hsz, hsum, hat⟩ := scatter_loop o.bins o.offset (mergeCell t) _ o.minIndex t.bins
    (fun idx h1 h2 => ⟨ho.window_in idx h1 h2, by
      have := x.minI; have := x.maxI; have := x.off; have := x.hi
      have := hφ _ _ (show mn ≤ idx by omega); have := hφ _ _ (show idx ≤ mx by omega)
      rw [hp idx h1 (by omega)]
      unfold len at *
      omega⟩)
  have htot : (content o).total = o.count := ho.total.symm
  have hne : content o ≠ [] := fun hc => h0 (by rw [← htot, hc]; rfl)
  have := x.absorb h hφ hmn hmx (by omega) (content o) ho.content_wf hne
    (fun q hq => by have := ho.key_in_window hq; omega) nb hsz
    (fun j => by
      -- what the loop put on position `j - t.offset` is the weight of the keys of `o` that `φ`
      -- sends to `j`
      rw [hat, Content.lookup_eq_wsum, Content.wsum_relabel,
        wsum_eq_rsum _ _ o.minIndex (o.maxIndex - o.minIndex + 1).toNat fun q hq => by
          have := ho.key_in_window hq; omega]
      refine congrArg _ (rsum_congr _ _ fun k h1 h2 => ?_)
      rw [hp k h1 (by omega), ho.lookup_content]
      exact ite_iff (by simp only [decide_eq_true_eq]; omega) _ _)
    (by rw [hsum, htot, ho.countEq, sum_eq_window o.bins o.offset o.minIndex _
      (fun j hj => hj.elim (hozlo j) (hozhi j))])
  rw [htot] at this
  exact ⟨nb, by rw [mergeFold, idxRange_eq]; exact congrArg (Option.bind · _) hb, hsz, this⟩

/-! ## `reweight` -/

theorem reweight_loop (off : Int) (w : Rat) (n : Nat) (lo : Int) (b : Array Rat)
    (hin : ∀ idx, lo ≤ idx → idx < lo + n → 0 ≤ idx - off ∧ idx - off < b.size) :
    ∃ b', (irange lo n).foldlM (fun b idx => do
            let c ← rd b (idx - off)
            setAt b (idx - off) (c * w)) b = some b' ∧ b'.size = b.size ∧
      ∀ j, at0 b' (j - off) = if lo ≤ j ∧ j < lo + n then at0 b (j - off) * w else at0 b (j - off) := by
  induction n with
  | zero => exact ⟨b, rfl, rfl, fun j => (if_neg (by omega)).symm⟩
  | succ n ih =>
    obtain ⟨b1, hb1, hsz1, hat1⟩ := ih (fun idx h1 h2 => hin idx h1 (by omega))
    have hi1 : 0 ≤ lo + n - off ∧ lo + n - off < b1.size := hsz1 ▸ hin (lo + n) (by omega) (by omega)
    obtain ⟨b2, hb2, hsz2, hat2⟩ := setAt_eq b1 (lo + n - off) (at0 b1 (lo + n - off) * w) hi1
    refine ⟨b2, ?_, hsz2.trans hsz1, fun j => ?_⟩
    · rw [irange_succ_right, List.foldlM_append, hb1]
      simp only [Option.bind_eq_bind, Option.bind_some, List.foldlM_cons, List.foldlM_nil,
        rd_eq b1 _ hi1, hb2, Option.pure_def]
    · rw [hat2]
      by_cases hj : j = lo + n
      · rw [if_pos (by omega), if_pos (by omega), hat1, if_neg (by omega), hj]
      · rw [if_neg (by omega), hat1]
        exact ite_iff (by omega) _ _

theorem reweight_spec (s : DStore) (w : Rat)
    (hin : ∀ idx, s.minIndex ≤ idx → idx < s.minIndex + ((s.maxIndex - s.minIndex + 1).toNat : Int) →
      0 ≤ idx - s.offset ∧ idx - s.offset < s.bins.size)
    (hout : ∀ i, (i < s.minIndex ∨ s.maxIndex < i) → wt s i = 0) :
    ∃ b', s.reweight w = some { s with bins := b', count := s.count * w } ∧
      b'.size = s.bins.size ∧
      (∀ j, wt { s with bins := b', count := s.count * w } j = wt s j * w) ∧
      b'.toList.sum = s.bins.toList.sum * w := by
  obtain ⟨b', hb', hsz, hat⟩ := reweight_loop s.offset w _ s.minIndex s.bins hin
  have hwt : ∀ j, wt { s with bins := b', count := s.count * w } j = wt s j * w := fun j =>
    (hat j).trans (by
      split
      · rfl
      · have e : wt s j = 0 := hout j (by omega)
        rw [e, Rat.zero_mul]; exact e)
  refine ⟨b', ?_, hsz, hwt, sum_mul_of_wt s.bins b' s.offset s.offset w hwt⟩
  simp only [Option.bind_eq_bind] at hb'
  simp only [reweight, idxRange_eq, Option.bind_eq_bind, Option.pure_def, hb', Option.bind_some]

/-- `reweight` keeps the core, for any kind; nothing but the bins and the count changes -/
theorem Core.reweight {s : DStore} (h : Core s) (w : Rat) (hw : 0 < w) :
    ∃ s', s.reweight w = some s' ∧ Core s' ∧ (∀ j, wt s' j = wt s j * w) ∧
      s' = { s with bins := s'.bins, count := s.count * w } ∧ s'.bins.size = s.bins.size := by
  obtain ⟨b', hrw, hsz, hwt, hsum⟩ := reweight_spec s w h.window_in h.outside
  have hcz : s.count * w = 0 → s.count = 0 := fun hz =>
    (Rat.mul_eq_zero.1 hz).resolve_right (Rat.ne_of_gt hw)
  refine ⟨_, hrw, ?_, hwt, rfl, hsz⟩
  exact
    { nonneg := nonneg_of_wt _ fun j => hwt j ▸ Rat.mul_nonneg (h.wt_nonneg j) (Rat.le_of_lt hw)
      countEq := (congrArg (· * w) h.countEq).trans hsum.symm
      empty := fun hz => ⟨hsz.trans (h.empty (hcz hz)).1, (h.empty (hcz hz)).2⟩
      window := fun hnz =>
        have ⟨w1, w2, w3⟩ := h.window (mt (fun h0 => by
          show s.count * w = 0
          rw [h0, Rat.zero_mul]) hnz)
        ⟨w1, w2, by show s.maxIndex < s.offset + (b'.size : Int); rw [hsz]; exact w3⟩
      outside := fun j hj => (hwt j).trans (by rw [h.outside j hj, Rat.zero_mul]) }

theorem Core.reweight_content {s s' : DStore} (h : Core s) (h' : Core s') (ht : Tight32 s) {w : Rat}
    (hw : 0 < w) (hwt : ∀ j, wt s' j = wt s j * w) (hcnt : s'.count = s.count * w)
    (hmi : s'.minIndex = s.minIndex) (hma : s'.maxIndex = s.maxIndex) :
    Tight32 s' ∧ content s' = (content s).scale w := by
  refine ⟨fun hc => ?_, h'.content_eq _ (Content.wf_scale _ w h.content_wf hw) fun j => by
    rw [hwt, Content.lookup_scale, h.lookup_content]⟩
  obtain ⟨p1, p2, b1, b2⟩ := ht fun h0 => hc (by rw [hcnt, h0, Rat.zero_mul])
  rw [hwt, hwt, hmi, hma]
  exact ⟨Rat.mul_pos p1 hw, Rat.mul_pos p2 hw, b1, b2⟩

/-! ## the invariant `Inv` of the plain store -/

/-- Invariant of the plain dense store.

  The tightness clauses read `0 < wt s s.minIndex ∨ minIndex = maxInt32`,
  `0 < wt s s.maxIndex ∨ maxIndex = minInt32`: without the alternative they are FALSE for indexes
  outside the int32 range (an empty store starts from `minIndex = MaxInt32`, `maxIndex = MinInt32`,
  and `extendRange` takes `min`/`max` with these sentinels).  Under `Bounded32` (all weight sits on
  int32 indexes) the alternative drops out (`tight_min`, `tight_max`). -/
structure Inv (s : DStore) : Prop where
  plain   : s.kind = .plain
  nonneg  : ∀ j, 0 ≤ at0 s.bins j
  countEq : s.count = s.bins.toList.sum
  empty   : s.count = 0 → s.bins.size = 0 ∧ s.minIndex = maxInt32 ∧ s.maxIndex = minInt32
  window  : s.count ≠ 0 → s.offset ≤ s.minIndex ∧ s.minIndex ≤ s.maxIndex ∧
              s.maxIndex < s.offset + s.len ∧
              (0 < wt s s.minIndex ∨ s.minIndex = maxInt32) ∧
              (0 < wt s s.maxIndex ∨ s.maxIndex = minInt32)
  outside : ∀ i, (i < s.minIndex ∨ s.maxIndex < i) → wt s i = 0

theorem Inv.core {s : DStore} (h : Inv s) : Core s :=
  ⟨h.nonneg, h.countEq, h.empty, fun h0 => let ⟨a, b, c, _⟩ := h.window h0; ⟨a, b, c⟩, h.outside⟩

theorem Inv.tight {s : DStore} (h : Inv s) :
    (0 < wt s s.minIndex ∨ s.minIndex = maxInt32) ∧ (0 < wt s s.maxIndex ∨ s.maxIndex = minInt32) :=
  if h0 : s.count = 0 then ⟨.inr (h.empty h0).2.1, .inr (h.empty h0).2.2⟩ else (h.window h0).2.2.2

theorem tight_min (s : DStore) (h : Inv s) (hb : Bounded32 s) (h0 : s.count ≠ 0) :
    0 < wt s s.minIndex :=
  (h.window h0).2.2.2.1.elim id fun hp => h.core.pos_of_only h0 _ fun j hj => by
    have := hb j hj
    have : ¬ j < s.minIndex := fun hc => hj (h.outside j (.inl hc))
    omega

theorem tight_max (s : DStore) (h : Inv s) (hb : Bounded32 s) (h0 : s.count ≠ 0) :
    0 < wt s s.maxIndex :=
  (h.window h0).2.2.2.2.elim id fun hp => h.core.pos_of_only h0 _ fun j hj => by
    have := hb j hj
    have : ¬ s.maxIndex < j := fun hc => hj (h.outside j (.inr hc))
    omega

/-- a plain store whose weight sits on int32 indexes is tight: its sentinels are int32 -/
theorem Inv.tight32 {s : DStore} (h : Inv s) (hb : Bounded32 s) : Tight32 s := fun h0 =>
  have a := h.tight.1.elim (fun hp => hb _ (Rat.ne_of_gt hp)) (fun e => by rw [e]; decide)
  have b := h.tight.2.elim (fun hp => hb _ (Rat.ne_of_gt hp)) (fun e => by rw [e]; decide)
  ⟨tight_min s h hb h0, tight_max s h hb h0, a.1, b.2⟩

theorem inv_new : Inv (DStore.new .plain) where
  plain := rfl
  nonneg := fun j => (at0_empty j).symm ▸ Rat.le_refl
  countEq := rfl
  empty := fun _ => ⟨rfl, rfl, rfl⟩
  window := fun h => absurd rfl h
  outside := fun _ _ => at0_empty _

theorem bounded32_new : Bounded32 (DStore.new .plain) := fun _ h => absurd (at0_empty _) h

/-! ## observers of the plain store -/

theorem totalCount_eq (s : DStore) (_h : Inv s) : s.totalCount = s.count := rfl

theorem isEmpty_iff (s : DStore) (h : Inv s) : s.isEmpty = true ↔ ∀ j, wt s j = 0 :=
  (isEmpty_iff_count s).trans h.core.count_zero_iff

/-- general form (any `Int` index): `MinIndex()` is a lower bound of the support; it carries
    weight unless it is the sentinel `MaxInt32` -/
theorem minIndex_spec' (s : DStore) (h : Inv s) (k : Int) (hk : s.minIndex? = some k) :
    (0 < wt s k ∨ k = maxInt32) ∧ ∀ j, j < k → wt s j = 0 := by
  obtain ⟨h0, rfl⟩ := minIndex?_eq s k hk
  exact ⟨(h.window h0).2.2.2.1, fun j hj => h.outside j (Or.inl hj)⟩

theorem maxIndex_spec' (s : DStore) (h : Inv s) (k : Int) (hk : s.maxIndex? = some k) :
    (0 < wt s k ∨ k = minInt32) ∧ ∀ j, k < j → wt s j = 0 := by
  obtain ⟨h0, rfl⟩ := maxIndex?_eq s k hk
  exact ⟨(h.window h0).2.2.2.2, fun j hj => h.outside j (Or.inr hj)⟩

/-- the requested statement holds when all weight sits on int32 indexes -/
theorem minIndex_spec (s : DStore) (h : Inv s) (hb : Bounded32 s) (k : Int)
    (hk : s.minIndex? = some k) : 0 < wt s k ∧ ∀ j, j < k → wt s j = 0 := by
  obtain ⟨h0, rfl⟩ := minIndex?_eq s k hk
  exact ⟨tight_min s h hb h0, fun j hj => h.outside j (Or.inl hj)⟩

theorem maxIndex_spec (s : DStore) (h : Inv s) (hb : Bounded32 s) (k : Int)
    (hk : s.maxIndex? = some k) : 0 < wt s k ∧ ∀ j, k < j → wt s j = 0 := by
  obtain ⟨h0, rfl⟩ := maxIndex?_eq s k hk
  exact ⟨tight_max s h hb h0, fun j hj => h.outside j (Or.inr hj)⟩

theorem minIndex?_none_iff (s : DStore) (h : Inv s) : s.minIndex? = none ↔ ∀ j, wt s j = 0 := by
  rw [← isEmpty_iff s h]; unfold minIndex?; split <;> simp_all

theorem maxIndex?_none_iff (s : DStore) (h : Inv s) : s.maxIndex? = none ↔ ∀ j, wt s j = 0 := by
  rw [← isEmpty_iff s h]; unfold maxIndex?; split <;> simp_all

theorem binsList_spec (s : DStore) (h : Inv s) :
    ∃ l, s.binsList = some l ∧ (∀ p ∈ l, 0 < p.2 ∧ wt s p.1 = p.2) ∧
      (∀ j, 0 < wt s j → (j, wt s j) ∈ l) ∧ l.Pairwise (fun a b => a.1 < b.1) := by
  obtain ⟨l, hl, hmem, hpw⟩ := bins_loop s.bins s.offset _ s.minIndex h.core.window_in
  refine ⟨l, hl, fun p hp => ?_, fun j hj => (hmem _).2 ?_, hpw⟩
  · obtain ⟨_, _, h3, h4⟩ := (hmem p).1 hp
    exact ⟨h3, h4.symm⟩
  · have : ¬ (j < s.minIndex ∨ s.maxIndex < j) := fun hc => Rat.lt_irrefl (h.outside j hc ▸ hj)
    exact ⟨by show s.minIndex ≤ j; omega, by show j < _; omega, hj, rfl⟩

theorem keyAtRank_spec (s : DStore) (h : Inv s) (r : Rat) :
    let k := s.keyAtRank r
    let r' := if r < 0 then 0 else r
    (r' < cum s k ∧ ∀ j, j < k → cum s j ≤ r') ∨ (s.count ≤ r' ∧ k = s.maxIndex) :=
  keyAtRank_spec_gen s h.countEq r

/-! ## `extendRange` of the plain store -/

theorem getNewLength_plain (s : DStore) (hp : s.kind = .plain) (a b : Int) :
    s.getNewLength a b = denseNewLength a b := by
  unfold getNewLength
  rw [hp]
  cases denseNewLength a b <;> rfl

theorem adjust_plain (s : DStore) (hp : s.kind = .plain) (a b : Int) :
    s.adjust a b = s.centerCounts a b := by
  unfold adjust
  rw [hp]

/-- `t` holds the content and the count of `s` in an array that covers the window `[lo, hi]`:
    what `extendRange` achieves -/
structure Ext (s t : DStore) (lo hi : Int) : Prop where
  plain : t.kind = .plain
  count_eq : t.count = s.count
  min_eq : t.minIndex = lo
  max_eq : t.maxIndex = hi
  off : t.offset ≤ lo
  fit : hi < t.offset + t.len
  wt_eq : ∀ j, wt t j = wt s j

theorem adjust_spec (s t : DStore) (m M K : Int) (x : Handed s t K) (hp : t.kind = .plain)
    (hfit : M - m + 1 ≤ K) (hsub : m ≤ t.minIndex ∧ t.maxIndex ≤ M) :
    ∃ s', t.adjust m M = some s' ∧ Ext s s' m M := by
  obtain ⟨nb, off', h, hsz, h1, h2, hw'⟩ := centerCounts_spec t m M x.zeroOut x.mm x.lo
    (x.len ▸ x.hi) (x.len ▸ hfit) hsub
  exact ⟨_, (adjust_plain t hp m M).trans h, hp, x.count, rfl, rfl, h1,
    by unfold len at h2 ⊢; rw [hsz]; exact h2, fun j => (hw' j).trans (x.wtEq j)⟩

theorem extendRange_spec (hG : GrowthOK) (s : DStore) (h : Inv s) (a b : Int) (hab : a ≤ b)
    (hsp : SpanOK s a b) :
    ∃ s', s.extendRange a b = some s' ∧ Ext s s' (min a s.minIndex) (max b s.maxIndex) := by
  have hm := Int.min_le_right a s.minIndex
  have hM := Int.le_max_right b s.maxIndex
  have hmM : min a s.minIndex ≤ max b s.maxIndex := by omega
  unfold SpanOK at hsp
  simp only [extendRange, getNewLength_plain s h.plain]
  generalize min a s.minIndex = m at *
  generalize max b s.maxIndex = M at *
  obtain ⟨L, hL, hLge⟩ := hG m M hmM hsp
  rw [hL]
  simp only [Option.bind_eq_bind, Option.bind_some]
  by_cases h0 : s.count = 0
  · -- first use: an all-zero array of the computed length, placed at `m`
    rw [if_pos h0, grow_spec s L (by omega)]
    simp only [Option.bind_some, h.plain]
    exact adjust_spec s _ m M L (Handed.fresh h.core h0 (by omega) _ m M _ hmM (by omega)) rfl
      hLge ⟨Int.le_refl m, Int.le_refl M⟩
  · rw [if_neg h0]
    obtain ⟨w1, w2, w3, _, _⟩ := h.window h0
    by_cases hin : m ≥ s.offset ∧ M < s.offset + s.len
    · rw [if_pos hin]
      exact ⟨_, rfl, h.plain, rfl, rfl, rfl, hin.1, hin.2, fun j => rfl⟩
    · rw [if_neg hin]
      by_cases hgt : L > s.len
      · rw [if_pos hgt, grow_spec s _ (by omega)]
        simp only [Option.bind_some]
        exact adjust_spec s _ m M _ (Handed.grown h.core h0 (by omega)) h.plain (by omega) ⟨hm, hM⟩
      · rw [if_neg hgt]
        exact adjust_spec s s m M _ (Handed.self h.core h0) h.plain (by omega) ⟨hm, hM⟩

/-! ## `normalize` / `addWithCount` / `mergeSame` of the plain store -/

theorem Ext.relaid0 {s t : DStore} {lo hi : Int} (x : Ext s t lo hi) (h : Inv s) :
    Relaid0 s t id lo hi :=
  ⟨x.plain.trans h.plain.symm, x.count_eq, x.min_eq, x.max_eq, x.min_eq ▸ x.off, x.max_eq ▸ x.fit,
    fun j => by
      rw [x.wt_eq, Content.relabel_eq_self id _ h.core.content_wf fun _ _ => rfl,
        h.core.lookup_content]⟩

/-- a range inside the window needs no re-laying -/
theorem Ext.of_mem {s : DStore} (h : Inv s) {a b : Int} (hab : a ≤ b) (ha : s.minIndex ≤ a)
    (hb : b ≤ s.maxIndex) : Ext s s (min a s.minIndex) (max b s.maxIndex) := by
  obtain ⟨w1, _, w3, _⟩ := h.window (h.core.count_ne_zero (by omega))
  rw [Int.min_eq_right ha, Int.max_eq_right hb]
  exact ⟨h.plain, rfl, rfl, rfl, w1, w3, fun _ => rfl⟩

theorem normalize_spec (hG : GrowthOK) (s : DStore) (h : Inv s) (i : Int) (hsp : SpanOK s i i) :
    ∃ t, s.normalize i = some (t, i - t.offset) ∧ Ext s t (min i s.minIndex) (max i s.maxIndex) := by
  unfold normalize
  simp only [h.plain]
  by_cases hc : i < s.minIndex ∨ i > s.maxIndex
  · rw [if_pos hc]
    obtain ⟨t, ht, x⟩ := extendRange_spec hG s h i i (Int.le_refl _) hsp
    exact ⟨t, by rw [ht]; rfl, x⟩
  · rw [if_neg hc]
    exact ⟨s, rfl, Ext.of_mem h (Int.le_refl i) (by omega) (by omega)⟩

/-- tightness of the joint window: `k` is the bound of `u` or of `g`, whichever is further out,
    and each is tight (or the sentinel `S`) for its own function -/
theorem tight_add {u g : Int → Rat} (hu : ∀ j, 0 ≤ u j) (hg : ∀ j, 0 ≤ g j) {k a m S : Int}
    (hk : k = a ∨ k = m) (ha : 0 < g a ∨ a = S) (hm : 0 < u m ∨ m = S) :
    0 < u k + g k ∨ k = S := by
  rcases hk with rfl | rfl
  · exact ha.imp (rat_add_pos_right (hu _)) id
  · exact hm.imp (fun h => rat_add_pos_left h (hg _)) id

/-- from `Core` and `Holds` along `id` back to `Inv`: the store `s'` holds the exact sum `m` of `s`
    and a weight function `g` that is tight at `a` and `b` or starts from the sentinels there
    (the alternatives of `Inv.window`, which `Core` leaves out) -/
theorem inv_of_holds {s s' : DStore} (hs : Inv s) (hk : s'.kind = .plain) (h' : Core s')
    {m : Content} {a b : Int} {g : Int → Rat} (hg : ∀ j, 0 ≤ g j) (hm : m.WF)
    (hlm : ∀ k, m.lookup k = wt s k + g k) (hga : 0 < g a ∨ a = maxInt32)
    (hgb : 0 < g b ∨ b = minInt32)
    (x : Holds s' id m (min a s.minIndex) (max b s.maxIndex)) :
    Inv s' ∧ ∀ j, wt s' j = wt s j + g j := by
  have hwt : ∀ j, wt s' j = wt s j + g j := fun j => by
    rw [x.wtEq, Content.relabel_eq_self id _ hm fun _ _ => rfl, hlm]
  refine ⟨⟨hk, h'.nonneg, h'.countEq, h'.empty, fun h0 => ?_, h'.outside⟩, hwt⟩
  obtain ⟨w1, w2, w3⟩ := h'.window h0
  have hmi : s'.minIndex = min a s.minIndex := x.minI
  have hma : s'.maxIndex = max b s.maxIndex := x.maxI
  refine ⟨w1, w2, w3, ?_, ?_⟩
  · rw [hwt, hmi]
    exact tight_add hs.core.wt_nonneg hg (by omega) hga hs.tight.1
  · rw [hwt, hma]
    exact tight_add hs.core.wt_nonneg hg (by omega) hgb hs.tight.2

theorem addWithCount_full (hG : GrowthOK) (s : DStore) (h : Inv s) (i : Int) (w : Rat) (hw : 0 ≤ w)
    (hsp : SpanOK s i i) :
    ∃ s', s.addWithCount i w = some s' ∧ Inv s' ∧
      (∀ j, wt s' j = wt s j + (if j = i then w else 0)) ∧ s'.count = s.count + w ∧
      (w ≠ 0 → s'.minIndex = min i s.minIndex ∧ s'.maxIndex = max i s.maxIndex) := by
  unfold addWithCount
  by_cases hw0 : w = 0
  · subst hw0
    exact ⟨s, if_pos rfl, h, fun j => by rw [ite_self, Rat.add_zero], (Rat.add_zero _).symm,
      fun hne => absurd rfl hne⟩
  · have hwpos : 0 < w := Rat.lt_of_le_of_ne hw (Ne.symm hw0)
    obtain ⟨t, hn, x⟩ := normalize_spec hG s h i hsp
    obtain ⟨nb, hadd, -, hc, hh⟩ := (x.relaid0 h).add h.core (fun _ _ hij => hij)
      (Int.min_le_right ..) (Int.le_max_right ..) i ⟨Int.min_le_left .., Int.le_max_left ..⟩ w hwpos
    have hgi : 0 < (if i = i then w else 0) := by rwa [if_pos rfl]
    obtain ⟨hi, hwt⟩ := inv_of_holds (s' := { t with bins := nb, count := t.count + w }) h x.plain hc
      (g := fun j => if j = i then w else 0) (fun j => by split; exact hw; exact Rat.le_refl)
      (Content.wf_add _ i w h.core.content_wf hw)
      (fun k => by rw [Content.lookup_add, h.core.lookup_content]) (.inl hgi) (.inl hgi) hh
    refine ⟨_, ?_, hi, hwt, congrArg (· + w) x.count_eq, fun _ => ⟨x.min_eq, x.max_eq⟩⟩
    rw [if_neg hw0, hn]
    simp only [Option.bind_eq_bind, Option.bind_some]
    rw [show i - t.offset = id i - t.offset from rfl, hadd]
    rfl

/-- no panic, invariant kept, exactly one index changes by exactly `w`
    (`hsp`: the widened window spans fewer than `2^33` indexes — `Core.spanOK`) -/
theorem addWithCount_ok (hG : GrowthOK) (s : DStore) (h : Inv s) (i : Int) (w : Rat) (hw : 0 ≤ w)
    (hsp : SpanOK s i i) :
    ∃ s', s.addWithCount i w = some s' ∧ Inv s' ∧
      (∀ j, wt s' j = wt s j + (if j = i then w else 0)) ∧ s'.count = s.count + w :=
  let ⟨s', h1, h2, h3, h4, _⟩ := addWithCount_full hG s h i w hw hsp
  ⟨s', h1, h2, h3, h4⟩

theorem addWithCount_bounded32 (hG : GrowthOK) (s : DStore) (h : Inv s) (hb : Bounded32 s)
    (i : Int) (w : Rat) (hw : 0 ≤ w) (hi : minInt32 ≤ i ∧ i ≤ maxInt32) :
    ∀ s', s.addWithCount i w = some s' → Bounded32 s' := by
  intro s' hs' j hj
  obtain ⟨s'', h1, _, h2, _⟩ := addWithCount_ok hG s h i w hw (h.core.spanOK (h.tight32 hb) i i hi hi)
  cases h1.symm.trans hs'
  rw [h2] at hj
  by_cases hji : j = i
  · exact hji ▸ hi
  · rw [if_neg hji, Rat.add_zero] at hj
    exact hb j hj

/-- the loop of `mergeSame` once the receiver covers both windows -/
theorem mergeSame_cont (s o t : DStore) (hs : Inv s) (ho : Inv o) (h0 : o.count ≠ 0)
    (x : Ext s t (min o.minIndex s.minIndex) (max o.maxIndex s.maxIndex)) :
    ∃ s', mergeFold t o = some s' ∧
      Inv s' ∧ (∀ j, wt s' j = wt s j + wt o j) ∧ s'.count = s.count + o.count := by
  obtain ⟨nb, hb, -, hc, hh⟩ := (x.relaid0 hs).merge hs.core (fun _ _ hij => hij)
    (Int.min_le_right ..) (Int.le_max_right ..) ho.core h0 (Int.min_le_left ..) (Int.le_max_left ..)
    fun k _ _ => mergeCell_plain x.plain k
  obtain ⟨hi, hw⟩ := inv_of_holds (s' := { t with bins := nb, count := t.count + o.count }) hs
    x.plain hc ho.core.wt_nonneg (Content.wf_merge _ _ hs.core.content_wf ho.core.content_wf)
    (fun k => by rw [Content.lookup_merge, hs.core.lookup_content, ho.core.lookup_content])
    ho.tight.1 ho.tight.2 hh
  exact ⟨_, hb, hi, hw, congrArg (· + o.count) x.count_eq⟩

theorem mergeSame_ok (hG : GrowthOK) (s o : DStore) (hs : Inv s) (ho : Inv o)
    (hsp : SpanOK s o.minIndex o.maxIndex) :
    ∃ s', s.mergeSame o = some s' ∧ Inv s' ∧ (∀ j, wt s' j = wt s j + wt o j) ∧
      s'.count = s.count + o.count := by
  by_cases he : o.isEmpty = true
  · have h0 := (isEmpty_iff_count o).1 he
    exact ⟨s, by rw [mergeSame, if_pos he], hs, fun j => by rw [ho.core.wt_zero_of_empty h0, Rat.add_zero],
      by rw [h0, Rat.add_zero]⟩
  · have h0 : o.count ≠ 0 := fun h0 => he ((isEmpty_iff_count o).2 h0)
    have hmm := (ho.window h0).2.1
    exact mergeSame_of_fold he (fun _ => extendRange_spec hG s hs _ _ hmm hsp)
      (fun hc => Ext.of_mem hs hmm (by omega) (by omega)) fun t => mergeSame_cont s o t hs ho h0

theorem mergeSame_bounded32 (hG : GrowthOK) (s o : DStore) (hs : Inv s) (ho : Inv o)
    (bs : Bounded32 s) (bo : Bounded32 o) : ∀ s', s.mergeSame o = some s' → Bounded32 s' := by
  intro s' hs' j hj
  obtain ⟨ow1, ow2⟩ := ho.core.window32 (ho.tight32 bo)
  obtain ⟨s'', h1, _, h2, _⟩ := mergeSame_ok hG s o hs ho
    (hs.core.spanOK (hs.tight32 bs) _ _ ow1 ow2)
  cases h1.symm.trans hs'
  by_cases h3 : wt s j = 0
  · rw [h2, h3, Rat.zero_add] at hj
    exact bo j hj
  · exact bs j h3

/-! ## `clear`, `reweight` of the plain store -/

theorem inv_clear (s : DStore) (h : Inv s) : Inv s.clear where
  plain := h.plain
  nonneg := fun j => (at0_empty j).symm ▸ Rat.le_refl
  countEq := rfl
  empty := fun _ => ⟨rfl, rfl, rfl⟩
  window := fun hc => absurd rfl hc
  outside := fun _ _ => at0_empty _

theorem clear_spec (s : DStore) (h : Inv s) : Inv s.clear ∧ ∀ j, wt s.clear j = 0 :=
  ⟨inv_clear s h, fun _ => at0_empty _⟩

theorem clear_bounded32 (s : DStore) : Bounded32 s.clear := fun _ hj => absurd (at0_empty _) hj

theorem reweight_ok (s : DStore) (h : Inv s) (w : Rat) (hw : 0 < w) :
    ∃ s', s.reweight w = some s' ∧ Inv s' ∧ (∀ j, wt s' j = wt s j * w) ∧
      s'.count = s.count * w := by
  obtain ⟨s', h1, hc, hwt, he, _⟩ := h.core.reweight w hw
  have hcnt : s'.count = s.count * w := by rw [he]
  have e3 : s'.minIndex = s.minIndex := by rw [he]
  have e4 : s'.maxIndex = s.maxIndex := by rw [he]
  refine ⟨s', h1, ?_, hwt, hcnt⟩
  exact
    { plain := (show s'.kind = s.kind by rw [he]).trans h.plain
      nonneg := hc.nonneg, countEq := hc.countEq, empty := hc.empty, outside := hc.outside
      window := fun hnz =>
        have ⟨w1, w2, w3⟩ := hc.window hnz
        have ⟨_, _, _, w4, w5⟩ := h.window fun h0 => hnz (by rw [hcnt, h0, Rat.zero_mul])
        ⟨w1, w2, w3, e3 ▸ w4.imp (fun hp => (hwt _).symm ▸ Rat.mul_pos hp hw) id,
          e4 ▸ w5.imp (fun hp => (hwt _).symm ▸ Rat.mul_pos hp hw) id⟩ }

theorem reweight_bounded32 (s : DStore) (h : Inv s) (hb : Bounded32 s) (w : Rat) (hw : 0 < w) :
    ∀ s', s.reweight w = some s' → Bounded32 s' := by
  intro s' hs' j hj
  obtain ⟨s'', h1, _, h2, _⟩ := reweight_ok s h w hw
  cases h1.symm.trans hs'
  exact hb j fun hz => hj (by rw [h2, hz, Rat.zero_mul])

/-! ## the finding: `MinIndex()`/`MaxIndex()` are wrong for indexes outside the int32 range

`NewDenseStore()` starts from the sentinels `minIndex = MaxInt32`, `maxIndex = MinInt32` and
`extendRange` takes `min`/`max` with them.  Adding the single index `MaxInt32 + 1` to an empty
store therefore leaves `minIndex = MaxInt32`, a bin that holds no weight: the clause
`0 < wt s s.minIndex` (and `minIndex_spec` without `Bounded32`) is false without the int32 bound.
Symmetrically for `MinInt32 - 1` and `maxIndex`. -/

theorem add_new (hG : GrowthOK) (i : Int) (hsp : SpanOK (DStore.new .plain) i i) :
    ∃ s, (DStore.new .plain).addWithCount i 1 = some s ∧ Inv s ∧ s.count ≠ 0 ∧
      s.minIndex = min i maxInt32 ∧ s.maxIndex = max i minInt32 ∧
      ∀ j, wt s j = if j = i then 1 else 0 := by
  obtain ⟨s, h1, h2, h3, h4, h5⟩ := addWithCount_full hG _ inv_new i 1 (by decide) hsp
  refine ⟨s, h1, h2, ?_, (h5 (by decide)).1, (h5 (by decide)).2, fun j => ?_⟩
  · rw [h4]; exact Rat.ne_of_gt (rat_add_pos_right Rat.le_refl (by decide))
  · rw [h3]; exact (congrArg (· + _) (at0_empty _)).trans (Rat.zero_add _)

theorem minIndex_counterexample (hG : GrowthOK) :
    ∃ s', (DStore.new .plain).addWithCount (maxInt32 + 1) 1 = some s' ∧
      s'.minIndex? = some maxInt32 ∧ wt s' maxInt32 = 0 ∧ wt s' (maxInt32 + 1) = 1 := by
  obtain ⟨s', h1, _, hne, hmi, _, hw⟩ := add_new hG (maxInt32 + 1) (by unfold SpanOK; decide)
  refine ⟨s', h1, (minIndex?_of_count_ne hne).trans (congrArg some (hmi.trans (by decide))), ?_, ?_⟩
  · rw [hw, if_neg (by decide)]
  · rw [hw, if_pos rfl]

theorem maxIndex_counterexample (hG : GrowthOK) :
    ∃ s', (DStore.new .plain).addWithCount (minInt32 - 1) 1 = some s' ∧
      s'.maxIndex? = some minInt32 ∧ wt s' minInt32 = 0 ∧ wt s' (minInt32 - 1) = 1 := by
  obtain ⟨s', h1, _, hne, _, hma, hw⟩ := add_new hG (minInt32 - 1) (by unfold SpanOK; decide)
  refine ⟨s', h1, (maxIndex?_of_count_ne hne).trans (congrArg some (hma.trans (by decide))), ?_, ?_⟩
  · rw [hw, if_neg (by decide)]
  · rw [hw, if_pos rfl]

/-! ## the finding: far-apart indexes make the dense store panic

`extendRange` asks `getNewLength` for an array covering the whole span.  For the indexes `0`
and `2^62` the float computation returns `2^62` — one short (`denseNewLength_underallocates`) —
and the subsequent `centerCounts`/`shiftCounts` slice bounds are violated.  (With the real
allocator `make([]float64, 2^62)` fails first; either way the process dies.)  This is why the
safety theorems above are stated for int32 indexes. -/

/-- a store whose only bin is index `0` panics when asked to absorb index `2^62`:
    `getNewLength` returns `2^62` for the `2^62 + 1` indexes `[0, 2^62]`, the array is
    re-centred with offset `0`, and `bins[2^62]` is out of range -/
theorem addWithCount_far_none (s : DStore) (h : Inv s) (h0 : s.count ≠ 0) (hmin : s.minIndex = 0)
    (hmax : s.maxIndex = 0) (hlen : s.len ≤ 2^61) : s.addWithCount (2^62) 1 = none := by
  -- keep the literal `2^62` opaque (`simp` would evaluate it and the kernel re-check is deep)
  obtain ⟨B, hB⟩ : ∃ B : Int, B = 2^62 := ⟨_, rfl⟩
  have hdn : denseNewLength 0 B = some B := by rw [hB]; exact denseNewLength_underallocates
  rw [← hB]
  obtain ⟨w1, w2, w3, _, _⟩ := h.window h0
  have hl0 : 0 ≤ s.len := Int.natCast_nonneg _
  have hsz := size_grow s.bins (B - s.len) (by omega)
  -- the grown store handed to `adjust` is re-centred to offset `0`
  obtain ⟨nb, hcc, hnb, _⟩ := centerCounts_eq
    { s with bins := s.bins ++ Array.replicate (B - s.len).toNat 0 } 0 B 0
    (fun i hi => (at0_append_replicate ..).trans (h.outside i hi)) w2 w1
    (by simp only [len] at hsz ⊢; omega) (by omega) (by simp only [len] at hsz ⊢; omega)
    (by simp only; omega) (by simp only [len] at hsz ⊢; omega)
  have hext : s.extendRange B B = some
      { s with bins := nb, offset := 0, minIndex := 0, maxIndex := B } := by
    simp only [extendRange]
    rw [if_neg h0, show min B s.minIndex = 0 by omega, show max B s.maxIndex = B by omega,
      if_neg (by omega), getNewLength_plain s h.plain, hdn]
    simp only [Option.bind_eq_bind, Option.bind_some]
    rw [if_pos (by omega), grow_spec s _ (by omega)]
    simp only [Option.bind_some]
    exact (adjust_plain _ (by exact h.plain) 0 B).trans hcc
  unfold addWithCount
  rw [if_neg (by decide)]
  unfold normalize
  simp only [h.plain]
  rw [if_pos (Or.inr (by omega)), hext]
  simp only [Option.bind_eq_bind, Option.bind_some, Option.pure_def]
  have hnb' : (nb.size : Int) = B := by simp only [hnb, len] at hsz ⊢; omega
  rw [addAt_none nb _ 1 (by omega)]
  rfl

/-- FINDING (concrete): add index `0`, then index `2^62`, to a fresh dense store — the second
    `Add` panics -/
theorem addWithCount_far_panics (hG : GrowthOK) :
    ∃ s, (DStore.new .plain).addWithCount 0 1 = some s ∧ Inv s ∧
      s.addWithCount (2^62) 1 = none := by
  obtain ⟨s, h1, h2, hne, hmi, hma, _⟩ := add_new hG 0 (by unfold SpanOK; decide)
  have hsz : ((DStore.new .plain).addWithCount 0 1).map (fun t => t.bins.size) = some 64 := by
    decide +kernel
  rw [h1] at hsz
  refine ⟨s, h1, h2, addWithCount_far_none s h2 hne (hmi.trans (by decide)) (hma.trans (by decide)) ?_⟩
  have : s.bins.size = 64 := Option.some.inj hsz
  unfold len
  rw [this]
  decide

/-! ## operation histories (what holds of them, for every kind: `DDS.Proofs.DenseKinds`) -/

inductive Op where
  | add (i : Int) (w : Rat)
  | clear
  | reweight (w : Rat)

/-- `Reweight` returns an error for `w ≤ 0` and is a no-op for `w = 1` (the store is unchanged) -/
def applyOp (s : DStore) : Op → Option DStore
  | .add i w => s.addWithCount i w
  | .clear => some s.clear
  | .reweight w => if w ≤ 0 ∨ w = 1 then some s else s.reweight w

/-- admissible operations: non-negative weights on int32 indexes (int32 is needed for safety
    itself, `DStore.GrowthOK` only covers spans below `2^33`, and for the exact clamping
    relation, `low_below_int32_discrepancy`) -/
def Op.ok32 : Op → Prop
  | .add i w => 0 ≤ w ∧ minInt32 ≤ i ∧ i ≤ maxInt32
  | _ => True

theorem ok32_iff (op : Op) :
    op.ok32 ↔ match op with | .add i w => 0 ≤ w ∧ minInt32 ≤ i ∧ i ≤ maxInt32 | _ => True := by
  cases op <;> rfl

/-- the exact (unbounded) effect of an operation on a content -/
def specStep (c : Content) : Op → Content
  | .add i w => c.add i w
  | .clear => []
  | .reweight w => if w ≤ 0 ∨ w = 1 then c else c.scale w

/-- the exact content of a history: what an unbounded store would hold -/
def exactContent (ops : List Op) : Content := ops.foldl specStep []

theorem wf_specStep (c : Content) (hc : Content.WF c) (op : Op) (hop : op.ok32) :
    Content.WF (specStep c op) := by
  cases op with
  | add i w => exact Content.wf_add c i w hc hop.1
  | clear => exact Content.wf_nil
  | reweight w =>
    simp only [specStep]
    by_cases hw : w ≤ 0 ∨ w = 1
    · rw [if_pos hw]; exact hc
    · rw [if_neg hw]; exact Content.wf_scale c w hc (Rat.not_le.1 (fun h => hw (Or.inl h)))

theorem wf_exact_from (ops : List Op) (E : Content) (hE : Content.WF E) (hops : ∀ op ∈ ops, op.ok32) :
    Content.WF (ops.foldl specStep E) := by
  induction ops generalizing E with
  | nil => exact hE
  | cons op ops ih =>
    exact ih _ (wf_specStep E hE op (hops op (by simp))) (fun q hq => hops q (by simp [hq]))

theorem wf_exactContent (ops : List Op) (hops : ∀ op ∈ ops, op.ok32) :
    Content.WF (exactContent ops) := wf_exact_from ops [] Content.wf_nil hops

end DStore
end DDS
