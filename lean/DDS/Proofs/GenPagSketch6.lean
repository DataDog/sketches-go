/-
  DDS.Proofs.GenPagSketch6 — continuation of `GenPagSketch5.lean` (same namespace), towards `GoodRun DecodeOK` for the
  bytes written by the regenerated `Encode` of a default sketch: the second layout the paginated encoder writes
  (`decodeOK_deltas` is the first).

  `cntOf` (the count a varfloat bit pattern decodes to; `cntOf_eq_vfValue`: the hand model's `Wire.vfValue`;
  `nonnegFin_cntOf_vfBits`: the pattern `Sketch.vfBits w` written for a weight with `WOK w`, `0 ≤ w` meets the count
  hypothesis of `decodeOK_contiguous`).

  `decVarfloat64_of_bits`, `decVarfloat64_enc`, `ccCounts_step`, `ccCounts_enc`: the model's count trace
  `ccCounts` on the bytes of an encoded count list is the list of decoded counts.  Each step is stated over abstract
  bytes first (`decVarfloat64_of_bits`, `ccCounts_step`) and instantiated last, which keeps the kernel from unfolding
  the codec on an open term (the direct statement, unfolding on `encVarfloatBits b ++ R`, runs into its recursion
  limit).

  `decodeOK_contiguous`: `DecodeOK` for an encoded contiguous-counts payload, given int32 indexes and
  `NonnegFin (cntOf b)` for each pattern written (`length_le_flatMap_enc`: every encoded count takes at least one byte,
  for the fuel bound `2·v ≤ 3·len + 51`).
-/
import DDS.Proofs.GenPagSketch5

namespace DDS.GenPagSketch

open DDS DDS.GoSem DDS.PStore DDS.GenPag DDS.Gen.Paginated DDS.Gen.Encoding DDS.Codec DDS.GenEncoding
open DDS.Gen.Sketch DDS.RoundTrip
open DDS.GenStoreDecode (dTrace storeIndexes NoWrap subflag)

variable {grow : Int → Int → Int}

/-! ### the counts of an encoded contiguous block -/

/-- the count a varfloat bit pattern `b` decodes to (`float64frombits(b) - 1`) -/
def cntOf (b : Nat) : F64 := F64.sub (F64.ofBits (UInt64.ofNat b)) F64.one

/-- `cntOf` is the hand model's `Wire.vfValue` -/
theorem cntOf_eq_vfValue (b : Nat) : cntOf b = Wire.vfValue b := rfl

/-- the pattern the encoder writes for a weight `w` with `WOK w`, `0 ≤ w`, decodes to a finite non-negative count -/
theorem nonnegFin_cntOf_vfBits (w : Rat) (h : WOK w) (h0 : 0 ≤ w) : NonnegFin (cntOf (Sketch.vfBits w)) :=
  ⟨w, by rw [cntOf_eq_vfValue]; exact RoundTrip.vfValue_vfBits w h, h0⟩

theorem decVarfloat64_of_bits (bs : Bytes) (b : Nat) (R : Bytes) (h : decVarfloatBits bs = .ok (b, R)) :
    decVarfloat64 bs = .ok (cntOf b, R) := by
  unfold decVarfloat64
  rw [h]
  rfl

theorem decVarfloat64_enc (b : Nat) (hb : b < W64) (R : Bytes) :
    decVarfloat64 (encVarfloatBits b ++ R) = .ok (cntOf b, R) :=
  decVarfloat64_of_bits _ b R (decVarfloatBits_encVarfloatBits b hb R)

theorem ccCounts_step (n : Nat) (bs : Bytes) (c : F64) (R : Bytes) (h : decVarfloat64 bs = .ok (c, R)) :
    ccCounts (n + 1) bs = c :: ccCounts n R := by
  simp only [ccCounts, h]

/-- **the model's count trace on an encoded count list**: one count per pattern, in order -/
theorem ccCounts_enc (R : Bytes) : ∀ (bs : List Nat), (∀ b ∈ bs, b < W64) →
    ccCounts bs.length (bs.flatMap encVarfloatBits ++ R) = bs.map cntOf := by
  intro bs
  induction bs with
  | nil => intro _; rfl
  | cons b bs ih =>
    intro h
    have e : (b :: bs).flatMap encVarfloatBits ++ R =
        encVarfloatBits b ++ (bs.flatMap encVarfloatBits ++ R) := by
      simp only [List.flatMap_cons, List.append_assoc]
    rw [e, List.length_cons,
      ccCounts_step _ _ _ _ (decVarfloat64_enc b (h b (List.mem_cons_self ..)) _),
      ih (fun x hx => h x (List.mem_cons_of_mem _ hx)), List.map_cons]

theorem subflag_cc : subflag Consts.binEncodingContiguousCounts = BinEncodingContiguousCounts := by decide

/-- every encoded count takes at least one byte -/
theorem length_le_flatMap_enc : ∀ (bs : List Nat), bs.length ≤ (bs.flatMap encVarfloatBits).length := by
  intro bs
  induction bs with
  | nil => exact Nat.le_refl _
  | cons b bs ih =>
    have h1 : 1 ≤ (encVarfloatBits b).length := by unfold encVarfloatBits; exact encVF_length_pos _ _
    simp only [List.flatMap_cons, List.length_append, List.length_cons]
    rw [Nat.add_comm]
    exact Nat.add_le_add h1 ih

/-- **`DecodeOK` for an encoded contiguous-counts payload**: patterns `counts` (64-bit, each decoding to a finite
    non-negative count), int32 indexes `start + j·stride` — any store -/
theorem decodeOK_contiguous (x : GPS grow) (start stride : Int) (counts : List Nat)
    (hs : I64 start) (ht : I64 stride) (hlen : counts.length < W64) (hW : ∀ b ∈ counts, b < W64)
    (hidx : ∀ j : Nat, j < counts.length → Idx32 (start + (j : Int) * stride))
    (hc : ∀ b ∈ counts, NonnegFin (cntOf b)) (R : Bytes) (hR : ∀ y ∈ R, y < 256) :
    DecodeOK x (bn (Wire.encPayload (.contiguous start stride counts) ++ R))
      (subflag (Wire.payloadSub (.contiguous start stride counts))) := by
  have hbytes := nb_bn_payload (.contiguous start stride counts) R hR
  have e : Wire.encPayload (.contiguous start stride counts) ++ R =
      encUvarint64 counts.length ++ (encVarint64 start ++ (encVarint64 stride ++
        (counts.flatMap encVarfloatBits ++ R))) := by
    show (encUvarint64 counts.length ++ encVarint64 start ++ encVarint64 stride ++
      counts.flatMap encVarfloatBits) ++ R = _
    simp only [List.append_assoc]
  right; left
  refine ⟨subflag_cc, ?_⟩
  intro v r0 st r1 sd r2 h0 h1 h2
  rw [hbytes, e, decUvarint64_encUvarint64 _ hlen] at h0
  obtain ⟨rfl, rfl⟩ := Prod.mk.inj (Except.ok.inj h0)
  rw [decVarint64_encVarint64 _ hs.1 hs.2] at h1
  obtain ⟨rfl, rfl⟩ := Prod.mk.inj (Except.ok.inj h1)
  rw [decVarint64_encVarint64 _ ht.1 ht.2] at h2
  obtain ⟨rfl, rfl⟩ := Prod.mk.inj (Except.ok.inj h2)
  refine ⟨?_, hidx, ?_⟩
  · -- each count takes at least one byte: `2n ≤ 3n ≤ 3·(bytes of the counts) ≤ 3·len + 51`
    have h2 : (bn (Wire.encPayload (.contiguous start stride counts) ++ R)).length =
        (Wire.encPayload (.contiguous start stride counts) ++ R).length := List.length_map _
    rw [h2, e]
    simp only [List.length_append]
    exact Nat.le_trans (Nat.mul_le_mul (by decide : 2 ≤ 3) (length_le_flatMap_enc counts))
      (Nat.le_add_right_of_le (Nat.mul_le_mul_left 3 (Nat.le_add_left_of_le (Nat.le_add_left_of_le
        (Nat.le_add_left_of_le (Nat.le_add_right _ _))))))
  · intro c hc'
    rw [ccCounts_enc R counts hW] at hc'
    obtain ⟨b, hb, rfl⟩ := List.mem_map.1 hc'
    exact hc b hb

end DDS.GenPagSketch
