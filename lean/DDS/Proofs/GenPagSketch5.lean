/-
  DDS.Proofs.GenPagSketch5 — continuation of `GenPagSketch4.lean` (same namespace), towards `GoodRun DecodeOK` for the
  bytes written by the regenerated `Encode` of a default sketch: the first of the two layouts the paginated encoder
  writes (the second, `decodeOK_contiguous`, is in `GenPagSketch6`).

  `decodeOK_deltas`: `DecodeOK` for an encoded index-delta payload `deltasFrom0 l` on a store with `CapOK`
  (`l.length < 2^63`, entries int32).  `dTrace_enc`: the model's index trace on an encoded delta list is the list;
  `dRec_i64`: differences of int32 values are int64 values.
-/
import DDS.Proofs.GenPagSketch4

namespace DDS.GenPagSketch

open DDS DDS.GoSem DDS.PStore DDS.GenPag DDS.Gen.Paginated DDS.Gen.Encoding DDS.Codec DDS.GenEncoding
open DDS.Gen.Sketch DDS.RoundTrip
open DDS.GenStoreDecode (dTrace storeIndexes NoWrap subflag)

variable {grow : Int → Int → Int}

theorem subflag_deltas : subflag Consts.binEncodingIndexDeltas = BinEncodingIndexDeltas := by decide

/-- the model's index trace on an encoded delta list: the original list -/
theorem dTrace_enc (R : Bytes) : ∀ (l : List Int) (prev : Int), (∀ d ∈ dRec prev l, I64 d) →
    dTrace l.length prev ((dRec prev l).flatMap encVarint64 ++ R) = l := by
  intro l prev h
  -- the encoded deltas parse to the unit bins of `l` (`Sketch.parseItems_reads`); `dTrace` is their index column
  have hr := (Sketch.parseItems_reads Sketch.dBins (fun _ => rfl) (fun _ _ _ => rfl) (dRec prev l)
    (fun a ha => Sketch.rdD_reads a (h a ha)) prev).full R
  rw [dRec_length] at hr
  rw [GenStoreDecode.dTrace_eq, hr, dBins_dRec]
  unfold finBins units
  rw [List.map_map, List.map_map]
  exact (List.map_congr_left (fun _ _ => rfl)).trans (List.map_id _)

/-- differences of int32 values are int64 values -/
theorem dRec_i64 : ∀ (l : List Int) (prev : Int), Idx32 prev → (∀ u ∈ l, Idx32 u) → ∀ d ∈ dRec prev l, I64 d :=
  fun l prev hp h => dRec_wf prev hp l h

/-- **`DecodeOK` for an encoded index-delta payload** (`deltasFrom0 l`, `l` int32, shorter than `2^63`) on a store
    with `CapOK` -/
theorem decodeOK_deltas (x : GPS grow) (hcap : CapOK x.g) (l : List Int) (hlen : l.length < 2 ^ 63)
    (h32 : ∀ u ∈ l, Idx32 u) (R : Bytes) (hR : ∀ y ∈ R, y < 256) :
    DecodeOK x (bn (Wire.encPayload (.deltas (Sketch.deltasFrom0 l)) ++ R))
      (subflag (Wire.payloadSub (.deltas (Sketch.deltasFrom0 l)))) := by
  have hbytes := nb_bn_payload (.deltas (Sketch.deltasFrom0 l)) R hR
  have hd : ∀ d ∈ dRec 0 l, I64 d :=
    dRec_wf 0 idx32_zero l h32
  have hdec : decUvarint64 (Wire.encPayload (.deltas (Sketch.deltasFrom0 l)) ++ R) =
      .ok (l.length, (dRec 0 l).flatMap encVarint64 ++ R) := by
    show decUvarint64 ((encUvarint64 (Sketch.deltasFrom0 l).length ++ (Sketch.deltasFrom0 l).flatMap encVarint64)
      ++ R) = _
    rw [deltasFrom0_eq, dRec_length, List.append_assoc,
      decUvarint64_encUvarint64 _ (Nat.lt_trans hlen (by decide))]
  left
  refine ⟨subflag_deltas, hcap, ?_, ?_⟩
  · intro v rest hv
    rw [hbytes, hdec] at hv
    exact (Prod.mk.inj (Except.ok.inj hv)).1 ▸ hlen
  · intro u hu
    rw [hbytes] at hu
    simp only [storeIndexes, hdec,
      show Consts.binEncodingIndexDeltas ≠ Consts.binEncodingIndexDeltasAndCounts by decide, if_false, if_true] at hu
    rw [dTrace_enc R l 0 hd] at hu
    exact h32 u hu

end DDS.GenPagSketch
