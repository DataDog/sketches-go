/-
  DDS.Proofs.GenBits — the REGENERATED bit helpers of the index mappings
  (`DDS/Generated/CodeBits.lean`, translated from `ddsketch/mapping/bit_operation_helper.go` and
  `withinTolerance` of `linearly_interpolated_mapping.go` on every run), over the exact float model
  `F64`:

  (a) `withinTolerance x y tol` with `tol = 1e-12` IS the model's `MapId.withinTolerance x y`
      (`DDS/Model/Sketch.lean`), for ALL floats (NaN and infinities included);
  (b) the bit manipulations compute what the abstract operations of class `MOps`
      (`DDS/Model/Mapping.lean`; their reading over ℝ is at the end of `DDS/Proofs/GenMapping.lean`) say: for a positive
      normal float `q`
        getExponent (bits q)           = ⌊log₂ q⌋                (`F64.floorLog2 q`, exactly),
        getSignificandPlusOne (bits q) = q / 2^⌊log₂ q⌋ ∈ [1,2)  (exactly),
        buildFloat64 e s               = 2^e · s  for s ∈ [1,2), −1022 ≤ e ≤ 1023,
      together with the three "rounding took the significand out of [1,2)" branches of
      `buildFloat64`.
-/
import DDS.Proofs.Num
import DDS.Generated.CodeBits
import DDS.Model.Sketch
import DDS.Proofs.F64Cmp

set_option linter.unusedVariables false

namespace DDS.GenBits

open DDS DDS.F64 DDS.GoSem DDS.Gen.Bits

/-! ## (a) `withinTolerance` -/

theorem fabs_eq (x : F64) : GoSem.fabs x = MapId.fabs x := by
  cases x with
  | fin q =>
    unfold GoSem.fabs MapId.fabs
    by_cases h : q < 0 <;> simp [F64.lt, F64.neg, h]
  | pinf => rfl
  | ninf => rfl
  | nan => rfl

theorem fmax_eq (a b : F64) : GoSem.fmax a b = MapId.fmaxF a b := rfl

/-- the tolerance the three `Equals` methods pass: `1e-12` -/
def tol : F64 := F64.ofBits 0x3d719799812dea11

theorem withinTolerance_unfold (x y t : F64) :
    withinTolerance x y t =
      if F64.eq x (.fin 0) || F64.eq y (.fin 0) then
        F64.le (MapId.fabs x) t && F64.le (MapId.fabs y) t
      else F64.le (MapId.fabs (F64.sub x y)) (F64.mul t (MapId.fmaxF (MapId.fabs x) (MapId.fabs y))) := by
  unfold withinTolerance
  simp only [fabs_eq, fmax_eq]

theorem withinTolerance_eq (x y : F64) :
    withinTolerance x y tol = MapId.withinTolerance x y := by
  rw [withinTolerance_unfold]
  rfl

example : withinTolerance (.fin 1) (.fin 1) tol = true := by
  rw [withinTolerance_eq]; decide +kernel
example : withinTolerance .pinf .pinf tol = false := by
  rw [withinTolerance_eq]; decide +kernel

/-! ## (b) bit helpers: the three fields of a pattern `hi · 2^52 + frac`

  `hi` is sign and exponent field together; the masks are `exponentMask = 2047 <<< 52`,
  `significandMask = 2^52 − 1`, `oneMask = 1023 · 2^52` of bit_operation_helper.go. -/

/-- `oneMask` -/
theorem oneMask_eq : (4607182418800017408 : Nat) = 2 ^ 52 * 1023 := by decide

theorem fields_div (hi frac : Nat) (h : frac < 2 ^ 52) : (hi * 2 ^ 52 + frac) / 2 ^ 52 = hi := by
  rw [Nat.add_comm, Nat.add_mul_div_right _ _ (Nat.pow_pos (by decide)), Nat.div_eq_of_lt h, Nat.zero_add]

theorem fields_mod (hi frac : Nat) (h : frac < 2 ^ 52) : (hi * 2 ^ 52 + frac) % 2 ^ 52 = frac := by
  rw [Nat.add_comm, Nat.add_mul_mod_self_right, Nat.mod_eq_of_lt h]

/-- `(b & exponentMask) >> 52` is the exponent field -/
theorem expField_toNat (b : BitVec 64) :
    ((b &&& 9218868437227405312#64) >>> 52).toNat = b.toNat / 2 ^ 52 % 2048 := by
  rw [BitVec.toNat_ushiftRight, BitVec.toNat_and, Nat.shiftRight_and_distrib,
    Nat.shiftRight_eq_div_pow]
  exact Nat.and_two_pow_sub_one_eq_mod _ 11

/-- `b & significandMask` is the fraction field -/
theorem fracField_toNat (b : BitVec 64) : (b &&& 4503599627370495#64).toNat = b.toNat % 2 ^ 52 :=
  Nat.and_two_pow_sub_one_eq_mod _ 52

theorem expField_and_expMask (E : Nat) (hE : E < 2048) :
    (E * 2 ^ 52) &&& 9218868437227405312 = E * 2 ^ 52 := by
  show (E * 2 ^ 52) &&& (2047 <<< 52) = _
  rw [← Nat.shiftLeft_eq, ← Nat.shiftLeft_and_distrib, Nat.and_two_pow_sub_one_eq_mod E 11,
    Nat.mod_eq_of_lt hE]

theorem or_fields (E frac : Nat) (hfrac : frac < 2 ^ 52) :
    (E * 2 ^ 52) ||| frac = E * 2 ^ 52 + frac := by
  rw [Nat.mul_comm, ← Nat.two_pow_add_eq_or_of_lt hfrac]


/-! ### the fields of a positive normal float -/

/-- the significand `1.frac` -/
def sig (frac : Nat) : Rat := ((2 ^ 52 + frac : Nat) : Rat) * pow2 (-52)

/-- the value with exponent field `ex ≥ 1` and fraction field `frac` -/
def valOf (ex frac : Nat) : Rat := ((2 ^ 52 + frac : Nat) : Rat) * pow2 ((ex : Int) - 1075)

theorem valOf_eq (ex frac : Nat) : valOf ex frac = sig frac * pow2 ((ex : Int) - 1023) := by
  rw [valOf, sig, mul_assoc, ← pow2_add, show (-52 : Int) + (ex - 1023) = ex - 1075 by omega]

theorem valOf_1023 (frac : Nat) : valOf 1023 frac = sig frac := by
  rw [valOf_eq, show ((1023 : Nat) : Int) - 1023 = 0 from rfl, pow2_zero, mul_one]

theorem pow2_52_mul : pow2 52 * pow2 (-52) = 1 := by
  rw [← pow2_add]; exact pow2_zero

theorem sig_bounds (frac : Nat) (h : frac < 2 ^ 52) : 1 ≤ sig frac ∧ sig frac < 2 := by
  have h52 : pow2 52 = ((2 ^ 52 : Nat) : Rat) := rfl
  constructor
  · rw [← pow2_52_mul, h52]
    exact mul_le_mul_of_nonneg_right (Nat.cast_le.mpr (Nat.le_add_right _ _)) (pow2_pos _).le
  · have : ((2 ^ 52 + frac : Nat) : Rat) < ((2 * 2 ^ 52 : Nat) : Rat) := Nat.cast_lt.mpr (by omega)
    rw [Nat.cast_mul, Nat.cast_ofNat, ← h52] at this
    calc _ < 2 * pow2 52 * pow2 (-52) := mul_lt_mul_of_pos_right this (pow2_pos _)
      _ = 2 := by rw [mul_assoc, pow2_52_mul, mul_one]

theorem valOf_pos (ex frac : Nat) : 0 < valOf ex frac :=
  mul_pos (Nat.cast_pos.mpr (Nat.add_pos_left (Nat.pow_pos (by decide)) _)) (pow2_pos _)

theorem valOf_ge (ex frac : Nat) (h : frac < 2 ^ 52) : pow2 ((ex : Int) - 1023) ≤ valOf ex frac := by
  rw [valOf_eq]
  exact le_mul_of_one_le_left (pow2_pos _).le (sig_bounds frac h).1

theorem valOf_lt (ex frac : Nat) (h : frac < 2 ^ 52) :
    valOf ex frac < pow2 ((ex : Int) - 1023 + 1) := by
  rw [valOf_eq, pow2_succ]
  exact mul_lt_mul_of_pos_right (sig_bounds frac h).2 (pow2_pos _)

theorem floorLog2_valOf (ex frac : Nat) (h : frac < 2 ^ 52) :
    floorLog2 (valOf ex frac) = (ex : Int) - 1023 :=
  floorLog2_unique (valOf_ge ex frac h) (valOf_lt ex frac h)

theorem valOf_div (ex frac : Nat) : valOf ex frac / pow2 ((ex : Int) - 1023) = sig frac := by
  rw [valOf_eq, mul_div_assoc, div_self (pow2_ne_zero _), mul_one]

theorem fval_normal {ex : Nat} (frac : Nat) (h : ex ≠ 0) : fval ex frac = valOf ex frac := if_neg h

theorem fval_sub_lt (frac : Nat) (h : frac < 2 ^ 52) : fval 0 frac < pow2 (-1022) := by
  have : (frac : Rat) * pow2 (-1074) < pow2 52 * pow2 (-1074) :=
    mul_lt_mul_of_pos_right (Nat.cast_lt.mpr h) (pow2_pos _)
  rwa [← pow2_add] at this

theorem normal_fields {q : Rat} (hq : 0 < q) (hr : isRep q = true) (hn : pow2 (-1022) ≤ q) :
    ∃ ex frac : Nat, 1 ≤ ex ∧ ex ≤ 2046 ∧ frac < 2 ^ 52 ∧ q = valOf ex frac := by
  obtain ⟨ex, frac, h1, h2, -, rfl⟩ := rep_pos_fields hq hr
  have he : ex ≠ 0 := by rintro rfl; exact absurd hn (not_le.mpr (fval_sub_lt frac h2))
  exact ⟨ex, frac, Nat.pos_of_ne_zero he, h1, h2, fval_normal frac he⟩

theorem range_fields {r : Rat} (hr : isRep r = true) (e : Int) (he : -1022 ≤ e) (h1 : pow2 e ≤ r)
    (h2 : r < pow2 (e + 1)) :
    ∃ ex frac : Nat, (ex : Int) = e + 1023 ∧ frac < 2 ^ 52 ∧ r = valOf ex frac := by
  obtain ⟨ex, frac, e1, e2, e3, rfl⟩ :=
    normal_fields (lt_of_lt_of_le (pow2_pos e) h1) hr (le_trans (pow2_mono he) h1)
  have h0 := (floorLog2_valOf ex frac e3).symm.trans (floorLog2_unique h1 h2)
  exact ⟨ex, frac, by omega, e3, rfl⟩

theorem isRep_valOf (ex frac : Nat) (h1 : 1 ≤ ex) (h2 : ex ≤ 2046) (h3 : frac < 2 ^ 52) :
    isRep (valOf ex frac) = true := by
  have hlt := valOf_lt ex frac h3
  unfold valOf at hlt ⊢
  rw [← Int.cast_natCast (R := Rat)] at hlt ⊢
  apply isRep_dyadic
  · rw [abs_le]; constructor <;> omega
  · omega
  · rw [abs_of_nonneg (by positivity)]
    exact lt_of_lt_of_le hlt (pow2_mono (by omega))


/-! ### float ⇄ bits of the prelude, in terms of fields -/

theorem float64frombits_eq (b : BitVec 64) : float64frombits b = decodeNat b.toNat := rfl

theorem float64bits_pos {q : Rat} (hq : 0 < q) :
    (float64bits (.fin q)).toNat = bitsOfPos q % 2 ^ 64 := by
  unfold float64bits toBits
  simp only
  rw [if_neg hq.ne', if_pos hq]
  rfl

theorem float64bits_valOf (ex frac : Nat) (h1 : 1 ≤ ex) (h2 : ex ≤ 2046) (h3 : frac < 2 ^ 52) :
    (float64bits (.fin (valOf ex frac))).toNat = ex * 2 ^ 52 + frac := by
  rw [float64bits_pos (valOf_pos ex frac), ← fval_normal frac (by omega),
    bitsOfPos_fval ex frac h3 (.inl (by omega))]
  exact Nat.mod_eq_of_lt (by omega)

theorem decodeNat_valOf (E frac : Nat) (h1 : 1 ≤ E) (h2 : E ≤ 2046) (h3 : frac < 2 ^ 52) :
    decodeNat (E * 2 ^ 52 + frac) = .fin (valOf E frac) := by
  have := decodeNat_fields 0 E frac (by decide) (by omega) h3
  rwa [Nat.zero_mul, Nat.zero_add, if_pos rfl, fval_normal frac (by omega)] at this

/-! ### `getExponent` -/

/-- an unbiased exponent is a small integer, hence a float -/
theorem ofInt_exp (e : Nat) (he : e < 2048) :
    F64.ofInt ((e : Int) - 1023) = .fin (((e : Int) - 1023 : Int) : Rat) :=
  roundF64_int _ (abs_le.mpr ⟨by omega, by omega⟩)

theorem getExponent_fields (b : BitVec 64) (hi frac : Nat) (hfrac : frac < 2 ^ 52)
    (hb : b.toNat = hi * 2 ^ 52 + frac) :
    getExponent b = .fin ((((hi % 2048 : Nat) : Int) - 1023 : Int) : Rat) := by
  have hlt := Nat.mod_lt hi (show 0 < 2048 by decide)
  have hn : ((b &&& 9218868437227405312#64) >>> 52).toNat = hi % 2048 := by
    rw [expField_toNat, hb, fields_div hi frac hfrac]
  unfold getExponent
  rw [BitVec.toInt_eq_toNat_of_lt (by rw [hn]; clear hb hfrac hn; omega), hn]
  exact ofInt_exp _ hlt

theorem getExponent_spec {q : Rat} (hq : 0 < q) (hr : isRep q = true) (hn : pow2 (-1022) ≤ q) :
    getExponent (float64bits (.fin q)) = F64.ofInt (floorLog2 q) ∧
    F64.ofInt (floorLog2 q) = .fin ((floorLog2 q : Int) : Rat) ∧
    -1022 ≤ floorLog2 q ∧ floorLog2 q ≤ 1023 := by
  obtain ⟨ex, frac, h1, h2, h3, rfl⟩ := normal_fields hq hr hn
  rw [floorLog2_valOf ex frac h3, ofInt_exp ex (by omega),
    getExponent_fields _ ex frac h3 (float64bits_valOf ex frac h1 h2 h3), Nat.mod_eq_of_lt (by omega)]
  exact ⟨rfl, rfl, by omega, by omega⟩

/-! ### `getSignificandPlusOne` -/

theorem getSignificandPlusOne_fields (b : BitVec 64) (hi frac : Nat) (hfrac : frac < 2 ^ 52)
    (hb : b.toNat = hi * 2 ^ 52 + frac) : getSignificandPlusOne b = .fin (sig frac) := by
  unfold getSignificandPlusOne
  rw [float64frombits_eq, BitVec.toNat_or, fracField_toNat, hb, fields_mod hi frac hfrac, Nat.or_comm,
    BitVec.toNat_ofNat, Nat.mod_eq_of_lt (by decide), oneMask_eq, Nat.mul_comm, or_fields 1023 frac hfrac,
    decodeNat_valOf 1023 frac (by decide) (by decide) hfrac, valOf_1023]

theorem getSignificandPlusOne_spec {q : Rat} (hq : 0 < q) (hr : isRep q = true)
    (hn : pow2 (-1022) ≤ q) :
    getSignificandPlusOne (float64bits (.fin q)) = .fin (q / pow2 (floorLog2 q)) ∧
    1 ≤ q / pow2 (floorLog2 q) ∧ q / pow2 (floorLog2 q) < 2 := by
  obtain ⟨ex, frac, h1, h2, h3, rfl⟩ := normal_fields hq hr hn
  rw [floorLog2_valOf ex frac h3, valOf_div]
  exact ⟨getSignificandPlusOne_fields _ ex frac h3 (float64bits_valOf ex frac h1 h2 h3),
    sig_bounds frac h3⟩


/-! ### `buildFloat64` -/

/-- the part of `buildFloat64` after the significand has been normalised -/
def buildTail (exponent : Int) (significandPlusOne : F64) : F64 :=
  if (decide ((1023 : Int) < exponent)) then
    (GoSem.inf (1 : Int))
  else
    (GoSem.float64frombits (((BitVec.ofInt 64 ((exponent + (1023 : Int)) * (2 : Int) ^ (Int.toNat (52 : Int)))) &&& 9218868437227405312#64) ||| ((GoSem.float64bits significandPlusOne) &&& 4503599627370495#64)))

/-- `buildFloat64` is the model's `buildFloatN` (`DDS/Model/Mapping.lean`) around `buildTail`:
    normalise a significand `≥ 2` (halve, bump the exponent) or `< 1` (replace by 1), then
    assemble the bits -/
theorem buildFloat64_cases (e : Int) (s : F64) :
    buildFloat64 e s =
      if F64.le (.fin 2) s then buildTail (e + 1) (F64.div s (.fin 2))
      else if F64.lt s (.fin 1) then buildTail e (.fin 1)
      else buildTail e s := by
  unfold buildFloat64 buildTail
  by_cases h1 : F64.le (.fin 2) s = true
  · simp only [h1, if_true]
  · by_cases h2 : F64.lt s (.fin 1) = true
    · simp only [h1, h2, Bool.false_eq_true, if_true, if_false]
    · simp only [h1, h2, Bool.false_eq_true, if_false]

theorem buildTail_overflow (e : Int) (s : F64) (he : 1023 < e) : buildTail e s = .pinf := by
  unfold buildTail
  rw [if_pos (decide_eq_true he)]
  rfl

theorem build_bits (n : Nat) (h1 : 1 ≤ n) (h2 : n ≤ 2046) (sb : BitVec 64) (hi frac : Nat)
    (hfrac : frac < 2 ^ 52) (hsb : sb.toNat = hi * 2 ^ 52 + frac) :
    float64frombits ((BitVec.ofInt 64 ((n : Int) * (2 : Int) ^ (Int.toNat (52 : Int))) &&&
        9218868437227405312#64) ||| (sb &&& 4503599627370495#64)) = .fin (valOf n frac) := by
  have hcast : (n : Int) * (2 : Int) ^ (Int.toNat (52 : Int)) = ((n * 2 ^ 52 : Nat) : Int) := by
    rw [Nat.cast_mul, Nat.cast_pow]; rfl
  have he : (9218868437227405312#64).toNat = 9218868437227405312 := by decide
  rw [hcast, BitVec.ofInt_natCast, float64frombits_eq, BitVec.toNat_or, BitVec.toNat_and,
    fracField_toNat, BitVec.toNat_ofNat, Nat.mod_eq_of_lt (by omega), he, hsb, fields_mod hi frac hfrac,
    expField_and_expMask n (by omega), or_fields n frac hfrac, decodeNat_valOf n frac h1 h2 hfrac]

/-- **the in-contract case: `s ∈ [1,2)`, `−1022 ≤ e ≤ 1023` gives `2^e · s`, exactly** -/
theorem buildTail_spec (e : Int) (he1 : -1022 ≤ e) (he2 : e ≤ 1023) {r : Rat}
    (hr : isRep r = true) (h1 : 1 ≤ r) (h2 : r < 2) :
    buildTail e (.fin r) = .fin (r * pow2 e) := by
  obtain ⟨ex, frac, hex, hf, rfl⟩ := range_fields hr 0 (by decide) (pow2_zero ▸ h1) (pow2_one ▸ h2)
  obtain rfl : ex = 1023 := by omega
  obtain ⟨n, hn⟩ : ∃ n : Nat, e + 1023 = n := ⟨(e + 1023).toNat, by omega⟩
  unfold buildTail
  rw [if_neg (by rw [decide_eq_true_eq]; exact not_lt.mpr he2), hn,
    build_bits n (by omega) (by omega) _ 1023 frac hf (float64bits_valOf 1023 frac (by decide) (by decide) hf),
    valOf_1023, valOf_eq, show (n : Int) - 1023 = e by omega]

theorem buildFloat64_spec (e : Int) (he1 : -1022 ≤ e) (he2 : e ≤ 1023) {r : Rat}
    (hr : isRep r = true) (h1 : 1 ≤ r) (h2 : r < 2) :
    buildFloat64 e (.fin r) = .fin (r * pow2 e) := by
  rw [buildFloat64_cases, le_fin, lt_fin, decide_eq_false (not_le.mpr h2),
    decide_eq_false (not_lt.mpr h1)]
  exact buildTail_spec e he1 he2 hr h1 h2

theorem half_rep {r : Rat} (hr : isRep r = true) (h1 : 2 ≤ r) (h2 : r < 4) :
    F64.div (.fin r) (.fin 2) = .fin (r / 2) ∧ isRep (r / 2) = true ∧ 1 ≤ r / 2 ∧ r / 2 < 2 := by
  have h4 : pow2 (1 + 1) = 4 := by rw [pow2_succ, pow2_one]; norm_num
  obtain ⟨ex, frac, hex, hf, rfl⟩ := range_fields hr 1 (by decide) (pow2_one ▸ h1) (h4 ▸ h2)
  obtain rfl : ex = 1024 := by omega
  have hhalf : valOf 1024 frac / 2 = sig frac := by
    rw [valOf_eq, show ((1024 : Nat) : Int) - 1023 = 1 from rfl, pow2_one,
      mul_div_assoc, div_self (by norm_num), mul_one]
  have hrep := isRep_valOf 1023 frac (by decide) (by decide) hf
  rw [valOf_1023] at hrep
  rw [hhalf]
  refine ⟨?_, hrep, sig_bounds frac hf⟩
  show (if (2 : Rat) = 0 then F64.nan else roundF64 (valOf 1024 frac / 2)) = _
  rw [if_neg (by norm_num), hhalf]
  exact roundF64_of_isRep hrep

theorem half_mul_pow2 (r : Rat) (e : Int) : r / 2 * pow2 (e + 1) = r * pow2 e := by
  rw [pow2_succ]; ring

/-- **a significand that rounding pushed to `[2, 4)`: still `2^e · s`, or `+Inf` when the bumped
    exponent leaves the range** (`−1023 ≤ e` suffices here) -/
theorem buildFloat64_spec_ge2 (e : Int) (he1 : -1023 ≤ e) {r : Rat}
    (hr : isRep r = true) (h1 : 2 ≤ r) (h2 : r < 4) :
    buildFloat64 e (.fin r) = if e + 1 ≤ 1023 then .fin (r * pow2 e) else .pinf := by
  obtain ⟨hdiv, hrep, l1, l2⟩ := half_rep hr h1 h2
  rw [buildFloat64_cases, le_fin, decide_eq_true h1, if_pos rfl, hdiv]
  by_cases he : e + 1 ≤ 1023
  · rw [if_pos he, buildTail_spec (e + 1) (by omega) he hrep l1 l2, half_mul_pow2]
  · rw [if_neg he]
    exact buildTail_overflow _ _ (by omega)

/-- the same as the result for `(e+1, r/2)` -/
theorem buildFloat64_spec_ge2' (e : Int) (he1 : -1023 ≤ e) (he2 : e + 1 ≤ 1023) {r : Rat}
    (hr : isRep r = true) (h1 : 2 ≤ r) (h2 : r < 4) :
    buildFloat64 e (.fin r) = .fin ((r / 2) * pow2 (e + 1)) ∧
    buildFloat64 e (.fin r) = buildFloat64 (e + 1) (.fin (r / 2)) := by
  obtain ⟨_, hrep, l1, l2⟩ := half_rep hr h1 h2
  rw [buildFloat64_spec_ge2 e he1 hr h1 h2, if_pos he2,
    buildFloat64_spec (e + 1) (by omega) he2 hrep l1 l2, half_mul_pow2]
  exact ⟨rfl, rfl⟩

theorem isRep_one : isRep 1 = true := by
  have := isRep_int 1 (by norm_num)
  simpa using this

/-- **a significand that fell below 1 (any finite value `< 1`, even non-positive or
    non-representable) is replaced by 1: the result is `2^e`** -/
theorem buildFloat64_spec_lt1 (e : Int) (he1 : -1022 ≤ e) (he2 : e ≤ 1023) {r : Rat} (h1 : r < 1) :
    buildFloat64 e (.fin r) = .fin (pow2 e) := by
  rw [buildFloat64_cases, le_fin, lt_fin, decide_eq_false (by linarith), decide_eq_true h1, if_pos rfl,
    buildTail_spec e he1 he2 isRep_one (le_refl _) (by norm_num), one_mul]
  rfl

/-! ### round trip: the three helpers together -/

theorem build_get_roundtrip {q : Rat} (hq : 0 < q) (hr : isRep q = true) (hn : pow2 (-1022) ≤ q) :
    buildFloat64 (floorLog2 q) (getSignificandPlusOne (float64bits (.fin q))) = .fin q := by
  obtain ⟨ex, frac, e1, e2, e3, rfl⟩ := normal_fields hq hr hn
  rw [getSignificandPlusOne_fields _ ex frac e3 (float64bits_valOf ex frac e1 e2 e3),
    floorLog2_valOf ex frac e3, ← valOf_1023,
    buildFloat64_spec _ (by omega) (by omega) (isRep_valOf 1023 frac (by decide) (by decide) e3)
      (valOf_1023 frac ▸ (sig_bounds frac e3).1) (valOf_1023 frac ▸ (sig_bounds frac e3).2),
    valOf_1023, ← valOf_eq]

/-! ### the hypotheses are satisfiable, and needed -/

example : getExponent (float64bits (.fin 3)) = .fin 1 ∧
    getSignificandPlusOne (float64bits (.fin 3)) = .fin (3 / 2) ∧
    buildFloat64 1 (.fin (3 / 2)) = .fin 3 := by
  have hq : (0 : Rat) < 3 := by norm_num
  have hr : isRep 3 = true := by decide +kernel
  have hn : pow2 (-1022) ≤ 3 := by decide +kernel
  have hfl : floorLog2 3 = 1 := by decide +kernel
  obtain ⟨h1, h2, _⟩ := getExponent_spec hq hr hn
  obtain ⟨h3, _⟩ := getSignificandPlusOne_spec hq hr hn
  have h4 := buildFloat64_spec 1 (by norm_num) (by norm_num) (r := 3 / 2) (by decide +kernel)
    (by norm_num) (by norm_num)
  rw [hfl] at h1 h2 h3
  refine ⟨by rw [h1, h2]; norm_num, by rw [h3]; norm_num [pow2_one], by rw [h4, pow2_one]; norm_num⟩

example : buildFloat64 1023 (.fin 2) = .pinf := by
  have := buildFloat64_spec_ge2 1023 (by norm_num) (r := 2) (by decide +kernel) (by norm_num) (by norm_num)
  rw [this, if_neg (by norm_num)]

example : buildFloat64 3 (.fin (1 / 2)) = .fin 8 := by
  rw [buildFloat64_spec_lt1 3 (by norm_num) (by norm_num) (by norm_num)]
  simp [pow2_eq_zpow]; norm_num

/-- **normality is needed**: on a positive SUBNORMAL float `getExponent` returns −1023 whatever the
    value (the exponent field is 0), which is not `⌊log₂ q⌋` (that is `≤ −1023`, and `< −1023` for
    `q < 2^-1023`).  The mappings only pass values `≥ MinIndexableValue ≥ 2^-1022`. -/
theorem getExponent_subnormal {q : Rat} (hq : 0 < q) (hr : isRep q = true) (hs : q < pow2 (-1022)) :
    getExponent (float64bits (.fin q)) = .fin (-1023) := by
  obtain ⟨ex, frac, -, h2, h0, rfl⟩ := rep_pos_fields hq hr
  by_cases he : ex = 0
  · subst he
    have hb : (float64bits (.fin (fval 0 frac))).toNat = 0 * 2 ^ 52 + frac := by
      rw [float64bits_pos hq, bitsOfPos_fval 0 frac h2 h0]
      exact Nat.mod_eq_of_lt (by omega)
    rw [getExponent_fields _ 0 frac h2 hb]
    rfl
  · rw [fval_normal frac he] at hs
    exact absurd (lt_of_le_of_lt (le_trans (pow2_mono (by omega)) (valOf_ge ex frac h2)) hs)
      (lt_irrefl _)

example : getExponent (float64bits (.fin (pow2 (-1074)))) = .fin (-1023) ∧
    floorLog2 (pow2 (-1074)) = -1074 := by
  refine ⟨?_, floorLog2_pow2 _⟩
  apply getExponent_subnormal (pow2_pos _)
  · have := isRep_dyadic 1 (-1074) (by norm_num) (by norm_num)
      (by rw [Int.cast_one, abs_one, one_mul]; exact pow2_strictMono (by norm_num))
    rwa [Int.cast_one, one_mul] at this
  · exact pow2_strictMono (by norm_num)

end DDS.GenBits
