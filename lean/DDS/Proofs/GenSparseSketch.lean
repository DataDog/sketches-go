/-
  DDS.Proofs.GenSparseSketch — the sketch over the REGENERATED sparse store (`DDS/Generated/CodeSparse.lean`,
  `CodeSparseMerge.lean`, `CodeSparseIter.lean`, `CodeSparseDecode.lean`): the regenerated sketch
  (`DDS/Generated/CodeSketch.lean`) instantiated with the regenerated `SparseStore` behaves exactly like the same
  regenerated sketch over the hand-written model's store `Store.sp c` (`instance : StoreI Store`,
  `DDS/Proofs/GenSketch.lean`), FOR EVERY LAWFUL ITERATION ORDER of Go's `range` over the map.

  1. `GSS ord` — the regenerated `SparseStore` wrapped, the iteration-order oracle `ord : GoSem.MapOrder` fixed as a
     type index (like the growth oracle of `GPS grow`); `instance : StoreI (GSS ord)` (`gsStoreI`): every method
     runs the regenerated function.  The range loops are structural: the fuel is the constant `1` (`16` for
     `Encode`, whose varint codecs need `≥ 9`).  Conventions of `instance : StoreI Store` / `GenPagSketch` /
     `GenDenseSketch`: a panicking mutator leaves the receiver unchanged; a non-finite weight leaves the receiver
     unchanged; `TotalCount` is `.fin` of the rational total; `KeyAtRank` at `-Inf` is rank 0, at `+Inf`/NaN the
     maximum index (0 when empty).
     * `MergeWith x o` is the regenerated `SparseMerge.SparseStore.MergeWith` (generic in the argument's type),
       which consults its argument through `StoreI.ForEachList` ONLY (`mergeWith_inst`: two instances with the same
       `ForEachList` give the same result) — so the knot "instance needs `MergeWith` needs instance" is tied through
       the instance `feI` whose only meaningful field is `ForEachList`; `gMergeWith_eq` states the method with the
       final instance.
     * `ForEachList x` is what the regenerated stateful `SparseIter.SparseStore.ForEach` hands to the collecting
       visitor, i.e. `mrange ord` of the map (`gForEachList_eq`).
     * `DecodeAndMergeWith` is the regenerated wrapper `SparseDecode.SparseStore.DecodeAndMergeWith` on the raw
       structure, with the instance `rawI ord` (the methods above carried to `SparseStore`); `rawI_adds` shows it
       meets `GenDecodeWrap.SparseAdds`, so `sparse_decode_ok / _sim / _error` apply to it; `gDecode_ok`: where the
       model's `decodeStore (.sp c)` succeeds (no index wrap, finite weights `≥ 0`) the method returns the model's
       store and remaining bytes with a nil error.
     NOT covered by a theorem here: `Encode` (see `GenSparse.encode_any_order_denotes`).
  2. `SSim x st := ∃ c, Rep x.g c ∧ st = .sp c ∧ Key64 c` — the map IS the canonical content (`GenSparse.Rep`: the
     same list, strictly increasing keys, weights `> 0`) and every key is an `int64` (`Key64`).  WHY `Key64`: the
     regenerated `MaxIndex` (hence `KeyAtRank`) starts its scan from `-2^63`, `MinIndex` from `2^63 - 1`
     (`GenSparse.maxIndex_eq`, `minIndex_eq`: artefacts of `GoSem`'s unbounded `int`).  Admissible indexes:
     `Adm64 i := -2^63 ≤ i ∧ i < 2^63` — every Go `int`.  Finite weights `≥ 0` for the adds (the interface of
     `StoreSim`): `Rep` does not survive a negative weight (`GenSparse`, phantom zero entries).
     Method lemmas `ssim_*` (all for a LAWFUL `ord`, except `ssim_isEmpty`, `ssim_add`, `ssim_addWithCount` which
     do not iterate), `sparseStoreSim ord h : StoreSim (GSS ord) Store`.
  3. `sparse_history_observers`: from `NewDDSketch m NewSparseStore NewSparseStore`, after any history of
     `AddWithCount` calls whose routed indexes are `int64` (refused calls, zero / fractional / non-finite counts
     included), the errors and every observer agree with the regenerated sketch over the model stores
     `Store.new .sparse`; `sparse_runAdds` (related final sketches); `sparse_routed_of_32` (int32 ⇒ admissible).
     `DDS/Props/C01GenSparse.lean` chains this to C01.
  4. `GenDecodeWrap.sparse_mergeWith_pag`: the regenerated `SparseStore.MergeWith` with the regenerated paginated store
     (`GenPagSketch.GPS`) as its argument — the case of `GenDecodeWrap.sparse_mergeWith_any` that needs both instances.

  No fuel hypothesis appears in the statements.  Generated code and model do not disagree.
-/
import DDS.Proofs.GenStoreSim
import DDS.Proofs.GenDecodeWrap
import DDS.Proofs.GenForEach
import DDS.Proofs.GenPagSketch

namespace DDS.GenSparseSketch

open DDS DDS.GoSem DDS.Gen.Sparse DDS.GenSparse DDS.GenStoreSim
open DDS.GenPagSketch (okOr okOr_ok runAdds)
open DDS.GenDecodeWrap (finBins spAddWithCount SparseAdds sparse_mergeWith_perm)
open DDS.GenForEach (collect visitS_collect sparse_forEach_eq_visitS)

/-- the regenerated sparse store; the iteration order of `range` over the map is a type index -/
structure GSS (ord : MapOrder) where
  g : SparseStore

variable {ord : MapOrder}

instance : Inhabited (GSS ord) := ⟨⟨NewSparseStore⟩⟩

/-! ### the methods -/

def gAdd (x : GSS ord) (i : Int) : GSS ord := ⟨x.g.Add i⟩

def gAddWithCount (x : GSS ord) (i : Int) (c : F64) : GSS ord :=
  match ratOfF64 c with
  | some w => ⟨x.g.AddWithCount i w⟩
  | none => x

def gCopy (x : GSS ord) : GSS ord := ⟨okOr (x.g.Copy 1 ord) x.g⟩

def gClear (x : GSS ord) : GSS ord := ⟨okOr (x.g.Clear 1 ord) x.g⟩

def gIsEmpty (x : GSS ord) : Bool := x.g.IsEmpty

def gTotalCount (x : GSS ord) : F64 := .fin (okOr (x.g.TotalCount 1 ord) 0)

def gMinIndex (x : GSS ord) : Int × GoErr :=
  okOr (x.g.MinIndex 1 ord) (0, GenSketch.errUndefinedMinIndex)

def gMaxIndex (x : GSS ord) : Int × GoErr :=
  okOr (x.g.MaxIndex 1 ord) (0, GenSketch.errUndefinedMaxIndex)

def gKeyAtRankQ (x : GSS ord) (r : Rat) : Int := okOr (x.g.KeyAtRank 1 ord r) 0

/-- float rank: `-Inf` behaves as rank 0, `+Inf` and NaN are never below a cumulative count: the maximum index
    (as `Sketch.storeKeyAtRank`) -/
def gKeyAtRank (x : GSS ord) (r : F64) : Int :=
  match r with
  | .fin q => gKeyAtRankQ x q
  | .ninf => gKeyAtRankQ x 0
  | _ => (gMaxIndex x).1

def gReweight (x : GSS ord) (w : F64) : GSS ord × GoErr :=
  if F64.le w (.fin 0) then (x, GenSketch.errStoreReweight)
  else match w with
    | .fin q =>
      match x.g.Reweight 1 ord q with
      | .ok (g', e) => (⟨g'⟩, e)
      | _ => (x, GoErr.nil)
    | _ => (x, GoErr.nil)

def gEncode (x : GSS ord) (b : List (BitVec 8)) (t : Gen.Encoding.FlagType) : GSS ord × List (BitVec 8) :=
  (x, okOr (x.g.Encode 16 ord b t) b)

/-- the bins the regenerated stateful `ForEach` hands to the collecting visitor, as `float64` weights -/
def gForEachList (x : GSS ord) : List (Int × F64) :=
  finBins (okOr (Gen.SparseIter.SparseStore.ForEach 1 ord x.g [] collect) [])

/-- … they are the entries of the map in the order the oracle picks -/
theorem gForEachList_eq (x : GSS ord) : gForEachList x = finBins (mrange ord x.g.counts) := by
  unfold gForEachList
  rw [sparse_forEach_eq_visitS, visitS_collect, okOr_ok, List.nil_append]

/-- the instance with the given `MergeWith` and `DecodeAndMergeWith`, every other method the regenerated one -/
@[reducible] def mkI (mw : GSS ord → GSS ord → GSS ord)
    (dec : GSS ord → List (BitVec 8) → Gen.Encoding.SubFlag → GSS ord × List (BitVec 8) × GoErr) :
    StoreI (GSS ord) where
  Add := gAdd
  AddWithCount := gAddWithCount
  Copy := gCopy
  Clear := gClear
  IsEmpty := gIsEmpty
  MaxIndex := gMaxIndex
  MinIndex := gMinIndex
  TotalCount := gTotalCount
  KeyAtRank := gKeyAtRank
  MergeWith := mw
  Reweight := gReweight
  Encode := gEncode
  ForEachList := gForEachList
  DecodeAndMergeWith := dec

/-- the instance the regenerated `MergeWith` reads its argument through (it calls `ForEach` only) -/
@[reducible] def feI : StoreI (GSS ord) := mkI (fun x _ => x) (fun x b _ => (x, b, GoErr.nil))

/-- `MergeWith(other)`: the regenerated generic fallback loop over the argument's `ForEach` -/
def gMergeWith (x o : GSS ord) : GSS ord :=
  ⟨okOr (@Gen.SparseMerge.SparseStore.MergeWith (GSS ord) feI 1 x.g o) x.g⟩

/-- the methods the generic `store.DecodeAndMergeWith` calls -/
@[reducible] def baseI : StoreI (GSS ord) := mkI gMergeWith (fun x b _ => (x, b, GoErr.nil))

/-- `baseI` carried to the raw structure (what the regenerated decode wrapper is written against) -/
@[reducible] def rawI (ord : MapOrder) : StoreI SparseStore where
  Add g i := (gAdd (⟨g⟩ : GSS ord) i).g
  AddWithCount g i c := (gAddWithCount (⟨g⟩ : GSS ord) i c).g
  Copy g := (gCopy (⟨g⟩ : GSS ord)).g
  Clear g := (gClear (⟨g⟩ : GSS ord)).g
  IsEmpty g := gIsEmpty (⟨g⟩ : GSS ord)
  MaxIndex g := gMaxIndex (⟨g⟩ : GSS ord)
  MinIndex g := gMinIndex (⟨g⟩ : GSS ord)
  TotalCount g := gTotalCount (⟨g⟩ : GSS ord)
  KeyAtRank g r := gKeyAtRank (⟨g⟩ : GSS ord) r
  MergeWith g o := (gMergeWith (⟨g⟩ : GSS ord) ⟨o⟩).g
  Reweight g w := ((gReweight (⟨g⟩ : GSS ord) w).1.g, (gReweight (⟨g⟩ : GSS ord) w).2)
  Encode g b t := ((gEncode (⟨g⟩ : GSS ord) b t).1.g, (gEncode (⟨g⟩ : GSS ord) b t).2)
  ForEachList g := gForEachList (⟨g⟩ : GSS ord)
  DecodeAndMergeWith g b _ := (g, b, GoErr.nil)

/-- `SparseStore.DecodeAndMergeWith`: the regenerated wrapper around the generic `store.DecodeAndMergeWith` -/
def gDecode (x : GSS ord) (b : List (BitVec 8)) (sub : Gen.Encoding.SubFlag) :
    GSS ord × List (BitVec 8) × GoErr :=
  match @Gen.SparseDecode.SparseStore.DecodeAndMergeWith (rawI ord) (3 * b.length + 64) x.g b sub with
  | .ok (g', b', e) => (⟨g'⟩, b', e)
  | _ => (x, b, GoErr.nil)

instance (priority := low) gsStoreI : StoreI (GSS ord) := mkI gMergeWith gDecode

@[simp] theorem gss_add (x : GSS ord) (i : Int) : StoreI.Add x i = gAdd x i := rfl
@[simp] theorem gss_addWithCount (x : GSS ord) (i : Int) (c : F64) :
    StoreI.AddWithCount x i c = gAddWithCount x i c := rfl
@[simp] theorem gss_copy (x : GSS ord) : StoreI.Copy x = gCopy x := rfl
@[simp] theorem gss_clear (x : GSS ord) : StoreI.Clear x = gClear x := rfl
@[simp] theorem gss_isEmpty (x : GSS ord) : StoreI.IsEmpty x = gIsEmpty x := rfl
@[simp] theorem gss_maxIndex (x : GSS ord) : StoreI.MaxIndex x = gMaxIndex x := rfl
@[simp] theorem gss_minIndex (x : GSS ord) : StoreI.MinIndex x = gMinIndex x := rfl
@[simp] theorem gss_totalCount (x : GSS ord) : StoreI.TotalCount x = gTotalCount x := rfl
@[simp] theorem gss_keyAtRank (x : GSS ord) (r : F64) : StoreI.KeyAtRank x r = gKeyAtRank x r := rfl
@[simp] theorem gss_mergeWith (x o : GSS ord) : StoreI.MergeWith x o = gMergeWith x o := rfl
@[simp] theorem gss_reweight (x : GSS ord) (w : F64) : StoreI.Reweight x w = gReweight x w := rfl
@[simp] theorem gss_forEachList (x : GSS ord) : StoreI.ForEachList x = gForEachList x := rfl

/-! ### the regenerated `MergeWith` consults its argument through `ForEachList` only -/

theorem mergeLoop_inst {S : Type} (I I' : StoreI S) : ∀ (l : List (Int × F64)) (s : SparseStore),
    @Gen.SparseMerge.SparseStore.MergeWith.loop1 S I l s = @Gen.SparseMerge.SparseStore.MergeWith.loop1 S I' l s := by
  intro l
  induction l with
  | nil => intro s; rfl
  | cons p rest ih =>
    intro s
    obtain ⟨i, c⟩ := p
    simp only [Gen.SparseMerge.SparseStore.MergeWith.loop1]
    cases ratOfF64 c with
    | none => rfl
    | some w => simp only [optL_some]; exact ih _

theorem mergeWith_inst {S : Type} (I I' : StoreI S) (fuel fuel' : Nat) (s : SparseStore) (o : S)
    (h : I.ForEachList o = I'.ForEachList o) :
    @Gen.SparseMerge.SparseStore.MergeWith S I fuel s o = @Gen.SparseMerge.SparseStore.MergeWith S I' fuel' s o := by
  unfold Gen.SparseMerge.SparseStore.MergeWith
  rw [mergeLoop_inst I I', h]

/-- the method, stated with the final instance: `MergeWith` of two `GSS` is the regenerated `SparseStore.MergeWith`
    handed the argument as a `store.Store` -/
theorem gMergeWith_eq (x o : GSS ord) :
    (StoreI.MergeWith x o : GSS ord) = ⟨okOr (Gen.SparseMerge.SparseStore.MergeWith 1 x.g o) x.g⟩ := by
  show gMergeWith x o = _
  unfold gMergeWith
  rw [mergeWith_inst feI gsStoreI 1 1 x.g o rfl]

/-! ### `DecodeAndMergeWith` of the instance (the regenerated wrapper) against the model's `decodeStore` -/

/-- the raw instance is one the decode theorems of `GenDecodeWrap` accept -/
theorem rawI_adds (ord : MapOrder) : SparseAdds (rawI ord) := by
  refine ⟨fun g i c => ?_, fun _ _ => rfl⟩
  show (gAddWithCount (⟨g⟩ : GSS ord) i c).g = spAddWithCount g i c
  unfold gAddWithCount spAddWithCount
  cases ratOfF64 c <;> rfl

section decode
open DDS.GenStoreDecode DDS.GenEncoding DDS.GenDecodeWrap

/-- where the model's `decodeStore` succeeds on `.sp c` (indexes that do not wrap, finite weights `≥ 0`), the
    method of the instance returns the model's store, the model's remaining bytes and a nil error — no fuel
    hypothesis (the instance's fuel `3 * len(b) + 64` is sufficient), no condition on the iteration order (the
    decoder only calls `Add` / `AddWithCount`) -/
theorem gDecode_ok {x : GSS ord} {c : Content} (h : Rep x.g c) (st' : Store) (sub : Nat) (b : List (BitVec 8))
    (rest : List Nat) (hw : NoWrap sub (nb b))
    (hP : ∀ l b' e, decodeCalls (3 * b.length + 64) b (subflag sub) = .ok (l, b', e) → ∀ y ∈ l.calls, NonnegCall y)
    (hm : Sketch.decodeStore (.sp c) sub (nb b) = some (.ok (st', rest))) :
    ∃ c', st' = .sp c' ∧ Rep (⟨c'⟩ : SparseStore) c' ∧
      (StoreI.DecodeAndMergeWith x b (subflag sub) : GSS ord × List (BitVec 8) × GoErr)
        = (⟨⟨c'⟩⟩, bn rest, GoErr.nil) := by
  obtain ⟨c', h1, h2, h3⟩ := sparse_decode_ok (rawI ord) (rawI_adds ord) x.g c h st' sub b rest
    (3 * b.length + 64) (by omega) hw hP hm
  refine ⟨c', h1, h2, ?_⟩
  show gDecode x b (subflag sub) = _
  unfold gDecode
  rw [h3]

end decode

/-! ### the simulation relation -/

/-- every key is a Go `int` (64 bits) -/
def Key64 (c : Content) : Prop := ∀ p ∈ c, -(2:Int)^63 ≤ p.1 ∧ p.1 < (2:Int)^63

/-- the admissible indexes: every Go `int` -/
def Adm64 (i : Int) : Prop := -(2:Int)^63 ≤ i ∧ i < (2:Int)^63

theorem adm64_of_idx32 {i : Int} (h : PStore.Idx32 i) : Adm64 i :=
  ⟨Int.le_trans (by decide) h.1, Int.lt_of_le_of_lt h.2 (by decide)⟩

theorem key64_nil : Key64 [] := fun _ hp => by cases hp

theorem key64_add {c : Content} (h : Key64 c) {i : Int} (hi : Adm64 i) (w : Rat) : Key64 (c.add i w) := by
  intro p hp
  rcases Content.mem_add hp with hp | hp
  · exact h p hp
  · rw [hp]; exact hi

theorem key64_merge {c co : Content} (h : Key64 c) (ho : Key64 co) : Key64 (c.merge co) := by
  intro p hp
  rcases Content.mem_merge hp with hp | ⟨q, hq, hqp⟩
  · exact h p hp
  · rw [← hqp]; exact ho q hq

theorem key64_scale {c : Content} (h : Key64 c) (w : Rat) : Key64 (c.scale w) := by
  intro p hp
  obtain ⟨q, hq, rfl⟩ := Content.mem_scale hp
  exact h q hq

theorem Key64.low {c : Content} (h : Key64 c) : ∀ p ∈ c, -(2:Int)^63 ≤ p.1 := fun p hp => (h p hp).1
theorem Key64.high {c : Content} (h : Key64 c) : ∀ p ∈ c, p.1 < (2:Int)^63 := fun p hp => (h p hp).2

def SSim (x : GSS ord) (st : Store) : Prop :=
  ∃ c : Content, Rep x.g c ∧ st = .sp c ∧ Key64 c

theorem ssim_new : SSim (⟨NewSparseStore⟩ : GSS ord) (Store.new .sparse) :=
  ⟨[], rep_new, rfl, key64_nil⟩

/-! ### observers -/

theorem ssim_isEmpty {x : GSS ord} {st : Store} (h : SSim x st) :
    (StoreI.IsEmpty x : Bool) = StoreI.IsEmpty st := by
  obtain ⟨c, hr, rfl, _⟩ := h
  simp only [gss_isEmpty, gIsEmpty, isEmpty_eq hr.repS, GenSketch.store_isEmpty]

theorem ssim_totalCount (hl : ord.Lawful) {x : GSS ord} {st : Store} (h : SSim x st) :
    (StoreI.TotalCount x : F64) = StoreI.TotalCount st := by
  obtain ⟨c, hr, rfl, _⟩ := h
  simp only [gss_totalCount, gTotalCount, totalCount_eq hr.repS 1 ord hl, okOr_ok, GenSketch.store_totalCount]

theorem errMin_eq : Gen.Sparse.errUndefinedMinIndex = GenSketch.errUndefinedMinIndex := rfl
theorem errMax_eq : Gen.Sparse.errUndefinedMaxIndex = GenSketch.errUndefinedMaxIndex := rfl

theorem ssim_minIndex (hl : ord.Lawful) {x : GSS ord} {st : Store} (h : SSim x st) :
    (StoreI.MinIndex x : Int × GoErr) = StoreI.MinIndex st := by
  obtain ⟨c, hr, rfl, hk⟩ := h
  simp only [gss_minIndex, gMinIndex, minIndex_eq hr.repS 1 ord hl hk.high, okOr_ok, GenSketch.store_minIndex,
    GenSketch.storeMinIndex, errMin_eq]
  cases (Store.sp c).minIndex? <;> rfl

theorem ssim_maxIndex (hl : ord.Lawful) {x : GSS ord} {st : Store} (h : SSim x st) :
    (StoreI.MaxIndex x : Int × GoErr) = StoreI.MaxIndex st := by
  obtain ⟨c, hr, rfl, hk⟩ := h
  simp only [gss_maxIndex, gMaxIndex, maxIndex_eq hr.repS 1 ord hl hk.low, okOr_ok, GenSketch.store_maxIndex,
    GenSketch.storeMaxIndex, errMax_eq]
  cases (Store.sp c).maxIndex? <;> rfl

theorem ssim_keyAtRank (hl : ord.Lawful) {x : GSS ord} {st : Store} (h : SSim x st) (r : F64) :
    (StoreI.KeyAtRank x r : Int) = StoreI.KeyAtRank st r := by
  have hm := ssim_maxIndex hl h
  obtain ⟨c, hr, rfl, hk⟩ := h
  exact GenSketch.keyAtRankF_eq
    (fun q => by simp only [gKeyAtRankQ, keyAtRank_eq hr.repS 1 ord hl hk.low, okOr_ok]) hm r

/-! ### mutators -/

/-- `AddWithCount(i, c)`: `int64` index; a finite count must be `≥ 0` (the sparse store's contract) -/
theorem ssim_addWithCount {x : GSS ord} {st : Store} (h : SSim x st) (i : Int) (hi : Adm64 i) (c : F64)
    (hc : ∀ w, c = .fin w → 0 ≤ w) :
    SSim (StoreI.AddWithCount x i c : GSS ord) (StoreI.AddWithCount st i c) := by
  obtain ⟨ct, hr, rfl, hk⟩ := id h
  cases c with
  | fin w => exact ⟨ct.add i w, addWithCount_rep hr i w (hc w rfl), rfl, key64_add hk hi w⟩
  | pinf => exact h
  | ninf => exact h
  | nan => exact h

theorem ssim_add {x : GSS ord} {st : Store} (h : SSim x st) (i : Int) (hi : Adm64 i) :
    SSim (StoreI.Add x i : GSS ord) (StoreI.Add st i) := by
  obtain ⟨ct, hr, rfl, hk⟩ := h
  exact ⟨ct.add i 1, add_rep hr i, rfl, key64_add hk hi 1⟩

theorem ssim_clear (hl : ord.Lawful) {x : GSS ord} {st : Store} (h : SSim x st) :
    SSim (StoreI.Clear x : GSS ord) (StoreI.Clear st) := by
  obtain ⟨c, hr, rfl, _⟩ := h
  refine ⟨[], ?_, rfl, key64_nil⟩
  simp only [gss_clear, gClear, clear_eq hr.repS 1 ord hl, okOr_ok]
  exact rep_new

theorem ssim_copy (hl : ord.Lawful) {x : GSS ord} {st : Store} (h : SSim x st) :
    SSim (StoreI.Copy x : GSS ord) (StoreI.Copy st) := by
  obtain ⟨c, hr, rfl, hk⟩ := h
  refine ⟨c, ?_, rfl, hk⟩
  simp only [gss_copy, gCopy, copy_eq hr.repS 1 ord hl, okOr_ok]
  exact ⟨rfl, hr.2⟩

/-- `MergeWith` of two regenerated sparse stores: the argument is ranged over in the oracle's order -/
theorem ssim_mergeWith (hl : ord.Lawful) {x y : GSS ord} {st so : Store} (h : SSim x st) (h' : SSim y so) :
    SSim (StoreI.MergeWith x y : GSS ord) (StoreI.MergeWith st so) := by
  obtain ⟨c, hr, rfl, hk⟩ := h
  obtain ⟨co, hro, rfl, hko⟩ := h'
  refine ⟨c.merge co, ?_, rfl, key64_merge hk hko⟩
  have hm := @sparse_mergeWith_perm (GSS ord) feI 1 x.g c hr y co (mrange ord y.g.counts) (gForEachList_eq y)
    (by rw [hro.1]; exact mrange_perm ord hl co hro.2.1) (fun p hp => Rat.le_of_lt (hro.2.2 p hp))
  simp only [gss_mergeWith, gMergeWith, hm, okOr_ok]
  exact ⟨rfl, Content.wf_merge c co hr.2 hro.2⟩

theorem ssim_reweight (hl : ord.Lawful) {x : GSS ord} {st : Store} (h : SSim x st) (w : F64) :
    (StoreI.Reweight x w).2 = (StoreI.Reweight st w).2 ∧
      SSim (StoreI.Reweight x w).1 (StoreI.Reweight st w).1 := by
  refine GenSketch.reweightF_rel SSim h _ _ (fun q hq => ?_) w
  obtain ⟨c, hr, rfl, hk⟩ := h
  obtain ⟨hm, hg⟩ := (reweight_eq hr.repS 1 ord hl q).2 hq
  simp only [hm, hg]
  exact ⟨trivial, c.scale q, ⟨rfl, Content.wf_scale c q hr.2 hq⟩, rfl, key64_scale hk q⟩

/-! ### the `StoreSim` instance and the sketch-level corollaries -/

def sparseStoreSim (ord : MapOrder) (hl : ord.Lawful) : StoreSim (GSS ord) Store where
  R := SSim
  Adm := Adm64
  isEmpty := ssim_isEmpty
  totalCount := ssim_totalCount hl
  minIndex := ssim_minIndex hl
  maxIndex := ssim_maxIndex hl
  keyAtRank := ssim_keyAtRank hl
  addWithCount := fun h i hi c hc => ssim_addWithCount h i hi c hc
  add := fun h i hi => ssim_add h i hi
  clear := ssim_clear hl
  copy := ssim_copy hl
  mergeWith := ssim_mergeWith hl
  reweight := ssim_reweight hl

section sketch

open DDS.Gen.Sketch

variable {M : Type} [MapI M] [Inhabited M]

omit [Inhabited M] in
/-- int32 routed indexes (the hypothesis of the paginated store and of `Props/Lift`) are admissible -/
theorem sparse_routed_of_32 (hl : ord.Lawful) (m : M) (v : F64) (h : GenPagSketch.Routed32 m v) :
    RoutedG (sparseStoreSim ord hl) m v :=
  ⟨fun a => adm64_of_idx32 (h.1 a), fun a => adm64_of_idx32 (h.2 a)⟩

/-- after any history of `AddWithCount` calls with `int64` routed indexes from
    `NewDDSketch(m, NewSparseStore(), NewSparseStore())` the two sketches are related and the errors agree -/
theorem sparse_runAdds (ord : MapOrder) (hl : ord.Lawful) (m : M) (l : List (F64 × F64))
    (hr : ∀ p ∈ l, RoutedG (sparseStoreSim ord hl) m p.1) :
    let a := runAdds (NewDDSketch m (⟨NewSparseStore⟩ : GSS ord) ⟨NewSparseStore⟩) l
    let b := runAdds (NewDDSketch m (Store.new .sparse) (Store.new .sparse)) l
    a.2 = b.2 ∧ SkSimG (sparseStoreSim ord hl) a.1 b.1 :=
  runAdds_paramG (sparseStoreSim ord hl) l (skSimG_new (sparseStoreSim ord hl) m ssim_new ssim_new) hr

/-- **the sparse sketch on regenerated code**: … and every observer agrees, for every lawful iteration order -/
theorem sparse_history_observers (ord : MapOrder) (hl : ord.Lawful) (m : M) (l : List (F64 × F64))
    (hr : ∀ p ∈ l, RoutedG (sparseStoreSim ord hl) m p.1) :
    let a := runAdds (NewDDSketch m (⟨NewSparseStore⟩ : GSS ord) ⟨NewSparseStore⟩) l
    let b := runAdds (NewDDSketch m (Store.new .sparse) (Store.new .sparse)) l
    a.2 = b.2 ∧ DDSketch.GetCount a.1 = DDSketch.GetCount b.1 ∧ DDSketch.IsEmpty a.1 = DDSketch.IsEmpty b.1 ∧
    (∀ q, DDSketch.GetValueAtQuantile a.1 q = DDSketch.GetValueAtQuantile b.1 q) ∧
    DDSketch.GetMinValue a.1 = DDSketch.GetMinValue b.1 ∧ DDSketch.GetMaxValue a.1 = DDSketch.GetMaxValue b.1 :=
  history_observers_paramG (sparseStoreSim ord hl) m ssim_new ssim_new l hr

theorem sparse_AddWithCount_param (hl : ord.Lawful) {a : DDSketch M (GSS ord)} {b : DDSketch M Store}
    (h : SkSimG (sparseStoreSim ord hl) a b) (v c : F64) (hv : RoutedG (sparseStoreSim ord hl) b.IndexMapping v) :
    (DDSketch.AddWithCount a v c).2 = (DDSketch.AddWithCount b v c).2 ∧
      SkSimG (sparseStoreSim ord hl) (DDSketch.AddWithCount a v c).1 (DDSketch.AddWithCount b v c).1 :=
  AddWithCount_paramG (sparseStoreSim ord hl) h v c hv

end sketch

end DDS.GenSparseSketch

/-! ### `SparseStore.MergeWith` with the regenerated paginated store as its argument -/

namespace DDS.GenDecodeWrap

open DDS DDS.GoSem DDS.GenSparse DDS.Gen.Sparse DDS.Gen.SparseMerge

theorem sparse_mergeWith_pag (grow : Int → Int → Int) (fuel : Nat) (g : SparseStore) (c : Content) (h : Rep g c)
    (x : GenPagSketch.GPS grow) (hpos : ∀ p ∈ (GenPag.ofGen x.g).binsList, 0 ≤ p.2) :
    SparseStore.MergeWith fuel g x = .ok ⟨c.merge (GenPag.ofGen x.g).binsList⟩ :=
  (sparse_mergeWith_any fuel g c h x _ rfl hpos).1

end DDS.GenDecodeWrap
