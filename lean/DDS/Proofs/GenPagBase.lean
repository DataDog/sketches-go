/-
  DDS.Proofs.GenPagBase — the regenerated buffered-paginated store (`DDS/Generated/CodePaginated.lean`)
  against the hand-written model `DDS.PStore`: page arithmetic, `page`, constructor, `IsEmpty`, `TotalCount`,
  `Clear`, `Copy`.  Everything is proved for ALL stores `s`, capacities `cap` and integers; no store invariant
  is assumed anywhere.

  * `andInt_mask`, `andInt_neg_pow`: `GoSem.andInt` with a mask `2^k - 1` is `mod 2^k`, with `-(2^k)` it is
    `⌊· / 2^k⌋ * 2^k`, negative arguments included; `gen_pageIndex`, `gen_lineIndex`, `gen_index`,
    `gen_newPagesLen`, `gen_pageLen` transfer the generated page arithmetic to the model's.
  * `addAtPage_opt`, `addAtPage_L`, `addAtPage_gen`: the generated code holds the page of a slot in an alias
    (`(s.pages.getD k #[]).toList`); its `pages[k][line] += c` — read the line, write the line, write the page back — is
    the model's `addAtPage`, inside a loop and as the last statement of a function.
  * `page_spec : PageSpec` — the interface statement of `GenPagDefs` is true as stated: with `pageFuel s p ≤ fuel`
    the generated `page` equals `toRes … (s.page p e)`, panics exactly when the model answers `none`, and never
    runs out of fuel.  Its only loop clears the `addedLen ≤ minPageIndex - p + 8` new slots of a left extension,
    whence `pageFuel`; the other branches need no fuel.  Both sides are cut at the same joints: the extension of
    the table (`gextend` / `PStore.extend`) followed by the read that materialises an empty page
    (`fetch` / `mfetch`).
  * `new_spec`, `isEmpty_spec`, `totalCount_spec`, `clear_spec`, `copy_spec` (the copy's capacity is its length;
    `Copy` materialises the non-empty pages only, an empty page stays nil, so the pages are equal).
  Generated code and model do not disagree on these functions.
-/
import DDS.Proofs.GenPagDefs
import DDS.Proofs.Paginated
import DDS.Proofs.PagSteps

namespace DDS.GenPag

open DDS DDS.GoSem DDS.GenDense

/-! ### slices and loops of `GoSem` -/

section slices
variable {α : Type}

theorem len_add_cons (pre : List α) (y x : α) (l : List α) :
    GoSem.len pre + GoSem.len (x :: l) = GoSem.len (pre ++ [y]) + GoSem.len l := by
  rw [len_cons, len_snoc, Int.add_right_comm, Int.add_assoc]

theorem zero_lt_len_cons (x : α) (l : List α) : 0 < GoSem.len (x :: l) := by
  rw [len_cons]; exact Int.lt_add_one_of_le (len_nonneg l)

theorem lt_add_len_cons (a : Int) (x : α) (l : List α) : a < a + GoSem.len (x :: l) :=
  Int.lt_add_of_pos_right a (zero_lt_len_cons x l)

theorem len_lt_append_cons (pre : List α) (x : α) (xs : List α) : GoSem.len pre < GoSem.len (pre ++ x :: xs) := by
  rw [len_append]; exact lt_add_len_cons _ x xs

/-- the length of a slice `a ++ r ++ j` re-sliced to drop a stale tail as long as the removed group `g` -/
theorem len_sub_group (a g r j : List α) (hj : j.length = g.length) :
    GoSem.len (a ++ r ++ j) + GoSem.len a - GoSem.len (a ++ g) = GoSem.len (a ++ r) := by
  rw [len_append, len_append a g, show GoSem.len j = GoSem.len g from congrArg Nat.cast hj]
  omega

end slices

theorem elimL_panic {σ σ' ρ : Type} (k : σ → Loop σ' ρ) : Loop.elimL (.panic : Loop σ ρ) k = .panic :=
  Loop.elimL_panic k

/-! ### `andInt` -/

theorem nat_or_mask (a k : Nat) : a ||| (2 ^ k - 1) = 2 ^ k * (a / 2 ^ k) + (2 ^ k - 1) := by
  apply Nat.eq_of_testBit_eq
  intro i
  rw [Nat.testBit_or, Nat.testBit_two_pow_mul_add _ (Nat.sub_lt (Nat.two_pow_pos k) Nat.one_pos),
    Nat.testBit_two_pow_sub_one, Nat.testBit_div_two_pow]
  by_cases h : i < k
  · rw [if_pos h, decide_eq_true h, Bool.or_true]
  · rw [if_neg h, decide_eq_false h, Bool.or_false, Nat.sub_add_cancel (Nat.le_of_not_lt h)]

theorem cast_two_pow (k : Nat) : (2 : Int) ^ k = ((2 ^ k : Nat) : Int) := (Int.natCast_pow 2 k).symm

theorem cast_mask (k : Nat) : (2 : Int) ^ k - 1 = ((2 ^ k - 1 : Nat) : Int) := by
  rw [Int.natCast_sub (Nat.two_pow_pos k), Int.natCast_pow]
  rfl

theorem andInt_mask (i : Int) (k : Nat) : GoSem.andInt i ((2 : Int) ^ k - 1) = i % (2 : Int) ^ k := by
  rw [cast_mask, cast_two_pow]
  cases i with
  | ofNat a =>
    show ((a &&& (2 ^ k - 1) : Nat) : Int) = _
    rw [Nat.and_two_pow_sub_one_eq_mod]; rfl
  | negSucc a =>
    show (((2 ^ k - 1) - ((2 ^ k - 1) &&& a) : Nat) : Int) = _
    rw [Nat.and_comm, Nat.and_two_pow_sub_one_eq_mod, Int.emod_negSucc, Int.natAbs_natCast, Int.subNatNat_eq_coe,
      Int.natCast_sub (Nat.le_sub_one_of_lt (Nat.mod_lt _ (Nat.two_pow_pos k))),
      Int.natCast_sub (Nat.two_pow_pos k)]
    omega

theorem andInt_neg_pow (x : Int) (k : Nat) :
    GoSem.andInt x (-((2 : Int) ^ k)) = x / (2 : Int) ^ k * (2 : Int) ^ k := by
  have hp := Nat.two_pow_pos k
  have hneg : -((2 : Int) ^ k) = Int.negSucc (2 ^ k - 1) := by
    rw [Int.negSucc_eq, ← cast_mask, Int.sub_add_cancel]
  rw [hneg, cast_two_pow]
  cases x with
  | ofNat a =>
    show ((a - (a &&& (2 ^ k - 1)) : Nat) : Int) = ((a / 2 ^ k * 2 ^ k : Nat) : Int)
    rw [Nat.and_two_pow_sub_one_eq_mod, Nat.sub_eq_of_eq_add (Nat.div_add_mod' a (2 ^ k)).symm]
  | negSucc a =>
    show Int.negSucc (a ||| (2 ^ k - 1)) = _
    rw [nat_or_mask, Int.negSucc_ediv _ (Int.natCast_pos.2 hp), Int.negSucc_eq,
      show (Int.ediv (a : Int) ((2 ^ k : Nat) : Int)) = ((a / 2 ^ k : Nat) : Int) from rfl,
      ← Int.natCast_succ, ← Int.natCast_succ, Int.neg_mul, ← Int.natCast_mul, Nat.succ_eq_add_one,
      Nat.succ_eq_add_one, Nat.add_assoc, Nat.sub_add_cancel hp, Nat.add_one_mul, Nat.mul_comm (2 ^ k)]

theorem andInt_neg8 (x : Int) : GoSem.andInt x (-8) = x / 8 * 8 := andInt_neg_pow x 3

/-! ### page arithmetic -/

theorem cast_pageLen (s : PStore) : ((s.pageLen : Nat) : Int) = (2 : Int) ^ s.pageLenLog2 := by
  simp [PStore.pageLen]

theorem gen_pageIndex (s : PStore) (cap : Int) (i : Int) :
    Gen.Paginated.BufferedPaginatedStore.pageIndex (toGen s cap) i = s.pageIndex i := by
  simp [Gen.Paginated.BufferedPaginatedStore.pageIndex, GoSem.shrInt, PStore.pageIndex, PStore.pageLen]

theorem gen_lineIndex (s : PStore) (cap : Int) (i : Int) :
    Gen.Paginated.BufferedPaginatedStore.lineIndex (toGen s cap) i = ((s.lineIndex i : Nat) : Int) := by
  have hp : (0 : Int) < (2 : Int) ^ s.pageLenLog2 := Int.pow_pos (by decide)
  simp only [Gen.Paginated.BufferedPaginatedStore.lineIndex, toGen_pageLenMask, andInt_mask, PStore.lineIndex,
    cast_pageLen]
  rw [Int.toNat_of_nonneg (Int.emod_nonneg _ (by omega))]

theorem gen_index (s : PStore) (cap : Int) (p l : Int) (hl : 0 ≤ l) :
    Gen.Paginated.BufferedPaginatedStore.index (toGen s cap) p l = s.index p l.toNat := by
  unfold Gen.Paginated.BufferedPaginatedStore.index PStore.index
  rw [Int.toNat_of_nonneg hl, cast_pageLen]
  rfl

theorem gen_index_nat (s : PStore) (cap : Int) (p : Int) (l : Nat) :
    Gen.Paginated.BufferedPaginatedStore.index (toGen s cap) p (l : Int) = s.index p l := by
  rw [gen_index _ _ _ _ (by omega)]; simp

theorem gen_newPagesLen (g : GP) (r : Int) :
    Gen.Paginated.BufferedPaginatedStore.newPagesLen g r = PStore.newPagesLen r := by
  simp only [Gen.Paginated.BufferedPaginatedStore.newPagesLen, PStore.newPagesLen, andInt_neg8]
  congr 2; omega

/-- the `pageLen` local of the generated functions -/
theorem gen_pageLen (s : PStore) (cap : Int) :
    (1 : Int) * (2 : Int) ^ (Int.toNat (toGen s cap).pageLenLog2) = ((s.pageLen : Nat) : Int) := by
  simp [PStore.pageLen]

/-! ### `pages` bridging -/

theorem len_pagesL (s : PStore) : GoSem.len (pagesL s) = (s.pages.size : Int) := by
  simp [GoSem.len, pagesL]

theorem length_pagesL (s : PStore) : (pagesL s).length = s.pages.size := by
  simp [pagesL]

theorem getElem?_pagesL (s : PStore) (k : Nat) : (pagesL s)[k]? = s.pages[k]?.map Array.toList := by
  simp [pagesL]

theorem idx_pagesL_nat (s : PStore) (k : Nat) (h : k < s.pages.size) :
    GoSem.idx (pagesL s) (k : Int) = some (s.pages.getD k #[]).toList := by
  rw [idx_natCast, getElem?_pagesL, Array.getD_eq_getD_getElem?, Array.getElem?_eq_getElem h]
  rfl

theorem idx_pagesL (s : PStore) (k : Int) (h0 : 0 ≤ k) (h1 : k < (s.pages.size : Int)) :
    GoSem.idx (pagesL s) k = some (s.pages.getD k.toNat #[]).toList := by
  obtain ⟨j, rfl⟩ := Int.eq_ofNat_of_zero_le h0
  exact idx_pagesL_nat s j (Int.ofNat_lt.1 h1)

theorem set_pagesL_nat (s : PStore) (k : Nat) (a : Array Rat) :
    GoSem.set (pagesL s) (k : Int) a.toList
      = if k < s.pages.size then some (pagesL { s with pages := s.pages.setIfInBounds k a }) else none := by
  rw [set_natCast, length_pagesL]
  simp [pagesL, List.map_set]

theorem toGen_pages_eq (s : PStore) (cap : Int) (a : Array (Array Rat)) :
    ({ toGen s cap with pages := pagesL { s with pages := a } } : GP) = toGen { s with pages := a } cap := rfl

theorem pagesL_mk (b : List Int) (t : Nat) (a : Array (Array Rat)) (m : Int) (l : Nat) :
    pagesL { buffer := b, trigger := t, pages := a, minPageIndex := m, pageLenLog2 := l } = a.toList.map Array.toList := rfl

theorem len_toList_beq_zero (a : Array Rat) : (GoSem.len a.toList == (0 : Int)) = decide (a.size = 0) := by
  rw [len_toList, Bool.eq_iff_iff, beq_iff_eq, decide_eq_true_eq, Int.natCast_eq_zero]

theorem pagesL_append_empty (s : PStore) (n : Nat) :
    pagesL s ++ List.replicate n [] = pagesL { s with pages := s.pages ++ Array.replicate n #[] } := by
  simp [pagesL]

theorem pagesL_empty_append (s : PStore) (n : Nat) :
    List.replicate n [] ++ pagesL s = pagesL { s with pages := Array.replicate n #[] ++ s.pages } := by
  simp [pagesL]

/-! ### `pages[k][line] += c` -/

/-- the model's `pages[k][line] += c`, by its test -/
theorem addAtPage_def (s : PStore) (k line : Nat) (c : Rat) :
    s.addAtPage k line c = if k < s.pages.size ∧ line < (s.pages.getD k #[]).size then
      some { s with pages := s.pages.setIfInBounds k ((s.pages.getD k #[]).setIfInBounds line ((s.pages.getD k #[]).getD line 0 + c)) }
    else none := rfl

/-- the generated code holds `pages[k]` in an alias: it reads the line, writes the line, writes the page back.
    The three checked operations succeed together exactly when the model's `addAtPage` does. -/
theorem addAtPage_opt (s : PStore) (k line : Nat) (c : Rat) :
    ((GoSem.idx (s.pages.getD k #[]).toList (line : Int)).bind fun t =>
      (GoSem.set (s.pages.getD k #[]).toList (line : Int) (t + c)).bind fun pg =>
        (GoSem.set (pagesL s) (k : Int) pg).map fun t2 => (pg, t2))
      = (s.addAtPage k line c).map fun s' => ((s'.pages.getD k #[]).toList, pagesL s') := by
  rw [addAtPage_def, idx_natCast, Array.getElem?_toList]
  by_cases hl : line < (s.pages.getD k #[]).size
  · rw [Array.getElem?_eq_getElem hl, ← PStore.getD_of_lt _ _ hl, Option.bind_some, set_natCast, Array.length_toList,
      if_pos hl, Option.bind_some, ← Array.toList_setIfInBounds, set_pagesL_nat]
    by_cases hk : k < s.pages.size
    · rw [if_pos hk, if_pos ⟨hk, hl⟩, Option.map_some, Option.map_some, PStore.getD_setIfInBounds, if_pos ⟨rfl, hk⟩]
    · rw [if_neg hk, if_neg fun h => hk h.1]
      rfl
  · rw [Array.getElem?_eq_none (Nat.le_of_not_lt hl), if_neg fun h => hl h.2]
    rfl

/-- … inside a loop, continued by `K` with the new alias and the new store -/
theorem addAtPage_L {σ ρ : Type} (s : PStore) (cap : Int) (k line : Nat) (c : Rat) (K : List Rat → GP → Loop σ ρ) :
    optL (GoSem.idx (s.pages.getD k #[]).toList (line : Int)) (fun t =>
      optL (GoSem.set (s.pages.getD k #[]).toList (line : Int) (t + c)) (fun pg =>
        optL (GoSem.set (toGen s cap).pages (k : Int) pg) (fun t2 => K pg { toGen s cap with pages := t2 })))
      = match s.addAtPage k line c with
        | none => .panic
        | some s' => K (s'.pages.getD k #[]).toList (toGen s' cap) := by
  have h := congrArg (optL · fun r : List Rat × List (List Rat) => K r.1 { toGen s cap with pages := r.2 })
    (addAtPage_opt s k line c)
  simp only [optL_bind, optL_map] at h
  refine h.trans ?_
  rw [addAtPage_def]
  split <;> rfl

/-- … and as the last statement of a function -/
theorem addAtPage_gen (s : PStore) (cap : Int) (k line : Nat) (c : Rat) :
    optR (GoSem.idx (s.pages.getD k #[]).toList (line : Int)) (fun t =>
      optR (GoSem.set (s.pages.getD k #[]).toList (line : Int) (t + c)) (fun pg =>
        optR (GoSem.set (toGen s cap).pages (k : Int) pg) (fun t2 =>
          .ok ({ toGen s cap with pages := t2 } : GP))))
      = toRes (fun s' => toGen s' cap) (s.addAtPage k line c) := by
  have h := congrArg (optR · fun r : List Rat × List (List Rat) => .ok ({ toGen s cap with pages := r.2 } : GP))
    (addAtPage_opt s k line c)
  simp only [optR_bind, optR_map] at h
  refine h.trans ?_
  rw [addAtPage_def]
  split <;> rfl

/-! ### `page` -/

section page
open Gen.Paginated

theorem page_loop1 (b : List Int) (c t m l k : Int) (post : List (List Rat)) :
    ∀ (mid pre : List (List Rat)) (fuel : Nat), mid.length < fuel →
    BufferedPaginatedStore.page.loop1 (GoSem.len pre + GoSem.len mid) fuel ⟨b, c, t, pre ++ (mid ++ post), m, l, k⟩
        (GoSem.len pre)
      = .done (⟨b, c, t, pre ++ (List.replicate mid.length [] ++ post), m, l, k⟩, GoSem.len pre + GoSem.len mid) := by
  intro mid
  induction mid with
  | nil =>
    intro pre fuel hf
    cases fuel with
    | zero => cases hf
    | succ f =>
      unfold BufferedPaginatedStore.page.loop1
      rw [len_nil, Int.add_zero, if_neg (by rw [decide_eq_true_eq]; exact Int.lt_irrefl _)]
      rfl
  | cons x mid ih =>
    intro pre fuel hf
    cases fuel with
    | zero => cases hf
    | succ f =>
      unfold BufferedPaginatedStore.page.loop1
      rw [if_pos (decide_eq_true (lt_add_len_cons _ x mid)), List.cons_append, set_len_append, optL_some]
      dsimp only
      rw [List.append_cons pre [] (mid ++ post), ← len_snoc pre [], len_add_cons pre [],
        ih (pre ++ [[]]) f (Nat.lt_of_succ_lt_succ hf), List.append_assoc pre]
      rfl

/-- the tail of every `ensureExists` branch of the generated `page`: read the slot, materialise an empty page -/
def fetch (L : Int) (g : GP) (p : Int) : Res (GP × List Rat) :=
  GoSem.optR (GoSem.idx g.pages (p - g.minPageIndex)) (fun page =>
    if ((GoSem.len page) == (0 : Int)) then
      GoSem.optR (GoSem.mkSlice L (0 : Rat)) (fun t2 =>
        GoSem.optR (GoSem.set g.pages (p - g.minPageIndex) (page ++ t2)) (fun t3 =>
          .ok ({ g with pages := t3 }, page ++ t2)))
    else .ok (g, page))

/-- the extension of the page table in the generated `page` (slot out of range, `ensureExists`), continued by `k` -/
def gextend (fuel : Nat) (g : GP) (p : Int) (k : GP → Res (GP × List Rat)) : Res (GP × List Rat) :=
  if decide (p < g.minPageIndex) then
    if g.minPageIndex == (9223372036854775807 : Int) then
      let g1 : GP := if GoSem.len g.pages == (0 : Int) then
          { g with pages := g.pages ++ List.replicate (Int.toNat (BufferedPaginatedStore.newPagesLen g 1)) [] }
        else g
      k { g1 with minPageIndex := p - Int.tdiv (GoSem.len g1.pages) 2 }
    else
      let addedLen := BufferedPaginatedStore.newPagesLen g (g.minPageIndex - p + 1 + GoSem.len g.pages) - GoSem.len g.pages
      GoSem.optR (GoSem.mkSlice addedLen ([] : List Rat)) (fun t4 =>
        GoSem.optR (GoSem.copyWithin (g.pages ++ t4) addedLen 0 (GoSem.len (g.pages ++ t4))) (fun t6 =>
          Loop.elim (BufferedPaginatedStore.page.loop1 addedLen fuel { g with pages := t6 } 0) (fun si =>
            k { si.1 with minPageIndex := si.1.minPageIndex - addedLen })))
  else
    GoSem.optR (GoSem.mkSlice (BufferedPaginatedStore.newPagesLen g (p - g.minPageIndex + 1) - GoSem.len g.pages)
        ([] : List Rat)) (fun t7 =>
      k { g with pages := g.pages ++ t7 })

/-- the range test of the generated `page` -/
def inRange (g : GP) (p : Int) : Bool :=
  (decide (g.minPageIndex ≤ p)) && (decide (p < (g.minPageIndex + (GoSem.len g.pages))))

/-- the generated `page`, with its four copies of the final read-and-materialise step folded into `fetch` -/
theorem page_eq (fuel : Nat) (g : GP) (p : Int) (e : Bool) :
    BufferedPaginatedStore.page fuel g p e =
      if inRange g p then
        if e then fetch ((1 : Int) * (2 : Int) ^ (Int.toNat g.pageLenLog2)) g p
        else GoSem.optR (GoSem.idx g.pages (p - g.minPageIndex)) (fun page => .ok (g, page))
      else if e then gextend fuel g p (fetch ((1 : Int) * (2 : Int) ^ (Int.toNat g.pageLenLog2)) · p)
      else .ok (g, []) := by
  cases e <;> rfl

/-! The model's `page` is cut at the same joints. -/

/-- the model counterpart of `fetch`: the last step of `PStore.page` -/
def mfetch (s : PStore) (p : Int) : Option (PStore × Option Nat) :=
  let k := p - s.minPageIndex
  if 0 ≤ k ∧ k < (s.pages.size : Int) then some (s.materialize k.toNat, some k.toNat) else none

/-- the page table and its origin after the model's extension, which reads and writes nothing else -/
def extendTable (A : Array (Array Rat)) (m p : Int) : Option (Array (Array Rat) × Int) :=
  (PStore.extend ⟨[], 0, A, m, 0⟩ p).map fun r => (r.pages, r.minPageIndex)

theorem extend_eq (s : PStore) (p : Int) :
    PStore.extend s p
      = (extendTable s.pages s.minPageIndex p).map fun am => { s with pages := am.1, minPageIndex := am.2 } := by
  unfold extendTable PStore.extend
  simp only [apply_ite (Option.map _), Option.map_some, Option.map_none]
  refine ite_congr rfl (fun _ => ite_congr rfl (fun _ => ?_) fun _ => rfl) fun _ => rfl
  split <;> rfl

/-- the model's `page` with `ensureExists`: the table is extended unless the slot exists, then the slot is read -/
theorem page_true (s : PStore) (p : Int) :
    s.page p true = (if (s.slot? p).isSome then some s else PStore.extend s p).bind (mfetch · p) := by
  cases hs : s.slot? p with
  | some k =>
    obtain ⟨h1, h2, rfl⟩ := (PStore.slot?_eq_some s p k).1 hs
    unfold PStore.page mfetch
    rw [hs, Option.isSome_some, if_pos rfl, Option.bind_some]
    dsimp only
    rw [if_pos rfl, if_neg (PStore.materialize_size_ne s _ (PStore.slot?_lt s p _ hs)),
      if_pos ⟨Int.sub_nonneg.2 h1, Int.sub_left_lt_of_lt_add h2⟩]
  | none =>
    rw [PStore.page_of_slot_none s p hs]
    cases PStore.extend s p <;> rfl

/-- the model's `page` without `ensureExists`: the store is unchanged, the answer is the slot if it holds a page -/
theorem page_false (s : PStore) (p : Int) :
    s.page p false
      = some (s, (s.slot? p).bind fun k => if (s.pages.getD k #[]).size = 0 then none else some k) := by
  unfold PStore.page
  cases s.slot? p <;> rfl

theorem pageOf_slot (s : PStore) (k : Nat) :
    pageOf s (if (s.pages.getD k #[]).size = 0 then none else some k) = (s.pages.getD k #[]).toList := by
  split
  · exact (List.eq_nil_of_length_eq_zero (by rwa [Array.length_toList])).symm
  · rfl

theorem fetch_spec (s : PStore) (cap : Int) (p : Int) :
    fetch (s.pageLen : Int) (toGen s cap) p
      = toRes (fun (r : PStore × Option Nat) => (toGen r.1 cap, pageOf r.1 r.2)) (mfetch s p) := by
  unfold fetch mfetch
  rw [toGen_pages, toGen_minPageIndex]
  generalize p - s.minPageIndex = j
  by_cases h : 0 ≤ j ∧ j < (s.pages.size : Int)
  · obtain ⟨k, rfl⟩ := Int.eq_ofNat_of_zero_le h.1
    have hk : k < s.pages.size := Int.ofNat_lt.1 h.2
    rw [if_pos h, idx_pagesL_nat s k hk, optR_some, len_toList_beq_zero, Int.toNat_natCast, toRes_some]
    unfold PStore.materialize
    by_cases hz : (s.pages.getD k #[]).size = 0
    · rw [if_pos hz, if_pos (decide_eq_true hz), mkSlice_natCast, optR_some,
        List.eq_nil_of_length_eq_zero ((s.pages.getD k #[]).length_toList.trans hz), List.nil_append]
      show optR (GoSem.set (pagesL s) (k : Int) s.zeroPage.toList) _ = _
      rw [set_pagesL_nat, if_pos hk, optR_some]
      simp only [pageOf, PStore.getD_setIfInBounds, hk, and_self, if_true]
      rfl
    · rw [if_neg hz, if_neg (decide_eq_false hz ▸ Bool.false_ne_true)]
      rfl
  · rw [if_neg h, idx_eq_none _ _ (length_pagesL s ▸ h)]
    rfl

theorem fetch_spec' (s : PStore) (cap : Int) (p : Int) (L : Int) (hL : L = (s.pageLen : Int)) :
    fetch L (toGen s cap) p
      = toRes (fun (r : PStore × Option Nat) => (toGen r.1 cap, pageOf r.1 r.2)) (mfetch s p) := by
  subst hL; exact fetch_spec s cap p

theorem gextend_spec (s : PStore) (cap p : Int) (fuel : Nat) (hf : pageFuel s p ≤ fuel)
    (k : GP → Res (GP × List Rat)) :
    gextend fuel (toGen s cap) p k
      = match PStore.extend s p with
        | none => .panic
        | some s' => k (toGen s' cap) := by
  unfold gextend PStore.extend
  -- `instances`: the `Decidable` instances of the generated tests mention the same projections
  dsimp (config := { instances := true }) only [toGen_minPageIndex, toGen_pages, toGen_buffer, toGen_bufferCap,
    toGen_trigger, toGen_pageLenLog2, toGen_pageLenMask]
  simp only [len_pagesL, gen_newPagesLen]
  by_cases hlt : p < s.minPageIndex
  · rw [if_pos hlt, if_pos (decide_eq_true hlt)]
    by_cases hmax : s.minPageIndex = maxInt
    · rw [if_pos hmax, if_pos (show (s.minPageIndex == (9223372036854775807 : Int)) = true from beq_iff_eq.2 hmax)]
      by_cases hz : s.pages.size = 0
      · rw [if_pos hz]
        simp only [hz, Int.natCast_zero, beq_self_eq_true, if_true]
        rw [pagesL_append_empty, len_pagesL]
        rw [Array.eq_empty_of_size_eq_zero hz, Array.empty_append]
        rfl
      · rw [if_neg hz]
        simp only [Int.natCast_eq_zero, beq_iff_eq, hz, if_false, toGen_pages, len_pagesL]
        rfl
    · rw [if_neg hmax, if_neg (show ¬ (s.minPageIndex == (9223372036854775807 : Int)) = true from mt beq_iff_eq.1 hmax)]
      have hle : PStore.newPagesLen (s.minPageIndex - p + 1 + (s.pages.size : Int)) - (s.pages.size : Int)
          ≤ s.minPageIndex - p + 8 := by
        have := (PStore.newPagesLen_bounds (s.minPageIndex - p + 1 + (s.pages.size : Int))).2
        omega
      generalize PStore.newPagesLen (s.minPageIndex - p + 1 + (s.pages.size : Int)) - (s.pages.size : Int) = added at hle ⊢
      by_cases hneg : added < 0
      · rw [if_pos hneg, mkSlice_neg _ _ hneg]
        rfl
      · obtain ⟨n, rfl⟩ := Int.eq_ofNat_of_zero_le (Int.not_lt.1 hneg)
        have hfuel : n < fuel := by
          unfold pageFuel at hf
          rw [if_neg (by omega)] at hf
          omega
        have hmid : ((pagesL s ++ List.replicate n ([] : List Rat)).take n).length = n := by
          rw [List.length_take, List.length_append, List.length_replicate]
          exact Nat.min_eq_left (Nat.le_add_left _ _)
        have hloop := page_loop1 s.buffer cap s.trigger s.minPageIndex s.pageLenLog2 ((2 : Int) ^ s.pageLenLog2 - 1)
          (pagesL s) _ [] fuel (hmid.symm ▸ hfuel)
        rw [len_nil, Int.zero_add, List.nil_append, List.nil_append, GoSem.len, hmid] at hloop
        rw [if_neg hneg, mkSlice_natCast, optR_some, copyWithin_grow _ _ n List.length_replicate, optR_some, hloop,
          Loop.elim_done, pagesL_empty_append, Int.toNat_natCast]
        rfl
  · rw [if_neg hlt, if_neg (show ¬ decide (p < s.minPageIndex) = true from mt of_decide_eq_true hlt)]
    generalize PStore.newPagesLen (p - s.minPageIndex + 1) - (s.pages.size : Int) = added
    by_cases hneg : added < 0
    · rw [if_pos hneg, mkSlice_neg _ _ hneg]
      rfl
    · obtain ⟨n, rfl⟩ := Int.eq_ofNat_of_zero_le (Int.not_lt.1 hneg)
      rw [if_neg hneg, mkSlice_natCast, optR_some, Int.toNat_natCast, pagesL_append_empty]
      rfl

theorem inRange_toGen (s : PStore) (cap : Int) (p : Int) :
    inRange (toGen s cap) p = decide (s.minPageIndex ≤ p ∧ p < s.minPageIndex + (s.pages.size : Int)) := by
  unfold inRange
  rw [toGen_minPageIndex, toGen_pages, len_pagesL, Bool.decide_and]

theorem page_spec : PageSpec := by
  intro s cap p e fuel hf
  rw [page_eq, inRange_toGen, gen_pageLen]
  cases e with
  | true =>
    rw [if_pos rfl, if_pos rfl, page_true]
    cases hs : s.slot? p with
    | some k =>
      obtain ⟨h1, h2, -⟩ := (PStore.slot?_eq_some s p k).1 hs
      rw [if_pos (decide_eq_true ⟨h1, h2⟩), fetch_spec]
      rfl
    | none =>
      rw [if_neg (mt of_decide_eq_true ((PStore.slot?_eq_none s p).1 hs)), gextend_spec s cap p fuel hf, extend_eq]
      cases extendTable s.pages s.minPageIndex p with
      | none => rfl
      | some am => exact fetch_spec _ cap p
  | false =>
    rw [page_false, toRes_some]
    cases hs : s.slot? p with
    | some k =>
      obtain ⟨h1, h2, hk⟩ := (PStore.slot?_eq_some s p k).1 hs
      rw [if_pos (decide_eq_true ⟨h1, h2⟩), Option.bind_some, pageOf_slot, hk, toGen_pages, toGen_minPageIndex,
        idx_pagesL s _ (Int.sub_nonneg.2 h1) (Int.sub_left_lt_of_lt_add h2)]
      rfl
    | none =>
      rw [if_neg (mt of_decide_eq_true ((PStore.slot?_eq_none s p).1 hs))]
      rfl

end page

/-! ### the constructor, `IsEmpty`, `TotalCount` -/

section observers
open Gen.Paginated

theorem new_spec : NewBufferedPaginatedStore = toGen PStore.new 4 := by
  rfl

theorem isEmpty_loop2 (l : List Rat) (u : Unit) :
    BufferedPaginatedStore.IsEmpty.loop2 l u = if l.all (fun c => !(c > 0)) then .done () else .ret false := by
  induction l with
  | nil => rfl
  | cons c r ih =>
    unfold BufferedPaginatedStore.IsEmpty.loop2
    rw [List.all_cons]
    by_cases hc : (0 : Rat) < c
    · rw [if_pos (decide_eq_true hc), decide_eq_true (show c > 0 from hc)]
      rfl
    · rw [if_neg (mt of_decide_eq_true hc), ih, decide_eq_false (show ¬ c > 0 from hc)]
      rfl

theorem isEmpty_loop1 (ls : List (List Rat)) (u : Unit) :
    BufferedPaginatedStore.IsEmpty.loop1 ls u
      = if ls.all (fun l => l.all (fun c => !(c > 0))) then .done () else .ret false := by
  induction ls with
  | nil => rfl
  | cons l r ih =>
    unfold BufferedPaginatedStore.IsEmpty.loop1
    dsimp only
    rw [isEmpty_loop2, List.all_cons]
    cases l.all (fun c => !(c > 0))
    · rfl
    · exact ih

theorem isEmpty_spec (s : PStore) (cap : Int) (fuel : Nat) :
    BufferedPaginatedStore.IsEmpty fuel (toGen s cap) = .ok s.isEmpty := by
  unfold BufferedPaginatedStore.IsEmpty PStore.isEmpty
  have hp : (pagesL s).all (fun l => l.all (fun c => !(c > 0)))
      = s.pages.all (fun pg => pg.all (fun c => !(c > 0))) := by
    unfold pagesL
    rw [← Array.all_toList, List.all_map]
    exact congrArg (List.all s.pages.toList) (funext fun pg => Array.all_toList)
  dsimp only
  rw [toGen_buffer, toGen_pages, isEmpty_loop1, hp]
  cases s.buffer with
  | nil => cases s.pages.all (fun pg => pg.all (fun c => !(c > 0))) <;> rfl
  | cons x xs =>
    rw [if_pos (decide_eq_true (zero_lt_len_cons x xs))]
    rfl

theorem totalCount_loop2 (l : List Rat) (acc : Rat) :
    BufferedPaginatedStore.TotalCount.loop2 l acc = .done (l.foldl (· + ·) acc) := by
  induction l generalizing acc with
  | nil => rfl
  | cons c r ih => exact ih _

theorem totalCount_loop1 (ls : List (List Rat)) (acc : Rat) :
    BufferedPaginatedStore.TotalCount.loop1 ls acc = .done (ls.foldl (fun acc l => l.foldl (· + ·) acc) acc) := by
  induction ls generalizing acc with
  | nil => rfl
  | cons c r ih =>
    unfold BufferedPaginatedStore.TotalCount.loop1
    rw [totalCount_loop2]
    exact ih _

theorem totalCount_spec (s : PStore) (cap : Int) (fuel : Nat) :
    BufferedPaginatedStore.TotalCount fuel (toGen s cap) = .ok s.totalCount := by
  unfold BufferedPaginatedStore.TotalCount PStore.totalCount
  dsimp only
  rw [toGen_pages, totalCount_loop1, Loop.elim_done]
  unfold pagesL
  rw [List.foldl_map, ← Array.foldl_toList]
  exact congrArg Res.ok (congrArg (fun f => List.foldl f _ s.pages.toList)
    (funext fun acc => funext fun pg => Array.foldl_toList ..))

end observers

/-! ### `Clear`, `Copy` -/

section mutators
open Gen.Paginated

theorem clear_loop1 (b : List Int) (c t m l k : Int) : ∀ (rest pre : List (List Rat)),
    BufferedPaginatedStore.Clear.loop1 rest (GoSem.len pre) ⟨b, c, t, pre ++ rest, m, l, k⟩
      = .done ⟨b, c, t, pre ++ rest.map (fun _ => []), m, l, k⟩ := by
  intro rest
  induction rest with
  | nil => intro pre; rfl
  | cons x r ih =>
    intro pre
    unfold BufferedPaginatedStore.Clear.loop1
    rw [idx_len_append, optL_some, sliceTo_zero, optL_some, set_len_append, optL_some]
    dsimp only
    rw [List.append_cons pre [] r, ← len_snoc pre [], ih (pre ++ [[]]), List.append_assoc]
    rfl

theorem clear_spec (s : PStore) (cap : Int) (fuel : Nat) :
    BufferedPaginatedStore.Clear fuel (toGen s cap) = .ok (toGen s.clear cap) := by
  unfold BufferedPaginatedStore.Clear
  rw [sliceTo_zero, optR_some]
  exact (congrArg (Loop.elim · _) (clear_loop1 [] cap s.trigger s.minPageIndex s.pageLenLog2 _ (pagesL s) [])).trans
    (congrArg Res.ok (by unfold PStore.clear toGen pagesL; simp only [maxInt, Array.toList_map, List.map_map]; rfl))

theorem copy_loop1 : ∀ (rest pre : List (List Rat)),
    BufferedPaginatedStore.Copy.loop1 rest (GoSem.len pre) (pre ++ List.replicate rest.length ([] : List Rat))
      = .done (pre ++ rest) := by
  intro rest
  induction rest with
  | nil => intro pre; rfl
  | cons x r ih =>
    intro pre
    unfold BufferedPaginatedStore.Copy.loop1
    rw [List.length_cons, List.replicate_succ, List.append_cons pre x r, ← ih (pre ++ [x]), len_snoc]
    cases x with
    | nil => rw [List.append_cons pre []]; rfl
    | cons y ys =>
      rw [if_pos (decide_eq_true (zero_lt_len_cons y ys)),
        show GoSem.len (y :: ys) = ((y :: ys).length : Nat) from rfl, mkSlice_natCast, optL_some]
      dsimp only
      rw [copySlice_replicate, set_len_append, optL_some, List.append_cons pre (y :: ys)]

theorem copy_spec (s : PStore) (cap : Int) (fuel : Nat) :
    BufferedPaginatedStore.Copy fuel (toGen s cap) = .ok (toGen s (s.buffer.length : Int)) := by
  unfold BufferedPaginatedStore.Copy
  rw [show GoSem.len (toGen s cap).buffer = (s.buffer.length : Nat) from rfl, mkSlice_natCast, optR_some,
    show GoSem.len (toGen s cap).pages = ((pagesL s).length : Nat) from rfl, mkSlice_natCast, optR_some]
  dsimp only
  have h := copy_loop1 (pagesL s) []
  rw [List.nil_append, List.nil_append] at h
  rw [toGen_pages, show (0 : Int) = GoSem.len ([] : List (List Rat)) from rfl, h, toGen_buffer, copySlice_replicate]
  rfl

end mutators
end DDS.GenPag
