/-
  DDS.Proofs.MapId — helper lemmas about the identity of an index mapping (`MapId`): its two
  serialized forms (mapping block of the binary format, `IndexMapping` protobuf message) and
  the tolerance comparison `MapId.equals`.
-/
import DDS.Proofs.Num
import DDS.Proofs.Wire
import DDS.Model.Proto
import DDS.Proofs.F64Cmp

namespace DDS
namespace MapId
open F64

/-! ### bit patterns -/

theorem ofNat_toBits (x : F64) : UInt64.ofNat x.toBits.toNat = x.toBits := UInt64.ofNat_toNat

theorem toBits_lt (x : F64) : x.toBits.toNat < W64 := x.toBits.toNat_lt

/-! ### kinds and sub-flags -/

theorem subFlag_le (k : MKind) : subFlag k ≤ 4 := by cases k <;> decide

theorem kind_of_subFlag (k : MKind) :
    (if subFlag k = Consts.subFlagIndexMappingBaseLogarithmic then some MKind.log
      else if subFlag k = Consts.subFlagIndexMappingBaseLinear then some MKind.linear
      else if subFlag k = Consts.subFlagIndexMappingBaseCubic then some MKind.cubic
      else none) = some k := by
  cases k <;> decide

theorem kind_of_interpolation (k : MKind) :
    (if Proto.interpolationOf k = 0 then some MKind.log
      else if Proto.interpolationOf k = 1 then some MKind.linear
      else if Proto.interpolationOf k = 3 then some MKind.cubic else none) = some k := by
  cases k <;> decide

/-! ### the mapping block of the binary format -/

theorem parseBlock_encBlock_mapping (sub g o : Nat) (hs : sub ≤ 4) (hg : g < W64) (ho : o < W64)
    (rest : Bytes) :
    Wire.parseBlock (Wire.encBlock (.mapping sub g o) ++ rest) = .ok (.mapping sub g o, rest) :=
  Wire.parseBlock_encBlock (.mapping sub g o) ⟨hs, hg, ho⟩ rest

/-! ### `ofBlock` -/

theorem ofBlock_toBlock (m : MapId)
    (hg : F64.ofBits (F64.toBits m.gamma) = m.gamma)
    (ho : F64.ofBits (F64.toBits m.indexOffset) = m.indexOffset)
    (h1 : F64.le m.gamma (.fin 1) = false) :
    ofBlock (subFlag m.kind) m.gamma.toBits.toNat m.indexOffset.toBits.toNat = .ok m := by
  unfold ofBlock
  simp only [kind_of_subFlag, ofNat_toBits, hg, ho, h1]
  rfl

theorem ofBlock_unknown (sub g o : Nat)
    (h0 : sub ≠ 0) (h1 : sub ≠ 1) (h3 : sub ≠ 3) : ofBlock sub g o = .error .unknownMapping :=
  Sketch.ofBlock_unknown sub g o fun h => Or.elim h h0 fun h => Or.elim h h1 h3

theorem ofBlock_gamma_le_one (sub g o : Nat) (hs : sub = 0 ∨ sub = 1 ∨ sub = 3)
    (hg : F64.le (F64.ofBits (UInt64.ofNat g)) (.fin 1) = true) :
    ofBlock sub g o = .error .gammaTooSmall := by
  unfold ofBlock
  have e0 : Consts.subFlagIndexMappingBaseLogarithmic = 0 := rfl
  have e1 : Consts.subFlagIndexMappingBaseLinear = 1 := rfl
  have e3 : Consts.subFlagIndexMappingBaseCubic = 3 := rfl
  rcases hs with h | h | h <;> subst h <;> simp [e0, e1, e3, hg]

/-! ### the protobuf form -/

theorem mappingFromProto_mappingToProto (m : MapId)
    (hg : F64.ofBits (F64.toBits m.gamma) = m.gamma)
    (ho : F64.ofBits (F64.toBits m.indexOffset) = m.indexOffset)
    (h1 : F64.le m.gamma (.fin 1) = false) :
    Proto.mappingFromProto (some (Proto.mappingToProto m)) = .ok m := by
  unfold Proto.mappingFromProto Proto.mappingToProto Proto.f64bits
  simp only [kind_of_interpolation, ofNat_toBits, hg, ho, h1]
  rfl

/-! ### the tolerance comparison on finite floats -/

def tolQ : Rat := 4951760157141521 / 4951760157141521099596496896

theorem tol_eq : F64.ofBits 0x3d719799812dea11 = .fin tolQ := by
  unfold tolQ
  simp [F64.ofBits, pow2_eq_zpow]
  norm_num

theorem tolQ_pos : 0 < tolQ := by unfold tolQ; norm_num

theorem tolQ_lt : tolQ < 1 / 10^12 + 1 / 10^28 := by unfold tolQ; norm_num

theorem fabs_fin (x : Rat) : fabs (.fin x) = .fin |x| := by
  unfold fabs
  by_cases h : x < 0
  · simp [F64.lt, h, F64.neg, abs_of_neg h]
  · simp [F64.lt, h, abs_of_nonneg (not_lt.mp h)]

theorem fmaxF_fin (a b : Rat) : fmaxF (.fin a) (.fin b) = .fin (max a b) := by
  unfold fmaxF
  by_cases h : a < b
  · simp [F64.isNaN, F64.lt, h, max_eq_right h.le]
  · simp [F64.isNaN, F64.lt, h, max_eq_left (not_lt.mp h)]

theorem withinTolerance_symm (x y : Rat) :
    withinTolerance (.fin x) (.fin y) = withinTolerance (.fin y) (.fin x) := by
  unfold withinTolerance
  simp only [tol_eq, fabs_fin, fmaxF_fin, sub_fin]
  have hsub : fabs (roundF64 (x - y)) = fabs (roundF64 (y - x)) := by
    rw [show y - x = -(x - y) by ring, roundF64_neg]
    cases h : roundF64 (x - y) with
    | fin q => simp [F64.neg, fabs_fin]
    | pinf => simp [F64.neg, fabs, F64.lt]
    | ninf => simp [F64.neg, fabs, F64.lt]
    | nan => simp [F64.neg, fabs, F64.lt]
  rw [hsub, max_comm |y| |x|, Bool.or_comm (F64.eq (.fin y) (.fin 0)), Bool.and_comm (F64.le (.fin |y|) _)]

theorem withinTolerance_refl (x : Rat) : withinTolerance (.fin x) (.fin x) = true := by
  unfold withinTolerance
  simp only [tol_eq, fabs_fin, fmaxF_fin, sub_fin, sub_self, roundF64_zero, abs_zero, max_self]
  by_cases hx : x = 0
  · subst hx
    simp [eq_fin, le_fin, tolQ_pos.le]
  · have hm : F64.mul (.fin tolQ) (.fin |x|) = roundF64 (tolQ * |x|) := rfl
    have hnn : 0 ≤ tolQ * |x| := mul_nonneg tolQ_pos.le (abs_nonneg x)
    rw [hm]
    have : F64.le (.fin 0) (roundF64 (tolQ * |x|)) = true := by
      rw [le_iff_leX, ← roundF64_zero]; exact roundF64_leX hnn
    simp [eq_fin, hx, this]

/-! ### gammas that are far apart -/

theorem pow2_neg1022_le : pow2 (-1022) ≤ 1 / 10^13 := by
  have h1 : pow2 (-1022) ≤ pow2 (-44) := pow2_mono (by norm_num)
  have h2 : pow2 (-44) ≤ 1 / 10^13 := by
    rw [pow2_eq_zpow, show (-44 : Int) = -(44 : Nat) by norm_num, zpow_neg, zpow_natCast]
    norm_num
  exact le_trans h1 h2

/-- the numeric core: the relative gap `2·10⁻¹²/(1+2·10⁻¹²)`, even shrunk by one rounding, exceeds the
    tolerance enlarged by one rounding -/
theorem gap_const :
    tolQ * (1 + pow2 (-53)) < (1 - 1 / (1 + 2 / 10^12)) * (1 - pow2 (-53)) := by
  rw [pow2_neg53]; unfold tolQ; norm_num

theorem withinTolerance_apart (ga gb : Rat) (h1 : 1 ≤ ga) (hab : ga * (1 + 2 / 10^12) < gb)
    (hb' : gb ≤ pow2 1023) : withinTolerance (.fin ga) (.fin gb) = false := by
  have hga : 0 < ga := zero_lt_one.trans_le h1
  have hlt : ga < gb := (le_mul_of_one_le_right hga.le (by norm_num)).trans_lt hab
  have hgb : 1 < gb := h1.trans_lt hlt
  have hgb0 : 0 < gb := hga.trans hlt
  have htl : tolQ ≤ 1 := by unfold tolQ; norm_num
  have htl' : 1 / 10 ^ 13 ≤ tolQ := by unfold tolQ; norm_num
  have hp := pow2_neg1022_le
  have hgap : gb * (1 - 1 / (1 + 2 / 10^12)) ≤ gb - ga := by linarith only [hab]
  -- both roundings take place in the normal range
  obtain ⟨d, hd, hd0, -, hdlo, -⟩ := roundF64_pos_bounds (x := gb - ga) (j := -1022) (k := 1023)
    le_rfl le_rfl (by linarith only [hgap, hp, hgb]) (by linarith only [hb', hga])
  obtain ⟨m, hm, -, -, -, hmhi⟩ := roundF64_pos_bounds (x := tolQ * gb) (j := -1022) (k := 1023)
    le_rfl le_rfl
    (by linarith only [hp, htl', mul_le_mul_of_nonneg_left hgb.le tolQ_pos.le])
    (by linarith only [hb', mul_le_mul_of_nonneg_right htl hgb0.le])
  replace hd0 := (pow2_pos _).trans_le hd0
  have hkey : m < d :=
    calc m ≤ gb * (tolQ * (1 + pow2 (-53))) := by linarith only [hmhi]
      _ < gb * ((1 - 1 / (1 + 2 / 10^12)) * (1 - pow2 (-53))) :=
        mul_lt_mul_of_pos_left gap_const hgb0
      _ ≤ (gb - ga) * (1 - pow2 (-53)) := by
        rw [← mul_assoc]; exact mul_le_mul_of_nonneg_right hgap (by rw [pow2_neg53]; norm_num)
      _ ≤ d := hdlo
  unfold withinTolerance
  rw [tol_eq, sub_fin, show ga - gb = -(gb - ga) by ring, roundF64_neg, hd]
  simp [fabs_fin, fmaxF_fin, F64.neg, F64.mul, abs_of_pos, hga, hgb0, max_eq_right hlt.le, hm,
    le_fin, eq_fin, hga.ne', hgb0.ne', hkey, hd0]

end MapId
end DDS
