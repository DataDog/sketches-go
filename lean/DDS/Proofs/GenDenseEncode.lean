/-
  DDS.Proofs.GenDenseEncode — the REGENERATED binary encoder of the dense stores
  (`DDS.Gen.Dense.DenseStore.Encode`, `encodeDensely`, `encodeSparsely` in
  `DDS/Generated/CodeDense.lean`, translated from `/repo/ddsketch/store/dense_store.go` on every run;
  the two collapsing stores use it through the embedded `DenseStore`) writes exactly the bytes of the
  blocks that the HAND-WRITTEN model `DDS.Sketch.encodeDense` produces.

  1. the codecs and size functions that `GenEncoding` does not cover: `EncodeVarfloat64_eq`,
     `Uvarint64Size_eq`, `Varint64Size_eq/_ofInt`, `Varfloat64Size_eq`; the two size tables
     (`uvarint64Sizes`, `varfloat64Sizes`: `Res` values computed by the translated initialisers on
     `GoSem.initFuel`) are evaluated once by the kernel (`uvarint64Sizes_eval`, `varfloat64Sizes_eval`).
  2. the three loops over the window (`window_loop`), described for EVERY store: the generated code
     converts each index with `int64(…)` (`wrap64`, `deltaW`).
     `encodeDensely_eq`: flag, `numBins`, `minIndex`, stride 1, every count of the window.
     `encodeSparsely_bytes`: flag, `numNonEmptyBins`, (index delta from the previous non-empty index
     starting at 0, count) for every non-zero count of the window.
  3. the two sizes (`denseSize`, `sparseSize`) and the model's `encodeDense` in their terms (`encodeDense_some`);
     `Encode_sizes`: the size loop `Encode.loop1` computes the two sizes that `Encode` compares;
     `Encode_rel'` (main theorem), `Encode_empty`; the directions `Encode_panic`,
     `Encode_ok_iff` (panic ⇔ model `none`; never `.nofuel`), the `List Nat` form `Encode_nb`, the two
     flag types `Encode_pos` / `Encode_neg`.
     Corollaries with the model's C06 theorems: `DDS/Props/C06Gen.lean`.

  FUEL.  `encodeFuel s = (s.maxIndex - s.minIndex + 1).toNat + 10`: the width of the window for the
  loops, plus what a codec called from inside the last iteration still needs (9).

  HYPOTHESES of the main theorem (`EncRange s`, asked only of a non-empty store), none about the bins
  themselves:
  * `-(2^63) ≤ s.minIndex`, `s.maxIndex < 2^63`: Go converts with `int64(s.minIndex)` and (first
    sparse delta, from 0) `int64(index)`; the model's `varint64Size/encVarint64` take the unbounded
    `Int`.  Outside the range Go wraps around and the model does not.
  * `s.maxIndex - s.minIndex < 2^63`: the deltas `int64(index - previousIndex)` and
    `uint64(s.maxIndex - s.minIndex) + 1` (the model writes `counts.length`, unbounded).
  No hypothesis about the weights: `F64.fin w` crosses into the float codecs for every rational.

  DISAGREEMENTS: none within these hypotheses (same layout chosen, same bytes, same panic).  Two
  observations, neither a defect of the Go code:
  * inverted window of a non-empty store: the dense SIZES differ (model `numBins = 1`, Go
    `uint64(maxIndex - minIndex) + 1`), the outcome does not;
  * outside `EncRange` the bytes differ (section 4): an artefact of `GoSem`'s unbounded `int`.
-/
import DDS.Proofs.GenDenseBase
import DDS.Proofs.GenEncoding

namespace DDS.GenDenseEncode

open DDS DDS.GoSem DDS.Gen.Encoding DDS.Codec DDS.Props.C18Bits DDS.GenEncoding DDS.GenDense
open DDS.DStore (rd irange idxRange idxRange_eq irange_zero irange_succ_left)
open DDS.RoundTrip (deltaRec delta_foldl deltaRec_length)

/-! ### 1a. the size tables, evaluated once

Both tables are `Res` values computed by the translated initialisers on `GoSem.initFuel`; the kernel evaluates
them, together with the model's table functions. -/

def resEq (r : Res (List Int)) (l : List Int) : Bool :=
  match r with
  | .ok l' => l' == l
  | _ => false

theorem resEq_sound {r : Res (List Int)} {l : List Int} (h : resEq r l = true) : r = .ok l := by
  cases r with
  | ok l' => simp only [resEq, beq_iff_eq] at h; rw [h]
  | panic => cases h
  | nofuel => cases h

/-- `var uvarint64Sizes = initUvarint64Sizes()` -/
theorem uvarint64Sizes_eval :
    uvarint64Sizes = .ok ((List.range 65).map fun i => ((uvarintSizeTable i : Nat) : Int)) :=
  resEq_sound (by decide +kernel)

/-- `var varfloat64Sizes = initVarfloat64Sizes()` (through the float model: `Float64frombits(…) - 1`,
    then `+ 1` and `Float64bits` again inside `EncodeVarfloat64`) -/
theorem varfloat64Sizes_eval :
    varfloat64Sizes = .ok ((List.range 65).map fun i => ((varfloatSizeTable i : Nat) : Int)) :=
  resEq_sound (by decide +kernel)

theorem lzcnt64_le (v : Nat) : lzcnt64 v ≤ 64 := by
  unfold lzcnt64; split <;> omega

theorem tzcnt64_le (v : Nat) : tzcnt64 v ≤ 64 := by
  unfold tzcnt64
  split
  · omega
  · cases h : (List.range 64).find? (fun i => decide (v / 2 ^ i % 2 = 1)) with
    | none => simp
    | some t =>
      have := List.mem_of_find?_eq_some h
      simp only [List.mem_range] at this
      simp only [Option.getD_some]
      omega

/-! ### 1b. `Uvarint64Size`, `Varint64Size` -/

theorem Uvarint64Size_eq (fuel : Nat) (v : BitVec 64) :
    Uvarint64Size fuel v = .ok ((uvarint64Size v.toNat : Nat) : Int) := by
  unfold Uvarint64Size GoSem.leadingZeros64
  rw [uvarint64Sizes_eval, Res.bind_ok, idx_natCast, lzcnt64_bits, List.getElem?_map,
    List.getElem?_range (Nat.lt_succ_of_le (lzcnt64_le _))]
  rfl

theorem Varint64Size_eq (fuel : Nat) (v : BitVec 64) :
    Varint64Size fuel v = .ok ((varint64Size v.toInt : Nat) : Int) := by
  unfold Varint64Size
  rw [Uvarint64Size_eq, Res.bind_ok, zigzag_bits]
  rfl

theorem Varint64Size_ofInt (fuel : Nat) (i : Int) (h1 : -(2:Int)^63 ≤ i) (h2 : i < (2:Int)^63) :
    Varint64Size fuel (BitVec.ofInt 64 i) = .ok ((varint64Size i : Nat) : Int) := by
  rw [Varint64Size_eq, toInt_ofInt64 i h1 h2]

/-! ### 1c. `EncodeVarfloat64`, `Varfloat64Size` -/

theorem rotateLeft64_six (x : BitVec 64) : GoSem.rotateLeft64 x (6 : Int) = x.rotateLeft 6 := rfl

/-- the word that `EncodeVarfloat64(v)` / `Varfloat64Size(v)` chop up is the model's `vfWord` -/
theorem vfWord_gen (v : F64) :
    (GoSem.rotateLeft64 (GoSem.float64bits (F64.add v (F64.fin (1 : Rat)))
        - GoSem.float64bits (F64.fin (1 : Rat))) (6 : Int)).toNat
      = vfWord (F64.toBits (F64.add v F64.one)).toNat := by
  rw [rotateLeft64_six, float64bits_one, vfWord_bits]
  rfl

theorem shr_byte (x : BitVec 64) (k : Nat) (hk : 56 ≤ k) :
    (BitVec.setWidth 8 (x >>> k)).toNat = x.toNat / 2 ^ k := by
  rw [BitVec.toNat_setWidth, BitVec.toNat_ushiftRight, Nat.shiftRight_eq_div_pow]
  refine Nat.mod_eq_of_lt (Nat.div_lt_of_lt_mul (Nat.lt_of_lt_of_le x.isLt ?_))
  rw [← Nat.pow_add]
  exact Nat.pow_le_pow_right (by decide) (by omega)

theorem or128_toNat (n : BitVec 8) (h : n.toNat < 128) : (n ||| 128#8).toNat = n.toNat + 128 := by
  rw [BitVec.toNat_or, show (128#8).toNat = 1 <<< 7 by decide, Nat.or_comm,
    ← Nat.shiftLeft_add_eq_or_of_lt (by omega), Nat.shiftLeft_eq]
  omega

theorem encVarfloat64_loop (k : Nat) : ∀ (fuel : Nat) (b : List (BitVec 8)) (x : BitVec 64) (i : Int),
    i = 8 - (k : Int) → k + 1 ≤ fuel →
    Loop.elim (EncodeVarfloat64.loop1 fuel x b i)
        (fun (x, b, _) => .ok (b ++ [BitVec.setWidth 8 (x >>> 56)]))
      = .ok (b ++ bn (encVF k x.toNat)) := by
  induction k with
  | zero =>
    intro fuel b x i hi hf
    obtain ⟨fuel, rfl⟩ : ∃ f, fuel = f + 1 := ⟨fuel - 1, by omega⟩
    have h8 : ¬ (i < 8) := by omega
    simp only [EncodeVarfloat64.loop1, h8, decide_false, Bool.false_eq_true, if_false,
      Loop.elim_done, encVF]
    rw [single_bn _ _ (shr_byte x 56 (Nat.le_refl _))]
  | succ k ih =>
    intro fuel b x i hi hf
    obtain ⟨fuel, rfl⟩ : ∃ f, fuel = f + 1 := ⟨fuel - 1, by omega⟩
    have h8 : i < 8 := by omega
    have hs := varfloat_step_bits x
    have hn := shr_byte x 57 (by decide)
    have hn128 : (BitVec.setWidth 8 (x >>> 57)).toNat < 128 := by
      rw [hn]; exact Nat.div_lt_of_lt_mul x.isLt
    simp only [EncodeVarfloat64.loop1, h8, decide_true, if_true]
    by_cases hz : x <<< 7 = 0#64
    · have hz' : x.toNat * 128 % W64 = 0 := by rw [← hs.2, hz]; rfl
      simp only [hz, beq_self_eq_true, if_true, Loop.elim_ret, encVF, hz']
      rw [single_bn _ _ hn]
    · have hz' : ¬ (x.toNat * 128 % W64 = 0) := by
        intro h0
        apply hz
        apply BitVec.eq_of_toNat_eq
        rw [hs.2, h0]; rfl
      have hb : ((x <<< 7) == 0#64) = false := beq_false_of_ne hz
      simp only [hb, Bool.false_eq_true, if_false, encVF, hz']
      rw [ih fuel _ _ (i + 1) (by omega) (by omega), hs.2, List.append_assoc, List.singleton_append,
        cons_bn _ _ _ (by rw [or128_toNat _ hn128, hn])]

/-- `EncodeVarfloat64` appends the model's encoding — for EVERY float (and therefore for
    `F64.fin w`, every rational weight): no exactness condition is needed to relate the bytes. -/
theorem EncodeVarfloat64_eq (fuel : Nat) (hf : 9 ≤ fuel) (b : List (BitVec 8)) (v : F64) :
    EncodeVarfloat64 fuel b v = .ok (b ++ bn (encVarfloat64 v)) := by
  unfold encVarfloat64
  rw [encVarfloatBits_eq, ← vfWord_gen]
  exact encVarfloat64_loop 8 fuel b _ 0 (by decide) hf

/-- a weight crossing into the float codec: the bytes of the model's `vfBits` -/
theorem EncodeVarfloat64_fin (fuel : Nat) (hf : 9 ≤ fuel) (b : List (BitVec 8)) (w : Rat) :
    EncodeVarfloat64 fuel b (F64.fin w) = .ok (b ++ bn (encVarfloatBits (Sketch.vfBits w))) :=
  EncodeVarfloat64_eq fuel hf b (F64.fin w)

theorem EncodeVarfloat64_spec (fuel : Nat) (hf : 9 ≤ fuel) (b : List (BitVec 8)) (v : F64) :
    ∃ bs, EncodeVarfloat64 fuel b v = .ok (b ++ bs) ∧ nb bs = encVarfloat64 v :=
  ⟨_, EncodeVarfloat64_eq fuel hf b v, nb_bn _ (Wire.encVarfloatBits_bytes _)⟩

theorem trailingZeros64_eq (x : BitVec 64) : GoSem.trailingZeros64 x = ((tzcnt64 x.toNat : Nat) : Int) := by
  unfold GoSem.trailingZeros64 tzcnt64
  have hp : (fun i => x.getLsbD i) = (fun i => decide (x.toNat / 2 ^ i % 2 = 1)) := by
    funext i
    rw [← BitVec.testBit_toNat, Nat.testBit_eq_decide_div_mod_eq]
  rw [hp]
  by_cases h0 : x.toNat = 0
  · rw [if_pos h0]
    have : (List.range 64).find? (fun i => decide (x.toNat / 2 ^ i % 2 = 1)) = none := by
      rw [List.find?_eq_none]
      intro i _
      rw [h0]
      simp
    rw [this]; rfl
  · rw [if_neg h0]

theorem Varfloat64Size_eq (fuel : Nat) (v : F64) :
    Varfloat64Size fuel v = .ok ((varfloat64Size v : Nat) : Int) := by
  unfold Varfloat64Size
  rw [varfloat64Sizes_eval]
  simp only [Res.bind_ok]
  rw [trailingZeros64_eq, idx_natCast, vfWord_gen, List.getElem?_map,
    List.getElem?_range (Nat.lt_succ_of_le (tzcnt64_le _))]
  rfl

theorem Varfloat64Size_fin (fuel : Nat) (w : Rat) :
    Varfloat64Size fuel (F64.fin w) = .ok ((varfloat64SizeBits (Sketch.vfBits w) : Nat) : Int) :=
  Varfloat64Size_eq fuel (F64.fin w)

/-! ### 2a. the window as the loops read it -/

/-- the counts `bins[i - offset]` for `i = idx, …, idx + n - 1`; `none`: an index outside the array -/
def readCounts (s : DStore) (idx : Int) (n : Nat) : Option (List Rat) :=
  (irange idx n).mapM (fun i => rd s.bins (i - s.offset))

/-- the width of the window `[minIndex, maxIndex]` -/
def width (s : DStore) : Nat := (s.maxIndex - s.minIndex + 1).toNat

theorem readCounts_zero (s : DStore) (idx : Int) : readCounts s idx 0 = some [] := rfl

theorem readCounts_succ (s : DStore) (idx : Int) (n : Nat) :
    readCounts s idx (n + 1) =
      (rd s.bins (idx - s.offset)).bind fun c => (readCounts s (idx + 1) n).bind fun cs => some (c :: cs) := by
  unfold readCounts
  rw [irange_succ_left, List.mapM_cons]
  rfl

theorem readCounts_length (s : DStore) (n : Nat) : ∀ (idx : Int) (cs : List Rat),
    readCounts s idx n = some cs → cs.length = n := by
  induction n with
  | zero => intro idx cs h; cases h; rfl
  | succ n ih =>
    intro idx cs h
    rw [readCounts_succ] at h
    obtain ⟨c, _, h⟩ := Option.bind_eq_some_iff.mp h
    obtain ⟨cs', hr, h⟩ := Option.bind_eq_some_iff.mp h
    cases h
    rw [List.length_cons, ih _ _ hr]

theorem readCounts_model (s : DStore) :
    (idxRange s.minIndex s.maxIndex).mapM (fun i => rd s.bins (i - s.offset))
      = readCounts s s.minIndex (width s) := rfl

/-- the non-empty bins among the counts read from index `idx` on, with their indexes -/
def nzList (idx : Int) : List Rat → List (Int × Rat)
  | [] => []
  | c :: cs => if c = 0 then nzList (idx + 1) cs else (idx, c) :: nzList (idx + 1) cs

theorem nzList_eq_filter (cs : List Rat) : ∀ (idx : Int) (n : Nat), cs.length = n →
    ((irange idx n).zip cs).filter (fun p => p.2 ≠ 0) = nzList idx cs := by
  induction cs with
  | nil => intro idx n _; rw [List.zip_nil_right]; rfl
  | cons c cs ih =>
    intro idx n hn
    subst hn
    rw [List.length_cons, irange_succ_left, List.zip_cons_cons, List.filter_cons, nzList, ih _ _ rfl]
    by_cases h : c = 0 <;> simp [h]

theorem nzList_length_le (idx : Int) (cs : List Rat) : (nzList idx cs).length ≤ cs.length := by
  induction cs generalizing idx with
  | nil => exact Nat.le_refl 0
  | cons c cs ih =>
    rw [nzList]
    split
    · exact Nat.le_succ_of_le (ih _)
    · exact Nat.succ_le_succ (ih _)

/-- the index of the last non-empty bin (`previousIndex` when a loop ends) -/
def lastIdx (prev : Int) : List (Int × Rat) → Int
  | [] => prev
  | p :: l => lastIdx p.1 l

/-- A loop over the window that reads `bins[i - offset]` (a panic outside the array) and then updates its
    state by `upd` panics where `readCounts` is `none`; otherwise it ends in the state `R`, for any function
    `R` of the counts read that follows `upd` (`hR0`, `hRs`).  `c`: the fuel the body's calls need. -/
theorem window_loop {τ σ ρ : Type} (s : DStore) {L : Nat → τ → Int → Loop σ ρ}
    {exit : τ → Int → Loop σ ρ} {c : Nat} {upd : τ → Int → Rat → τ} (R : τ → Int → List Rat → τ)
    (hL : ∀ f t i, c ≤ f → L (f + 1) t i =
      if i ≤ s.maxIndex then optL (rd s.bins (i - s.offset)) (fun x => L f (upd t i x) (i + 1))
      else exit t i)
    (hR0 : ∀ t i, R t i [] = t) (hRs : ∀ t i x cs, R t i (x :: cs) = R (upd t i x) (i + 1) cs)
    (fuel : Nat) (t : τ) (i : Int) (n : Nat) (hn : (s.maxIndex - i + 1).toNat = n)
    (hf : n + c + 1 ≤ fuel) :
    L fuel t i = optL (readCounts s i n) fun cs => exit (R t i cs) (i + n) := by
  rw [forLoop_run (L := L) (exit := exit) (step := fun t i => (rd s.bins (i - s.offset)).map (upd t i))
    (fun f t i hc => by rw [hL f t i hc, optL_map]) fuel t i n hn hf]
  generalize (i + (n : Int)) = j
  clear hn hf
  induction n generalizing t i with
  | zero => rw [irange_zero, readCounts_zero, List.foldlM_nil, optL_some, hR0]; rfl
  | succ n ih =>
    rw [irange_succ_left, List.foldlM_cons, readCounts_succ]
    cases rd s.bins (i - s.offset) with
    | none => rfl
    | some x =>
      rw [Option.map_some, Option.bind_eq_bind, Option.bind_some, Option.bind_some, ih, optL_bind]
      simp only [optL_some, hRs]

/-! ### 2b. index deltas as the generated code computes them

The generated code converts every index delta with `int64(…)` (`wrap64`).  The loops are described with the
converted deltas (`deltaW`), for every store; inside `EncRange` the conversion changes nothing (`deltaW_eq`). -/

/-- `int64(i)`: what Go's conversion keeps of an `int` -/
def wrap64 (i : Int) : Int := (BitVec.ofInt 64 i).toInt

theorem wrap64_of_range (i : Int) (h1 : -(2:Int)^63 ≤ i) (h2 : i < (2:Int)^63) : wrap64 i = i :=
  toInt_ofInt64 i h1 h2

/-- what the sparse layout writes per non-empty bin -/
def itemBytes (p : Int × Nat) : Bytes := encVarint64 p.1 ++ encVarfloatBits p.2

/-- the items of the sparse layout as the generated code computes them -/
def deltaW (prev : Int) (l : List (Int × Rat)) : List (Int × Nat) :=
  (deltaRec prev l).map fun p => (wrap64 p.1, p.2)

theorem deltaW_eq (cs : List Rat) : ∀ (prev idx : Int), -(2:Int)^63 ≤ idx - prev →
    idx + cs.length - prev ≤ (2:Int)^63 → (cs.length : Int) ≤ (2:Int)^63 →
    deltaW prev (nzList idx cs) = deltaRec prev (nzList idx cs) := by
  induction cs with
  | nil => intro prev idx _ _ _; rfl
  | cons c cs ih =>
    intro prev idx h1 h2 h3
    rw [List.length_cons] at h2 h3
    rw [nzList]
    split
    · exact ih prev (idx + 1) (by omega) (by omega) (by omega)
    · rw [deltaW, deltaRec, List.map_cons, ← deltaW, wrap64_of_range _ h1 (by omega),
        ih idx (idx + 1) (by omega) (by omega) (by omega)]

/-- the window of a store in `EncRange`, deltas from `prev = minIndex` or `prev = 0` -/
theorem deltaW_window (s : DStore) (prev : Int) (cs : List Rat) (hl : cs.length = width s)
    (hw : s.minIndex ≤ s.maxIndex) (h1 : -(2:Int)^63 ≤ s.minIndex - prev)
    (h2 : s.maxIndex - prev < (2:Int)^63) (h3 : s.maxIndex - s.minIndex < (2:Int)^63) :
    deltaW prev (nzList s.minIndex cs) = deltaRec prev (nzList s.minIndex cs) :=
  deltaW_eq _ _ _ h1 (by rw [hl]; unfold width; omega) (by rw [hl]; unfold width; omega)

/-! ### 2c. the two encoders -/

/-- fuel for `Encode` / `encodeDensely` / `encodeSparsely`: the width of the window, plus what a codec
    called inside the last iteration needs -/
def encodeFuel (s : DStore) : Nat := width s + 10

theorem block_bytes (b : List (BitVec 8)) (fb : BitVec 8) (flag : Nat) (h : fb.toNat = flag)
    (A : Bytes) : b ++ [fb] ++ bn A = b ++ bn (flag :: A) := by
  rw [single_bn fb flag h]
  simp [bn]

theorem flatMap_vfBits (cs : List Rat) :
    (cs.map Sketch.vfBits).flatMap encVarfloatBits = cs.flatMap fun c => encVarfloatBits (Sketch.vfBits c) := by
  induction cs with
  | nil => rfl
  | cons c cs ih => simp only [List.map_cons, List.flatMap_cons, ih]

theorem encodeDensely_loop (s : DStore) (fuel : Nat) (b : List (BitVec 8)) (idx : Int) (n : Nat)
    (hn : (s.maxIndex - idx + 1).toNat = n) (hf : n + 10 ≤ fuel) :
    Gen.Dense.DenseStore.encodeDensely.loop1 (toGen s) fuel b idx =
      optL (readCounts s idx n) fun cs =>
        .done (b ++ bn (cs.flatMap fun c => encVarfloatBits (Sketch.vfBits c)), idx + n) :=
  window_loop s (c := 9) (L := Gen.Dense.DenseStore.encodeDensely.loop1 (toGen s))
    (exit := fun b i => .done (b, i)) (upd := fun b _ c => b ++ bn (encVarfloatBits (Sketch.vfBits c)))
    (fun b _ cs => b ++ bn (cs.flatMap fun c => encVarfloatBits (Sketch.vfBits c)))
    (fun f b i hf => by
      rw [Gen.Dense.DenseStore.encodeDensely.loop1]
      simp only [decide_eq_true_eq]
      simp only [toGen_bins, toGen_offset, toGen_maxIndex, idx_toList, EncodeVarfloat64_fin f hf,
        Res.bindL_ok])
    (fun b _ => List.append_nil b)
    (fun b _ x cs => by rw [List.flatMap_cons, bn_append, List.append_assoc]) fuel b idx n hn hf

/-- `encodeDensely` writes the block `.bins side (.contiguous minIndex 1 counts)` when it is
    given `numBins = ` the width of the window; `.panic` when an index of the window is outside the array -/
theorem encodeDensely_eq (fuel : Nat) (s : DStore) (b : List (BitVec 8)) (t : FlagType) (side : Side)
    (ht : t.byte.toNat = Wire.sideType side) (numBins : BitVec 64) (hnb : numBins.toNat = width s)
    (h1 : -(2:Int)^63 ≤ s.minIndex) (h2 : s.minIndex < (2:Int)^63) (hf : encodeFuel s ≤ fuel) :
    Gen.Dense.DenseStore.encodeDensely fuel (toGen s) b t numBins =
      toRes (fun cs => b ++ bn (Wire.encBlock (.bins side (.contiguous s.minIndex 1 (cs.map Sketch.vfBits)))))
        (readCounts s s.minIndex (width s)) := by
  have h9 : 9 ≤ fuel := Nat.le_trans (Nat.le_add_left 9 _) hf
  unfold Gen.Dense.DenseStore.encodeDensely
  simp only [toGen_minIndex]
  rw [EncodeUvarint64_eq fuel h9, Res.bind_ok, EncodeVarint64_ofInt fuel h9 _ _ h1 h2,
    Res.bind_ok, EncodeVarint64_eq fuel h9, Res.bind_ok,
    encodeDensely_loop s fuel _ s.minIndex (width s) rfl hf]
  cases hr : readCounts s s.minIndex (width s) with
  | none => rfl
  | some cs =>
    simp only [optL_some, Loop.elim_done, toRes_some, EncodeFlag, Wire.encBlock, Wire.encPayload,
      List.length_map, List.append_assoc]
    rw [← bn_append, ← bn_append, ← bn_append, ← List.append_assoc b,
      block_bytes b _ _ ((storeFlag_bytes side t ht).2.2), hnb, readCounts_length s _ _ _ hr, flatMap_vfBits,
      show (1#64).toInt = 1 by decide]
    rfl

/-- one iteration of the sparse encoder on the state `(b, previousIndex)` -/
def sparseUpd (t : List (BitVec 8) × Int) (i : Int) (c : Rat) : List (BitVec 8) × Int :=
  if c = 0 then t else (t.1 ++ bn (itemBytes (wrap64 (i - t.2), Sketch.vfBits c)), i)

/-- `encodeSparsely`, for every store: the flag, the `numNonEmptyBins` it is given, and for every
    non-zero count of the window the `int64` of its index minus the previous such index (from 0) and the count -/
theorem encodeSparsely_bytes (fuel : Nat) (s : DStore) (b : List (BitVec 8)) (t : FlagType)
    (numNonEmptyBins : BitVec 64) (hf : encodeFuel s ≤ fuel) :
    Gen.Dense.DenseStore.encodeSparsely fuel (toGen s) b t numNonEmptyBins =
      toRes (fun cs => b ++ [(NewFlag t BinEncodingIndexDeltasAndCounts).byte] ++ bn (encUvarint64 numNonEmptyBins.toNat
          ++ (deltaW 0 (nzList s.minIndex cs)).flatMap itemBytes))
        (readCounts s s.minIndex (width s)) := by
  unfold Gen.Dense.DenseStore.encodeSparsely
  simp only [toGen_minIndex]
  rw [EncodeUvarint64_eq fuel (Nat.le_trans (Nat.le_add_left 9 _) hf), Res.bind_ok,
    -- the loop on the state `(b, previousIndex)`
    window_loop s (c := 9)
      (L := fun f t i => Gen.Dense.DenseStore.encodeSparsely.loop1 (toGen s) f t.1 t.2 i)
      (exit := fun t i => .done (t.1, t.2, i)) (upd := sparseUpd)
      (fun t i cs => (t.1 ++ bn ((deltaW t.2 (nzList i cs)).flatMap itemBytes), lastIdx t.2 (nzList i cs)))
      (fun f t i hf => by
        rw [Gen.Dense.DenseStore.encodeSparsely.loop1]
        simp only [decide_eq_true_eq]
        simp only [toGen_bins, toGen_offset, toGen_maxIndex, idx_toList, bne_iff_ne, ne_eq, ite_not,
          EncodeVarint64_eq f hf, EncodeVarfloat64_fin f hf, Res.bindL_ok, List.append_assoc, ← bn_append]
        refine if_congr Iff.rfl (congrArg _ (funext fun c => ?_)) rfl
        unfold sparseUpd
        split <;> rfl)
      (fun t i => Prod.ext (List.append_nil _) rfl)
      (fun t i x cs => by
        rw [nzList, sparseUpd]
        split
        · rfl
        · simp only [deltaW, deltaRec, lastIdx, List.map_cons, List.flatMap_cons, bn_append, List.append_assoc])
      fuel (_, 0) s.minIndex (width s) rfl hf]
  cases readCounts s s.minIndex (width s) with
  | none => rfl
  | some cs => simp only [optL_some, Loop.elim_done, toRes_some, EncodeFlag, bn_append, List.append_assoc]

/-! ### 3a. the two sizes; the model's `encodeDense`, unfolded -/

/-- size of the counts in either layout -/
def countsSize (cs : List Rat) : Nat := (cs.map (fun c => varfloat64SizeBits (Sketch.vfBits c))).sum

/-- size of the `(index delta, count)` items of the sparse layout -/
def itemsSize (items : List (Int × Nat)) : Nat :=
  (items.map (fun p => varint64Size p.1 + varfloat64SizeBits p.2)).sum

/-- `denseEncodingSize` -/
def denseSize (numBins : Nat) (minIndex : Int) (cs : List Rat) : Nat :=
  uvarint64Size numBins + varint64Size minIndex + varint64Size 1 + countsSize cs

/-- `sparseEncodingSize` -/
def sparseSize (items : List (Int × Nat)) (numNonEmptyBins : Nat) : Nat :=
  itemsSize items + uvarint64Size numNonEmptyBins

theorem uvarint64Size_pos (v : Nat) (hv : v < W64) : 1 ≤ uvarint64Size v := by
  rw [uvarint64Size_eq v hv, encUvarint64_eq]
  exact encU_length_pos _ _

/-- without bins the sparse layout (one byte after the flag) is the shorter one -/
theorem sparseSize_nil_lt (numBins : Nat) (hn : numBins < W64) (minIndex : Int) :
    ¬ denseSize numBins minIndex [] ≤ sparseSize [] 0 := by
  have h1 := uvarint64Size_pos numBins hn
  have h2 : varint64Size 1 = 1 := by decide +kernel
  have h3 : uvarint64Size 0 = 1 := by decide +kernel
  unfold denseSize sparseSize
  rw [h2, h3]
  show ¬ _ + 1 + 0 ≤ 0 + 1
  omega

/-- the model's encoder on a non-empty store whose window lies in the array (it takes the deltas from
    `minIndex` for the sizes, from 0 for the items) -/
theorem encodeDense_some (s : DStore) (side : Side) (hne : s.isEmpty = false) (cs : List Rat)
    (hc : readCounts s s.minIndex (width s) = some cs) :
    Sketch.encodeDense s side = some
      (if denseSize (((s.maxIndex - s.minIndex).toNat + 1) % W64) s.minIndex cs
          ≤ sparseSize (deltaRec s.minIndex (nzList s.minIndex cs))
              (nzList s.minIndex cs).length then
        [.bins side (.contiguous s.minIndex 1 (cs.map Sketch.vfBits))]
      else [.bins side (.deltasCounts (deltaRec 0 (nzList s.minIndex cs)))]) := by
  have hd0 := delta_foldl (nzList s.minIndex cs) 0 []
  have hdm := delta_foldl (nzList s.minIndex cs) s.minIndex []
  rw [List.reverse_nil, List.nil_append] at hd0 hdm
  unfold Sketch.encodeDense
  simp only [hne, Bool.false_eq_true, if_false, readCounts_model, hc, Option.bind_eq_bind,
    Option.bind_some]
  rw [show ((idxRange s.minIndex s.maxIndex).zip cs).filter (fun p => p.2 ≠ 0) = nzList s.minIndex cs from
    nzList_eq_filter cs _ _ (readCounts_length s _ _ _ hc), ← hd0, ← hdm, apply_ite some]
  rfl

theorem encodeDense_none (s : DStore) (side : Side) (hne : s.isEmpty = false)
    (hc : readCounts s s.minIndex (width s) = none) : Sketch.encodeDense s side = none := by
  unfold Sketch.encodeDense
  simp only [hne, Bool.false_eq_true, if_false, readCounts_model, hc, Option.bind_eq_bind,
    Option.bind_none]

theorem encodeDense_empty (s : DStore) (side : Side) (he : s.isEmpty = true) :
    Sketch.encodeDense s side = some [] := by
  unfold Sketch.encodeDense
  rw [if_pos he]

/-! ### 3b. the size loop of `Encode`; the main theorem -/

/-- one iteration of the size loop on the state
    `(denseEncodingSize, numNonEmptyBins, sparseEncodingSize, previousIndex)` -/
def sizeUpd (t : Int × BitVec 64 × Int × Int) (i : Int) (c : Rat) : Int × BitVec 64 × Int × Int :=
  (t.1 + (varfloat64SizeBits (Sketch.vfBits c) : Nat),
    if c = 0 then t.2
    else (t.2.1 + 1#64,
      t.2.2.1 + (varint64Size (wrap64 (i - t.2.2.2)) : Nat) + (varfloat64SizeBits (Sketch.vfBits c) : Nat), i))

theorem bv_succ (x : BitVec 64) (m : Nat) : x + 1#64 + BitVec.ofNat 64 m = x + BitVec.ofNat 64 (m + 1) := by
  rw [BitVec.ofNat_add, BitVec.add_assoc, BitVec.add_comm (BitVec.ofNat 64 m)]

/-- the size computation of `Encode` on a non-empty store, for every store: the two sizes it compares, and
    the encoder it then calls, with the number of bins it hands over -/
theorem Encode_sizes (fuel : Nat) (s : DStore) (b : List (BitVec 8)) (t : FlagType)
    (hne : s.isEmpty = false) (hf : width s + 1 ≤ fuel) :
    Gen.Dense.DenseStore.Encode fuel (toGen s) b t =
      optR (readCounts s s.minIndex (width s)) fun cs =>
        if denseSize (BitVec.ofInt 64 (s.maxIndex - s.minIndex) + 1#64).toNat (wrap64 s.minIndex) cs
            ≤ sparseSize (deltaW s.minIndex (nzList s.minIndex cs))
                ((nzList s.minIndex cs).length % 2 ^ 64) then
          Gen.Dense.DenseStore.encodeDensely fuel (toGen s) b t
            (BitVec.ofInt 64 (s.maxIndex - s.minIndex) + 1#64)
        else Gen.Dense.DenseStore.encodeSparsely fuel (toGen s) b t
          (BitVec.ofNat 64 (nzList s.minIndex cs).length) := by
  unfold Gen.Dense.DenseStore.Encode
  rw [isEmpty_eq, hne, if_neg Bool.false_ne_true]
  simp only [toGen_minIndex, toGen_maxIndex, Uvarint64Size_eq, Varint64Size_eq, Res.bind_ok, Res.bind_ok_right]
  -- the loop on the state `(denseEncodingSize, numNonEmptyBins, sparseEncodingSize, previousIndex)`
  rw [window_loop s (c := 0)
    (L := fun f t i => Gen.Dense.DenseStore.Encode.loop1 (toGen s) f t.1 t.2.1 t.2.2.1 t.2.2.2 i)
    (exit := fun t i => .done (t.1, t.2.1, t.2.2.1, t.2.2.2, i)) (upd := sizeUpd)
    (fun t i cs => (t.1 + (countsSize cs : Nat), t.2.1 + BitVec.ofNat 64 (nzList i cs).length,
      t.2.2.1 + (itemsSize (deltaW t.2.2.2 (nzList i cs)) : Nat), lastIdx t.2.2.2 (nzList i cs)))
    (fun f t i _ => by
      rw [Gen.Dense.DenseStore.Encode.loop1]
      simp only [decide_eq_true_eq]
      simp only [toGen_bins, toGen_offset, toGen_maxIndex, idx_toList, bne_iff_ne, ne_eq, ite_not,
        Varfloat64Size_fin, Varint64Size_eq, Res.bindL_ok]
      refine if_congr Iff.rfl (congrArg _ (funext fun c => ?_)) rfl
      unfold sizeUpd
      split <;> rfl)
    (fun t i => Prod.ext (Int.add_zero _) (Prod.ext (BitVec.add_zero _) (Prod.ext (Int.add_zero _) rfl)))
    (fun t i x cs => by
      rw [nzList, sizeUpd]
      split <;>
        simp only [deltaW, deltaRec, lastIdx, countsSize, itemsSize, List.map_cons, List.sum_cons,
          List.length_cons, Int.natCast_add, Int.add_assoc, bv_succ])
    fuel (_, _, _, s.minIndex) s.minIndex (width s) rfl hf]
  cases readCounts s s.minIndex (width s) with
  | none => rfl
  | some cs =>
    simp only [optL_some, Loop.elim_done, optR_some, BitVec.zero_add, decide_eq_true_eq]
    refine if_congr ?_ rfl rfl
    unfold denseSize sparseSize
    rw [BitVec.toNat_ofNat, ← wrap64, show (1#64).toInt = 1 by decide]
    omega

/-- `uint64(maxIndex - minIndex) + 1` is the width of the window -/
theorem numBins_toNat (s : DStore) (hwd : (width s : Int) = s.maxIndex - s.minIndex + 1)
    (hlt : width s < 2 ^ 64) : (BitVec.ofInt 64 (s.maxIndex - s.minIndex) + 1#64).toNat = width s := by
  rw [show 1#64 = BitVec.ofInt 64 1 from rfl, ← BitVec.ofInt_add, ← hwd, BitVec.ofInt_natCast,
    BitVec.toNat_ofNat, Nat.mod_eq_of_lt hlt]

theorem Encode_empty (fuel : Nat) (s : DStore) (t : FlagType) (b : List (BitVec 8))
    (he : s.isEmpty = true) : Gen.Dense.DenseStore.Encode fuel (toGen s) b t = .ok b := by
  unfold Gen.Dense.DenseStore.Encode
  rw [isEmpty_eq, if_pos he]

/-- the `int64` / `uint64` conversions of `Encode` do not wrap around -/
structure EncRange (s : DStore) : Prop where
  minLo : -(2:Int)^63 ≤ s.minIndex
  maxHi : s.maxIndex < (2:Int)^63
  span : s.maxIndex - s.minIndex < (2:Int)^63

/-- an `int32` window (what the stores maintain) is in range -/
theorem encRange_of_int32 (s : DStore) (h1 : -(2:Int)^31 ≤ s.minIndex) (h2 : s.minIndex < (2:Int)^31)
    (h3 : -(2:Int)^31 ≤ s.maxIndex) (h4 : s.maxIndex < (2:Int)^31) : EncRange s :=
  ⟨by omega, by omega, by omega⟩

/-- **MAIN.**  For a store of any dense kind (the encoder only reads the five fields), the flag type `t`
    of `side`, any prefix `b` and `encodeFuel s ≤ fuel`: the regenerated `DenseStore.Encode` appends
    exactly the bytes of the blocks of the hand-written `Sketch.encodeDense`; it panics exactly when the
    model says `none` (an index of the window outside the array); it never runs out of fuel.  The range
    hypothesis is asked of a non-empty store only (an empty store is not looked at). -/
theorem Encode_rel' (fuel : Nat) (s : DStore) (side : Side) (t : FlagType)
    (ht : t.byte.toNat = Wire.sideType side) (b : List (BitVec 8))
    (hr : s.isEmpty = false → EncRange s) (hf : encodeFuel s ≤ fuel) :
    Gen.Dense.DenseStore.Encode fuel (toGen s) b t
      = toRes (fun blocks => b ++ bn (Wire.encBlocks blocks)) (Sketch.encodeDense s side) := by
  by_cases he : s.isEmpty = true
  · rw [Encode_empty fuel s t b he, encodeDense_empty s side he]
    exact congrArg Res.ok (List.append_nil b).symm
  have hne : s.isEmpty = false := by simpa using he
  obtain ⟨r1, r2, r3⟩ := hr hne
  rw [Encode_sizes fuel s b t hne (Nat.le_trans (Nat.add_le_add_left (by decide) _) hf)]
  cases hrc : readCounts s s.minIndex (width s) with
  | none => rw [encodeDense_none s side hne hrc]; rfl
  | some cs =>
    rw [optR_some, encodeDense_some s side hne cs hrc]
    by_cases hw : s.minIndex ≤ s.maxIndex
    · have r4 : s.minIndex < (2:Int)^63 := by omega
      have hwd : (width s : Int) = s.maxIndex - s.minIndex + 1 := by unfold width; omega
      have hlt : width s < 2 ^ 64 := by omega
      have hnb := numBins_toNat s hwd hlt
      have hl := readCounts_length s _ _ _ hrc
      have hN : (nzList s.minIndex cs).length % 2 ^ 64 = (nzList s.minIndex cs).length :=
        Nat.mod_eq_of_lt (Nat.lt_of_le_of_lt (nzList_length_le _ _) (hl ▸ hlt))
      rw [hnb, wrap64_of_range _ r1 r4, deltaW_window s _ cs hl hw (by rw [Int.sub_self]; decide) r3 r3, hN,
        show (s.maxIndex - s.minIndex).toNat + 1 = width s by omega,
        Nat.mod_eq_of_lt (show width s < W64 from hlt), apply_ite some, apply_ite (toRes _)]
      refine if_congr Iff.rfl ?_ ?_
      · rw [encodeDensely_eq fuel s b t side ht _ hnb r1 r4 hf, hrc]
        exact congrArg (fun l => Res.ok (b ++ bn l)) (List.append_nil _).symm
      · rw [encodeSparsely_bytes fuel s b t _ hf, hrc, toRes_some, toRes_some, BitVec.toNat_ofNat, hN,
          deltaW_window s 0 cs hl hw (by rw [Int.sub_zero]; exact r1) (by rw [Int.sub_zero]; exact r2) r3,
          block_bytes b _ _ ((storeFlag_bytes side t ht).1)]
        simp only [Wire.encBlocks, List.flatMap_cons, List.flatMap_nil, List.append_nil, Wire.encBlock,
          Wire.encPayload, deltaRec_length]
        rfl
    · -- an inverted window (only with a broken invariant): no iteration, and both sides choose the sparse
      -- layout with zero bins.  The dense sizes differ (the model takes `numBins = 1`, Go takes
      -- `uint64(maxIndex - minIndex) + 1`), but both are larger than the sparse size 1.
      have hw0 : width s = 0 := by unfold width; omega
      obtain rfl : cs = [] := List.eq_nil_of_length_eq_zero ((readCounts_length s _ _ _ hrc).trans hw0)
      simp only [nzList, deltaRec, deltaW, List.map_nil, List.length_nil, Nat.zero_mod]
      rw [if_neg (sparseSize_nil_lt _ (BitVec.isLt _) _),
        if_neg (sparseSize_nil_lt _ (Nat.mod_lt _ (by decide)) _), encodeSparsely_bytes fuel s b t _ hf, hw0,
        readCounts_zero, toRes_some, block_bytes b _ _ ((storeFlag_bytes side t ht).1)]
      rfl

/-! ### 3c. the two directions, and the bytes as natural numbers -/

theorem Encode_panic (fuel : Nat) (s : DStore) (side : Side) (t : FlagType)
    (ht : t.byte.toNat = Wire.sideType side) (b : List (BitVec 8)) (hr : s.isEmpty = false → EncRange s)
    (hf : encodeFuel s ≤ fuel) (h : Sketch.encodeDense s side = none) :
    Gen.Dense.DenseStore.Encode fuel (toGen s) b t = .panic := by
  rw [Encode_rel' fuel s side t ht b hr hf, h]; rfl

theorem Encode_ok_iff (fuel : Nat) (s : DStore) (side : Side) (t : FlagType)
    (ht : t.byte.toNat = Wire.sideType side) (b : List (BitVec 8)) (hr : s.isEmpty = false → EncRange s)
    (hf : encodeFuel s ≤ fuel) :
    (Gen.Dense.DenseStore.Encode fuel (toGen s) b t = .panic ↔ Sketch.encodeDense s side = none) ∧
    Gen.Dense.DenseStore.Encode fuel (toGen s) b t ≠ .nofuel := by
  rw [Encode_rel' fuel s side t ht b hr hf]
  exact ⟨toRes_eq_panic _ _, toRes_ne_nofuel _ _⟩

theorem bins_block_bytes (side : Side) (p : BinsPayload) : ∀ x ∈ Wire.encBlock (.bins side p), x < 256 := by
  intro x hx
  rcases List.mem_cons.mp hx with rfl | hx
  · cases side <;> cases p <;> (simp only [Wire.payloadSub, Wire.sideType]; decide)
  · exact Wire.encPayload_bytes p x hx

/-- every block the model's dense encoder produces is a bins block: its bytes are bytes -/
theorem encodeDense_bytes (s : DStore) (side : Side) (blocks : List Block)
    (h : Sketch.encodeDense s side = some blocks) : ∀ x ∈ Wire.encBlocks blocks, x < 256 := by
  by_cases he : s.isEmpty = true
  · rw [encodeDense_empty s side he] at h
    cases h
    intro x hx; simp [Wire.encBlocks] at hx
  · have hne : s.isEmpty = false := by simpa using he
    cases hrc : readCounts s s.minIndex (width s) with
    | none => rw [encodeDense_none s side hne hrc] at h; cases h
    | some cs =>
      rw [encodeDense_some s side hne cs hrc] at h
      cases h
      intro x hx
      split at hx <;>
      · simp only [Wire.encBlocks, List.flatMap_cons, List.flatMap_nil, List.append_nil] at hx
        exact bins_block_bytes _ _ x hx

/-- **MAIN**, in `List Nat` bytes: the appended bytes, read as numbers, are `Wire.encBlocks blocks` -/
theorem Encode_nb (fuel : Nat) (s : DStore) (side : Side) (t : FlagType)
    (ht : t.byte.toNat = Wire.sideType side) (b : List (BitVec 8)) (hr : s.isEmpty = false → EncRange s)
    (hf : encodeFuel s ≤ fuel) (blocks : List Block) (h : Sketch.encodeDense s side = some blocks) :
    ∃ out, Gen.Dense.DenseStore.Encode fuel (toGen s) b t = .ok (b ++ out) ∧
      nb out = Wire.encBlocks blocks :=
  ⟨_, by rw [Encode_rel' fuel s side t ht b hr hf, h]; rfl, nb_bn _ (encodeDense_bytes s side blocks h)⟩

theorem Encode_pos (fuel : Nat) (s : DStore) (b : List (BitVec 8)) (hr : s.isEmpty = false → EncRange s)
    (hf : encodeFuel s ≤ fuel) :
    Gen.Dense.DenseStore.Encode fuel (toGen s) b FlagTypePositiveStore
      = toRes (fun blocks => b ++ bn (Wire.encBlocks blocks)) (Sketch.encodeDense s .pos) :=
  Encode_rel' fuel s .pos _ FlagTypePositiveStore_side b hr hf

theorem Encode_neg (fuel : Nat) (s : DStore) (b : List (BitVec 8)) (hr : s.isEmpty = false → EncRange s)
    (hf : encodeFuel s ≤ fuel) :
    Gen.Dense.DenseStore.Encode fuel (toGen s) b FlagTypeNegativeStore
      = toRes (fun blocks => b ++ bn (Wire.encBlocks blocks)) (Sketch.encodeDense s .neg) :=
  Encode_rel' fuel s .neg _ FlagTypeNegativeStore_side b hr hf

/-! ### 4. outside `EncRange`: the hypothesis is needed, and why this is not a defect of the Go code

  `GoSem` models Go's `int` as an unbounded `Int` (overflow of a 64-bit `int` is not modelled), so a
  generated store can hold `minIndex = 2^63`, which no Go store can.  There the generated code converts
  with `int64(…)` (wrap-around to `-2^63`, zig-zag `2^64 - 1`) and the model encodes the unbounded
  integer (zig-zag `2^64`): different bytes, as on the one-bin store below. -/

def exBig : DStore :=
  { kind := .plain, bins := #[1], count := 1, offset := 2 ^ 63, minIndex := 2 ^ 63, maxIndex := 2 ^ 63,
    isCollapsed := false }

def okBytes : Res (List (BitVec 8)) → List Nat
  | .ok l => nb l
  | _ => []

example : okBytes (Gen.Dense.DenseStore.Encode 20 (toGen exBig) [] FlagTypePositiveStore)
    = [5, 1, 255, 255, 255, 255, 255, 255, 255, 255, 255, 2] := by
  have hc : readCounts exBig exBig.minIndex (width exBig) = some [1] := by decide +kernel
  rw [Encode_sizes 20 exBig [] _ (by decide) (by decide), hc, optR_some, if_neg (by decide +kernel),
    encodeSparsely_bytes 20 exBig [] _ _ (by decide), hc]
  decide +kernel
example : (Sketch.encodeDense exBig .pos).map Wire.encBlocks
    = some [5, 1, 128, 128, 128, 128, 128, 128, 128, 128, 0, 2] := by decide +kernel
example : ¬ EncRange exBig := fun h => absurd h.maxHi (by decide)

end DDS.GenDenseEncode
