/-
  DDS.Proofs.Lift3 — helper lemmas for `DDS.Props.Lift3`: the decoders (binary format and
  protobuf) into stores of EVERY kind.

  * `addList_good`: adding a list of rational bins, in order (`addList`, `DDS.Proofs.Proto`), to a
    `Good` store of any kind never panics, keeps `Good` and the kind, and the canonical content becomes
    "merge the bins, then clamp by the rule of the store" — clamping at every step is clamping
    once (`good_add_rel`).  Zero-weight bins may carry ANY index (`AddWithCount(i, 0)` returns
    before looking at the index in every store kind): `BinsOK`, with its checker `binsOK_of_b`.
    `addBins_finBins`, `addBins_denotes`: the same for the float bins a decoder reads.
  * The block fold into good stores.  `encode_ok32`: the encoder's precondition already makes every
    index an int32 (`encOK_keys32`).  `encodesTo_decode_good`: the byte-level decoder into a receiver
    whose stores are `Good` (any kinds, empty or not), from the block fold over any receiver
    (`RoundTrip.applyBlocks_sketchBlocks_any`); `encodesTo_decode_new`: a new receiver of kind `k`;
    `accepts_new`, `accepts_same`: a new receiver, a receiver with the same mapping, accept the encoding.
  * `PB.MsgOK` (checker `PB.msgOK_of_b`), `PB.mergeWithProto_eq_addList`, `PB.binsOK_protoBins`:
    `store.MergeWithProto` into a `Good` store is `addList` on the bins `PB.protoBins` of the message
    (from `PB.mergeWithProto_addList` of `DDS.Proofs.Proto`).
  * `PB.storeToProto_good`: the message `ToProto` builds for a `Good` store of any kind (dense
    kinds: contiguous counts of the window, `PB.storeToProto_dense`; sparse / paginated: sparse
    entries, `PB.msgOK_content`) is admissible and its bins add up to the canonical content of the store.
-/
import DDS.Proofs.Lift
import DDS.Proofs.RoundTrip
import DDS.Proofs.Proto

namespace DDS.Lift

open DDS DDS.Wire DDS.RoundTrip

/-! ## adding a list of bins to a good store of any kind -/

/-- admissible bins: non-negative weights; an int32 index unless the weight is zero (a
    zero-weight bin is skipped before its index is looked at) -/
def BinsOK (L : List (Int × Rat)) : Prop := ∀ p ∈ L, 0 ≤ p.2 ∧ (p.2 ≠ 0 → I32 p.1)

theorem binsOK_wf (c : Content) (hc : c.WF) (h32 : ∀ p ∈ c, I32 p.1) : BinsOK c :=
  fun p hp => ⟨hc.nonneg p hp, fun _ => h32 p hp⟩

theorem BinsOK.nonneg {L : List (Int × Rat)} (h : BinsOK L) : ∀ p ∈ L, 0 ≤ p.2 :=
  fun p hp => (h p hp).1

theorem BinsOK.append {a b : List (Int × Rat)} (ha : BinsOK a) (hb : BinsOK b) : BinsOK (a ++ b) :=
  fun p hp => (List.mem_append.1 hp).elim (ha p) (hb p)

/-- executable form of `BinsOK`, for concrete bin lists -/
def binsOKb (L : List (Int × Rat)) : Bool :=
  L.all (fun p => decide (0 ≤ p.2) && (decide (p.2 = 0) || decide (I32 p.1)))

theorem binsOK_of_b (L : List (Int × Rat)) (h : binsOKb L = true) : BinsOK L := by
  unfold binsOKb at h
  rw [List.all_eq_true] at h
  intro p hp
  have := h p hp
  simp only [Bool.and_eq_true, Bool.or_eq_true, decide_eq_true_eq] at this
  exact ⟨this.1, fun h0 => this.2.resolve_left h0⟩

/-- **adding bins to a store of any kind.**  `E` is any canonical content whose clamped form the
    store holds (for instance its own content, `good_fixed`): after the adds the store holds the
    clamped form of `E` merged with the bins. -/
theorem addList_good (L : List (Int × Rat)) (hL : BinsOK L) (st : Store) (h : Good st)
    (E : Content) (hE : E.WF) (hc : contentOf st = st.clamp.apply E) :
    ∃ st', addList st L = some st' ∧ Good st' ∧ st'.kind = st.kind ∧
      contentOf st' = st.clamp.apply (E.merge L) := by
  induction L generalizing st E with
  | nil => exact ⟨st, rfl, h, rfl, hc⟩
  | cons p L ih =>
    obtain ⟨hp1, hp2⟩ := hL p (List.mem_cons_self ..)
    obtain ⟨st1, a1, a2, a3, a4⟩ := good_add_rel st h _ rfl E hE hc p.1 p.2 hp1 hp2
    have hcl : st1.clamp = st.clamp := clamp_of_kind a3
    obtain ⟨st2, b1, b2, b3, b4⟩ := ih (fun q hq => hL q (List.mem_cons_of_mem _ hq)) st1 a2 (E.add p.1 p.2)
      (Content.wf_add E p.1 p.2 hE hp1) (by rw [hcl]; exact a4)
    refine ⟨st2, ?_, b2, by rw [b3, a3], ?_⟩
    · simp only [addList, List.foldlM_cons, a1]; exact b1
    · rw [b4, hcl, Content.merge_cons]

theorem addBins_finBins (st : Store) (L : List (Int × Rat)) :
    Sketch.addBins st (finBins L) = addList st L := by
  induction L generalizing st with
  | nil => rfl
  | cons p L ih =>
    simp only [finBins, List.map_cons, Sketch.addBins, Sketch.addF, addList, List.foldlM_cons] at ih ⊢
    cases st.addWithCount p.1 p.2 with
    | none => rfl
    | some st' => exact ih st'

/-- decoded float bins that denote the content `c` (int32 keys), added to a good store of any
    kind: the bins are admissible, and merging them is merging `c` -/
theorem addBins_denotes (st : Store) (h : Good st) {fb : List (Int × F64)} {c : Content}
    (hd : Denotes fb c) (hc : c.WF) (h32 : ∀ p ∈ c, I32 p.1)
    (E : Content) (hE : E.WF) (hcE : contentOf st = st.clamp.apply E) :
    ∃ st', Sketch.addBins st fb = some st' ∧ Good st' ∧ st'.kind = st.kind ∧
      contentOf st' = st.clamp.apply (E.merge c) := by
  obtain ⟨L, rfl, hnn, hl⟩ := hd
  have hL : BinsOK L := fun p hp => ⟨hnn p hp, fun h0 => by
    have := Content.lookup_eq_wsum L p.1 ▸ Content.wsum_pos _ L hnn
      ⟨p, hp, decide_eq_true rfl, lt_of_le_of_ne (hnn p hp) (Ne.symm h0)⟩
    rw [hl] at this
    obtain ⟨q, hq, hqp⟩ := lookup_ne_zero_mem c p.1 (ne_of_gt this)
    exact hqp ▸ h32 q hq⟩
  obtain ⟨st', a1, a2, a3, a4⟩ := addList_good L hL st h E hE hcE
  exact ⟨st', by rw [addBins_finBins]; exact a1, a2, a3,
    by rw [a4, merge_of_lookup E hE L hnn c hc hl]⟩

/-! ## the block fold into good stores -/

theorem encOK_keys32 (st : Store) (c : Content) (hr : st.Refines c) (h : EncOK st) :
    ∀ p ∈ c, I32 p.1 := by
  cases st with
  | sp c' => obtain rfl := Option.some.inj hr.bins; exact h.1
  | pg s => obtain rfl := Option.some.inj hr.bins; exact pag_keys32 s h.inv
  | d s =>
    have hd : DenseOK s := h
    obtain ⟨hb, hwf, hlk⟩ := hd.content_spec
    obtain rfl : DStore.content s = c := Option.some.inj (hb.symm.trans hr.bins)
    have hb32 := bounded32_of_window s
      (fun h0 j => hd.outside j (by have := hd.emptyWin h0; omega)) hd.outside
      (fun h0 => ⟨(hd.range h0).1.1, (hd.range h0).2.2⟩)
    exact keys32_of_lookup _ hwf (fun j hj => hb32 j (hlk j ▸ ne_of_gt hj))

/-- the encoder accepts the sketch; its precondition `EncOK` already makes every index an int32 -/
theorem encode_ok32 (s : Sketch) (cp cn : Content) (hs : s.Refines cp cn) (hp : EncOK s.pos)
    (hn : EncOK s.neg) (m : MapId) (hm : s.mapping = some m) (z : Rat) (hz : s.zero = .fin z)
    (om : Bool) :
    ∃ s' bl, EncodesTo s cp cn m z om s' bl ∧ s.encode om = some (s', bl) ∧
      (∀ p ∈ cp, I32 p.1) ∧ (∀ p ∈ cn, I32 p.1) := by
  obtain ⟨s', bl, he⟩ := RoundTrip.encode_ok s cp cn hs hp hn m hm z hz om
  exact ⟨s', bl, he, he.encode_eq, encOK_keys32 _ _ hs.pos hp, encOK_keys32 _ _ hs.neg hn⟩

/-- decoding the bytes of `Sketch.encode` into a receiver `r` that accepts the mapping and whose
    two stores are `Good` (of any kinds, not necessarily the same, empty or not): the zero bucket
    is added, the mapping set, and each store holds the clamped form of its exact content merged
    with the encoded content.  `Ep`, `En`: canonical contents whose clamped forms the receiver's
    stores hold. -/
theorem encodesTo_decode_good {s : Sketch} {cp cn : Content} {m : MapId} {z : Rat} {om : Bool}
    {s' : Sketch} {bl : List Block} (h : EncodesTo s cp cn m z om s' bl)
    (h32p : ∀ p ∈ cp, I32 p.1) (h32n : ∀ p ∈ cn, I32 p.1)
    (hm : MapOK m) (hz : WOK z) (r : Sketch)
    (hm0 : if om then r.mapping = some m else Accepts r.mapping m)
    (Gp : Good r.pos) (Gn : Good r.neg) (Ep En : Content) (hEp : Ep.WF) (hEn : En.WF)
    (hcEp : contentOf r.pos = r.pos.clamp.apply Ep)
    (hcEn : contentOf r.neg = r.neg.clamp.apply En) :
    ∃ t, Sketch.decodeAndMergeWith r (encBlocks bl) = some (.ok t) ∧
      t.mapping = some m ∧ t.zero = zeroAfter r.zero z ∧
      Good t.pos ∧ Good t.neg ∧ t.pos.kind = r.pos.kind ∧ t.neg.kind = r.neg.kind ∧
      contentOf t.pos = r.pos.clamp.apply (Ep.merge cp) ∧
      contentOf t.neg = r.neg.clamp.apply (En.merge cn) := by
  have hwf := h.wf
  obtain ⟨pb, nb, rfl, _, rr, _, _, w1, w2, d1, d2⟩ := h
  obtain ⟨p', a1, a2, a3, a4⟩ := addBins_denotes r.pos Gp d1 rr.pos.wf h32p Ep hEp hcEp
  obtain ⟨n', b1, b2, b3, b4⟩ := addBins_denotes r.neg Gn d2 rr.neg.wf h32n En hEn hcEn
  exact ⟨_, decodeAndMergeWith_encBlocks r _ { stats := none } _ hwf
    (applyBlocks_sketchBlocks_any m hm om z hz pb nb (fun b hb => (w1 b hb).2.2)
      (fun b hb => (w2 b hb).2.2) r _ hm0 p' n' a1 b1) rfl,
    rfl, rfl, a2, b2, a3, b3, a4, b4⟩

/-- decoding an encoding into a NEW sketch on stores of kind `k` (with a mapping `m0` the
    encoding is compatible with: the same one when the mapping is omitted, none or an equal one
    otherwise) -/
theorem encodesTo_decode_new (k : StoreKind) (hk : KindOK k) {s : Sketch} {cp cn : Content}
    {m : MapId} {z : Rat} {om : Bool} {s' : Sketch} {bl : List Block}
    (h : EncodesTo s cp cn m z om s' bl)
    (h32p : ∀ p ∈ cp, I32 p.1) (h32n : ∀ p ∈ cn, I32 p.1) (hm : MapOK m) (hz : WOK z)
    (m0 : Option MapId) (hm0 : if om then m0 = some m else Accepts m0 m) :
    ∃ t, Sketch.decodeAndMergeWith (Sketch.new m0 k) (encBlocks bl) = some (.ok t) ∧
      t.mapping = some m ∧ t.zero = .fin z ∧ Good t.pos ∧ Good t.neg ∧
      t.pos.kind = k ∧ t.neg.kind = k ∧
      contentOf t.pos = (clampOfKind k).apply cp ∧ contentOf t.neg = (clampOfKind k).apply cn := by
  obtain ⟨g, c0, k0⟩ := good_new k hk
  have hwf := (id h : EncodesTo s cp cn m z om s' bl)
  obtain ⟨pb, nb, _, _, rr, _⟩ := hwf
  have hc0 : contentOf (Store.new k) = (Store.new k).clamp.apply [] := by
    rw [c0, Clamp.apply_nil]
  obtain ⟨t, t1, t2, t3, t4, t5, t6, t7, t8, t9⟩ := encodesTo_decode_good h h32p h32n hm hz
    (Sketch.new m0 k) hm0 g g [] [] Content.wf_nil Content.wf_nil hc0 hc0
  refine ⟨t, t1, t2, ?_, t4, t5, t6.trans k0, t7.trans k0, ?_, ?_⟩
  · rw [t3]; exact zeroAfter_zero z hz
  · rw [t8, Content.merge_nil_left cp rr.pos.wf]
    show (Store.new k).clamp.apply cp = _
    rw [clamp_new]
  · rw [t9, Content.merge_nil_left cn rr.neg.wf]
    show (Store.new k).clamp.apply cn = _
    rw [clamp_new]

/-- a new consumer is given the mapping iff the encoding omits it -/
theorem accepts_new (m : MapId) (om : Bool) :
    if om then (if om then some m else none) = some m
    else Accepts (if om then some m else none) m := by
  cases om <;> simp [Accepts]

/-- a receiver that has the (finite) mapping of the encoding accepts it, embedded or omitted -/
theorem accepts_same {r : Sketch} {m : MapId} (hrm : r.mapping = some m) (hmf : MapFinite m)
    (om : Bool) : if om then r.mapping = some m else Accepts r.mapping m := by
  cases om
  · simpa [hrm] using accepts_self m hmf
  · simpa using hrm

/-! ## `store.MergeWithProto` into a good store of any kind -/

namespace PB
open DDS.Proto

/-- every weight of the message is a finite non-negative float, and every bin with a non-zero
    weight has an int32 index -/
def MsgOK (pb : PbStore) : Prop :=
  (∀ e ∈ pb.binCounts, ∃ w, weightOf e.2 = some w ∧ 0 ≤ w ∧ (w ≠ 0 → I32 e.1)) ∧
  (∀ cv ∈ pb.contiguous.zipIdx, ∃ w, weightOf cv.1 = some w ∧ 0 ≤ w ∧
    (w ≠ 0 → I32 ((cv.2 : Int) + pb.contiguousOffset)))

/-- executable form of `MsgOK`, for concrete messages -/
def msgOKb (pb : PbStore) : Bool :=
  pb.binCounts.all (fun e =>
    match weightOf e.2 with
    | some w => decide (0 ≤ w) && (decide (w = 0) || decide (I32 e.1))
    | none => false) &&
  pb.contiguous.zipIdx.all (fun cv =>
    match weightOf cv.1 with
    | some w => decide (0 ≤ w) && (decide (w = 0) || decide (I32 ((cv.2 : Int) + pb.contiguousOffset)))
    | none => false)

theorem msgOK_of_b (pb : PbStore) (h : msgOKb pb = true) : MsgOK pb := by
  unfold msgOKb at h
  rw [Bool.and_eq_true, List.all_eq_true, List.all_eq_true] at h
  constructor
  · intro e he
    have := h.1 e he
    cases hw : weightOf e.2 with
    | none => rw [hw] at this; simp at this
    | some w =>
      rw [hw] at this
      simp only [Bool.and_eq_true, Bool.or_eq_true, decide_eq_true_eq] at this
      exact ⟨w, rfl, this.1, fun h0 => this.2.resolve_left h0⟩
  · intro cv hcv
    have := h.2 cv hcv
    cases hw : weightOf cv.1 with
    | none => rw [hw] at this; simp at this
    | some w =>
      rw [hw] at this
      simp only [Bool.and_eq_true, Bool.or_eq_true, decide_eq_true_eq] at this
      exact ⟨w, rfl, this.1, fun h0 => this.2.resolve_left h0⟩

theorem MsgOK.defined {pb : PbStore} (h : MsgOK pb) : Defined pb :=
  ⟨fun e he => by obtain ⟨w, h1, _⟩ := h.1 e (mem_normBinCounts _ _ he); rw [h1]; rfl,
   fun cv hcv => by obtain ⟨w, h1, _⟩ := h.2 cv hcv; rw [h1]; rfl⟩

theorem binsOK_protoBins (pb : PbStore) (h : MsgOK pb) : BinsOK (protoBins pb) := by
  apply BinsOK.append
  · intro p hp
    obtain ⟨e, he, rfl⟩ := List.mem_map.1 hp
    obtain ⟨w, h1, h2, h3⟩ := h.1 e (mem_normBinCounts _ _ he)
    simp only [h1, Option.getD_some]
    exact ⟨h2, h3⟩
  · intro p hp
    obtain ⟨cv, hcv, rfl⟩ := List.mem_map.1 hp
    obtain ⟨w, h1, h2, h3⟩ := h.2 cv hcv
    simp only [h1, Option.getD_some]
    exact ⟨h2, h3⟩

theorem mergeWithProto_eq_addList (pb : PbStore) (h : MsgOK pb) (st : Store) :
    mergeWithProto st pb = addList st (protoBins pb) := by
  rw [mergeWithProto_addList, if_pos h.defined]

/-! ### the message `ToProto` builds for a good store of any kind -/

theorem msgOK_empty : MsgOK {} := ⟨fun _ h => (nomatch h), fun _ h => (nomatch h)⟩

/-- the message `ToProto` builds for a sparse store with float weights -/
theorem msgOK_content (c : Content) (hwf : c.WF) (hc : ∀ p ∈ c, F64.isRep p.2 = true)
    (h32 : ∀ p ∈ c, I32 p.1) :
    MsgOK { binCounts := c.map (fun p => (p.1, ratBits p.2)) } := by
  refine ⟨?_, fun _ h => (nomatch h)⟩
  intro e he
  obtain ⟨p, hp, rfl⟩ := List.mem_map.1 he
  exact ⟨p.2, weightOf_ratBits p.2 (hc p hp), hwf.nonneg p hp, fun _ => h32 p hp⟩

theorem contig_seqBins (ws : List Rat) (hrep : ∀ w ∈ ws, F64.isRep w = true) (k : Nat) (off : Int) :
    ((ws.map ratBits).zipIdx k).map (fun cv => ((cv.2 : Int) + off, (weightOf cv.1).getD 0)) =
      seqBins ((k : Int) + off) ws := by
  induction ws generalizing k with
  | nil => rfl
  | cons a ws ih =>
    rw [List.map_cons, List.zipIdx_cons, List.map_cons, seqBins,
      ih (fun w hw => hrep w (by simp [hw])) (k + 1)]
    simp only [weightOf_ratBits a (hrep a (by simp)), Option.getD_some]
    congr 2
    push_cast; omega

theorem contig_msg (ws : List Rat) (hrep : ∀ w ∈ ws, F64.isRep w = true) (off : Int)
    (h : BinsOK (seqBins off ws)) :
    protoBins { contiguous := ws.map ratBits, contiguousOffset := off } = seqBins off ws ∧
      MsgOK { contiguous := ws.map ratBits, contiguousOffset := off } := by
  have hseq := contig_seqBins ws hrep 0 off
  rw [Nat.cast_zero, zero_add] at hseq
  refine ⟨?_, fun _ h => (nomatch h), fun cv hcv => ?_⟩
  · unfold protoBins
    simp only
    rw [normBinCounts_nil, List.map_nil, List.nil_append, hseq]
  · obtain ⟨w, hw, e⟩ := List.mem_map.1 (List.fst_mem_of_mem_zipIdx hcv)
    have hb := h _ (hseq ▸ List.mem_map_of_mem hcv)
    simp only [← e, weightOf_ratBits w (hrep w hw), Option.getD_some] at hb ⊢
    exact ⟨w, rfl, hb⟩

theorem denseWin_of_good (s : DStore) (h : Good (.d s)) : DenseWin s :=
  have c := ((good_d_iff s).1 h).core
  ⟨c.wt_nonneg, c.outside, c.window,
    fun h0 => by obtain ⟨_, a, b⟩ := c.empty h0; rw [a, b]; decide⟩

/-- the message of a dense-family store: contiguous counts of the window, denoting the weights -/
theorem storeToProto_dense (s : DStore) (hd : DenseWin s)
    (hrep : ∀ j, F64.isRep (DStore.wt s j) = true) (h32 : ∀ j, DStore.wt s j ≠ 0 → I32 j) :
    ∃ pb, storeToProto (.d s) = some pb ∧ MsgOK pb ∧ (∀ p ∈ protoBins pb, 0 ≤ p.2) ∧
      ∀ j, Content.lookup (protoBins pb) j = DStore.wt s j := by
  by_cases h0 : s.count = 0
  · have he : s.isEmpty = true := (DStore.isEmpty_iff_count s).2 h0
    refine ⟨{}, by simp [storeToProto, he], msgOK_empty, by rw [protoBins_empty]; simp, fun j => ?_⟩
    have := hd.emptyWin h0
    rw [protoBins_empty, hd.outside j (by omega)]; rfl
  · have hne : s.isEmpty = false := by
      cases h : s.isEmpty with
      | false => rfl
      | true => exact absurd ((DStore.isEmpty_iff_count s).1 h) h0
    have hok : BinsOK (winBins s) := fun p hp => by
      obtain ⟨e, _, _⟩ := mem_winBins hp
      rw [e]
      exact ⟨hd.nonneg _, h32 _⟩
    obtain ⟨hpb, hmsg⟩ := contig_msg ((DStore.idxRange s.minIndex s.maxIndex).map (DStore.wt s))
      (fun w hw => by obtain ⟨i, _, rfl⟩ := List.mem_map.1 hw; exact hrep i) s.minIndex
      (by rw [DStore.idxRange_eq, seqBins_irange]; exact hok)
    rw [DStore.idxRange_eq, seqBins_irange] at hpb
    exact ⟨_, by simp only [storeToProto, hne, Bool.false_eq_true, ↓reduceIte, hd.counts,
      Option.bind_eq_bind, Option.bind_some, Option.pure_def], hmsg, hpb ▸ hok.nonneg,
      fun j => hpb ▸ hd.lookup_winBins j⟩

/-- **the message `ToProto` builds for a good store of ANY kind** (float weights) is admissible
    and its bins add up to the canonical content of the store -/
theorem storeToProto_good (st : Store) (h : Good st)
    (hrep : ∀ p ∈ contentOf st, F64.isRep p.2 = true) :
    ∃ pb, storeToProto st = some pb ∧ MsgOK pb ∧ Content.ofList (protoBins pb) = contentOf st := by
  have hwf := good_wf st h
  have h32 := good_keys32 st h
  cases st with
  | sp c =>
    exact ⟨_, rfl, msgOK_content c hwf hrep h32,
      by rw [protoBins_content c hwf hrep]; exact Content.ofList_of_wf c hwf⟩
  | pg s =>
    by_cases he : s.isEmpty = true
    · refine ⟨{}, by simp [storeToProto, he], msgOK_empty, ?_⟩
      rw [protoBins_empty, good_empty _ h he]; rfl
    · exact ⟨_, by simp [storeToProto, he]; rfl, msgOK_content (contentOf (.pg s)) hwf hrep h32,
        by rw [protoBins_content _ hwf hrep]; exact Content.ofList_of_wf _ hwf⟩
  | d s =>
    obtain ⟨hlk, hb32⟩ := good_d_spec h
    have hrep' : ∀ j, F64.isRep (DStore.wt s j) = true := by
      intro j
      by_cases h0 : DStore.wt s j = 0
      · rw [h0]; exact F64.isRep_zero
      · rw [← hlk] at h0
        obtain ⟨p, hp, hpj⟩ := lookup_ne_zero_mem _ j h0
        rw [← hlk, ← hpj, Content.lookup_of_mem_sorted (DStore.content s) hwf.1 p hp]
        exact hrep p hp
    obtain ⟨pb, a1, a2, a3, a4⟩ := storeToProto_dense s (denseWin_of_good s h) hrep' hb32
    refine ⟨pb, a1, a2, ?_⟩
    show Content.merge [] (protoBins pb) = _
    rw [merge_of_lookup [] Content.wf_nil _ a3 _ hwf (fun j => (a4 j).trans (hlk j).symm)]
    exact Content.ofList_of_wf _ hwf

end PB

end DDS.Lift
