/-
  DDS.Proofs.GenSketchRun — vocabulary about the regenerated sketch code (`DDS/Generated/CodeSketch.lean`) that does
  not depend on which store implements `StoreI`: `okOr` (the value of a `Res`, a default on a panic or when fuel
  runs out — how every wrapper of a regenerated store makes its methods total), `Add` as `AddWithCount(·, 1)`,
  `AddWithCount` keeps the mapping object, `runAdds`, a history of `AddWithCount` calls with the errors returned,
  `reweightF`, the float dispatch that `Reweight` of every `StoreI` instance performs (`reweightF_rel`: two instances
  agree as soon as they do on the finite factors `> 0`), and the float dispatch of `KeyAtRank` (`keyAtRankF_eq`).
  Used by the parametricity theorems (`DDS/Proofs/GenStoreSim.lean`) and by every `StoreI` instance over a
  regenerated store.  The names live in namespace `DDS.GenPagSketch` (`reweightF`, `reweightF_rel`, `keyAtRankF_eq`
  in `DDS.GenSketch`), not in a namespace of this file's name.
-/
import DDS.Proofs.GenSketch

namespace DDS.GenPagSketch

open DDS DDS.GoSem

/-- the value of a result, `d` on a panic or when fuel runs out -/
def okOr {α : Type} (r : Res α) (d : α) : α :=
  match r with
  | .ok a => a
  | _ => d

@[simp] theorem okOr_ok {α : Type} (a d : α) : okOr (.ok a) d = a := rfl

theorem ite_pred {α : Type} (P : α → Prop) (c : Bool) {a b : α} (ha : P a) (hb : P b) :
    P (if c then a else b) := by
  cases c
  · exact hb
  · exact ha

theorem bind_pred {α β : Type} (P : Option β → Prop) (hn : P none) (o : Option α) {f : α → Option β}
    (h : ∀ a, P (f a)) : P (o >>= f) := by
  cases o
  · exact hn
  · exact h _

theorem nonneg_of_not_lt_zero (c : F64) (hc : F64.lt c (.fin 0) = false) : ∀ w, c = .fin w → 0 ≤ w := by
  intro w hw; subst hw
  simp only [F64.lt, decide_eq_false_iff_not] at hc
  exact Rat.not_lt.mp hc

section sketch

open DDS.Gen.Sketch

variable {M : Type} [MapI M] [Inhabited M]

theorem Add_eq_AddWithCount {S : Type} [StoreI S] [Inhabited S] (g : DDSketch M S) (v : F64) :
    DDSketch.Add g v = DDSketch.AddWithCount g v (.fin 1) := rfl

/-- `Add`/`AddWithCount` never change the mapping object: no exit of the cascade does -/
theorem AddWithCount_mapping {S : Type} [StoreI S] [Inhabited S] (g : DDSketch M S) (v c : F64) :
    (DDSketch.AddWithCount g v c).1.IndexMapping = g.IndexMapping := by
  have ite := @ite_pred _ fun r : DDSketch M S × GoErr => r.1.IndexMapping = g.IndexMapping
  exact ite _ rfl (ite _ (ite _ rfl rfl) (ite _ (ite _ rfl rfl) (ite _ rfl rfl)))

/-- a history of `AddWithCount(value, count)` calls: the final receiver and the errors returned, in order -/
def runAdds {S : Type} [StoreI S] [Inhabited S] (g : DDSketch M S) : List (F64 × F64) → DDSketch M S × List GoErr
  | [] => (g, [])
  | (v, c) :: rest =>
    let r := DDSketch.AddWithCount g v c
    let r' := runAdds r.1 rest
    (r'.1, r.2 :: r'.2)

theorem runAdds_cons {S : Type} [StoreI S] [Inhabited S] (g : DDSketch M S) (v c : F64) (rest : List (F64 × F64)) :
    runAdds g ((v, c) :: rest) = ((runAdds (DDSketch.AddWithCount g v c).1 rest).1,
      (DDSketch.AddWithCount g v c).2 :: (runAdds (DDSketch.AddWithCount g v c).1 rest).2) := rfl

theorem runAdds_mapping {S : Type} [StoreI S] [Inhabited S] (l : List (F64 × F64)) :
    ∀ g : DDSketch M S, (runAdds g l).1.IndexMapping = g.IndexMapping := by
  induction l with
  | nil => intro g; rfl
  | cons p rest ih =>
    intro g
    rw [runAdds_cons, ih, AddWithCount_mapping]

end sketch

end DDS.GenPagSketch

namespace DDS.GenSketch

open DDS DDS.GoSem

/-- the float dispatch of every store's `Reweight` in this development (`GenSketch.storeReweight` and the wrappers
    of the regenerated stores): refused for `w ≤ 0`, the receiver untouched for a non-finite factor, `f q` for a
    finite `q > 0` -/
def reweightF {X : Type} (x : X) (f : Rat → X × GoErr) (w : F64) : X × GoErr :=
  if F64.le w (.fin 0) then (x, errStoreReweight)
  else match w with
    | .fin q => f q
    | _ => (x, GoErr.nil)

/-- two such dispatches agree (same error, receivers in `R`) as soon as they do on the finite factors `> 0` -/
theorem reweightF_rel {X Y : Type} (R : X → Y → Prop) {x : X} {y : Y} (h : R x y) (f : Rat → X × GoErr)
    (g : Rat → Y × GoErr) (hfg : ∀ q, 0 < q → (f q).2 = (g q).2 ∧ R (f q).1 (g q).1) (w : F64) :
    (reweightF x f w).2 = (reweightF y g w).2 ∧ R (reweightF x f w).1 (reweightF y g w).1 := by
  unfold reweightF
  by_cases hle : F64.le w (.fin 0) = true
  · rw [if_pos hle, if_pos hle]; exact ⟨rfl, h⟩
  · rw [if_neg hle, if_neg hle]
    cases w with
    | fin q => exact hfg q (Rat.not_le.1 (by rwa [F64.le_fin, decide_eq_true_eq] at hle))
    | _ => exact ⟨rfl, h⟩

/-- the float dispatch of every store's `KeyAtRank` in this development: a finite rank goes to the rational method,
    `-Inf` is rank 0, `+Inf` and NaN give the maximum index.  It is the model's `Sketch.storeKeyAtRank` as soon as the
    rational method and `MaxIndex` are the model's. -/
theorem keyAtRankF_eq {st : Store} {kq : Rat → Int} {mx : Int × GoErr} (hq : ∀ q, kq q = st.keyAtRank q)
    (hm : mx = storeMaxIndex st) (r : F64) :
    (match r with | .fin q => kq q | .ninf => kq 0 | _ => mx.1) = Sketch.storeKeyAtRank st r := by
  subst hm
  cases r with
  | fin q => exact hq q
  | ninf => exact hq 0
  | pinf => unfold storeMaxIndex Sketch.storeKeyAtRank; cases st.maxIndex? <;> rfl
  | nan => unfold storeMaxIndex Sketch.storeKeyAtRank; cases st.maxIndex? <;> rfl

end DDS.GenSketch
