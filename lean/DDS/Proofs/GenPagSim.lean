/-
  DDS.Proofs.GenPagSim — the regenerated buffered-paginated store as an instance of the generic parametricity of
  `DDS/Proofs/GenStoreSim.lean`.

  `pagStoreSim grow : StoreSim (GPS grow) Store`: the regenerated store against the model stores (relation
  `GenPagSketch.Sim`, admissible = int32 index), from the `sim_*` lemmas of `DDS/Proofs/GenPagSketch.lean`.
  `GenPagSketch.SkSim` is `SkSimG (pagStoreSim grow)` (`SkSim.toG`, `SkSim.ofG`), and the theorems
  `GenPagSketch.*_param` (`observers_of_skSim`: the six observers in one statement), `runAdds_param`,
  `history_observers_param` for the default sketch (any mapping implementation `M`; side condition `Routed32`) are the
  generic ones at that simulation.
  `DDS/Props/C01GenPag.lean` chains them with `GenSketch2` and `Props/Lift` to C01.
-/
import DDS.Proofs.GenStoreSim
import DDS.Proofs.GenPagSketch

namespace DDS.GenStoreSim

open DDS DDS.GoSem DDS.Gen.Sketch DDS.GenPagSketch

/-- the regenerated buffered-paginated store simulates the model stores (`GenPagSketch.Sim`; int32 indexes) -/
def pagStoreSim (grow : Int → Int → Int) : StoreSim (GPS grow) Store where
  R := Sim
  Adm := PStore.Idx32
  isEmpty := sim_isEmpty
  totalCount := sim_totalCount
  minIndex := sim_minIndex
  maxIndex := sim_maxIndex
  keyAtRank := sim_keyAtRank
  addWithCount := sim_addWithCount
  add := sim_add
  clear := sim_clear
  copy := sim_copy
  mergeWith := sim_mergeWith
  reweight := sim_reweight

theorem pag_routed {M : Type} [MapI M] (grow : Int → Int → Int) (m : M) (v : F64) :
    RoutedG (pagStoreSim grow) m v ↔ Routed32 m v := Iff.rfl

theorem pag_history_observers {M : Type} [MapI M] [Inhabited M] (grow : Int → Int → Int) (m : M)
    (l : List (F64 × F64)) (hl : ∀ p ∈ l, Routed32 m p.1) :
    let a := runAdds (NewDDSketch m (⟨Gen.Paginated.NewBufferedPaginatedStore⟩ : GPS grow)
      ⟨Gen.Paginated.NewBufferedPaginatedStore⟩) l
    let b := runAdds (NewDDSketch m (Store.new .pag) (Store.new .pag)) l
    a.2 = b.2 ∧ DDSketch.GetCount a.1 = DDSketch.GetCount b.1 ∧ DDSketch.IsEmpty a.1 = DDSketch.IsEmpty b.1 ∧
    (∀ q, DDSketch.GetValueAtQuantile a.1 q = DDSketch.GetValueAtQuantile b.1 q) ∧
    DDSketch.GetMinValue a.1 = DDSketch.GetMinValue b.1 ∧ DDSketch.GetMaxValue a.1 = DDSketch.GetMaxValue b.1 :=
  history_observers_paramG (pagStoreSim grow) m sim_new sim_new l hl

end DDS.GenStoreSim

/-! ### the regenerated sketch over the regenerated paginated store

`SkSim` is `SkSimG (pagStoreSim grow)`, so every statement below is the generic one at that simulation. -/

namespace DDS.GenPagSketch

open DDS DDS.GoSem DDS.PStore DDS.GenPag DDS.Gen.Paginated DDS.Gen.Sketch DDS.GenStoreSim

theorem SkSim.toG {grow : Int → Int → Int} {M : Type} {a : DDSketch M (GPS grow)} {b : DDSketch M Store} (h : SkSim a b) :
    SkSimG (pagStoreSim grow) a b :=
  ⟨h.map, h.pos, h.neg, h.zero⟩

theorem SkSim.ofG {grow : Int → Int → Int} {M : Type} {a : DDSketch M (GPS grow)} {b : DDSketch M Store} (h : SkSimG (pagStoreSim grow) a b) :
    SkSim a b :=
  ⟨h.map, h.pos, h.neg, h.zero⟩

variable {grow : Int → Int → Int} {M : Type} [MapI M] [Inhabited M]

theorem GetCount_param {a : DDSketch M (GPS grow)} {b : DDSketch M Store} (h : SkSim a b) :
    DDSketch.GetCount a = DDSketch.GetCount b :=
  GetCount_paramG _ h.toG

theorem GetZeroCount_param {a : DDSketch M (GPS grow)} {b : DDSketch M Store} (h : SkSim a b) :
    DDSketch.GetZeroCount a = DDSketch.GetZeroCount b := h.zero

theorem IsEmpty_param {a : DDSketch M (GPS grow)} {b : DDSketch M Store} (h : SkSim a b) :
    DDSketch.IsEmpty a = DDSketch.IsEmpty b :=
  IsEmpty_paramG _ h.toG

theorem GetValueAtQuantile_param {a : DDSketch M (GPS grow)} {b : DDSketch M Store} (h : SkSim a b) (q : F64) :
    DDSketch.GetValueAtQuantile a q = DDSketch.GetValueAtQuantile b q :=
  GetValueAtQuantile_paramG _ h.toG q

theorem GetMaxValue_param {a : DDSketch M (GPS grow)} {b : DDSketch M Store} (h : SkSim a b) :
    DDSketch.GetMaxValue a = DDSketch.GetMaxValue b :=
  GetMaxValue_paramG _ h.toG

theorem GetMinValue_param {a : DDSketch M (GPS grow)} {b : DDSketch M Store} (h : SkSim a b) :
    DDSketch.GetMinValue a = DDSketch.GetMinValue b :=
  GetMinValue_paramG _ h.toG

/-- related sketches answer every query alike -/
theorem observers_of_skSim {a : DDSketch M (GPS grow)} {a' : DDSketch M Store} (h : SkSim a a') :
    DDSketch.GetCount a = DDSketch.GetCount a' ∧ DDSketch.IsEmpty a = DDSketch.IsEmpty a' ∧
    DDSketch.GetZeroCount a = DDSketch.GetZeroCount a' ∧
    (∀ q, DDSketch.GetValueAtQuantile a q = DDSketch.GetValueAtQuantile a' q) ∧
    DDSketch.GetMinValue a = DDSketch.GetMinValue a' ∧ DDSketch.GetMaxValue a = DDSketch.GetMaxValue a' :=
  ⟨GetCount_param h, IsEmpty_param h, GetZeroCount_param h, fun q => GetValueAtQuantile_param h q,
    GetMinValue_param h, GetMaxValue_param h⟩

theorem Clear_param {a : DDSketch M (GPS grow)} {b : DDSketch M Store} (h : SkSim a b) :
    SkSim (DDSketch.Clear a) (DDSketch.Clear b) :=
  .ofG (Clear_paramG _ h.toG)

theorem Copy_param {a : DDSketch M (GPS grow)} {b : DDSketch M Store} (h : SkSim a b) :
    SkSim (DDSketch.Copy a) (DDSketch.Copy b) :=
  .ofG (Copy_paramG _ h.toG)

theorem AddWithCount_param {a : DDSketch M (GPS grow)} {b : DDSketch M Store} (h : SkSim a b) (v c : F64)
    (hp : F64.lt (MapI.MinIndexableValue b.IndexMapping) v = true → Idx32 (MapI.Index b.IndexMapping v))
    (hn : F64.lt v (F64.neg (MapI.MinIndexableValue b.IndexMapping)) = true →
      Idx32 (MapI.Index b.IndexMapping (F64.neg v))) :
    (DDSketch.AddWithCount a v c).2 = (DDSketch.AddWithCount b v c).2 ∧
      SkSim (DDSketch.AddWithCount a v c).1 (DDSketch.AddWithCount b v c).1 :=
  (AddWithCount_paramG (pagStoreSim grow) h.toG v c ⟨hp, hn⟩).imp id SkSim.ofG

theorem Add_param {a : DDSketch M (GPS grow)} {b : DDSketch M Store} (h : SkSim a b) (v : F64)
    (hp : F64.lt (MapI.MinIndexableValue b.IndexMapping) v = true → Idx32 (MapI.Index b.IndexMapping v))
    (hn : F64.lt v (F64.neg (MapI.MinIndexableValue b.IndexMapping)) = true →
      Idx32 (MapI.Index b.IndexMapping (F64.neg v))) :
    (DDSketch.Add a v).2 = (DDSketch.Add b v).2 ∧ SkSim (DDSketch.Add a v).1 (DDSketch.Add b v).1 :=
  AddWithCount_param h v (.fin 1) hp hn

theorem MergeWith_param {a a' : DDSketch M (GPS grow)} {b b' : DDSketch M Store} (h : SkSim a b)
    (h' : SkSim a' b') :
    (DDSketch.MergeWith a a').2 = (DDSketch.MergeWith b b').2 ∧
      SkSim (DDSketch.MergeWith a a').1 (DDSketch.MergeWith b b').1 :=
  (MergeWith_paramG _ h.toG h'.toG).imp id SkSim.ofG

theorem Reweight_param {a : DDSketch M (GPS grow)} {b : DDSketch M Store} (h : SkSim a b) (w : F64) :
    (DDSketch.Reweight a w).2 = (DDSketch.Reweight b w).2 ∧
      SkSim (DDSketch.Reweight a w).1 (DDSketch.Reweight b w).1 :=
  (Reweight_paramG _ h.toG w).imp id SkSim.ofG

theorem runAdds_param (l : List (F64 × F64)) :
    ∀ {a : DDSketch M (GPS grow)} {b : DDSketch M Store}, SkSim a b →
      (∀ p ∈ l, Routed32 b.IndexMapping p.1) →
      (runAdds a l).2 = (runAdds b l).2 ∧ SkSim (runAdds a l).1 (runAdds b l).1 :=
  fun h hl => (runAdds_paramG (pagStoreSim grow) l h.toG hl).imp id SkSim.ofG

/-- the payoff in generic form: after any such history from `NewDDSketch` on fresh paginated stores, every
    observer of the regenerated sketch over the regenerated store answers as over the model store -/
theorem history_observers_param (m : M) (l : List (F64 × F64)) (hl : ∀ p ∈ l, Routed32 m p.1) :
    let a := runAdds (NewDDSketch m (⟨NewBufferedPaginatedStore⟩ : GPS grow) ⟨NewBufferedPaginatedStore⟩) l
    let b := runAdds (NewDDSketch m (Store.new .pag) (Store.new .pag)) l
    a.2 = b.2 ∧ DDSketch.GetCount a.1 = DDSketch.GetCount b.1 ∧ DDSketch.IsEmpty a.1 = DDSketch.IsEmpty b.1 ∧
    (∀ q, DDSketch.GetValueAtQuantile a.1 q = DDSketch.GetValueAtQuantile b.1 q) ∧
    DDSketch.GetMinValue a.1 = DDSketch.GetMinValue b.1 ∧ DDSketch.GetMaxValue a.1 = DDSketch.GetMaxValue b.1 :=
  pag_history_observers grow m l hl

end DDS.GenPagSketch
