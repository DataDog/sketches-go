/-
  DDS.Proofs.ChangeMapping — what an answer of the model's `ChangeMapping.changeMapping` (`DDS/Model/ChangeMapping.lean`)
  off the identity shortcut consists of.  Core Lean only: used by the regenerated code's equivalence
  (`DDS/Proofs/GenSketch6.lean`) and by the property file `DDS/Props/C17Sketch.lean`.
-/
import DDS.Model.ChangeMapping

namespace DDS.ChangeMapping

theorem changeMapping_some (old new : MapEnv) (s t : Sketch) (scale : F64) (fuel : Nat)
    (hne : (F64.eq scale F64.one && old.id.equals new.id) = false)
    (hm : changeMapping old new s scale fuel = some t) :
    ∃ p n cp cn, s.pos.binsList = some p ∧ s.neg.binsList = some n ∧
      accumulate (spreadStore old new scale p fuel) = some cp ∧
      accumulate (spreadStore old new scale n fuel) = some cn ∧
      t = { mapping := some new.id, pos := .sp cp, neg := .sp cn, zero := s.zero } := by
  unfold changeMapping at hm
  rw [hne, if_neg Bool.false_ne_true] at hm
  replace hm : s.pos.binsList.bind (fun p => s.neg.binsList.bind fun n =>
      (accumulate (spreadStore old new scale p fuel)).bind fun cp =>
        (accumulate (spreadStore old new scale n fuel)).bind fun cn =>
          some { mapping := some new.id, pos := .sp cp, neg := .sp cn, zero := s.zero }) = some t := hm
  rcases hp : s.pos.binsList with _ | p
  · rw [hp] at hm
    cases hm
  rcases hn : s.neg.binsList with _ | n
  · rw [hp, hn] at hm
    cases hm
  rw [hp, hn] at hm
  replace hm : (accumulate (spreadStore old new scale p fuel)).bind (fun cp =>
      (accumulate (spreadStore old new scale n fuel)).bind fun cn =>
        some { mapping := some new.id, pos := .sp cp, neg := .sp cn, zero := s.zero }) = some t := hm
  rcases hcp : accumulate (spreadStore old new scale p fuel) with _ | cp
  · rw [hcp] at hm
    cases hm
  rcases hcn : accumulate (spreadStore old new scale n fuel) with _ | cn
  · rw [hcp, hcn] at hm
    cases hm
  rw [hcp, hcn] at hm
  cases hm
  exact ⟨p, n, cp, cn, rfl, rfl, hcp, hcn, rfl⟩

end DDS.ChangeMapping
