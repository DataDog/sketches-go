/-
  DDS.Proofs.PagSteps — what the steps of the buffered-paginated store do to a store, with NO invariant
  assumed (`DDS.Proofs.Paginated` says what they do under `PStore.Inv`).

  * frames: `materialize`, `extend`, `page` keep the buffer and the page length (`materialize_frame`,
    `extend_frame`, `page_frame`); a slot that `page` answers is the slot of the page asked for in the new
    table and holds a page (`page_frame`, `page_slot`); `addAtPage` and every fold of such steps leave the
    table where it is (`SameTable`, `addAtPage_frame`, `foldlM_sameTable`).
  * the loop of `compact` as a relation (`CompactRun`, `compactLoop_run`, `compact_run`): the sorted entries
    leave in groups lying on one page; a group goes to the lines of its page when `page` answers a slot and stays
    buffered otherwise.  Facts about a compaction are inductions on this relation (`CompactRun.log2`,
    `CompactRun.count`; `PagCompact.compactRun_plk`).

  Core Lean only.
-/
import DDS.Proofs.Paginated

namespace DDS
namespace PStore

/-! ## frames: what `materialize`, `extend`, `page` keep -/

theorem materialize_frame (s : PStore) (k : Nat) :
    (s.materialize k).minPageIndex = s.minPageIndex ∧ (s.materialize k).pageLenLog2 = s.pageLenLog2 ∧
      (s.materialize k).pages.size = s.pages.size ∧ (s.materialize k).buffer = s.buffer := by
  unfold materialize
  split
  · exact ⟨rfl, rfl, Array.size_setIfInBounds, rfl⟩
  · exact ⟨rfl, rfl, rfl, rfl⟩

theorem materialize_size_ne (s : PStore) (k : Nat) (hk : k < s.pages.size) :
    ((s.materialize k).pages.getD k #[]).size ≠ 0 := by
  unfold materialize
  by_cases hz : (s.pages.getD k #[]).size = 0
  · rw [if_pos hz, getD_setIfInBounds, if_pos ⟨rfl, hk⟩, zeroPage_size]
    exact Nat.ne_of_gt s.pageLen_pos
  · rw [if_neg hz]; exact hz

theorem slot?_materialize (s : PStore) (k : Nat) (p : Int) : (s.materialize k).slot? p = s.slot? p := by
  obtain ⟨h1, _, h3, _⟩ := materialize_frame s k
  unfold slot?; rw [h1, h3]

theorem extend_frame {s s₁ : PStore} {p : Int} (h : extend s p = some s₁) :
    s₁.pageLenLog2 = s.pageLenLog2 ∧ s₁.buffer = s.buffer := by
  unfold extend at h
  split at h
  · split at h
    · cases h; split <;> exact ⟨rfl, rfl⟩
    · dsimp only at h
      split at h
      · cases h
      · cases h; exact ⟨rfl, rfl⟩
  · dsimp only at h
    split at h
    · cases h
    · cases h; exact ⟨rfl, rfl⟩

/-- what `page` answers: the buffer and the page length are kept; a slot answer is the slot of page `p` in the
    new table, and holds a page -/
theorem page_frame {s s' : PStore} {p : Int} {e : Bool} {k? : Option Nat} (h : s.page p e = some (s', k?)) :
    s'.pageLenLog2 = s.pageLenLog2 ∧ s'.buffer = s.buffer ∧
      ∀ k, k? = some k → s'.slot? p = some k ∧ (s'.pages.getD k #[]).size ≠ 0 := by
  cases hs : s.slot? p with
  | some k₀ =>
    rw [page_of_slot_some s p k₀ hs] at h
    have hf : (if e = true then s.materialize k₀ else s).pageLenLog2 = s.pageLenLog2 ∧
        (if e = true then s.materialize k₀ else s).buffer = s.buffer ∧
        (if e = true then s.materialize k₀ else s).slot? p = some k₀ := by
      split
      · exact ⟨(materialize_frame s k₀).2.1, (materialize_frame s k₀).2.2.2, (slot?_materialize ..).trans hs⟩
      · exact ⟨rfl, rfl, hs⟩
    generalize (if e = true then s.materialize k₀ else s) = t at h hf
    obtain ⟨rfl, rfl⟩ := Prod.mk.inj (Option.some.inj h)
    refine ⟨hf.1, hf.2.1, fun k hk => ?_⟩
    by_cases hz : (t.pages.getD k₀ #[]).size = 0
    · rw [if_pos hz] at hk; cases hk
    · rw [if_neg hz] at hk; cases hk; exact ⟨hf.2.2, hz⟩
  | none =>
    cases e with
    | false =>
      unfold page at h; rw [hs] at h; cases h
      exact ⟨rfl, rfl, fun k hk => nomatch hk⟩
    | true =>
      rw [page_of_slot_none s p hs] at h
      cases he : extend s p with
      | none => rw [he] at h; cases h
      | some s₁ =>
        rw [he] at h
        dsimp only at h
        split at h
        · rename_i hk
          cases h
          obtain ⟨f1, f2, f3, f4⟩ := materialize_frame s₁ (p - s₁.minPageIndex).toNat
          refine ⟨f2.trans (extend_frame he).1, f4.trans (extend_frame he).2, fun k hk' => ?_⟩
          cases hk'
          exact ⟨(slot?_materialize ..).trans ((slot?_eq_some ..).2 ⟨by omega, by omega, rfl⟩),
            materialize_size_ne _ _ (by omega)⟩
        · cases h

/-- the slot that `page` answers, by its number -/
theorem page_slot {s s' : PStore} {p : Int} {e : Bool} {k : Nat} (h : s.page p e = some (s', some k)) :
    k < s'.pages.size ∧ (s'.pages.getD k #[]).size ≠ 0 ∧ p - s'.minPageIndex = (k : Int) := by
  obtain ⟨hs, hz⟩ := (page_frame h).2.2 k rfl
  obtain ⟨h1, h2, rfl⟩ := (slot?_eq_some ..).1 hs
  exact ⟨by omega, hz, by omega⟩

/-! ## frames: `addAtPage` and its folds leave the table where it is -/

/-- `s'` has the page table of `s`, in the same place, with other numbers on the lines -/
structure SameTable (s s' : PStore) : Prop where
  log2 : s'.pageLenLog2 = s.pageLenLog2
  buffer : s'.buffer = s.buffer
  minPageIndex : s'.minPageIndex = s.minPageIndex
  size : s'.pages.size = s.pages.size

theorem SameTable.refl (s : PStore) : SameTable s s := ⟨rfl, rfl, rfl, rfl⟩

theorem SameTable.trans {s s₁ s₂ : PStore} (a : SameTable s s₁) (b : SameTable s₁ s₂) : SameTable s s₂ :=
  ⟨b.log2.trans a.log2, b.buffer.trans a.buffer, b.minPageIndex.trans a.minPageIndex, b.size.trans a.size⟩

theorem addAtPage_frame {s s' : PStore} {k l : Nat} {c : Rat} (h : s.addAtPage k l c = some s') :
    SameTable s s' := by
  unfold addAtPage at h
  dsimp only at h
  split at h
  · cases h; exact ⟨rfl, rfl, rfl, Array.size_setIfInBounds⟩
  · cases h

theorem foldlM_sameTable {α : Type} {f : PStore → α → Option PStore}
    (hf : ∀ a x a', f a x = some a' → SameTable a a') :
    ∀ {l : List α} {s s' : PStore}, l.foldlM f s = some s' → SameTable s s' := by
  intro l
  induction l with
  | nil => intro s s' h; cases h; exact .refl s
  | cons x l ih =>
    intro s s' h
    rw [List.foldlM_cons] at h
    obtain ⟨s₁, h1, h2⟩ := Option.bind_eq_some_iff.1 h
    exact (hf _ _ _ h1).trans (ih h2)

theorem foldAddLine_frame {k : Nat} {grp : List Int} {s s' : PStore}
    (h : grp.foldlM (fun acc i => addAtPage acc k (acc.lineIndex i) 1) s = some s') : SameTable s s' :=
  foldlM_sameTable (fun _ _ _ => addAtPage_frame) h

/-! ## the loop of `compact` as a relation -/

/-- a run of the loop of `compact` from `s` over the entries `l`, `kept` being kept so far: the entries are
    taken off `l` in groups lying on one page; `page` is asked for that page; the group goes to the lines of
    the page if a slot is answered and stays buffered otherwise -/
inductive CompactRun : PStore → List Int → List Int → PStore → List Int → Prop
  | nil (s : PStore) (kept : List Int) : CompactRun s [] kept s kept.reverse
  | keep {s s₁ s' : PStore} {l grp rest kept out : List Int} {x : Int} {e : Bool} :
      l = grp ++ rest → x ∈ grp → (∀ y ∈ grp, s.pageIndex y = s.pageIndex x) →
      s.page (s.pageIndex x) e = some (s₁, none) →
      CompactRun s₁ rest (grp.reverse ++ kept) s' out → CompactRun s l kept s' out
  | move {s s₁ s₂ s' : PStore} {l grp rest kept out : List Int} {x : Int} {e : Bool} {k : Nat} :
      l = grp ++ rest → x ∈ grp → (∀ y ∈ grp, s.pageIndex y = s.pageIndex x) →
      s.page (s.pageIndex x) e = some (s₁, some k) →
      grp.foldlM (fun acc i => addAtPage acc k (acc.lineIndex i) 1) s₁ = some s₂ →
      CompactRun s₂ rest kept s' out → CompactRun s l kept s' out

theorem compactLoop_run (fuel : Nat) : ∀ (l kept : List Int) (s s' : PStore) (out : List Int),
    l.length < fuel → compactLoop s fuel l kept = some (s', out) → CompactRun s l kept s' out := by
  induction fuel with
  | zero => intro l kept s s' out hf; omega
  | succ fuel ih =>
    intro l kept s s' out hf h
    cases l with
    | nil => unfold compactLoop at h; cases h; exact .nil s kept
    | cons x xs =>
      rw [compactLoop] at h
      have happ := spanPage_append s (s.pageIndex x) (x :: xs)
      have hpg := spanPage_fst_page s (s.pageIndex x) (x :: xs)
      have hrl := spanPage_snd_length s x xs
      have hx : x ∈ (spanPage s (s.pageIndex x) (x :: xs)).1 := by
        unfold spanPage; rw [if_pos rfl]; exact List.mem_cons_self ..
      generalize spanPage s (s.pageIndex x) (x :: xs) = gr at h happ hpg hrl hx
      obtain ⟨grp, rest⟩ := gr
      dsimp only at h happ hpg hrl hx
      have hlen : rest.length < fuel := by simp only [List.length_cons] at hf; omega
      split at h
      · cases h
      · rename_i s₁ k hpage
        split at h
        · cases h
        · rename_i s₂ hfold
          exact .move happ.symm hx hpg hpage hfold (ih _ _ _ _ _ hlen h)
      · rename_i s₁ hpage
        exact .keep happ.symm hx hpg hpage (ih _ _ _ _ _ hlen h)

theorem compact_run {s s' : PStore} (h : s.compact = some s') :
    ∃ s₁, CompactRun s (sortInts s.buffer) [] s₁ s'.buffer ∧
      s' = { s₁ with buffer := s'.buffer, trigger := s'.buffer.length + s₁.pageLen } := by
  unfold compact at h
  obtain ⟨⟨s₁, kept⟩, hl, h⟩ := Option.bind_eq_some_iff.1 h
  cases h
  exact ⟨s₁, compactLoop_run _ _ _ _ _ _ (Nat.lt_succ_self _) hl, rfl⟩

theorem CompactRun.log2 {s s' : PStore} {l kept out : List Int} (h : CompactRun s l kept s' out) :
    s'.pageLenLog2 = s.pageLenLog2 := by
  induction h with
  | nil => rfl
  | keep _ _ _ hpage _ ih => exact ih.trans (page_frame hpage).1
  | move _ _ _ hpage hfold _ ih => exact ih.trans ((foldAddLine_frame hfold).log2.trans (page_frame hpage).1)

/-- what stays buffered was buffered -/
theorem CompactRun.count {s s' : PStore} {l kept out : List Int} (h : CompactRun s l kept s' out) :
    out.length ≤ l.length + kept.length ∧ ∀ j, out.count j ≤ l.count j + kept.count j := by
  induction h with
  | nil s kept => exact ⟨by simp, fun j => by simp⟩
  | keep hl _ _ _ _ ih =>
    subst hl
    refine ⟨by have := ih.1; simp only [List.length_append, List.length_reverse] at this ⊢; omega, fun j => ?_⟩
    have := ih.2 j
    simp only [List.count_append, List.count_reverse] at this ⊢; omega
  | move hl _ _ _ _ _ ih =>
    subst hl
    refine ⟨by have := ih.1; simp only [List.length_append] at this ⊢; omega, fun j => ?_⟩
    have := ih.2 j
    simp only [List.count_append] at this ⊢; omega

end PStore
end DDS
