/-
  DDS.Proofs.GenMapId — the REGENERATED identity unit of the three index mappings
  (`DDS/Generated/CodeMapId.lean`, translated on every run from `Equals` and `Encode` of
  `ddsketch/mapping/{logarithmic,linearly_interpolated,cubically_interpolated}_mapping.go`)
  against the hand-written identity `DDS.MapId` of `DDS/Model/Sketch.lean`:

  (a) `toIdLog` / `toIdLin` / `toIdCub` read the identity `(kind, gamma, indexOffset)` off a
      generated structure (the kind is the structure's type);
  (b) `X.Equals a b = (toIdX a).equals (toIdX b)` for ALL floats (`log_equals_eq`, `lin_equals_eq`,
      `cub_equals_eq`).  `Equals` is translated for an argument of the receiver's own kind; for an
      argument of another kind Go's type assertion fails and the answer is `false`, which is what the
      model's kind comparison says (`equals_other_kind`);
  (c) `X.Encode fuel m b = .ok (b ++ bn (encBlock (toIdX m).toBlock))` for EVERY `fuel`
      (`EncodeFloat64LE` has no loop: it never runs out of fuel, never panics,
      `GenEncoding.EncodeFloat64LE_eq`) — the flag byte and the two little-endian float64 are, byte for
      byte, the model's mapping block (`log_encode_eq`, `lin_encode_eq`, `cub_encode_eq`).
-/
import DDS.Generated.CodeMapId
import DDS.Proofs.GenBits
import DDS.Proofs.GenEncoding
import DDS.Proofs.MapId

set_option linter.unusedVariables false

namespace DDS.GenMapId

open DDS DDS.GoSem DDS.Gen.MapId DDS.Gen.Encoding DDS.GenEncoding DDS.Codec

/-! ## (a) the identity of a generated mapping -/

def toIdLog (m : LogarithmicMapping) : MapId :=
  { kind := .log, gamma := m.gamma, indexOffset := m.indexOffset }
def toIdLin (m : LinearlyInterpolatedMapping) : MapId :=
  { kind := .linear, gamma := m.gamma, indexOffset := m.indexOffset }
def toIdCub (m : CubicallyInterpolatedMapping) : MapId :=
  { kind := .cubic, gamma := m.gamma, indexOffset := m.indexOffset }

/-! ## (b) `Equals` -/

/-- the copy of `withinTolerance` in the identity unit is the one of the bits unit (same text) -/
theorem withinTolerance_copy (x y t : F64) :
    DDS.Gen.MapId.withinTolerance x y t = DDS.Gen.Bits.withinTolerance x y t := rfl

/-- the tolerance literal the three generated `Equals` pass is the float `1e-12` of the model -/
theorem tolLit_eq :
    F64.fin (4951760157141521 / 4951760157141521099596496896 : Rat) = GenBits.tol :=
  MapId.tol_eq.symm

theorem withinTolerance_eq (x y : F64) :
    DDS.Gen.MapId.withinTolerance x y
        (F64.fin (4951760157141521 / 4951760157141521099596496896 : Rat))
      = MapId.withinTolerance x y := by
  rw [withinTolerance_copy, tolLit_eq, GenBits.withinTolerance_eq]

theorem log_equals_eq (a b : LogarithmicMapping) :
    LogarithmicMapping.Equals a b = (toIdLog a).equals (toIdLog b) := by
  simp only [LogarithmicMapping.Equals, withinTolerance_eq, MapId.equals, toIdLog, beq_self_eq_true,
    Bool.true_and]

theorem lin_equals_eq (a b : LinearlyInterpolatedMapping) :
    LinearlyInterpolatedMapping.Equals a b = (toIdLin a).equals (toIdLin b) := by
  simp only [LinearlyInterpolatedMapping.Equals, withinTolerance_eq, MapId.equals, toIdLin,
    beq_self_eq_true, Bool.true_and]

theorem cub_equals_eq (a b : CubicallyInterpolatedMapping) :
    CubicallyInterpolatedMapping.Equals a b = (toIdCub a).equals (toIdCub b) := by
  simp only [CubicallyInterpolatedMapping.Equals, withinTolerance_eq, MapId.equals, toIdCub,
    beq_self_eq_true, Bool.true_and]

/-- across kinds (not translated: in Go the type assertion `other.(*XMapping)` fails and `Equals`
    returns `false`) the model answers `false` as well, whatever the parameters -/
theorem equals_other_kind (l : LogarithmicMapping) (n : LinearlyInterpolatedMapping)
    (c : CubicallyInterpolatedMapping) :
    (toIdLog l).equals (toIdLin n) = false ∧ (toIdLin n).equals (toIdLog l) = false ∧
    (toIdLog l).equals (toIdCub c) = false ∧ (toIdCub c).equals (toIdLog l) = false ∧
    (toIdLin n).equals (toIdCub c) = false ∧ (toIdCub c).equals (toIdLin n) = false := by
  have hk : ∀ a b : MapId, (a.kind == b.kind) = false → a.equals b = false := by
    intro a b h
    unfold MapId.equals
    rw [h]; rfl
  exact ⟨hk _ _ rfl, hk _ _ rfl, hk _ _ rfl, hk _ _ rfl, hk _ _ rfl, hk _ _ rfl⟩

/-! ## (c) `Encode` -/

/-- what the three generated `Encode` have in common: flag byte, gamma, indexOffset -/
theorem encode_common (fuel : Nat) (f : Gen.Encoding.Flag) (sub : Nat) (g o : F64) (b : List (BitVec 8))
    (hf : f.byte.toNat = Wire.mkFlag Consts.flagTypeIndexMapping sub) :
    Res.bind (EncodeFloat64LE fuel (EncodeFlag b f) g) (fun b =>
      Res.bind (EncodeFloat64LE fuel b o) (fun b => .ok b))
      = .ok (b ++ bn (Wire.encBlock (.mapping sub g.toBits.toNat o.toBits.toNat))) := by
  rw [EncodeFloat64LE_eq, Res.bind_ok, EncodeFloat64LE_eq, Res.bind_ok]
  show Res.ok (b ++ [f.byte] ++ _ ++ _) = Res.ok (b ++ bn (_ :: (_ ++ _)))
  rw [← cons_bn f.byte _ _ hf, bn_append]
  simp only [List.append_assoc, List.cons_append, List.nil_append]

theorem log_encode_eq (fuel : Nat) (m : LogarithmicMapping) (b : List (BitVec 8)) :
    LogarithmicMapping.Encode fuel m b = .ok (b ++ bn (Wire.encBlock (toIdLog m).toBlock)) :=
  encode_common fuel _ _ m.gamma m.indexOffset b FlagIndexMappingBaseLogarithmic_byte

theorem lin_encode_eq (fuel : Nat) (m : LinearlyInterpolatedMapping) (b : List (BitVec 8)) :
    LinearlyInterpolatedMapping.Encode fuel m b = .ok (b ++ bn (Wire.encBlock (toIdLin m).toBlock)) :=
  encode_common fuel _ _ m.gamma m.indexOffset b FlagIndexMappingBaseLinear_byte

theorem cub_encode_eq (fuel : Nat) (m : CubicallyInterpolatedMapping) (b : List (BitVec 8)) :
    CubicallyInterpolatedMapping.Encode fuel m b = .ok (b ++ bn (Wire.encBlock (toIdCub m).toBlock)) :=
  encode_common fuel _ _ m.gamma m.indexOffset b FlagIndexMappingBaseCubic_byte

/-- the bytes of a mapping block of an identity are bytes: `nb ∘ bn` is the identity on them -/
theorem encBlock_toBlock_bytes (m : MapId) : ∀ x ∈ Wire.encBlock m.toBlock, x < 256 := by
  intro x hx
  simp only [MapId.toBlock, Wire.encBlock, List.mem_cons, List.mem_append] at hx
  rcases hx with rfl | hx | hx
  · have := MapId.subFlag_le m.kind
    unfold Wire.mkFlag
    rw [show Consts.flagTypeIndexMapping = 2 from rfl, show Consts.numBitsForType = 2 from rfl]
    omega
  · exact Wire.encF64LE_bytes _ x hx
  · exact Wire.encF64LE_bytes _ x hx

theorem nb_bn_encBlock (m : MapId) :
    nb (bn (Wire.encBlock m.toBlock)) = Wire.encBlock m.toBlock :=
  nb_bn _ (encBlock_toBlock_bytes m)

theorem EncodeFloat64LE_spec (fuel : Nat) (b : List (BitVec 8)) (v : F64) :
    ∃ bs, EncodeFloat64LE fuel b v = .ok (b ++ bs) ∧ nb bs = encF64LE v.toBits.toNat :=
  ⟨_, EncodeFloat64LE_eq fuel b v, nb_bn _ (Wire.encF64LE_bytes _)⟩

theorem log_encode_spec (fuel : Nat) (m : LogarithmicMapping) (b : List (BitVec 8)) :
    ∃ bs, LogarithmicMapping.Encode fuel m b = .ok (b ++ bs) ∧
      nb bs = Wire.encBlock (toIdLog m).toBlock :=
  ⟨_, log_encode_eq fuel m b, nb_bn_encBlock _⟩

theorem lin_encode_spec (fuel : Nat) (m : LinearlyInterpolatedMapping) (b : List (BitVec 8)) :
    ∃ bs, LinearlyInterpolatedMapping.Encode fuel m b = .ok (b ++ bs) ∧
      nb bs = Wire.encBlock (toIdLin m).toBlock :=
  ⟨_, lin_encode_eq fuel m b, nb_bn_encBlock _⟩

theorem cub_encode_spec (fuel : Nat) (m : CubicallyInterpolatedMapping) (b : List (BitVec 8)) :
    ∃ bs, CubicallyInterpolatedMapping.Encode fuel m b = .ok (b ++ bs) ∧
      nb bs = Wire.encBlock (toIdCub m).toBlock :=
  ⟨_, cub_encode_eq fuel m b, nb_bn_encBlock _⟩

end DDS.GenMapId
