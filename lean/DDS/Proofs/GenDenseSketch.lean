/-
  DDS.Proofs.GenDenseSketch — the sketch over the REGENERATED dense stores (`DDS/Generated/CodeDense.lean`):
  the regenerated sketch (`DDS/Generated/CodeSketch.lean`) instantiated with the regenerated `DenseStore`
  behaves exactly like the same regenerated sketch over the hand-written model's stores
  (`instance : StoreI Store`, `DDS/Proofs/GenSketch.lean`) of kind `.dense`.

  1. `GDS` — the regenerated `DenseStore` wrapped; `instance : StoreI GDS`: every method runs the regenerated
     function with a fuel computed from the state (`extendFuel`, `mergeFuel`, `reweightFuel`, `encodeFuel` of the
     model image `ofGen g`).  Conventions of `instance : StoreI Store` / `GenPagSketch`: a panicking (or
     fuel-starved) mutator leaves the receiver unchanged; a non-finite weight leaves the receiver unchanged;
     `TotalCount` is `.fin` of the rational total; `KeyAtRank` at `-Inf` is rank 0, at `+Inf`/NaN the maximum index
     (0 when empty).  NOT covered by any theorem here: `Encode` (regenerated code, fuel `encodeFuel`),
     `DecodeAndMergeWith` (the regenerated generic `store.DecodeAndMergeWith`, heuristic fuel), `ForEachList`
     (defined through the model image).
  2. The dense family, once: `DenseImage S k` — a store type `S` whose methods, on the images `emb d` of the model's
     dense stores of kind `k`, are the model's (the observers answer as `Store.d d`; a mutator returns the image of
     what the model's returns, of `d` itself where the model panics) — gives `DenseImage.sim : StoreSim S Store` with
     `R := ImgRel emb k` (`ImgRel img k g st := ∃ d, g = img d ∧ st = .d d ∧ d.kind = k`, also the relation of the
     decode wrappers in `GenDecodeWrap`; `ImgRel.getD` is the shape of every mutator).  EXACT: the dense model is structurally the code
     (`GenDense.*_rel`), so no invariant, no content abstraction and NO condition on the indexes is needed
     (`Adm = True`): where the Go code panics (the far-index finding `C04Gen.gen_addWithCount_far_panics`) the
     model panics too and both instances leave the receiver unchanged.  The model side is the same for the three
     kinds (`GenDense.addWithCount_kind`, `GenDense.mergeSame_kind`, `store_mergeWith_same`), and so is `Reweight`, which the
     collapsing stores inherit from the embedded `DenseStore` (`reweightVia_image`; the float dispatch it shares
     with every other store of the development is `reweightF_rel`).
  3. `denseImage` (`toGen`); `DSim x st`: `∃ d, x.g = toGen d ∧ st = .d d ∧ d.kind = .plain`, the relation of
     `denseImage.sim` (`dsim_iff`), method lemmas `dsim_*`, `denseStoreSim : StoreSim GDS Store`;
     `dense_history_observers`: from `NewDDSketch m NewDenseStore NewDenseStore`, after ANY history of
     `AddWithCount` calls (no side condition at all), the errors and every observer agree with the regenerated
     sketch over the model stores `Store.new .dense`; `dense_AddWithCount_param`.
  4. The same for the regenerated `CollapsingLowestDenseStore` (namespace `DDS.GenLowSketch`, second part of the
     file): `GLS n` (bin limit as a type index; `Add`, `AddWithCount`, `MergeWith`, `Copy`, `Clear` are the
     store's own regenerated methods, the others the promoted methods of the embedded `DenseStore`, as in Go),
     `lowImage n` (`toLow n`), `lowStoreSim n : StoreSim (GLS n) Store`, `low_history_observers`.
  5. The same for the regenerated `CollapsingHighestDenseStore` (namespace `DDS.GenHighSketch`, last part of the
     file): `GHS n`, `highImage n` (`toHigh n`), `highStoreSim n`, `high_history_observers`.

  No fuel hypothesis appears in the statements.
-/
import DDS.Proofs.GenStoreSim
import DDS.Generated.CodeStoreDecode
import DDS.Proofs.GenDense
import DDS.Proofs.GenDenseEncode
import DDS.Proofs.GenCollapsingLow
import DDS.Proofs.GenCollapsingHigh

namespace DDS.GenDenseSketch

open DDS DDS.GoSem DDS.DStore DDS.GenDense DDS.Gen.Dense DDS.GenStoreSim
open DDS.GenPagSketch (okOr okOr_ok runAdds)

structure GDS where
  g : GS

instance : Inhabited GDS := ⟨⟨NewDenseStore⟩⟩

/-! ### the methods -/

def gAdd (x : GDS) (i : Int) : GDS :=
  ⟨okOr (DenseStore.Add (extendFuel (ofGen x.g) i i) x.g i) x.g⟩

def gAddWithCount (x : GDS) (i : Int) (c : F64) : GDS :=
  match ratOfF64 c with
  | some w => ⟨okOr (DenseStore.AddWithCount (extendFuel (ofGen x.g) i i) x.g i w) x.g⟩
  | none => x

def gCopy (x : GDS) : GDS := ⟨DenseStore.Copy x.g⟩

def gClear (x : GDS) : GDS := ⟨okOr (DenseStore.Clear 1 x.g) x.g⟩

def gIsEmpty (x : GDS) : Bool := DenseStore.IsEmpty x.g

def gTotalCount (x : GDS) : F64 := .fin (DenseStore.TotalCount x.g)

def gMinIndex (x : GDS) : Int × GoErr := DenseStore.MinIndex x.g

def gMaxIndex (x : GDS) : Int × GoErr := DenseStore.MaxIndex x.g

def gKeyAtRankQ (x : GDS) (r : Rat) : Int := okOr (DenseStore.KeyAtRank 1 x.g r) 0

/-- float rank: `-Inf` behaves as rank 0 (the store clamps negative ranks), `+Inf` and NaN are never below a
    cumulative count: the maximum index (as `Sketch.storeKeyAtRank`) -/
def gKeyAtRank (x : GDS) (r : F64) : Int :=
  match r with
  | .fin q => gKeyAtRankQ x q
  | .ninf => gKeyAtRankQ x 0
  | _ => (gMaxIndex x).1

def gMergeWith (x o : GDS) : GDS :=
  ⟨okOr (DenseStore.MergeWith (mergeFuel (ofGen x.g) (ofGen o.g)) x.g o.g) x.g⟩

def gReweight (x : GDS) (w : F64) : GDS × GoErr :=
  if F64.le w (.fin 0) then (x, GenSketch.errStoreReweight)
  else match w with
    | .fin q =>
      match DenseStore.Reweight (reweightFuel (ofGen x.g)) x.g q with
      | .ok (g', e) => (⟨g'⟩, e)
      | _ => (x, GoErr.nil)
    | _ => (x, GoErr.nil)

def gEncode (x : GDS) (b : List (BitVec 8)) (t : Gen.Encoding.FlagType) : GDS × List (BitVec 8) :=
  (x, okOr (DenseStore.Encode (GenDenseEncode.encodeFuel (ofGen x.g)) x.g b t) b)

def gForEachList (x : GDS) : List (Int × F64) :=
  ((ofGen x.g).binsList.getD []).map (fun p => (p.1, F64.fin p.2))

/-- the methods the generic `store.DecodeAndMergeWith` calls -/
@[reducible] def baseI : StoreI GDS where
  Add := gAdd
  AddWithCount := gAddWithCount
  Copy := gCopy
  Clear := gClear
  IsEmpty := gIsEmpty
  MaxIndex := gMaxIndex
  MinIndex := gMinIndex
  TotalCount := gTotalCount
  KeyAtRank := gKeyAtRank
  MergeWith := gMergeWith
  Reweight := gReweight
  Encode := gEncode
  ForEachList := gForEachList
  DecodeAndMergeWith x b _ := (x, b, GoErr.nil)

/-- `DenseStore.DecodeAndMergeWith` is the generic `store.DecodeAndMergeWith` -/
def gDecode (x : GDS) (b : List (BitVec 8)) (sub : Gen.Encoding.SubFlag) : GDS × List (BitVec 8) × GoErr :=
  match @Gen.StoreDecode.DecodeAndMergeWith GDS baseI (3 * b.length + 64) x b sub with
  | .ok r => r
  | _ => (x, b, GoErr.nil)

instance (priority := low) gdStoreI : StoreI GDS where
  Add := gAdd
  AddWithCount := gAddWithCount
  Copy := gCopy
  Clear := gClear
  IsEmpty := gIsEmpty
  MaxIndex := gMaxIndex
  MinIndex := gMinIndex
  TotalCount := gTotalCount
  KeyAtRank := gKeyAtRank
  MergeWith := gMergeWith
  Reweight := gReweight
  Encode := gEncode
  ForEachList := gForEachList
  DecodeAndMergeWith := gDecode

@[simp] theorem gds_add (x : GDS) (i : Int) : StoreI.Add x i = gAdd x i := rfl
@[simp] theorem gds_addWithCount (x : GDS) (i : Int) (c : F64) :
    StoreI.AddWithCount x i c = gAddWithCount x i c := rfl
@[simp] theorem gds_copy (x : GDS) : StoreI.Copy x = gCopy x := rfl
@[simp] theorem gds_clear (x : GDS) : StoreI.Clear x = gClear x := rfl
@[simp] theorem gds_isEmpty (x : GDS) : StoreI.IsEmpty x = gIsEmpty x := rfl
@[simp] theorem gds_maxIndex (x : GDS) : StoreI.MaxIndex x = gMaxIndex x := rfl
@[simp] theorem gds_minIndex (x : GDS) : StoreI.MinIndex x = gMinIndex x := rfl
@[simp] theorem gds_totalCount (x : GDS) : StoreI.TotalCount x = gTotalCount x := rfl
@[simp] theorem gds_keyAtRank (x : GDS) (r : F64) : StoreI.KeyAtRank x r = gKeyAtRank x r := rfl
@[simp] theorem gds_mergeWith (x o : GDS) : StoreI.MergeWith x o = gMergeWith x o := rfl
@[simp] theorem gds_reweight (x : GDS) (w : F64) : StoreI.Reweight x w = gReweight x w := rfl

/-! ### fuel of the model image -/

theorem extendFuel_ofGen (d : DStore) (a b : Int) : extendFuel (ofGen (toGen d)) a b = extendFuel d a b := rfl

theorem mergeFuel_ofGen (d o : DStore) : mergeFuel (ofGen (toGen d)) (ofGen (toGen o)) = mergeFuel d o := rfl

theorem reweightFuel_ofGen (d : DStore) : reweightFuel (ofGen (toGen d)) = reweightFuel d := rfl

/-! ### the dense family

The regenerated `DenseStore` and the two collapsing stores that embed it are the model's `DStore` of one kind each
seen through an embedding (`toGen`, `toLow n`, `toHigh n`), and the model side of every method is the same code for
the three kinds.  So the simulation is built once, for any store type whose methods are the model's through an
embedding. -/

theorem okOr_toRes {α β : Type} (f : α → β) (m : Option α) (a : α) : okOr (toRes f m) (f a) = f (m.getD a) := by
  cases m <;> rfl

theorem store_mergeWith_same (a b : DStore) (h : b.kind = a.kind) :
    (Store.d a).mergeWith (.d b) = (a.mergeSame b).map .d := by
  unfold Store.mergeWith
  simp only [h]
  by_cases he : b.isEmpty = true
  · rw [if_pos he, DStore.mergeSame, if_pos he]
    rfl
  · rw [if_neg he]
    cases a.kind <;> rfl

/-- the regenerated store is the image under `img` of a dense-family model store of kind `k` -/
def ImgRel {G : Type} (img : DStore → G) (k : DKind) (g : G) (st : Store) : Prop :=
  ∃ d : DStore, g = img d ∧ st = .d d ∧ d.kind = k

namespace ImgRel

variable {G : Type} {img : DStore → G} {k : DKind}

@[elab_as_elim] theorem elim {motive : G → Store → Prop} {g : G} {st : Store} (h : ImgRel img k g st)
    (H : ∀ d : DStore, d.kind = k → motive (img d) (.d d)) : motive g st := by
  obtain ⟨d, rfl, rfl, hk⟩ := h
  exact H d hk

/-- the shape of every mutator: the model's operation returned `m` (`none`: a panic, receiver unchanged) -/
theorem getD {d : DStore} (hk : d.kind = k) (m : Option DStore) (hm : ∀ t, m = some t → t.kind = d.kind) :
    ImgRel img k (img (m.getD d)) ((m.map .d).getD (.d d)) := by
  cases m with
  | none => exact ⟨d, rfl, rfl, hk⟩
  | some t => exact ⟨t, rfl, rfl, (hm t rfl).trans hk⟩

end ImgRel

/-- `Reweight` as the three wrappers run it: the embedded `DenseStore`'s on `g`, the result put back by `put` -/
def reweightVia {S : Type} (x : S) (g : GS) (put : GS → S) (w : F64) : S × GoErr :=
  GenSketch.reweightF x (fun q =>
    match DenseStore.Reweight (reweightFuel (ofGen g)) g q with
    | .ok (g', e) => (put g', e)
    | _ => (x, GoErr.nil)) w

/-- `Reweight(w)` through the embedded `DenseStore`, every float factor: the error of the model's store, and the
    image of its result -/
theorem reweightVia_image {S : Type} {k : DKind} (emb : DStore → S) (put : GS → S) (d : DStore) (hk : d.kind = k)
    (hput : ∀ d' : DStore, d'.isCollapsed = d.isCollapsed → put (toGen d') = emb d') (w : F64) :
    (reweightVia (emb d) (toGen d) put w).2 = (StoreI.Reweight (Store.d d) w).2 ∧
      ImgRel emb k (reweightVia (emb d) (toGen d) put w).1 (StoreI.Reweight (Store.d d) w).1 := by
  refine GenSketch.reweightF_rel (ImgRel emb k) ⟨d, rfl, rfl, hk⟩ _ _ (fun q hq => ?_) w
  have hq0 : ¬ q ≤ 0 := Rat.not_le.2 hq
  by_cases h1 : q = 1
  · have hm : (Store.d d).reweight q = some (.ok (.d d)) := by
      unfold Store.reweight; rw [if_neg hq0, if_pos h1]
    subst h1
    simp only [reweight_one, hm]
    exact ⟨trivial, d, hput d rfl, rfl, hk⟩
  · have hm : (Store.d d).reweight q = (d.reweight q).map (fun t => .ok (.d t)) := by
      unfold Store.reweight; rw [if_neg hq0, if_neg h1]
    simp only [reweightFuel_ofGen, reweight_rel _ d q hq h1 (Nat.le_refl _), hm]
    cases hr : d.reweight q with
    | none => exact ⟨rfl, d, rfl, rfl, hk⟩
    | some d' =>
      exact ⟨rfl, d', hput d' (reweight_frame d d' q hr).2, rfl, (reweight_frame d d' q hr).1.trans hk⟩

/-- `S` is the model's dense store of kind `k` seen through `emb`: each method of `S` on an image answers as the
    model store does, or returns the image of what the model's method returns (the receiver where it panics) -/
structure DenseImage (S : Type) [StoreI S] (k : DKind) where
  emb : DStore → S
  isEmpty : ∀ d, (StoreI.IsEmpty (emb d) : Bool) = StoreI.IsEmpty (Store.d d)
  totalCount : ∀ d, (StoreI.TotalCount (emb d) : F64) = StoreI.TotalCount (Store.d d)
  minIndex : ∀ d, (StoreI.MinIndex (emb d) : Int × GoErr) = StoreI.MinIndex (Store.d d)
  maxIndex : ∀ d, (StoreI.MaxIndex (emb d) : Int × GoErr) = StoreI.MaxIndex (Store.d d)
  keyAtRank : ∀ d r, (StoreI.KeyAtRank (emb d) r : Int) = StoreI.KeyAtRank (Store.d d) r
  add : ∀ d i, d.kind = k → StoreI.Add (emb d) i = emb ((d.addWithCount i 1).getD d)
  addWithCount : ∀ d i c, d.kind = k →
    StoreI.AddWithCount (emb d) i c = emb (((ratOfF64 c).bind (d.addWithCount i)).getD d)
  clear : ∀ d, StoreI.Clear (emb d) = emb d.clear
  copy : ∀ d, StoreI.Copy (emb d) = emb d
  mergeWith : ∀ d o, d.kind = k → StoreI.MergeWith (emb d) (emb o) = emb ((d.mergeSame o).getD d)
  reweight : ∀ d w, d.kind = k → (StoreI.Reweight (emb d) w).2 = (StoreI.Reweight (Store.d d) w).2 ∧
    ImgRel emb k (StoreI.Reweight (emb d) w).1 (StoreI.Reweight (Store.d d) w).1

namespace DenseImage

variable {S : Type} [StoreI S] {k : DKind} (I : DenseImage S k)

def R (x : S) (st : Store) : Prop := ImgRel I.emb k x st

variable {I}

theorem addWithCount_R {x : S} {st : Store} (h : I.R x st) (i : Int) (c : F64) :
    I.R (StoreI.AddWithCount x i c) (StoreI.AddWithCount st i c) :=
  h.elim fun d hk => by
    rw [I.addWithCount d i c hk]
    cases c with
    | fin w => exact ImgRel.getD hk _ (fun t => addWithCount_kind d t i w)
    | _ => exact ⟨d, rfl, rfl, hk⟩

variable (I)

/-- the simulation is exact and EVERY index is admissible: where the Go code panics (the far-index finding
    `C04Gen.gen_addWithCount_far_panics`) the model panics too and both instances leave the receiver unchanged -/
def sim : StoreSim S Store where
  R := I.R
  Adm := fun _ => True
  isEmpty := fun h => h.elim fun d _ => I.isEmpty d
  totalCount := fun h => h.elim fun d _ => I.totalCount d
  minIndex := fun h => h.elim fun d _ => I.minIndex d
  maxIndex := fun h => h.elim fun d _ => I.maxIndex d
  keyAtRank := fun h r => h.elim fun d _ => I.keyAtRank d r
  addWithCount := fun h i _ c _ => addWithCount_R h i c
  add := fun h i _ => h.elim fun d hk => by
    rw [I.add d i hk]
    exact ImgRel.getD hk _ (fun t => addWithCount_kind d t i 1)
  clear := fun h => h.elim fun d hk => ⟨d.clear, I.clear d, rfl, hk⟩
  copy := fun h => h.elim fun d hk => ⟨d, I.copy d, rfl, hk⟩
  mergeWith := fun h h' => h.elim fun d hk => h'.elim fun o hko => by
    rw [I.mergeWith d o hk, GenSketch.store_mergeWith, store_mergeWith_same d o (hko.trans hk.symm)]
    exact ImgRel.getD hk _ (fun t => mergeSame_kind d t o)
  reweight := fun h w => h.elim fun d hk => I.reweight d w hk

theorem routed {M : Type} [MapI M] (m : M) (v : F64) : RoutedG I.sim m v :=
  ⟨fun _ => trivial, fun _ => trivial⟩

end DenseImage

/-! ### the plain dense store -/

theorem errMin_eq : Gen.Dense.errUndefinedMinIndex = GenSketch.errUndefinedMinIndex := rfl
theorem errMax_eq : Gen.Dense.errUndefinedMaxIndex = GenSketch.errUndefinedMaxIndex := rfl

/-! The observers of the three wrappers are those of the embedded `DenseStore`: the statements below are about
`GDS` and hold of `GLS n`, `GHS n` by unfolding. -/

theorem isEmpty_toGen (d : DStore) : (StoreI.IsEmpty (⟨toGen d⟩ : GDS) : Bool) = StoreI.IsEmpty (Store.d d) := rfl

theorem totalCount_toGen (d : DStore) :
    (StoreI.TotalCount (⟨toGen d⟩ : GDS) : F64) = StoreI.TotalCount (Store.d d) := rfl

theorem minIndex_toGen (d : DStore) :
    (StoreI.MinIndex (⟨toGen d⟩ : GDS) : Int × GoErr) = StoreI.MinIndex (Store.d d) := by
  show DenseStore.MinIndex (toGen d) = GenSketch.storeMinIndex (.d d)
  rw [minIndex_eq]
  rfl

theorem maxIndex_toGen (d : DStore) :
    (StoreI.MaxIndex (⟨toGen d⟩ : GDS) : Int × GoErr) = StoreI.MaxIndex (Store.d d) := by
  show DenseStore.MaxIndex (toGen d) = GenSketch.storeMaxIndex (.d d)
  rw [maxIndex_eq]
  rfl

theorem keyAtRank_toGen (d : DStore) (r : F64) :
    (StoreI.KeyAtRank (⟨toGen d⟩ : GDS) r : Int) = StoreI.KeyAtRank (Store.d d) r :=
  GenSketch.keyAtRankF_eq (fun q => by simp only [gKeyAtRankQ, keyAtRank_eq, okOr_ok]; rfl) (maxIndex_toGen d) r

def denseImage : DenseImage GDS .plain where
  emb d := ⟨toGen d⟩
  isEmpty := isEmpty_toGen
  totalCount := totalCount_toGen
  minIndex := minIndex_toGen
  maxIndex := maxIndex_toGen
  keyAtRank := keyAtRank_toGen
  add d i hk := by
    simp only [gds_add, gAdd, extendFuel_ofGen, add_rel _ d i hk (Nat.le_refl _), okOr_toRes]
  addWithCount d i c hk := by
    cases c with
    | fin w =>
      simp only [gds_addWithCount, gAddWithCount, ratOfF64, extendFuel_ofGen,
        addWithCount_rel _ d i w hk (Nat.le_refl _), okOr_toRes, Option.bind_some]
    | _ => rfl
  clear d := by simp only [gds_clear, gClear, clear_rel, okOr_ok]
  copy d := congrArg GDS.mk (copy_eq d)
  mergeWith d o hk := by
    simp only [gds_mergeWith, gMergeWith, mergeFuel_ofGen, mergeWith_rel _ d o hk (Nat.le_refl _), okOr_toRes]
  reweight d w hk := reweightVia_image (fun d => (⟨toGen d⟩ : GDS)) GDS.mk d hk (fun _ _ => rfl) w

def DSim (x : GDS) (st : Store) : Prop :=
  ∃ d : DStore, x.g = toGen d ∧ st = .d d ∧ d.kind = .plain

theorem dsim_iff {x : GDS} {st : Store} : DSim x st ↔ denseImage.R x st :=
  ⟨fun ⟨d, hx, h⟩ => ⟨d, congrArg GDS.mk hx, h⟩, fun ⟨d, hx, h⟩ => ⟨d, congrArg GDS.g hx, h⟩⟩

theorem dsim_new : DSim ⟨NewDenseStore⟩ (Store.new .dense) :=
  ⟨DStore.new .plain, newDenseStore_eq', rfl, rfl⟩

theorem dsim_isEmpty {x : GDS} {st : Store} (h : DSim x st) :
    (StoreI.IsEmpty x : Bool) = StoreI.IsEmpty st :=
  denseImage.sim.isEmpty (dsim_iff.1 h)

theorem dsim_totalCount {x : GDS} {st : Store} (h : DSim x st) :
    (StoreI.TotalCount x : F64) = StoreI.TotalCount st :=
  denseImage.sim.totalCount (dsim_iff.1 h)

theorem dsim_minIndex {x : GDS} {st : Store} (h : DSim x st) :
    (StoreI.MinIndex x : Int × GoErr) = StoreI.MinIndex st :=
  denseImage.sim.minIndex (dsim_iff.1 h)

theorem dsim_maxIndex {x : GDS} {st : Store} (h : DSim x st) :
    (StoreI.MaxIndex x : Int × GoErr) = StoreI.MaxIndex st :=
  denseImage.sim.maxIndex (dsim_iff.1 h)

theorem dsim_keyAtRank {x : GDS} {st : Store} (h : DSim x st) (r : F64) :
    (StoreI.KeyAtRank x r : Int) = StoreI.KeyAtRank st r :=
  denseImage.sim.keyAtRank (dsim_iff.1 h) r

theorem dsim_addWithCount {x : GDS} {st : Store} (h : DSim x st) (i : Int) (c : F64) :
    DSim (StoreI.AddWithCount x i c : GDS) (StoreI.AddWithCount st i c) :=
  dsim_iff.2 (denseImage.addWithCount_R (dsim_iff.1 h) i c)

theorem dsim_add {x : GDS} {st : Store} (h : DSim x st) (i : Int) :
    DSim (StoreI.Add x i : GDS) (StoreI.Add st i) :=
  dsim_iff.2 (denseImage.sim.add (dsim_iff.1 h) i trivial)

theorem dsim_clear {x : GDS} {st : Store} (h : DSim x st) :
    DSim (StoreI.Clear x : GDS) (StoreI.Clear st) :=
  dsim_iff.2 (denseImage.sim.clear (dsim_iff.1 h))

theorem dsim_copy {x : GDS} {st : Store} (h : DSim x st) :
    DSim (StoreI.Copy x : GDS) (StoreI.Copy st) :=
  dsim_iff.2 (denseImage.sim.copy (dsim_iff.1 h))

theorem dsim_mergeWith {x y : GDS} {st so : Store} (h : DSim x st) (h' : DSim y so) :
    DSim (StoreI.MergeWith x y : GDS) (StoreI.MergeWith st so) :=
  dsim_iff.2 (denseImage.sim.mergeWith (dsim_iff.1 h) (dsim_iff.1 h'))

theorem dsim_reweight {x : GDS} {st : Store} (h : DSim x st) (w : F64) :
    (StoreI.Reweight x w).2 = (StoreI.Reweight st w).2 ∧
      DSim (StoreI.Reweight x w).1 (StoreI.Reweight st w).1 :=
  (denseImage.sim.reweight (dsim_iff.1 h) w).imp id dsim_iff.2

/-! ### the `StoreSim` instance and the sketch-level corollaries -/

def denseStoreSim : StoreSim GDS Store where
  R := DSim
  Adm := fun _ => True
  isEmpty := dsim_isEmpty
  totalCount := dsim_totalCount
  minIndex := dsim_minIndex
  maxIndex := dsim_maxIndex
  keyAtRank := dsim_keyAtRank
  addWithCount := fun h i _ c _ => dsim_addWithCount h i c
  add := fun h i _ => dsim_add h i
  clear := dsim_clear
  copy := dsim_copy
  mergeWith := dsim_mergeWith
  reweight := dsim_reweight

section sketch

open DDS.Gen.Sketch

variable {M : Type} [MapI M] [Inhabited M]

omit [Inhabited M] in
theorem dense_routed (m : M) (v : F64) : RoutedG denseStoreSim m v := ⟨fun _ => trivial, fun _ => trivial⟩

/-- **the dense sketch on regenerated code**: after ANY history of `AddWithCount` calls from
    `NewDDSketch(m, NewDenseStore(), NewDenseStore())` the errors returned and every observer of the regenerated
    sketch over the regenerated `DenseStore` agree with the regenerated sketch over the model stores — no side
    condition -/
theorem dense_history_observers (m : M) (l : List (F64 × F64)) :
    let a := runAdds (NewDDSketch m (⟨NewDenseStore⟩ : GDS) ⟨NewDenseStore⟩) l
    let b := runAdds (NewDDSketch m (Store.new .dense) (Store.new .dense)) l
    a.2 = b.2 ∧ DDSketch.GetCount a.1 = DDSketch.GetCount b.1 ∧ DDSketch.IsEmpty a.1 = DDSketch.IsEmpty b.1 ∧
    (∀ q, DDSketch.GetValueAtQuantile a.1 q = DDSketch.GetValueAtQuantile b.1 q) ∧
    DDSketch.GetMinValue a.1 = DDSketch.GetMinValue b.1 ∧ DDSketch.GetMaxValue a.1 = DDSketch.GetMaxValue b.1 :=
  history_observers_paramG denseStoreSim m dsim_new dsim_new l (fun p _ => dense_routed m p.1)

theorem dense_AddWithCount_param {a : DDSketch M GDS} {b : DDSketch M Store} (h : SkSimG denseStoreSim a b)
    (v c : F64) :
    (DDSketch.AddWithCount a v c).2 = (DDSketch.AddWithCount b v c).2 ∧
      SkSimG denseStoreSim (DDSketch.AddWithCount a v c).1 (DDSketch.AddWithCount b v c).1 :=
  AddWithCount_paramG denseStoreSim h v c ⟨fun _ => trivial, fun _ => trivial⟩

end sketch

end DDS.GenDenseSketch

/-! ## the lowest-collapsing store -/

namespace DDS.GenLowSketch

open DDS DDS.GoSem DDS.DStore DDS.Gen.Dense DDS.GenStoreSim
open DDS.GenDense (GS GLow toGen ofGen toLow ofLow toRes toRes_some toRes_none toLow_DenseStore reweightFuel)
open DDS.GenPagSketch (okOr okOr_ok runAdds)

/-- the regenerated `CollapsingLowestDenseStore`; the bin limit is a type index (`MergeWith` of the interface is
    between stores of one sketch family; the regenerated fast path accepts any limit on the argument) -/
structure GLS (n : Nat) where
  g : GLow

variable {n : Nat}

instance : Inhabited (GLS n) := ⟨⟨NewCollapsingLowestDenseStore (n : Int)⟩⟩

/-! ### the methods: `Add`, `AddWithCount`, `MergeWith`, `Copy`, `Clear` are the store's own, the others are the
    promoted methods of the embedded `DenseStore` -/

def gAdd (x : GLS n) (i : Int) : GLS n :=
  ⟨okOr (CollapsingLowestDenseStore.Add (GenLow.lowFuel n (ofLow x.g)) x.g i) x.g⟩

def gAddWithCount (x : GLS n) (i : Int) (c : F64) : GLS n :=
  match ratOfF64 c with
  | some w => ⟨okOr (CollapsingLowestDenseStore.AddWithCount (GenLow.lowFuel n (ofLow x.g)) x.g i w) x.g⟩
  | none => x

def gCopy (x : GLS n) : GLS n := ⟨CollapsingLowestDenseStore.Copy x.g⟩

def gClear (x : GLS n) : GLS n := ⟨okOr (CollapsingLowestDenseStore.Clear 1 x.g) x.g⟩

def gIsEmpty (x : GLS n) : Bool := DenseStore.IsEmpty x.g.DenseStore

def gTotalCount (x : GLS n) : F64 := .fin (DenseStore.TotalCount x.g.DenseStore)

def gMinIndex (x : GLS n) : Int × GoErr := DenseStore.MinIndex x.g.DenseStore

def gMaxIndex (x : GLS n) : Int × GoErr := DenseStore.MaxIndex x.g.DenseStore

def gKeyAtRankQ (x : GLS n) (r : Rat) : Int := okOr (DenseStore.KeyAtRank 1 x.g.DenseStore r) 0

def gKeyAtRank (x : GLS n) (r : F64) : Int :=
  match r with
  | .fin q => gKeyAtRankQ x q
  | .ninf => gKeyAtRankQ x 0
  | _ => (gMaxIndex x).1

def gMergeWith (x o : GLS n) : GLS n :=
  ⟨okOr (CollapsingLowestDenseStore.MergeWith (GenLow.mergeFuel n (ofLow x.g) (ofLow o.g)) x.g o.g) x.g⟩

/-- `Reweight` is the embedded `DenseStore`'s: it rewrites the embedded store only -/
def gReweight (x : GLS n) (w : F64) : GLS n × GoErr :=
  if F64.le w (.fin 0) then (x, GenSketch.errStoreReweight)
  else match w with
    | .fin q =>
      match DenseStore.Reweight (reweightFuel (ofGen x.g.DenseStore)) x.g.DenseStore q with
      | .ok (g', e) => (⟨{ x.g with DenseStore := g' }⟩, e)
      | _ => (x, GoErr.nil)
    | _ => (x, GoErr.nil)

def gEncode (x : GLS n) (b : List (BitVec 8)) (t : Gen.Encoding.FlagType) : GLS n × List (BitVec 8) :=
  (x, okOr (DenseStore.Encode (GenDenseEncode.encodeFuel (ofGen x.g.DenseStore)) x.g.DenseStore b t) b)

def gForEachList (x : GLS n) : List (Int × F64) :=
  ((ofLow x.g).binsList.getD []).map (fun p => (p.1, F64.fin p.2))

@[reducible] def baseI : StoreI (GLS n) where
  Add := gAdd
  AddWithCount := gAddWithCount
  Copy := gCopy
  Clear := gClear
  IsEmpty := gIsEmpty
  MaxIndex := gMaxIndex
  MinIndex := gMinIndex
  TotalCount := gTotalCount
  KeyAtRank := gKeyAtRank
  MergeWith := gMergeWith
  Reweight := gReweight
  Encode := gEncode
  ForEachList := gForEachList
  DecodeAndMergeWith x b _ := (x, b, GoErr.nil)

def gDecode (x : GLS n) (b : List (BitVec 8)) (sub : Gen.Encoding.SubFlag) : GLS n × List (BitVec 8) × GoErr :=
  match @Gen.StoreDecode.DecodeAndMergeWith (GLS n) baseI (3 * b.length + 64) x b sub with
  | .ok r => r
  | _ => (x, b, GoErr.nil)

instance (priority := low) glStoreI : StoreI (GLS n) where
  Add := gAdd
  AddWithCount := gAddWithCount
  Copy := gCopy
  Clear := gClear
  IsEmpty := gIsEmpty
  MaxIndex := gMaxIndex
  MinIndex := gMinIndex
  TotalCount := gTotalCount
  KeyAtRank := gKeyAtRank
  MergeWith := gMergeWith
  Reweight := gReweight
  Encode := gEncode
  ForEachList := gForEachList
  DecodeAndMergeWith := gDecode

@[simp] theorem gls_add (x : GLS n) (i : Int) : StoreI.Add x i = gAdd x i := rfl
@[simp] theorem gls_addWithCount (x : GLS n) (i : Int) (c : F64) :
    StoreI.AddWithCount x i c = gAddWithCount x i c := rfl
@[simp] theorem gls_copy (x : GLS n) : StoreI.Copy x = gCopy x := rfl
@[simp] theorem gls_clear (x : GLS n) : StoreI.Clear x = gClear x := rfl
@[simp] theorem gls_isEmpty (x : GLS n) : StoreI.IsEmpty x = gIsEmpty x := rfl
@[simp] theorem gls_maxIndex (x : GLS n) : StoreI.MaxIndex x = gMaxIndex x := rfl
@[simp] theorem gls_minIndex (x : GLS n) : StoreI.MinIndex x = gMinIndex x := rfl
@[simp] theorem gls_totalCount (x : GLS n) : StoreI.TotalCount x = gTotalCount x := rfl
@[simp] theorem gls_keyAtRank (x : GLS n) (r : F64) : StoreI.KeyAtRank x r = gKeyAtRank x r := rfl
@[simp] theorem gls_mergeWith (x o : GLS n) : StoreI.MergeWith x o = gMergeWith x o := rfl
@[simp] theorem gls_reweight (x : GLS n) (w : F64) : StoreI.Reweight x w = gReweight x w := rfl

/-! ### fuel of the model image -/

theorem lowFuel_ofLow (m : Int) (d : DStore) : GenLow.lowFuel n (ofLow (toLow m d)) = GenLow.lowFuel n d := rfl

theorem mergeFuel_ofLow (m m' : Int) (d o : DStore) :
    GenLow.mergeFuel n (ofLow (toLow m d)) (ofLow (toLow m' o)) = GenLow.mergeFuel n d o := rfl

/-! ### the simulation -/

open DDS.GenDenseSketch (DenseImage okOr_toRes reweightVia_image isEmpty_toGen totalCount_toGen minIndex_toGen
  maxIndex_toGen keyAtRank_toGen)

def lowImage (n : Nat) : DenseImage (GLS n) (.low n) where
  emb d := ⟨toLow n d⟩
  isEmpty := isEmpty_toGen
  totalCount := totalCount_toGen
  minIndex := minIndex_toGen
  maxIndex := maxIndex_toGen
  keyAtRank := keyAtRank_toGen
  add d i hk := by
    simp only [gls_add, gAdd, lowFuel_ofLow, GenLow.add_rel _ n d i hk (Nat.le_refl _), okOr_toRes]
  addWithCount d i c hk := by
    cases c with
    | fin w =>
      simp only [gls_addWithCount, gAddWithCount, ratOfF64, lowFuel_ofLow,
        GenLow.addWithCount_rel _ n d i w hk (Nat.le_refl _), okOr_toRes, Option.bind_some]
    | _ => rfl
  clear d := by simp only [gls_clear, gClear, GenLow.clear_rel, okOr_ok]
  copy d := congrArg GLS.mk (GenLow.copy_eq _ d)
  mergeWith d o hk := by
    simp only [gls_mergeWith, gMergeWith, mergeFuel_ofLow, GenLow.mergeWith_rel _ n n d o hk (Nat.le_refl _),
      okOr_toRes]
  reweight d w hk :=
    reweightVia_image (fun d => (⟨toLow n d⟩ : GLS n)) (fun g => ⟨{ toLow n d with DenseStore := g }⟩) d hk
      (fun d' h => by simp only [toLow, h]) w

def lowStoreSim (n : Nat) : StoreSim (GLS n) Store := (lowImage n).sim

theorem lsim_new : (lowStoreSim n).R ⟨NewCollapsingLowestDenseStore (n : Int)⟩ (Store.new (.low n)) :=
  ⟨DStore.new (.low n), congrArg GLS.mk (GenLow.new_eq n), rfl, rfl⟩

section sketch

open DDS.Gen.Sketch

variable {M : Type} [MapI M] [Inhabited M]

omit [Inhabited M] in
theorem low_routed (m : M) (v : F64) : RoutedG (lowStoreSim n) m v := (lowImage n).routed m v

/-- after ANY history of `AddWithCount` calls from
    `NewDDSketch(m, NewCollapsingLowestDenseStore(n), NewCollapsingLowestDenseStore(n))` the errors returned and every
    observer agree with the regenerated sketch over the model stores — no side condition -/
theorem low_history_observers (n : Nat) (m : M) (l : List (F64 × F64)) :
    let a := runAdds (NewDDSketch m (⟨NewCollapsingLowestDenseStore (n : Int)⟩ : GLS n)
      ⟨NewCollapsingLowestDenseStore (n : Int)⟩) l
    let b := runAdds (NewDDSketch m (Store.new (.low n)) (Store.new (.low n))) l
    a.2 = b.2 ∧ DDSketch.GetCount a.1 = DDSketch.GetCount b.1 ∧ DDSketch.IsEmpty a.1 = DDSketch.IsEmpty b.1 ∧
    (∀ q, DDSketch.GetValueAtQuantile a.1 q = DDSketch.GetValueAtQuantile b.1 q) ∧
    DDSketch.GetMinValue a.1 = DDSketch.GetMinValue b.1 ∧ DDSketch.GetMaxValue a.1 = DDSketch.GetMaxValue b.1 :=
  history_observers_paramG (lowStoreSim n) m lsim_new lsim_new l (fun p _ => low_routed m p.1)

end sketch

end DDS.GenLowSketch

/-! ## the highest-collapsing store -/

namespace DDS.GenHighSketch

open DDS DDS.GoSem DDS.DStore DDS.Gen.Dense DDS.GenStoreSim
open DDS.GenDense (GS GHigh toGen ofGen toHigh ofHigh toRes toRes_some toRes_none toHigh_DenseStore reweightFuel)
open DDS.GenPagSketch (okOr okOr_ok runAdds)

/-- the regenerated `CollapsingHighestDenseStore`; the bin limit is a type index (`MergeWith` of the interface is
    between stores of one sketch family; the regenerated fast path accepts any limit on the argument) -/
structure GHS (n : Nat) where
  g : GHigh

variable {n : Nat}

instance : Inhabited (GHS n) := ⟨⟨NewCollapsingHighestDenseStore (n : Int)⟩⟩

/-! ### the methods: `Add`, `AddWithCount`, `MergeWith`, `Copy`, `Clear` are the store's own, the others are the
    promoted methods of the embedded `DenseStore` -/

def gAdd (x : GHS n) (i : Int) : GHS n :=
  ⟨okOr (CollapsingHighestDenseStore.Add (GenDense.extendFuel (ofHigh x.g) i i) x.g i) x.g⟩

def gAddWithCount (x : GHS n) (i : Int) (c : F64) : GHS n :=
  match ratOfF64 c with
  | some w => ⟨okOr (CollapsingHighestDenseStore.AddWithCount (GenDense.extendFuel (ofHigh x.g) i i) x.g i w) x.g⟩
  | none => x

def gCopy (x : GHS n) : GHS n := ⟨CollapsingHighestDenseStore.Copy x.g⟩

def gClear (x : GHS n) : GHS n := ⟨okOr (CollapsingHighestDenseStore.Clear 1 x.g) x.g⟩

def gIsEmpty (x : GHS n) : Bool := DenseStore.IsEmpty x.g.DenseStore

def gTotalCount (x : GHS n) : F64 := .fin (DenseStore.TotalCount x.g.DenseStore)

def gMinIndex (x : GHS n) : Int × GoErr := DenseStore.MinIndex x.g.DenseStore

def gMaxIndex (x : GHS n) : Int × GoErr := DenseStore.MaxIndex x.g.DenseStore

def gKeyAtRankQ (x : GHS n) (r : Rat) : Int := okOr (DenseStore.KeyAtRank 1 x.g.DenseStore r) 0

def gKeyAtRank (x : GHS n) (r : F64) : Int :=
  match r with
  | .fin q => gKeyAtRankQ x q
  | .ninf => gKeyAtRankQ x 0
  | _ => (gMaxIndex x).1

def gMergeWith (x o : GHS n) : GHS n :=
  ⟨okOr (CollapsingHighestDenseStore.MergeWith (GenHigh.mergeFuel (ofHigh x.g) (ofHigh o.g)) x.g o.g) x.g⟩

/-- `Reweight` is the embedded `DenseStore`'s: it rewrites the embedded store only -/
def gReweight (x : GHS n) (w : F64) : GHS n × GoErr :=
  if F64.le w (.fin 0) then (x, GenSketch.errStoreReweight)
  else match w with
    | .fin q =>
      match DenseStore.Reweight (reweightFuel (ofGen x.g.DenseStore)) x.g.DenseStore q with
      | .ok (g', e) => (⟨{ x.g with DenseStore := g' }⟩, e)
      | _ => (x, GoErr.nil)
    | _ => (x, GoErr.nil)

def gEncode (x : GHS n) (b : List (BitVec 8)) (t : Gen.Encoding.FlagType) : GHS n × List (BitVec 8) :=
  (x, okOr (DenseStore.Encode (GenDenseEncode.encodeFuel (ofGen x.g.DenseStore)) x.g.DenseStore b t) b)

def gForEachList (x : GHS n) : List (Int × F64) :=
  ((ofHigh x.g).binsList.getD []).map (fun p => (p.1, F64.fin p.2))

@[reducible] def baseI : StoreI (GHS n) where
  Add := gAdd
  AddWithCount := gAddWithCount
  Copy := gCopy
  Clear := gClear
  IsEmpty := gIsEmpty
  MaxIndex := gMaxIndex
  MinIndex := gMinIndex
  TotalCount := gTotalCount
  KeyAtRank := gKeyAtRank
  MergeWith := gMergeWith
  Reweight := gReweight
  Encode := gEncode
  ForEachList := gForEachList
  DecodeAndMergeWith x b _ := (x, b, GoErr.nil)

def gDecode (x : GHS n) (b : List (BitVec 8)) (sub : Gen.Encoding.SubFlag) : GHS n × List (BitVec 8) × GoErr :=
  match @Gen.StoreDecode.DecodeAndMergeWith (GHS n) baseI (3 * b.length + 64) x b sub with
  | .ok r => r
  | _ => (x, b, GoErr.nil)

instance (priority := low) ghStoreI : StoreI (GHS n) where
  Add := gAdd
  AddWithCount := gAddWithCount
  Copy := gCopy
  Clear := gClear
  IsEmpty := gIsEmpty
  MaxIndex := gMaxIndex
  MinIndex := gMinIndex
  TotalCount := gTotalCount
  KeyAtRank := gKeyAtRank
  MergeWith := gMergeWith
  Reweight := gReweight
  Encode := gEncode
  ForEachList := gForEachList
  DecodeAndMergeWith := gDecode

@[simp] theorem ghs_add (x : GHS n) (i : Int) : StoreI.Add x i = gAdd x i := rfl
@[simp] theorem ghs_addWithCount (x : GHS n) (i : Int) (c : F64) :
    StoreI.AddWithCount x i c = gAddWithCount x i c := rfl
@[simp] theorem ghs_copy (x : GHS n) : StoreI.Copy x = gCopy x := rfl
@[simp] theorem ghs_clear (x : GHS n) : StoreI.Clear x = gClear x := rfl
@[simp] theorem ghs_isEmpty (x : GHS n) : StoreI.IsEmpty x = gIsEmpty x := rfl
@[simp] theorem ghs_maxIndex (x : GHS n) : StoreI.MaxIndex x = gMaxIndex x := rfl
@[simp] theorem ghs_minIndex (x : GHS n) : StoreI.MinIndex x = gMinIndex x := rfl
@[simp] theorem ghs_totalCount (x : GHS n) : StoreI.TotalCount x = gTotalCount x := rfl
@[simp] theorem ghs_keyAtRank (x : GHS n) (r : F64) : StoreI.KeyAtRank x r = gKeyAtRank x r := rfl
@[simp] theorem ghs_mergeWith (x o : GHS n) : StoreI.MergeWith x o = gMergeWith x o := rfl
@[simp] theorem ghs_reweight (x : GHS n) (w : F64) : StoreI.Reweight x w = gReweight x w := rfl

/-! ### fuel of the model image -/

theorem extendFuel_ofHigh (m : Int) (d : DStore) (a b : Int) :
    GenDense.extendFuel (ofHigh (toHigh m d)) a b = GenDense.extendFuel d a b := rfl

theorem mergeFuel_ofHigh (m m' : Int) (d o : DStore) :
    GenHigh.mergeFuel (ofHigh (toHigh m d)) (ofHigh (toHigh m' o)) = GenHigh.mergeFuel d o := rfl

/-! ### the simulation -/

open DDS.GenDenseSketch (DenseImage okOr_toRes reweightVia_image isEmpty_toGen totalCount_toGen minIndex_toGen
  maxIndex_toGen keyAtRank_toGen)

def highImage (n : Nat) : DenseImage (GHS n) (.high n) where
  emb d := ⟨toHigh n d⟩
  isEmpty := isEmpty_toGen
  totalCount := totalCount_toGen
  minIndex := minIndex_toGen
  maxIndex := maxIndex_toGen
  keyAtRank := keyAtRank_toGen
  add d i hk := by
    simp only [ghs_add, gAdd, extendFuel_ofHigh, GenHigh.add_rel _ n d i hk (Nat.le_refl _), okOr_toRes]
  addWithCount d i c hk := by
    cases c with
    | fin w =>
      simp only [ghs_addWithCount, gAddWithCount, ratOfF64, extendFuel_ofHigh,
        GenHigh.addWithCount_rel _ n d i w hk (Nat.le_refl _), okOr_toRes, Option.bind_some]
    | _ => rfl
  clear d := by simp only [ghs_clear, gClear, GenHigh.clear_rel, okOr_ok]
  copy d := congrArg GHS.mk (GenHigh.copy_eq _ d)
  mergeWith d o hk := by
    simp only [ghs_mergeWith, gMergeWith, mergeFuel_ofHigh, GenHigh.mergeWith_rel _ n n d o hk (Nat.le_refl _),
      okOr_toRes]
  reweight d w hk :=
    reweightVia_image (fun d => (⟨toHigh n d⟩ : GHS n)) (fun g => ⟨{ toHigh n d with DenseStore := g }⟩) d hk
      (fun d' h => by simp only [toHigh, h]) w

def highStoreSim (n : Nat) : StoreSim (GHS n) Store := (highImage n).sim

theorem hsim_new : (highStoreSim n).R ⟨NewCollapsingHighestDenseStore (n : Int)⟩ (Store.new (.high n)) :=
  ⟨DStore.new (.high n), congrArg GHS.mk (GenHigh.new_eq n), rfl, rfl⟩

section sketch

open DDS.Gen.Sketch

variable {M : Type} [MapI M] [Inhabited M]

omit [Inhabited M] in
theorem high_routed (m : M) (v : F64) : RoutedG (highStoreSim n) m v := (highImage n).routed m v

/-- after ANY history of `AddWithCount` calls from
    `NewDDSketch(m, NewCollapsingHighestDenseStore(n), NewCollapsingHighestDenseStore(n))` the errors returned and every
    observer agree with the regenerated sketch over the model stores — no side condition -/
theorem high_history_observers (n : Nat) (m : M) (l : List (F64 × F64)) :
    let a := runAdds (NewDDSketch m (⟨NewCollapsingHighestDenseStore (n : Int)⟩ : GHS n)
      ⟨NewCollapsingHighestDenseStore (n : Int)⟩) l
    let b := runAdds (NewDDSketch m (Store.new (.high n)) (Store.new (.high n))) l
    a.2 = b.2 ∧ DDSketch.GetCount a.1 = DDSketch.GetCount b.1 ∧ DDSketch.IsEmpty a.1 = DDSketch.IsEmpty b.1 ∧
    (∀ q, DDSketch.GetValueAtQuantile a.1 q = DDSketch.GetValueAtQuantile b.1 q) ∧
    DDSketch.GetMinValue a.1 = DDSketch.GetMinValue b.1 ∧ DDSketch.GetMaxValue a.1 = DDSketch.GetMaxValue b.1 :=
  history_observers_paramG (highStoreSim n) m hsim_new hsim_new l (fun p _ => high_routed m p.1)

end sketch

end DDS.GenHighSketch
